/-
  C07 — for EVERY atom_style the writer accepts (hybrids included) the LAMMPS line layout an
  independent reader uses (`layoutOf lammpsAtomLayout style`) is, field for field and unit kind for unit kind, what
  the written column list fills; and that column list names no property twice (one induction for both,
  `styleCols_induction`).
-/
import Proofs.C07_Lemmas

namespace Atomman.C07
open Atomman

abbrev Layout := List (String × Option String)

/-- the unit kind of a column as the generated tables spell it (`none`, `"scaled"`, or the name of the kind). -/
def specKind : UnitSpec → Option String
  | .none => none
  | .scaled => some "scaled"
  | .kind k => some k

/-- LAMMPS fields filled by one written column. -/
def colLayout (c : ColSpec) : Option Layout :=
  match propFields.find? (·.1 = c.prop) with
  | some e => if e.2.length = c.names.length then some (e.2.map fun n => (n, specKind c.unit)) else none
  | none => none

/-- LAMMPS fields filled by a column list: the fields of each entry, in order. -/
def colsLayout (cols : List ColSpec) : Option Layout := (cols.mapM colLayout).map List.flatten

theorem specKind_ofGenCol (g : Gen.AtomStyles.Col) : specKind (ofGenCol g).unit = g.2.2 := by
  obtain ⟨a, b, c⟩ := g
  cases c with
  | none => rfl
  | some k =>
    simp only [ofGenCol]
    split <;> simp_all [specKind]

/-- base styles: the hand-encoded LAMMPS layout is field for field (name and unit kind) what the generated column
    list writes.  The same comparison as `atom_style_columns_match_lammps`, there through the model's `genAsFields` (which tags
    an unknown property `"?"` where `colLayout` gives `none`), here in the form the hybrid induction consumes. -/
theorem base_atom_layouts :
    ∀ e ∈ Gen.AtomStyles.atomStyles, e.2 ≠ [] →
      (lammpsAtomLayout.find? (·.1 = e.1)).map (·.2) = colsLayout (e.2.map ofGenCol) := by
  decide +kernel

theorem base_vel_layouts :
    ∀ e ∈ Gen.AtomStyles.velStyles, e.2 ≠ [] →
      (lammpsVelLayout.find? (·.1 = e.1)).map (·.2) = colsLayout (e.2.map ofGenCol) := by
  decide +kernel

/-- no LAMMPS field belongs to two atomman properties. -/
theorem propFields_names_nodup : (propFields.flatMap (·.2)).Nodup := by decide +kernel

theorem propFields_disjoint :
    ∀ e1 ∈ propFields, ∀ e2 ∈ propFields, e1.1 ≠ e2.1 → ∀ n ∈ e1.2, n ∉ e2.2 := by
  intro e1 h1 e2 h2 hne n hn1 hn2
  have hp := (List.nodup_flatMap.mp propFields_names_nodup).2
  have : Std.Symm fun a b : String × List String => List.Disjoint a.2 b.2 := ⟨fun _ _ h => h.symm⟩
  exact hp.forall h1 h2 (fun e => hne (e ▸ rfl)) hn1 hn2

theorem find?_key {α : Type} {k : α → String} {l : List α} {p : String} {a : α}
    (h : l.find? (fun x => k x = p) = some a) : a ∈ l ∧ k a = p :=
  ⟨List.mem_of_find?_eq_some h, by simpa using List.find?_some h⟩

theorem colLayout_of_find {c : ColSpec} {e : String × List String} (he : propFields.find? (·.1 = c.prop) = some e)
    {fs : Layout} (h : colLayout c = some fs) :
    fs = e.2.map (fun n => (n, specKind c.unit)) ∧ c.names.length = e.2.length := by
  unfold colLayout at h
  rw [he] at h
  simp only at h
  split at h
  · rename_i hl; exact ⟨(Option.some.inj h).symm, hl.symm⟩
  · cases h

theorem colLayout_names {c : ColSpec} {fs : Layout} (h : colLayout c = some fs) :
    ∃ e, propFields.find? (·.1 = c.prop) = some e ∧ fs.map (·.1) = e.2 ∧ fs.length = c.names.length := by
  cases he : propFields.find? (·.1 = c.prop) with
  | none => unfold colLayout at h; rw [he] at h; cases h
  | some e =>
    obtain ⟨rfl, hl⟩ := colLayout_of_find he h
    exact ⟨e, rfl, by rw [List.map_map]; exact List.map_id' _, by rw [List.length_map, hl]⟩

theorem colLayout_same {c c' : ColSpec} {fs fs' : Layout} (h : colLayout c = some fs) (h' : colLayout c' = some fs')
    (hp : c.prop = c'.prop) : fs.map (·.1) = fs'.map (·.1) := by
  obtain ⟨e, he, hn, _⟩ := colLayout_names h
  obtain ⟨e', he', hn', _⟩ := colLayout_names h'
  rw [hp, he'] at he
  injection he with he
  rw [hn, hn', he]

theorem colLayout_disjoint {c c' : ColSpec} {fs fs' : Layout} (h : colLayout c = some fs) (h' : colLayout c' = some fs')
    (hp : c.prop ≠ c'.prop) : ∀ n ∈ fs.map (·.1), n ∉ fs'.map (·.1) := by
  obtain ⟨e, he, hn, _⟩ := colLayout_names h
  obtain ⟨e', he', hn', _⟩ := colLayout_names h'
  obtain ⟨hm, h1⟩ := find?_key (k := Prod.fst) he
  obtain ⟨hm', h1'⟩ := find?_key (k := Prod.fst) he'
  rw [hn, hn']
  exact propFields_disjoint e hm e' hm' (by rw [h1, h1']; exact hp)

theorem colsLayout_nil : colsLayout [] = some [] := rfl

theorem colsLayout_cons (c : ColSpec) (cs : List ColSpec) :
    colsLayout (c :: cs) = (colLayout c).bind fun a => (colsLayout cs).map fun b => a ++ b := by
  unfold colsLayout
  rw [List.mapM_cons]
  cases colLayout c with
  | none => rfl
  | some a =>
    cases cs.mapM colLayout with
    | none => rfl
    | some b => rfl

theorem colsLayout_append (a b : List ColSpec) :
    colsLayout (a ++ b) = (colsLayout a).bind fun x => (colsLayout b).map fun y => x ++ y := by
  induction a with
  | nil => simp [colsLayout_nil]
  | cons c cs ih =>
    rw [List.cons_append, colsLayout_cons, colsLayout_cons, ih]
    cases colLayout c with
    | none => rfl
    | some x =>
      cases colsLayout cs with
      | none => rfl
      | some y =>
        cases colsLayout b with
        | none => rfl
        | some z => simp

theorem colsLayout_cons_some {c : ColSpec} {cs : List ColSpec} {L : Layout} (h : colsLayout (c :: cs) = some L) :
    ∃ fs L', colLayout c = some fs ∧ colsLayout cs = some L' ∧ L = fs ++ L' := by
  rw [colsLayout_cons] at h
  obtain ⟨a, ha, h⟩ := Option.bind_eq_some_iff.mp h
  obtain ⟨b, hb, h⟩ := Option.map_eq_some_iff.mp h
  exact ⟨a, b, ha, hb, h.symm⟩

theorem mem_colsLayout {cols : List ColSpec} {L : Layout} (h : colsLayout cols = some L) {n : String}
    (hn : n ∈ L.map (·.1)) : ∃ c ∈ cols, ∃ fs, colLayout c = some fs ∧ n ∈ fs.map (·.1) := by
  induction cols generalizing L with
  | nil => rw [colsLayout_nil] at h; injection h with h; subst h; simp at hn
  | cons c cs ih =>
    obtain ⟨a, b, hc, hcs, rfl⟩ := colsLayout_cons_some h
    rw [List.map_append, List.mem_append] at hn
    rcases hn with hn | hn
    · exact ⟨c, by simp, a, hc, hn⟩
    · obtain ⟨c', hc', fs, hfs, hn'⟩ := ih hcs hn
      exact ⟨c', List.mem_cons_of_mem _ hc', fs, hfs, hn'⟩

theorem colLayout_of_mem {cols : List ColSpec} {L : Layout} (h : colsLayout cols = some L) {c : ColSpec}
    (hc : c ∈ cols) : ∃ fs, colLayout c = some fs ∧ ∀ n ∈ fs.map (·.1), n ∈ L.map (·.1) := by
  induction cols generalizing L with
  | nil => simp at hc
  | cons d ds ih =>
    obtain ⟨a, b, hd, hds, rfl⟩ := colsLayout_cons_some h
    rcases List.mem_cons.mp hc with rfl | hc
    · exact ⟨a, hd, fun n hn => by rw [List.map_append]; exact List.mem_append_left _ hn⟩
    · obtain ⟨fs, hfs, hsub⟩ := ih hds hc
      exact ⟨fs, hfs, fun n hn => by rw [List.map_append]; exact List.mem_append_right _ (hsub n hn)⟩

/-- filtering the columns by "property not yet present" is filtering the fields by "name not yet present". -/
theorem colsLayout_filter (accC sc : List ColSpec) (accL scL : Layout) (hacc : colsLayout accC = some accL)
    (hsc : colsLayout sc = some scL) :
    colsLayout (sc.filter fun c => !(accC.any (·.prop = c.prop)))
      = some (scL.filter fun c => !(accL.any (·.1 = c.1))) := by
  induction sc generalizing scL with
  | nil => rw [colsLayout_nil] at hsc; injection hsc with hsc; subst hsc; rfl
  | cons c cs ih =>
    obtain ⟨a, b, hc, hcs, rfl⟩ := colsLayout_cons_some hsc
    rw [List.filter_append, List.filter_cons]
    by_cases hin : accC.any (·.prop = c.prop) = true
    · -- all fields of `c` are already present
      simp only [hin, Bool.not_true, Bool.false_eq_true, if_false]
      rw [ih b hcs]
      have : a.filter (fun x => !(accL.any (·.1 = x.1))) = [] := by
        rw [List.filter_eq_nil_iff]
        intro x hx
        obtain ⟨c', hc', hp⟩ := List.any_eq_true.mp hin
        have hp : c'.prop = c.prop := by simpa using hp
        obtain ⟨fs', hfs', hsub⟩ := colLayout_of_mem hacc hc'
        have h1 := colLayout_same hfs' hc hp
        have hx1 : x.1 ∈ a.map (·.1) := List.mem_map.mpr ⟨x, hx, rfl⟩
        rw [← h1] at hx1
        have := hsub _ hx1
        obtain ⟨y, hy, hyx⟩ := List.mem_map.mp this
        simp only [Bool.not_eq_true, Bool.not_eq_false']
        exact List.any_eq_true.mpr ⟨y, hy, by simpa using hyx⟩
      rw [this, List.nil_append]
    · simp only [hin, Bool.not_false, if_true]
      rw [colsLayout_cons, hc, ih b hcs]
      have : a.filter (fun x => !(accL.any (·.1 = x.1))) = a := by
        rw [List.filter_eq_self]
        intro x hx
        simp only [Bool.not_eq_true', List.any_eq_false]
        intro y hy hyx
        have hyx : y.1 = x.1 := by simpa using hyx
        obtain ⟨c', hc', fs', hfs', hn⟩ := mem_colsLayout hacc (List.mem_map.mpr ⟨y, hy, rfl⟩)
        have hne : c.prop ≠ c'.prop := by
          intro e
          apply hin
          exact List.any_eq_true.mpr ⟨c', hc', by simpa using e.symm⟩
        have hx1 : x.1 ∈ a.map (·.1) := List.mem_map.mpr ⟨x, hx, rfl⟩
        exact colLayout_disjoint hc hfs' hne _ hx1 (hyx ▸ hn)
      rw [this]
      rfl

/-- how the column list of an accepted style is built: a base style `[w]`, or the `atomic` columns (`["hybrid"]`)
    extended sub-style by sub-style with the columns whose property is not there yet.  `P` sees the style words
    consumed so far and the columns built from them. -/
theorem styleCols_induction {tbl : List (String × List Gen.AtomStyles.Col)} {P : List String → List ColSpec → Prop}
    (single : ∀ e ∈ tbl, e.1 ≠ "hybrid" → e.2 ≠ [] → P [e.1] (e.2.map ofGenCol))
    (atomic : ∀ e ∈ tbl, e.1 = "atomic" → e.2 ≠ [] → P ["hybrid"] (e.2.map ofGenCol))
    (step : ∀ subs acc, P ("hybrid" :: subs) acc → ∀ e ∈ tbl, e.2 ≠ [] →
      P ("hybrid" :: (subs ++ [e.1])) (acc ++ (e.2.map ofGenCol).filter fun c => !(acc.any (·.prop = c.prop))))
    {style : String} {cols : List ColSpec} (h : styleCols tbl style = some cols) : P (styleWords style) cols := by
  have fold : ∀ subs ws acc, P ("hybrid" :: ws) acc →
      subs.foldlM (fun acc sub => do
        let sc ← lookupStyle tbl sub
        pure (acc ++ sc.filter fun c => !(acc.any (·.prop = c.prop)))) acc = some cols →
      P ("hybrid" :: (ws ++ subs)) cols := by
    intro subs
    induction subs with
    | nil =>
      intro ws acc hP hf
      rw [List.append_nil, ← Option.some.inj hf]
      exact hP
    | cons sub rest ih =>
      intro ws acc hP hf
      rw [List.foldlM_cons] at hf
      obtain ⟨a, ha, hr⟩ := Option.bind_eq_some_iff.mp hf
      obtain ⟨sc, hl, hsc⟩ := Option.bind_eq_some_iff.mp ha
      obtain ⟨e, he, rfl, hne, rfl⟩ := lookupStyle_some hl
      rw [List.append_cons]
      exact ih _ _ (step ws acc hP e he hne) (Option.some.inj hsc ▸ hr)
  unfold styleCols at h
  split at h
  · rename_i subs hws
    obtain ⟨base, hb, hf⟩ := Option.bind_eq_some_iff.mp h
    obtain ⟨e, he, h1, hne, rfl⟩ := lookupStyle_some hb
    rw [hws]
    exact fold subs [] _ (atomic e he h1 hne) hf
  · rename_i w hw hws
    obtain ⟨e, he, rfl, hne, rfl⟩ := lookupStyle_some h
    rw [hws]
    exact single e he (fun e' => hw (e' ▸ rfl) |>.elim) hne
  · cases h

theorem nodup_step (acc sc : List ColSpec) (ha : (acc.map (·.prop)).Nodup) (hs : (sc.map (·.prop)).Nodup) :
    ((acc ++ sc.filter fun c => !(acc.any (·.prop = c.prop))).map (·.prop)).Nodup := by
  rw [List.map_append, List.nodup_append]
  refine ⟨ha, hs.sublist (List.filter_sublist.map _), ?_⟩
  intro a haa b hb hab
  subst hab
  obtain ⟨c1, hc1, h1⟩ := List.mem_map.mp haa
  obtain ⟨c2, hc2, h2⟩ := List.mem_map.mp hb
  have hf := (List.mem_filter.mp hc2).2
  have : acc.any (·.prop = c2.prop) = true := List.any_eq_true.mpr ⟨c1, hc1, by simp [h1, h2]⟩
  rw [this] at hf
  cases hf

/-- **no property twice**, for every column table whose base styles list no property twice: the columns of every
    accepted style — a base style or a hybrid of any number of sub-styles — name each property at most once. -/
theorem styleCols_props_nodup {tbl : List (String × List Gen.AtomStyles.Col)}
    (htbl : ∀ e ∈ tbl, ((e.2.map ofGenCol).map (·.prop)).Nodup)
    (style : String) (cols : List ColSpec) (h : styleCols tbl style = some cols) :
    (cols.map (·.prop)).Nodup :=
  styleCols_induction (P := fun _ cols => (cols.map (·.prop)).Nodup) (fun e he _ _ => htbl e he)
    (fun e he _ _ => htbl e he) (fun _ acc ha e he _ => nodup_step acc _ ha (htbl e he)) h

theorem atom_base_nodup : ∀ e ∈ Gen.AtomStyles.atomStyles, ((e.2.map ofGenCol).map (·.prop)).Nodup := by
  decide +kernel

theorem vel_base_nodup : ∀ e ∈ Gen.AtomStyles.velStyles, ((e.2.map ofGenCol).map (·.prop)).Nodup := by
  decide +kernel

/-- the `Atoms` column list of every accepted atom_style — hybrids of any
    length included — names each per-atom property at most once (the table writer converts units once per list
    entry but keys the written columns by property name: a repeated entry would be converted twice). -/
theorem atom_columns_no_property_twice (style : String) (cols : List ColSpec) (h : atomCols style = some cols) :
    (cols.map (·.prop)).Nodup :=
  styleCols_props_nodup atom_base_nodup style cols h

/-- the `Velocities` column list of every accepted atom_style names each per-atom property at most once. -/
theorem vel_columns_no_property_twice (style : String) (cols : List ColSpec) (h : velCols style = some cols) :
    (cols.map (·.prop)).Nodup :=
  styleCols_props_nodup vel_base_nodup style cols h

def TablesAgree (tblC : List (String × List Gen.AtomStyles.Col)) (tblL : List (String × Layout)) : Prop :=
  ∀ e ∈ tblC, e.2 ≠ [] → ∃ L, (tblL.find? (·.1 = e.1)).map (·.2) = some L ∧ colsLayout (e.2.map ofGenCol) = some L

/-- `layoutOf` as a function of the style words. -/
def layoutW (tblL : List (String × Layout)) : List String → Option Layout
  | "hybrid" :: subs => do
    let base ← (tblL.find? (·.1 = "atomic")).map (·.2)
    subs.foldlM (fun acc sub => do
      let sc ← (tblL.find? (·.1 = sub)).map (·.2)
      pure (acc ++ sc.filter fun c => !(acc.any (·.1 = c.1)))) base
  | [w] => (tblL.find? (·.1 = w)).map (·.2)
  | _ => none

theorem layoutOf_eq_layoutW (tblL : List (String × Layout)) (style : String) :
    layoutOf tblL style = layoutW tblL (styleWords style) := rfl

/-- **every style, hybrids included**: the LAMMPS line layout of the style is, field for field, what the written
    column list fills. -/
theorem layoutOf_styleCols {tblC : List (String × List Gen.AtomStyles.Col)} {tblL : List (String × Layout)}
    (hag : TablesAgree tblC tblL) (style : String) (cols : List ColSpec) (h : styleCols tblC style = some cols) :
    ∃ L, layoutOf tblL style = some L ∧ colsLayout cols = some L := by
  simp only [layoutOf_eq_layoutW]
  refine styleCols_induction (P := fun ws cols => ∃ L, layoutW tblL ws = some L ∧ colsLayout cols = some L)
    (fun e he hw hne => ?_) (fun e he h1 hne => ?_) (fun subs acc ⟨accL, hws, hacc⟩ e he hne => ?_) h
  · obtain ⟨L, hfind, hL⟩ := hag e he hne
    refine ⟨L, ?_, hL⟩
    unfold layoutW
    split
    · rename_i heq; exact absurd (List.cons.inj heq).1 hw
    · rename_i heq; rw [← (List.cons.inj heq).1, hfind]
    · rename_i h2; exact absurd rfl (h2 e.1)
  · obtain ⟨L, hfind, hL⟩ := hag e he hne
    exact ⟨L, by simp only [layoutW, ← h1, hfind, List.foldlM_nil, Option.bind_eq_bind, Option.bind_some, pure], hL⟩
  · -- one more sub-style: both folds take one step, and the new columns fill the new fields (`colsLayout_filter`)
    obtain ⟨scL, hfind, hscL⟩ := hag e he hne
    refine ⟨accL ++ scL.filter fun c => !(accL.any (·.1 = c.1)), ?_, ?_⟩
    · simp only [layoutW, Option.bind_eq_bind] at hws ⊢
      obtain ⟨base, hb, hfold⟩ := Option.bind_eq_some_iff.mp hws
      rw [hb, Option.bind_some, List.foldlM_append, hfold]
      simp only [List.foldlM_cons, List.foldlM_nil, hfind, Option.bind_some, bind, pure]
    · rw [colsLayout_append, hacc, colsLayout_filter acc _ accL scL hacc hscL]; rfl

/-- for every atom_style of the LAMMPS manual table, the columns atomman
    writes in the `Atoms` section (regenerated from `atoms_prop_info.py`) are the manual's fields in the manual's
    order, each in the manual's kind of unit; and atomman knows no style outside the table. -/
theorem atom_style_columns_match_lammps :
    (∀ e ∈ lammpsAtomLayout,
      (Gen.AtomStyles.atomStyles.find? (·.1 = e.1)).map (fun g => genAsFields g.2) = some e.2) ∧
    (∀ g ∈ Gen.AtomStyles.atomStyles, lammpsAtomLayout.any (·.1 = g.1) = true) := by
  decide +kernel

theorem velocity_columns_match_lammps :
    (∀ e ∈ lammpsVelLayout,
      (Gen.AtomStyles.velStyles.find? (·.1 = e.1)).map (fun g => genAsFields g.2) = some e.2) ∧
    (∀ g ∈ Gen.AtomStyles.velStyles, lammpsVelLayout.any (·.1 = g.1) = true) := by
  decide +kernel

theorem tablesAgree_of {tblC : List (String × List Gen.AtomStyles.Col)} {tblL : List (String × Layout)}
    (hbase : ∀ e ∈ tblC, e.2 ≠ [] → (tblL.find? (·.1 = e.1)).map (·.2) = colsLayout (e.2.map ofGenCol))
    (hkeys : ∀ g ∈ tblC, tblL.any (·.1 = g.1) = true) : TablesAgree tblC tblL := by
  intro e he hne
  obtain ⟨x, hx⟩ := Option.isSome_iff_exists.mp (List.find?_isSome.mpr (List.any_eq_true.mp (hkeys e he)))
  exact ⟨x.2, by rw [hx]; rfl, by rw [← hbase e he hne, hx]; rfl⟩

theorem atom_tables_agree : TablesAgree Gen.AtomStyles.atomStyles lammpsAtomLayout :=
  tablesAgree_of base_atom_layouts atom_style_columns_match_lammps.2

theorem vel_tables_agree : TablesAgree Gen.AtomStyles.velStyles lammpsVelLayout :=
  tablesAgree_of base_vel_layouts velocity_columns_match_lammps.2

theorem styleWords_known {tblC : List (String × List Gen.AtomStyles.Col)} (style : String) (cols : List ColSpec)
    (h : styleCols tblC style = some cols) : ∀ w ∈ styleWords style, w = "hybrid" ∨ ∃ e ∈ tblC, e.1 = w := by
  refine styleCols_induction (P := fun ws _ => ∀ w ∈ ws, w = "hybrid" ∨ ∃ e ∈ tblC, e.1 = w)
    (fun e he _ _ w hw => ?_) (fun _ _ _ _ w hw => .inl (List.mem_singleton.mp hw))
    (fun ws _ ha e he _ w hw => ?_) h
  · exact .inr ⟨e, he, (List.mem_singleton.mp hw).symm⟩
  · rw [← List.cons_append] at hw
    rcases List.mem_append.mp hw with hw | hw
    · exact ha w hw
    · exact .inr ⟨e, he, (List.mem_singleton.mp hw).symm⟩

end Atomman.C07
