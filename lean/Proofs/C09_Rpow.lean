/-
  C09 — powers with rational exponents: the assumed laws of the parameter `rpow` (`RpowLaws`), what follows from them in an
  ordered field (positivity, agreement with integer powers, `(x^a)^b = x^(a·b)` because positive roots are unique), and
  the scaling factor `m^a kg^b s^c C^d K^e` with rational exponents.
-/
import Atomman.C09
import Proofs.C09_Units

namespace Atomman.C09

variable {K : Type} [Field K] [LinearOrder K] [IsStrictOrderedRing K]

/-- the assumed laws of `float ** float` (exact real powers), for positive bases. -/
structure RpowLaws (rpow : K → Rat → K) : Prop where
  add : ∀ x, 0 < x → ∀ a b : Rat, rpow x (a + b) = rpow x a * rpow x b
  mul : ∀ x y, 0 < x → 0 < y → ∀ a : Rat, rpow (x * y) a = rpow x a * rpow y a
  one : ∀ x, 0 < x → rpow x 1 = x

variable {rpow : K → Rat → K} (L : RpowLaws rpow)
include L

theorem rpow_zero {x : K} (hx : 0 < x) : rpow x 0 = 1 := by
  have h := L.add x hx 1 0
  rw [add_zero, L.one x hx] at h
  have hx0 : x ≠ 0 := ne_of_gt hx
  exact (mul_left_cancel₀ hx0 (by rw [mul_one]; exact h)).symm

theorem rpow_mul_neg {x : K} (hx : 0 < x) (a : Rat) : rpow x a * rpow x (-a) = 1 := by
  rw [← L.add x hx, add_neg_cancel, rpow_zero L hx]

theorem rpow_ne_zero {x : K} (hx : 0 < x) (a : Rat) : rpow x a ≠ 0 := by
  intro h
  have := rpow_mul_neg L hx a
  rw [h, zero_mul] at this
  exact zero_ne_one this

theorem rpow_pos {x : K} (hx : 0 < x) (a : Rat) : 0 < rpow x a := by
  have h : rpow x a = rpow x (a / 2) * rpow x (a / 2) := by rw [← L.add x hx]; congr 1; ring
  have h0 := rpow_ne_zero L hx (a / 2)
  rw [h]
  exact mul_self_pos.mpr h0

theorem rpow_neg {x : K} (hx : 0 < x) (a : Rat) : rpow x (-a) = (rpow x a)⁻¹ :=
  eq_inv_of_mul_eq_one_right (rpow_mul_neg L hx a)

theorem rpow_nat_mul {x : K} (hx : 0 < x) (n : Nat) (a : Rat) : rpow x (n * a) = rpow x a ^ n := by
  induction n with
  | zero => simpa using rpow_zero L hx
  | succ n ih => rw [Nat.cast_succ, add_mul, one_mul, L.add x hx, ih, pow_succ]

theorem rpow_int_mul {x : K} (hx : 0 < x) (n : Int) (a : Rat) : rpow x (n * a) = rpow x a ^ n := by
  cases n with
  | ofNat n => simpa using rpow_nat_mul L hx n a
  | negSucc n =>
    rw [Int.cast_negSucc, neg_mul, rpow_neg L hx, zpow_negSucc]
    congr 1
    exact_mod_cast rpow_nat_mul L hx (n + 1) a

theorem rpow_intCast {x : K} (hx : 0 < x) (n : Int) : rpow x (n : Rat) = x ^ n := by
  rw [← mul_one (n : Rat), rpow_int_mul L hx, L.one x hx]

omit L in
theorem den_mul_self (q : Rat) : ((q.den : Nat) : Rat) * q = (q.num : Int) := by
  rw [mul_comm]; exact_mod_cast Rat.mul_den_eq_num q

/-- the power-of-a-power law follows from the three assumed laws in an ordered field (positive `d`-th roots are
    unique). -/
theorem rpow_rpow {x : K} (hx : 0 < x) (a b : Rat) : rpow (rpow x a) b = rpow x (a * b) := by
  have hy := rpow_pos L hx a
  have hu := rpow_pos L hy b
  have hv := rpow_pos L hx (a * b)
  have hN : a.den * b.den ≠ 0 := Nat.mul_ne_zero a.den_nz b.den_nz
  refine (pow_left_inj₀ hu.le hv.le hN).mp ?_
  have hb := den_mul_self b
  have ha := den_mul_self a
  have h1 : rpow (rpow x a) b ^ (a.den * b.den) = x ^ (a.num * b.num) := by
    rw [mul_comm a.den, pow_mul, ← rpow_nat_mul L hy, hb, rpow_intCast L hy, ← zpow_natCast, ← zpow_mul, mul_comm b.num,
      zpow_mul, zpow_natCast, ← rpow_nat_mul L hx, ha, rpow_intCast L hx, ← zpow_mul]
  have h2 : rpow x (a * b) ^ (a.den * b.den) = x ^ (a.num * b.num) := by
    rw [← rpow_nat_mul L hx]
    have : ((a.den * b.den : Nat) : Rat) * (a * b) = ((a.num * b.num : Int) : Rat) := by
      push_cast
      calc (a.den : Rat) * b.den * (a * b) = ((a.den : Rat) * a) * ((b.den : Rat) * b) := by ring
        _ = a.num * b.num := by rw [ha, hb]
    rw [this, rpow_intCast L hx]
  rw [h1, h2]

theorem rpow_pow_base {x : K} (hx : 0 < x) (n : Nat) (a : Rat) : rpow (x ^ n) a = rpow x a ^ n := by
  rw [← zpow_natCast, ← rpow_intCast L hx, rpow_rpow L hx, Int.cast_natCast, rpow_nat_mul L hx]

/-- a law-abiding `rpow` has no freedom where the root exists. -/
theorem rpow_unique {x y : K} (hx : 0 < x) (hy : 0 < y) (q : Rat) (h : y ^ q.den = x ^ q.num) : rpow x q = y := by
  have hp := rpow_pos L hx q
  refine (pow_left_inj₀ hp.le hy.le q.den_nz).mp ?_
  rw [← rpow_nat_mul L hx, den_mul_self q, rpow_intCast L hx, h]

omit L in
def Scales.Pos (sc : Scales K) : Prop := 0 < sc.m ∧ 0 < sc.kg ∧ 0 < sc.s ∧ 0 < sc.c ∧ 0 < sc.k

set_option linter.unusedSectionVars false in
omit L in
theorem Scales.Pos.nonzero {sc : Scales K} (h : sc.Pos) : sc.Nonzero :=
  ⟨ne_of_gt h.1, ne_of_gt h.2.1, ne_of_gt h.2.2.1, ne_of_gt h.2.2.2.1, ne_of_gt h.2.2.2.2⟩

theorem factorR_pos {sc : Scales K} (h : sc.Pos) (d : Q5) : 0 < factorR rpow sc d := by
  obtain ⟨h1, h2, h3, h4, h5⟩ := h
  unfold factorR
  have := rpow_pos L h1 d.m; have := rpow_pos L h2 d.kg; have := rpow_pos L h3 d.s
  have := rpow_pos L h4 d.c; have := rpow_pos L h5 d.k
  positivity

theorem factorR_zero {sc : Scales K} (h : sc.Pos) : factorR rpow sc Q5.zero = 1 := by
  obtain ⟨h1, h2, h3, h4, h5⟩ := h
  simp [factorR, Q5.zero, rpow_zero L h1, rpow_zero L h2, rpow_zero L h3, rpow_zero L h4, rpow_zero L h5]

set_option linter.unusedSectionVars false in
theorem factorR_add {sc : Scales K} (h : sc.Pos) (a b : Q5) :
    factorR rpow sc (Q5.add a b) = factorR rpow sc a * factorR rpow sc b := by
  obtain ⟨h1, h2, h3, h4, h5⟩ := h
  simp only [factorR, Q5.add, L.add _ h1, L.add _ h2, L.add _ h3, L.add _ h4, L.add _ h5]
  ring

theorem factorR_sub {sc : Scales K} (h : sc.Pos) (a b : Q5) :
    factorR rpow sc (Q5.sub a b) = factorR rpow sc a / factorR rpow sc b := by
  have hab : Q5.add (Q5.sub a b) b = a := by cases a; simp [Q5.add, Q5.sub]
  rw [eq_div_iff (factorR_pos L h b).ne', ← factorR_add L h, hab]

theorem factorR_rpow {sc : Scales K} (h : sc.Pos) (q : Rat) (d : Q5) :
    rpow (factorR rpow sc d) q = factorR rpow sc (Q5.smul q d) := by
  obtain ⟨h1, h2, h3, h4, h5⟩ := h
  have p1 := rpow_pos L h1 d.m; have p2 := rpow_pos L h2 d.kg; have p3 := rpow_pos L h3 d.s
  have p4 := rpow_pos L h4 d.c; have p5 := rpow_pos L h5 d.k
  simp only [factorR, Q5.smul]
  rw [L.mul _ _ (by positivity) p5, L.mul _ _ (by positivity) p4, L.mul _ _ (by positivity) p3, L.mul _ _ p1 p2,
    rpow_rpow L h1, rpow_rpow L h2, rpow_rpow L h3, rpow_rpow L h4, rpow_rpow L h5]
  simp only [mul_comm q]

theorem factorR_zpow {sc : Scales K} (h : sc.Pos) (n : Int) (d : Q5) :
    factorR rpow sc d ^ n = factorR rpow sc (Q5.smul n d) := by
  obtain ⟨h1, h2, h3, h4, h5⟩ := h
  simp only [factorR, Q5.smul, mul_zpow, rpow_int_mul L h1, rpow_int_mul L h2, rpow_int_mul L h3, rpow_int_mul L h4,
    rpow_int_mul L h5]

theorem factorR_toQ {sc : Scales K} (h : sc.Pos) (d : D5) : factorR rpow sc d.toQ = factor sc d := by
  obtain ⟨h1, h2, h3, h4, h5⟩ := h
  simp only [factorR, D5.toQ, factor_eq, rpow_intCast L h1, rpow_intCast L h2, rpow_intCast L h3, rpow_intCast L h4,
    rpow_intCast L h5]

omit L in
/-- the driver's rational power, where it claims to be exact, is a positive `den q`-th root of `x^num q`. -/
theorem ratRpowE_exact (x q : Rat) (hx : 0 < x) (h : (ratRpowE x q).2 = true) :
    0 < (ratRpowE x q).1 ∧ (ratRpowE x q).1 ^ q.den = x ^ q.num := by
  have hy : 0 < powInt x q.num := by rw [powInt_eq]; exact zpow_pos hx _
  unfold ratRpowE at h ⊢
  simp only at h ⊢
  split at h
  · rename_i hc
    rw [if_pos hc]
    obtain ⟨h1, h2⟩ := hc
    simp only
    set y := powInt x q.num with hyd
    have hnum : 0 < y.num := Rat.num_pos.mpr hy
    have ha : (y.num.natAbs : Int) = y.num := Int.natAbs_of_nonneg hnum.le
    have hra : iroot q.den y.num.natAbs ≠ 0 := ne_zero_pow q.den_nz (by rw [h1]; omega)
    have hrb : iroot q.den y.den ≠ 0 := ne_zero_pow q.den_nz (by rw [h2]; exact y.den_nz)
    have hdiv : mkRat (iroot q.den y.num.natAbs) (iroot q.den y.den)
        = (iroot q.den y.num.natAbs : Rat) / (iroot q.den y.den : Rat) := by
      rw [Rat.mkRat_eq_div]; push_cast; rfl
    rw [hdiv]
    constructor
    · have p1 : (0 : Rat) < (iroot q.den y.num.natAbs : Rat) := by exact_mod_cast Nat.pos_of_ne_zero hra
      have p2 : (0 : Rat) < (iroot q.den y.den : Rat) := by exact_mod_cast Nat.pos_of_ne_zero hrb
      positivity
    · rw [div_pow]
      have e1 : ((iroot q.den y.num.natAbs : Rat)) ^ q.den = (y.num : Rat) := by
        rw [← ha]; exact_mod_cast h1
      have e2 : ((iroot q.den y.den : Rat)) ^ q.den = (y.den : Rat) := by exact_mod_cast h2
      rw [e1, e2, Rat.num_div_den, hyd, powInt_eq]
  · split at h <;> simp at h

end Atomman.C09
