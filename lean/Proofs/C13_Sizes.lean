/-
  C13 — size multipliers: `checkMults`, `minMult`, `sizeOf`, `sizes`, `callSizes`, the ceiling.
-/
import Atomman.C13
import Proofs.C05_Lemmas

namespace Atomman.C13
open Atomman
set_option linter.unusedSectionVars false

variable {K : Type} [Field K] [LinearOrder K] [IsStrictOrderedRing K]

theorem minMult_ge (line i : Nat) (q : Option Int) (cur : Int) : cur ≤ minMult line i q cur := by
  unfold minMult
  cases q with
  | none => exact le_rfl
  | some q => simp only; split_ifs <;> omega

theorem minMult_even (line i : Nat) (q : Option Int) (cur : Int) (hi : i ≠ line) (hc : cur % 2 = 0) :
    minMult line i q cur % 2 = 0 := by
  unfold minMult
  cases q with
  | none => exact hc
  | some q => simp only [hi, ne_eq, not_false_eq_true, true_and]; split_ifs <;> omega

/-- a request the generators work with: positive entries, even across the line. -/
def ValidMults (line : Nat) (s : IV) : Prop :=
  (0 < s.x ∧ 0 < s.y ∧ 0 < s.z) ∧ (line ≠ 0 → s.x % 2 = 0) ∧ (line ≠ 1 → s.y % 2 = 0) ∧ (line ≠ 2 → s.z % 2 = 0)

theorem defaultMults_valid (line : Nat) : ValidMults line (defaultMults line) := by
  refine ⟨⟨?_, ?_, ?_⟩, ?_, ?_, ?_⟩ <;> simp only [defaultMults] <;> split_ifs <;> simp_all

theorem checkMults_eq_some (line : Nat) (hl : line < 3) (s t : IV) (h : checkMults line s = some t) :
    t = s ∧ ValidMults line s := by
  unfold checkMults at h
  split_ifs at h with hc
  obtain ⟨h1, h2, h3, h4, h5⟩ := hc
  refine ⟨(Option.some.inj h).symm, ⟨h1, h2, h3⟩, ?_⟩
  obtain rfl | rfl | rfl : line = 0 ∨ line = 1 ∨ line = 2 := by omega
  all_goals
    simp only [V3.get, Nat.reduceAdd, Nat.reduceMod, OfNat.ofNat_ne_zero, OfNat.ofNat_ne_one, one_ne_zero,
      ↓reduceIte] at h4 h5
    simp [h4, h5]

theorem sizeOf_minMult (line i : Nat) (q : Option Int) (cur : Int) (hcur : 0 < cur) (hev : line ≠ i → cur % 2 = 0) :
    (sizeOf line i (minMult line i q cur)).mult = minMult line i q cur ∧
    0 < (sizeOf line i (minMult line i q cur)).mult ∧
    (if line = i then (sizeOf line i (minMult line i q cur)).lo = 0
     else (sizeOf line i (minMult line i q cur)).lo = -(sizeOf line i (minMult line i q cur)).hi ∧
       (sizeOf line i (minMult line i q cur)).mult % 2 = 0) := by
  have hge := minMult_ge line i q cur
  unfold sizeOf C04.Size.mult
  by_cases hi : i = line
  · subst hi; simp only [↓reduceIte]; exact ⟨by omega, by omega, trivial⟩
  · have he := minMult_even line i q cur hi (hev (Ne.symm hi))
    simp only [hi, Ne.symm hi, if_false]; omega

def sizesOf (line : Nat) (s : IV) (qa qb qc : Option Int) : Sizes :=
  ⟨sizeOf line 0 (minMult line 0 qa s.x), sizeOf line 1 (minMult line 1 qb s.y), sizeOf line 2 (minMult line 2 qc s.z)⟩

theorem sizes_eq_some (line : Nat) (hl : line < 3) (mults : Option IV) (qa qb qc : Option Int) (sz : Sizes)
    (h : sizes line mults qa qb qc = some sz) : ∃ s, ValidMults line s ∧ sz = sizesOf line s qa qb qc := by
  unfold sizes at h
  cases mults with
  | none => exact ⟨_, defaultMults_valid line, (Option.some.inj h).symm⟩
  | some s0 =>
    simp only at h
    cases hc : checkMults line s0 with
    | none => rw [hc] at h; cases h
    | some s =>
      rw [hc] at h
      obtain ⟨rfl, hv⟩ := checkMults_eq_some line hl s0 s hc
      exact ⟨_, hv, (Option.some.inj h).symm⟩

/-- accepted multipliers are positive; along the line the replicas run `0 … s`, across it
    they are symmetric about the origin (`lo = -hi`) with an even total (the refusals: `sizes_refuses_odd`). -/
theorem sizes_even_symmetric (line : Nat) (hl : line < 3) (mults : Option IV) (qa qb qc : Option Int) (sz : Sizes)
    (h : sizes line mults qa qb qc = some sz) :
    (0 < sz.a.mult ∧ 0 < sz.b.mult ∧ 0 < sz.c.mult) ∧
    (if line = 0 then sz.a.lo = 0 else sz.a.lo = -sz.a.hi ∧ sz.a.mult % 2 = 0) ∧
    (if line = 1 then sz.b.lo = 0 else sz.b.lo = -sz.b.hi ∧ sz.b.mult % 2 = 0) ∧
    (if line = 2 then sz.c.lo = 0 else sz.c.lo = -sz.c.hi ∧ sz.c.mult % 2 = 0) := by
  obtain ⟨s, ⟨⟨px, py, pz⟩, ex, ey, ez⟩, rfl⟩ := sizes_eq_some line hl mults qa qb qc sz h
  obtain ⟨_, ax, bx⟩ := sizeOf_minMult line 0 qa s.x px ex
  obtain ⟨_, ay, by'⟩ := sizeOf_minMult line 1 qb s.y py ey
  obtain ⟨_, az, bz⟩ := sizeOf_minMult line 2 qc s.z pz ez
  exact ⟨⟨ax, ay, az⟩, bx, by', bz⟩

/-- an odd multiplier across the line is refused (the `TypeError` of the generators). -/
theorem sizes_refuses_odd (line : Nat) (s : IV) (qa qb qc : Option Int)
    (h : s.get ((line + 1) % 3) % 2 ≠ 0 ∨ s.get ((line + 2) % 3) % 2 ≠ 0 ∨ s.x ≤ 0 ∨ s.y ≤ 0 ∨ s.z ≤ 0) :
    sizes line (some s) qa qb qc = none := by
  have : checkMults line s = none := by
    unfold checkMults
    rw [if_neg]
    rintro ⟨h1, h2, h3, h4, h5⟩
    rcases h with h | h | h | h | h <;> omega
  simp [sizes, this]

example : sizes 0 (some ⟨1, 4, 2⟩) none none none = some ⟨⟨0, 1⟩, ⟨-2, 2⟩, ⟨-1, 1⟩⟩ := by decide

example : sizes 0 (some ⟨1, 3, 2⟩) none none none = none := by decide

theorem checkMultsRaw_eq_some (line : Nat) (l : List MultEntry) (s : IV) :
    checkMultsRaw line l = some s ↔ ∃ a b c, l = [.int a, .int b, .int c] ∧ checkMults line ⟨a, b, c⟩ = some s := by
  unfold checkMultsRaw
  split
  · simp
  · simp_all

theorem callSizes_eq_sizes (ceil : K → Int) (line : Nat) (lens mins : V3 K) (mults : Option (List MultEntry)) (sz : Sizes)
    (h : callSizes ceil line lens mults mins = some sz) :
    ∃ m : Option IV, (mults = none ∧ m = none ∨ ∃ a b c, mults = some [.int a, .int b, .int c] ∧ m = some ⟨a, b, c⟩) ∧
      sizes line m (minQ ceil mins.x lens.x) (minQ ceil mins.y lens.y) (minQ ceil mins.z lens.z) = some sz := by
  unfold callSizes at h
  cases mults with
  | none => exact ⟨none, Or.inl ⟨rfl, rfl⟩, by simpa [sizes] using h⟩
  | some l =>
    simp only [Option.map_eq_some_iff] at h
    obtain ⟨s, hs, rfl⟩ := h
    obtain ⟨a, b, c, rfl, hc⟩ := (checkMultsRaw_eq_some line l s).mp hs
    exact ⟨some ⟨a, b, c⟩, Or.inr ⟨a, b, c, rfl, rfl⟩, by simp only [sizes, hc]⟩

/-- `checkMultsRaw` accepts exactly a list of three `int` entries that are positive and even across the line. -/
theorem checkMultsRaw_some_iff (line : Nat) (l : List MultEntry) (s : IV) :
    checkMultsRaw line l = some s ↔ l = [.int s.x, .int s.y, .int s.z] ∧ 0 < s.x ∧ 0 < s.y ∧ 0 < s.z ∧
      s.get ((line + 2) % 3) % 2 = 0 ∧ s.get ((line + 1) % 3) % 2 = 0 := by
  rw [checkMultsRaw_eq_some]
  constructor
  · rintro ⟨a, b, c, rfl, h⟩
    unfold checkMults at h
    split_ifs at h with hc
    cases h
    exact ⟨rfl, hc⟩
  · rintro ⟨rfl, hc⟩
    exact ⟨_, _, _, rfl, if_pos hc⟩

theorem sizeOf_mult (line i : Nat) (s : Int) (h : i = line ∨ s % 2 = 0) : (sizeOf line i s).mult = s := by
  unfold sizeOf C04.Size.mult
  split_ifs with hi
  · simp
  · rcases h with h | h
    · exact absurd h hi
    · simp only; omega

theorem minMult_ge_q (line i : Nat) (q cur : Int) : q ≤ minMult line i (some q) cur := by
  simp only [minMult]
  split_ifs <;> omega

theorem sizeOf_minQ_covers (ceil : K → Int) (hceil : ∀ x : K, x ≤ ((ceil x : Int) : K)) (line i : Nat) (vmin len : K)
    (cur : Int) (hlen : 0 < len) (hcur : 0 < cur) (hev : line ≠ i → cur % 2 = 0) :
    vmin ≤ (((sizeOf line i (minMult line i (minQ ceil vmin len) cur)).mult : Int) : K) * len := by
  rw [(sizeOf_minMult line i _ cur hcur hev).1]
  unfold minQ
  split_ifs with hv
  · have h1 : ((ceil (vmin / len) : Int) : K) ≤ ((minMult line i (some (ceil (vmin / len))) cur : Int) : K) :=
      Int.cast_le.mpr (minMult_ge_q line i _ cur)
    calc vmin = vmin / len * len := (div_mul_cancel₀ vmin hlen.ne').symm
      _ ≤ _ := mul_le_mul_of_nonneg_right ((hceil _).trans h1) hlen.le
  · have : (0 : K) ≤ ((minMult line i none cur : Int) : K) := by exact_mod_cast hcur.le
    exact (not_lt.mp hv).trans (mul_nonneg this hlen.le)

/-- the reference system is at least as long as asked — for an accepted call and a
    rounding `ceil` that does not round down, the multiplier along every box vector times the period of the rotated cell
    along it is at least the minimum length given for it (and at least the multiplier given in `sizemults`). -/
theorem callSizes_covers_minimum (ceil : K → Int) (hceil : ∀ x : K, x ≤ ((ceil x : Int) : K)) (line : Nat) (hl : line < 3)
    (lens mins : V3 K) (hlen : 0 < lens.x ∧ 0 < lens.y ∧ 0 < lens.z) (mults : Option (List MultEntry)) (sz : Sizes)
    (h : callSizes ceil line lens mults mins = some sz) :
    mins.x ≤ ((sz.a.mult : Int) : K) * lens.x ∧ mins.y ≤ ((sz.b.mult : Int) : K) * lens.y ∧
    mins.z ≤ ((sz.c.mult : Int) : K) * lens.z := by
  obtain ⟨m, _, hsz⟩ := callSizes_eq_sizes ceil line lens mins mults sz h
  obtain ⟨s, ⟨⟨px, py, pz⟩, ex, ey, ez⟩, rfl⟩ := sizes_eq_some line hl m _ _ _ sz hsz
  exact ⟨sizeOf_minQ_covers ceil hceil line 0 _ _ _ hlen.1 px ex, sizeOf_minQ_covers ceil hceil line 1 _ _ _ hlen.2.1 py ey,
    sizeOf_minQ_covers ceil hceil line 2 _ _ _ hlen.2.2 pz ez⟩

/-- the specification of the ceiling: the least integer not below `x`. -/
theorem ceilOfFloor_spec (fl : K → Int) (hfl : C05.IsFloor fl) (x : K) :
    x ≤ ((ceilOfFloor fl x : Int) : K) ∧ ((ceilOfFloor fl x : Int) : K) < x + 1 ∧
    ∀ n : Int, x ≤ ((n : Int) : K) → ceilOfFloor fl x ≤ n := by
  obtain ⟨h1, h2⟩ := hfl (-x)
  unfold ceilOfFloor
  refine ⟨?_, ?_, ?_⟩
  · rw [Int.cast_neg]; linarith
  · rw [Int.cast_neg]; linarith
  · intro n hn
    by_contra hc
    have hc' : n + 1 ≤ -(fl (-x)) := by omega
    have : ((n + 1 : Int) : K) ≤ ((-(fl (-x)) : Int) : K) := Int.cast_le.mpr hc'
    rw [Int.cast_neg, Int.cast_add, Int.cast_one] at this
    linarith

/-- the multiplier a minimum length gives is the LEAST integer that is at least the requested
    multiplier, at least `q = ceil(min / period)`, and even when the direction is not the dislocation line. -/
theorem minMult_least (line i : Nat) (q cur n : Int) (h1 : cur ≤ n) (h2 : q ≤ n)
    (h3 : i ≠ line → n % 2 = 0) : minMult line i (some q) cur ≤ n := by
  simp only [minMult]
  by_cases hi : i = line
  · simp only [hi, ne_eq, not_true_eq_false, false_and, if_false]; split_ifs <;> omega
  · have := h3 hi
    simp only [ne_eq, hi, not_false_eq_true, true_and]
    split_ifs <;> omega

example : ceilOfFloor Rat.floor (5 / 2 : ℚ) = 3 ∧ ceilOfFloor Rat.floor (3 : ℚ) = 3 ∧ ceilOfFloor Rat.floor (-1 / 2 : ℚ) = 0 := by
  decide +kernel

example : minMult 0 1 (some 3) 2 = 4 ∧ minMult 0 0 (some 3) 2 = 3 ∧ minMult 0 1 (some 3) 6 = 6 := by decide

end Atomman.C13
