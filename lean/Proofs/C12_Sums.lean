/-
  The model's index sums `sum3`, `sum6` as linear operators.  The summands stay variables, so an exchange of sums is one
  rewrite instead of a `ring` over every product of the unfolded tensors.
-/
import Atomman.C12
import Mathlib.Tactic.Ring
import Mathlib.Algebra.BigOperators.Fin
import Mathlib.Tactic.FinCases

namespace Atomman.C12
variable {F : Type} [Field F]

theorem mul_sum3 (c : F) (f : Fin 3 → F) : c * sum3 f = sum3 fun i => c * f i := by
  simp only [sum3]; ring
theorem sum3_mul (f : Fin 3 → F) (c : F) : sum3 f * c = sum3 fun i => f i * c := by
  simp only [sum3]; ring
theorem mul_sum6 (c : F) (f : Fin 6 → F) : c * sum6 f = sum6 fun a => c * f a := by
  simp only [sum6]; ring
theorem sum6_mul (f : Fin 6 → F) (c : F) : sum6 f * c = sum6 fun a => f a * c := by
  simp only [sum6]; ring

theorem sum6_sum3_mul (f : Fin 6 → Fin 3 → F) (g : Fin 6 → F) :
    (sum6 fun a => (sum3 fun k => f a k) * g a) = sum3 fun k => sum6 fun a => f a k * g a := by
  simp only [sum3, sum6]; ring

theorem sum3_sum6_mul (f : Fin 6 → Fin 3 → F) (y : Fin 3 → F) :
    (sum3 fun j => (sum6 fun a => f a j) * y j) = sum6 fun a => sum3 fun j => f a j * y j := by
  simp only [sum3, sum6]; ring

theorem sum3_pull (u y : Vec F) (Z : Fin 3 → Fin 3 → F) :
    (sum3 fun l => (sum3 fun g => u g * Z g l) * y l) = sum3 fun g => u g * sum3 fun l => Z g l * y l := by
  simp only [sum3]; ring

theorem sum3_pull2 (u : Vec F) (Z : Fin 3 → Fin 3 → Fin 3 → F) (y : Fin 3 → Fin 3 → F) :
    (sum3 fun k => sum3 fun l => (sum3 fun g => u g * Z g k l) * y k l)
      = sum3 fun g => u g * sum3 fun k => sum3 fun l => Z g k l * y k l := by
  simp only [sum3]; ring

theorem sum3_exch (a u v : Vec F) (T : Fin 3 → Fin 3 → Fin 3 → F) :
    (sum3 fun g => a g * sum3 fun h => u h * sum3 fun m => v m * T g h m)
      = sum3 fun h => u h * sum3 fun m => v m * sum3 fun g => a g * T g h m := by
  simp only [sum3]; ring

theorem sum6_eq_finset {F : Type} [AddCommMonoid F] (f : Fin 6 → F) : sum6 f = ∑ a, f a := by
  simp only [sum6, Fin.sum_univ_six]

theorem sum6_perm (σ : Equiv.Perm (Fin 6)) (f : Fin 6 → F) : (sum6 fun a => f (σ a)) = sum6 f := by
  rw [sum6_eq_finset, sum6_eq_finset]
  exact Equiv.sum_comp σ f

theorem sum3_kron_mul (i : Fin 3) (v : Vec F) : (sum3 fun j => kron i j * v j) = v i := by
  fin_cases i <;> simp [sum3, kron]

theorem inv_op_of_matMul (M N : Mat F) (h : ∀ i j, matMul M N i j = kron i j) (v : Vec F) (i : Fin 3) :
    matVec M (matVec N v) i = v i := by
  rw [← sum3_kron_mul i v]
  simp only [← h, matVec, matMul, sum3]
  ring

end Atomman.C12
