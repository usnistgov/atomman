/-
  Images — the periodic-image loops of `Atomman.Dvect`: which shifts `pbcRange`, `imageShifts` and `allShifts` (the
  candidates of both loops) hold, how `shiftBy` behaves under the zero shift, composition, translation and scaling,
  and what the replacement fold of `dvectStep` returns: one of its candidates, no longer than any of them, the first
  shortest, and hence a strict minimum where there is one; `dmag2` runs the same fold on squared lengths.  So `dmag2`
  is below a bound exactly when some candidate is (`dmag2_lt_iff`), and two periodic distances agree as soon as their
  candidates are matched with equal lengths (`dmag2_congr`): the order of the two points and the order of the cell
  vectors do not matter.
-/
import Atomman.Dvect
import Proofs.Linear3

namespace Atomman

theorem mem_pbcRange {p : Bool} {x : Int} : x ∈ pbcRange p ↔ x = 0 ∨ (p = true ∧ (x = -1 ∨ x = 1)) := by
  cases p <;> simp [pbcRange]; omega

theorem zero_mem_pbcRange (p : Bool) : (0 : Int) ∈ pbcRange p := mem_pbcRange.mpr (Or.inl rfl)

theorem neg_mem_pbcRange {p : Bool} {x : Int} (h : x ∈ pbcRange p) : -x ∈ pbcRange p := by
  cases p
  · simp only [pbcRange, Bool.false_eq_true, if_false, List.mem_singleton] at h ⊢; omega
  · simp only [pbcRange, if_true, List.mem_cons, List.not_mem_nil, or_false] at h ⊢; omega

theorem mem_imageShifts {px py pz : Bool} {s : Int × Int × Int} :
    s ∈ imageShifts px py pz ↔ s.1 ∈ pbcRange px ∧ s.2.1 ∈ pbcRange py ∧ s.2.2 ∈ pbcRange pz ∧ s ≠ (0, 0, 0) := by
  obtain ⟨a, b, c⟩ := s
  simp only [imageShifts, List.mem_filter, List.mem_flatMap, List.mem_map, Prod.mk.injEq, Bool.not_eq_true',
    Bool.and_eq_false_iff, beq_eq_false_iff_ne, ne_eq, ← not_and_or, and_assoc]
  constructor
  · rintro ⟨⟨x, hx, y, hy, z, hz, rfl, rfl, rfl⟩, h⟩
    exact ⟨hx, hy, hz, h⟩
  · rintro ⟨hx, hy, hz, h⟩
    exact ⟨⟨a, hx, b, hy, c, hz, rfl, rfl, rfl⟩, h⟩

/-- the candidates of both loops: the direct separation first, then the image shifts. -/
def allShifts (px py pz : Bool) : List (Int × Int × Int) := (0, 0, 0) :: imageShifts px py pz

theorem mem_allShifts {px py pz : Bool} {s : Int × Int × Int} :
    s ∈ allShifts px py pz ↔ s.1 ∈ pbcRange px ∧ s.2.1 ∈ pbcRange py ∧ s.2.2 ∈ pbcRange pz := by
  rw [allShifts, List.mem_cons, mem_imageShifts]
  constructor
  · rintro (rfl | ⟨hx, hy, hz, -⟩)
    · exact ⟨zero_mem_pbcRange px, zero_mem_pbcRange py, zero_mem_pbcRange pz⟩
    · exact ⟨hx, hy, hz⟩
  · rintro ⟨hx, hy, hz⟩
    exact (em (s = (0, 0, 0))).imp_right fun h0 => ⟨hx, hy, hz, h0⟩

section ring
variable {K : Type} [CommRing K]

theorem shiftBy_zero (V : M3 K) (d : V3 K) : shiftBy V d (0, 0, 0) = d := by
  ext <;> simp only [shiftBy, Int.cast_zero, zero_mul, add_zero]

/-- an image is the separation plus an integer combination of the cell vectors. -/
theorem shiftBy_eq (V : M3 K) (d : V3 K) (s : Int × Int × Int) :
    shiftBy V d s = d + M3.vecMul ⟨(s.1 : K), (s.2.1 : K), (s.2.2 : K)⟩ V := by
  ext <;> simp only [shiftBy, M3.vecMul, V3.add_x, V3.add_y, V3.add_z] <;> ring

theorem shiftBy_add (V : M3 K) (d w : V3 K) (s : Int × Int × Int) : shiftBy V (d + w) s = shiftBy V d s + w := by
  ext <;> simp only [shiftBy, V3.add_x, V3.add_y, V3.add_z] <;> ring

/-- images of an image: shifts add. -/
theorem shiftBy_shiftBy (V : M3 K) (d : V3 K) (m k : Int × Int × Int) :
    shiftBy V (shiftBy V d m) k = shiftBy V d (m.1 + k.1, m.2.1 + k.2.1, m.2.2 + k.2.2) := by
  ext <;> simp only [shiftBy, Int.cast_add] <;> ring

/-- seen through the shift by which `p` was moved, the separation is the unshifted one. -/
theorem shiftBy_sub_shiftBy (V : M3 K) (p q : V3 K) (s : Int × Int × Int) :
    shiftBy V (q - shiftBy V p s) s = q - p := by
  ext <;> simp only [shiftBy, V3.sub_x, V3.sub_y, V3.sub_z] <;> ring

/-- the image of `p0 - p1` by `-s` is the negative of the image of `p1 - p0` by `s`. -/
theorem normSq_shiftBy_neg (V : M3 K) (p0 p1 : V3 K) (s : Int × Int × Int) :
    V3.normSq (shiftBy V (p0 - p1) (-s.1, -s.2.1, -s.2.2)) = V3.normSq (shiftBy V (p1 - p0) s) := by
  have e : shiftBy V (p0 - p1) (-s.1, -s.2.1, -s.2.2) = -shiftBy V (p1 - p0) s := by
    ext <;> simp only [shiftBy, V3.sub_x, V3.sub_y, V3.sub_z, V3.neg_x, V3.neg_y, V3.neg_z, Int.cast_neg] <;> ring
  rw [e, V3.normSq_neg]

/-- scaling cell and separation by `c` scales every image by `c`. -/
theorem shiftBy_smul (c : K) (V : M3 K) (d : V3 K) (s : Int × Int × Int) :
    shiftBy (M3.smul c V) (V3.smul c d) s = V3.smul c (shiftBy V d s) := by
  ext <;> simp only [shiftBy, M3.smul, V3.smul] <;> ring

end ring

section fold
variable {K : Type} [CommRing K] [LinearOrder K]
-- only the order of the squared lengths is used, never its compatibility with `+` / `*`: no ordered-ring hypothesis.

theorem dvectStep_eq (V : M3 K) (d0 d : V3 K) (s : Int × Int × Int) :
    dvectStep V d0 d s = if V3.normSq (shiftBy V d0 s) < V3.normSq d then shiftBy V d0 s else d := rfl

/-- one step keeps something no longer than both the kept value and the new candidate. -/
theorem dvectStep_le (V : M3 K) (d0 d : V3 K) (s : Int × Int × Int) :
    V3.normSq (dvectStep V d0 d s) ≤ V3.normSq d ∧ V3.normSq (dvectStep V d0 d s) ≤ V3.normSq (shiftBy V d0 s) := by
  rw [dvectStep_eq]
  split
  · rename_i h; exact ⟨le_of_lt h, le_refl _⟩
  · rename_i h; exact ⟨le_refl _, not_lt.mp h⟩

/-- the fold returns its start value or one of the candidates. -/
theorem foldl_dvectStep_mem (V : M3 K) (d0 : V3 K) :
    ∀ (l : List (Int × Int × Int)) (acc : V3 K),
      l.foldl (dvectStep V d0) acc = acc ∨ ∃ s ∈ l, l.foldl (dvectStep V d0) acc = shiftBy V d0 s
  | [], acc => Or.inl rfl
  | s :: l, acc => by
    rw [List.foldl_cons]
    rcases foldl_dvectStep_mem V d0 l (dvectStep V d0 acc s) with h | ⟨t, ht, h⟩
    · rw [h, dvectStep_eq]
      split
      · exact Or.inr ⟨s, List.mem_cons_self, rfl⟩
      · exact Or.inl rfl
    · exact Or.inr ⟨t, List.mem_cons_of_mem _ ht, h⟩

/-- the fold returns something no longer than its start value and than every candidate. -/
theorem foldl_dvectStep_le (V : M3 K) (d0 : V3 K) :
    ∀ (l : List (Int × Int × Int)) (acc : V3 K),
      V3.normSq (l.foldl (dvectStep V d0) acc) ≤ V3.normSq acc ∧
      ∀ s ∈ l, V3.normSq (l.foldl (dvectStep V d0) acc) ≤ V3.normSq (shiftBy V d0 s)
  | [], acc => ⟨le_refl _, nofun⟩
  | t :: l, acc => by
    rw [List.foldl_cons]
    obtain ⟨h1, h2⟩ := foldl_dvectStep_le V d0 l (dvectStep V d0 acc t)
    obtain ⟨k1, k2⟩ := dvectStep_le V d0 acc t
    refine ⟨le_trans h1 k1, fun s hs => ?_⟩
    rcases List.mem_cons.mp hs with rfl | h
    · exact le_trans h1 k2
    · exact h2 s h

/-- if `m` occurs (as the start value or among the candidates) and everything else is `m` or strictly longer, the
    fold returns `m`: its result is a candidate no longer than `m`. -/
theorem foldl_dvectStep_eq_of_strict_min (V : M3 K) (d0 m : V3 K) (l : List (Int × Int × Int)) (acc : V3 K)
    (hm : acc = m ∨ ∃ s ∈ l, shiftBy V d0 s = m) (hacc : acc = m ∨ V3.normSq m < V3.normSq acc)
    (hl : ∀ s ∈ l, shiftBy V d0 s = m ∨ V3.normSq m < V3.normSq (shiftBy V d0 s)) :
    l.foldl (dvectStep V d0) acc = m := by
  obtain ⟨h1, h2⟩ := foldl_dvectStep_le V d0 l acc
  have hle : V3.normSq (l.foldl (dvectStep V d0) acc) ≤ V3.normSq m := by
    rcases hm with rfl | ⟨s, hs, rfl⟩
    · exact h1
    · exact h2 s hs
  rcases foldl_dvectStep_mem V d0 l acc with h | ⟨s, hs, h⟩
  · rw [h] at hle ⊢; exact hacc.resolve_right (not_lt.mpr hle)
  · rw [h] at hle ⊢; exact (hl s hs).resolve_right (not_lt.mpr hle)

/-- invariant of the fold started at candidate `cur`: everything visited before `cur` is strictly longer, everything
    visited since (`mid`) is not shorter.  The fold returns the first shortest of the whole list.  `L` is what is still
    to be folded; the induction is on `L`, and its head either goes into `mid` (not shorter: `cur` is kept) or becomes
    the new `cur`, with `pre ++ cur :: mid` as its strictly longer predecessors. -/
theorem foldl_dvectStep_first_gen (V : M3 K) (d0 : V3 K) (L : List (Int × Int × Int)) :
    ∀ (pre : List (Int × Int × Int)) (cur : Int × Int × Int) (mid : List (Int × Int × Int)),
      (∀ t ∈ pre, V3.normSq (shiftBy V d0 cur) < V3.normSq (shiftBy V d0 t)) →
      (∀ t ∈ mid, V3.normSq (shiftBy V d0 cur) ≤ V3.normSq (shiftBy V d0 t)) →
      ∃ pre' s post, pre ++ cur :: (mid ++ L) = pre' ++ s :: post ∧
        L.foldl (dvectStep V d0) (shiftBy V d0 cur) = shiftBy V d0 s ∧
        (∀ t ∈ pre', V3.normSq (shiftBy V d0 s) < V3.normSq (shiftBy V d0 t)) ∧
        ∀ t ∈ post, V3.normSq (shiftBy V d0 s) ≤ V3.normSq (shiftBy V d0 t) := by
  induction L with
  | nil =>
    intro pre cur mid hp hm
    exact ⟨pre, cur, mid, by rw [List.append_nil], rfl, hp, hm⟩
  | cons x L ih =>
    intro pre cur mid hp hm
    rw [List.foldl_cons, dvectStep_eq]
    split
    · rename_i hlt
      obtain ⟨pre', s, post, h1, h2, h3⟩ := ih (pre ++ cur :: mid) x [] (by
        intro t ht
        rcases List.mem_append.mp ht with ht | ht
        · exact lt_trans hlt (hp t ht)
        · rcases List.mem_cons.mp ht with rfl | ht
          · exact hlt
          · exact lt_of_lt_of_le hlt (hm t ht)) nofun
      exact ⟨pre', s, post, by rw [← h1]; simp only [List.append_assoc, List.cons_append, List.nil_append], h2, h3⟩
    · rename_i hnl
      obtain ⟨pre', s, post, h1, h2, h3⟩ := ih pre cur (mid ++ [x]) hp (by
        intro t ht
        rcases List.mem_append.mp ht with ht | ht
        · exact hm t ht
        · rw [List.mem_singleton.mp ht]; exact not_lt.mp hnl)
      exact ⟨pre', s, post, by rw [← h1]; simp only [List.append_assoc, List.cons_append, List.nil_append], h2, h3⟩

/-- started at the image by `s0`, the fold returns the first shortest image of `s0 :: L`. -/
theorem foldl_dvectStep_first (V : M3 K) (d0 : V3 K) (L : List (Int × Int × Int)) (s0 : Int × Int × Int) :
    ∃ pre s post, s0 :: L = pre ++ s :: post ∧
      L.foldl (dvectStep V d0) (shiftBy V d0 s0) = shiftBy V d0 s ∧
      (∀ t ∈ pre, V3.normSq (shiftBy V d0 s) < V3.normSq (shiftBy V d0 t)) ∧
      ∀ t ∈ post, V3.normSq (shiftBy V d0 s) ≤ V3.normSq (shiftBy V d0 t) :=
  foldl_dvectStep_first_gen V d0 L [] s0 [] nofun nofun

/-- the loop of `dmag2_c` keeps the squared length of what the loop of `dvect_c` keeps. -/
theorem foldl_dmag2_eq (V : M3 K) (d0 : V3 K) (L : List (Int × Int × Int)) (init : V3 K) :
    L.foldl (fun m s => let t := V3.normSq (shiftBy V d0 s); if t < m then t else m) (V3.normSq init)
      = V3.normSq (L.foldl (dvectStep V d0) init) :=
  List.foldl_hom V3.normSq fun _ _ => (apply_ite V3.normSq _ _ _).symm

/-- `dmag2` is the squared length of `dvect` (the same fold on squared lengths, `foldl_dmag2_eq`); the C02 check
    audits it as `C02.dmag2_eq_normsq_dvect`. -/
theorem dmag2_eq_normSq_dvect (V : M3 K) (px py pz : Bool) (p0 p1 : V3 K) :
    dmag2 V px py pz p0 p1 = V3.normSq (dvect V px py pz p0 p1) :=
  foldl_dmag2_eq V (p1 - p0) _ (p1 - p0)

/-- both loops see the two points through their difference only. -/
theorem dvect_add_right (V : M3 K) (px py pz : Bool) (p q t : V3 K) :
    dvect V px py pz (p + t) (q + t) = dvect V px py pz p q := by
  unfold dvect; rw [V3.add_sub_add_right]

theorem dmag2_add_right (V : M3 K) (px py pz : Bool) (p q t : V3 K) :
    dmag2 V px py pz (p + t) (q + t) = dmag2 V px py pz p q := by
  unfold dmag2; rw [V3.add_sub_add_right]

/-- `dvect` is one of the images the loops visit, the direct separation included. -/
theorem dvect_mem (V : M3 K) (px py pz : Bool) (p0 p1 : V3 K) :
    ∃ s ∈ allShifts px py pz, dvect V px py pz p0 p1 = shiftBy V (p1 - p0) s := by
  rcases foldl_dvectStep_mem V (p1 - p0) (imageShifts px py pz) (p1 - p0) with h | ⟨s, hs, h⟩
  · exact ⟨(0, 0, 0), List.mem_cons_self, by rw [shiftBy_zero]; exact h⟩
  · exact ⟨s, List.mem_cons_of_mem _ hs, h⟩

/-- where one candidate is strictly shorter than every candidate that differs from it, `dvect` is that candidate. -/
theorem dvect_eq_of_strict_min (V : M3 K) (px py pz : Bool) (p0 p1 : V3 K) (s : Int × Int × Int)
    (hs : s ∈ allShifts px py pz)
    (hmin : ∀ t ∈ allShifts px py pz, shiftBy V (p1 - p0) t = shiftBy V (p1 - p0) s ∨
      V3.normSq (shiftBy V (p1 - p0) s) < V3.normSq (shiftBy V (p1 - p0) t)) :
    dvect V px py pz p0 p1 = shiftBy V (p1 - p0) s := by
  unfold dvect
  apply foldl_dvectStep_eq_of_strict_min
  · rcases List.mem_cons.mp hs with h | h
    · left; rw [h, shiftBy_zero]
    · exact Or.inr ⟨s, h, rfl⟩
  · have := hmin (0, 0, 0) List.mem_cons_self
    rwa [shiftBy_zero] at this
  · exact fun t ht => hmin t (List.mem_cons_of_mem _ ht)

/-- `dvect` is no longer than the separation seen through any shift of the loop ranges. -/
theorem dvect_le_image (V : M3 K) (px py pz : Bool) (p q : V3 K) (x y z : Int)
    (hx : x ∈ pbcRange px) (hy : y ∈ pbcRange py) (hz : z ∈ pbcRange pz) :
    V3.normSq (dvect V px py pz p q) ≤ V3.normSq (shiftBy V (q - p) (x, y, z)) := by
  obtain ⟨h1, h2⟩ := foldl_dvectStep_le V (q - p) (imageShifts px py pz) (q - p)
  by_cases h0 : (x, y, z) = ((0, 0, 0) : Int × Int × Int)
  · rw [h0, shiftBy_zero]; exact h1
  · exact h2 _ (mem_imageShifts.mpr ⟨hx, hy, hz, h0⟩)

/-- `dmag2` is the least squared length of a candidate: it is below `t` exactly when a candidate is. -/
theorem dmag2_lt_iff (V : M3 K) (px py pz : Bool) (p0 p1 : V3 K) (t : K) :
    dmag2 V px py pz p0 p1 < t ↔ ∃ s ∈ allShifts px py pz, V3.normSq (shiftBy V (p1 - p0) s) < t := by
  rw [dmag2_eq_normSq_dvect]
  constructor
  · intro h
    obtain ⟨s, hs, e⟩ := dvect_mem V px py pz p0 p1
    exact ⟨s, hs, e ▸ h⟩
  · rintro ⟨s, hs, h⟩
    obtain ⟨hx, hy, hz⟩ := mem_allShifts.mp hs
    exact (dvect_le_image V px py pz p0 p1 s.1 s.2.1 s.2.2 hx hy hz).trans_lt h

/-- two periodic distances agree when the candidates of each are matched by candidates of the other with the same
    squared length: every invariance of `dmag2` only has to name the two maps of shifts. -/
theorem dmag2_congr {V V' : M3 K} {px py pz px' py' pz' : Bool} {p0 p1 p0' p1' : V3 K}
    (φ ψ : Int × Int × Int → Int × Int × Int)
    (hφ : ∀ s ∈ allShifts px py pz, φ s ∈ allShifts px' py' pz' ∧
      V3.normSq (shiftBy V' (p1' - p0') (φ s)) = V3.normSq (shiftBy V (p1 - p0) s))
    (hψ : ∀ s ∈ allShifts px' py' pz', ψ s ∈ allShifts px py pz ∧
      V3.normSq (shiftBy V (p1 - p0) (ψ s)) = V3.normSq (shiftBy V' (p1' - p0') s)) :
    dmag2 V' px' py' pz' p0' p1' = dmag2 V px py pz p0 p1 := by
  refine eq_of_forall_gt_iff fun t => ?_
  rw [dmag2_lt_iff, dmag2_lt_iff]
  exact ⟨fun ⟨s, hs, h⟩ => ⟨ψ s, (hψ s hs).1, (hψ s hs).2 ▸ h⟩, fun ⟨s, hs, h⟩ => ⟨φ s, (hφ s hs).1, (hφ s hs).2 ▸ h⟩⟩

theorem dmag2_symm (V : M3 K) (px py pz : Bool) (p0 p1 : V3 K) : dmag2 V px py pz p0 p1 = dmag2 V px py pz p1 p0 := by
  have mem : ∀ s ∈ allShifts px py pz, (-s.1, -s.2.1, -s.2.2) ∈ allShifts px py pz :=
    fun s hs => by
      rw [mem_allShifts] at hs ⊢
      exact ⟨neg_mem_pbcRange hs.1, neg_mem_pbcRange hs.2.1, neg_mem_pbcRange hs.2.2⟩
  exact dmag2_congr _ _ (fun s hs => ⟨mem s hs, normSq_shiftBy_neg V p1 p0 s⟩)
    (fun s hs => ⟨mem s hs, normSq_shiftBy_neg V p0 p1 s⟩)

/-- the first two cell vectors exchanged, with their periodicity flags. -/
theorem dmag2_swapVec (V : M3 K) (px py pz : Bool) (p0 p1 : V3 K) :
    dmag2 ⟨V.r1, V.r0, V.r2⟩ py px pz p0 p1 = dmag2 V px py pz p0 p1 := by
  have key : ∀ (W : M3 K) (s : Int × Int × Int), V3.normSq (shiftBy ⟨W.r1, W.r0, W.r2⟩ (p1 - p0) (s.2.1, s.1, s.2.2))
      = V3.normSq (shiftBy W (p1 - p0) s) := fun W s => by
    refine congrArg V3.normSq (V3.ext ?_ ?_ ?_) <;> simp only [shiftBy] <;> ring
  have mem : ∀ {a b c : Bool} {s : Int × Int × Int}, s ∈ allShifts a b c →
      (s.2.1, s.1, s.2.2) ∈ allShifts b a c := fun hs => by
    rw [mem_allShifts] at hs ⊢
    exact ⟨hs.2.1, hs.1, hs.2.2⟩
  exact dmag2_congr (fun s => (s.2.1, s.1, s.2.2)) (fun s => (s.2.1, s.1, s.2.2))
    (fun s hs => ⟨mem hs, key V s⟩) (fun s hs => ⟨mem hs, key ⟨V.r1, V.r0, V.r2⟩ s⟩)

/-- the three cell vectors rotated, with their periodicity flags. -/
theorem dmag2_cycleVec (V : M3 K) (px py pz : Bool) (p0 p1 : V3 K) :
    dmag2 ⟨V.r1, V.r2, V.r0⟩ py pz px p0 p1 = dmag2 V px py pz p0 p1 := by
  refine dmag2_congr (fun s => (s.2.1, s.2.2, s.1)) (fun s => (s.2.2, s.1, s.2.1)) (fun s hs => ⟨?_, ?_⟩)
    (fun s hs => ⟨?_, ?_⟩)
  · rw [mem_allShifts] at hs ⊢; exact ⟨hs.2.1, hs.2.2, hs.1⟩
  · refine congrArg V3.normSq (V3.ext ?_ ?_ ?_) <;> simp only [shiftBy] <;> ring
  · rw [mem_allShifts] at hs ⊢; exact ⟨hs.2.2, hs.1, hs.2.1⟩
  · refine congrArg V3.normSq (V3.ext ?_ ?_ ?_) <;> simp only [shiftBy] <;> ring

end fold

section smul
variable {K : Type} [CommRing K] [LinearOrder K] [IsStrictOrderedRing K]

theorem dmag2_nonneg (V : M3 K) (px py pz : Bool) (p0 p1 : V3 K) : 0 ≤ dmag2 V px py pz p0 p1 := by
  rw [dmag2_eq_normSq_dvect]; exact V3.normSq_nonneg _

/-- a point and one of its own images in the loop ranges are at periodic distance zero. -/
theorem dvect_image_zero (V : M3 K) (px py pz : Bool) (q : V3 K) (x y z : Int)
    (hx : x ∈ pbcRange px) (hy : y ∈ pbcRange py) (hz : z ∈ pbcRange pz) :
    V3.normSq (dvect V px py pz (shiftBy V q (x, y, z)) q) = 0 := by
  refine le_antisymm (le_trans (dvect_le_image V px py pz _ q x y z hx hy hz) (le_of_eq ?_)) (V3.normSq_nonneg _)
  rw [shiftBy_sub_shiftBy]
  simp only [V3.normSq, V3.dot, V3.sub_x, V3.sub_y, V3.sub_z, sub_self, mul_zero, add_zero]

/-- scaling cell, separation and start value by `c ≠ 0` scales what the fold keeps: both sides of every comparison
    carry the factor `c * c > 0`. -/
theorem foldl_dvectStep_smul (c : K) (hc : c ≠ 0) (V : M3 K) (d0 : V3 K) (l : List (Int × Int × Int)) (acc : V3 K) :
    l.foldl (dvectStep (M3.smul c V) (V3.smul c d0)) (V3.smul c acc) = V3.smul c (l.foldl (dvectStep V d0) acc) :=
  List.foldl_hom (V3.smul c) fun d s => by
    rw [dvectStep_eq, dvectStep_eq, shiftBy_smul, V3.normSq_smul, V3.normSq_smul, apply_ite (V3.smul c)]
    simp only [mul_lt_mul_iff_right₀ (mul_self_pos.2 hc)]

theorem dvect_smul (c : K) (hc : c ≠ 0) (V : M3 K) (px py pz : Bool) (p q : V3 K) :
    dvect (M3.smul c V) px py pz (V3.smul c p) (V3.smul c q) = V3.smul c (dvect V px py pz p q) := by
  unfold dvect
  rw [V3.smul_sub]
  exact foldl_dvectStep_smul c hc V (q - p) _ (q - p)

theorem dmag2_smul (c : K) (hc : c ≠ 0) (V : M3 K) (px py pz : Bool) (p q : V3 K) :
    dmag2 (M3.smul c V) px py pz (V3.smul c p) (V3.smul c q) = c * c * dmag2 V px py pz p q := by
  rw [dmag2_eq_normSq_dvect, dmag2_eq_normSq_dvect, dvect_smul c hc, V3.normSq_smul]

end smul
end Atomman
