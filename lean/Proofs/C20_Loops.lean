/-
  C20 — control flow of `ISMPath.relax` and `step`: the loop `relaxLoop` and its step count `phaseSteps`,
  the choice of the climbing images (`localMaxima`, `climbIndices`), climbing images named from the end.
-/
import Atomman.C20
import Proofs.Lists
import Mathlib.Logic.Function.Iterate
import Mathlib.Data.Rat.Init

namespace Atomman.C20

/-! `phaseSteps` / `relaxCounts` (step counts on a free list of measures) are what the driver op `phase` runs and the
scripted `relax` runs are compared with; `relaxLoop` is the loop `Path.relax` is written with and `gen_relax_eq_model` ties
to the source; `Path.relaxPhase` is the model of the loop on two-image paths that `relax(tolerance > 0)` is compared with. -/

theorem phaseSteps_le {L : Type} [LT L] [DecidableLT L] (tol : L) (n : Nat) (ds : List L) :
    phaseSteps tol n ds ≤ n := by
  fun_induction phaseSteps tol n ds with
  | case1 => exact Nat.le_refl 0
  | case2 => exact Nat.zero_le _
  | case3 n d ds hd => exact Nat.succ_le_succ (Nat.zero_le n)
  | case4 n d ds hd ih => rw [Nat.add_comm]; exact Nat.succ_le_succ ih

/-- the climbing phase performs at least one step whenever climbing was requested — whatever the
    relaxation phase did (in particular also when relaxation stopped by reaching the tolerance). -/
theorem climb_runs_when_requested {L : Type} [LT L] [DecidableLT L] (tol : L) (r c : Nat) (dsR dsC : List L)
    (hc : 0 < c) (hds : dsC ≠ []) : 1 ≤ (relaxCounts tol r c dsR dsC).2 := by
  match c, dsC, hc, hds with
  | c + 1, d :: ds, _, _ =>
    rw [relaxCounts, phaseSteps]
    split
    · exact Nat.le_refl 1
    · exact Nat.le_add_right 1 _

/-- a phase stops right after the first step whose displacement is below the tolerance, and not before. -/
theorem phaseSteps_stops_at_first_small {L : Type} [LT L] [DecidableLT L] (tol : L) (n : Nat) (pre : List L) (d : L)
    (post : List L) (hpre : ∀ x ∈ pre, ¬ x < tol) (hd : d < tol) (hn : pre.length < n) :
    phaseSteps tol n (pre ++ d :: post) = pre.length + 1 := by
  induction pre generalizing n with
  | nil =>
    obtain ⟨n, rfl⟩ := Nat.exists_eq_add_one.mpr hn
    exact if_pos hd
  | cons x xs ih =>
    obtain ⟨n, rfl⟩ := Nat.exists_eq_add_one.mpr (Nat.zero_lt_of_lt hn)
    obtain ⟨hx, hxs⟩ := List.forall_mem_cons.mp hpre
    rw [List.cons_append, phaseSteps, if_neg hx, ih n hxs (Nat.lt_of_succ_lt_succ hn), Nat.add_comm]
    rfl

/-- hypotheses of `phaseSteps_stops_at_first_small` (two measures at or above the tolerance, then one below, budget 5),
    of `climb_runs_when_requested`, and the budget cutting in first (`pre.length < n` fails). -/
example : phaseSteps (1/10 : ℚ) 5 ([1, 1/10] ++ 1/20 :: [3, 1/100]) = 3 ∧
    phaseSteps (1/10 : ℚ) 2 ([1, 1/10] ++ 1/20 :: [3, 1/100]) = 2 ∧
    (relaxCounts (1/10 : ℚ) 4 2 [1/100] [1, 1]).2 = 2 ∧ (relaxCounts (1/10 : ℚ) 0 2 [] [1/100, 1]).2 = 1 := by
  decide +kernel

section relaxloop
variable {P L : Type} [LT L] [DecidableLT L]

theorem relaxLoop_zero (step : P → P) (measure : P → P → L) (tol : L) (p : P) :
    relaxLoop step measure tol 0 p = (p, []) := rfl

/-- a loop asked for at least one pass makes at least one: the first pass is unconditional. -/
theorem relaxLoop_runs_once (step : P → P) (measure : P → P → L) (tol : L) (n : Nat) (hn : 0 < n) (p : P) :
    1 ≤ (relaxLoop step measure tol n p).2.length := by
  fun_induction relaxLoop step measure tol n p with
  | case1 p => exact absurd hn (Nat.lt_irrefl 0)
  | case2 n p q d hd => exact Nat.le_refl 1
  | case3 n p q d hd r ih => exact Nat.succ_le_succ (Nat.zero_le _)

theorem relaxLoop_eq_iterate (step : P → P) (measure : P → P → L) (tol : L) (n : Nat) (p : P) :
    (relaxLoop step measure tol n p).1 = step^[(relaxLoop step measure tol n p).2.length] p := by
  fun_induction relaxLoop step measure tol n p with
  | case1 p => rfl
  | case2 n p q d hd => rfl
  | case3 n p q d hd r ih => exact ih

theorem relaxLoop_length_eq_phaseSteps (step : P → P) (measure : P → P → L) (tol : L) (n : Nat) (p : P) :
    (relaxLoop step measure tol n p).2.length = phaseSteps tol n (relaxLoop step measure tol n p).2 := by
  fun_induction relaxLoop step measure tol n p with
  | case1 p => rfl
  | case2 n p q d hd => exact (if_pos hd).symm
  | case3 n p q d hd r ih => exact ((if_neg hd).trans ((Nat.add_comm _ _).trans (congrArg (· + 1) ih.symm))).symm

theorem relaxLoop_measures_length_le (step : P → P) (measure : P → P → L) (tol : L) (n : Nat) (p : P) :
    (relaxLoop step measure tol n p).2.length ≤ n :=
  Nat.le_trans (Nat.le_of_eq (relaxLoop_length_eq_phaseSteps step measure tol n p)) (phaseSteps_le tol n _)

theorem relaxLoop_invariant (step : P → P) (measure : P → P → L) (tol : L) (I : P → Prop)
    (hstep : ∀ q, I q → I (step q)) (n : Nat) (p : P) (hp : I p) : I (relaxLoop step measure tol n p).1 :=
  relaxLoop_eq_iterate step measure tol n p ▸ Function.Iterate.rec I hp hstep _

/-- two loops in a row, the second stepping in a way chosen from what the first one reached. -/
theorem relaxLoop_invariant₂ (I : P → Prop) (step₁ step₂ : P → P) (m₁ m₂ : P → P → L) (tol₁ tol₂ : L) (n₁ n₂ : Nat) (p : P)
    (h₁ : ∀ q, I q → I (step₁ q)) (hp : I p) (h₂ : I (relaxLoop step₁ m₁ tol₁ n₁ p).1 → ∀ q, I q → I (step₂ q)) :
    I (relaxLoop step₂ m₂ tol₂ n₂ (relaxLoop step₁ m₁ tol₁ n₁ p).1).1 :=
  have h1 := relaxLoop_invariant step₁ m₁ tol₁ I h₁ n₁ p hp
  relaxLoop_invariant step₂ m₂ tol₂ I (h₂ h1) n₂ _ h1

theorem relaxLoop_stopped_at (step : P → P) (measure : P → P → L) (tol : L) (n : Nat) (p : P)
    (h : (relaxLoop step measure tol n p).2.length < n) :
    ∃ k, k + 1 = (relaxLoop step measure tol n p).2.length ∧
      (relaxLoop step measure tol n p).2.getLast? = some (measure (step^[k] p) (step^[k + 1] p)) ∧
      measure (step^[k] p) (step^[k + 1] p) < tol := by
  fun_induction relaxLoop step measure tol n p with
  | case1 p => exact absurd h (Nat.lt_irrefl 0)
  | case2 n p q d hd => exact ⟨0, rfl, rfl, hd⟩
  | case3 n p q d hd r ih =>
    obtain ⟨k, h1, h2, h3⟩ := ih (Nat.lt_of_succ_lt_succ h)
    exact ⟨k + 1, congrArg (· + 1) h1, by rw [List.getLast?_cons, h2]; rfl, h3⟩

theorem relaxLoop_stopped_early (step : P → P) (measure : P → P → L) (tol : L) (n : Nat) (p : P)
    (h : (relaxLoop step measure tol n p).2.length < n) :
    ∃ d, (relaxLoop step measure tol n p).2.getLast? = some d ∧ d < tol :=
  let ⟨_, _, h2, h3⟩ := relaxLoop_stopped_at step measure tol n p h
  ⟨_, h2, h3⟩

theorem relaxLoop_measures_before_last (step : P → P) (measure : P → P → L) (tol : L) (n : Nat) (p : P) :
    ∀ d ∈ (relaxLoop step measure tol n p).2.dropLast, ¬ d < tol := by
  fun_induction relaxLoop step measure tol n p with
  | case1 p => exact fun _ h => nomatch h
  | case2 n p q d hd => exact fun _ h => nomatch h
  | case3 n p q d hd r ih =>
    show ∀ x ∈ (d :: r.2).dropLast, ¬ x < tol
    by_cases hr : r.2 = []
    · rw [hr]; exact fun _ h => nomatch h
    · rw [List.dropLast_cons_of_ne_nil hr]; exact List.forall_mem_cons.mpr ⟨hd, ih⟩

end relaxloop

/-- hypotheses of `relaxLoop_stopped_early` / `relaxLoop_measures_before_last` / `relaxLoop_runs_once` on a concrete loop
    (halving a rational, measure = the distance moved): tolerance `1/5` stops it after 3 of 10 passes, the measures before
    the last are not below the tolerance, the last is; with budget 2 it is cut off before converging. -/
example : relaxLoop (fun x : ℚ => x / 2) (fun x y => x - y) (1/5) 10 1 = (1/8, [1/2, 1/4, 1/8]) ∧
    relaxLoop (fun x : ℚ => x / 2) (fun x y => x - y) (1/5) 2 1 = (1/4, [1/2, 1/4]) := by
  decide +kernel

section peak
variable {L : Type} [LT L]

/-- image `j + 1` of a string with energies `E` is an interior maximum in the sense of `maxmap`: strictly above
    image `j`, not below image `j + 2`. -/
def IsPeak (E : List L) (j : Nat) : Prop :=
  ∃ a b c, E[j]? = some a ∧ E[j + 1]? = some b ∧ E[j + 2]? = some c ∧ a < b ∧ ¬ b < c

theorem isPeak_succ (x : L) (E : List L) (j : Nat) : IsPeak (x :: E) (j + 1) ↔ IsPeak E j := Iff.rfl

theorem isPeak_zero (a b c : L) (t : List L) : IsPeak (a :: b :: c :: t) 0 ↔ a < b ∧ ¬ b < c := by
  constructor
  · rintro ⟨_, _, _, h0, h1, h2, h⟩
    cases h0; cases h1; cases h2
    exact h
  · exact fun h => ⟨a, b, c, rfl, rfl, rfl, h⟩

theorem IsPeak.lt_length {E : List L} {j : Nat} : IsPeak E j → j + 2 < E.length
  | ⟨_, _, _, _, _, h2, _⟩ => (List.getElem?_eq_some_iff.mp h2).1

end peak

section sel
variable {L : Type} [LT L] [DecidableLT L]

theorem mem_localMaxima (k : Nat) (E : List L) (i : Nat) :
    i ∈ localMaxima k E ↔ ∃ j, i = j + 1 + k ∧ IsPeak E j := by
  fun_induction localMaxima k E with
  | case1 k a b c t hcond ih =>
    rw [List.mem_cons, ih]
    refine Iff.trans ?_ Nat.or_exists_add_one
    simp only [isPeak_succ, isPeak_zero, hcond, not_false_eq_true, and_self, and_true, Nat.zero_add,
      Nat.add_comm 1 k, ← Nat.add_assoc, Nat.add_right_comm _ 1 k]
  | case2 k a b c t hcond ih =>
    rw [ih]
    refine Iff.trans ?_ Nat.or_exists_add_one
    simp only [isPeak_succ, isPeak_zero, hcond, and_false, false_or, ← Nat.add_assoc, Nat.add_right_comm _ 1 k]
  | case3 E k hne =>
    refine iff_of_false List.not_mem_nil ?_
    rintro ⟨j, -, hp⟩
    match E, hp.lt_length with
    | a :: b :: c :: t, _ => exact hne a b c t rfl

theorem localMaxima_gt (k : Nat) (E : List L) : ∀ i ∈ localMaxima k E, k < i := by
  intro i hi
  obtain ⟨j, rfl, -⟩ := (mem_localMaxima k E i).mp hi
  exact Nat.lt_add_of_pos_left (Nat.succ_pos j)

theorem localMaxima_sorted (k : Nat) (E : List L) : (localMaxima k E).Pairwise (· < ·) := by
  fun_induction localMaxima k E with
  | case1 k a b c t hcond ih => exact List.pairwise_cons.mpr ⟨localMaxima_gt _ _, ih⟩
  | case2 k a b c t hcond ih => exact ih
  | case3 k E hne => exact List.Pairwise.nil

theorem localMaxima_length_le (k : Nat) (E : List L) : (localMaxima k E).length ≤ E.length := by
  fun_induction localMaxima k E with
  | case1 k a b c t hcond ih => exact Nat.succ_le_succ ih
  | case2 k a b c t hcond ih => exact Nat.le_succ_of_le ih
  | case3 k E hne => exact Nat.zero_le _

theorem climbIndices_length_le (cp : Nat) (E : List L) : (climbIndices cp E).length ≤ cp :=
  List.length_take_le _ _

/-- every chosen climbing image is an interior image whose energy is strictly above the previous and not below the
    next image's. -/
theorem climbIndices_interior_max (cp : Nat) (E : List L) (i : Nat) (hi : i ∈ climbIndices cp E) :
    0 < i ∧ i + 1 < E.length ∧
      ∃ a b c, E[i - 1]? = some a ∧ E[i]? = some b ∧ E[i + 1]? = some c ∧ a < b ∧ ¬ b < c := by
  obtain ⟨j, rfl, hp⟩ := (mem_localMaxima 0 E i).mp (List.mem_of_mem_take hi)
  exact ⟨Nat.succ_pos j, hp.lt_length, hp⟩

theorem mem_take_of_lt_mem_take {l : List Nat} (hs : l.Pairwise (· < ·)) {n x y : Nat} (hx : x ∈ l)
    (hy : y ∈ l.take n) (hlt : x < y) : x ∈ l.take n := by
  rw [← List.take_append_drop n l] at hs hx
  rcases List.mem_append.mp hx with h | h
  · exact h
  · exact absurd ((List.pairwise_append.mp hs).2.2 y hy x h) (Nat.lt_asymm hlt)

/-- the chosen images are the *first* `cp` such maxima in path order. -/
theorem climbIndices_first (cp : Nat) (E : List L) (i i' : Nat) (hi : i ∈ climbIndices cp E) (hlt : i' < i)
    (a b c : L) (hpos : 0 < i') (h0 : E[i' - 1]? = some a) (h1 : E[i']? = some b) (h2 : E[i' + 1]? = some c)
    (hab : a < b) (hcb : ¬ b < c) : i' ∈ climbIndices cp E := by
  obtain ⟨j, rfl⟩ : ∃ j, i' = j + 1 := ⟨i' - 1, (Nat.sub_add_cancel hpos).symm⟩
  exact mem_take_of_lt_mem_take (localMaxima_sorted 0 E)
    ((mem_localMaxima 0 E _).mpr ⟨j, rfl, a, b, c, h0, h1, h2, hab, hcb⟩) hi hlt

/-- with enough climbing points every such maximum climbs. -/
theorem climbIndices_complete (cp : Nat) (E : List L) (hcp : E.length ≤ cp) (j : Nat) (a b c : L)
    (h0 : E[j]? = some a) (h1 : E[j + 1]? = some b) (h2 : E[j + 2]? = some c) (hab : a < b) (hcb : ¬ b < c) :
    j + 1 ∈ climbIndices cp E := by
  rw [climbIndices, List.take_of_length_le (Nat.le_trans (localMaxima_length_le 0 E) hcp)]
  exact (mem_localMaxima 0 E _).mpr ⟨j, rfl, a, b, c, h0, h1, h2, hab, hcb⟩

/-- the climbing images `relax` chooses are increasing interior images: what the re-spacing of `step` needs. -/
theorem climbIndices_sorted_interior (cp : Nat) (E : List L) :
    List.Pairwise (· < ·) (0 :: climbIndices cp E) ∧ ∀ c ∈ climbIndices cp E, c + 1 < E.length := by
  refine ⟨List.pairwise_cons.mpr ⟨fun c hc => (climbIndices_interior_max cp E c hc).1, ?_⟩,
    fun c hc => (climbIndices_interior_max cp E c hc).2.1⟩
  exact List.Pairwise.sublist (List.take_sublist _ _) (localMaxima_sorted 0 E)

example : climbIndices 1 [0, 2, 1, 3, (0 : Int)] = [1] := by decide
example : climbIndices 2 [0, 2, 1, 3, (0 : Int)] = [1, 3] := by decide
example : climbIndices 1 [3, 1, 1, 2, 2, (0 : Int)] = [3] := by decide
example : climbIndices 3 [0, 1, 1, (0 : Int)] = [1] := by decide
example : climbIndices 3 [2, 1, 1, (3 : Int)] = [] := by decide
end sel

/-- the model's `pyIndex?` is the shared `pyNorm` (`n + i` written `i + n`). -/
theorem pyIndex?_eq : @pyIndex? = pyNorm := by
  funext n i
  rw [pyIndex?, pyNorm, Int.add_comm n i]

theorem pyIndex_nonneg (n i : Nat) (h : i < n) : pyIndex? n (i : Int) = some i := by
  rw [pyIndex?_eq]; exact pyNorm_natCast h

/-- an image named from the end (`i - n`, i.e. `-1` for the last one) is the image `i`. -/
theorem pyIndex_neg_equiv (n i : Nat) (h : i < n) : pyIndex? n ((i : Int) - (n : Int)) = some i := by
  rw [pyIndex?_eq]; exact pyNorm_sub_length h

/-- indices outside `-n … n-1` are refused, never silently dropped. -/
theorem pyIndex_out_of_range (n : Nat) (i : Int) (h : i < -(n : Int) ∨ (n : Int) ≤ i) : pyIndex? n i = none := by
  rw [pyIndex?_eq]; exact pyNorm_eq_none_iff.mpr h

/-- a list of climbing images named from the end is the list named from the front: `step(climbindex=[i - N, …])`
    is `step(climbindex=[i, …])`. -/
theorem climbImages_neg_equiv (n : Nat) (cs : List Nat) (h : ∀ i ∈ cs, i < n) :
    climbImages? n (cs.map (fun (i : Nat) => (i : Int) - (n : Int))) = some cs ∧
    climbImages? n (cs.map (fun (i : Nat) => (i : Int))) = some cs := by
  induction cs with
  | nil => exact ⟨rfl, rfl⟩
  | cons a t ih =>
    have ha : a < n := h a (List.mem_cons_self)
    have ht : ∀ i ∈ t, i < n := fun i hi => h i (List.mem_cons_of_mem a hi)
    obtain ⟨ih1, ih2⟩ := ih ht
    constructor
    · rw [List.map_cons, climbImages?, pyIndex_neg_equiv n a ha, ih1]
    · rw [List.map_cons, climbImages?, pyIndex_nonneg n a ha, ih2]

example : climbImages? 12 [-6] = some [6] ∧ climbImages? 12 [6] = some [6] ∧ climbImages? 12 [-13] = none := by decide

end Atomman.C20
