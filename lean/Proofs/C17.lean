/-
  C17 — analysis tools recover a known imposed deformation exactly.  The property theorems are in the modules imported here,
  by subject (DESIGN.md `### C17`), each followed by its non-vacuity `example`s over ℚ; `K` is any linearly ordered field.  This
  module holds what spans the tools: their behaviour under a joint translation, a renumbering of the atoms, another Cartesian
  frame, another order of the box vectors (instances for the last two: Proofs/C17_Image.lean, after `dvCell_isometry` and
  `dvCell_reversed`).
-/
import Proofs.C17_Calls
-- the source obligations; they also arrive through C17_Measures, and are named here because the check reads them through this module
import Proofs.C17_Source

namespace Atomman.C17
open Atomman


variable {K : Type} [Field K] [LinearOrder K] [IsStrictOrderedRing K]

/-- Adding the same vector `t` to every position of both systems (cell vectors
    unchanged; the box origin never enters) changes none of: displacement, slip vector, differential displacement,
    the neighbour vectors `p`/`q` and hence `G`, the Nye tensor. -/
theorem translation_invariant (c0 c1 : Cell K) (pos0 pos1 : Nat → V3 K) (t : V3 K) (nbrs nbrs1 : List Nat) (i j : Nat)
    (mag : V3 K → K) (cosMax big : K) :
    displacement c1 (fun k => pos0 k + t) (fun k => pos1 k + t) i = displacement c1 pos0 pos1 i ∧
    slipVector c0 (fun k => pos0 k + t) (fun k => pos1 k + t) nbrs i = slipVector c0 pos0 pos1 nbrs i ∧
    ddvector c0 c1 (fun k => pos0 k + t) (fun k => pos1 k + t) i j = ddvector c0 c1 pos0 pos1 i j ∧
    strainG mag cosMax big c0 c1 (fun k => pos0 k + t) (fun k => pos1 k + t) nbrs nbrs1 i
      = strainG mag cosMax big c0 c1 pos0 pos1 nbrs nbrs1 i ∧
    (∀ G : Nat → M3 K, nye c1 (fun k => pos1 k + t) G nbrs1 i = nye c1 pos1 G nbrs1 i) := by
  have hn : ∀ (c : Cell K) (pos : Nat → V3 K) (l : List Nat),
      nbrVectors c (fun k => pos k + t) l i = nbrVectors c pos l i := by
    intro c pos l; simp only [nbrVectors, dv_translate]
  refine ⟨?_, ?_, ?_, ?_, ?_⟩
  · simp only [displacement, dv_translate]
  · unfold slipVector
    apply List.foldl_ext
    intro b a _
    simp only [slipStep, dv_translate]
  · simp only [ddvector, dv_translate]
  · simp only [strainG, hn]
  · intro G; simp only [nye, hn]

set_option linter.unusedSectionVars false in
/-- Renumber the atoms of both systems by `σ` (positions, neighbour lists and the
    per-atom tensor field carried along): every per-atom result is carried along with its atom. -/
theorem permutation_equivariant (c0 c1 : Cell K) (pos0 pos1 pos0' pos1' : Nat → V3 K) (σ : Nat → Nat)
    (h0 : ∀ k, pos0' (σ k) = pos0 k) (h1 : ∀ k, pos1' (σ k) = pos1 k)
    (nbrs nbrs1 : List Nat) (i j : Nat) (mag : V3 K → K) (cosMax big : K) :
    displacement c1 pos0' pos1' (σ i) = displacement c1 pos0 pos1 i ∧
    slipVector c0 pos0' pos1' (nbrs.map σ) (σ i) = slipVector c0 pos0 pos1 nbrs i ∧
    ddvector c0 c1 pos0' pos1' (σ i) (σ j) = ddvector c0 c1 pos0 pos1 i j ∧
    strainG mag cosMax big c0 c1 pos0' pos1' (nbrs.map σ) (nbrs1.map σ) (σ i)
      = strainG mag cosMax big c0 c1 pos0 pos1 nbrs nbrs1 i ∧
    (∀ G G' : Nat → M3 K, (∀ k, G' (σ k) = G k) →
      nye c1 pos1' G' (nbrs1.map σ) (σ i) = nye c1 pos1 G nbrs1 i) := by
  have hn : ∀ (c : Cell K) (pos pos' : Nat → V3 K), (∀ k, pos' (σ k) = pos k) → ∀ (l : List Nat),
      nbrVectors c pos' (l.map σ) (σ i) = nbrVectors c pos l i := by
    intro c pos pos' h l; simp only [nbrVectors, List.map_map, Function.comp_def, h]
  refine ⟨?_, ?_, ?_, ?_, ?_⟩
  · simp only [displacement, h0, h1]
  · unfold slipVector
    rw [List.foldl_map]
    apply List.foldl_ext
    intro b a _
    simp only [slipStep, h0, h1]
  · simp only [ddvector, h0, h1]
  · simp only [strainG, hn c0 pos0 pos0' h0, hn c1 pos1 pos1' h1]
  · intro G G' hG
    simp only [nye, hn c1 pos1 pos1' h1, List.map_map, Function.comp_def, hG]

/-- Both systems seen in another Cartesian frame — positions and box vectors mapped by an
    isometry `F` (`FᵀF = I`: rotations, axis permutations, reflections; the cell `vects·Fᵀ` may then carry its zero entries
    anywhere, be upper-triangular or left-handed) —: wherever the periodic images are decided (one candidate is the strict
    minimum), displacement, differential displacement and slip vector are the old ones mapped by `F`.  No assumption on
    the shape of the cell. -/
theorem frame_equivariant (F : M3 K) (hR : M3.mul F.transpose F = M3.one) (c0 c1 : Cell K) (pos0 pos1 : Nat → V3 K)
    (nbrs : List Nat) (i j : Nat)
    (hd : UniqueImage c1 (pos0 i) (pos1 i))
    (h0 : UniqueImage c0 (pos0 i) (pos0 j)) (h1 : UniqueImage c1 (pos1 i) (pos1 j))
    (hs : ∀ k ∈ nbrs, UniqueImage c0 (pos0 i) (pos0 k) ∧ UniqueImage c0 (pos1 i) (pos1 k)) :
    displacement (c1.frame F) (fun k => M3.mulVec F (pos0 k)) (fun k => M3.mulVec F (pos1 k)) i
      = M3.mulVec F (displacement c1 pos0 pos1 i) ∧
    ddvector (c0.frame F) (c1.frame F) (fun k => M3.mulVec F (pos0 k)) (fun k => M3.mulVec F (pos1 k)) i j
      = M3.mulVec F (ddvector c0 c1 pos0 pos1 i j) ∧
    slipVector (c0.frame F) (fun k => M3.mulVec F (pos0 k)) (fun k => M3.mulVec F (pos1 k)) nbrs i
      = M3.mulVec F (slipVector c0 pos0 pos1 nbrs i) := by
  refine ⟨?_, ?_, ?_⟩
  · simp only [displacement]; exact dvCell_isometry F hR c1 _ _ hd
  · simp only [ddvector, M3.mulVec_sub, dvCell_isometry F hR c1 _ _ h1, dvCell_isometry F hR c0 _ _ h0]
  · unfold slipVector
    have := foldl_hom_mem (M3.mulVec F) (slipStep c0 pos0 pos1 i)
      (slipStep (c0.frame F) (fun k => M3.mulVec F (pos0 k)) (fun k => M3.mulVec F (pos1 k)) i) nbrs zero3 fun acc k hk => by
      simp only [slipStep, dvCell_isometry F hR c0 _ _ (hs k hk).1, dvCell_isometry F hR c0 _ _ (hs k hk).2, M3.mulVec_sub]
    rwa [show M3.mulVec F (zero3 : V3 K) = zero3 from M3.mulVec_zero F] at this

/-- Displacement, differential displacement and slip vector do not depend on the order in which
    the box vectors are listed (generators: exchange of the first two / the last two vectors with their flags), wherever
    the images are decided. -/
theorem rows_reordered (c0 c1 : Cell K) (pos0 pos1 : Nat → V3 K) (nbrs : List Nat) (i j : Nat)
    (hd : UniqueImage c1 (pos0 i) (pos1 i))
    (h0 : UniqueImage c0 (pos0 i) (pos0 j)) (h1 : UniqueImage c1 (pos1 i) (pos1 j))
    (hs : ∀ k ∈ nbrs, UniqueImage c0 (pos0 i) (pos0 k) ∧ UniqueImage c0 (pos1 i) (pos1 k)) :
    (displacement c1.swap01 pos0 pos1 i = displacement c1 pos0 pos1 i ∧
     displacement c1.swap12 pos0 pos1 i = displacement c1 pos0 pos1 i) ∧
    (ddvector c0.swap01 c1.swap01 pos0 pos1 i j = ddvector c0 c1 pos0 pos1 i j ∧
     ddvector c0.swap12 c1.swap12 pos0 pos1 i j = ddvector c0 c1 pos0 pos1 i j) ∧
    (slipVector c0.swap01 pos0 pos1 nbrs i = slipVector c0 pos0 pos1 nbrs i ∧
     slipVector c0.swap12 pos0 pos1 nbrs i = slipVector c0 pos0 pos1 nbrs i) := by
  refine ⟨⟨?_, ?_⟩, ⟨?_, ?_⟩, ⟨?_, ?_⟩⟩
  · simp only [displacement]; exact dvCell_swap01 c1 _ _ hd
  · simp only [displacement]; exact dvCell_swap12 c1 _ _ hd
  · simp only [ddvector, dvCell_swap01 c1 _ _ h1, dvCell_swap01 c0 _ _ h0]
  · simp only [ddvector, dvCell_swap12 c1 _ _ h1, dvCell_swap12 c0 _ _ h0]
  · unfold slipVector
    apply List.foldl_ext
    intro acc k hk
    simp only [slipStep, dvCell_swap01 c0 _ _ (hs k hk).1, dvCell_swap01 c0 _ _ (hs k hk).2]
  · unfold slipVector
    apply List.foldl_ext
    intro acc k hk
    simp only [slipStep, dvCell_swap12 c0 _ _ (hs k hk).1, dvCell_swap12 c0 _ _ (hs k hk).2]

end Atomman.C17
