/-
  C04 — "every centering setting with a compatible cell": the entry tests of `conventional_to_primitive` as functions of
  the CALLER's tolerances — which comparisons `identifyFamily` (`Box.identifyfamily`) looks at, the family lists of the
  settings and what `check_family` changes, the lattice-site test with a tolerance (`onSiteTol`), and the setting the
  conversion works with (`resolveSetting`: `'t'` tries `t1` and `t2`).
-/
import Proofs.C04_Accept

namespace Atomman.C04
open Atomman

section
variable {K : Type}

/-- `identifyFamily` consults the closeness test on these pairs ONLY: `(a,b)`, `(a,c)`, the three angles against 90,
    `gamma` against 120, `alpha` against `beta` and `gamma`.  Two closeness tests that agree there give the same family:
    whether `b` and `c` (or `beta` and `gamma`) coincide is never looked at. -/
theorem identifyFamily_congr (cl cl' : K → K → Bool) (n90 n120 : K) (p : Cell6 K)
    (hab : cl p.a p.b = cl' p.a p.b) (hac : cl p.a p.c = cl' p.a p.c)
    (h1 : cl p.al n90 = cl' p.al n90) (h2 : cl p.be n90 = cl' p.be n90) (h3 : cl p.ga n90 = cl' p.ga n90)
    (h4 : cl p.ga n120 = cl' p.ga n120) (h5 : cl p.al p.be = cl' p.al p.be) (h6 : cl p.al p.ga = cl' p.al p.ga) :
    identifyFamily cl n90 n120 p = identifyFamily cl' n90 n120 p := by
  unfold identifyFamily isCubic isHexagonal isTetragonal isRhombohedral isOrthorhombic isMonoclinic isTriclinic
  rw [hab, hac, h1, h2, h3, h4, h5, h6]

/-- the family does not depend on `b`, `c` beyond their comparison with `a`: replacing `c` by any `c'` that compares
    with `a` as `c` does (in particular `c' = b`) leaves the family unchanged. -/
theorem identifyFamily_c_irrelevant (cl : K → K → Bool) (n90 n120 : K) (p : Cell6 K) (c' : K)
    (h : cl p.a c' = cl p.a p.c) :
    identifyFamily cl n90 n120 { p with c := c' } = identifyFamily cl n90 n120 p := by
  unfold identifyFamily isCubic isHexagonal isTetragonal isRhombohedral isOrthorhombic isMonoclinic isTriclinic
  simp only [h]

/-- `a ≠ b`, `a ≠ c`, three right angles: orthorhombic - whatever `b` is against `c` (`Box.orthorhombic(3, 4, 4)`). -/
theorem family_orthorhombic (cl : K → K → Bool) (n90 n120 : K) (p : Cell6 K)
    (hab : cl p.a p.b = false) (hac : cl p.a p.c = false)
    (h1 : cl p.al n90 = true) (h2 : cl p.be n90 = true) (h3 : cl p.ga n90 = true) :
    identifyFamily cl n90 n120 p = some .orthorhombic := by
  simp [identifyFamily, isCubic, isHexagonal, isTetragonal, isRhombohedral, isOrthorhombic, hab, hac, h1, h2, h3]

/-- `a ≠ b`, `a ≠ c`, `alpha = gamma = 90 ≠ beta`: monoclinic - whatever `b` is against `c`. -/
theorem family_monoclinic (cl : K → K → Bool) (n90 n120 : K) (p : Cell6 K)
    (hab : cl p.a p.b = false) (hac : cl p.a p.c = false)
    (h1 : cl p.al n90 = true) (h2 : cl p.be n90 = false) (h3 : cl p.ga n90 = true) :
    identifyFamily cl n90 n120 p = some .monoclinic := by
  simp [identifyFamily, isCubic, isHexagonal, isTetragonal, isRhombohedral, isOrthorhombic, isMonoclinic, hab, hac, h1,
    h2, h3]

/-- `a ≠ b`, `a ≠ c`, `alpha ≠ beta`, `alpha ≠ gamma`, and `alpha`, `gamma` not both right angles: triclinic - whatever
    `b` is against `c` and `beta` against `gamma`. -/
theorem family_triclinic (cl : K → K → Bool) (n90 n120 : K) (p : Cell6 K)
    (hab : cl p.a p.b = false) (hac : cl p.a p.c = false)
    (h5 : cl p.al p.be = false) (h6 : cl p.al p.ga = false) (h13 : cl p.al n90 = false ∨ cl p.ga n90 = false) :
    identifyFamily cl n90 n120 p = some .triclinic := by
  rcases h13 with h | h <;>
    simp [identifyFamily, isCubic, isHexagonal, isTetragonal, isRhombohedral, isOrthorhombic, isMonoclinic,
      isTriclinic, hab, hac, h5, h6, h]

/-- `a = b`, `alpha = beta = 90`, `gamma = 120` (and not 90): hexagonal - whatever `c` is against `a`. -/
theorem family_hexagonal (cl : K → K → Bool) (n90 n120 : K) (p : Cell6 K)
    (hab : cl p.a p.b = true) (h1 : cl p.al n90 = true) (h2 : cl p.be n90 = true) (h3 : cl p.ga n90 = false)
    (h4 : cl p.ga n120 = true) :
    identifyFamily cl n90 n120 p = some .hexagonal := by
  simp [identifyFamily, isCubic, isHexagonal, hab, h1, h2, h3, h4]

/-- with exact comparison the preconditions of `Box.triclinic` (`a ≠ b`, `a ≠ c`, `alpha ≠ beta`, `alpha ≠ gamma`) are
    enough. -/
theorem family_triclinic_exact [DecidableEq K] (n90 n120 : K) (p : Cell6 K)
    (hab : p.a ≠ p.b) (hac : p.a ≠ p.c) (h5 : p.al ≠ p.be) (h6 : p.al ≠ p.ga) :
    identifyFamily (fun x y => decide (x = y)) n90 n120 p = some .triclinic := by
  apply family_triclinic
  · simpa using hab
  · simpa using hac
  · simpa using h5
  · simpa using h6
  · by_cases h : p.al = n90
    · right
      simp only [decide_eq_false_iff_not]
      intro hg
      exact h6 (h.trans hg.symm)
    · left
      simpa using h

end

theorem familyAllowed_orthorhombic :
    ∀ s ∈ ["p", "i", "f", "a", "b", "c"], familyAllowed s (some .orthorhombic) = true := by decide

theorem familyAllowed_monoclinic :
    ∀ s ∈ ["p", "a", "b", "c"], familyAllowed s (some .monoclinic) = true := by decide

theorem familyAllowed_hexagonal :
    ∀ s ∈ ["p", "t1", "t2"], familyAllowed s (some .hexagonal) = true := by decide

/-- a cell whose family is not identified is refused under every setting (documented behaviour of `check_family`). -/
theorem familyAllowed_none (s : String) : familyAllowed s none = false := by
  unfold familyAllowed
  split <;> simp_all

theorem settingFamilies_some_iff (s : String) :
    (settingFamilies s).isSome ↔ s ∈ ["p", "i", "f", "a", "b", "c", "t1", "t2"] := by
  unfold settingFamilies
  split <;> simp_all

/-- a setting that allows any family has a family list; the converse directions below then are facts about the
    eight rows of the table. -/
theorem familyAllowed_setting (s : String) (fam : Option Family) (h : familyAllowed s fam = true) :
    s ∈ ["p", "i", "f", "a", "b", "c", "t1", "t2"] := by
  rw [← settingFamilies_some_iff]
  unfold familyAllowed at h
  split at h
  · simp only [*, Option.isSome_some]
  · exact absurd h (by simp)

theorem familyAllowed_orthorhombic_iff (s : String) :
    familyAllowed s (some .orthorhombic) = true ↔ s ∈ ["p", "i", "f", "a", "b", "c"] := by
  have rows : ∀ s ∈ ["p", "i", "f", "a", "b", "c", "t1", "t2"], familyAllowed s (some .orthorhombic) = true →
      s ∈ ["p", "i", "f", "a", "b", "c"] := by decide
  exact ⟨fun h => rows s (familyAllowed_setting s _ h) h, familyAllowed_orthorhombic s⟩

theorem familyAllowed_monoclinic_iff (s : String) :
    familyAllowed s (some .monoclinic) = true ↔ s ∈ ["p", "a", "b", "c"] := by
  have rows : ∀ s ∈ ["p", "i", "f", "a", "b", "c", "t1", "t2"], familyAllowed s (some .monoclinic) = true →
      s ∈ ["p", "a", "b", "c"] := by decide
  exact ⟨fun h => rows s (familyAllowed_setting s _ h) h, familyAllowed_monoclinic s⟩

theorem familyAllowed_hexagonal_iff (s : String) :
    familyAllowed s (some .hexagonal) = true ↔ s ∈ ["p", "t1", "t2"] := by
  have rows : ∀ s ∈ ["p", "i", "f", "a", "b", "c", "t1", "t2"], familyAllowed s (some .hexagonal) = true →
      s ∈ ["p", "t1", "t2"] := by decide
  exact ⟨fun h => rows s (familyAllowed_setting s _ h) h, familyAllowed_hexagonal s⟩

section
variable {K : Type} [Field K] [LinearOrder K] [IsStrictOrderedRing K] [FloorRing K]

set_option linter.unusedSectionVars false in
/-- for a cell whose family is in the setting's list the family test changes nothing: `check_family=True` and
    `check_family=False` give the same verdict. -/
theorem checkSettingBasis_member (fl : K → Int) (fam : Option Family) (b : Box K) (atol2 : K) (setting : String)
    (atoms : List (Atom K)) (h : familyAllowed setting fam = true) :
    checkSettingBasis fl fam b atol2 true setting atoms = checkSettingBasis fl fam b atol2 false setting atoms := by
  unfold checkSettingBasis
  cases settingSites (K := K) setting with
  | none => rfl
  | some sites => simp [h]

set_option linter.unusedSectionVars false in
/-- a cell whose family is NOT in the setting's list (or not identified) is refused with `check_family=True`, whatever
    its atoms. -/
theorem checkSettingBasis_refuses_family (fl : K → Int) (fam : Option Family) (b : Box K) (atol2 : K) (setting : String)
    (atoms : List (Atom K)) (sites : List (V3 K)) (hs : settingSites (K := K) setting = some sites)
    (h : familyAllowed setting fam = false) :
    checkSettingBasis fl fam b atol2 true setting atoms = some (some false) := by
  unfold checkSettingBasis
  simp [hs, h]

theorem nearK_int (fl : K → Int) (hfl : ∀ x, fl x = ⌊x⌋) (n : Int) : nearK fl (n : K) = n := by
  unfold nearK
  rw [hfl, half_eq]
  exact floor_add_half _ n (by rw [sub_self, abs_zero]; norm_num)

theorem nearK_add_int (fl : K → Int) (hfl : ∀ x, fl x = ⌊x⌋) (x : K) (n : Int) :
    nearK fl (x + (n : K)) = nearK fl x + n := by
  unfold nearK
  rw [hfl, hfl]
  have e : x + (n : K) + 1 / ((2 : Int) : K) = (x + 1 / ((2 : Int) : K)) + (n : K) := by ring
  rw [e, Int.floor_add_intCast]

/-- an atom exactly on (a periodic image of) the site passes the test at every tolerance `atol ≥ 0`. -/
theorem onSite_imp_onSiteTol (fl : K → Int) (hfl : ∀ x, fl x = ⌊x⌋) (b : Box K) (atol2 : K) (h0 : 0 ≤ atol2)
    (site : V3 K) (a : Atom K) (h : onSite fl b site a = true) : onSiteTol fl b atol2 site a = true := by
  unfold onSite at h
  simp only [Bool.and_eq_true] at h
  obtain ⟨⟨hx, hy⟩, hz⟩ := h
  obtain ⟨nx, hx⟩ := (isIntK_iff fl hfl _).mp hx
  obtain ⟨ny, hy⟩ := (isIntK_iff fl hfl _).mp hy
  obtain ⟨nz, hz⟩ := (isIntK_iff fl hfl _).mp hz
  unfold onSiteTol
  simp only [hx, hy, hz, nearK_int fl hfl, sub_self, decide_eq_true_eq]
  have : V3.normSq (M3.vecMul (⟨0, 0, 0⟩ : V3 K) b.vects) = 0 := by
    simp [V3.normSq, V3.dot, M3.vecMul]
  rw [this]; exact h0

/-- with tolerance 0 the test is the exact one: the atom is on a periodic image of the site. -/
theorem onSiteTol_zero (fl : K → Int) (hfl : ∀ x, fl x = ⌊x⌋) (b : Box K) (hV : M3.det b.vects ≠ 0) (site : V3 K)
    (a : Atom K) : onSiteTol fl b 0 site a = onSite fl b site a := by
  rw [Bool.eq_iff_iff]
  constructor
  · intro h
    unfold onSiteTol at h
    simp only [decide_eq_true_eq] at h
    -- the distance vector `d·V` vanishes, hence so does `d = s - nearK s`
    have hd := M3.vecMul_eq_zero b.vects hV _ (V3.normSq_eq_zero _ (le_antisymm h (V3.normSq_nonneg _)))
    simp only [V3.mk.injEq] at hd
    obtain ⟨hx, hy, hz⟩ := hd
    unfold onSite
    simp only [Bool.and_eq_true]
    exact ⟨⟨(isIntK_iff fl hfl _).mpr ⟨_, sub_eq_zero.mp hx⟩, (isIntK_iff fl hfl _).mpr ⟨_, sub_eq_zero.mp hy⟩⟩,
      (isIntK_iff fl hfl _).mpr ⟨_, sub_eq_zero.mp hz⟩⟩
  · exact onSite_imp_onSiteTol fl hfl b 0 le_rfl site a

/-- the exact test (`checkBasis`: exact, no family test) is the instance `atol = 0`, `check_family=False` of the test with
    the caller's arguments; `checkBasis_periodic` is obtained through it from `checkSettingBasis_periodic`. -/
theorem checkSettingBasis_zero (fl : K → Int) (hfl : ∀ x, fl x = ⌊x⌋) (fam : Option Family) (b : Box K)
    (hV : M3.det b.vects ≠ 0) (setting : String) (atoms : List (Atom K)) :
    checkSettingBasis fl fam b 0 false setting atoms = checkBasis fl b setting atoms := by
  have hf : onSiteTol fl b 0 = onSite fl b := by
    funext site a
    exact onSiteTol_zero fl hfl b hV site a
  unfold checkSettingBasis checkBasis
  cases settingSites (K := K) setting with
  | none => rfl
  | some sites => simp [hf, checkSites_eq_by]

set_option linter.unusedSectionVars false in
/-- a looser tolerance accepts whatever a tighter one accepts. -/
theorem onSiteTol_mono (fl : K → Int) (b : Box K) (t t' : K) (htt : t ≤ t') (site : V3 K) (a : Atom K)
    (h : onSiteTol fl b t site a = true) : onSiteTol fl b t' site a = true := by
  unfold onSiteTol at h ⊢
  simp only [decide_eq_true_eq] at h ⊢
  exact le_trans h htt

/-- the atoms found at a site only grow with the tolerance. -/
theorem filter_onSiteTol_mono (fl : K → Int) (b : Box K) (t t' : K) (htt : t ≤ t') (site : V3 K) (atoms : List (Atom K)) :
    ∀ a ∈ atoms.filter (onSiteTol fl b t site), a ∈ atoms.filter (onSiteTol fl b t' site) := by
  intro a ha
  rw [List.mem_filter] at ha ⊢
  exact ⟨ha.1, onSiteTol_mono fl b t t' htt site a ha.2⟩

/-- the test is periodic: an atom listed in another periodic image (moved by whole cell vectors: on the far face, in a
    neighbouring cell) gives the same verdict at every tolerance. -/
theorem onSiteTol_image (fl : K → Int) (hfl : ∀ x, fl x = ⌊x⌋) (b : Box K) (hV : M3.det b.vects ≠ 0) (atol2 : K)
    (site : V3 K) (a : Atom K) (n : V3 Int) :
    onSiteTol fl b atol2 site { a with pos := a.pos + M3.vecMul (castV n) b.vects } = onSiteTol fl b atol2 site a := by
  have r : ∀ (u : K) (m k : Int), u + (k : K) - (((m + k : Int)) : K) = u - (m : K) := by
    intro u m k; push_cast; ring
  unfold onSiteTol
  simp only [cartToRel_image_sub b hV]
  simp only [V3.add_def, castV, nearK_add_int fl hfl, r]

/-- **the lattice-site test is periodic at every tolerance**: `check_setting_basis` with the caller's `atol`, with or
    without the family test, gives the same verdict when atoms are listed in other periodic images. -/
theorem checkSettingBasis_periodic (fl : K → Int) (hfl : ∀ x, fl x = ⌊x⌋) (fam : Option Family) (b : Box K)
    (hV : M3.det b.vects ≠ 0) (atol2 : K) (cf : Bool) (setting : String) (atoms : List (Atom K)) (ns : List (V3 Int))
    (hn : ns.length = atoms.length) :
    checkSettingBasis fl fam b atol2 cf setting (imagesBy b atoms ns)
      = checkSettingBasis fl fam b atol2 cf setting atoms := by
  unfold checkSettingBasis
  cases settingSites (K := K) setting with
  | none => rfl
  | some sites => simp only [checkSitesBy_periodic b _ (onSiteTol_image fl hfl b hV atol2) atoms ns hn]

theorem checkBasis_periodic (fl : K → Int) (hfl : ∀ x, fl x = ⌊x⌋) (b : Box K) (hV : M3.det b.vects ≠ 0)
    (setting : String) (atoms : List (Atom K)) (ns : List (V3 Int)) (hn : ns.length = atoms.length) :
    checkBasis fl b setting (imagesBy b atoms ns) = checkBasis fl b setting atoms := by
  rw [← checkSettingBasis_zero fl hfl none b hV, ← checkSettingBasis_zero fl hfl none b hV]
  exact checkSettingBasis_periodic fl hfl none b hV 0 false setting atoms ns hn

end

/-- `check_basis=False`: the caller's word is taken. -/
theorem resolveSetting_unchecked (chk : String → Option (Option Bool)) (s : String) :
    resolveSetting chk false s = some s := by simp [resolveSetting]

/-- an explicit setting is taken iff it passes the test (at the caller's tolerances: `chk`). -/
theorem resolveSetting_explicit (chk : String → Option (Option Bool)) (s : String) (hs : s ≠ "t") :
    resolveSetting chk true s = if chk s = some (some true) then some s else none := by
  unfold resolveSetting
  have : (s != "t") = true := by simpa using hs
  simp only [Bool.not_true, Bool.false_eq_true, if_false, this, if_true]
  split <;> simp_all

/-- `'t'` on a cell that passes the `t2` test and not the `t1` test - BOTH at the caller's tolerances - is `t2`. -/
theorem resolveSetting_t2 (chk : String → Option (Option Bool))
    (h1 : chk "t1" = some (some false)) (h2 : chk "t2" = some (some true)) :
    resolveSetting chk true "t" = some "t2" := by
  simp [resolveSetting, h1, h2]

/-- `'t'` on a cell that passes the `t1` test is `t1` (provided the `t2` test does not raise). -/
theorem resolveSetting_t1 (chk : String → Option (Option Bool)) (t2 : Bool)
    (h1 : chk "t1" = some (some true)) (h2 : chk "t2" = some (some t2)) :
    resolveSetting chk true "t" = some "t1" := by
  simp [resolveSetting, h1, h2]

/-- `'t'` on a cell that passes neither test is refused. -/
theorem resolveSetting_t_refuses (chk : String → Option (Option Bool))
    (h1 : chk "t1" = some (some false)) (h2 : chk "t2" = some (some false)) :
    resolveSetting chk true "t" = none := by
  simp [resolveSetting, h1, h2]

/-! non-vacuity: `Box.orthorhombic(3, 4, 4)` and `Box.monoclinic(3, 4, 4, 100)` with the numpy default tolerances;
    an R-centred cell whose atoms sit 1/1000000 of a cell off the reverse-setting sites resolves `'t'` to `t2` with
    `atol = 1e-4` and is refused with `atol = 1e-8`; `a = c ≠ b` with right angles is NOT identified: the chain compares
    `a` with `b` and `c` only, so orthorhombic needs `a` different from both. -/
example : identifyFamily (closeK (1 / 100000 : ℚ) (1 / 100000000)) 90 120 ⟨3, 4, 4, 90, 90, 90⟩ = some .orthorhombic := by
  decide +kernel
example : identifyFamily (closeK (1 / 100000 : ℚ) (1 / 100000000)) 90 120 ⟨3, 4, 4, 90, 100, 90⟩ = some .monoclinic := by
  decide +kernel
example : identifyFamily (closeK (1 / 100000 : ℚ) (1 / 100000000)) 90 120 ⟨4, 3, 4, 90, 90, 90⟩ = none := by
  decide +kernel

def exT2 : List (Atom ℚ) := [⟨1, ⟨0, 0, 0⟩, []⟩, ⟨1, ⟨333333 / 1000000, 666667 / 1000000, 333333 / 1000000⟩, []⟩,
  ⟨1, ⟨666667 / 1000000, 333333 / 1000000, 666667 / 1000000⟩, []⟩]

example : resolveSetting (fun s => checkSettingBasis Rat.floor (some .hexagonal) (⟨M3.one, ⟨0, 0, 0⟩⟩ : Box ℚ)
    ((1 / 10000) ^ 2) true s exT2) true "t" = some "t2" := by decide +kernel
example : resolveSetting (fun s => checkSettingBasis Rat.floor (some .hexagonal) (⟨M3.one, ⟨0, 0, 0⟩⟩ : Box ℚ)
    ((1 / 100000000) ^ 2) true s exT2) true "t" = none := by decide +kernel

end Atomman.C04
