/-
  C10 — property theorems: the JSON/XML data-model round trip of values with units, Box, Atoms, System and
  ElasticConstants reproduces the original, and the physical value read back does not depend on the working units active
  when the model was written versus read.  A working-unit configuration is `fac : String → K` (`uc.parse` of a unit string
  under that configuration; the parser is C09's subject); `K` is any field, the driver runs the same definitions at `Rat`.
-/
import Proofs.C10_Xml
import Proofs.C10_Setters
import Proofs.C10_Elastic
import Proofs.C10_Objects
import Proofs.C10_Call
import Proofs.C10_Source
import Proofs.C09_Units

namespace Atomman.C10
open Atomman
variable {α : Type} {K : Type}

/-- reshape (row-major) of the flattened data is the original nested array, for every
    shape (any rank, any extents, zero extents included). -/
theorem unflatten_flatten (s : List Nat) : ∀ (t : Nest α), t.HasShape s → unflatten s (t.flatten s) = t := by
  induction s with
  | nil => intro t h; cases t <;> simp_all [Nest.HasShape, Nest.flatten, unflatten]
  | cons n s ih =>
    intro t h
    cases t with
    | val a => simp [Nest.HasShape] at h
    | arr l =>
      obtain ⟨hn, hall⟩ := h
      simp only [Nest.flatten, unflatten]
      have hc : chunks (prodNat s) n (l.map (Nest.flatten s)).flatten = l.map (Nest.flatten s) := by
        have := chunks_flatten (prodNat s) (l.map (Nest.flatten s)) (by
          intro x hx
          obtain ⟨y, hy, rfl⟩ := List.mem_map.mp hx
          exact length_flatten_of_shape s y (hall y hy))
        simpa [hn] using this
      rw [hc, List.map_map]
      congr 1
      conv_rhs => rw [← List.map_id l]
      exact List.map_congr_left (fun x hx => ih x (hall x hx))

/-- the other direction: a flat buffer of the right size reshapes to an array of that shape whose
    flattening is the buffer (so `flatten` and `reshape` are mutually inverse bijections). -/
theorem flatten_unflatten_shape (s : List Nat) (d : List α) (h : d.length = prodNat s) :
    (unflatten s d).HasShape s ∧ (unflatten s d).flatten s = d := by
  induction s generalizing d with
  | nil =>
    match d, h with
    | [x], _ => simp [unflatten, Nest.HasShape, Nest.flatten]
  | cons n s ih =>
    obtain ⟨h1, h2, h3⟩ := chunks_spec (prodNat s) n d (by rw [h, prodNat_cons])
    refine ⟨⟨by simp [h2], ?_⟩, ?_⟩
    · intro x hx
      obtain ⟨c, hc, rfl⟩ := List.mem_map.mp hx
      exact (ih c (h3 c hc)).1
    · simp only [unflatten, Nest.flatten, List.map_map]
      have : (chunks (prodNat s) n d).map (Nest.flatten s ∘ unflatten s) = chunks (prodNat s) n d := by
        conv_rhs => rw [← List.map_id (chunks (prodNat s) n d)]
        exact List.map_congr_left (fun c hc => (ih c (h3 c hc)).2)
      rw [this, h1]

example : (Nest.arr [Nest.arr [Nest.val 1, .val 2, .val 3], .arr [.val 4, .val 5, .val 6]] : Nest Nat).HasShape [2, 3] := by
  simp [Nest.HasShape]
example : unflatten [2, 3] [1, 2, 3, 4, 5, 6]
    = (Nest.arr [Nest.arr [Nest.val 1, .val 2, .val 3], .arr [.val 4, .val 5, .val 6]] : Nest Nat) := by
  simp [unflatten, chunks, prodNat]

section field
variable [Field K]

/-- `uc.value_unit(uc.model(a, units)) = a` for every shape (rank 0, 1, ≥ 2), every dtype
    class and every unit with a non-zero factor: the shape and the flat buffer come back (an integer array
    written *with* a unit comes back as the same numbers in floating point, `castU`). -/
theorem valueUnit_model (fac : String → K) (units : Option String) (a : Arr K)
    (hw : a.data.length = prodNat a.shape) (hne : prodNat a.shape ≠ 0)
    (hf : ∀ u, units = some u → factor fac u ≠ 0)
    (hs : ∀ l, a.data = Data.str l → units = none) :
    ∃ t, ucModel fac units a = some t ∧ valueUnit fac t = some ⟨a.shape, a.data.castU units⟩ := by
  obtain ⟨t, h1, h2, -⟩ := valueUnit_model_enc fac fac units a hw (Or.inl hne) hs
  exact ⟨t, h1, by rw [h2, rescale_self fac units hf]⟩

example : ∃ (fac : String → ℚ) (a : Arr ℚ), a.data.length = prodNat a.shape ∧ prodNat a.shape ≠ 0 ∧
    (∀ u, some "GPa" = some u → factor fac u ≠ 0) ∧ (∀ l, a.data = Data.str l → some "GPa" = none) :=
  ⟨fun _ => 5 / 2, ⟨[2, 1, 2], .flt [1, -2, 3, 1 / 4]⟩, rfl, by decide, by
    intro u h; cases h; simp [factor], by intro l h; cases h⟩

/-- a float array of ANY size —
    the empty ones `(0,)`, `(0, 3)`, `(2, 0)`, `(0, 3, 3)` included — comes back with its shape and buffer (numpy types
    the empty value list as float, which is what was written). -/
theorem valueUnit_model_float (fac : String → K) (units : Option String) (sh : List Nat) (l : List K)
    (hw : l.length = prodNat sh) (hf : ∀ u, units = some u → factor fac u ≠ 0) :
    ∃ t, ucModel fac units ⟨sh, .flt l⟩ = some t ∧ valueUnit fac t = some ⟨sh, .flt l⟩ := by
  obtain ⟨t, h1, h2, -⟩ := valueUnit_model_enc fac fac units ⟨sh, .flt l⟩ hw (Or.inr ⟨l, rfl⟩) (by intro l' h; cases h)
  exact ⟨t, h1, by rw [h2, rescale_self fac units hf]; rfl⟩

/-- the exact statement of the empty-array exception.  An EMPTY array of any dtype class
    (integer, string, float) and any shape with a zero extent is written as the empty value list, which numpy reads as
    an empty FLOAT array: the shape comes back, the dtype class of an empty integer / string array does not. -/
theorem valueUnit_model_empty (fac : String → K) (units : Option String) (a : Arr K)
    (hw : a.data.length = prodNat a.shape) (he : prodNat a.shape = 0)
    (hf : ∀ u, units = some u → factor fac u ≠ 0)
    (hs : ∀ l, a.data = Data.str l → units = none) :
    ∃ t, ucModel fac units a = some t ∧ valueUnit fac t = some ⟨a.shape, .flt []⟩ := by
  have h0 : a.data.length = 0 := by rw [hw, he]
  obtain ⟨t, h1, h2⟩ := valueUnit_model_float fac units a.shape [] (by simp [he]) hf
  refine ⟨t, ?_, h2⟩
  rw [← h1]
  rcases a with ⟨sh, d⟩
  cases d with
  | flt l =>
    have : l = [] := by simpa [Data.length] using h0
    subst this; rfl
  | int l =>
    have : l = [] := by simpa [Data.length] using h0
    subst this
    cases units <;> simp [ucModel, writeData, Data.divBy, Data.toScs]
  | str l =>
    have : l = [] := by simpa [Data.length] using h0
    subst this
    have hu := hs [] rfl
    subst hu
    simp [ucModel, writeData, Data.toScs]

/-- non-vacuity: an empty `(0, 3)` integer array written in `nm` comes back as the empty float array of shape `(0, 3)`. -/
example : ∃ t, ucModel (fun _ => (5 / 2 : ℚ)) (some "nm") ⟨[0, 3], .int []⟩ = some t ∧
    valueUnit (fun _ => (5 / 2 : ℚ)) t = some ⟨[0, 3], .flt []⟩ :=
  valueUnit_model_empty _ _ _ rfl rfl (by intro u _; simp [factor]; split <;> norm_num) (by intro l h; cases h)

/-- the same on nested arrays (what numpy shows): writing the array `t` of shape `s` and reshaping what is read
    back gives `t`. -/
theorem valueUnit_model_nested (fac : String → K) (units : Option String) (s : List Nat) (t : Nest K)
    (ht : t.HasShape s) (hne : prodNat s ≠ 0) (hf : ∀ u, units = some u → factor fac u ≠ 0) :
    ∃ m d, ucModel fac units ⟨s, .flt (t.flatten s)⟩ = some m ∧ valueUnit fac m = some ⟨s, .flt d⟩ ∧
      unflatten s d = t := by
  obtain ⟨m, h1, h2⟩ := valueUnit_model fac units ⟨s, .flt (t.flatten s)⟩
    (by simpa [Data.length] using length_flatten_of_shape s t ht) hne hf (by intro l h; cases h)
  exact ⟨m, t.flatten s, h1, by simpa [Data.castU] using h2, unflatten_flatten s t ht⟩

/-- the same through XML text (the codec collapses one-element lists, `xmlNorm`): shape
    and buffer come back for every array except that a length-1 *vector* (shape `[1]`, written without a `shape`
    entry) is read as a scalar (`xmlShape`); every other shape — `[1,1]`, `[1,3]`, `[n,1]`, … — is restored from
    the `shape` entry.  (`Atoms`/`System` undo the exception by broadcasting, see `atoms_model_roundtrip_xml`.) -/
theorem valueUnit_model_xml (fac : String → K) (units : Option String) (a : Arr K)
    (hw : a.data.length = prodNat a.shape) (hne : prodNat a.shape ≠ 0)
    (hf : ∀ u, units = some u → factor fac u ≠ 0)
    (hs : ∀ l, a.data = Data.str l → units = none) :
    ∃ t, ucModel fac units a = some t ∧ valueUnit fac (xmlNorm t) = some ⟨xmlShape a.shape, a.data.castU units⟩ := by
  obtain ⟨t, h1, -, h2⟩ := valueUnit_model_enc fac fac units a hw (Or.inl hne) hs
  exact ⟨t, h1, by rw [h2, rescale_self fac units hf]⟩

theorem xmlShape_eq (sh : List Nat) (h : sh ≠ [1]) : xmlShape sh = sh := by simp [xmlShape, h]

example : xmlShape [1, 1] = [1, 1] ∧ xmlShape [4, 1, 3] = [4, 1, 3] ∧ xmlShape [1] = [] := by decide

/-- written under `fac1`, read under `fac2`: value and error are rescaled by the same
    function `x ↦ x / fac1 u · fac2 u` (the identity without a unit) — the stored uncertainty is a quantity in the
    stored unit, like the value. -/
theorem errorUnit_model_two (fac1 fac2 : String → K) (units : Option String) (a : Arr K) (e : List K)
    (hw : a.data.length = prodNat a.shape) (he : e.length = prodNat a.shape) (hne : prodNat a.shape ≠ 0)
    (hs : ∀ l, a.data = Data.str l → units = none) :
    ∃ t, ucModelE fac1 units a e = some t ∧
      valueUnit fac2 t = some ⟨a.shape, a.data.rescale fac1 fac2 units⟩ ∧
      errorUnit fac2 t = some ⟨a.shape, .flt (e.map (scaleFn fac1 fac2 units))⟩ := by
  -- the value and the uncertainty are written like two `uc.model` values that share one node
  obtain ⟨tv, htv, hr, -⟩ := valueUnit_model_enc fac1 fac2 units a hw (Or.inl hne) hs
  obtain ⟨te, hte, gr, -⟩ := valueUnit_model_enc fac1 fac2 units ⟨a.shape, .flt e⟩ he (Or.inl hne) (by intro l h; cases h)
  obtain ⟨dw, v, h1, hv, rfl⟩ := ucModel_some htv
  obtain ⟨de, ve, g1, hve, rfl⟩ := ucModel_some hte
  refine ⟨DM.node (("value", v) :: ("error", ve) :: (shapeEntry a.shape ++ unitEntry units)),
    by simp only [ucModelE, h1, g1, hv, hve], ?_, ?_⟩
  · rw [valueUnit_skip_error, hr]
  · simp only [errorUnit, errTerm_node, Option.bind_some, gr]
    rfl

/-- a value stored together with its uncertainty (`uc.model(a, units, error=e)`): both
    `uc.value_unit` and `uc.error_unit` return what was stored — shape and buffer — for every shape and every unit
    with a non-zero factor. -/
theorem errorUnit_model (fac : String → K) (units : Option String) (a : Arr K) (e : List K)
    (hw : a.data.length = prodNat a.shape) (he : e.length = prodNat a.shape) (hne : prodNat a.shape ≠ 0)
    (hf : ∀ u, units = some u → factor fac u ≠ 0) (hs : ∀ l, a.data = Data.str l → units = none) :
    ∃ t, ucModelE fac units a e = some t ∧ valueUnit fac t = some ⟨a.shape, a.data.castU units⟩ ∧
      errorUnit fac t = some ⟨a.shape, .flt e⟩ := by
  obtain ⟨t, h1, h2, h3⟩ := errorUnit_model_two fac fac units a e hw he hne hs
  refine ⟨t, h1, by rw [h2, rescale_self fac units hf], ?_⟩
  rw [h3]
  have hid := scaleFn_self_eq fac units hf
  simp [hid]

/-- write `a` in unit `u` under configuration `fac1`, read under `fac2`.
    The value read back, *expressed in the stored unit under the reading configuration*
    (`get_in_units(read, u)`), equals the original expressed in that unit under the writing configuration
    (`get_in_units(a, u)`): the stored physical value does not depend on the working units at write or read
    time.  Only `fac2 u ≠ 0` is needed. -/
theorem physical_value_unit_independent (fac1 fac2 : String → K) (u : String) (a : Arr K)
    (hw : a.data.length = prodNat a.shape) (hne : prodNat a.shape ≠ 0) (hs : ∀ l, a.data ≠ Data.str l)
    (h2 : factor fac2 u ≠ 0) :
    ∃ t d, ucModel fac1 (some u) a = some t ∧ valueUnit fac2 t = some ⟨a.shape, d⟩ ∧
      writeData fac2 (some u) d = writeData fac1 (some u) a.data := by
  obtain ⟨t, h1, hr, -⟩ := valueUnit_model_enc fac1 fac2 (some u) a hw (Or.inl hne) (fun l h => absurd h (hs l))
  refine ⟨t, _, h1, hr, ?_⟩
  cases hd : a.data with
  | str l => exact absurd hd (hs l)
  | flt l | int l =>
    simp only [writeData, Data.rescale, Data.divBy, scaleFn_some, List.map_map, Option.some.injEq, Data.flt.injEq]
    apply List.map_congr_left
    intro x _
    exact inUnit_scaleFn fac1 fac2 (some u) (fun s hs => by cases hs; exact h2) _

/-! the factor of a unit under a configuration has the form `v · m^a kg^b s^c C^d K^e` (property C09,
    `eval_dimension_hom`: `v` the SI value, `(a,…,e)` the dimension, `sc` the base-unit scalings of the
    configuration).  With that form the numbers read back are the originals times a ratio that depends only on the
    *dimension* of the unit and the two configurations.  The form is assumed, not derived here: it is the
    hypotheses `h1`, `h2` of `physical_value_rescaled`, and C09's `eval_dimension_hom` is what discharges them for
    parsed unit strings.  The non-vanishing of `C09.factor` is `C09.factor_ne_zero` (`Proofs/C09_Units`). -/

/-- if the unit `u` has SI value `v ≠ 0` and dimension `d`, and the two
    configurations scale the base units by `sc1`, `sc2` (the form C09 proves for every unit expression), then a
    float array written under the first and read under the second comes back with every number multiplied by
    `factor sc2 d / factor sc1 d` — one ratio for all units of the same dimension, 1 when the configurations
    agree on that dimension. -/
theorem physical_value_rescaled (fac1 fac2 : String → K) (u : String) (hu : u ≠ "scaled") (v : K) (d : C09.D5)
    (sc1 sc2 : C09.Scales K) (hv : v ≠ 0)
    (hsc1 : sc1.m ≠ 0 ∧ sc1.kg ≠ 0 ∧ sc1.s ≠ 0 ∧ sc1.c ≠ 0 ∧ sc1.k ≠ 0)
    (h1 : fac1 u = v * C09.factor sc1 d) (h2 : fac2 u = v * C09.factor sc2 d)
    (sh : List Nat) (l : List K) (hw : l.length = prodNat sh) (hne : prodNat sh ≠ 0) :
    ∃ t, ucModel fac1 (some u) ⟨sh, .flt l⟩ = some t ∧
      valueUnit fac2 t = some ⟨sh, .flt (l.map (· * (C09.factor sc2 d / C09.factor sc1 d)))⟩ := by
  obtain ⟨t, ht, hr, -⟩ := valueUnit_model_enc fac1 fac2 (some u) ⟨sh, .flt l⟩ (by simpa [Data.length] using hw) (Or.inl hne)
    (by intro l h; cases h)
  refine ⟨t, ht, ?_⟩
  rw [hr]
  have hf : C09.factor sc1 d ≠ 0 := by classical exact C09.factor_ne_zero hsc1 d
  simp only [Data.rescale, scaleFn_some, factor, hu, if_false, h1, h2]
  congr 3
  apply List.map_congr_left
  intro x _
  field_simp

example : ∃ (sc : C09.Scales ℚ), sc.m ≠ 0 ∧ sc.kg ≠ 0 ∧ sc.s ≠ 0 ∧ sc.c ≠ 0 ∧ sc.k ≠ 0 ∧
    C09.factor sc ⟨-1, 1, -2, 0, 0⟩ = 5 / 4 :=
  ⟨⟨2, 5 / 2, 1, 1, 1⟩, by decide +kernel, by decide +kernel, by decide +kernel, by decide +kernel, by decide +kernel,
    by decide +kernel⟩

theorem box_model_enc [LT K] [DecidableLT K] (fac : String → K) (eps : K) (u : Option String) (b : Box K)
    (hf : ∀ s, u = some s → factor fac s ≠ 0) :
    RoundTrips (boxModel fac u b) (boxRead fac eps) (some ⟨cleanVects eps b.vects, b.origin⟩) := by
  obtain ⟨bm, h1, h2⟩ := box_model_node fac fac eps u b
  refine ⟨_, h1, ?_⟩
  have hid := scaleFn_self_eq fac u hf
  rintro t' (rfl | rfl)
  · rw [h2 bm (Or.inl rfl) _ List.lookup_cons_self, hid]; rfl
  · have hx : xmlNorm (DM.node [("box", bm)]) = DM.node [("box", xmlNorm bm)] := by simp [xmlNorm, xmlNormKV]
    rw [hx, h2 _ (Or.inr rfl) _ List.lookup_cons_self, hid]; rfl

/-- `Box(model=box.model(length_unit=u))` has the same origin and the cell vectors
    passed through the `vects` setter (entries negligible against the largest are zeroed), for every tilted or
    rotated cell, every origin, every length unit (or none). -/
theorem box_model_roundtrip [LT K] [DecidableLT K] (fac : String → K) (eps : K) (u : Option String) (b : Box K)
    (hf : ∀ s, u = some s → factor fac s ≠ 0) :
    ∃ t, boxModel fac u b = some t ∧ boxRead fac eps t = some ⟨cleanVects eps b.vects, b.origin⟩ :=
  (box_model_enc fac eps u b hf).tree

/-- … hence exactly the original for a `Box` object (its vectors went through the setter already:
    `cleanVects eps b.vects = b.vects`). -/
theorem box_model_roundtrip_exact [LT K] [DecidableLT K] (fac : String → K) (eps : K) (u : Option String)
    (b : Box K) (hf : ∀ s, u = some s → factor fac s ≠ 0) (hb : cleanVects eps b.vects = b.vects) :
    ∃ t, boxModel fac u b = some t ∧ boxRead fac eps t = some b :=
  ((box_model_enc fac eps u b hf).congr (by rw [hb])).tree

example : cleanVects (1 / 1000000000 : ℚ) ⟨⟨4, 0, 0⟩, ⟨-1 / 2, 3, 0⟩, ⟨1 / 4, 1, 5⟩⟩
    = ⟨⟨4, 0, 0⟩, ⟨-1 / 2, 3, 0⟩, ⟨1 / 4, 1, 5⟩⟩ := by decide +kernel

/-- the same through XML text. -/
theorem box_model_roundtrip_xml [LT K] [DecidableLT K] (fac : String → K) (eps : K) (u : Option String) (b : Box K)
    (hf : ∀ s, u = some s → factor fac s ≠ 0) :
    ∃ t, boxModel fac u b = some t ∧ boxRead fac eps (xmlNorm t) = some ⟨cleanVects eps b.vects, b.origin⟩ :=
  (box_model_enc fac eps u b hf).xml

/-- `uc.value_unit` of `uc.model(a, units)` through EVERY encoding: shape and numbers come
    back through the tree and JSON text; through XML text likewise except that a shape-`(1,)` vector is read as a scalar
    (`xmlShape`, the known exception, stated exactly). -/
theorem value_dump_load_end_to_end (fac : String → K) (units : Option String) (a : Arr K)
    (hw : a.data.length = prodNat a.shape) (hne : prodNat a.shape ≠ 0)
    (hf : ∀ u, units = some u → factor fac u ≠ 0)
    (hs : ∀ l, a.data = Data.str l → units = none)
    (via : String) (hvia : via = "tree" ∨ via = "json" ∨ via = "xml") :
    valueDumpLoad fac fac via units a
      = some ⟨if via = "xml" then xmlShape a.shape else a.shape, a.data.castU units⟩ := by
  obtain ⟨t, ht, hr, hx⟩ := valueUnit_model_enc fac fac units a hw (Or.inl hne) hs
  unfold valueDumpLoad
  rw [ht, Option.bind_some, encode_bind _ _ _ hvia, hr, hx, rescale_self fac units hf]
  by_cases hv : via = "xml"
  · rw [if_pos hv, if_pos hv]
  · rw [if_neg hv, if_neg hv]

/-- a Box whose vectors pass the setter comes back exactly through every encoding. -/
theorem box_dump_load_end_to_end [LT K] [DecidableLT K] (fac : String → K) (eps : K) (u : Option String)
    (b : Box K) (hf : ∀ s, u = some s → factor fac s ≠ 0) (hb : cleanVects eps b.vects = b.vects)
    (via : String) (hvia : via = "tree" ∨ via = "json" ∨ via = "xml") :
    boxDumpLoad fac fac eps via u b = some b :=
  ((box_model_enc fac eps u b hf).congr (by rw [hb])).dumpLoad hvia

theorem atoms_model_enc (fac : String → K) (a : AtomsM K) (hw : a.Wf) (un : String → Option String)
    (hu : UnitsOk a un)
    (hf : ∀ p ∈ a.props, ∀ s, effUnit p.1 (un p.1) = some s → factor fac s ≠ 0) :
    RoundTrips (atomsModel fac (a.props.map (fun p => (p.1, un p.1))) a) (atomsRead fac)
      (some ⟨a.natoms, a.props.map (fun p => (p.1, ⟨p.2.shape, p.2.data.castU (effUnit p.1 (un p.1))⟩))⟩) := by
  refine (atoms_model_two fac fac a hw un hu).congr ?_
  congr 2
  apply List.map_congr_left
  intro p hp
  simp only [propTwo, rescale_self fac _ (hf p hp)]

/-- `Atoms(model=atoms.model(prop_unit=…))` has the same `natoms`, the same property
    names in the same order, and for every property the same shape and buffer (dtype class kept when no unit is
    given; integers written with a unit come back as floats), for every admissible unit assignment `un`
    (`'scaled'` included: it is factor 1 for `Atoms` alone) and the default `pos → angstrom`. -/
theorem atoms_model_roundtrip (fac : String → K) (a : AtomsM K) (hw : a.Wf) (un : String → Option String)
    (hu : UnitsOk a un)
    (hf : ∀ p ∈ a.props, ∀ s, effUnit p.1 (un p.1) = some s → factor fac s ≠ 0) :
    ∃ t, atomsModel fac (a.props.map (fun p => (p.1, un p.1))) a = some t ∧
      atomsRead fac t = some ⟨a.natoms,
        a.props.map (fun p => (p.1, ⟨p.2.shape, p.2.data.castU (effUnit p.1 (un p.1))⟩))⟩ :=
  (atoms_model_enc fac a hw un hu hf).tree

/-- the same through XML text, *exactly* — with one atom the rank-1 properties are
    read back as scalars (`valueUnit_model_xml`) and `Atoms.__init__` broadcasts them to `natoms = 1` again; a
    single `property` entry is not a list in XML and `aslist` restores it. -/
theorem atoms_model_roundtrip_xml (fac : String → K) (a : AtomsM K) (hw : a.Wf) (un : String → Option String)
    (hu : UnitsOk a un)
    (hf : ∀ p ∈ a.props, ∀ s, effUnit p.1 (un p.1) = some s → factor fac s ≠ 0) :
    ∃ t, atomsModel fac (a.props.map (fun p => (p.1, un p.1))) a = some t ∧
      atomsRead fac (xmlNorm t) = some ⟨a.natoms,
        a.props.map (fun p => (p.1, ⟨p.2.shape, p.2.data.castU (effUnit p.1 (un p.1))⟩))⟩ :=
  (atoms_model_enc fac a hw un hu hf).xml

/-- **any selection of properties, in any order** (`Atoms.model(prop_unit=pu)` / `prop_name=`, `unit=`): reading the
    model is the same as constructing `Atoms(natoms=…, prop=…)` from the selected, converted properties (so a
    missing `atype` / `pos` gets the constructor's default, `atype`, `pos` come first). -/
theorem atoms_model_select (fac1 fac2 : String → K) (a : AtomsM K) (hw : a.Wf) (pu : List (String × Option String))
    (hnd : (pu.map Prod.fst).Nodup) (hmem : ∀ e ∈ pu, ∃ arr, a.props.lookup e.1 = some arr)
    (hs : ∀ e ∈ pu, ∀ arr l, a.props.lookup e.1 = some arr → arr.data = .str l → effUnit e.1 e.2 = none) :
    ∃ t, atomsModel fac1 pu a = some t ∧
      atomsRead fac2 t = atomsOfProps a.natoms (pu.map (selTwo fac1 fac2 a)) := by
  obtain ⟨ps, hps, hfa⟩ := mapOpt_exists (propModel fac1 a)
    (fun e t => propRead fac2 t = some (selTwo fac1 fac2 a e)) pu
    (fun e he => by
      obtain ⟨arr, harr⟩ := hmem e he
      obtain ⟨_, h2, h3⟩ := hw.ok (e.1, arr) (mem_of_lookup _ _ _ harr)
      obtain ⟨t, ht1, ht2, -⟩ := propNode_readsAs fac1 fac2 e.1 (effUnit e.1 e.2) arr h2 h3 (fun l hl => hs e he arr l harr hl)
      exact ⟨DM.node [("name", DM.leaf (Sc.str e.1)), ("data", t)], by simp only [propModel, harr, ht1],
        by simp only [ht2, selTwo, harr]⟩)
  refine ⟨DM.node [("atoms", DM.node (("natoms", DM.leaf (Sc.int a.natoms)) :: appendAll "property" ps))],
    by simp only [atomsModel, hps], ?_⟩
  have hread := mapOpt_forall2 (propRead fac2) id (pu.map (selTwo fac1 fac2 a)) ps
    (List.forall₂_map_left_iff.mpr (by simpa using hfa))
  have hfst : (pu.map (selTwo fac1 fac2 a)).map Prod.fst = pu.map Prod.fst := by
    rw [List.map_map]
    apply List.map_congr_left
    intro e _
    simp only [Function.comp, selTwo]
    split <;> rfl
  rw [atomsRead_node fac2 _ a.natoms ps _ List.lookup_cons_self hread, List.map_id,
    foldl_dictSet [] _ (by simpa [hfst] using hnd), List.nil_append]

theorem castU_none (d : Data K) : d.castU none = d := by cases d <;> rfl

/-- a 2-atom, 2-type `Atoms` with an integer, a string and a rank-3 float property satisfies the hypotheses. -/
def exAtoms : AtomsM ℚ := ⟨2, [("atype", ⟨[2], .int [1, 2]⟩), ("pos", ⟨[2, 3], .flt [0, 0, 0, 1 / 2, 1, 3]⟩),
  ("tag", ⟨[2], .int [7, -1]⟩), ("label", ⟨[2], .str ["a", "bb"]⟩),
  ("stress", ⟨[2, 2, 2], .flt [1, 2, 3, 4, 5, 6, 7, 8]⟩)]⟩

def exUn : String → Option String := fun n =>
  if n = "pos" then some "scaled" else if n = "stress" then some "GPa" else none

theorem exAtoms_wf : exAtoms.Wf where
  head := ⟨[1, 2], [0, 0, 0, 1 / 2, 1, 3], _, rfl, by decide⟩
  nodup := by decide
  ok := by
    intro p hp
    simp only [exAtoms, List.mem_cons, List.not_mem_nil, or_false] at hp
    rcases hp with rfl | rfl | rfl | rfl | rfl <;>
      exact ⟨⟨_, rfl⟩, by decide, by decide⟩

theorem exAtoms_units : SysUnitsOk exAtoms exUn := by
  refine ⟨⟨by decide, ?_⟩, ?_⟩
  · intro p hp l hl
    simp only [exAtoms, List.mem_cons, List.not_mem_nil, or_false] at hp
    rcases hp with rfl | rfl | rfl | rfl | rfl <;> first | (cases hl; done) | decide
  · intro p hp hsc
    simp only [exAtoms, List.mem_cons, List.not_mem_nil, or_false] at hp
    rcases hp with rfl | rfl | rfl | rfl | rfl <;> first | rfl | (revert hsc; decide)

/-- a box-scaled property goes through the same `g = scaleFn fac1 fac2 boxUnit` as the box lengths (it follows the
    cell); only such a property needs `det ≠ 0`. -/
theorem system_model_two_units_enc [LT K] [DecidableLT K] (fac1 fac2 : String → K) (eps : K) (boxUnit : Option String)
    (s : SystemM K) (hw : s.Wf) (un : String → Option String) (hu : SysUnitsOk s.atoms un)
    (hclean : cleanVects eps (mapM3 (scaleFn fac1 fac2 boxUnit) s.box.vects) = mapM3 (scaleFn fac1 fac2 boxUnit) s.box.vects)
    (hdet : (∃ p ∈ s.atoms.props, effUnit p.1 (un p.1) = some "scaled") → M3.det s.box.vects ≠ 0) :
    RoundTrips (systemModel fac1 boxUnit (s.atoms.props.map (fun p => (p.1, un p.1))) s) (systemRead fac2 eps)
      (some ⟨⟨mapM3 (scaleFn fac1 fac2 boxUnit) s.box.vects,
          s.box.origin.map (scaleFn fac1 fac2 boxUnit)⟩, s.pbc, s.symbols, s.masses,
        ⟨s.atoms.natoms, s.atoms.props.map (fun p =>
          if effUnit p.1 (un p.1) = some "scaled" then
            (p.1, ⟨p.2.shape, .flt (p.2.data.fltD.map (scaleFn fac1 fac2 boxUnit))⟩)
          else propTwo fac1 fac2 un p)⟩⟩) := by
  refine (system_model_two fac1 fac2 eps boxUnit s hw un hu).congr ?_
  simp only [hclean]
  congr 3
  apply List.map_congr_left
  intro p hp
  by_cases hsc : effUnit p.1 (un p.1) = some "scaled"
  · -- a box-scaled property follows the cell: the reader's box is the writer's with every length through `· * r`
    obtain ⟨r, hr⟩ := scaleFn_eq_mul fac1 fac2 boxUnit
    obtain ⟨-, -, -, n, hn⟩ := scaled_prop s.atoms hw.atoms un hu p hp hsc
    simp only [sysPropFinal, hsc, if_true, hr]
    rw [rowsMap_pointwise _ _ (rel_cart_scaled s.box r (hdet ⟨p, hp, hsc⟩)) n _ hn]
  · simp only [sysPropFinal, hsc, if_false]

theorem system_model_enc [LT K] [DecidableLT K] (fac : String → K) (eps : K) (boxUnit : Option String)
    (s : SystemM K) (hw : s.Wf) (un : String → Option String) (hu : SysUnitsOk s.atoms un)
    (hb : cleanVects eps s.box.vects = s.box.vects)
    (hfb : ∀ u, boxUnit = some u → factor fac u ≠ 0)
    (hf : ∀ p ∈ s.atoms.props, ∀ u, effUnit p.1 (un p.1) = some u → factor fac u ≠ 0)
    (hdet : (∃ p ∈ s.atoms.props, effUnit p.1 (un p.1) = some "scaled") → M3.det s.box.vects ≠ 0) :
    RoundTrips (systemModel fac boxUnit (s.atoms.props.map (fun p => (p.1, un p.1))) s) (systemRead fac eps)
      (some ⟨s.box, s.pbc, s.symbols, s.masses,
        ⟨s.atoms.natoms, s.atoms.props.map (fun p => (p.1, ⟨p.2.shape, p.2.data.castU (effUnit p.1 (un p.1))⟩))⟩⟩) := by
  have hid := scaleFn_self_eq fac boxUnit hfb
  refine (system_model_two_units_enc fac fac eps boxUnit s hw un hu (by rw [hid]; exact hb) hdet).congr ?_
  rw [hid]
  have hbox : (⟨mapM3 (fun x : K => x) s.box.vects, s.box.origin.map (fun x => x)⟩ : Box K) = s.box := rfl
  rw [hbox]
  congr 3
  apply List.map_congr_left
  intro p hp
  by_cases hsc : effUnit p.1 (un p.1) = some "scaled"
  · have hns := (scaled_prop s.atoms hw.atoms un hu p hp hsc).1
    rw [if_pos hsc, List.map_id', ← rescale_scaled fac fac _ hns,
      rescale_self fac _ (by intro u hu'; cases hu'; simp [factor]), hsc]
  · simp only [hsc, if_false, propTwo, rescale_self fac _ (hf p hp)]

/-- `System(model=system.model(box_unit=…, prop_unit=…))` reproduces the cell and
    origin, the periodic flags, the symbols and masses (missing ones as `None`, the `atom-type-mass` entries
    omitted when all are missing), `natoms`, and every per-atom property — shape and buffer — including
    properties stored box-scaled (`'scaled'`: written through `cartToRel`, read through `relToCart` of the
    re-read box; exact because the cell is non-degenerate).  Hypotheses: the `System`/`Atoms`/`Box` object
    invariants (`hw`, `hb`), an admissible unit assignment, non-zero unit factors, and `det ≠ 0` when some
    property is stored scaled. -/
theorem system_model_roundtrip [LT K] [DecidableLT K] (fac : String → K) (eps : K) (boxUnit : Option String)
    (s : SystemM K) (hw : s.Wf) (un : String → Option String) (hu : SysUnitsOk s.atoms un)
    (hb : cleanVects eps s.box.vects = s.box.vects)
    (hfb : ∀ u, boxUnit = some u → factor fac u ≠ 0)
    (hf : ∀ p ∈ s.atoms.props, ∀ u, effUnit p.1 (un p.1) = some u → factor fac u ≠ 0)
    (hdet : (∃ p ∈ s.atoms.props, effUnit p.1 (un p.1) = some "scaled") → M3.det s.box.vects ≠ 0) :
    ∃ t, systemModel fac boxUnit (s.atoms.props.map (fun p => (p.1, un p.1))) s = some t ∧
      systemRead fac eps t = some ⟨s.box, s.pbc, s.symbols, s.masses,
        ⟨s.atoms.natoms, s.atoms.props.map (fun p => (p.1, ⟨p.2.shape, p.2.data.castU (effUnit p.1 (un p.1))⟩))⟩⟩ :=
  (system_model_enc fac eps boxUnit s hw un hu hb hfb hf hdet).tree

/-- the same through XML text (`System.dump('system_model', format='xml')` →
    `load('system_model', …)`): one-element `atom-type-symbol` / `atom-type-mass` / `property` lists and
    length-1 value lists are collapsed by the codec and restored by `aslist` / broadcasting. -/
theorem system_model_roundtrip_xml [LT K] [DecidableLT K] (fac : String → K) (eps : K) (boxUnit : Option String)
    (s : SystemM K) (hw : s.Wf) (un : String → Option String) (hu : SysUnitsOk s.atoms un)
    (hb : cleanVects eps s.box.vects = s.box.vects)
    (hfb : ∀ u, boxUnit = some u → factor fac u ≠ 0)
    (hf : ∀ p ∈ s.atoms.props, ∀ u, effUnit p.1 (un p.1) = some u → factor fac u ≠ 0)
    (hdet : (∃ p ∈ s.atoms.props, effUnit p.1 (un p.1) = some "scaled") → M3.det s.box.vects ≠ 0) :
    ∃ t, systemModel fac boxUnit (s.atoms.props.map (fun p => (p.1, un p.1))) s = some t ∧
      systemRead fac eps (xmlNorm t) = some ⟨s.box, s.pbc, s.symbols, s.masses,
        ⟨s.atoms.natoms, s.atoms.props.map (fun p => (p.1, ⟨p.2.shape, p.2.data.castU (effUnit p.1 (un p.1))⟩))⟩⟩ :=
  (system_model_enc fac eps boxUnit s hw un hu hb hfb hf hdet).xml

/-- a tilted cell with non-zero origin, a missing symbol and missing masses satisfies the hypotheses
    (`pos` stored scaled, a tensor property in GPa). -/
def exSys : SystemM ℚ := ⟨⟨⟨⟨4, 0, 0⟩, ⟨-1 / 2, 3, 0⟩, ⟨1 / 4, 1, 5⟩⟩, ⟨1, -2, 1 / 2⟩⟩, [true, false, true],
  [some "Al", none], [none, some 27], exAtoms⟩

theorem exSys_wf : exSys.Wf where
  atoms := exAtoms_wf
  pbc := rfl
  ntypes := ⟨2, by decide, by decide⟩
  masses := rfl

example : M3.det exSys.box.vects ≠ 0 := by decide +kernel
example : cleanVects (1 / 1000000000 : ℚ) exSys.box.vects = exSys.box.vects := by decide +kernel

/-- working units changed between write and read: the box written in `boxUnit`
    comes back with every length rescaled by `g = x ↦ x / fac1 u · fac2 u` (`g = id` without a unit), the flags,
    symbols and masses unchanged, a box-scaled property rescaled by the *same* `g` (it follows the cell), and
    every other property by its own unit's ratio.  `hclean`: the re-read vectors are not altered by the `vects`
    setter's near-zero clean-up. -/
theorem system_model_two_units [LT K] [DecidableLT K] (fac1 fac2 : String → K) (eps : K) (boxUnit : Option String)
    (s : SystemM K) (hw : s.Wf) (un : String → Option String) (hu : SysUnitsOk s.atoms un)
    (hclean : cleanVects eps (mapM3 (scaleFn fac1 fac2 boxUnit) s.box.vects) = mapM3 (scaleFn fac1 fac2 boxUnit) s.box.vects)
    (hdet : M3.det s.box.vects ≠ 0) :
    ∃ t, systemModel fac1 boxUnit (s.atoms.props.map (fun p => (p.1, un p.1))) s = some t ∧
      systemRead fac2 eps t = some ⟨⟨mapM3 (scaleFn fac1 fac2 boxUnit) s.box.vects,
          s.box.origin.map (scaleFn fac1 fac2 boxUnit)⟩, s.pbc, s.symbols, s.masses,
        ⟨s.atoms.natoms, s.atoms.props.map (fun p =>
          if effUnit p.1 (un p.1) = some "scaled" then
            (p.1, ⟨p.2.shape, .flt (p.2.data.fltD.map (scaleFn fac1 fac2 boxUnit))⟩)
          else propTwo fac1 fac2 un p)⟩⟩ :=
  (system_model_two_units_enc fac1 fac2 eps boxUnit s hw un hu hclean fun _ => hdet).tree

/-- 36 values and a two-entry `shape`: nothing collapses in XML text. -/
theorem elastic_model_enc [LT K] [DecidableLT K] (fac1 fac2 : String → K) (eps atol rtol : K) (u : Option String)
    (norm : List K → List K) (c : List K) (hlen : (norm c).length = 36) :
    RoundTrips (ecModel fac1 u norm c) (ecRead fac2 eps atol rtol)
      (cijSet eps atol rtol ((norm c).map (scaleFn fac1 fac2 u))) := by
  obtain ⟨t, h1, h2, h3⟩ := valueUnit_model_enc fac1 fac2 u ⟨[6, 6], .flt (norm c)⟩
    (by simpa [Data.length, prodNat] using hlen) (Or.inr ⟨_, rfl⟩) (by intro l h; cases h)
  refine ⟨DM.node [("elastic-constants", DM.node [("Cij", t)])], by simp only [ecModel, h1], ?_⟩
  rintro t' (rfl | rfl)
  · simp [ecRead, DM.get?, List.lookup, h2, Data.rescale, Data.toFlt]
  · have hx : xmlNorm (DM.node [("elastic-constants", DM.node [("Cij", t)])]) =
        DM.node [("elastic-constants", DM.node [("Cij", xmlNorm t)])] := by simp [xmlNorm, xmlNormKV]
    rw [hx]
    simp [ecRead, DM.get?, List.lookup, h3, Data.rescale, Data.toFlt, xmlShape]

/-- under two configurations every constant is rescaled by the pressure unit's ratio before the setter. -/
theorem elastic_model_two [LT K] [DecidableLT K] (fac1 fac2 : String → K) (eps atol rtol : K) (u : Option String)
    (norm : List K → List K) (c : List K) (hlen : (norm c).length = 36) :
    ∃ t, ecModel fac1 u norm c = some t ∧
      ecRead fac2 eps atol rtol t = cijSet eps atol rtol ((norm c).map (scaleFn fac1 fac2 u)) :=
  (elastic_model_enc fac1 fac2 eps atol rtol u norm c hlen).tree

theorem elastic_model_enc_self [LT K] [DecidableLT K] (fac : String → K) (eps atol rtol : K) (u : Option String)
    (norm : List K → List K) (c : List K) (hlen : (norm c).length = 36)
    (hf : ∀ s, u = some s → factor fac s ≠ 0) :
    RoundTrips (ecModel fac u norm c) (ecRead fac eps atol rtol) (cijSet eps atol rtol (norm c)) :=
  (elastic_model_enc fac fac eps atol rtol u norm c hlen).congr (by rw [scaleFn_self_eq fac u hf, List.map_id'])

/-- reading `ec.model(unit=u, crystal_system=cs)` is the same as constructing
    `ElasticConstants(Cij=ec.normalized_as(cs).Cij)` (`norm` is `normalized_as`, property C11's subject; the
    identity for `'triclinic'`): all 36 entries of the 6×6 array, shape restored from the `shape` entry. -/
theorem elastic_model_roundtrip [LT K] [DecidableLT K] (fac : String → K) (eps atol rtol : K) (u : Option String)
    (norm : List K → List K) (c : List K) (hlen : (norm c).length = 36)
    (hf : ∀ s, u = some s → factor fac s ≠ 0) :
    ∃ t, ecModel fac u norm c = some t ∧ ecRead fac eps atol rtol t = cijSet eps atol rtol (norm c) :=
  (elastic_model_enc_self fac eps atol rtol u norm c hlen hf).tree

/-- … hence exactly the (normalised) constants for an `ElasticConstants` object, whose `Cij` went through the
    setter already. -/
theorem elastic_model_roundtrip_exact [LT K] [DecidableLT K] (fac : String → K) (eps atol rtol : K)
    (u : Option String) (norm : List K → List K) (c : List K) (hlen : (norm c).length = 36)
    (hf : ∀ s, u = some s → factor fac s ≠ 0) (hc : cijSet eps atol rtol (norm c) = some (norm c)) :
    ∃ t, ecModel fac u norm c = some t ∧ ecRead fac eps atol rtol t = some (norm c) :=
  ((elastic_model_enc_self fac eps atol rtol u norm c hlen hf).congr hc).tree

/-- the same through XML text (36 values and a two-entry `shape`: nothing collapses). -/
theorem elastic_model_roundtrip_xml [LT K] [DecidableLT K] (fac : String → K) (eps atol rtol : K) (u : Option String)
    (norm : List K → List K) (c : List K) (hlen : (norm c).length = 36)
    (hf : ∀ s, u = some s → factor fac s ≠ 0) :
    ∃ t, ecModel fac u norm c = some t ∧ ecRead fac eps atol rtol (xmlNorm t) = cijSet eps atol rtol (norm c) :=
  (elastic_model_enc_self fac eps atol rtol u norm c hlen hf).xml

/-- cubic constants C11 = 3, C12 = 1, C44 = 1/2 pass the setter unchanged. -/
example : cijSet (1 / 1000000000 : ℚ) (1 / 1000000000) (1 / 100000)
    [3, 1, 1, 0, 0, 0,  1, 3, 1, 0, 0, 0,  1, 1, 3, 0, 0, 0,  0, 0, 0, 1 / 2, 0, 0,  0, 0, 0, 0, 1 / 2, 0,
     0, 0, 0, 0, 0, 1 / 2]
    = some [3, 1, 1, 0, 0, 0,  1, 3, 1, 0, 0, 0,  1, 1, 3, 0, 0, 0,  0, 0, 0, 1 / 2, 0, 0,  0, 0, 0, 0, 1 / 2, 0,
     0, 0, 0, 0, 0, 1 / 2] := by decide +kernel

end field

section objects
variable [Field K] [LT K] [DecidableLT K]

/-- in every state a `Box` object can reach (construction, setter calls, conversions
    that make it keep its reciprocal vectors, `model(model=…)` reads, in any order) its
    `position_cartesian_to_relative` and `reciprocal_vects` are those of its *current* cell — what a `Box` freshly
    built from the same vectors and origin returns — and asking does not change the cell. -/
theorem box_object_conversions (eps : K) (b : BoxObj K) (h : BoxReach eps b) (p : V3 K) :
    (b.cartToRel p).1 = b.box.cartToRel p ∧ b.recipVects.1 = b.box.recip ∧ (b.cartToRel p).2.box = b.box ∧
      BoxReach eps (b.cartToRel p).2 :=
  ⟨BoxObj.cartToRel_fst b (h.coherent eps b) p, BoxObj.recipVects_fst b (h.coherent eps b),
   BoxObj.recipVects_box b, BoxReach.convert b p h⟩

/-- `box.model(model=B.model(length_unit=u))` on an existing object `b` — whatever `b`
    held and kept before — gives an object with the cell and origin of `B` (through the `vects` setter) that
    converts positions with the reciprocal vectors of `B`, through the tree / JSON and through XML text. -/
theorem box_object_read_model (fac : String → K) (eps : K) (u : Option String) (b : BoxObj K) (hb : BoxReach eps b)
    (B : Box K) (hf : ∀ s, u = some s → factor fac s ≠ 0) :
    ∃ t b' b'', boxModel fac u B = some t ∧ b.readModel fac eps t = some b' ∧
      b.readModel fac eps (xmlNorm t) = some b'' ∧ b'.box = ⟨cleanVects eps B.vects, B.origin⟩ ∧ b''.box = b'.box ∧
      BoxReach eps b' ∧ BoxReach eps b'' ∧
      ∀ p, (b'.cartToRel p).1 = Box.cartToRel ⟨cleanVects eps B.vects, B.origin⟩ p ∧
           (b''.cartToRel p).1 = Box.cartToRel ⟨cleanVects eps B.vects, B.origin⟩ p := by
  obtain ⟨t', h1, h2, h3⟩ := (box_model_enc fac eps u B hf).both
  have e1 : b.readModel fac eps t' = some ⟨⟨cleanVects eps B.vects, B.origin⟩, none⟩ := by
    simp [BoxObj.readModel, h2, BoxObj.setOrigin]
  have e2 : b.readModel fac eps (xmlNorm t') = some ⟨⟨cleanVects eps B.vects, B.origin⟩, none⟩ := by
    simp [BoxObj.readModel, h3, BoxObj.setOrigin]
  have r1 := BoxReach.read fac b _ t' hb e1
  refine ⟨t', _, _, h1, e1, e2, rfl, rfl, r1, r1, fun p => ?_⟩
  exact ⟨(box_object_conversions eps _ r1 p).1, (box_object_conversions eps _ r1 p).1⟩

/-- `system.model(...)` of a `System` object whose `Box` object is in any reachable state
    (reciprocal vectors kept from an earlier cell or not) is the model of a freshly built `System` with the same
    content; writing the model changes nothing but the kept state. -/
theorem sysobj_model_fresh (fac : String → K) (eps : K) (boxUnit : Option String)
    (pu : List (String × Option String)) (s : SysObj K) (h : BoxReach eps s.bobj) :
    (s.model fac boxUnit pu).1 = systemModel fac boxUnit pu s.toSystem ∧
      (s.model fac boxUnit pu).2.toSystem = s.toSystem ∧ BoxReach eps (s.model fac boxUnit pu).2.bobj := by
  have hc : (fun p => (s.bobj.cartToRel p).1) = s.toSystem.box.cartToRel :=
    funext (fun p => BoxObj.cartToRel_fst s.bobj (h.coherent eps _) p)
  unfold SysObj.model
  split
  · refine ⟨by simp only [hc, systemModelR_eq], ?_, BoxReach.recip _ h⟩
    simp [SysObj.toSystem, BoxObj.recipVects_box]
  · exact ⟨by simp only [hc, systemModelR_eq], rfl, h⟩

/-- hence the System round trip (`system_model_roundtrip`, box-scaled properties
    included) holds for `System` objects with any history of their `Box` object. -/
theorem sysobj_model_roundtrip (fac : String → K) (eps : K) (boxUnit : Option String) (s : SysObj K)
    (h : BoxReach eps s.bobj) (hw : s.toSystem.Wf) (un : String → Option String) (hu : SysUnitsOk s.atoms un)
    (hb : cleanVects eps s.bobj.box.vects = s.bobj.box.vects)
    (hfb : ∀ u, boxUnit = some u → factor fac u ≠ 0)
    (hf : ∀ p ∈ s.atoms.props, ∀ u, effUnit p.1 (un p.1) = some u → factor fac u ≠ 0)
    (hdet : (∃ p ∈ s.atoms.props, effUnit p.1 (un p.1) = some "scaled") → M3.det s.bobj.box.vects ≠ 0) :
    ∃ t, (s.model fac boxUnit (s.atoms.props.map (fun p => (p.1, un p.1)))).1 = some t ∧
      systemRead fac eps t = some ⟨s.bobj.box, s.pbc, s.symbols, s.masses,
        ⟨s.atoms.natoms, s.atoms.props.map (fun p => (p.1, ⟨p.2.shape, p.2.data.castU (effUnit p.1 (un p.1))⟩))⟩⟩ := by
  obtain ⟨t, h1, h2⟩ := system_model_roundtrip fac eps boxUnit s.toSystem hw un hu hb hfb hf hdet
  exact ⟨t, by rw [(sysobj_model_fresh fac eps boxUnit _ s h).1]; exact h1, h2⟩

/-- a box whose reciprocal vectors were kept and whose cell was then replaced through the setter is reachable
    (and has dropped them). -/
example : BoxReach (1 / 1000000000 : ℚ)
    (((BoxObj.ofBox ⟨⟨⟨4, 0, 0⟩, ⟨1, 3, 0⟩, ⟨0, 1, 5⟩⟩, ⟨1, 2, 3⟩⟩).cartToRel ⟨1, 1, 1⟩).2.setVects (1 / 1000000000)
      ⟨⟨2, 0, 0⟩, ⟨0, 2, 0⟩, ⟨1, 0, 2⟩⟩) :=
  BoxReach.setVects _ _ (BoxReach.convert _ _ (BoxReach.new _))

end objects

/-- after an in-place edit of a coordinate through the array the object hands out
    (`system.atoms.pos[i, j] = v`) the object's model is the model of a freshly built `System` with the edited
    content — whatever the history of its `Box` object: nothing written earlier is kept. -/
theorem sysobj_edit_model_fresh [Field K] [LT K] [DecidableLT K] (fac : String → K) (eps : K) (boxUnit : Option String)
    (pu : List (String × Option String)) (s : SysObj K) (h : BoxReach eps s.bobj) (i : Nat) (v : K) :
    ((s.setPosAt i v).model fac boxUnit pu).1 = systemModel fac boxUnit pu (s.setPosAt i v).toSystem :=
  (sysobj_model_fresh fac eps boxUnit pu (s.setPosAt i v) h).1

section normal_form
variable [Field K] [LinearOrder K] [IsStrictOrderedRing K]

/-- `normalized_as(cs)` does not change an `ElasticConstants` object whose
    constants already are in the general normal form of `cs` (`InForm`: 3 cubic, 5 hexagonal, 7 tetragonal with
    `C16 = -C26`, 7 rhombohedral with `C14`, `C15`, 9 orthorhombic, 13 monoclinic constants (`C15`, `C25`, `C35`,
    `C46`; the `'monoclinic'` branch of `normalized_as` is that of repo commit 877d779), anything for triclinic). -/
theorem normalized_fixes_normal_form (eps atol rtol : K) (muK : Option (K × K)) (cs : String) (c : List K)
    (h : InForm cs c) (hc : cijSet eps atol rtol c = some c) :
    normalizedAs eps atol rtol muK cs c = some c := by
  simp [normalizedAs, normForm_fix muK cs c h, hc]

/-- for a crystal in the normal form of `cs` that passes the setter the normalisation changes nothing. -/
theorem elastic_normal_form_enc (fac1 fac2 : String → K) (eps atol rtol : K) (u : Option String)
    (muK : Option (K × K)) (cs : String) (c : List K) (h : InForm cs c) (hc : cijSet eps atol rtol c = some c) :
    RoundTrips (ecModelCS fac1 u eps atol rtol muK cs c) (ecRead fac2 eps atol rtol)
      (cijSet eps atol rtol (c.map (scaleFn fac1 fac2 u))) := by
  have hw : ecModelCS fac1 u eps atol rtol muK cs c = ecModel fac1 u (fun _ => c) c := by
    simp only [ecModelCS, normalized_fixes_normal_form eps atol rtol muK cs c h hc]
  rw [hw]
  exact elastic_model_enc fac1 fac2 eps atol rtol u (fun _ => c) c (cijSet_length eps atol rtol c c hc)

theorem elastic_normal_form_enc_self (fac : String → K) (eps atol rtol : K) (u : Option String)
    (muK : Option (K × K)) (cs : String) (c : List K) (h : InForm cs c) (hc : cijSet eps atol rtol c = some c)
    (hf : ∀ s, u = some s → factor fac s ≠ 0) :
    RoundTrips (ecModelCS fac u eps atol rtol muK cs c) (ecRead fac eps atol rtol) (some c) :=
  (elastic_normal_form_enc fac fac eps atol rtol u muK cs c h hc).congr
    (by rw [scaleFn_self_eq fac u hf, List.map_id', hc])

/-- `ElasticConstants(model=ec.model(unit=u, crystal_system=cs))` reproduces `ec`
    exactly — all 36 constants — when `ec` is in the normal form of `cs`, through the tree / JSON and through XML
    text, for every unit with a non-zero factor. -/
theorem elastic_model_normal_form (fac : String → K) (eps atol rtol : K) (u : Option String)
    (muK : Option (K × K)) (cs : String) (c : List K) (h : InForm cs c) (hc : cijSet eps atol rtol c = some c)
    (hf : ∀ s, u = some s → factor fac s ≠ 0) :
    ∃ t, ecModelCS fac u eps atol rtol muK cs c = some t ∧ ecRead fac eps atol rtol t = some c ∧
      ecRead fac eps atol rtol (xmlNorm t) = some c :=
  (elastic_normal_form_enc_self fac eps atol rtol u muK cs c h hc hf).both

/-- elastic constants in the normal form of the requested `crystal_system` (and
    accepted by the setter) come back exactly — all 36 — through every encoding. -/
theorem elastic_dump_load_end_to_end (fac : String → K) (eps atol rtol : K) (u : Option String)
    (muK : Option (K × K)) (cs : String) (c : List K) (h : InForm cs c) (hc : cijSet eps atol rtol c = some c)
    (hf : ∀ s, u = some s → factor fac s ≠ 0)
    (via : String) (hvia : via = "tree" ∨ via = "json" ∨ via = "xml") :
    ecDumpLoad fac fac eps atol rtol via u muK cs c = some c :=
  (elastic_normal_form_enc_self fac eps atol rtol u muK cs c h hc hf).dumpLoad hvia

/-- the seven-constant tetragonal tensor with `C16 = -17 = -C26` passes the setter unchanged: the hypotheses of
    `elastic_model_normal_form` are satisfiable with `C16 ≠ 0`. -/
example : cijSet (1 / 1000000000 : ℚ) (1 / 1000000000) (1 / 100000) (tetraForm 144 127 64 56 37 45 (-17))
    = some (tetraForm 144 127 64 56 37 45 (-17)) := by decide +kernel
example : cijSet (1 / 1000000000 : ℚ) (1 / 1000000000) (1 / 100000) (rhomboForm 87 106 7 12 (-18) 3 58)
    = some (rhomboForm 87 106 7 12 (-18) 3 58) := by decide +kernel
/-- a thirteen-constant monoclinic tensor (`C15`, `C25`, `C35`, `C46` non-zero) passes the setter unchanged, and
    `normalized_as('monoclinic')` of a general (triclinic) tensor is a value: it keeps the thirteen constants and
    zeroes `C14 C16 C24 C26 C34 C36 C45 C56`. -/
example : cijSet (1 / 1000000000 : ℚ) (1 / 1000000000) (1 / 100000)
      (monoForm 144 64 56 (-9) 171 48 7 127 (-13) 37 5 45 52)
    = some (monoForm 144 64 56 (-9) 171 48 7 127 (-13) 37 5 45 52) := by decide +kernel
example : normForm (K := ℚ) none "monoclinic"
      [144, 64, 56, 3, -9, 2,  64, 171, 48, -4, 7, 6,  56, 48, 127, 1, -13, 8,
       3, -4, 1, 37, 11, 5,  -9, 7, -13, 11, 45, -2,  2, 6, 8, 5, -2, 52]
    = some (monoForm 144 64 56 (-9) 171 48 7 127 (-13) 37 5 45 52) := by decide +kernel

/-- written under `fac1`, read under `fac2`: the constants of a crystal in the
    normal form of `cs` come back multiplied by the pressure unit's factor ratio (and through the setter), none of
    them lost to the normalisation. -/
theorem elastic_model_normal_form_two (fac1 fac2 : String → K) (eps atol rtol : K) (u : Option String)
    (muK : Option (K × K)) (cs : String) (c : List K) (h : InForm cs c) (hc : cijSet eps atol rtol c = some c) :
    ∃ t, ecModelCS fac1 u eps atol rtol muK cs c = some t ∧
      ecRead fac2 eps atol rtol t = cijSet eps atol rtol (c.map (scaleFn fac1 fac2 u)) :=
  (elastic_normal_form_enc fac1 fac2 eps atol rtol u muK cs c h hc).tree

/-- whatever constants `n` a (lossy) normalisation into `cs` produces from
    arbitrary constants `c`, they are in the normal form of `cs`; so, when the setter leaves them alone, storing
    them as `cs` again reproduces them exactly: the stored representation is stable. -/
theorem elastic_model_second_generation (fac : String → K) (eps atol rtol : K) (u : Option String)
    (muK muK' : Option (K × K)) (cs : String) (hcs : cs ≠ "isotropic") (c n : List K)
    (hn : normForm muK cs c = some n) (hc : cijSet eps atol rtol n = some n)
    (hf : ∀ s, u = some s → factor fac s ≠ 0) :
    normalizedAs eps atol rtol muK cs c = some n ∧
    ∃ t, ecModelCS fac u eps atol rtol muK' cs n = some t ∧ ecRead fac eps atol rtol t = some n ∧
      ecRead fac eps atol rtol (xmlNorm t) = some n :=
  ⟨by simp [normalizedAs, hn, hc],
   elastic_model_normal_form fac eps atol rtol u muK' cs n (normForm_inForm muK cs c n hcs hn) hc hf⟩

end normal_form

section ordered
variable [Field K] [LinearOrder K] [IsStrictOrderedRing K]

/-- any `Box` built through the `vects` setter (`0 ≤ eps < 1`; atomman uses
    `eps = 1e-9`) — i.e. every `Box` object — comes back from its data model exactly. -/
theorem box_setter_roundtrip (fac : String → K) (eps : K) (h0 : 0 ≤ eps) (h1 : eps < 1) (u : Option String)
    (m : M3 K) (o : V3 K) (hf : ∀ s, u = some s → factor fac s ≠ 0) :
    ∃ t, boxModel fac u ⟨cleanVects eps m, o⟩ = some t ∧
      boxRead fac eps t = some ⟨cleanVects eps m, o⟩ ∧ boxRead fac eps (xmlNorm t) = some ⟨cleanVects eps m, o⟩ :=
  ((box_model_enc fac eps u ⟨cleanVects eps m, o⟩ hf).congr (by rw [cleanVects_idem eps h0 h1])).both

/-- constants accepted by the `Cij` setter (every `ElasticConstants` object) come
    back from `model(unit=u)` (no normalisation) exactly, through the tree and through XML text. -/
theorem elastic_setter_roundtrip (fac : String → K) (eps atol rtol : K) (h0 : 0 ≤ eps) (h1 : eps < 1)
    (u : Option String) (l c : List K) (hc : cijSet eps atol rtol l = some c)
    (hf : ∀ s, u = some s → factor fac s ≠ 0) :
    ∃ t, ecModel fac u id c = some t ∧ ecRead fac eps atol rtol t = some c ∧
      ecRead fac eps atol rtol (xmlNorm t) = some c :=
  ((elastic_model_enc_self fac eps atol rtol u id c (cijSet_length eps atol rtol l c hc) hf).congr
    (cijSet_idem eps atol rtol h0 h1 l c hc)).both

end ordered
section select

theorem lookup_filterMap_sel {α : Type} (props : List (String × α)) (k : String) :
    ∀ pu : List (String × Option String),
      (pu.filterMap (fun e => (props.lookup e.1).map (fun arr => (e.1, arr)))).lookup k
        = (pu.lookup k).bind (fun _ => props.lookup k)
  | [] => rfl
  | e :: pu => by
    have ih := lookup_filterMap_sel props k pu
    rw [List.filterMap_cons, List.lookup_cons]
    cases hke : k == e.1 with
    | true =>
      obtain rfl : k = e.1 := eq_of_beq hke
      cases hl : props.lookup e.1 with
      | none => simp only [Option.map_none, ih, hl, Option.bind_fun_none]
      | some arr => simp only [Option.map_some, List.lookup_cons, hke, Option.bind_some]
    | false =>
      cases hl : props.lookup e.1 with
      | none => exact ih
      | some arr => simp only [Option.map_some, List.lookup_cons, hke, ih]

theorem filterMap_sel_map {α β : Type} (props : List (String × α)) (g : String → β) :
    ∀ (pu : List (String × Option String)), (∀ e ∈ pu, ∃ arr, props.lookup e.1 = some arr) →
      (pu.filterMap (fun e => (props.lookup e.1).map (fun arr => (e.1, arr)))).map (fun p => (p.1, g p.1))
        = pu.map (fun e => (e.1, g e.1)) := by
  intro pu
  induction pu with
  | nil => intro _; rfl
  | cons e pu ih =>
    intro hmem
    obtain ⟨arr, harr⟩ := hmem e (by simp)
    simp only [List.filterMap_cons, harr, Option.map_some, List.map_cons]
    rw [ih (fun e' he' => hmem e' (List.mem_cons_of_mem _ he'))]

theorem select_props_units (s : SystemM K) (pu : List (String × Option String))
    (hnd : (pu.map Prod.fst).Nodup) (hmem : ∀ e ∈ pu, ∃ arr, s.atoms.props.lookup e.1 = some arr) :
    (s.select pu).atoms.props.map (fun p => (p.1, selUnit pu p.1)) = pu := by
  unfold SystemM.select
  simp only
  rw [filterMap_sel_map _ _ pu hmem]
  conv_rhs => rw [← List.map_id pu]
  apply List.map_congr_left
  intro e he
  simp [selUnit, lookup_of_mem_nodup pu hnd e he]

section field
variable [Field K]

theorem sysPropModel_select (fac : String → K) (s : SystemM K) (pu : List (String × Option String))
    (e : String × Option String) (he : e ∈ pu) :
    sysPropModel fac (s.select pu) e = sysPropModel fac s e := by
  have hl : (s.select pu).atoms.props.lookup e.1 = s.atoms.props.lookup e.1 := by
    obtain ⟨v, hv⟩ := Option.isSome_iff_exists.mp (List.lookup_isSome_iff.mpr ⟨e, he, beq_self_eq_true _⟩)
    exact (lookup_filterMap_sel _ e.1 pu).trans (by rw [hv]; rfl)
  simp only [sysPropModel, propModel, hl]
  rfl

/-- **writing a selection = writing every property of the System that holds just the selected ones** -/
theorem systemModel_select (fac : String → K) (boxUnit : Option String) (s : SystemM K)
    (pu : List (String × Option String)) (hnd : (pu.map Prod.fst).Nodup)
    (hmem : ∀ e ∈ pu, ∃ arr, s.atoms.props.lookup e.1 = some arr) :
    systemModel fac boxUnit pu s =
      systemModel fac boxUnit ((s.select pu).atoms.props.map (fun p => (p.1, selUnit pu p.1))) (s.select pu) := by
  rw [select_props_units s pu hnd hmem]
  have h := mapOpt_congr (sysPropModel fac (s.select pu)) (sysPropModel fac s) pu
    (fun e he => sysPropModel_select fac s pu e he)
  simp only [systemModel, h]
  rfl

/-- `System(model=system.model(box_unit=…, prop_unit=pu))` for a *selection* `pu` of the
    properties (any subset, any order, any admissible units, as long as the selected properties alone make a
    well-formed `System`, i.e. `atype` and `pos` are selected first — `select_wf`): cell, origin, flags, symbols,
    masses and `natoms` come back, and exactly the selected properties, in the selected order, each with its
    shape and buffer (box-scaled ones included). -/
theorem system_model_select [LT K] [DecidableLT K] (fac : String → K) (eps : K) (boxUnit : Option String)
    (s : SystemM K) (pu : List (String × Option String)) (hnd : (pu.map Prod.fst).Nodup)
    (hmem : ∀ e ∈ pu, ∃ arr, s.atoms.props.lookup e.1 = some arr)
    (hw : (s.select pu).Wf) (hu : SysUnitsOk (s.select pu).atoms (selUnit pu))
    (hb : cleanVects eps s.box.vects = s.box.vects)
    (hfb : ∀ u, boxUnit = some u → factor fac u ≠ 0)
    (hf : ∀ p ∈ (s.select pu).atoms.props, ∀ u, effUnit p.1 (selUnit pu p.1) = some u → factor fac u ≠ 0)
    (hdet : (∃ p ∈ (s.select pu).atoms.props, effUnit p.1 (selUnit pu p.1) = some "scaled") → M3.det s.box.vects ≠ 0) :
    ∃ t, systemModel fac boxUnit pu s = some t ∧
      systemRead fac eps t = some ⟨s.box, s.pbc, s.symbols, s.masses,
        ⟨s.atoms.natoms, (s.select pu).atoms.props.map
          (fun p => (p.1, ⟨p.2.shape, p.2.data.castU (effUnit p.1 (selUnit pu p.1))⟩))⟩⟩ := by
  rw [systemModel_select fac boxUnit s pu hnd hmem]
  exact system_model_roundtrip fac eps boxUnit (s.select pu) hw (selUnit pu) hu hb hfb hf hdet

/-- the same through XML text. -/
theorem system_model_select_xml [LT K] [DecidableLT K] (fac : String → K) (eps : K) (boxUnit : Option String)
    (s : SystemM K) (pu : List (String × Option String)) (hnd : (pu.map Prod.fst).Nodup)
    (hmem : ∀ e ∈ pu, ∃ arr, s.atoms.props.lookup e.1 = some arr)
    (hw : (s.select pu).Wf) (hu : SysUnitsOk (s.select pu).atoms (selUnit pu))
    (hb : cleanVects eps s.box.vects = s.box.vects)
    (hfb : ∀ u, boxUnit = some u → factor fac u ≠ 0)
    (hf : ∀ p ∈ (s.select pu).atoms.props, ∀ u, effUnit p.1 (selUnit pu p.1) = some u → factor fac u ≠ 0)
    (hdet : (∃ p ∈ (s.select pu).atoms.props, effUnit p.1 (selUnit pu p.1) = some "scaled") → M3.det s.box.vects ≠ 0) :
    ∃ t, systemModel fac boxUnit pu s = some t ∧
      systemRead fac eps (xmlNorm t) = some ⟨s.box, s.pbc, s.symbols, s.masses,
        ⟨s.atoms.natoms, (s.select pu).atoms.props.map
          (fun p => (p.1, ⟨p.2.shape, p.2.data.castU (effUnit p.1 (selUnit pu p.1))⟩))⟩⟩ := by
  rw [systemModel_select fac boxUnit s pu hnd hmem]
  exact system_model_roundtrip_xml fac eps boxUnit (s.select pu) hw (selUnit pu) hu hb hfb hf hdet

end field

/-- a selection that names `atype` and `pos` first (then any distinct other properties of the
    System, in any order) leaves a well-formed System: the hypothesis `hw` of `system_model_select` follows from
    the invariants of the System itself. -/
theorem select_wf (s : SystemM K) (hw : s.Wf) (ua up : Option String) (rest : List (String × Option String))
    (hnd : (("atype", ua) :: ("pos", up) :: rest).map Prod.fst |>.Nodup)
    (hmem : ∀ e ∈ rest, ∃ arr, s.atoms.props.lookup e.1 = some arr) :
    (s.select (("atype", ua) :: ("pos", up) :: rest)).Wf := by
  obtain ⟨la, lp, rs, hprops, hla⟩ := hw.atoms.head
  have hA : s.atoms.props.lookup "atype" = some ⟨[s.atoms.natoms], .int la⟩ := by rw [hprops]; simp [List.lookup]
  have hP : s.atoms.props.lookup "pos" = some ⟨[s.atoms.natoms, 3], .flt lp⟩ := by rw [hprops]; simp [List.lookup]
  have hsel : (s.select (("atype", ua) :: ("pos", up) :: rest)).atoms.props =
      ("atype", ⟨[s.atoms.natoms], .int la⟩) :: ("pos", ⟨[s.atoms.natoms, 3], .flt lp⟩) ::
        rest.filterMap (fun e => (s.atoms.props.lookup e.1).map (fun arr => (e.1, arr))) := by
    simp [SystemM.select, hA, hP]
  have hall : ∀ e ∈ ("atype", ua) :: ("pos", up) :: rest, ∃ arr, s.atoms.props.lookup e.1 = some arr := by
    intro e he
    rcases List.mem_cons.mp he with rfl | he
    · exact ⟨_, hA⟩
    · rcases List.mem_cons.mp he with rfl | he
      · exact ⟨_, hP⟩
      · exact hmem e he
  refine ⟨⟨⟨la, lp, _, hsel, hla⟩, ?_, ?_⟩, hw.pbc, ?_, hw.masses⟩
  · have := congrArg (List.map Prod.fst) (select_props_units s _ hnd hall)
    simp only [List.map_map, Function.comp_def] at this
    rw [show (s.select (("atype", ua) :: ("pos", up) :: rest)).atoms.props.map Prod.fst
        = (("atype", ua) :: ("pos", up) :: rest).map Prod.fst from this]
    exact hnd
  · intro p hp
    obtain ⟨e, _, hq⟩ := List.mem_filterMap.mp hp
    obtain ⟨arr, harr, rfl⟩ := Option.map_eq_some_iff.mp hq
    exact hw.atoms.ok (e.1, arr) (mem_of_lookup _ _ _ harr)
  · obtain ⟨nat, hnat, hle⟩ := hw.ntypes
    refine ⟨nat, ?_, hle⟩
    rw [← hnat]
    simp [AtomsM.natypes, hsel, hprops, List.lookup]

/-- non-vacuity: from the example System (tilted cell, non-zero origin, 5 properties) select `atype`, `pos`
    (box-scaled), then `stress` (GPa) and `tag` in the opposite of their stored order, leaving `label` out: the
    selection is admissible (`select_wf`) and what is kept is exactly the four selected properties in that order. -/
def exSel : List (String × Option String) := [("atype", none), ("pos", some "scaled"), ("stress", some "GPa"), ("tag", none)]

example : (exSys.select exSel).Wf :=
  select_wf exSys exSys_wf none (some "scaled") [("stress", some "GPa"), ("tag", none)] (by decide)
    (by intro e he; simp only [List.mem_cons, List.not_mem_nil, or_false] at he; rcases he with rfl | rfl <;> exact ⟨_, rfl⟩)

example : (exSys.select exSel).atoms.props.map Prod.fst = ["atype", "pos", "stress", "tag"] := by decide +kernel
example : (exSel.map Prod.fst).Nodup := by decide

end select

section callforms
variable [Field K]

/-- the call forms of `Atoms.model` that describe the same properties and units write
    the same tree as the dictionary form `prop_unit = dict(zip(names, units))`: the two lists, the dictionary, the
    `unit` list alone when the names are the object's own in their own order, and — when no unit is asked for —
    the `prop_name` list alone and no argument at all. -/
theorem atoms_model_call_forms (fac : String → K) (a : AtomsM K) (names : List String) (units : List (Option String))
    (hn : names.Nodup) (hl : units.length = names.length) :
    atomsModelCall fac (some names) (some units) none a = atomsModel fac (names.zip units) a ∧
    atomsModelCall fac none none (some (names.zip units)) a = atomsModel fac (names.zip units) a ∧
    (names = a.names → atomsModelCall fac none (some units) none a = atomsModel fac (names.zip units) a) ∧
    ((∀ u ∈ units, u = none) →
      atomsModelCall fac (some names) none none a = atomsModel fac (names.zip units) a ∧
      (names = a.names → atomsModelCall fac none none none a = atomsModel fac (names.zip units) a)) :=
  resolveCall_forms (fun pu => atomsModel fac pu a) a.names names units hn hl

/-- the same for `System.model` / `dump('system_model')` (they hand the arguments through). -/
theorem system_model_call_forms (fac : String → K) (boxUnit : Option String) (s : SystemM K) (names : List String)
    (units : List (Option String)) (hn : names.Nodup) (hl : units.length = names.length) :
    systemModelCall fac boxUnit (some names) (some units) none s = systemModel fac boxUnit (names.zip units) s ∧
    systemModelCall fac boxUnit none none (some (names.zip units)) s = systemModel fac boxUnit (names.zip units) s ∧
    (names = s.atoms.names →
      systemModelCall fac boxUnit none (some units) none s = systemModel fac boxUnit (names.zip units) s) ∧
    ((∀ u ∈ units, u = none) →
      systemModelCall fac boxUnit (some names) none none s = systemModel fac boxUnit (names.zip units) s ∧
      (names = s.atoms.names →
        systemModelCall fac boxUnit none none none s = systemModel fac boxUnit (names.zip units) s)) :=
  resolveCall_forms (fun pu => systemModel fac boxUnit pu s) s.atoms.names names units hn hl

/-- the round trip of `system_model_roundtrip` when the units are handed over
    as the bare `unit=[…]` list (one entry per property of the object, in the object's own order, no `prop_name`):
    every requested storage unit is used — cell, origin, flags, symbols, masses, `natoms` and every property come
    back (box-scaled ones included). -/
theorem system_model_unit_list_roundtrip [LT K] [DecidableLT K] (fac : String → K) (eps : K) (boxUnit : Option String)
    (s : SystemM K) (hw : s.Wf) (un : String → Option String) (hu : SysUnitsOk s.atoms un)
    (hb : cleanVects eps s.box.vects = s.box.vects)
    (hfb : ∀ u, boxUnit = some u → factor fac u ≠ 0)
    (hf : ∀ p ∈ s.atoms.props, ∀ u, effUnit p.1 (un p.1) = some u → factor fac u ≠ 0)
    (hdet : (∃ p ∈ s.atoms.props, effUnit p.1 (un p.1) = some "scaled") → M3.det s.box.vects ≠ 0) :
    ∃ t, systemModelCall fac boxUnit none (some (s.atoms.props.map (fun p => un p.1))) none s = some t ∧
      systemRead fac eps t = some ⟨s.box, s.pbc, s.symbols, s.masses,
        ⟨s.atoms.natoms, s.atoms.props.map (fun p => (p.1, ⟨p.2.shape, p.2.data.castU (effUnit p.1 (un p.1))⟩))⟩⟩ := by
  have h3 := (system_model_call_forms fac boxUnit s s.atoms.names (s.atoms.props.map (fun p => un p.1))
    hw.atoms.nodup (by simp [AtomsM.names])).2.2.1 rfl
  rw [h3, AtomsM.names, List.zip_map']
  exact system_model_roundtrip fac eps boxUnit s hw un hu hb hfb hf hdet

end callforms

section end_to_end
variable [Field K]

set_option linter.unusedSectionVars false in
/-- the encodings: `tree` and `json` hand the tree over as it is, `xml` collapses one-element lists, and `encode`
    refuses exactly the other format names. -/
theorem encode_refuses_iff (via : String) (t : DM K) :
    encode via t = none ↔ ¬ (via = "tree" ∨ via = "json" ∨ via = "xml") := by
  constructor
  · rintro h (rfl | rfl | rfl) <;> cases h
  · intro h
    unfold encode
    rw [if_neg fun h' => h (h'.elim Or.inl fun h'' => Or.inr (Or.inl h'')), if_neg fun h' => h (Or.inr (Or.inr h'))]

/-- the statement a user relies on, composed from the per-function theorems.  For
    every well-formed System, every admissible choice of storage units `un` (box-scaled ones included, `det ≠ 0`), every
    box unit, every working-unit configuration with non-zero factors, EVERY text encoding (`tree`, `json`, `xml`) and
    EVERY call form that names these units — the `prop_unit` dictionary, the `prop_name` + `unit` lists, the bare
    `unit` list — `load('system_model', system.dump('system_model', …))` returns the System: cell, origin, pbc,
    symbols, masses, natoms, every property in order with its shape and buffer (integers written with a unit as the
    same numbers in floating point, `castU`). -/
theorem system_dump_load_end_to_end [LT K] [DecidableLT K] (fac : String → K) (eps : K) (boxUnit : Option String)
    (s : SystemM K) (hw : s.Wf) (un : String → Option String) (hu : SysUnitsOk s.atoms un)
    (hb : cleanVects eps s.box.vects = s.box.vects)
    (hfb : ∀ u, boxUnit = some u → factor fac u ≠ 0)
    (hf : ∀ p ∈ s.atoms.props, ∀ u, effUnit p.1 (un p.1) = some u → factor fac u ≠ 0)
    (hdet : (∃ p ∈ s.atoms.props, effUnit p.1 (un p.1) = some "scaled") → M3.det s.box.vects ≠ 0)
    (via : String) (hvia : via = "tree" ∨ via = "json" ∨ via = "xml") :
    let expected : SystemM K := ⟨s.box, s.pbc, s.symbols, s.masses,
        ⟨s.atoms.natoms, s.atoms.props.map (fun p => (p.1, ⟨p.2.shape, p.2.data.castU (effUnit p.1 (un p.1))⟩))⟩⟩
    let names := s.atoms.names
    let units := s.atoms.props.map (fun p => un p.1)
    systemDumpLoad fac fac eps via boxUnit none none (some (names.zip units)) s = some expected
    ∧ systemDumpLoad fac fac eps via boxUnit (some names) (some units) none s = some expected
    ∧ systemDumpLoad fac fac eps via boxUnit none (some units) none s = some expected := by
  intro expected names units
  obtain ⟨c1, c2, c3, -⟩ := system_model_call_forms fac boxUnit s names units hw.atoms.nodup
    (by simp [units, names, AtomsM.names])
  have key := (system_model_enc fac eps boxUnit s hw un hu hb hfb hf hdet).dumpLoad hvia
  rw [← List.zip_map'] at key
  unfold systemDumpLoad
  rw [c1, c2, c3 rfl]
  exact ⟨key, key, key⟩

/-- non-vacuity: the tilted two-type System `exSys` (non-zero origin, a missing symbol, a missing mass, `pos` stored
    box-scaled, a tensor property in GPa) under a configuration in which every unit has the factor 2, through XML text:
    all hypotheses hold, so all three call forms return the System. -/
example : systemDumpLoad (fun _ => (2 : ℚ)) (fun _ => 2) (1 / 1000000000) "xml" (some "nm") none
      (some (exSys.atoms.props.map (fun p => exUn p.1))) none exSys
    = some ⟨exSys.box, exSys.pbc, exSys.symbols, exSys.masses, ⟨exSys.atoms.natoms,
        exSys.atoms.props.map (fun p => (p.1, ⟨p.2.shape, p.2.data.castU (effUnit p.1 (exUn p.1))⟩))⟩⟩ :=
  (system_dump_load_end_to_end (fun _ => (2 : ℚ)) (1 / 1000000000) (some "nm") exSys exSys_wf exUn exAtoms_units
    (by decide +kernel) (by intro u _; simp [factor]; split <;> norm_num)
    (by intro p _ u _; simp [factor]; split <;> norm_num) (fun _ => by decide +kernel) "xml" (Or.inr (Or.inr rfl))).2.2

/-- the same for `Atoms.model(…)` → text → `Atoms(model=…)`. -/
theorem atoms_dump_load_end_to_end (fac : String → K) (a : AtomsM K) (hw : a.Wf) (un : String → Option String)
    (hu : UnitsOk a un)
    (hf : ∀ p ∈ a.props, ∀ s, effUnit p.1 (un p.1) = some s → factor fac s ≠ 0)
    (via : String) (hvia : via = "tree" ∨ via = "json" ∨ via = "xml") :
    let expected : AtomsM K := ⟨a.natoms,
        a.props.map (fun p => (p.1, ⟨p.2.shape, p.2.data.castU (effUnit p.1 (un p.1))⟩))⟩
    let names := a.names
    let units := a.props.map (fun p => un p.1)
    atomsDumpLoad fac fac via none none (some (names.zip units)) a = some expected
    ∧ atomsDumpLoad fac fac via (some names) (some units) none a = some expected
    ∧ atomsDumpLoad fac fac via none (some units) none a = some expected := by
  intro expected names units
  obtain ⟨c1, c2, c3, -⟩ := atoms_model_call_forms fac a names units hw.nodup (by simp [units, names, AtomsM.names])
  have key := (atoms_model_enc fac a hw un hu hf).dumpLoad hvia
  rw [← List.zip_map'] at key
  unfold atomsDumpLoad
  rw [c1, c2, c3 rfl]
  exact ⟨key, key, key⟩

/-- uniqueness / nothing is lost: two well-formed Systems that are written — same box unit,
    same storage units — to the SAME tree have the same cell, origin, pbc, symbols, masses, natoms, property names and,
    property by property, the same shape and the same numbers (an integer column written with a unit is compared as
    numbers, `castU`).  Immediate from the round trip: both are what the reader returns for that tree. -/
theorem system_model_injective [LT K] [DecidableLT K] (fac : String → K) (eps : K) (boxUnit : Option String)
    (un : String → Option String) (s₁ s₂ : SystemM K)
    (hw₁ : s₁.Wf) (hu₁ : SysUnitsOk s₁.atoms un) (hb₁ : cleanVects eps s₁.box.vects = s₁.box.vects)
    (hf₁ : ∀ p ∈ s₁.atoms.props, ∀ u, effUnit p.1 (un p.1) = some u → factor fac u ≠ 0)
    (hdet₁ : (∃ p ∈ s₁.atoms.props, effUnit p.1 (un p.1) = some "scaled") → M3.det s₁.box.vects ≠ 0)
    (hw₂ : s₂.Wf) (hu₂ : SysUnitsOk s₂.atoms un) (hb₂ : cleanVects eps s₂.box.vects = s₂.box.vects)
    (hf₂ : ∀ p ∈ s₂.atoms.props, ∀ u, effUnit p.1 (un p.1) = some u → factor fac u ≠ 0)
    (hdet₂ : (∃ p ∈ s₂.atoms.props, effUnit p.1 (un p.1) = some "scaled") → M3.det s₂.box.vects ≠ 0)
    (hfb : ∀ u, boxUnit = some u → factor fac u ≠ 0)
    (heq : systemModel fac boxUnit (s₁.atoms.props.map (fun p => (p.1, un p.1))) s₁
         = systemModel fac boxUnit (s₂.atoms.props.map (fun p => (p.1, un p.1))) s₂) :
    s₁.box = s₂.box ∧ s₁.pbc = s₂.pbc ∧ s₁.symbols = s₂.symbols ∧ s₁.masses = s₂.masses
    ∧ s₁.atoms.natoms = s₂.atoms.natoms
    ∧ s₁.atoms.props.map (fun p => (p.1, (⟨p.2.shape, p.2.data.castU (effUnit p.1 (un p.1))⟩ : Arr K)))
      = s₂.atoms.props.map (fun p => (p.1, ⟨p.2.shape, p.2.data.castU (effUnit p.1 (un p.1))⟩)) := by
  have h := read_unique (system_model_roundtrip fac eps boxUnit s₁ hw₁ un hu₁ hb₁ hfb hf₁ hdet₁)
    (system_model_roundtrip fac eps boxUnit s₂ hw₂ un hu₂ hb₂ hfb hf₂ hdet₂) heq
  simpa only [SystemM.mk.injEq, AtomsM.mk.injEq] using h

/-- two arrays written with the same unit to the same tree have the same shape and the same
    numbers. -/
theorem value_model_injective (fac : String → K) (units : Option String) (a b : Arr K)
    (hwa : a.data.length = prodNat a.shape) (hna : prodNat a.shape ≠ 0) (hsa : ∀ l, a.data = Data.str l → units = none)
    (hwb : b.data.length = prodNat b.shape) (hnb : prodNat b.shape ≠ 0) (hsb : ∀ l, b.data = Data.str l → units = none)
    (hf : ∀ u, units = some u → factor fac u ≠ 0)
    (heq : ucModel fac units a = ucModel fac units b) :
    a.shape = b.shape ∧ a.data.castU units = b.data.castU units := by
  exact Arr.mk.inj
    (read_unique (valueUnit_model fac units a hwa hna hf hsa) (valueUnit_model fac units b hwb hnb hf hsb) heq)

/-- the last clause of the property at the API level: a System dumped under one
    working-unit configuration and loaded under another, through EVERY text encoding: flags, symbols, masses, natoms,
    names and shapes unchanged; every box length × the box unit's ratio `g`; a box-scaled property × the same `g` (it
    follows the cell); every other property × its own unit's ratio (`propTwo`) — i.e. the physical values are those that
    were written.  `hclean`: the rescaled vectors pass the `vects` setter's clean-up unchanged. -/
theorem system_dump_load_two_units_end_to_end [LT K] [DecidableLT K] (fac1 fac2 : String → K) (eps : K)
    (boxUnit : Option String) (s : SystemM K) (hw : s.Wf) (un : String → Option String) (hu : SysUnitsOk s.atoms un)
    (hclean : cleanVects eps (mapM3 (scaleFn fac1 fac2 boxUnit) s.box.vects) = mapM3 (scaleFn fac1 fac2 boxUnit) s.box.vects)
    (hdet : M3.det s.box.vects ≠ 0) (via : String) (hvia : via = "tree" ∨ via = "json" ∨ via = "xml") :
    systemDumpLoad fac1 fac2 eps via boxUnit none none (some (s.atoms.props.map (fun p => (p.1, un p.1)))) s
      = some ⟨⟨mapM3 (scaleFn fac1 fac2 boxUnit) s.box.vects, s.box.origin.map (scaleFn fac1 fac2 boxUnit)⟩,
          s.pbc, s.symbols, s.masses,
          ⟨s.atoms.natoms, s.atoms.props.map (fun p =>
            if effUnit p.1 (un p.1) = some "scaled" then
              (p.1, ⟨p.2.shape, .flt (p.2.data.fltD.map (scaleFn fac1 fac2 boxUnit))⟩)
            else propTwo fac1 fac2 un p)⟩⟩ :=
  (system_model_two_units_enc fac1 fac2 eps boxUnit s hw un hu hclean fun _ => hdet).dumpLoad hvia

/-- a format name that is none of the three is refused at the encoding step, whatever the System. -/
theorem system_dump_load_refuses_format [LT K] [DecidableLT K] (facW facR : String → K) (eps : K) (via : String)
    (hvia : ¬ (via = "tree" ∨ via = "json" ∨ via = "xml")) (boxUnit : Option String)
    (pn : Option (List String)) (un : Option (List (Option String))) (pu : Option (List (String × Option String)))
    (s : SystemM K) : systemDumpLoad facW facR eps via boxUnit pn un pu s = none := by
  unfold systemDumpLoad
  cases systemModelCall facW boxUnit pn un pu s with
  | none => rfl
  | some t => simp [(encode_refuses_iff via t).2 hvia]

end end_to_end

/-- non-vacuity / the literal cases: the bare `unit` list is aligned with the object's own properties; a list of
    another length is refused; a name given twice keeps its first position and its last unit (dictionary). -/
example : resolveCall ["atype", "pos", "vel", "pe"] none (some [none, some "nm", some "m/s", some "kJ/mol"]) none
    = some [("atype", none), ("pos", some "nm"), ("vel", some "m/s"), ("pe", some "kJ/mol")] := by decide
example : resolveCall ["atype", "pos", "vel"] none (some [none, some "nm"]) none = none := by decide
example : resolveCall ["atype", "pos"] (some ["pos", "atype", "pos"]) (some [some "nm", none, some "pm"]) none
    = some [("pos", some "pm"), ("atype", none)] := by decide
example : resolveCall ["atype", "pos"] (some ["atype"]) none (some [("atype", none)]) = none := by decide

/-! `uc.value_unit` hands `term['value']` to `np.asarray` whole.  What comes back does not depend on the length of the list
or on any way of cutting it into blocks: the type is decided by ALL entries and the buffer is the blocks' buffers one
after the other. -/

/-- two blocks of integers — of any lengths — are read as the integer array of both. -/
theorem value_list_blocks_int [IntCast K] (a b : List (Sc K)) (ia ib : List Int)
    (ha : mapOpt Sc.int? a = some ia) (hb : mapOpt Sc.int? b = some ib) (hne : a ++ b ≠ []) :
    Data.ofScs (a ++ b) = some (Data.int (ia ++ ib)) :=
  ofScs_of_int _ _ (by rw [mapOpt_append, ha, hb]) hne

/-- an entry that is not an integer anywhere in the tail block makes the whole array a
    non-integer array, however long the integer head is. -/
theorem value_list_tail_decides [IntCast K] (a b : List (Sc K)) (hb : mapOpt Sc.int? b = none) (is : List Int) :
    Data.ofScs (a ++ b) ≠ some (Data.int is) := by
  have h : mapOpt Sc.int? (a ++ b) = none := by
    rw [mapOpt_append, hb]; cases mapOpt Sc.int? a <;> rfl
  cases hab : a ++ b with
  | nil => simp [Data.ofScs]
  | cons x r =>
    rw [hab] at h
    simp only [Data.ofScs, h]
    cases mapOpt Sc.num? (x :: r) with
    | some xs => simp
    | none =>
      cases mapOpt Sc.str? (x :: r) <;> simp

/-- numeric blocks that are not all integers are read as the float array of both blocks'
    values (integers cast), in order. -/
theorem value_list_blocks_num [IntCast K] (a b : List (Sc K)) (xa xb : List K)
    (ha : mapOpt Sc.num? a = some xa) (hb : mapOpt Sc.num? b = some xb) (hi : mapOpt Sc.int? (a ++ b) = none) :
    Data.ofScs (a ++ b) = some (Data.flt (xa ++ xb)) :=
  ofScs_of_num _ _ hi (by rw [mapOpt_append, ha, hb])

/-- string blocks are read as the string array of both: every string whole, no width fixed by
    the head. -/
theorem value_list_blocks_str [IntCast K] (a b : List (Sc K)) (sa sb : List String)
    (ha : mapOpt Sc.str? a = some sa) (hb : mapOpt Sc.str? b = some sb) (hne : a ++ b ≠ []) :
    Data.ofScs (a ++ b) = some (Data.str (sa ++ sb)) :=
  ofScs_of_str _ _ (by rw [mapOpt_append, ha, hb]) hne

/-- non-vacuity: an integer head with an integer tail, with a fraction in the tail, short labels with a long one last. -/
example : Data.ofScs ([Sc.int 1, Sc.int 2] ++ [Sc.int (-7)] : List (Sc Rat)) = some (Data.int [1, 2, -7]) ∧
    Data.ofScs ([Sc.int 1, Sc.int 2] ++ [Sc.flt (1 / 2)] : List (Sc Rat)) = some (Data.flt [1, 2, 1 / 2]) ∧
    Data.ofScs ([Sc.str "a", Sc.str "bb"] ++ [Sc.str "interstitial-site"] : List (Sc Rat))
      = some (Data.str ["a", "bb", "interstitial-site"]) := by
  refine ⟨rfl, ?_, rfl⟩
  simp [Data.ofScs, mapOpt, Sc.int?, Sc.num?]

section physical
variable [Field K]

/-- companion of `errorUnit_model_two` with non-zero factors: the uncertainty and a float
    value read under `fac2` and expressed in the stored unit ARE the written ones expressed in it under `fac1`, and the
    opposite rescaling returns the written numbers. -/
theorem errorUnit_model_two_nz (fac1 fac2 : String → K) (units : Option String) (l e : List K) (shape : List Nat)
    (hw : l.length = prodNat shape) (he : e.length = prodNat shape) (hne : prodNat shape ≠ 0)
    (h1 : ∀ s, units = some s → factor fac1 s ≠ 0) (h2 : ∀ s, units = some s → factor fac2 s ≠ 0) :
    ∃ t l' e', ucModelE fac1 units ⟨shape, .flt l⟩ e = some t ∧
      valueUnit fac2 t = some ⟨shape, .flt l'⟩ ∧ errorUnit fac2 t = some ⟨shape, .flt e'⟩ ∧
      l'.map (inUnit fac2 units) = l.map (inUnit fac1 units) ∧
      e'.map (inUnit fac2 units) = e.map (inUnit fac1 units) ∧
      l'.map (scaleFn fac2 fac1 units) = l ∧ e'.map (scaleFn fac2 fac1 units) = e := by
  obtain ⟨t, a, b, c⟩ := errorUnit_model_two fac1 fac2 units ⟨shape, .flt l⟩ e hw he hne (by intro l h; cases h)
  exact ⟨t, _, _, a, b, c, map_inUnit_scaleFn fac1 fac2 units h2 l, map_inUnit_scaleFn fac1 fac2 units h2 e,
    map_scaleFn_back fac1 fac2 units h1 h2 l, map_scaleFn_back fac1 fac2 units h1 h2 e⟩

/-- non-vacuity: `[3, 5]` ± `[1/2, 1/4]` stored in a unit worth 2 at writing and 7 at reading. -/
example : ∃ t l' e', ucModelE (fun _ => (2 : ℚ)) (some "GPa") ⟨[2], .flt [3, 5]⟩ [1 / 2, 1 / 4] = some t ∧
    valueUnit (fun _ => (7 : ℚ)) t = some ⟨[2], .flt l'⟩ ∧ errorUnit (fun _ => (7 : ℚ)) t = some ⟨[2], .flt e'⟩ ∧
    l'.map (inUnit (fun _ => (7 : ℚ)) (some "GPa")) = [3 / 2, 5 / 2] := by
  obtain ⟨t, l', e', a, b, c, d, _⟩ := errorUnit_model_two_nz (fun _ => (2 : ℚ)) (fun _ => (7 : ℚ)) (some "GPa")
    [3, 5] [1 / 2, 1 / 4] [2] rfl rfl (by decide)
    (by intro s _; simp [factor]; split <;> norm_num) (by intro s _; simp [factor]; split <;> norm_num)
  exact ⟨t, l', e', a, b, c, by rw [d]; simp [inUnit, factor]⟩

variable [LT K] [DecidableLT K]

/-- companion of `elastic_model_two`: the 36 numbers `r` handed to the setter on reading,
    expressed in the stored pressure unit under the reading configuration, are the written constants expressed in it
    under the writing configuration; rescaled back they are the written constants. -/
theorem elastic_model_two_nz (fac1 fac2 : String → K) (eps atol rtol : K) (u : Option String)
    (norm : List K → List K) (c : List K) (hlen : (norm c).length = 36)
    (h1 : ∀ s, u = some s → factor fac1 s ≠ 0) (h2 : ∀ s, u = some s → factor fac2 s ≠ 0) :
    ∃ t r, ecModel fac1 u norm c = some t ∧ ecRead fac2 eps atol rtol t = cijSet eps atol rtol r ∧
      r.map (inUnit fac2 u) = (norm c).map (inUnit fac1 u) ∧ r.map (scaleFn fac2 fac1 u) = norm c := by
  obtain ⟨t, a, b⟩ := elastic_model_two fac1 fac2 eps atol rtol u norm c hlen
  exact ⟨t, _, a, b, map_inUnit_scaleFn fac1 fac2 u h2 _, map_scaleFn_back fac1 fac2 u h1 h2 _⟩

/-- companion of `system_model_two_units`: with non-zero factors of the box unit and of
    every property's unit under both configurations, the System read back has the flags, symbols, masses and natoms
    written; its cell and origin expressed in the box unit are those written; every float property expressed in its
    unit (a box-scaled one: in the box unit) is the one written, and the opposite rescaling returns the written
    numbers. -/
theorem system_model_two_units_nz (fac1 fac2 : String → K) (eps : K) (boxUnit : Option String)
    (s : SystemM K) (hw : s.Wf) (un : String → Option String) (hu : SysUnitsOk s.atoms un)
    (hclean : cleanVects eps (mapM3 (scaleFn fac1 fac2 boxUnit) s.box.vects) = mapM3 (scaleFn fac1 fac2 boxUnit) s.box.vects)
    (hdet : M3.det s.box.vects ≠ 0)
    (hb1 : ∀ u, boxUnit = some u → factor fac1 u ≠ 0) (hb2 : ∀ u, boxUnit = some u → factor fac2 u ≠ 0)
    (hp1 : ∀ p ∈ s.atoms.props, ∀ u, effUnit p.1 (un p.1) = some u → factor fac1 u ≠ 0)
    (hp2 : ∀ p ∈ s.atoms.props, ∀ u, effUnit p.1 (un p.1) = some u → factor fac2 u ≠ 0) :
    ∃ t s' F, systemModel fac1 boxUnit (s.atoms.props.map (fun p => (p.1, un p.1))) s = some t ∧
      systemRead fac2 eps t = some s' ∧
      s'.pbc = s.pbc ∧ s'.symbols = s.symbols ∧ s'.masses = s.masses ∧ s'.atoms.natoms = s.atoms.natoms ∧
      mapM3 (inUnit fac2 boxUnit) s'.box.vects = mapM3 (inUnit fac1 boxUnit) s.box.vects ∧
      s'.box.origin.map (inUnit fac2 boxUnit) = s.box.origin.map (inUnit fac1 boxUnit) ∧
      s'.atoms.props = s.atoms.props.map F ∧
      ∀ p ∈ s.atoms.props, (F p).1 = p.1 ∧ (F p).2.shape = p.2.shape ∧ ∀ l, p.2.data = .flt l →
        let U := if effUnit p.1 (un p.1) = some "scaled" then boxUnit else effUnit p.1 (un p.1)
        ∃ l', (F p).2.data = .flt l' ∧ l'.map (inUnit fac2 U) = l.map (inUnit fac1 U) ∧
          l'.map (scaleFn fac2 fac1 U) = l := by
  obtain ⟨t, a, b⟩ := system_model_two_units fac1 fac2 eps boxUnit s hw un hu hclean hdet
  refine ⟨t, _, _, a, b, rfl, rfl, rfl, rfl, ?_, ?_, rfl, ?_⟩
  · simp only [mapM3, V3.map, inUnit_scaleFn fac1 fac2 boxUnit hb2]
  · simp only [V3.map, inUnit_scaleFn fac1 fac2 boxUnit hb2]
  · intro p hp
    by_cases hsc : effUnit p.1 (un p.1) = some "scaled"
    · simp only [hsc, if_true]
      refine ⟨trivial, trivial, ?_⟩
      intro l hl
      refine ⟨_, rfl, ?_, ?_⟩
      · rw [hl, fltD_flt]
        exact map_inUnit_scaleFn fac1 fac2 boxUnit hb2 l
      · rw [hl, fltD_flt]
        exact map_scaleFn_back fac1 fac2 boxUnit hb1 hb2 l
    · simp only [hsc, if_false, propTwo]
      refine ⟨trivial, trivial, ?_⟩
      intro l hl
      rw [hl]
      exact ⟨_, rfl, map_inUnit_scaleFn fac1 fac2 _ (hp2 p hp) l, map_scaleFn_back fac1 fac2 _ (hp1 p hp) (hp2 p hp) l⟩

/-- the same at the API level, through every text encoding. -/
theorem system_dump_load_two_units_end_to_end_nz (fac1 fac2 : String → K) (eps : K) (boxUnit : Option String)
    (s : SystemM K) (hw : s.Wf) (un : String → Option String) (hu : SysUnitsOk s.atoms un)
    (hclean : cleanVects eps (mapM3 (scaleFn fac1 fac2 boxUnit) s.box.vects) = mapM3 (scaleFn fac1 fac2 boxUnit) s.box.vects)
    (hdet : M3.det s.box.vects ≠ 0) (via : String) (hvia : via = "tree" ∨ via = "json" ∨ via = "xml")
    (hb1 : ∀ u, boxUnit = some u → factor fac1 u ≠ 0) (hb2 : ∀ u, boxUnit = some u → factor fac2 u ≠ 0)
    (hp1 : ∀ p ∈ s.atoms.props, ∀ u, effUnit p.1 (un p.1) = some u → factor fac1 u ≠ 0)
    (hp2 : ∀ p ∈ s.atoms.props, ∀ u, effUnit p.1 (un p.1) = some u → factor fac2 u ≠ 0) :
    ∃ s' F, systemDumpLoad fac1 fac2 eps via boxUnit none none (some (s.atoms.props.map (fun p => (p.1, un p.1)))) s
        = some s' ∧
      s'.pbc = s.pbc ∧ s'.symbols = s.symbols ∧ s'.masses = s.masses ∧ s'.atoms.natoms = s.atoms.natoms ∧
      mapM3 (inUnit fac2 boxUnit) s'.box.vects = mapM3 (inUnit fac1 boxUnit) s.box.vects ∧
      s'.box.origin.map (inUnit fac2 boxUnit) = s.box.origin.map (inUnit fac1 boxUnit) ∧
      s'.atoms.props = s.atoms.props.map F ∧
      ∀ p ∈ s.atoms.props, (F p).1 = p.1 ∧ (F p).2.shape = p.2.shape ∧ ∀ l, p.2.data = .flt l →
        let U := if effUnit p.1 (un p.1) = some "scaled" then boxUnit else effUnit p.1 (un p.1)
        ∃ l', (F p).2.data = .flt l' ∧ l'.map (inUnit fac2 U) = l.map (inUnit fac1 U) ∧
          l'.map (scaleFn fac2 fac1 U) = l := by
  obtain ⟨t, s', F, a, b, r⟩ := system_model_two_units_nz fac1 fac2 eps boxUnit s hw un hu hclean hdet hb1 hb2 hp1 hp2
  exact ⟨s', F, ((system_model_two_units_enc fac1 fac2 eps boxUnit s hw un hu hclean fun _ => hdet).dumpLoad_tree hvia a).trans b, r⟩

end physical

section physical_ordered
variable [Field K] [LinearOrder K] [IsStrictOrderedRing K]

/-- companion of `elastic_model_normal_form_two`: for a crystal in the normal
    form of `cs`, the numbers handed to the setter on reading, expressed in the stored unit, are the crystal's
    constants expressed in it; rescaled back they are the crystal's constants — nothing lost to the normalisation. -/
theorem elastic_model_normal_form_two_nz (fac1 fac2 : String → K) (eps atol rtol : K) (u : Option String)
    (muK : Option (K × K)) (cs : String) (c : List K) (h : InForm cs c) (hc : cijSet eps atol rtol c = some c)
    (h1 : ∀ s, u = some s → factor fac1 s ≠ 0) (h2 : ∀ s, u = some s → factor fac2 s ≠ 0) :
    ∃ t r, ecModelCS fac1 u eps atol rtol muK cs c = some t ∧ ecRead fac2 eps atol rtol t = cijSet eps atol rtol r ∧
      r.map (inUnit fac2 u) = c.map (inUnit fac1 u) ∧ r.map (scaleFn fac2 fac1 u) = c := by
  obtain ⟨t, a, b⟩ := elastic_model_normal_form_two fac1 fac2 eps atol rtol u muK cs c h hc
  exact ⟨t, _, a, b, map_inUnit_scaleFn fac1 fac2 u h2 _, map_scaleFn_back fac1 fac2 u h1 h2 _⟩

end physical_ordered

section legacy_read
variable [Field K] [LT K] [DecidableLT K]

/-- the legacy branch does not see a record without a `C` list under the root. -/
theorem ecReadAny_of_no_legacy_list (fac : String → K) (eps atol rtol : K) (kv : List (String × DM K))
    (h : kv.lookup "C" = none) :
    ecReadAny fac eps atol rtol (.node [("elastic-constants", .node kv)])
      = ecRead fac eps atol rtol (.node [("elastic-constants", .node kv)]) := by
  unfold ecReadAny
  cases ecRead fac eps atol rtol (.node [("elastic-constants", .node kv)]) with
  | some c => rfl
  | none => simp [ecReadLegacy, DM.get?, List.lookup, h]

/-- the ElasticConstants clause for the reader AS THE SOURCE HAS IT (new format first,
    old format when that raises): on everything the writer produces, directly and through XML text, the old-format
    branch changes nothing — what is read is `ElasticConstants(Cij=normalized_as(cs).Cij)`, and a refusal of the `Cij`
    setter stays a refusal (it is not turned into a reading of something else). -/
theorem elastic_model_roundtrip_any (fac : String → K) (eps atol rtol : K) (u : Option String)
    (norm : List K → List K) (c : List K) (hlen : (norm c).length = 36)
    (hf : ∀ s, u = some s → factor fac s ≠ 0) :
    ∃ t, ecModel fac u norm c = some t ∧ ecReadAny fac eps atol rtol t = cijSet eps atol rtol (norm c) ∧
      ecReadAny fac eps atol rtol (xmlNorm t) = cijSet eps atol rtol (norm c) := by
  obtain ⟨t, h1, h2, h3⟩ := (elastic_model_enc_self fac eps atol rtol u norm c hlen hf).both
  obtain ⟨m, rfl⟩ := ecModel_some h1
  have hx : xmlNorm (DM.node [("elastic-constants", DM.node [("Cij", m)])]) =
      DM.node [("elastic-constants", DM.node [("Cij", xmlNorm m)])] := by simp [xmlNorm, xmlNormKV]
  refine ⟨_, h1, ?_, ?_⟩
  · rw [ecReadAny_of_no_legacy_list fac eps atol rtol _ (by simp [List.lookup]), h2]
  · rw [hx, ecReadAny_of_no_legacy_list fac eps atol rtol _ (by simp [List.lookup]), ← hx, h3]

omit [LT K] [DecidableLT K] in
theorem valueUnit_scalar_flt (fac : String → K) (u : Option String) (x : K) :
    valueUnit fac (.node (("value", .leaf (.flt x)) :: unitEntry u)) = some ⟨[], .flt [inWorking fac u x]⟩ :=
  valueUnit_node fac [] u (.flt [x]) _ _ rfl (Or.inr ⟨_, rfl⟩) rfl (applyUnit_flt fac u [x])

omit [LT K] [DecidableLT K] in
theorem legacyEntryRead_entry (fac : String → K) (u : Option String) (e : String × K) :
    legacyEntryRead fac (.node [("stiffness", .node (("value", .leaf (.flt e.2)) :: unitEntry u)), ("ij", .leaf (.str e.1))])
      = (legacyKey e.1).map (fun k => (k, inWorking fac u e.2)) := by
  have hv := valueUnit_scalar_flt fac u e.2
  cases h : legacyKey e.1 <;> simp [legacyEntryRead, DM.getStr?, DM.get?, List.lookup, hv, h, Data.toFlt]

/-- what `ElasticConstants(model=…)` makes of ANY record in the old format (any number of
    entries, any order, repeated constants, any index strings): the index strings become keywords (`legacyKey`; one that
    is too short raises), the stored numbers are converted from the record's unit under the reading configuration, a
    later entry of a constant replaces an earlier one, and the resulting dictionary goes through the constructor the
    number of keywords selects (`legacyForm`, tied to the source by `gen_legacyForm_eq_model`) and the `Cij` setter
    (twice: in the constructor and in the reader). -/
theorem elastic_legacy_read (fac : String → K) (eps atol rtol : K) (u : Option String) (es : List (String × K)) :
    ecReadAny fac eps atol rtol (legacyRecord u es) =
      (mapOpt (fun e => (legacyKey e.1).map (fun k => (k, inWorking fac u e.2))) es).bind (fun kv =>
        ((legacyForm (kv.foldl (fun d e => dictSet d e.1 e.2) [])).bind (cijSet eps atol rtol)).bind
          (cijSet eps atol rtol)) := by
  have h0 : ecRead fac eps atol rtol (legacyRecord u es) = none := by
    simp [ecRead, legacyRecord, DM.get?, List.lookup]
  unfold ecReadAny
  rw [h0]
  simp only [ecReadLegacy, legacyRecord, DM.get?, List.lookup_cons_self, mapOpt_map, legacyEntryRead_entry]
  cases mapOpt (fun e => (legacyKey e.1).map (fun k => (k, inWorking fac u e.2))) es <;> rfl

/-- non-vacuity: a cubic record `C11 = 5, C12 = 2, C44 = 1` GPa (entries in another order, `C12` given twice: the later
    one counts) read where a GPa is worth 3: every constant × 3 in its place. -/
example : ecReadAny (fun _ => (3 : ℚ)) (1 / 1000000000) (1 / 1000000000) (1 / 100000)
    (legacyRecord (some "GPa") [("4 4", 1), ("1 2", 7), ("1 1", 5), ("1 2", 2)])
    = some (cubicForm 15 6 3) := by decide +kernel

/-- … and a record with four constants is refused (no representation has four). -/
example : ecReadAny (fun _ => (3 : ℚ)) (1 / 1000000000) (1 / 1000000000) (1 / 100000)
    (legacyRecord (some "GPa") [("4 4", 1), ("1 2", 7), ("1 1", 5), ("1 3", 2)]) = none := by decide +kernel

/-- the old-format record of a cubic crystal (each constant once, in any of the six
    orders spelled `"i j"`): the crystal's 6×6 array with every constant converted — through the setter. -/
theorem elastic_legacy_read_cubic (fac : String → K) (eps atol rtol : K) (u : Option String) (c11 c12 c44 : K) :
    ecReadAny fac eps atol rtol (legacyRecord u [("1 1", c11), ("1 2", c12), ("4 4", c44)]) =
      ((cijSet eps atol rtol (cubicForm (inWorking fac u c11) (inWorking fac u c12) (inWorking fac u c44))).bind
        (cijSet eps atol rtol)) := by
  rw [elastic_legacy_read]
  have k1 : legacyKey "1 1" = some "C11" := by decide
  have k2 : legacyKey "1 2" = some "C12" := by decide
  have k3 : legacyKey "4 4" = some "C44" := by decide
  simp only [mapOpt, k1, k2, k3, Option.map_some, Option.bind_some, List.foldl]
  rfl

end legacy_read

section load_select

theorem findsKV_append (key : String) (a b : List (String × DM K)) :
    findsKV key (a ++ b) = findsKV key a ++ findsKV key b := by
  induction a with
  | nil => simp [findsKV]
  | cons e r ih =>
    obtain ⟨k, v⟩ := e
    rw [List.cons_append, findsKV.eq_def]
    conv_rhs => rw [findsKV.eq_def]
    simp only [ih, List.append_assoc]

theorem findsL_nil (key : String) (ms : List (DM K))
    (h : ∀ m ∈ ms, ∃ kv, m = .node kv ∧ findsKV key kv = []) : findsL key ms = [] := by
  induction ms with
  | nil => simp [findsL]
  | cons m r ih =>
    obtain ⟨kv, rfl, hk⟩ := h m (List.mem_cons_self ..)
    rw [findsL, hk, List.nil_append]
    exact ih (fun m' hm' => h m' (List.mem_cons_of_mem _ hm'))

set_option linter.unusedVariables false in
/-- a record that lists several systems under one key (`{key: [s₀, s₁, …]}`, none of them holding the
    key again inside): `finds(key)` returns exactly these entries, in the order of the record — whatever else the
    record holds under other keys that do not contain the key (`hb`, `ha`; the hypothesis `hkb` is not used). -/
theorem finds_entries (key : String) (ms : List (DM K)) (before after : List (String × DM K))
    (h : ∀ m ∈ ms, ∃ kv, m = .node kv ∧ findsKV key kv = [])
    (hb : findsKV key before = []) (ha : findsKV key after = []) (hkb : ∀ e ∈ before, e.1 ≠ key) :
    (DM.node (before ++ (key, .list ms) :: after)).finds key = ms := by
  rw [DM.finds, findsKV_append, hb, List.nil_append, findsKV, findsL_nil key ms h, ha]
  simp

/-- non-vacuity: a record with a header, two systems under one key and a trailer: the two entries, in order; the
    hypotheses of `finds_entries` / `load_index` hold for it. -/
example : (DM.node [("meta", .node [("n", .leaf (.int 1))]),
      ("atomic-system", .list [.node [("box", .leaf (.int 1)), ("atoms", .leaf (.int 2))], .node [("box", .leaf (.int 3))]]),
      ("tail", .leaf (.int 4))] : DM ℚ).finds "atomic-system"
    = [.node [("box", .leaf (.int 1)), ("atoms", .leaf (.int 2))], .node [("box", .leaf (.int 3))]] := by
  simp [DM.finds, findsKV, findsL]
example : findsKV "atomic-system" ([("box", .leaf (.int 1)), ("atoms", .leaf (.int 2))] : List (String × DM ℚ)) = [] ∧
    findsKV "atomic-system" ([("meta", .node [("n", .leaf (.int 1))])] : List (String × DM ℚ)) = [] := by
  simp [findsKV]

variable [Field K] [LT K] [DecidableLT K]

/-- `load('system_model', record, key=key, index=i)` on such a record reads the `i`-th listed system
    (`0 ≤ i < n`), and the entry counted from the end for a negative index (`-n ≤ i < 0`): exactly what
    `System(model={'atomic-system': entry})` reads; an index outside `-n … n-1` is refused. -/
theorem load_index (fac : String → K) (eps : K) (key : String) (ms : List (DM K)) (before after : List (String × DM K))
    (h : ∀ m ∈ ms, ∃ kv, m = .node kv ∧ findsKV key kv = [] ∧ kv.any (fun e => e.1 == "box") = true)
    (hb : findsKV key before = []) (ha : findsKV key after = []) (hkb : ∀ e ∈ before, e.1 ≠ key) :
    (∀ i : Nat, ∀ hi : i < ms.length,
      loadSystem fac eps key (i : Int) (.node (before ++ (key, .list ms) :: after))
        = systemRead fac eps (.node [("atomic-system", ms[i])])) ∧
    (∀ j : Nat, ∀ hj0 : 0 < j, ∀ hj : j ≤ ms.length,
      loadSystem fac eps key (-(j : Int)) (.node (before ++ (key, .list ms) :: after))
        = systemRead fac eps (.node [("atomic-system", ms[ms.length - j]'(by omega))])) ∧
    (∀ i : Int, (ms.length : Int) ≤ i ∨ i < -(ms.length : Int) →
      loadSystem fac eps key i (.node (before ++ (key, .list ms) :: after)) = none) := by
  have hf := finds_entries key ms before after
    (fun m hm => let ⟨kv, a, b, _⟩ := h m hm; ⟨kv, a, b⟩) hb ha hkb
  refine ⟨?_, ?_, ?_⟩
  · intro i hi
    obtain ⟨kv, e, _, hbx⟩ := h ms[i] (List.getElem_mem hi)
    simp only [loadSystem, hf, pyIndex, Int.natCast_nonneg, if_true, Int.toNat_natCast, List.getElem?_eq_getElem hi, e, hbx]
  · intro j hj0 hj
    have hlt : ms.length - j < ms.length := by omega
    obtain ⟨kv, e, _, hbx⟩ := h (ms[ms.length - j]'hlt) (List.getElem_mem hlt)
    have hneg : ¬ (0 ≤ -(j : Int)) := by omega
    simp only [loadSystem, hf, pyIndex, hneg, if_false, Int.neg_neg, Int.toNat_natCast, hj, if_true,
      List.getElem?_eq_getElem hlt, e, hbx]
  · intro i hi
    simp only [loadSystem, hf, pyIndex]
    rcases hi with hi | hi
    · have h0 : 0 ≤ i := by omega
      have : ms.length ≤ i.toNat := by omega
      simp [h0, List.getElem?_eq_none this]
    · have h0 : ¬ (0 ≤ i) := by omega
      have : ¬ ((-i).toNat ≤ ms.length) := by omega
      simp [h0, this]

/-- with the defaults (`key='atomic-system'`, `index=0`) a record holding one system at the top is
    read as `System(model=record)` reads it. -/
theorem load_default (fac : String → K) (eps : K) (kv : List (String × DM K))
    (hk : findsKV "atomic-system" kv = []) (hbx : kv.any (fun e => e.1 == "box") = true) :
    loadSystem fac eps "atomic-system" 0 (.node [("atomic-system", .node kv)])
      = systemRead fac eps (.node [("atomic-system", .node kv)]) := by
  rw [loadSystem, DM.finds, findsKV, hk]
  simp [findsKV, pyIndex, hbx]

end load_select

end Atomman.C10
