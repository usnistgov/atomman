/-
  C07 — source tie of the writer code: every definition of `Atomman/Generated/WriterSource.lean` (regenerated with `ast`
  from atom_data/dump.py, atom_dump/dump.py, poscar/dump.py, table/dump.py, table/df_to_table.py on every run) is proved
  equal to the hand model the property theorems are about — for the documents, to the layouts `dataDocOf` (model) and
  `dumpDoc`, `poscarDoc` (Proofs/C07_Files.lean, C07_Poscar.lean), which `writeDumpDoc_eq` / `writePoscarDoc_cases` tie to the
  model's writers; `gen_files_are_model_files` in Proofs/C07.lean closes the chain.  A source edit that changes a line layout, the order of
  the lines, a bounding-box formula, a default, a refusal or where the text goes either re-proves or breaks the
  obligation named after it.  `gen_signatures_eq_model`, `gen_fileModes_eq_model`, `gen_pins_eq_model` and the first two
  conjuncts of `gen_tableUnits_eq_model` compare with string / hash literals written in the theorem: change detectors.
-/
import Proofs.C07_Poscar
import Atomman.Generated.WriterSource
namespace Atomman.C07
open Atomman Atomman.Gen.WriterSource

/-! ## data file (atomman/dump/atom_data/dump.py) -/

/-- `box_content` = `boxLines` of the box divided by the length unit: the three `lo hi` lines in the order x, y, z with
    their keywords, the tilt line exactly when a tilt is non-zero. -/
theorem gen_dataBoxLines_eq_model (f : Fmt) (lf : Option ℚ) (b : HiLo) :
    genDataBoxLines f lf b = boxLines f (b.map (divBy lf)) := rfl

/-- `info_content` = `infoDoc`. -/
theorem gen_infoDoc_eq_model (pbc : V3 Bool) (style units : String) (fname : Option String) :
    genInfoDoc pbc style units fname = infoDoc pbc style units fname := by
  cases fname <;> rfl

/-- the argument defaults at the head of `dump` = `resolveArgs`. -/
theorem gen_resolveArgs_eq_model : genResolveArgs = resolveArgs := by
  funext ua sa na pot n; cases pot <;> rfl

/-- the order in which `dump` concatenates counts, box lines, the `Atoms # style` section (`atoms_content`) and the
    `Velocities` section = `dataDocOf`. -/
theorem gen_dataDoc_eq_model (f : Fmt) (style : String) (p : DataParts) :
    genDataDoc p.natoms p.natypes (boxLines f p.hilo) (genAtomsSection style (rowsDoc f p.rows))
      (p.vel.map (rowsDoc f)) = dataDocOf f style p := by
  cases hv : p.vel <;> simp [genDataDoc, genAtomsSection, dataDocOf, hv, List.append_assoc]

/-- the extra columns of the atom table are the image flags along a, b, c in this order (what `flagCells` writes), and
    they are left out under the test the model's `flagCells` mirrors (all flags zero). -/
theorem gen_flagColumns_eq_model (fl : V3 Int) :
    genFlagColumns.map (fun c => Cell.int (v3get fl c.2)) = [.int fl.x, .int fl.y, .int fl.z] ∧
    genFlagColumns.map (·.1) = ["imageflag_a", "imageflag_b", "imageflag_c"] ∧
    genFlagsOmittedWhen = "np.allclose(imageflags, 0)" := ⟨rfl, rfl, rfl⟩

/-! ## where the text goes -/

/-- the tail of each writer (the text is returned, or written to the open stream, or to the named file) is the
    model's `deliver` (`deliver_spec` in Proofs/C07.lean); this and the next three. -/
theorem gen_dataDeliver_eq_model : genDataDeliver = deliver := by
  funext t w; cases t <;> rfl
theorem gen_dumpDeliver_eq_model : genDumpDeliver = deliver := by
  funext t w; cases t <;> rfl
theorem gen_tableDeliver_eq_model : genTableDeliver = deliver := by
  funext t w; cases t <;> rfl
theorem gen_poscarDeliver_eq_model (t : Target) (w : Bool) : genPoscarDeliver t w = deliver t false := by
  cases t <;> rfl

/-- every writer opens a file name for writing from scratch (`'w'`), and returns its optional second value exactly
    under the test `… is True`. -/
theorem gen_fileModes_eq_model :
    genDataFileMode = "w" ∧ genDumpFileMode = "w" ∧ genPoscarFileMode = "w" ∧ genTableFileMode = "w" ∧
    genDataExtraWhen = "return_info is True" ∧ genDumpExtraWhen = "return_prop_info is True" ∧
    genTableExtraWhen = "return_prop_info is True" := ⟨rfl, rfl, rfl, rfl, rfl, rfl, rfl⟩

/-- argument names, their order and their defaults (`units` / `atom_style` / `natypes` default to None — resolved by
    `resolveArgs` —, `'%.13f'` / `'%.13e'`, `return_info=True`, `safecopy=False`, `coordstyle='direct'`, `box_scale=1.0`,
    `header=False`, `lammps_units='metal'`). -/
theorem gen_signatures_eq_model :
    dataSignature = [("system", "<required>"), ("f", "None"), ("atom_style", "None"), ("units", "None"), ("natypes", "None"),
      ("potential", "None"), ("float_format", "'%.13f'"), ("return_info", "True"), ("prompt", "False"),
      ("comments", "True"), ("safecopy", "False")] ∧
    infoSignature = [("system", "<required>"), ("f", "<required>"), ("atom_style", "None"), ("units", "None")] ∧
    dumpSignature = [("system", "<required>"), ("f", "None"), ("lammps_units", "'metal'"), ("prop_name", "None"),
      ("table_name", "None"), ("shape", "None"), ("unit", "None"), ("dtype", "None"), ("prop_info", "None"),
      ("float_format", "'%.13f'"), ("return_prop_info", "False")] ∧
    poscarSignature = [("system", "<required>"), ("f", "None"), ("header", "''"), ("symbols", "None"),
      ("coordstyle", "'direct'"), ("box_scale", "1.0"), ("float_format", "'%.13e'")] ∧
    tableSignature = [("system", "<required>"), ("f", "None"), ("prop_name", "None"), ("table_name", "None"),
      ("shape", "None"), ("unit", "None"), ("dtype", "None"), ("prop_info", "None"), ("header", "False"),
      ("float_format", "'%.13f'"), ("return_prop_info", "False"), ("extra", "None")] := ⟨rfl, rfl, rfl, rfl, rfl⟩

/-! ## dump file (atomman/dump/atom_dump/dump.py) -/

theorem listMin4 (a b c : ℚ) : listMin 0 [0, a, b, c] = min4 0 a b c := by
  simp only [listMin, List.foldl, min4]
theorem listMax4 (a b c : ℚ) : listMax 0 [0, a, b, c] = max4 0 a b c := by
  simp only [listMax, List.foldl, max4]
theorem listMin2 (a : ℚ) : listMin 0 [0, a] = min4 0 a 0 0 := by
  simp only [listMin, List.foldl, min4]; split_ifs <;> first | rfl | linarith
theorem listMax2 (a : ℚ) : listMax 0 [0, a] = max4 0 a 0 0 := by
  simp only [listMax, List.foldl, max4]; split_ifs <;> first | rfl | linarith

/-- the text `atom_dump.dump` concatenates — TIMESTEP and NUMBER OF ATOMS items, the bounding box
    `xlo + min(0, xy, xz, xy + xz)`, `xhi + max(…)`, `ylo + min(0, yz)`, `yhi + max(0, yz)`, `zlo`, `zhi` of the
    converted box values, `xy xz yz` keyword and third column exactly for a tilted cell, `pp` / `fm` per direction
    in the order x y z, the ATOMS line — = `dumpDoc`. -/
theorem gen_dumpDoc_eq_model (f : Fmt) (lf : Option ℚ) (b : HiLo) (pbc : V3 Bool) (ts : Int) (n : Nat)
    (cols : List ColSpec) (rows : List (List Cell)) :
    genDumpDoc f lf b pbc ts n (nameLine cols) (rowsDoc f rows)
      = dumpDoc f ts n pbc (b.map (divBy lf)) cols rows := by
  have hflag : ∀ p : Bool, (if p then [cs!"pp"] else [cs!"fm"]) = [bflagD p] := fun p => by cases p <;> rfl
  unfold genDumpDoc dumpDoc
  simp only [listMin4, listMax4, listMin2, listMax2, bboxOf, HiLo.map, orthoH, hflag, decide_eq_true_eq]
  by_cases ho : divBy lf b.xy = 0 ∧ divBy lf b.xz = 0 ∧ divBy lf b.yz = 0
  · simp only [ho, and_self, if_true, List.append_nil, List.cons_append, List.nil_append]
  · simp only [ho, if_false, List.cons_append, List.nil_append]

/-- the defaults of `atom_dump.dump`: `atom_id` first, then the system's properties without (the first) `atom_id`;
    shapes `()` for `atom_id`, `(3,)` for `spos` / `upos` / `supos`, the stored shape otherwise. -/
theorem gen_defaultDump_eq_model : genDefaultDumpNames = defaultDumpNames ∧ genDefaultDumpShape = defaultDumpShape :=
  ⟨rfl, rfl⟩

/-! ## POSCAR (atomman/dump/poscar/dump.py) -/

/-- the text `poscar.dump` builds — comment, factor, the three cell vectors divided by the factor, the symbols line
    when there are symbols, one count per type each followed by a blank, the mode line, one row per atom — =
    `poscarDoc`. -/
theorem gen_poscarDoc_eq_model (f : Fmt) (header : List String) (symbols : Option (List String)) (coordstyle : String)
    (scale : ℚ) (s : Sys) (cart : Bool) :
    genPoscarDoc f header scale s.box.vects symbols (poscarNums s cart scale).counts coordstyle
      (poscarNums s cart scale).coords
      = poscarDoc f header symbols coordstyle scale (poscarNums s cart scale) := by
  cases symbols <;> rfl

/-- the factor is refused exactly when it is not positive (`writePoscarDoc` throws for `scale ≤ 0`). -/
theorem gen_poscarRefuses_eq_model (scale : ℚ) : genPoscarRefuses scale ↔ scale ≤ 0 := by
  unfold genPoscarRefuses; exact not_lt

/-- Cartesian mode is selected by a first letter c, C, k, K (`isCartTok`); the comment and the mode line must not hold
    a line break. -/
theorem gen_cartesianChars_eq_model (c : Char) (r : List Char) :
    (isCartTok (c :: r) = true ↔ c ∈ genCartesianChars) ∧
    genPoscarAsserts = ["'\\n' not in header", "'\\n' not in coordstyle"] := by
  refine ⟨?_, rfl⟩
  simp [genCartesianChars, isCartTok, or_assoc]

/-! ## table (atomman/dump/table/dump.py, df_to_table.py) -/

/-- `a_id` runs from 1: `seqIds`. -/
theorem gen_tableIds_eq_model (n : Nat) : seqIds n = (List.range n).map fun (k : Nat) => (k : Int) + genTableFirstId := rfl

/-- the two tests of `table.dump`'s conversion loop as the source spells them (string pins), and the model's `convert`
    leaving a value alone when the column has no unit or the unit `'scaled'` (the division for a unit kind is `convert`'s
    third branch, `convert_kind_ok`; that the model branches on the same tests is tied by the correspondence runs). -/
theorem gen_tableUnits_eq_model (u : Units) (q : ℚ) :
    genTableConvertsWhen = "prop['unit'] is not None and prop['unit'] != 'scaled'" ∧
    genTableScaledWhen = "prop['unit'] == 'scaled'" ∧
    convert u .none q = .ok q ∧ convert u .scaled q = .ok q := ⟨rfl, rfl, rfl, rfl⟩

/-- normalised-AST statement pins (code that is pandas / numpy plumbing, tied to the model by the correspondence
    runs): the default `prop_name` / `shape` handling of `atom_dump.dump`, `atom_dump.table_dump`, `table.dump`,
    `df_to_table`. -/
theorem gen_pins_eq_model :
    genDumpHeadPin = "0e1fad7ff8f36d4a" ∧ genDumpTablePin = "a90c88b9745377ba" ∧
    genTablePin = "f5084539e219dfe3" ∧ genDfToTablePin = "b70d7c6d1d1d646f" := ⟨rfl, rfl, rfl, rfl⟩

end Atomman.C07
