/-
  C06 — the observers of a `System` (`symbols`, `masses`, `natypes`, `atypes`, `composition`) as operations of a history.
  The stored tuples are *hidden* state: they are padded only when a getter or setter runs, so after the number of atom types
  has grown through the atoms they are stale until somebody reads them.  Here: the observers taken together (`Getter`), that
  they only ever replace a stored tuple by its own view (`ObsEq`), and that a reply does not depend on what was read before.
-/
import Proofs.C06_System

namespace Atomman.C06

/-- `composition` as a function of the atoms' types and of the two views. -/
def compView (s : State) (i nt : Nat) : Except Err (Option String) :=
  match (s.obj (s.sys i).atoms).find "atype" with
  | none => .error .key
  | some a => match (arrVal s a).data.mapM Cell.num? with
    | none => .error .unmodelled
    | some nums => compOf nums (symView s i nt) (ntView s i nt)

theorem composition_closed (i : Nat) (s : State) (nt : Nat) (hi : i < s.syss.length) (hnt : ntOf s i = .ok nt) :
    composition i s = (compView s i nt, putSym s i (symView s i nt)) := by
  have hi1 : i < (putSym s i (symView s i nt)).syss.length := by rw [putSym_len]; exact hi
  have hnt1 : ntOf (putSym s i (symView s i nt)) i = .ok nt := by rw [ntOf_putSym]; exact hnt
  have hat := putSym_atoms s i i (symView s i nt)
  apply eq_of_post
  unfold composition
  refine Post.bind_run (sysNatypes_closed i s nt hi hnt) ?_
  refine Post.bind_run (symbolsGet_again i s nt hi hnt) ?_
  rw [post_bind_getS, post_bind_keyErr, hat]
  have hobj : ∀ o, (putSym s i (symView s i nt)).obj o = s.obj o := fun o => rfl
  have harr : ∀ a, arrVal (putSym s i (symView s i nt)) a = arrVal s a := fun a => rfl
  unfold compView
  rw [hobj]
  cases hf : (s.obj (s.sys i).atoms).find "atype" with
  | none => exact ⟨rfl, rfl⟩
  | some a =>
    simp only [harr]
    cases hm : (arrVal s a).data.mapM Cell.num? with
    | none => exact ⟨rfl, rfl⟩
    | some nums => exact ⟨rfl, rfl⟩

theorem composition_closed_err (i : Nat) (s : State) (e : Err) (hnt : ntOf s i = .error e) :
    composition i s = (.error e, s) :=
  bind_error_run (sysNatypes_closed_err i s e hnt) _

/-- `s'` looks like `s` through every getter: same heap, same objects, the same systems over the same
    atoms; the stored tuples may differ, but only by padding that the getters would add anyway. -/
structure ObsEq (s s' : State) : Prop where
  heap : s'.heap = s.heap
  objs : s'.objs = s.objs
  len : s'.syss.length = s.syss.length
  atoms : ∀ j, (s'.sys j).atoms = (s.sys j).atoms
  views : ∀ j nt, ntOf s j = .ok nt → symView s' j nt = symView s j nt ∧ massView s' j nt = massView s j nt

theorem ObsEq.refl (s : State) : ObsEq s s := ⟨rfl, rfl, rfl, fun _ => rfl, fun _ _ _ => ⟨rfl, rfl⟩⟩

theorem ObsEq.ntOf_eq {s s' : State} (h : ObsEq s s') (j : Nat) : ntOf s' j = ntOf s j :=
  ntOf_of_eq s s' j h.heap h.objs (h.atoms j)

theorem ObsEq.trans {s s1 s2 : State} (h1 : ObsEq s s1) (h2 : ObsEq s1 s2) : ObsEq s s2 :=
  ⟨h2.heap.trans h1.heap, h2.objs.trans h1.objs, h2.len.trans h1.len, fun j => (h2.atoms j).trans (h1.atoms j),
    fun j nt hnt =>
      have h := h2.views j nt (by rw [h1.ntOf_eq j]; exact hnt)
      ⟨h.1.trans (h1.views j nt hnt).1, h.2.trans (h1.views j nt hnt).2⟩⟩

theorem ntView_congr (s s' : State) (i nt : Nat) (h : symView s' i nt = symView s i nt) :
    ntView s' i nt = ntView s i nt := by unfold ntView; rw [h]

theorem views_of_sys_eq (s s' : State) (j n : Nat) (h : s'.sys j = s.sys j) :
    symView s' j n = symView s j n ∧ massView s' j n = massView s j n := by
  unfold massView ntView symView; rw [h]; exact ⟨rfl, rfl⟩

theorem obsEq_putSym (s : State) (i nt : Nat) (hi : i < s.syss.length) (hnt : ntOf s i = .ok nt) :
    ObsEq s (putSym s i (symView s i nt)) := by
  refine ⟨rfl, rfl, putSym_len _ _ _, fun j => putSym_atoms s i j _, ?_⟩
  · intro j nt' hnt'
    by_cases hj : j = i
    · subst hj
      have : nt' = nt := by rw [hnt] at hnt'; injection hnt' with h; exact h.symm
      subst this
      have hs := symView_putSym s j nt' hi
      refine ⟨hs, ?_⟩
      unfold massView
      rw [ntView_congr _ _ _ _ hs]
      congr 1
      rw [putSym_sys]; simp [hi]
    · exact views_of_sys_eq _ _ _ _ (by rw [putSym_sys]; simp [hj])

theorem obsEq_putMass (s : State) (i nt : Nat) (hi : i < s.syss.length) (hnt : ntOf s i = .ok nt) :
    ObsEq s (putMass s i (massView s i nt)) := by
  refine ⟨rfl, rfl, putMass_len _ _ _, fun j => putMass_atoms s i j _, ?_⟩
  · intro j nt' hnt'
    by_cases hj : j = i
    · subst hj
      have hs : ∀ n, symView (putMass s j (massView s j nt)) j n = symView s j n := by
        intro n; unfold symView; rw [putMass_sys]; simp [hi]
      refine ⟨hs nt', ?_⟩
      have : nt' = nt := by rw [hnt] at hnt'; injection hnt' with h; exact h.symm
      subst this
      have hm : ((putMass s j (massView s j nt')).sys j).masses = massView s j nt' := by
        rw [putMass_sys]; simp [hi]
      show padTo ((putMass s j (massView s j nt')).sys j).masses (ntView (putMass s j (massView s j nt')) j nt') = _
      rw [hm, ntView_congr _ _ _ _ (hs nt')]
      exact padTo_idem _ _
    · exact views_of_sys_eq _ _ _ _ (by rw [putMass_sys]; simp [hj])

inductive Getter where
  | symbols | masses | natypes | atypes | composition
deriving DecidableEq, Repr

def Getter.op : Getter → Nat → Op
  | .symbols, i => .symbolsGet i
  | .masses, i => .massesGet i
  | .natypes, i => .sysNatypes i
  | .atypes, i => .sysAtypes i
  | .composition, i => .composition i

/-- an operation of a history that only observes a system. -/
def IsObs (op : Op) : Prop := ∃ g i, op = Getter.op g i

def mapOut {α : Type} (f : α → Out) : Except Err α → Except Err Out
  | .ok a => .ok (f a)
  | .error e => .error e

/-- what observer `g` returns on system `i` when `atoms.natypes = nt`. -/
def Getter.view (g : Getter) (s : State) (i nt : Nat) : Except Err Out :=
  match g with
  | .symbols => .ok (.syms (symView s i nt))
  | .masses => .ok (.masses (massView s i nt))
  | .natypes => .ok (.nat (ntView s i nt))
  | .atypes => .ok (.nats ((List.range (ntView s i nt)).map (· + 1)))
  | .composition => mapOut Out.comp (compView s i nt)

/-- the state observer `g` leaves behind: stored tuples replaced by their views. -/
def Getter.after (g : Getter) (s : State) (i nt : Nat) : State :=
  match g with
  | .masses => putMass (putSym s i (symView s i nt)) i (massView s i nt)
  | _ => putSym s i (symView s i nt)

theorem bind_pure_eq {α : Type} (m : M α) (f : α → Out) (s : State) (x : Except Err α) (y : State) (h : m s = (x, y)) :
    (do let a ← m; pure (f a) : M Out) s = (mapOut f x, y) := by
  show M.bind m _ s = _
  unfold M.bind
  rw [h]
  cases x <;> rfl

theorem run_getter_closed (off : Bool) (g : Getter) (i : Nat) (s : State) (nt : Nat) (hi : i < s.syss.length)
    (hnt : ntOf s i = .ok nt) : run off (g.op i) s = (g.view s i nt, g.after s i nt) := by
  cases g with
  | symbols => exact bind_pure_eq _ _ s _ _ (symbolsGet_closed i s nt hi hnt)
  | masses => exact bind_pure_eq _ _ s _ _ (massesGet_closed i s nt hi hnt)
  | natypes => exact bind_pure_eq _ _ s _ _ (sysNatypes_closed i s nt hi hnt)
  | atypes => exact bind_pure_eq _ _ s _ _ (sysAtypes_closed i s nt hi hnt)
  | composition => exact bind_pure_eq _ _ s _ _ (composition_closed i s nt hi hnt)

theorem run_getter_closed_err (off : Bool) (g : Getter) (i : Nat) (s : State) (e : Err)
    (hnt : ntOf s i = .error e) : run off (g.op i) s = (.error e, s) := by
  cases g with
  | symbols => exact bind_pure_eq _ _ s _ _ (symbolsGet_closed_err i s e hnt)
  | masses => exact bind_pure_eq _ _ s _ _ (massesGet_closed_err i s e hnt)
  | natypes => exact bind_pure_eq _ _ s _ _ (sysNatypes_closed_err i s e hnt)
  | atypes => exact bind_pure_eq _ _ s _ _ (sysAtypes_closed_err i s e hnt)
  | composition => exact bind_pure_eq _ _ s _ _ (composition_closed_err i s e hnt)

/-- every observer keeps the invariant (the state it leaves is given by `run_getter_closed`). -/
theorem inv_getter {κ : Nat → String} {s : State} (h : InvK κ s) (off : Bool) (g : Getter) (i : Nat)
    (hi : i < s.syss.length) : Post (run off (g.op i)) s (fun _ s' => Good κ s s') := by
  cases hnt : ntOf s i with
  | error e => exact Post.of_eq _ _ (run_getter_closed_err off g i s e hnt) (Good.refl h)
  | ok nt =>
    refine Post.of_eq _ _ (run_getter_closed off g i s nt hi hnt) ?_
    have h1 := sysKept_putSym h i (symView s i nt)
    cases g with
    | masses => exact (h1.trans (sysKept_putMass h1.inv i _)).good
    | symbols => exact h1.good
    | natypes => exact h1.good
    | atypes => exact h1.good
    | composition => exact h1.good

theorem obsEq_after (g : Getter) (s : State) (i nt : Nat) (hi : i < s.syss.length) (hnt : ntOf s i = .ok nt) :
    ObsEq s (g.after s i nt) := by
  have h1 := obsEq_putSym s i nt hi hnt
  cases g with
  | masses =>
    have hi1 : i < (putSym s i (symView s i nt)).syss.length := by rw [putSym_len]; exact hi
    have hnt1 : ntOf (putSym s i (symView s i nt)) i = .ok nt := by rw [ntOf_putSym]; exact hnt
    have h2 := obsEq_putMass _ i nt hi1 hnt1
    have hm : massView (putSym s i (symView s i nt)) i nt = massView s i nt := (h1.views i nt hnt).2
    rw [hm] at h2
    exact h1.trans h2
  | symbols => exact h1
  | natypes => exact h1
  | atypes => exact h1
  | composition => exact h1

theorem getter_lits (g : Getter) (i : Nat) : (g.op i).litsOk = true := by cases g <;> rfl

theorem getter_ids (g : Getter) (i : Nat) (s : State) : (g.op i).idsOk s = decide (i < s.syss.length) := by
  cases g <;> rfl

theorem stepWith_getter (off : Bool) (s : State) (g : Getter) (i : Nat) :
    (stepWith off s (g.op i)).1 =
      (if i < s.syss.length then
        (match ntOf s i with | .error e => .error e | .ok nt => g.view s i nt)
       else .error .format) ∧
    ((stepWith off s (g.op i)).2 = s ∨
      ∃ nt, i < s.syss.length ∧ ntOf s i = .ok nt ∧ (stepWith off s (g.op i)).2 = g.after s i nt) := by
  by_cases hi : i < s.syss.length
  · have hc : (g.op i).litsOk = true ∧ (g.op i).idsOk s = true := ⟨getter_lits g i, by rw [getter_ids]; simpa using hi⟩
    rw [if_pos hi]
    unfold stepWith
    simp only [hc, and_self, not_true_eq_false, if_false]
    cases hnt : ntOf s i with
    | error e =>
      rw [run_getter_closed_err off g i s e hnt]
      cases e <;> exact ⟨rfl, Or.inl rfl⟩
    | ok nt =>
      rw [run_getter_closed off g i s nt hi hnt]
      simp only []
      cases hv : g.view s i nt with
      | ok out => exact ⟨rfl, Or.inr ⟨nt, hi, rfl, rfl⟩⟩
      | error e =>
        cases e
        case unmodelled => exact ⟨rfl, Or.inl rfl⟩
        all_goals exact ⟨rfl, Or.inr ⟨nt, hi, rfl, rfl⟩⟩
  · have hc : ¬ ((g.op i).litsOk = true ∧ (g.op i).idsOk s = true) := by
      rw [getter_ids]; simp [hi]
    rw [if_neg hi]
    unfold stepWith
    simp only [hc, not_false_eq_true, if_true]
    exact ⟨trivial, Or.inl trivial⟩

theorem ObsEq.view_eq {s s' : State} (h : ObsEq s s') (g : Getter) (i nt : Nat) (hnt : ntOf s i = .ok nt) :
    g.view s' i nt = g.view s i nt := by
  obtain ⟨hs, hm⟩ := h.views i nt hnt
  have hn := ntView_congr s s' i nt hs
  cases g with
  | symbols => simp only [Getter.view, hs]
  | masses => simp only [Getter.view, hm]
  | natypes => simp only [Getter.view, hn]
  | atypes => simp only [Getter.view, hn]
  | composition =>
    have hobj : ∀ o, s'.obj o = s.obj o := obj_congr h.objs
    have harr : ∀ a, arrVal s' a = arrVal s a := arrVal_of_heap_eq h.heap
    simp only [Getter.view, compView, hobj, harr, h.atoms i, hs, hn]

/-- an observer only ever replaces a stored tuple by its own view: the state it leaves is
    observationally equal to the one it found. -/
theorem observer_keeps_views (s : State) (op : Op) (h : IsObs op) : ObsEq s (step s op) := by
  obtain ⟨g, i, rfl⟩ := h
  rcases (stepWith_getter false s g i).2 with h1 | ⟨nt, hi, hnt, h1⟩
  · show ObsEq s (stepWith false s (g.op i)).2
    rw [h1]; exact ObsEq.refl s
  · show ObsEq s (stepWith false s (g.op i)).2
    rw [h1]; exact obsEq_after g s i nt hi hnt

theorem obsEq_foldl (obs : List Op) (hobs : ∀ o ∈ obs, IsObs o) (s : State) : ObsEq s (obs.foldl step s) :=
  foldl_inv step (ObsEq s) obs (fun b o ho hb => hb.trans (observer_keeps_views b o (hobs o ho))) s (ObsEq.refl s)

theorem output_obsEq {s s' : State} (h : ObsEq s s') (g : Getter) (i : Nat) :
    output s' (g.op i) = output s (g.op i) := by
  show (stepWith false s' (g.op i)).1 = (stepWith false s (g.op i)).1
  rw [(stepWith_getter false s' g i).1, (stepWith_getter false s g i).1, h.len, h.ntOf_eq i]
  by_cases hi : i < s.syss.length
  · simp only [hi, if_true]
    cases hnt : ntOf s i with
    | error e => rfl
    | ok nt => exact h.view_eq g i nt hnt
  · simp only [hi, if_false]

end Atomman.C06
