/-
  C05 helper lemmas for `wrap`: the running minimum / maximum (`minOf_spec`), one direction at a time (`axisBounds_spec`,
  `axis_unit`), the padded cell (`cartToRel_paddedBox`), one atom (`atom_reconstruct`, `atomPos_*`, `newRel_facts`), `wrap_inside`.
  Defined here: `IsFloor` (what is assumed of `numpy.floor`), `insidePeriodic`, `newRel`.
-/
import Atomman.C05
import Proofs.Linear3
import Proofs.Folds
import Mathlib.Data.Rat.Floor

namespace Atomman.C05
open Atomman
-- the `variable` lines give every theorem of a section the same instances, needed or not
set_option linter.unusedSectionVars false

section comp
variable {K : Type}

-- Linear3's `V3.add_def'` / `V3.sub_def'` under the names the check lists
theorem V3.add_def [Add K] (a b : V3 K) : a + b = ⟨a.x + b.x, a.y + b.y, a.z + b.z⟩ := Atomman.V3.add_def' a b
theorem V3.sub_def [Sub K] (a b : V3 K) : a - b = ⟨a.x - b.x, a.y - b.y, a.z - b.z⟩ := Atomman.V3.sub_def' a b

end comp

section field
variable {K : Type} [Field K]

theorem det_paddedBox (b : Box K) (bd : V3 (K × K)) :
    M3.det (paddedBox b bd).vects
      = (bd.x.2 - bd.x.1) * (bd.y.2 - bd.y.1) * (bd.z.2 - bd.z.1) * M3.det b.vects := by
  simp only [paddedBox, M3.det, V3.dot, V3.cross, V3.smul]
  ring

theorem relToCart_paddedBox (b : Box K) (bd : V3 (K × K)) (t : V3 K) :
    (paddedBox b bd).relToCart t
      = b.relToCart ⟨bd.x.1 + t.x * (bd.x.2 - bd.x.1), bd.y.1 + t.y * (bd.y.2 - bd.y.1),
          bd.z.1 + t.z * (bd.z.2 - bd.z.1)⟩ := by
  simp only [paddedBox, Box.relToCart, M3.vecMul, V3.smul, V3.add_def, V3.mk.injEq]
  refine ⟨?_, ?_, ?_⟩ <;> ring

theorem cartToRel_paddedBox (b : Box K) (hdet : M3.det b.vects ≠ 0) (bd : V3 (K × K)) (s : V3 K)
    (hx : bd.x.2 - bd.x.1 ≠ 0) (hy : bd.y.2 - bd.y.1 ≠ 0) (hz : bd.z.2 - bd.z.1 ≠ 0) :
    (paddedBox b bd).cartToRel (b.relToCart s)
      = ⟨(s.x - bd.x.1) / (bd.x.2 - bd.x.1), (s.y - bd.y.1) / (bd.y.2 - bd.y.1),
         (s.z - bd.z.1) / (bd.z.2 - bd.z.1)⟩ := by
  have hd : M3.det (paddedBox b bd).vects ≠ 0 := by
    rw [det_paddedBox]; exact mul_ne_zero (mul_ne_zero (mul_ne_zero hx hy) hz) hdet
  apply Box.relToCart_inj _ hd
  rw [Box.relToCart_cartToRel _ hd, relToCart_paddedBox]
  simp only [div_mul_cancel₀ _ hx, div_mul_cancel₀ _ hy, div_mul_cancel₀ _ hz, add_sub_cancel]

end field

section floor
variable {K : Type} [Field K] [LinearOrder K] [IsStrictOrderedRing K]

/-- what is assumed of `numpy.floor` + cast: `fl s ≤ s < fl s + 1`. -/
def IsFloor (fl : K → Int) : Prop := ∀ s : K, ((fl s : Int) : K) ≤ s ∧ s < ((fl s : Int) : K) + 1

theorem IsFloor.unique {fl : K → Int} (h : IsFloor fl) {s : K} {n : Int} (h0 : 0 ≤ s - (n : K)) (h1 : s - (n : K) < 1) :
    n = fl s := by
  obtain ⟨ha, hb⟩ := h s
  -- `n ≤ s < ⌊s⌋ + 1` and `⌊s⌋ ≤ s < n + 1`, read in ℤ
  have h4 : n < fl s + 1 := (Int.cast_lt (R := K)).mp (by
    rw [Int.cast_add, Int.cast_one]; exact (sub_nonneg.mp h0).trans_lt hb)
  have h5 : fl s < n + 1 := (Int.cast_lt (R := K)).mp (by
    rw [Int.cast_add, Int.cast_one]; exact ha.trans_lt (sub_lt_iff_lt_add'.mp h1))
  omega

theorem IsFloor.eq_zero {fl : K → Int} (h : IsFloor fl) {t : K} (h0 : 0 ≤ t) (h1 : t < 1) : fl t = 0 :=
  (h.unique (n := 0) (by rwa [Int.cast_zero, sub_zero]) (by rwa [Int.cast_zero, sub_zero])).symm

theorem IsFloor.add_int {fl : K → Int} (h : IsFloor fl) (t : K) (n : ℤ) : fl (t + (n : K)) = fl t + n := by
  obtain ⟨ha, hb⟩ := h t
  refine (h.unique ?_ ?_).symm <;> rw [Int.cast_add, add_sub_add_right_eq_sub]
  · exact sub_nonneg.mpr ha
  · exact sub_lt_iff_lt_add'.mpr hb

/-- `IsFloor fl` says that `fl` is the floor, where there is one. -/
theorem isFloor_iff_floor [FloorRing K] {fl : K → Int} : IsFloor fl ↔ ∀ x, fl x = ⌊x⌋ :=
  ⟨fun h x => (Int.floor_eq_iff.mpr ⟨(h x).1, (h x).2⟩).symm, fun h s => by rw [h]; exact ⟨Int.floor_le s, Int.lt_floor_add_one s⟩⟩

/-- the driver's floor (`Rat.floor`) is a floor in the sense the theorems assume. -/
theorem isFloor_ratFloor : IsFloor (K := ℚ) Rat.floor :=
  isFloor_iff_floor.mpr fun _ => rfl

end floor

section minmax
variable {K : Type} [LinearOrder K]

theorem minOf_spec (init : K) (l : List K) :
    (minOf init l = init ∨ minOf init l ∈ l) ∧ minOf init l ≤ init ∧ ∀ x ∈ l, minOf init l ≤ x :=
  ⟨foldl_ite_min_mem l init, foldl_ite_min_le l init⟩

theorem minOf_le_init (init : K) (l : List K) : minOf init l ≤ init := (minOf_spec init l).2.1

theorem minOf_le_mem (init : K) (l : List K) : ∀ x ∈ l, minOf init l ≤ x := (minOf_spec init l).2.2

theorem lt_minOf (c init : K) (l : List K) (h0 : c < init) (h : ∀ x ∈ l, c < x) : c < minOf init l := by
  rcases (minOf_spec init l).1 with e | m
  · rwa [e]
  · exact h _ m

theorem maxOf_mem (init : K) (l : List K) : maxOf init l = init ∨ maxOf init l ∈ l := foldl_ite_max_mem l init

theorem maxOf_ge_init (init : K) (l : List K) : init ≤ maxOf init l := (le_foldl_ite_max l init).1

theorem maxOf_ge_mem (init : K) (l : List K) : ∀ x ∈ l, x ≤ maxOf init l := (le_foldl_ite_max l init).2

theorem maxOf_lt (c init : K) (l : List K) (h0 : init < c) (h : ∀ x ∈ l, x < c) : maxOf init l < c := by
  rcases maxOf_mem init l with e | m
  · rwa [e]
  · exact h _ m

theorem maxOf_le (init b : K) (l : List K) (h0 : init ≤ b) (h : ∀ x ∈ l, x ≤ b) : maxOf init l ≤ b := by
  rcases maxOf_mem init l with e | m
  · rwa [e]
  · exact h _ m

end minmax

section axis
variable {K : Type} [Field K] [LinearOrder K] [IsStrictOrderedRing K]

theorem axisBounds_periodic (pad : K) (ss : List K) : axisBounds pad true ss = (0, 1) := by
  simp [axisBounds]

theorem axisBounds_spec (pad : K) (hpad : 0 < pad) (p : Bool) (ss : List K) :
    (axisBounds pad p ss).1 ≤ 0 ∧ 1 ≤ (axisBounds pad p ss).2 ∧
    (p = false → ∀ x ∈ ss, (axisBounds pad p ss).1 < x ∧ x < (axisBounds pad p ss).2) := by
  cases p with
  | true => simp [axisBounds]
  | false =>
    cases ss with
    | nil => simp [axisBounds]
    | cons a t =>
      -- the lower face is at or below 0 and strictly below the smallest coordinate; the upper face likewise
      have hlo : (axisBounds pad false (a :: t)).1 ≤ 0 ∧ (axisBounds pad false (a :: t)).1 < minOf a t := by
        simp only [axisBounds, Bool.false_eq_true, if_false]
        split
        · exact ⟨(sub_le_self _ hpad.le).trans ‹_›, sub_lt_self _ hpad⟩
        · exact ⟨le_refl _, not_le.mp ‹_›⟩
      have hhi : 1 ≤ (axisBounds pad false (a :: t)).2 ∧ maxOf a t < (axisBounds pad false (a :: t)).2 := by
        simp only [axisBounds, Bool.false_eq_true, if_false]
        split
        · exact ⟨le_trans ‹_› (le_add_of_nonneg_right hpad.le), lt_add_of_pos_right _ hpad⟩
        · exact ⟨le_refl _, not_le.mp ‹_›⟩
      refine ⟨hlo.1, hhi.1, fun _ x hx => ?_⟩
      rcases List.mem_cons.mp hx with rfl | hx
      · exact ⟨hlo.2.trans_le (minOf_le_init _ _), (maxOf_ge_init _ _).trans_lt hhi.2⟩
      · exact ⟨hlo.2.trans_le (minOf_le_mem _ _ x hx), (maxOf_ge_mem _ _ x hx).trans_lt hhi.2⟩

theorem axisBounds_width (pad : K) (hpad : 0 < pad) (p : Bool) (ss : List K) :
    1 ≤ (axisBounds pad p ss).2 - (axisBounds pad p ss).1 := by
  obtain ⟨h1, h2, _⟩ := axisBounds_spec pad hpad p ss
  exact le_sub_iff_add_le.mpr ((add_le_of_nonpos_right h1).trans h2)

end axis

section atom
variable {K : Type} [Field K] [LinearOrder K] [IsStrictOrderedRing K]

theorem relToCart_add_lattice (b : Box K) (s : V3 K) (f : V3 Int) :
    b.relToCart ⟨s.x + (f.x : K), s.y + (f.y : K), s.z + (f.z : K)⟩ = b.relToCart s + latticeVec b.vects f :=
  Box.relToCart_add b s ⟨f.x, f.y, f.z⟩

theorem relToCart_subFlags (b : Box K) (s : V3 K) (f : V3 Int) :
    b.relToCart (subFlags s f) + latticeVec b.vects f = b.relToCart s := by
  rw [← relToCart_add_lattice]
  simp only [subFlags, sub_add_cancel]

theorem subFlags_zero (s : V3 K) : subFlags s ⟨0, 0, 0⟩ = s := by
  obtain ⟨x, y, z⟩ := s
  simp only [subFlags, Int.cast_zero, sub_zero]

theorem atom_reconstruct (fl : K → Int) (b : Box K) (hdet : M3.det b.vects ≠ 0) (pbc : V3 Bool) (p : V3 K) :
    atomPos fl b pbc p + latticeVec b.vects (atomFlags fl b pbc p) = p := by
  rw [atomPos, relToCart_subFlags, Box.relToCart_cartToRel b hdet]

theorem atomFlags_nonperiodic (fl : K → Int) (b : Box K) (pbc : V3 Bool) (p : V3 K) :
    (pbc.x = false → (atomFlags fl b pbc p).x = 0) ∧ (pbc.y = false → (atomFlags fl b pbc p).y = 0) ∧
    (pbc.z = false → (atomFlags fl b pbc p).z = 0) := by
  refine ⟨?_, ?_, ?_⟩ <;> intro h <;> simp [atomFlags, flagsOf, flagOf, h]

theorem flagOf_eq_zero (fl : K → Int) (hfl : IsFloor fl) (p : Bool) (t : K) (h : p = true → 0 ≤ t ∧ t < 1) :
    flagOf fl p t = 0 := by
  cases p with
  | true => exact hfl.eq_zero (h rfl).1 (h rfl).2
  | false => rfl

/-- one scaled coordinate: the image flag absorbs an integer along a periodic direction. -/
theorem flagOf_add_int (fl : K → Int) (hfl : IsFloor fl) (p : Bool) (t : K) (m : ℤ) (h : p = false → m = 0) :
    t + (m : K) - ((flagOf fl p (t + (m : K)) : ℤ) : K) = t - ((flagOf fl p t : ℤ) : K) := by
  cases p with
  | true => rw [flagOf, if_pos rfl, flagOf, if_pos rfl, hfl.add_int, Int.cast_add, add_sub_add_right_eq_sub]
  | false => rw [h rfl, Int.cast_zero, add_zero]

/-- a point is inside the cell along the periodic directions (`0 ≤ s < 1` there). -/
def insidePeriodic (b : Box K) (pbc : V3 Bool) (p : V3 K) : Prop :=
  (pbc.x = true → 0 ≤ (b.cartToRel p).x ∧ (b.cartToRel p).x < 1) ∧
  (pbc.y = true → 0 ≤ (b.cartToRel p).y ∧ (b.cartToRel p).y < 1) ∧
  (pbc.z = true → 0 ≤ (b.cartToRel p).z ∧ (b.cartToRel p).z < 1)

theorem atomFlags_of_inside (fl : K → Int) (hfl : IsFloor fl) (b : Box K) (pbc : V3 Bool) (p : V3 K)
    (hin : insidePeriodic b pbc p) : atomFlags fl b pbc p = ⟨0, 0, 0⟩ := by
  rw [atomFlags, flagsOf, flagOf_eq_zero fl hfl _ _ hin.1, flagOf_eq_zero fl hfl _ _ hin.2.1,
    flagOf_eq_zero fl hfl _ _ hin.2.2]

/-- an atom that is inside along the periodic directions is not moved. -/
theorem atomPos_of_inside (fl : K → Int) (hfl : IsFloor fl) (b : Box K) (hdet : M3.det b.vects ≠ 0) (pbc : V3 Bool)
    (p : V3 K) (hin : insidePeriodic b pbc p) : atomPos fl b pbc p = p := by
  rw [atomPos, atomFlags_of_inside fl hfl b pbc p hin, subFlags_zero, Box.relToCart_cartToRel b hdet]

/-- `wrap` does not see lattice translations along periodic directions. -/
theorem atomPos_add_lattice (fl : K → Int) (hfl : IsFloor fl) (b : Box K) (hdet : M3.det b.vects ≠ 0) (pbc : V3 Bool)
    (p : V3 K) (m : V3 Int)
    (hx : pbc.x = false → m.x = 0) (hy : pbc.y = false → m.y = 0) (hz : pbc.z = false → m.z = 0) :
    atomPos fl b pbc (p + latticeVec b.vects m) = atomPos fl b pbc p := by
  unfold atomPos atomFlags
  rw [latticeVec, Box.cartToRel_add_vecMul b hdet]
  exact congrArg b.relToCart (V3.ext (flagOf_add_int fl hfl _ _ _ hx) (flagOf_add_int fl hfl _ _ _ hy)
    (flagOf_add_int fl hfl _ _ _ hz))

/-- every position `wrap` stores is inside the cell along the periodic directions. -/
theorem atomPos_inside (fl : K → Int) (hfl : IsFloor fl) (b : Box K) (hdet : M3.det b.vects ≠ 0) (pbc : V3 Bool)
    (p : V3 K) : insidePeriodic b pbc (atomPos fl b pbc p) := by
  unfold insidePeriodic
  rw [atomPos, Box.cartToRel_relToCart b hdet]
  refine ⟨?_, ?_, ?_⟩ <;> intro h <;> simp only [atomFlags, flagsOf, flagOf, subFlags, h, if_true]
  · exact ⟨sub_nonneg.mpr (hfl _).1, sub_lt_iff_lt_add'.mpr (hfl _).2⟩
  · exact ⟨sub_nonneg.mpr (hfl _).1, sub_lt_iff_lt_add'.mpr (hfl _).2⟩
  · exact ⟨sub_nonneg.mpr (hfl _).1, sub_lt_iff_lt_add'.mpr (hfl _).2⟩

/-- wrapping before a translation changes nothing once the result is wrapped. -/
theorem atomPos_atomPos_add (fl : K → Int) (hfl : IsFloor fl) (b : Box K) (hdet : M3.det b.vects ≠ 0) (pbc : V3 Bool)
    (x t : V3 K) : atomPos fl b pbc (atomPos fl b pbc x + t) = atomPos fl b pbc (x + t) := by
  obtain ⟨h2, h3, h4⟩ := atomFlags_nonperiodic fl b pbc x
  have e : x + t = atomPos fl b pbc x + t + latticeVec b.vects (atomFlags fl b pbc x) := by
    conv_lhs => rw [← atom_reconstruct fl b hdet pbc x]
    exact V3.ext (add_right_comm ..) (add_right_comm ..) (add_right_comm ..)
  rw [e, atomPos_add_lattice fl hfl b hdet pbc _ _ h2 h3 h4]

theorem axis_unit (fl : K → Int) (hfl : IsFloor fl) (pad : K) (hpad : 0 < pad) (p : Bool) (ss : List K)
    (s : K) (hs : s ∈ ss) :
    let lo := (axisBounds pad p ss).1
    let hi := (axisBounds pad p ss).2
    let t := (s - ((flagOf fl p s : Int) : K) - lo) / (hi - lo)
    1 ≤ hi - lo ∧ 0 ≤ t ∧ t < 1 ∧ (p = false → 0 < t) := by
  intro lo hi t
  have hw : 1 ≤ hi - lo := axisBounds_width pad hpad p ss
  have hwp : 0 < hi - lo := one_pos.trans_le hw
  cases p with
  | true =>
    -- bounds `(0, 1)`, the flag is the floor: `t = s - ⌊s⌋`
    obtain ⟨h1, h2⟩ := hfl s
    have e : t = s - (fl s : K) := by
      simp only [t, lo, hi, axisBounds_periodic, flagOf, if_true, sub_zero, div_one]
    rw [e]
    exact ⟨hw, sub_nonneg.mpr h1, sub_lt_iff_lt_add'.mpr h2, fun h => Bool.noConfusion h⟩
  | false =>
    -- flag 0, and `lo < s < hi`
    obtain ⟨h0, h1⟩ := (axisBounds_spec pad hpad false ss).2.2 rfl s hs
    have e : t = (s - lo) / (hi - lo) := by
      simp only [t, flagOf, Bool.false_eq_true, if_false, Int.cast_zero, sub_zero]
    have ht : 0 < t := by rw [e]; exact div_pos (sub_pos.mpr h0) hwp
    exact ⟨hw, ht.le, by rw [e, div_lt_one hwp]; exact sub_lt_sub_right h1 lo, fun _ => ht⟩

/-- relative coordinates, in the NEW box, of the new position of an atom of the system (`wrap_cartToRel`). -/
def newRel (fl : K → Int) (pad : K) (b : Box K) (pbc : V3 Bool) (pos : List (V3 K)) (p : V3 K) : V3 K :=
  let s := b.cartToRel p
  let bd := bounds pad pbc (pos.map b.cartToRel)
  ⟨(s.x - ((flagOf fl pbc.x s.x : Int) : K) - bd.x.1) / (bd.x.2 - bd.x.1),
   (s.y - ((flagOf fl pbc.y s.y : Int) : K) - bd.y.1) / (bd.y.2 - bd.y.1),
   (s.z - ((flagOf fl pbc.z s.z : Int) : K) - bd.z.1) / (bd.z.2 - bd.z.1)⟩

theorem axisBounds_lo_periodic (pad : K) (ss : List K) {p : Bool} (h : p = true) : (axisBounds pad p ss).1 = 0 := by
  rw [h, axisBounds_periodic]

theorem unit_rescale {lo hi t : K} (hlo : lo ≤ 0) (hhi : 1 ≤ hi) (h0 : 0 ≤ t) (h1 : t ≤ 1) :
    0 ≤ (t - lo) / (hi - lo) ∧ (t - lo) / (hi - lo) ≤ 1 := by
  have hw : 0 < hi - lo := sub_pos.mpr (hlo.trans_lt (one_pos.trans_le hhi))
  exact ⟨div_nonneg (sub_nonneg.mpr (hlo.trans h0)) hw.le, (div_le_one hw).mpr (sub_le_sub_right (h1.trans hhi) lo)⟩

theorem bounds_width (pad : K) (hpad : 0 < pad) (pbc : V3 Bool) (spos : List (V3 K)) :
    1 ≤ (bounds pad pbc spos).x.2 - (bounds pad pbc spos).x.1 ∧
    1 ≤ (bounds pad pbc spos).y.2 - (bounds pad pbc spos).y.1 ∧
    1 ≤ (bounds pad pbc spos).z.2 - (bounds pad pbc spos).z.1 :=
  ⟨axisBounds_width pad hpad _ _, axisBounds_width pad hpad _ _, axisBounds_width pad hpad _ _⟩

theorem bounds_width_pos (pad : K) (hpad : 0 < pad) (pbc : V3 Bool) (spos : List (V3 K)) :
    0 < (bounds pad pbc spos).x.2 - (bounds pad pbc spos).x.1 ∧
    0 < (bounds pad pbc spos).y.2 - (bounds pad pbc spos).y.1 ∧
    0 < (bounds pad pbc spos).z.2 - (bounds pad pbc spos).z.1 :=
  (bounds_width pad hpad pbc spos).imp one_pos.trans_le (And.imp one_pos.trans_le one_pos.trans_le)

theorem det_wrap_ne_zero (fl : K → Int) (pad : K) (hpad : 0 < pad) (b : Box K) (hdet : M3.det b.vects ≠ 0)
    (pbc : V3 Bool) (pos : List (V3 K)) : M3.det (wrap fl pad b pbc pos).box.vects ≠ 0 := by
  obtain ⟨hx, hy, hz⟩ := bounds_width_pos pad hpad pbc (pos.map b.cartToRel)
  rw [show (wrap fl pad b pbc pos).box = paddedBox b (bounds pad pbc (pos.map b.cartToRel)) from rfl, det_paddedBox]
  exact mul_ne_zero (mul_ne_zero (mul_ne_zero hx.ne' hy.ne') hz.ne') hdet

theorem wrap_cartToRel (fl : K → Int) (pad : K) (hpad : 0 < pad) (b : Box K) (hdet : M3.det b.vects ≠ 0)
    (pbc : V3 Bool) (pos : List (V3 K)) (p : V3 K) :
    (wrap fl pad b pbc pos).box.cartToRel (atomPos fl b pbc p) = newRel fl pad b pbc pos p := by
  obtain ⟨hx, hy, hz⟩ := bounds_width_pos pad hpad pbc (pos.map b.cartToRel)
  exact cartToRel_paddedBox b hdet _ _ hx.ne' hy.ne' hz.ne'

theorem smul_one_sub_zero (v : V3 K) : V3.smul ((1 : K) - 0) v = v := by
  rw [sub_zero, V3.one_smul]

theorem smul_width_periodic (pad : K) (ss : List K) (v : V3 K) {p : Bool} (h : p = true) :
    V3.smul ((axisBounds pad p ss).2 - (axisBounds pad p ss).1) v = v := by
  rw [h, axisBounds_periodic, smul_one_sub_zero]

theorem axisBounds_of_strict (pad : K) (p : Bool) (ss : List K)
    (h : p = false → ∀ x ∈ ss, 0 < x ∧ x < 1) : axisBounds pad p ss = (0, 1) := by
  cases p with
  | true => exact axisBounds_periodic pad ss
  | false =>
    cases ss with
    | nil => simp [axisBounds]
    | cons a t =>
      have ha := h rfl a List.mem_cons_self
      have h1 : 0 < minOf a t := lt_minOf 0 a t ha.1 (fun x hx => (h rfl x (List.mem_cons_of_mem _ hx)).1)
      have h2 : maxOf a t < 1 := maxOf_lt 1 a t ha.2 (fun x hx => (h rfl x (List.mem_cons_of_mem _ hx)).2)
      simp only [axisBounds, Bool.false_eq_true, if_false, not_le.mpr h1, not_le.mpr h2]

theorem bounds_of_strict (pad : K) (pbc : V3 Bool) (sp : List (V3 K))
    (h : ∀ s ∈ sp, (pbc.x = false → 0 < s.x ∧ s.x < 1) ∧ (pbc.y = false → 0 < s.y ∧ s.y < 1) ∧
      (pbc.z = false → 0 < s.z ∧ s.z < 1)) :
    bounds pad pbc sp = ⟨(0, 1), (0, 1), (0, 1)⟩ := by
  rw [bounds, axisBounds_of_strict _ _ _ (fun hp => List.forall_mem_map.mpr fun s hs => (h s hs).1 hp),
    axisBounds_of_strict _ _ _ (fun hp => List.forall_mem_map.mpr fun s hs => (h s hs).2.1 hp),
    axisBounds_of_strict _ _ _ (fun hp => List.forall_mem_map.mpr fun s hs => (h s hs).2.2 hp)]

theorem paddedBox_unit (b : Box K) : paddedBox b ⟨(0, 1), (0, 1), (0, 1)⟩ = b := by
  obtain ⟨⟨r0, r1, r2⟩, ⟨o0, o1, o2⟩⟩ := b
  simp only [paddedBox, smul_one_sub_zero, M3.vecMul, V3.add_def, zero_mul, add_zero]

theorem newRel_facts (fl : K → Int) (hfl : IsFloor fl) (pad : K) (hpad : 0 < pad) (b : Box K) (pbc : V3 Bool)
    (pos : List (V3 K)) (p : V3 K) (hp : p ∈ pos) :
    (0 ≤ (newRel fl pad b pbc pos p).x ∧ (newRel fl pad b pbc pos p).x < 1 ∧
      (pbc.x = false → 0 < (newRel fl pad b pbc pos p).x)) ∧
    (0 ≤ (newRel fl pad b pbc pos p).y ∧ (newRel fl pad b pbc pos p).y < 1 ∧
      (pbc.y = false → 0 < (newRel fl pad b pbc pos p).y)) ∧
    (0 ≤ (newRel fl pad b pbc pos p).z ∧ (newRel fl pad b pbc pos p).z < 1 ∧
      (pbc.z = false → 0 < (newRel fl pad b pbc pos p).z)) := by
  have hm : b.cartToRel p ∈ pos.map b.cartToRel := List.mem_map_of_mem hp
  obtain ⟨_, x0, x1, x2⟩ := axis_unit fl hfl pad hpad pbc.x _ _ (List.mem_map_of_mem (f := (·.x)) hm)
  obtain ⟨_, y0, y1, y2⟩ := axis_unit fl hfl pad hpad pbc.y _ _ (List.mem_map_of_mem (f := (·.y)) hm)
  obtain ⟨_, z0, z1, z2⟩ := axis_unit fl hfl pad hpad pbc.z _ _ (List.mem_map_of_mem (f := (·.z)) hm)
  exact ⟨⟨x0, x1, x2⟩, ⟨y0, y1, y2⟩, ⟨z0, z1, z2⟩⟩

theorem wrap_box_full (fl : K → Int) (pad : K) (b : Box K) (pos : List (V3 K)) :
    (wrap fl pad b ⟨true, true, true⟩ pos).box = b := by
  simp only [wrap, bounds, axisBounds_periodic, paddedBox_unit]

/-- after `wrap` every atom is inside the new box, strictly below the upper faces. -/
theorem wrap_inside_strict (fl : K → Int) (hfl : IsFloor fl) (pad : K) (hpad : 0 < pad) (b : Box K)
    (hdet : M3.det b.vects ≠ 0) (pbc : V3 Bool) (pos : List (V3 K)) :
    ∀ p' ∈ (wrap fl pad b pbc pos).pos,
      0 ≤ ((wrap fl pad b pbc pos).box.cartToRel p').x ∧ ((wrap fl pad b pbc pos).box.cartToRel p').x < 1 ∧
      0 ≤ ((wrap fl pad b pbc pos).box.cartToRel p').y ∧ ((wrap fl pad b pbc pos).box.cartToRel p').y < 1 ∧
      0 ≤ ((wrap fl pad b pbc pos).box.cartToRel p').z ∧ ((wrap fl pad b pbc pos).box.cartToRel p').z < 1 := by
  intro p' hp'
  simp only [wrap, List.mem_map] at hp'
  obtain ⟨p, hp, rfl⟩ := hp'
  rw [wrap_cartToRel fl pad hpad b hdet pbc pos p]
  obtain ⟨⟨x0, x1, _⟩, ⟨y0, y1, _⟩, ⟨z0, z1, _⟩⟩ := newRel_facts fl hfl pad hpad b pbc pos p hp
  exact ⟨x0, x1, y0, y1, z0, z1⟩

/-- **wrap_inside**: after `wrap` every atom is inside the new box (faces included). -/
theorem wrap_inside (fl : K → Int) (hfl : IsFloor fl) (pad : K) (hpad : 0 < pad) (b : Box K)
    (hdet : M3.det b.vects ≠ 0) (pbc : V3 Bool) (pos : List (V3 K)) :
    ∀ p' ∈ (wrap fl pad b pbc pos).pos, insideRel ((wrap fl pad b pbc pos).box.cartToRel p') := by
  intro p' hp'
  obtain ⟨x0, x1, y0, y1, z0, z1⟩ := wrap_inside_strict fl hfl pad hpad b hdet pbc pos p' hp'
  exact ⟨x0, x1.le, y0, y1.le, z0, z1.le⟩

end atom

end Atomman.C05
