/-
  C08 — the loader against C07's independent POSCAR reader: on every file the writer emits both describe the same
  system (C07: `parsePoscar_writePoscar`; here: `load_dump_roundtrip_poscar`).
-/
import Proofs.C08_Poscar
namespace Atomman.C08
open Atomman Atomman.C07
set_option linter.unusedSimpArgs false


/-- the system a POSCAR file describes, built from the result of C07's independent reader (VASP semantics):
    cell = the (scaled) lattice with origin 0, types `1, 2, …` by the counts, positions as the reader computed them. -/
def loadedOfParsed (pp : ParsedPoscar) (symArg : Option (List (Option String))) : Loaded :=
  { (Loaded.init ⟨pp.lattice, ⟨0, 0, 0⟩⟩ ⟨true, true, true⟩ (pp.counts.foldr (· + ·) 0)
      (symArg.getD (match pp.symbols with
        | some l => l.map fun t => some (String.ofList t)
        | none => pp.counts.map fun _ => none)) []) with
    props := [{ name := "atype", shape := [], isInt := true, vals := (atypeOfCounts pp.counts).map fun (t : Int) => [(t : ℚ)] },
              { name := "pos", shape := [3], isInt := false, vals := pp.pos.map fun p => [p.x, p.y, p.z] }] }

theorem v3_add_zero (v : V3 ℚ) : v + (⟨0, 0, 0⟩ : V3 ℚ) = v := by
  show V3.add _ _ = _
  simp [V3.add]

theorem poscarLoaded_eq_ofParsed (f : Fmt) (header : List String) (symbols : Option (List String)) (coordstyle : String)
    (scale : ℚ) (p : PoscarNums) (symArg : Option (List (Option String))) :
    poscarLoaded f scale p.lattice p.counts p.coords (isCartStyle coordstyle)
        (symArg.getD (writtenSymbols symbols p.counts)) =
      loadedOfParsed (poscarExpected f header symbols coordstyle scale p) symArg := by
  unfold poscarLoaded loadedOfParsed poscarExpected
  simp only [show isCartTok (strTok coordstyle) = isCartStyle coordstyle from (isCartStyle_eq _).symm]
  have hsym : writtenSymbols symbols p.counts =
      (match symbols.map (·.map strTok) with
        | some l => l.map fun t => some (String.ofList t)
        | none => p.counts.map fun _ => none) := by
    cases symbols with
    | none => rfl
    | some l => simp [writtenSymbols, strTok, Function.comp]
  rw [hsym]
  congr 1
  · congr 1
    congr 1
    simp only [List.map_map]
    congr 1
    apply List.map_congr_left
    intro v _
    simp only [Function.comp, Box.relToCart, fmtV3, v3map]
    split
    · rfl
    · rw [v3_add_zero]


/-- DESIGN's `load_eq_independent_parse` for POSCAR: on every POSCAR file the writer emits, atomman's loader returns exactly
    the system that C07's independent reader (written from the VASP format rules) describes: same cell, same
    per-type grouping, same symbols, same positions. -/
theorem load_eq_independent_parse_poscar (s : Sys) (header : List String) (symbols : Option (List String))
    (coordstyle : String) (scale : ℚ) (f : Fmt) (text : List Char)
    (h : writePoscar s header symbols coordstyle scale f = .ok text)
    (hs : PoscarStringsOk header symbols coordstyle) (hscale : 0 < fmtVal f scale)
    (hlen : s.atype.length = s.pos.length) (hty : ∀ t ∈ s.atype, 1 ≤ t ∧ t ≤ (s.natypes : Int))
    (hnotint : ∀ l, symbols = some l → (l.map strTok).mapM parseInt? = none)
    (symArg : Option (List (Option String))) :
    ∃ pp, parsePoscar text = some pp ∧ loadPoscar text symArg = .ok (loadedOfParsed pp symArg) := by
  obtain ⟨hsc, hna, hsl, hpp⟩ := parsePoscar_writePoscar s header symbols coordstyle scale f text h hs hscale hlen hty
  rw [← isCartStyle_eq] at hpp
  refine ⟨_, hpp, ?_⟩
  obtain ⟨c1, c2, c3⟩ := poscarNums_counts s (isCartStyle coordstyle) scale hna hlen hty
  have hl : (poscarNums s (isCartStyle coordstyle) scale).coords.length =
      (poscarNums s (isCartStyle coordstyle) scale).counts.foldr (· + ·) 0 := by
    rw [← c2, foldl_add_eq_sum, Nat.zero_add]
    rfl
  have hne : (poscarNums s (isCartStyle coordstyle) scale).coords ≠ [] := by
    intro h0
    rw [h0] at c3
    exact hna c3.symm
  rw [load_dump_roundtrip_poscar (readable_all f) s header symbols coordstyle scale text h
    (fun w hw c hc hcn => hs.header w hw (by rw [← hcn]; exact hc))
    (fun l hl => ⟨fun w hw => cleanTok_of_okTok ((hs.symbols l hl).1 w hw), hnotint l hl⟩)
    (cleanTok_of_okTok hs.style) hl hne symArg]
  rw [poscarLoaded_eq_ofParsed f header symbols coordstyle scale _ symArg]

end Atomman.C08
