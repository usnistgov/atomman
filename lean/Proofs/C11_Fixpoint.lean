/-
  C11 — the setters as maps on stored states: what the `Cij` setter stores is a fixed point of it (zeroing included);
  the whole of `transform` is homogeneous of degree one on symmetric tensors (unit systems); `normalized_as` through the
  setter is idempotent for the systems whose template entries are single constants (triclinic, monoclinic,
  orthorhombic, tetragonal, cubic).
-/
import Proofs.C11_Setters
import Proofs.C11_Norm
import Proofs.C11_Crystal

namespace Atomman.C11
open Atomman.Gen

variable {K : Type} [Field K] [LinearOrder K] [IsStrictOrderedRing K]

theorem maxK_mul_left (a x y : K) (ha : 0 < a) : maxK (a * x) (a * y) = a * maxK x y := by
  rw [maxK_eq_max, maxK_eq_max, mul_max_of_nonneg _ _ ha.le]

theorem foldl_maxK_mul (a : K) (ha : 0 < a) (xs : List K) (x : K) :
    (xs.map (a * ·)).foldl maxK (a * x) = a * xs.foldl maxK x := by
  induction xs generalizing x with
  | nil => rfl
  | cons y ys ih => simp only [List.map_cons, List.foldl_cons, maxK_mul_left _ _ _ ha, ih]

theorem maxList_map_mul (a : K) (ha : 0 < a) : ∀ l : List K, maxList (l.map (a * ·)) = a * maxList l
  | [] => by simp [maxList]
  | x :: xs => foldl_maxK_mul a ha xs x

theorem max6_smul (a : K) (ha : 0 < a) (v : M6 K) : max6 (fun p q => a * v p q) = a * max6 v := by
  rw [max6, max6, ← maxList_map_mul a ha, M6.toList, M6.toList, List.map_map]; rfl

theorem max4_smul (a : K) (ha : 0 < a) (C : T4 K) : max4 (fun i j k l => a * C i j k l) = a * max4 C := by
  rw [max4, max4, ← maxList_map_mul a ha, T4.toList, T4.toList, List.map_map]; rfl

theorem cleanT4_smul (tol a : K) (ha : 0 < a) (C : T4 K) :
    cleanT4 tol (max4 (a • C)) (a • C) = a • cleanT4 tol (max4 C) C := by
  funext i j k l
  show cleanT4 tol (max4 fun i j k l => a * C i j k l) (fun i j k l => a * C i j k l) i j k l = a * _
  simp only [cleanT4, max4_smul a ha, mul_div_mul_left _ _ (ne_of_gt ha)]
  split <;> simp

/-- the zeroing rule of the `Cij` setter on one entry: `zeroSmall mx v a b = zc mx (v a b)` by `rfl`.  The rule is
    idempotent, odd and homogeneous; `zeroSmall` inherits each entry by entry. -/
def zc (mx x : K) : K := if absK (x / mx) ≤ cijSetZeroAtol then ((0 : ℕ) : K) else x

theorem zc_zero (mx : K) : zc mx 0 = 0 := by simp [zc]

theorem zc_neg (mx x : K) : zc mx (-x) = -zc mx x := by
  simp only [zc, neg_div, absK_neg]
  split <;> simp

theorem zc_idem (mx x : K) : zc mx (zc mx x) = zc mx x := by
  by_cases h : absK (x / mx) ≤ cijSetZeroAtol
  · simp only [zc, h, if_true, Nat.cast_zero, zero_div, absK_zero, cijSetZeroAtol_nonneg]
  · simp only [zc, h, if_false]

theorem zc_smul (a mx x : K) (ha : 0 < a) : zc (a * mx) (a * x) = a * zc mx x := by
  simp only [zc, mul_div_mul_left _ _ (ne_of_gt ha)]
  split <;> simp

theorem zeroSmall_idem (mx : K) (v : M6 K) : zeroSmall mx (zeroSmall mx v) = zeroSmall mx v :=
  funext fun a => funext fun b => zc_idem mx (v a b)

theorem zeroSmall_smul (a mx : K) (ha : 0 < a) (v : M6 K) :
    zeroSmall (a * mx) (fun p q => a * v p q) = fun p q => a * zeroSmall mx v p q :=
  funext fun p => funext fun q => zc_smul a mx (v p q) ha

theorem max6_zeroSmall (v : M6 K) (hpos : 0 < max6 v) : max6 (zeroSmall (max6 v) v) = max6 v := by
  obtain ⟨p₀, h₀⟩ := (max6_isGreatest v).1
  refine (max6_isGreatest _).unique ⟨⟨p₀, ?_⟩, ?_⟩
  · simp only [zeroSmall] at h₀ ⊢
    rw [h₀, div_self hpos.ne', absK_one, if_neg (not_le.mpr cijSetZeroAtol_lt_one)]
  · rintro _ ⟨p, rfl⟩
    simp only [zeroSmall]
    split
    · rw [Nat.cast_zero]; exact hpos.le
    · exact (max6_isGreatest v).2 ⟨p, rfl⟩

/-- `ElasticConstants(Cij=ec.Cij)` stores exactly `ec.Cij`: whatever the `Cij` setter stores for a symmetric input is
    accepted by the setter unchanged. -/
theorem setCij_idem (v n : M6 K) (h : Symm6 v) (hn : setCij v = .ok n) : setCij n = .ok n := by
  have hpos := setCij_ok_pos v n hn
  rw [setCij_of_symm v h hpos] at hn
  cases hn
  have hm := max6_zeroSmall v hpos
  rw [setCij_of_symm _ (zeroSmall_symm (max6 v) v h) (by rw [hm]; exact hpos), hm, zeroSmall_idem]

/-- the `Cij` setter commutes with a change of the unit of pressure. -/
theorem setCij_smul (a : K) (ha : 0 < a) (v : M6 K) (h : Symm6 v) :
    setCij (fun p q => a * v p q) = (setCij v).map (fun z p q => a * z p q) := by
  have h' : Symm6 (fun p q => a * v p q) := fun p q => by simp only [h p q]
  by_cases hpos : 0 < max6 v
  · have hpos' : 0 < max6 (fun p q => a * v p q) := by rw [max6_smul a ha]; positivity
    rw [setCij_of_symm _ h' hpos', setCij_of_symm v h hpos, max6_smul a ha, zeroSmall_smul a _ ha]
    rfl
  · have hneg' : ¬ 0 < max6 (fun p q => a * v p q) := by rwa [max6_smul a ha, mul_pos_iff_of_pos_left ha]
    rw [setCij_of_not_pos _ hpos, setCij_of_not_pos _ hneg']
    rfl

theorem setCijkl_smul (a : K) (ha : 0 < a) (D : T4 K) (hm : MinorSymm D) (hM : MajorSymm D) :
    setCijkl (fun i j k l => a * D i j k l) = (setCijkl D).map (fun z p q => a * z p q) := by
  have hm' : MinorSymm (fun i j k l => a * D i j k l) := fun i j k l =>
    ⟨by simp only [← (hm i j k l).1], by simp only [← (hm i j k l).2]⟩
  have hM' : MajorSymm (fun i j k l => a * D i j k l) := fun i j k l => by simp only [← hM i j k l]
  rw [setCijkl_of_symm _ hm' hM', setCijkl_of_symm _ hm hM, ← setCij_smul a ha _ (cijklSetRaw_symm _ hM)]
  congr 1
  funext p q
  simp only [cijklSetRaw_eq]

/-- `ec.transform(axes, tol)` of the same material in another unit system: `a` times the result, the same refusals. -/
theorem transform_homogeneous (tol a : K) (ha : 0 < a) (axes : M33 K) (norms : Fin 3 → K) (c : M6 K) (hc : Symm6 c) :
    transform tol axes norms (fun p q => a * c p q)
      = (transform tol axes norms c).map (fun z p q => a * z p q) := by
  cases hT : axesCheck axes norms with
  | error e => simp only [transform, hT]; rfl
  | ok T =>
    have hg : cijklGet (fun p q => a * c p q) = a • cijklGet c := by
      funext i j k l; simp only [cijklGet_eq, Pi.smul_apply, smul_eq_mul]
    rw [transform_spec _ _ _ _ T hT, transform_spec _ _ _ _ T hT, hg, rot_smul, cleanT4_smul tol a ha]
    exact setCijkl_smul a ha _ (cleanT4_minor _ _ _ (rot_minor T (cijklGet_minor c)))
      (cleanT4_major _ _ _ (rot_major T (cijklGet_major c hc)))

theorem zeroSmall_m6 (mx : K) (L : List K) : zeroSmall mx (m6 L) = m6 (L.map (zc mx)) := by
  funext a b
  have h := getD_map (zc mx) L (6 * a.val + b.val) 0
  rw [zc_zero, ← Nat.cast_zero] at h
  exact h.symm

theorem setCij_m6_ok (L : List K) (n : M6 K) (hs : Symm6 (m6 L)) (hn : setCij (m6 L) = .ok n) :
    n = m6 (L.map (zc (max6 (m6 L)))) := by
  rw [setCij_of_symm _ hs (setCij_ok_pos _ n hn)] at hn
  cases hn
  exact zeroSmall_m6 _ _

/-- a template with a symmetric table whose normalisation formula `F` reproduces its constants: what the setter
    stores for it (the template of the zeroed constants) is stored again by `normalized_as`. -/
theorem norm_setter_idem_tab (t : List ℤ) (ht : TabSymm t) (F : M6 K → List K)
    (x : List K) (n : M6 K) (hn : setCij (m6 (t.map (entry x))) = .ok n)
    (hF : ∀ mx, F (m6 (t.map (entry (x.map (zc mx))))) = t.map (entry (x.map (zc mx)))) :
    setCij (m6 (F n)) = .ok n := by
  have hs := symm_of_tab t x ht
  have e := setCij_m6_ok _ n hs hn
  rw [map_template _ (zc_zero _) (zc_neg _)] at e
  rw [e, hF, ← e]
  exact setCij_idem _ _ hs hn

omit [IsStrictOrderedRing K] in
theorem normalizedAs_triclinic (c s : M6 K) : normalizedAs "triclinic" c s = setCij (m6 (normalized_triclinic c)) := by
  simp [normalizedAs]
omit [IsStrictOrderedRing K] in
theorem normalizedAs_cubic (c s : M6 K) : normalizedAs "cubic" c s = setCij (m6 (normalized_cubic c)) := by
  simp [normalizedAs]
omit [IsStrictOrderedRing K] in
theorem normalizedAs_tetragonal (c s : M6 K) : normalizedAs "tetragonal" c s = setCij (m6 (normalized_tetragonal c)) := by
  simp [normalizedAs]
omit [IsStrictOrderedRing K] in
theorem normalizedAs_orthorhombic (c s : M6 K) :
    normalizedAs "orthorhombic" c s = setCij (m6 (normalized_orthorhombic c)) := by
  simp [normalizedAs]
omit [IsStrictOrderedRing K] in
theorem normalizedAs_monoclinic (c s : M6 K) : normalizedAs "monoclinic" c s = setCij (m6 (normalized_monoclinic c)) := by
  simp [normalizedAs]

/-- `ec.normalized_as('triclinic').normalized_as('triclinic')` stores what `ec.normalized_as('triclinic')` stores. -/
theorem normalized_setter_idem_triclinic (c n s s' : M6 K) (hc : Symm6 c)
    (hn : normalizedAs "triclinic" c s = .ok n) : normalizedAs "triclinic" n s' = .ok n := by
  rw [normalizedAs_triclinic, m6_normalized_triclinic] at hn ⊢
  exact setCij_idem c n hc hn

theorem normalized_setter_idem_cubic (c n s s' : M6 K) (hn : normalizedAs "cubic" c s = .ok n) :
    normalizedAs "cubic" n s' = .ok n := by
  rw [normalizedAs_cubic] at hn ⊢
  -- `normalized_cubic c` is `cubicTab.map (entry [nC11, nC12, nC44])` by `cubic_tab` (a `rfl`), and `norm_fix_cubic` speaks of
  -- the same literal: the unifier sees both, here and in the three theorems below (`tet7_tab`, `ortho_tab`, `mono_tab`)
  exact norm_setter_idem_tab cubicTab cubicTab_symm _ [_, _, _] n hn fun _ => norm_fix_cubic ..

theorem normalized_setter_idem_tetragonal (c n s s' : M6 K) (hn : normalizedAs "tetragonal" c s = .ok n) :
    normalizedAs "tetragonal" n s' = .ok n := by
  rw [normalizedAs_tetragonal] at hn ⊢
  exact norm_setter_idem_tab tetTab tetTab_symm _ [_, _, _, _, _, _, _] n hn fun _ => norm_fix_tetragonal ..

theorem normalized_setter_idem_orthorhombic (c n s s' : M6 K) (hn : normalizedAs "orthorhombic" c s = .ok n) :
    normalizedAs "orthorhombic" n s' = .ok n := by
  rw [normalizedAs_orthorhombic] at hn ⊢
  exact norm_setter_idem_tab orthoTab orthoTab_symm _ [_, _, _, _, _, _, _, _, _] n hn fun _ => norm_fix_orthorhombic ..

theorem normalized_setter_idem_monoclinic (c n s s' : M6 K) (hn : normalizedAs "monoclinic" c s = .ok n) :
    normalizedAs "monoclinic" n s' = .ok n := by
  rw [normalizedAs_monoclinic] at hn ⊢
  exact norm_setter_idem_tab monoTab monoTab_symm _ [_, _, _, _, _, _, _, _, _, _, _, _, _] n hn fun _ => norm_fix_monoclinic ..

/-- a tensor that `normalized_as(sys)` returns unchanged passes `is_normal(sys)` at any non-negative tolerances
    (the comparison is entry by entry with itself) — through the `Cij` setter, zeroing included. -/
theorem is_normal_of_fixed (rt at' : K) (h1 : 0 ≤ rt) (h2 : 0 ≤ at') (sys : String) (n s : M6 K)
    (hfix : normalizedAs sys n s = .ok n) : isNormal rt at' sys n s = .ok true := by
  simp only [isNormal, hfix]
  congr 1
  rw [List.all_eq_true]
  intro p _
  exact isclose_self _ _ _ h1 h2

/-- `ec.normalized_as(sys).is_normal(sys)` for the five targets whose normalisation is idempotent through the setter. -/
theorem is_normal_of_normalized_setter (rt at' : K) (h1 : 0 ≤ rt) (h2 : 0 ≤ at') (c n s s' : M6 K) :
    (normalizedAs "cubic" c s = .ok n → isNormal rt at' "cubic" n s' = .ok true) ∧
    (normalizedAs "tetragonal" c s = .ok n → isNormal rt at' "tetragonal" n s' = .ok true) ∧
    (normalizedAs "orthorhombic" c s = .ok n → isNormal rt at' "orthorhombic" n s' = .ok true) ∧
    (normalizedAs "monoclinic" c s = .ok n → isNormal rt at' "monoclinic" n s' = .ok true) ∧
    (Symm6 c → normalizedAs "triclinic" c s = .ok n → isNormal rt at' "triclinic" n s' = .ok true) :=
  ⟨fun h => is_normal_of_fixed rt at' h1 h2 _ n s' (normalized_setter_idem_cubic c n s s' h),
   fun h => is_normal_of_fixed rt at' h1 h2 _ n s' (normalized_setter_idem_tetragonal c n s s' h),
   fun h => is_normal_of_fixed rt at' h1 h2 _ n s' (normalized_setter_idem_orthorhombic c n s s' h),
   fun h => is_normal_of_fixed rt at' h1 h2 _ n s' (normalized_setter_idem_monoclinic c n s s' h),
   fun hc h => is_normal_of_fixed rt at' h1 h2 _ n s' (normalized_setter_idem_triclinic c n s s' hc h)⟩

/-- non-vacuity of the hypothesis `normalizedAs … = .ok n`: a cubic tensor is accepted. -/
example : ∃ n, normalizedAs "cubic" (m6 (ctor_C11_C12_C44 (3 : ℚ) 1 2)) (fun _ _ => 0) = .ok n := by
  rw [normalizedAs_cubic, norm_fix_cubic]
  have hs := cubic312_symm
  have hpos : 0 < max6 (m6 (ctor_C11_C12_C44 (3 : ℚ) 1 2)) := (max6_pos _).mpr ⟨0, 0, by simp [m6, ctor_C11_C12_C44]⟩
  exact ⟨_, setCij_of_symm _ hs hpos⟩

/-- non-vacuity of the hypotheses of `setCij_smul` / `transform_homogeneous`: a symmetric matrix and a positive factor. -/
example : Symm6 (m6 (ctor_C11_C12_C44 (3 : ℚ) 1 2)) ∧ (0 : ℚ) < 160 := by
  constructor
  · exact cubic312_symm
  · norm_num

end Atomman.C11
