/-
  C07 — an independent reader that knows the LAMMPS layout of the atom_style reads one
  written `Atoms` line back: id, type, position, image flags, every field.
-/
import Proofs.C07_Layout
import Proofs.C07_Data

namespace Atomman.C07
open Atomman
set_option linter.unusedSimpArgs false

/-- the value a reader finds under the LAMMPS field `name` in a line laid out as `layout`. -/
def getField (layout : Layout) (vals : List ℚ) (name : String) : Option ℚ := do
  let i ← fieldIdx layout name
  vals[i]?

/-- the cells of a row fit a layout: where LAMMPS expects an integer, an integer is written. -/
def Fits (layout : Layout) (cells : List Cell) : Prop :=
  List.Forall₂ (fun fl c => isIntField fl.1 = true → ∃ i, c = Cell.int i) layout cells

/-- the three image flags at the end of an `Atoms` line, when they are written. -/
def flagToks (o : Option (V3 Int)) : List Cell :=
  match o with
  | some v => [.int v.x, .int v.y, .int v.z]
  | none => []

theorem zip_mapM_fits (f : Fmt) (layout : Layout) (cells : List Cell) (hfit : Fits layout cells)
    (g : (String × Option String) × Tok → Option ℚ)
    (hg : ∀ fl t, g (fl, t) = if isIntField fl.1 then (parseInt? t).map fun i => (i : ℚ) else parseNum? t) :
    (List.zip layout (cells.map (Cell.tok f))).mapM g = some (cells.map (Cell.val f)) := by
  induction hfit with
  | nil => rfl
  | @cons fl c _ _ h1 _ ih =>
    simp only [List.map_cons, List.zip_cons_cons, List.mapM_cons, ih, hg]
    by_cases hi : isIntField fl.1 = true
    · obtain ⟨i, rfl⟩ := h1 hi
      simp [hi, Cell.tok, Cell.val, parseInt_intTok]
    · simp [hi, parseNum_cellTok]

theorem readAtomLine_cells (f : Fmt) (layout : Layout) (cells : List Cell) (o : Option (V3 Int))
    (hfit : Fits layout cells) (idv tyv x y z : ℚ)
    (hid : getField layout (cells.map (Cell.val f)) "atom-ID" = some idv)
    (hty : getField layout (cells.map (Cell.val f)) "atom-type" = some tyv)
    (hx : getField layout (cells.map (Cell.val f)) "x" = some x)
    (hy : getField layout (cells.map (Cell.val f)) "y" = some y)
    (hz : getField layout (cells.map (Cell.val f)) "z" = some z) :
    readAtomLine layout ((cells ++ flagToks o).map (Cell.tok f)) =
      some { id := idv.floor, type := tyv.floor, pos := ⟨x, y, z⟩, image := o.getD ⟨0, 0, 0⟩,
             fields := cells.map (Cell.val f) } := by
  have hk : cells.length = layout.length := hfit.length_eq.symm
  have htake : ((cells ++ flagToks o).map (Cell.tok f)).take layout.length = cells.map (Cell.tok f) := by
    rw [List.map_append, ← hk, ← List.length_map (Cell.tok f), List.take_left]
  have hdrop : ((cells ++ flagToks o).map (Cell.tok f)).drop layout.length = (flagToks o).map (Cell.tok f) := by
    rw [List.map_append, ← hk, ← List.length_map (Cell.tok f), List.drop_left]
  have hlen : ¬ (((cells ++ flagToks o).map (Cell.tok f)).length ≠ layout.length ∧
      ((cells ++ flagToks o).map (Cell.tok f)).length ≠ layout.length + 3) := by
    cases o <;> simp [flagToks, hk]
  have himg : ((flagToks o).map (Cell.tok f)).mapM parseInt? = some ((o.map fun v => [v.x, v.y, v.z]).getD []) := by
    cases o <;> simp [flagToks, Cell.tok, parseInt_intTok]
  unfold getField at hid hty hx hy hz
  unfold readAtomLine
  simp only [htake, hdrop, hlen, himg, if_false]
  rw [zip_mapM_fits f layout cells hfit _ (fun _ _ => rfl)]
  simp only [bind] at hid hty hx hy hz ⊢
  simp only [hid, hty, hx, hy, hz, pure, Option.bind_some]
  cases o <;> rfl

theorem getField_cons_eq (a : String × Option String) (B : Layout) (v : ℚ) (VB : List ℚ) :
    getField (a :: B) (v :: VB) a.1 = some v := by
  simp [getField, fieldIdx, List.findIdx_cons]

theorem getField_cons_ne (a : String × Option String) (B : Layout) (v : ℚ) (VB : List ℚ) (name : String)
    (h : a.1 ≠ name) : getField (a :: B) (v :: VB) name = getField B VB name := by
  simp only [getField, fieldIdx, List.findIdx_cons, h, decide_false, cond_false, List.length_cons,
    Nat.add_lt_add_iff_right, Option.bind_eq_bind]
  split <;> simp

theorem getField_append_right (A B : Layout) (VA VB : List ℚ) (name : String) (hlen : VA.length = A.length)
    (h : name ∉ A.map (·.1)) : getField (A ++ B) (VA ++ VB) name = getField B VB name := by
  induction A generalizing VA with
  | nil =>
    have : VA = [] := by simpa using hlen
    subst this; rfl
  | cons a as ih =>
    cases VA with
    | nil => simp at hlen
    | cons v vs =>
      simp only [List.map_cons, List.mem_cons, not_or] at h
      rw [List.cons_append, List.cons_append, getField_cons_ne _ _ _ _ _ (fun e => h.1 e.symm)]
      exact ih vs (by simpa using hlen) h.2

theorem colLayout_a_id {c : ColSpec} (hp : c.prop = "a_id") {fs : Layout} (h : colLayout c = some fs) :
    fs = [("atom-ID", specKind c.unit)] ∧ c.names.length = 1 :=
  colLayout_of_find (e := ("a_id", ["atom-ID"])) (by rw [hp]; decide +kernel) h

theorem colLayout_atype {c : ColSpec} (hp : c.prop = "atype") {fs : Layout} (h : colLayout c = some fs) :
    fs = [("atom-type", specKind c.unit)] ∧ c.names.length = 1 :=
  colLayout_of_find (e := ("atype", ["atom-type"])) (by rw [hp]; decide +kernel) h

theorem colLayout_pos {c : ColSpec} (hp : c.prop = "pos") {fs : Layout} (h : colLayout c = some fs) :
    fs = [("x", specKind c.unit), ("y", specKind c.unit), ("z", specKind c.unit)] :=
  (colLayout_of_find (e := ("pos", ["x", "y", "z"])) (by rw [hp]; decide +kernel) h).1

/-- `c` is the first entry of `cols` for its property (the one `find?` by property name returns). -/
def FirstCol (cols : List ColSpec) (c : ColSpec) : Prop :=
  ∃ pre post, cols = pre ++ c :: post ∧ ∀ d ∈ pre, d.prop ≠ c.prop

theorem firstCol_of_find? {cols : List ColSpec} {p : String} {c : ColSpec}
    (h : cols.find? (·.prop = p) = some c) : FirstCol cols c ∧ c.prop = p := by
  obtain ⟨hp, pre, post, hsplit, hpre⟩ := List.find?_eq_some_iff_append.mp h
  have hp : c.prop = p := by simpa using hp
  refine ⟨⟨pre, post, hsplit, ?_⟩, hp⟩
  intro d hd
  have := hpre d hd
  rw [hp]
  simpa using this

theorem firstCol_append {cols : List ColSpec} {c : ColSpec} (h : FirstCol cols c) (ext : List ColSpec) :
    FirstCol (cols ++ ext) c := by
  obtain ⟨pre, post, hsplit, hpre⟩ := h
  exact ⟨pre, post ++ ext, by rw [hsplit]; simp, hpre⟩

/-- the three columns every style carries: `a_id`, `atype`, and `pos` in length units.  `readAtomLine` looks up `atom-ID`,
    `atom-type`, `x`, `y`, `z` by name and finds the FIRST field so called: the fields of the first column of that property
    (`getField_firstCol`). -/
def CoreCols (cols : List ColSpec) : Prop :=
  (∃ c, FirstCol cols c ∧ c.prop = "a_id") ∧ (∃ c, FirstCol cols c ∧ c.prop = "atype") ∧
  (∃ c, FirstCol cols c ∧ c.prop = "pos" ∧ c.unit = .kind "length")

theorem coreCols_append {cols : List ColSpec} (h : CoreCols cols) (ext : List ColSpec) : CoreCols (cols ++ ext) := by
  obtain ⟨⟨a, ha, ha'⟩, ⟨b, hb, hb'⟩, ⟨c, hc, hc'⟩⟩ := h
  exact ⟨⟨a, firstCol_append ha ext, ha'⟩, ⟨b, firstCol_append hb ext, hb'⟩, ⟨c, firstCol_append hc ext, hc'⟩⟩

theorem base_coreCols : ∀ e ∈ Gen.AtomStyles.atomStyles, e.2 ≠ [] → CoreCols (e.2.map ofGenCol) := by
  have h : ∀ e ∈ Gen.AtomStyles.atomStyles, e.2 ≠ [] →
      (((e.2.map ofGenCol).find? (·.prop = "a_id")).isSome = true ∧
       ((e.2.map ofGenCol).find? (·.prop = "atype")).isSome = true ∧
       ((e.2.map ofGenCol).find? (·.prop = "pos")).map (·.unit) = some (.kind "length")) := by decide +kernel
  intro e he hne
  obtain ⟨h1, h2, h3⟩ := h e he hne
  obtain ⟨a, ha⟩ := Option.isSome_iff_exists.mp h1
  obtain ⟨b, hb⟩ := Option.isSome_iff_exists.mp h2
  cases hc : (e.2.map ofGenCol).find? (·.prop = "pos") with
  | none => rw [hc] at h3; cases h3
  | some c =>
    rw [hc] at h3
    simp only [Option.map_some, Option.some.injEq] at h3
    exact ⟨⟨a, firstCol_of_find? ha⟩, ⟨b, firstCol_of_find? hb⟩, ⟨c, (firstCol_of_find? hc).1, (firstCol_of_find? hc).2, h3⟩⟩

theorem coreCols_of_atomCols (style : String) (cols : List ColSpec) (h : atomCols style = some cols) :
    CoreCols cols :=
  styleCols_induction (P := fun _ cols => CoreCols cols) (fun e he _ => base_coreCols e he)
    (fun e he _ => base_coreCols e he) (fun _ _ ha _ _ _ => coreCols_append ha _) h

/-- each column has written as many cells as it fills fields (what lets a field be found by position in the flattened row). -/
def LenOk (cols : List ColSpec) (cellss : List (List Cell)) : Prop :=
  List.Forall₂ (fun c cs => ∀ fs, colLayout c = some fs → cs.length = fs.length) cols cellss

theorem getField_firstCol (f : Fmt) (pre : List ColSpec) (c : ColSpec) (post : List ColSpec)
    (cellss : List (List Cell)) (L : Layout) (hL : colsLayout (pre ++ c :: post) = some L)
    (hlen : LenOk (pre ++ c :: post) cellss) (hpre : ∀ d ∈ pre, d.prop ≠ c.prop)
    {R : ColSpec → List Cell → Prop} (hR : List.Forall₂ R (pre ++ c :: post) cellss) :
    ∃ fs cc Lpost Vpost, colLayout c = some fs ∧ R c cc ∧ cc.length = fs.length ∧
      ∀ name ∈ fs.map (·.1), getField L (cellss.flatten.map (Cell.val f)) name
        = getField (fs ++ Lpost) (cc.map (Cell.val f) ++ Vpost) name := by
  induction pre generalizing cellss L with
  | nil =>
    simp only [List.nil_append] at hL hlen hR
    obtain ⟨fs, L', hfs, hL', rfl⟩ := colsLayout_cons_some hL
    cases hlen with
    | @cons _ cc _ cpost h1 h2 =>
      cases hR with | cons r1 _ => ?_
      refine ⟨fs, cc, L', cpost.flatten.map (Cell.val f), hfs, r1, h1 fs hfs, ?_⟩
      intro name _
      simp
  | cons d pre' ih =>
    simp only [List.cons_append] at hL hlen hR
    obtain ⟨fd, L', hfd, hL', rfl⟩ := colsLayout_cons_some hL
    cases hlen with
    | @cons _ cd _ crest h1 h2 =>
      cases hR with | cons _ r2 => ?_
      obtain ⟨fs, cc, Lpost, Vpost, hfs, hcc, hcl, hget⟩ :=
        ih crest L' hL' h2 (fun x hx => hpre x (List.mem_cons_of_mem _ hx)) r2
      refine ⟨fs, cc, Lpost, Vpost, hfs, hcc, hcl, ?_⟩
      intro name hname
      rw [List.flatten_cons, List.map_append,
        getField_append_right _ _ _ _ _ (by simp [h1 fd hfd])
          (fun hmem => colLayout_disjoint hfs hfd (hpre d (by simp)).symm name hname hmem)]
      exact hget name hname

/-- atomman properties that fill an integer LAMMPS field (besides `a_id`, `atype`); kept in step with the reader's
    `isIntField` by `nonint_fields`: every field of any other property is not an integer field. -/
def intProps : List String := ["m_id", "bflag", "eflag", "lflag", "tflag", "m_template", "a_template", "espin", "e_id"]

/-- the integer-valued per-atom properties of the system are stored as integers. -/
def IntTyped (s : Sys) : Prop := ∀ col ∈ s.props, col.name ∈ intProps → col.isInt = true

theorem nonint_fields :
    ∀ e ∈ propFields, e.1 ∉ ("a_id" :: "atype" :: intProps) → ∀ n ∈ e.2, isIntField n = false := by
  decide +kernel

theorem intProps_not_special : ∀ p ∈ intProps, p ≠ "a_id" ∧ p ≠ "atom_id" ∧ p ≠ "atype" ∧ isPosLike p = false ∧
    p ≠ "spos" ∧ p ≠ "supos" := by decide +kernel

theorem fits_of_all_int (fs : Layout) (cs : List Cell) (hl : cs.length = fs.length) (h : ∀ c ∈ cs, ∃ i, c = Cell.int i) :
    Fits fs cs :=
  List.forall₂_iff_zip.mpr ⟨hl.symm, fun hab _ => h _ (List.of_mem_zip hab).2⟩

theorem fits_of_no_int (fs : Layout) (cs : List Cell) (hl : cs.length = fs.length)
    (h : ∀ n ∈ fs.map (·.1), isIntField n = false) : Fits fs cs :=
  List.forall₂_iff_zip.mpr ⟨hl.symm, fun hab hi =>
    absurd hi (by rw [h _ (List.mem_map_of_mem (List.of_mem_zip hab).1)]; exact Bool.false_ne_true)⟩

theorem fits_append {A B : Layout} {ca cb : List Cell} (ha : Fits A ca) (hb : Fits B cb) : Fits (A ++ B) (ca ++ cb) := by
  induction ha with
  | nil => exact hb
  | cons h1 _ ih => exact List.Forall₂.cons h1 ih

theorem prop?_mem {s : Sys} {name : String} {col : Column} (h : s.prop? name = some col) :
    col ∈ s.props ∧ col.name = name :=
  find?_key (k := Column.name) h

theorem fits_col (s : Sys) (u : Units) (ids : List Int) (pos : List (V3 ℚ)) (c : ColSpec) (k : Nat) (fs : Layout)
    (hfs : colLayout c = some fs) (hunit : c.prop ∈ intProps → c.unit = .none) (hs : IntTyped s)
    (cs : List Cell) (h : propCells s u ids pos c k = .ok cs) : Fits fs cs ∧ cs.length = fs.length := by
  obtain ⟨e, he, hnames, hfl⟩ := colLayout_names hfs
  obtain ⟨hem, he1⟩ := find?_key (k := Prod.fst) he
  have h1 : (c.prop = "a_id" ∨ c.prop = "atom_id" ∨ c.prop = "atype") → c.names.length = 1 := by
    rintro (hp | hp | hp)
    · exact (colLayout_a_id hp hfs).2
    · exfalso
      have : propFields.find? (·.1 = "atom_id") = none := by decide +kernel
      rw [hp, this] at he; cases he
    · exact (colLayout_atype hp hfs).2
  have hlen : cs.length = fs.length := by rw [hfl]; exact propCells_length s u ids pos c k h1 cs h
  refine ⟨?_, hlen⟩
  by_cases hid : c.prop = "a_id" ∨ c.prop = "atom_id"
  · obtain ⟨i, _, rfl⟩ := propCells_id s u ids pos c k hid cs h
    exact fits_of_all_int fs _ hlen (by simp)
  · by_cases hat : c.prop = "atype"
    · obtain ⟨i, _, rfl⟩ := propCells_atype s u ids pos c k hat cs h
      exact fits_of_all_int fs _ hlen (by simp)
    · by_cases hip : c.prop ∈ intProps
      · -- an integer property carries no unit and is stored as integers
        obtain ⟨_, _, _, hpl, hsp, hsup⟩ := intProps_not_special c.prop hip
        obtain ⟨_, v, _, hraw, hcs⟩ := propCells_plain hid hat h
        have hcs := hcs .none (by rw [if_neg (not_or.mpr ⟨hsp, hsup⟩), hunit hip])
        rcases hraw with ⟨hp, _⟩ | ⟨_, col, hp, _, rfl⟩
        · rw [hpl] at hp; cases hp
        · obtain ⟨hmem, hname⟩ := prop?_mem hp
          subst hcs
          simp only [hs col hmem (hname ▸ hip), if_true] at hlen ⊢
          exact fits_of_all_int fs _ hlen (by simp)
      · apply fits_of_no_int fs cs hlen
        rw [hnames]
        apply nonint_fields e hem
        rw [he1]
        simp only [List.mem_cons, not_or]
        exact ⟨fun x => hid (Or.inl x), hat, by simpa [intProps] using hip⟩

theorem styleCols_from_table {tblC : List (String × List Gen.AtomStyles.Col)} (P : ColSpec → Prop)
    (htbl : ∀ e ∈ tblC, ∀ g ∈ e.2, P (ofGenCol g)) (style : String) (cols : List ColSpec)
    (h : styleCols tblC style = some cols) : ∀ c ∈ cols, P c := by
  have hb : ∀ e ∈ tblC, ∀ c ∈ e.2.map ofGenCol, P c := fun e he c hc => by
    obtain ⟨g, hg, rfl⟩ := List.mem_map.mp hc; exact htbl e he g hg
  refine styleCols_induction (P := fun _ cols => ∀ c ∈ cols, P c) (fun e he _ _ => hb e he) (fun e he _ _ => hb e he)
    (fun _ acc ha e he _ c hc => ?_) h
  rcases List.mem_append.mp hc with hc | hc
  · exact ha c hc
  · exact hb e he c (List.mem_filter.mp hc).1

theorem atom_int_units : ∀ e ∈ Gen.AtomStyles.atomStyles, ∀ g ∈ e.2,
    ((ofGenCol g).prop ∈ intProps → (ofGenCol g).unit = .none) := by decide +kernel

theorem fits_cols (s : Sys) (u : Units) (ids : List Int) (pos : List (V3 ℚ)) (k : Nat) (hs : IntTyped s)
    (cols : List ColSpec) (L : Layout) (hL : colsLayout cols = some L)
    (hunit : ∀ c ∈ cols, c.prop ∈ intProps → c.unit = .none) (cellss : List (List Cell))
    (h : List.Forall₂ (fun c cs => propCells s u ids pos c k = .ok cs) cols cellss) :
    Fits L cellss.flatten ∧ LenOk cols cellss := by
  induction h generalizing L with
  | nil =>
    rw [colsLayout_nil] at hL; injection hL with hL; subst hL
    exact ⟨List.Forall₂.nil, List.Forall₂.nil⟩
  | @cons c cs cols' cellss' h1 _ ih =>
    obtain ⟨fs, L', hfs, hL', rfl⟩ := colsLayout_cons_some hL
    obtain ⟨hf, hl⟩ := fits_col s u ids pos c k fs hfs (hunit c (by simp)) hs cs h1
    obtain ⟨hf', hl'⟩ := ih L' hL' (fun x hx => hunit x (List.mem_cons_of_mem _ hx))
    refine ⟨fits_append hf hf', List.Forall₂.cons ?_ hl'⟩
    intro fs' hfs'
    rw [hfs] at hfs'; injection hfs' with hfs'; subst hfs'
    exact hl

theorem floor_intCast_rat (i : Int) : ((i : ℚ)).floor = i := Rat.floor_intCast i

/-- **one `Atoms` line**: an independent reader that knows the LAMMPS layout of the style gets the id, the type,
    the (unit-converted, rounded) position, the image flags and every other field of the row. -/
theorem atom_row (s : Sys) (u : Units) (ids : List Int) (pos : List (V3 ℚ)) (k : Nat) (f : Fmt) (hs : IntTyped s)
    (cols : List ColSpec) (L : Layout) (hL : colsLayout cols = some L)
    (hunit : ∀ c ∈ cols, c.prop ∈ intProps → c.unit = .none) (hcore : CoreCols cols)
    (cellss : List (List Cell))
    (h : List.Forall₂ (fun c cs => propCells s u ids pos c k = .ok cs) cols cellss) (o : Option (V3 Int)) :
    ∃ i t p lf, ids[k]? = some i ∧ s.atype[k]? = some t ∧ pos[k]? = some p ∧ u.factor? "length" = some lf ∧
      readAtomLine L ((cellss.flatten ++ flagToks o).map (Cell.tok f)) =
        some { id := i, type := t, pos := v3map (fmtVal f) (v3map (divBy lf) p), image := o.getD ⟨0, 0, 0⟩,
               fields := cellss.flatten.map (Cell.val f) } := by
  obtain ⟨hfit, hlen⟩ := fits_cols s u ids pos k hs cols L hL hunit cellss h
  obtain ⟨⟨ca, ⟨prea, posta, hsa, hprea⟩, hpa⟩, ⟨ct, ⟨pret, postt, hst, hpret⟩, hpt⟩,
    ⟨cp, ⟨prep, postp, hsp, hprep⟩, hpp, hup⟩⟩ := hcore
  obtain ⟨fsa, cca, La, Va, hfsa, hcca, _, hga⟩ := getField_firstCol f prea ca posta cellss L (hsa ▸ hL) (hsa ▸ hlen) hprea (hsa ▸ h)
  obtain ⟨i, hi, rfl⟩ := propCells_id s u ids pos ca k (Or.inl hpa) cca hcca
  obtain ⟨rfl, _⟩ := colLayout_a_id hpa hfsa
  have hid := (hga "atom-ID" (by simp)).trans (getField_cons_eq ("atom-ID", specKind ca.unit) La (i : ℚ) Va)
  obtain ⟨fst, cct, Lt, Vt, hfst, hcct, _, hgt⟩ := getField_firstCol f pret ct postt cellss L (hst ▸ hL) (hst ▸ hlen) hpret (hst ▸ h)
  obtain ⟨t, ht, rfl⟩ := propCells_atype s u ids pos ct k hpt cct hcct
  obtain ⟨rfl, _⟩ := colLayout_atype hpt hfst
  have hty := (hgt "atom-type" (by simp)).trans (getField_cons_eq ("atom-type", specKind ct.unit) Lt (t : ℚ) Vt)
  obtain ⟨fsp, ccp, Lp, Vp, hfsp, hccp, _, hgp⟩ := getField_firstCol f prep cp postp cellss L (hsp ▸ hL) (hsp ▸ hlen) hprep (hsp ▸ h)
  obtain ⟨p, lf, hp, hlf, rfl⟩ := propCells_pos s u ids pos cp k hpp hup ccp hccp
  have hfp := colLayout_pos hpp hfsp
  subst hfp
  have hx := (hgp "x" (by simp)).trans (getField_cons_eq ("x", specKind cp.unit) _ _ _)
  have hy := (hgp "y" (by simp)).trans <| (getField_cons_ne ("x", specKind cp.unit) _ _ _ "y" (by simp)).trans
    (getField_cons_eq ("y", specKind cp.unit) _ _ _)
  have hz := (hgp "z" (by simp)).trans <| (getField_cons_ne ("x", specKind cp.unit) _ _ _ "z" (by simp)).trans <|
    (getField_cons_ne ("y", specKind cp.unit) _ _ _ "z" (by simp)).trans (getField_cons_eq ("z", specKind cp.unit) _ _ _)
  refine ⟨i, t, p, lf, hi, ht, hp, hlf, ?_⟩
  rw [readAtomLine_cells f L cellss.flatten o hfit _ _ _ _ _ hid hty hx hy hz]
  simp [Rat.floor_intCast, v3map, Cell.val]

end Atomman.C07
