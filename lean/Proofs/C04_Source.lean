/-
  C04 — the source tie.  `Atomman/Generated/SupercellSource.lean` is regenerated on every check from the CURRENT source of
  `System.supersize`, `System.rotate`, the `Box` family predicates, `miller.py` and the two conversion styles
  (`harness/props/c04.py: translate()`).  Each `gen_…_eq_model` (two more at the end of Proofs/C04.lean) states that a
  generated definition IS the hand model the property theorems are about: an edit of the source that changes a condition,
  a formula, a table, a default, an argument or the order of two statements breaks the named obligation.
-/
import Atomman.Generated.SupercellSource
import Proofs.C04_Lemmas

namespace Atomman.C04
open Atomman Atomman.C04.Gen

theorem gen_resolveInt_eq_model (n : Int) : genResolveInt n = (SizeArg.int n).resolve := by
  unfold genResolveInt SizeArg.resolve Size.ofInt?
  split_ifs <;> simp [*]

theorem gen_resolvePair_eq_model (lo hi : Int) : genResolvePair lo hi = (SizeArg.pair lo hi).resolve := rfl

theorem gen_resolveOther_eq_model : genResolveOther = SizeArg.other.resolve := rfl

theorem gen_replicaRel_eq_model {K : Type} [Add K] [Sub K] [Mul K] [Div K] [IntCast K]
    (sa sb sc : Size) (q : V3 K) (r0 r1 r2 : Nat) :
    genReplicaRel sa sb sc q r0 r1 r2 = replicaRel sa sb sc q r0 r1 r2 := rfl

/-- the replica counters and copy indices the broadcasting statements of the source build ARE the model's (that those
    enumerate the rows in the model's order for all sizes: `offsets_spec`, `supersizeAtoms_eq_order` in C04_Order). -/
theorem gen_offsets_eq_model :
    genOffsetsX = offsetsX ∧ genOffsetsY = offsetsY ∧ genOffsetsZ = offsetsZ ∧ genCopyIndex = copyIndex ∧
    genSposIndex = copyIndex ∧ genSkippedKey = "pos" := ⟨rfl, rfl, rfl, rfl, rfl, rfl⟩

section
variable {K : Type} [Field K] [LinearOrder K] [IsStrictOrderedRing K]

set_option linter.unusedSectionVars false in
/-- the loop `origin += vects[i] * sizes[i][0]; vects[i] *= mults[i]` over the three axes builds the model's box
    (in particular: the origin moves along the ORIGINAL cell vectors, not the multiplied ones). -/
theorem gen_superBox_eq_model (b : Box K) (sa sb sc : Size) : genSuperBox b sa sb sc = superBox b sa sb sc := by
  obtain ⟨⟨⟨a0, a1, a2⟩, ⟨b0, b1, b2⟩, ⟨c0, c1, c2⟩⟩, ⟨o0, o1, o2⟩⟩ := b
  simp only [genSuperBox, superBox, genAxisOrigin, genAxisVect, V3.smul, V3.add_def, Box.mk.injEq,
    V3.mk.injEq, true_and]
  refine ⟨?_, ?_, ?_⟩ <;> ring

theorem gen_defaultTol_eq_model : genDefaultTol = [(1, 10000), (1, 100000), (1, 1000000), (1, 10000000)] := by decide

/-- every rung of the default ladder is positive and below 1/2 (the hypothesis of `roundFaces_keep_iff`). -/
theorem gen_defaultTol_small : ∀ t ∈ genDefaultTol, 0 < t.1 ∧ 2 * t.1 < t.2 := by decide

theorem gen_rotate_glue_eq_model :
    genHexShape = (3, 4) ∧ genUvwShape = (3, 3) ∧ genShapeErrors = ["value", "value"] ∧
    genIntTestArgs = ["uvws", "int_uvws"] ∧ genIntTestKw = [] ∧ genIntTestError = "value" ∧
    genPlanarError = "value" ∧ genLadderError = "value" ∧ genHexSumError = "value" ∧
    genShortcutBoxSetKw = ["scale", "vects"] ∧ genShortcutScale = false := by decide

theorem gen_shortcut_eq_model (U : M3 Int) : genIsShortcut U = true ↔ U = M3.one := by
  simp [genIsShortcut]

/-- the flags of the returned cell on both paths. -/
theorem gen_shortcutPbc_eq_model (U : M3 Int) (pbc : Pbc) :
    rotatePbc U pbc = if genIsShortcut U then genShortcutPbc else ⟨true, true, true⟩ := by
  unfold rotatePbc genIsShortcut genShortcutPbc
  by_cases h : U = M3.one <;> simp [h]

set_option linter.unusedSectionVars false in
theorem gen_newVects_eq_model (U : M3 Int) (V : M3 K) : genNewVects U V = newVects U V := rfl

theorem gen_newVolume_eq_model (nv : M3 K) : genNewVolume nv = |M3.det nv| := by
  unfold genNewVolume; rw [absK_eq_abs]; rfl

theorem gen_corners_eq_model (U : M3 Int) : genCorners U = corners U := rfl

theorem gen_rotateSizes_eq_model (U : M3 Int) : genRotateSizes U = rotateSizes U := rfl

set_option linter.unusedSectionVars false in
/-- `np.linalg.solve(vects.T, origin)` is minus the relative coordinates of the Cartesian origin. -/
theorem gen_orel_eq_model (b : Box K) :
    genOrel b = ⟨0 - (b.cartToRel ⟨0, 0, 0⟩).x, 0 - (b.cartToRel ⟨0, 0, 0⟩).y, 0 - (b.cartToRel ⟨0, 0, 0⟩).z⟩ := by
  -- `cartToRel 0 = (0 - origin)·V⁻¹ = 0 - origin·V⁻¹` by linearity of the row product; the inverse is not looked into
  rw [Box.cartToRel_eq, M3.vecMul_sub, M3.vecMul_zero]
  ext <;> simp only [genOrel, V3.sub_x, V3.sub_y, V3.sub_z, zero_sub, neg_neg]

/-- the bounding supercell the filter runs over is the supersized system moved by `genShift`. -/
theorem gen_shift_eq_model (fl : K → Int) (b : Box K) (U : M3 Int) (atoms : List (Atom K)) :
    rotateSup fl b U atoms =
      (⟨genNewVects U b.vects, ⟨0, 0, 0⟩⟩,
       (supersizeAtoms b (genRotateSizes U).1 (genRotateSizes U).2.1 (genRotateSizes U).2.2 atoms).map
         fun a => { a with pos := a.pos - genShift fl b }) := by
  unfold rotateSup genShift
  rw [gen_orel_eq_model]
  rfl

set_option linter.unusedSectionVars false in
theorem gen_roundFaces_eq_model (atol s : K) : genRoundFaces atol s = roundFaces atol s := rfl

set_option linter.unusedSectionVars false in
theorem gen_inside_eq_model (s : V3 K) : genInside s = inHalfOpen s := rfl

set_option linter.unusedSectionVars false in
/-- `miller.vector4to3` on one row: the model's refusal test in front of the generated formula. -/
theorem gen_hex4to3_eq_model (atol u v t w : K) :
    hex4to3? atol u v t w = if absK (u + v + t) ≤ atol then some (genHex4to3 u v t w) else none := rfl

end

section
variable {K : Type} (cl : K → K → Bool) (n90 n120 : K) (p : Cell6 K)

theorem gen_isCubic_eq_model : genIsCubic cl n90 n120 p = isCubic cl n90 p := rfl
theorem gen_isHexagonal_eq_model : genIsHexagonal cl n90 n120 p = isHexagonal cl n90 n120 p := rfl
theorem gen_isTetragonal_eq_model : genIsTetragonal cl n90 n120 p = isTetragonal cl n90 p := rfl
theorem gen_isRhombohedral_eq_model : genIsRhombohedral cl n90 n120 p = isRhombohedral cl n90 p := rfl
theorem gen_isOrthorhombic_eq_model : genIsOrthorhombic cl n90 n120 p = isOrthorhombic cl n90 p := rfl
theorem gen_isMonoclinic_eq_model : genIsMonoclinic cl n90 n120 p = isMonoclinic cl n90 p := rfl
theorem gen_isTriclinic_eq_model : genIsTriclinic cl n90 n120 p = isTriclinic cl p := rfl

/-- `Box.identifyfamily` of the source is the chain the family theorems (`C04_Family`) are about. -/
theorem gen_identifyFamily_eq_model : genIdentifyFamily cl n90 n120 p = identifyFamily cl n90 n120 p := rfl

end

theorem gen_p2cTable_eq_model : genP2CTable = p2cTable := rfl
theorem gen_c2pTable_eq_model : genC2PTable = c2pTable := rfl
theorem gen_settingSites_eq_model : genSettingSitesInt = settingSitesInt := rfl
theorem gen_settingFamilies_eq_model : genSettingFamilies = settingFamilies := rfl
theorem gen_multip_eq_model : genMultip = multip := rfl
theorem gen_c2pDefaults_eq_model : genC2PDefaults = c2pDefaults := by decide

/-- every call of `check_setting_basis` hands on the caller's `rtol`, `atol`, `check_family` under their own names; the
    two calls of `'t'` test `t1` and `t2`. -/
theorem gen_resolveCalls_eq_model :
    genResolveCalls =
      [[("setting", "setting"), ("rtol", "rtol"), ("atol", "atol"), ("check_family", "check_family")],
       [("setting", "'t1'"), ("rtol", "rtol"), ("atol", "atol"), ("check_family", "check_family")],
       [("setting", "'t2'"), ("rtol", "rtol"), ("atol", "atol"), ("check_family", "check_family")]] := by decide

theorem gen_resolveSetting_eq_model (chk : String → Option (Option Bool)) (cb : Bool) (s : String) :
    genResolveSetting chk cb s = resolveSetting chk cb s := by
  unfold genResolveSetting resolveSetting
  cases cb
  · simp
  · by_cases h : s = "t"
    · subst h
      simp only [Bool.true_and, bne_self_eq_false, Bool.false_eq_true, ↓reduceIte, beq_self_eq_true, Bool.not_true]
      rcases chk "t1" with _ | _ | a <;> rcases chk "t2" with _ | _ | b <;> rfl
    · have h1 : (s != "t") = true := by simp [h]
      simp only [Bool.true_and, h1, ↓reduceIte, Bool.not_true, Bool.false_eq_true]
      rcases chk s with _ | _ | a
      · rfl
      · rfl
      · cases a <;> rfl

section
variable {K : Type} [Add K] [Sub K] [Mul K] [Div K] [IntCast K] [Zero K] [One K] [LT K] [LE K]
  [DecidableLT K] [DecidableLE K]

/-- one pass of the site loop of the source is the model's. -/
theorem gen_siteStep_eq_model : genSiteStep = siteStep := rfl

/-- the site search is called with the caller's tolerances. -/
theorem gen_siteCallKw_eq_model : genSiteCallKw = [("rtol", "rtol"), ("atol", "atol")] := by decide

set_option linter.unusedSectionVars false in
/-- the family gate sits in front of the site loop. -/
theorem gen_familyGate_eq_model (fl : K → Int) (fam : Option Family) (b : Box K) (atol2 : K) (cf : Bool) (s : String)
    (atoms : List (Atom K)) :
    checkSettingBasis fl fam b atol2 cf s atoms =
      match settingSites (K := K) s with
      | none => none
      | some sites =>
        if genFamilyGate cf (familyAllowed s fam) then some (some false)
        else some (checkSitesBy (onSiteTol fl b atol2) atoms sites none) := rfl

end

/-- the statement pins (numpy array bookkeeping; what each one pins: docs/C04.md, "Source tie"). -/
theorem gen_pins_eq_model :
    genPins =
      [("c2p_cut", "3208b455e0a889e0"),
       ("index_of_pos", "3e9868255670a9b1"),
       ("p2c_body", "b9ee3a2119011597"),
       ("rotate_tail", "365519a697f9f3cc")] := by decide

end Atomman.C04
