/-
  C06 — the operations that build an `Atoms` object: `Atoms(...)` (walked once in the rule `post_mkAtoms`), `Atoms(**views)`, `__getitem__` / `__deepcopy__` (both
  through `sliceObj`, the slice by a resolved selection), `prop(index=…)`: for each the invariant together with the frame or
  the exact result (`inv_mkAtoms` / `mkAtoms_lit_frame` / `ofViews_spec` off the one rule, `sliceObj_spec`, `getItem_spec`, `deepcopy_spec`,
  `propGetAtoms_spec`); and `Good`, the form in which the steps of a history compose.
-/
import Proofs.C06_View

namespace Atomman.C06

theorem pushObj_eq (ob : AtomsObj) (s : State) :
    pushObj ob s = (.ok s.objs.length, { s with objs := s.objs ++ [ob] }) := rfl

theorem obj_push_lt (s : State) (ob : AtomsObj) (o : Nat) (h : o < s.objs.length) :
    ({ s with objs := s.objs ++ [ob] } : State).obj o = s.obj o := by
  simp [State.obj, List.getElem?_append_left h]

theorem obj_push_eq (s : State) (ob : AtomsObj) :
    ({ s with objs := s.objs ++ [ob] } : State).obj s.objs.length = ob := by
  simp [State.obj]

theorem inv_pushObj {κ : Nat → String} {s : State} (h : InvK κ s) (n : Nat) :
    InvK κ { s with objs := s.objs ++ [⟨n, []⟩] } ∧ Ext κ s κ { s with objs := s.objs ++ [⟨n, []⟩] } := by
  have hle : Le s { s with objs := s.objs ++ [⟨n, []⟩] } := by
    refine ⟨Nat.le_refl _, fun _ _ => ⟨rfl, rfl, rfl⟩, by simp, ?_, Nat.le_refl _, fun _ _ => ⟨rfl, rfl⟩⟩
    intro o ho
    rw [obj_push_lt s _ o ho]
    exact ⟨rfl, fun _ _ h => h⟩
  refine ⟨⟨h.heap, ?_, ?_, ?_⟩, hle, fun _ _ => rfl⟩
  · intro ob hob p hp
    simp only [List.mem_append, List.mem_singleton] at hob
    rcases hob with hob | rfl
    · exact (h.props ob hob p hp).of_heap_eq rfl
    · simp at hp
  · intro ob hob
    simp only [List.mem_append, List.mem_singleton] at hob
    rcases hob with hob | rfl
    · exact h.nodup ob hob
    · simp
  · intro y hy
    have := h.syss y hy
    exact ⟨by simp; omega, this.2⟩

/-- the object has the two properties every `Atoms` is constructed with. -/
def HasAP (ob : AtomsObj) : Prop := (ob.find "atype").isSome ∧ (ob.find "pos").isSome

theorem find_persists {s s' : State} (hle : Le s s') (o : Nat) (key : String)
    (h : ((s.obj o).find key).isSome) : ((s'.obj o).find key).isSome := by
  by_cases ho : o < s.objs.length
  · cases hf : (s.obj o).find key with
    | none => simp [hf] at h
    | some a => rw [(hle.obj o ho).2 key a hf]; rfl
  · rw [obj_ge s o (Nat.le_of_not_lt ho)] at h
    simp [AtomsObj.find, emptyObj] at h

theorem HasAP.persists {s s' : State} (hle : Le s s') (o : Nat) (h : HasAP (s.obj o)) : HasAP (s'.obj o) :=
  ⟨find_persists hle o _ h.1, find_persists hle o _ h.2⟩

/-- what a constructor call leaves behind: nothing when it raised; one more object, with an `atype` and a
    `pos` property, when it returned. -/
def Made (κ : Nat → String) (s : State) (r : Except Err Nat) (s' : State) : Prop :=
  ∃ κ', InvK κ' s' ∧ Ext κ s κ' s' ∧ s'.syss = s.syss ∧
    (∀ e, r = .error e → s' = s) ∧
    (∀ o, r = .ok o → o = s.objs.length ∧ s'.objs.length = s.objs.length + 1 ∧
      HasAP (s'.obj o))

theorem Made.error {κ : Nat → String} {s : State} (h : InvK κ s) (e : Err) : Made κ s (.error e) s :=
  ⟨κ, h, Ext.refl κ s, rfl, fun _ _ => rfl, fun o ho => by cases ho⟩

theorem Made.orSame {κ : Nat → String} {s s' : State} {r : Except Err Nat} {K : Nat → State → Prop} (hm : Made κ s r s')
    (hok : ∀ o, r = .ok o → K o s') : OrSame s K r s' := by
  cases r with
  | error e => obtain ⟨_, _, _, _, herr, _⟩ := hm; exact herr e rfl
  | ok o => exact hok o rfl

/-- `Atoms(...)`, walked once: it raises and leaves no trace, or it appends an empty object of the inferred number `n` of
    atoms and assigns `atype`, `pos` and the other properties to it in turn; `J` knows which assignments are done. -/
theorem post_mkAtoms (natoms : Option Int) (atype pos : Option Src) (extra all : List (String × Src)) (s : State)
    (Q : Except Err Nat → State → Prop)
    (hall : all = ("atype", atype.getD (.lit ⟨.int, [1], [.int 1]⟩)) ::
      ("pos", pos.getD (.lit ⟨.flt, [1, 3], [.flt 0, .flt 0, .flt 0]⟩)) :: extra)
    (herr : ∀ e, Q (.error e) s)
    (hok : ∀ n, atomsCount natoms (srcVal s (atype.getD (.lit ⟨.int, [1], [.int 1]⟩))).shape
        (srcVal s (pos.getD (.lit ⟨.flt, [1, 3], [.flt 0, .flt 0, .flt 0]⟩))).shape = .ok n →
      ∃ J : List (String × Src) → State → Prop, J [] { s with objs := s.objs ++ [⟨n, []⟩] } ∧
        (∀ done kv rest, done ++ kv :: rest = all → ∀ st, J done st →
          Post (viewSet s.objs.length kv.1 kv.2) st (fun r st' => r = .ok () → J (done ++ [kv]) st')) ∧
        ∀ st, J all st → Q (.ok s.objs.length) st) :
    Post (mkAtoms natoms atype pos extra) s Q := by
  unfold mkAtoms
  refine post_atomic_of_ok herr ?_
  rw [post_bind_getS]
  simp only []
  rw [post_bind_liftE]
  split
  · rename_i n hn
    obtain ⟨J, h0, hstep, hfin⟩ := hok n hn
    subst hall
    unfold mkAtomsWith
    refine Post.bind_run (pushObj_eq _ s) ?_
    refine Post.bind_ok (hstep [] _ _ rfl _ h0) ?_
    intro _ s1 h1
    refine Post.bind_ok (hstep [_] _ _ rfl _ (h1 rfl)) ?_
    intro _ s2 h2
    refine Post.bind_ok (post_forEach_prefix _ _ (fun _ => True) J (fun done kv rest hs st _ hj =>
      Post.mono (hstep done kv rest hs st hj) (fun _ _ hq => ⟨trivial, hq⟩)) extra [_, _] s2 rfl trivial (h2 rfl)) ?_
    intro _ s3 h3
    rw [post_pure]
    intro o ho
    obtain rfl : o = s.objs.length := (Except.ok.inj ho).symm
    exact hfin s3 (h3.2 rfl)
  · intro o hc; cases hc

theorem inv_mkAtoms {κ : Nat → String} {s : State} (h : InvK κ s) (natoms : Option Int) (atype pos : Option Src)
    (extra : List (String × Src)) (hat : ∀ a, atype = some a → SrcOK κ s "atype" a)
    (hpos : ∀ a, pos = some a → SrcOK κ s "pos" a) (hex : ∀ kv ∈ extra, SrcOK κ s kv.1 kv.2) :
    Post (mkAtoms natoms atype pos extra) s (Made κ s) := by
  refine post_mkAtoms natoms atype pos extra _ s _ rfl (Made.error h) fun n _ => ⟨fun done st => ∃ g, InvK g st ∧
    Ext κ s g st ∧ st.objs.length = s.objs.length + 1 ∧ st.syss = s.syss ∧
      ∀ kv ∈ done, ((st.obj s.objs.length).find kv.1).isSome, ?_, ?_, ?_⟩
  · obtain ⟨hinv1, hext1⟩ := inv_pushObj h n
    exact ⟨κ, hinv1, hext1, by simp, rfl, fun kv hkv => by cases hkv⟩
  · intro done kv rest hsplit st ⟨g, hg, hge, hgl, hgs, hdone⟩
    have hsrc : SrcOK κ s kv.1 kv.2 := by
      have hkv : kv ∈ _ := hsplit ▸ (by simp : kv ∈ done ++ kv :: rest)
      simp only [List.mem_cons] at hkv
      rcases hkv with rfl | rfl | hkv
      · cases atype with
        | none => exact valOK_of_ok _ rfl
        | some a => exact hat a rfl
      · cases pos with
        | none => exact valOK_of_ok _ rfl
        | some a => exact hpos a rfl
      · exact hex kv hkv
    apply Post.mono (inv_viewSet hg s.objs.length kv.1 kv.2 (hsrc.mono hge))
    intro r st' ⟨⟨g', hg', hge', hgl', hgs'⟩, hfind⟩ hr
    refine ⟨g', hg', hge.trans hge', by rw [hgl', hgl], by rw [hgs', hgs], ?_⟩
    intro kv' hkv'
    simp only [List.mem_append, List.mem_singleton] at hkv'
    rcases hkv' with hkv' | rfl
    · exact find_persists hge'.le _ _ (hdone kv' hkv')
    · exact hfind hr (by omega)
  · intro st ⟨g, hg, hge, hgl, hgs, hdone⟩
    exact ⟨g, hg, hge, hgs, fun e he => (by cases he), fun o ho => by
      obtain rfl := Except.ok.inj ho
      exact ⟨rfl, hgl, hdone _ List.mem_cons_self, hdone _ (List.mem_cons_of_mem _ List.mem_cons_self)⟩⟩

/-- `Atoms(...)` on literals, whatever they are: a new object in buffers of its own, everything that existed untouched. -/
theorem mkAtoms_lit_frame (natoms : Option Int) (atype pos : Option Val) (extra : List (String × Val)) (s : State) :
    Post (mkAtoms natoms (atype.map .lit) (pos.map .lit) (extra.map (fun kv => (kv.1, Src.lit kv.2)))) s
      (OrSame s fun o' s' => o' = s.objs.length ∧ Priv s.heap.length s.objs.length o' s s' ∧
        s'.objs.length = s.objs.length + 1) := by
  refine post_mkAtoms _ _ _ _ _ s _ rfl (fun _ => rfl) fun n _ => ⟨fun _ st =>
    Priv s.heap.length s.objs.length s.objs.length s st ∧ st.objs.length = s.objs.length + 1, ?_, ?_, ?_⟩
  · exact ⟨⟨⟨fun _ _ => rfl, fun o ho => obj_push_lt s _ o ho, rfl⟩,
      fun p hp => by rw [obj_push_eq] at hp; simp at hp, Nat.le_refl _, Nat.le_refl _⟩, by simp⟩
  · intro done kv rest hsplit st hst
    obtain ⟨v, hv⟩ : ∃ v, kv.2 = .lit v := by
      have hkv : kv ∈ _ := hsplit ▸ (by simp : kv ∈ done ++ kv :: rest)
      simp only [List.mem_cons, List.mem_map] at hkv
      rcases hkv with rfl | rfl | ⟨kv0, _, rfl⟩
      · cases atype <;> exact ⟨_, rfl⟩
      · cases pos <;> exact ⟨_, rfl⟩
      · exact ⟨_, rfl⟩
    rw [hv]
    exact Post.mono (viewSet_lit_frame s.objs.length kv.1 v hst.1) (fun _ _ hq _ => ⟨hq.1, hq.2.trans hst.2⟩)
  · exact fun st hst => ⟨rfl, hst.1, hst.2⟩

/-- `normInt` is Python's index normalisation `pyNorm` of `Proofs/Lists`. -/
theorem normInt_eq : @normInt = pyNorm := by
  funext n i
  unfold normInt pyNorm
  by_cases h0 : 0 ≤ i
  · by_cases h1 : i < n
    · rw [if_pos ⟨h0, h1⟩, if_pos h0, if_pos h1]
    · rw [if_neg (fun h => h1 h.2), if_neg (fun h => by omega), if_pos h0, if_neg h1]
  · rw [if_neg (fun h => h0 h.1), if_neg h0]
    by_cases h2 : 0 ≤ i + n
    · rw [if_pos ⟨by omega, by omega⟩, if_pos h2]
    · rw [if_neg (fun h => by omega), if_neg h2]

theorem normInt_lt (n : Nat) (i : Int) (p : Nat) (h : normInt n i = some p) : p < n := by
  rw [normInt_eq] at h; exact pyNorm_lt h

theorem sliceSel_lt (n : Nat) (st sp : Option Int) (k : Int) : ∀ p ∈ sliceSel n st sp k, p < n := by
  intro p hp
  unfold sliceSel at hp
  simp only [] at hp
  split at hp
  · exact List.mem_range.mp (List.mem_filter.mp hp).1
  · exact List.mem_range.mp (List.mem_filter.mp (List.mem_reverse.mp hp)).1

theorem maskSel_lt (n : Nat) (m : List Bool) : ∀ p ∈ maskSel n m, p < n := by
  intro p hp
  exact List.mem_range.mp (List.mem_filter.mp hp).1

theorem sliceSel_nodup (n : Nat) (st sp : Option Int) (k : Int) : (sliceSel n st sp k).Nodup := by
  unfold sliceSel
  simp only []
  split
  · exact List.Nodup.sublist List.filter_sublist List.nodup_range
  · exact nodup_reverse' (List.Nodup.sublist List.filter_sublist List.nodup_range)

/-- last clause: a selection answered by a view (a basic slice) names pairwise different positions. -/
theorem resolve_spec (n : Nat) (ix : Index) (sel : Sel) (h : resolve n ix = .ok sel) :
    (∀ p ∈ sel.pos, p < n) ∧ SelOK sel ∧ (sel.view = true → sel.pos.Nodup) := by
  cases ix with
  | int i =>
    simp only [resolve] at h
    split at h
    · rename_i p hp
      injection h with h; subst h
      refine ⟨?_, fun _ => rfl, fun hv => by simp at hv⟩
      intro q hq; simp at hq; subst hq; exact normInt_lt n i _ hp
    · cases h
  | slice st sp step =>
    simp only [resolve] at h
    split at h
    · cases h
    · injection h with h; subst h
      exact ⟨sliceSel_lt n st sp _, fun hc => by simp at hc, fun _ => sliceSel_nodup _ _ _ _⟩
  | list l =>
    simp only [resolve] at h
    injection h with h; subst h
    refine ⟨?_, fun hc => by simp at hc, fun hv => by simp at hv⟩
    intro p hp
    simp only [List.mem_filterMap] at hp
    obtain ⟨i, _, hi⟩ := hp
    exact normInt_lt n i p hi
  | mask m =>
    simp only [resolve] at h
    split at h
    · injection h with h; subst h
      exact ⟨maskSel_lt n m, fun hc => by simp at hc, fun hv => by simp at hv⟩
    · split at h
      · injection h with h; subst h
        exact ⟨by intro p hp; simp at hp, fun hc => by simp at hc, fun hv => by simp at hv⟩
      · cases h

/-- the view `a[sel]`: same buffer, the row indices of `a` at the selected positions. -/
def subArr (a : Arr) (sel : Sel) : Arr := ⟨a.buf, sel.pos.map (fun p => a.idx[p]?.getD 0)⟩

theorem subArr_mem (a : Arr) (sel : Sel) (hpos : ∀ p ∈ sel.pos, p < a.idx.length) :
    ∀ i ∈ (subArr a sel).idx, i ∈ a.idx := by
  intro i hi
  simp only [subArr, List.mem_map] at hi
  obtain ⟨p, hp, rfl⟩ := hi
  have hlt := hpos p hp
  simp only [List.getElem?_eq_getElem hlt, Option.getD_some]
  exact List.getElem_mem hlt

theorem subArr_valid {s : State} {a : Arr} (hv : ArrValid s a) (sel : Sel) (hpos : ∀ p ∈ sel.pos, p < a.idx.length) :
    ArrValid s (subArr a sel) := ⟨hv.1, fun i hi => hv.2 i (subArr_mem a sel hpos i hi)⟩

theorem subArr_nodup (a : Arr) (sel : Sel) (hnd : a.idx.Nodup) (hpos : ∀ p ∈ sel.pos, p < a.idx.length)
    (hsel : sel.pos.Nodup) : (subArr a sel).idx.Nodup := by
  simp only [subArr]
  apply nodup_map_on _ hsel
  intro x hx y hy hxy
  have hx' := hpos x hx
  have hy' := hpos y hy
  simp only [List.getElem?_eq_getElem hx', List.getElem?_eq_getElem hy', Option.getD_some] at hxy
  exact nodup_getElem_inj hnd x y hx' hy' hxy

theorem indexGet_cases (a : Arr) (sel : Sel) (s : State) :
    (∃ e, indexGet a sel s = (.error e, s)) ∨
    (sel.view = true ∧ sel.oob = false ∧ indexGet a sel s = (.ok (subArr a sel), s)) ∨
    (sel.view = false ∧ sel.oob = false ∧ indexGet a sel s = (.ok ⟨s.heap.length, List.range sel.pos.length⟩,
      { s with heap := s.heap ++ [⟨arrDt s a, arrTrail s a, arrRows s (subArr a sel)⟩] })) := by
  unfold indexGet
  cases hoob : sel.oob with
  | true => exact Or.inl ⟨_, rfl⟩
  | false =>
    cases hview : sel.view with
    | true => exact Or.inr (Or.inl ⟨rfl, rfl, rfl⟩)
    | false =>
      refine Or.inr (Or.inr ⟨rfl, rfl, ?_⟩)
      simp only [Bool.false_eq_true, if_false, alloc_eq, arrRows, subArr, List.length_map]

theorem Made.after {κ κ1 : Nat → String} {s s1 s2 : State} {o : Nat} (hext : Ext κ s κ1 s1)
    (hobjs : s1.objs.length = s.objs.length) (hsys : s1.syss = s.syss) (hm : Made κ1 s1 (.ok o) s2) :
    Made κ s (.ok o) s2 := by
  obtain ⟨κ2, hinv2, hext2, hsys2, _, hok⟩ := hm
  refine ⟨κ2, hinv2, hext.trans hext2, by rw [hsys2, hsys], ?_, ?_⟩
  · intro e he; cases he
  intro o' ho'
  obtain ⟨h1, h2, h3⟩ := hok o' ho'
  exact ⟨by rw [h1, hobjs], by rw [h2, hobjs], h3⟩

/-- `Atoms(**views)`, the constructor call that ends `__getitem__` and `__deepcopy__`. -/
def ofViews (views : List PropRef) : M Nat :=
  mkAtoms none ((views.find? (fun p => p.key == "atype")).map (fun p => Src.arr p.arr))
    ((views.find? (fun p => p.key == "pos")).map (fun p => Src.arr p.arr))
    ((views.filter (fun p => p.key != "atype" && p.key != "pos")).map (fun p => (p.key, Src.arr p.arr)))

/-- `__getitem__` once the index is resolved: every column cut by `sel`, then the constructor. -/
def sliceObj (o : Nat) (sel : Sel) : M Nat :=
  atomic do
    let s ← getS
    let views ← mapEach (s.obj o).props (fun p => do
      let a ← indexGet p.arr sel
      pure (⟨p.key, a⟩ : PropRef))
    ofViews views

theorem getItem_eq (o : Nat) (ix : Index) (s : State) :
    getItem o ix s = match resolve (s.obj o).natoms (atomsIndex ix) with
      | .ok sel => sliceObj o sel s
      | .error e => (.error e, s) := by
  show atomic (M.bind getS _) s = _
  unfold atomic M.bind getS
  simp only []
  rw [liftE_bind_run]
  cases resolve (s.obj o).natoms (atomsIndex ix) <;> rfl

def copySel (n : Nat) : Sel := { pos := List.range n, view := false, scalar := false }

theorem subArr_all (a : Arr) : subArr a (copySel a.idx.length) = a := by
  cases a with
  | mk buf idx =>
    simp only [subArr, copySel, Arr.mk.injEq, true_and]
    exact map_range_getD idx 0

/-- `__deepcopy__` is `__getitem__` for the selection of all rows by copy (a column of the invariant exposes
    `natoms` rows, and allocation changes no buffer that existed). -/
theorem deepcopy_eq {κ : Nat → String} {s : State} (h : InvK κ s) (o : Nat) :
    deepcopy o s = sliceObj o (copySel (s.obj o).natoms) s := by
  have hloop := mapEach_congr (HeapExt s) (s.obj o).props
    (fun p => do
      let a ← alloc (arrDt s p.arr) (arrTrail s p.arr) (arrRows s p.arr)
      pure (⟨p.key, a⟩ : PropRef))
    (fun p => do
      let a ← indexGet p.arr (copySel (s.obj o).natoms)
      pure (⟨p.key, a⟩ : PropRef))
    (by
      intro p hp st hst
      have hp0 := h.obj_props o p hp
      have hsub : (⟨p.arr.buf, (copySel (s.obj o).natoms).pos.map (fun i => p.arr.idx[i]?.getD 0)⟩ : Arr) = p.arr := by
        rw [← hp0.len]; exact subArr_all p.arr
      obtain ⟨r1, r2, r3⟩ := hst.rows p.arr hp0.valid.1
      have he : indexGet p.arr (copySel (s.obj o).natoms) st =
          alloc (arrDt s p.arr) (arrTrail s p.arr) (arrRows s p.arr) st := by
        simp only [indexGet, hsub, r1, r2, r3]
        rfl
      refine ⟨bind_congr_run he.symm _, ?_⟩
      show HeapExt s (M.bind (indexGet _ _) _ st).2
      unfold M.bind
      rw [he, alloc_eq]
      exact hst.trans (heapExt_alloc st _))
    s (HeapExt.refl s)
  show atomic (M.bind getS _) s = atomic (M.bind getS _) s
  unfold atomic M.bind getS
  simp only []
  rw [bind_congr_run hloop]
  rfl

/-- `q` is `p.arr[sel]` as made by `indexGet` (a view of the same buffer, or a copy in a new buffer). -/
structure ViewOf (s : State) (sel : Sel) (κ1 : Nat → String) (s1 : State) (p q : PropRef) : Prop where
  key : q.key = p.key
  src : SrcOK κ1 s1 q.key (.arr q.arr)
  len : q.arr.idx.length = sel.pos.length
  rows : arrRows s1 q.arr = arrRows s (subArr p.arr sel)
  dt : arrDt s1 q.arr = arrDt s p.arr
  trail : arrTrail s1 q.arr = arrTrail s p.arr
  view : sel.view = true → q.arr = subArr p.arr sel
  copy : sel.view = false → s.heap.length ≤ q.arr.buf
  oob : sel.oob = false

def AExt (κ : Nat → String) (s : State) (κ' : Nat → String) (s' : State) : Prop := Ext κ s κ' s' ∧ HeapExt s s'

theorem ViewOf.mono {s : State} {sel : Sel} {κ1 κ2 : Nat → String} {s1 s2 : State} {p q : PropRef}
    (h : ViewOf s sel κ1 s1 p q) (hext : AExt κ1 s1 κ2 s2) : ViewOf s sel κ2 s2 p q := by
  obtain ⟨r1, r2, r3⟩ := hext.2.rows q.arr h.src.1.1
  exact ⟨h.key, h.src.mono hext.1, h.len, r1.trans h.rows, r2.trans h.dt, r3.trans h.trail, h.view, h.copy, h.oob⟩

theorem getItem_views {κ : Nat → String} {s : State} (h : InvK κ s) (o : Nat) (sel : Sel)
    (hpos : ∀ p ∈ sel.pos, p < (s.obj o).natoms) (hselnd : sel.view = true → sel.pos.Nodup) :
    Post (mapEach (s.obj o).props (fun p => do
        let a ← indexGet p.arr sel
        pure (⟨p.key, a⟩ : PropRef))) s
      (fun r s1 => ∃ κ1, (InvK κ1 s1 ∧ Ext κ s κ1 s1 ∧ HeapExt s s1 ∧ s1.objs = s.objs ∧ s1.syss = s.syss) ∧
        ∀ views, r = .ok views → All2 (fun p q => ViewOf s sel κ1 s1 p q) (s.obj o).props views) := by
  refine Post.mono (post_mapEach_ghost (s.obj o).props _
    (fun g st => InvK g st ∧ Ext κ s g st ∧ HeapExt s st ∧ st.objs = s.objs ∧ st.syss = s.syss)
    (fun p q g st => ViewOf s sel g st p q) AExt
    (fun g st => ⟨Ext.refl g st, HeapExt.refl st⟩)
    (fun _ _ _ _ _ _ h1 h2 => ⟨h1.1.trans h2.1, h1.2.trans h2.2⟩)
    (fun _ _ _ _ _ _ hr he => hr.mono he) ?_ κ s ⟨h, Ext.refl κ s, HeapExt.refl s, rfl, rfl⟩)
    (fun _ _ ⟨κ1, hI, _, hall⟩ => ⟨κ1, hI, hall⟩)
  · intro p hp g st ⟨hg, hge, hgh, hgo, hgs⟩
    have hp0 := h.obj_props o p hp
    have hpv : ArrValid st p.arr := hgh.valid hp0.valid
    have hpk : g p.arr.buf = p.key := (hge.agree _ hp0.valid.1).trans hp0.key
    have hposl : ∀ i ∈ sel.pos, i < p.arr.idx.length := by rw [hp0.len]; exact hpos
    have hsub0 := hgh.rows (subArr p.arr sel) hp0.valid.1
    have hp0r := hgh.rows p.arr hp0.valid.1
    rw [post_bind]
    rcases indexGet_cases p.arr sel st with ⟨e, he⟩ | ⟨hview, hoob, he⟩ | ⟨hview, hoob, he⟩
    · apply Post.of_eq _ _ he
      exact ⟨g, ⟨hg, hge, hgh, hgo, hgs⟩, ⟨Ext.refl g st, HeapExt.refl st⟩, fun c hc => by cases hc⟩
    · apply Post.of_eq _ _ he
      simp only []
      rw [post_pure]
      refine ⟨g, ⟨hg, hge, hgh, hgo, hgs⟩, ⟨Ext.refl g st, HeapExt.refl st⟩, ?_⟩
      intro c hc
      obtain rfl : c = ⟨p.key, subArr p.arr sel⟩ := (Except.ok.inj hc).symm
      have hcopy : sel.view = false → s.heap.length ≤ (subArr p.arr sel).buf := by
        intro hc; rw [hview] at hc; cases hc
      exact ⟨rfl, ⟨subArr_valid hpv sel hposl, hpk, subArr_nodup p.arr sel hp0.nodup hposl (hselnd hview)⟩,
        by simp [subArr], hsub0.1, hp0r.2.1, hp0r.2.2, fun _ => rfl, hcopy, hoob⟩
    · apply Post.of_eq _ _ he
      simp only []
      rw [post_pure]
      have hsub := subArr_valid hpv sel hposl
      have hbuf : BufOK ⟨arrDt st p.arr, arrTrail st p.arr, arrRows st (subArr p.arr sel)⟩ := arrRows_bufOK hg hsub
      obtain ⟨hinv1, hext1⟩ := inv_alloc hg _ hbuf p.key
      have hx := heapExt_alloc st ⟨arrDt st p.arr, arrTrail st p.arr, arrRows st (subArr p.arr sel)⟩
      refine ⟨_, ⟨hinv1, hge.trans hext1, hgh.trans hx, hgo, hgs⟩, ⟨hext1, hx⟩, ?_⟩
      intro c hc
      obtain rfl : c = ⟨p.key, ⟨st.heap.length, List.range sel.pos.length⟩⟩ := (Except.ok.inj hc).symm
      obtain ⟨a1, a2, a3, a4⟩ := alloc_reads st ⟨arrDt st p.arr, arrTrail st p.arr, arrRows st (subArr p.arr sel)⟩
        sel.pos.length (by simp [arrRows, subArr])
      have hnoview : sel.view = true →
          (⟨st.heap.length, List.range sel.pos.length⟩ : Arr) = subArr p.arr sel := by
        intro hc; rw [hview] at hc; cases hc
      exact ⟨rfl, ⟨a1, by simp [upd], List.nodup_range⟩, by simp, a2.trans hsub0.1, a3.trans hp0r.2.1, a4.trans hp0r.2.2,
        hnoview, fun _ => hgh.len, hoob⟩

/-- column `p` of the new object stands for source view `q` (an array of the state `s0` the constructor
    started from): same key, reads the same rows; it *is* the source array unless the source has exactly
    one row (numpy's length-1 broadcast copies), in which case it lives in a buffer allocated later. -/
structure ColOf (s0 st : State) (q p : PropRef) : Prop where
  key : p.key = q.key
  valid : ArrValid st p.arr
  rows : arrRows st p.arr = arrRows s0 q.arr
  dt : arrDt st p.arr = arrDt s0 q.arr
  trail : arrTrail st p.arr = arrTrail s0 q.arr
  same : q.arr.idx.length ≠ 1 → p.arr = q.arr
  fresh : q.arr.idx.length = 1 → s0.heap.length ≤ p.arr.buf

theorem ColOf.mono {s0 st st' : State} {q p : PropRef} (h : ColOf s0 st q p) (hext : HeapExt st st') :
    ColOf s0 st' q p := by
  obtain ⟨r1, r2, r3⟩ := hext.rows p.arr h.valid.1
  exact ⟨h.key, hext.valid h.valid, r1.trans h.rows, r2.trans h.dt, r3.trans h.trail, h.same, h.fresh⟩

/-- what a run of `view[key] = array` assignments leaves of the new object `o`: the heap only grew, every other object, `natoms` and
    the systems are as in `s0`, and the columns of `o` stand for the source views `srcs`, one by one (`ColOf`). -/
structure Built (s0 : State) (o : Nat) (srcs : List PropRef) (st : State) : Prop where
  heap : HeapExt s0 st
  objs : ∀ o', o' ≠ o → st.obj o' = s0.obj o'
  natoms : (st.obj o).natoms = (s0.obj o).natoms
  objsLen : st.objs.length = s0.objs.length
  syss : st.syss = s0.syss
  cols : All2 (ColOf s0 st) srcs (st.obj o).props

theorem Built.added {s0 st s1 : State} {o : Nat} {srcs : List PropRef} (hb : Built s0 o srcs st) (ho : o < st.objs.length)
    (hext : HeapExt st s1) (hobjs : s1.objs = st.objs) (hsys : s1.syss = st.syss) (q : PropRef) (a' : Arr)
    (hcol : ColOf s0 s1 q ⟨q.key, a'⟩) : Built s0 o (srcs ++ [q]) (addedState s1 o q.key a') := by
  have hobj : ∀ x, s1.obj x = st.obj x := obj_congr hobjs
  obtain ⟨hprops, hnat, hoth, -, hlen, hsys'⟩ := added_reads s1 o q.key a' (by rw [hobjs]; exact ho)
  have hext' : HeapExt st (addedState s1 o q.key a') := hext
  have hcol' := hcol.mono (heapExt_added s1 o q.key a')
  refine ⟨hb.heap.trans hext', fun o' hne => (hoth o' hne).trans ((hobj o').trans (hb.objs o' hne)),
    hnat.trans ((congrArg AtomsObj.natoms (hobj o)).trans hb.natoms), hlen.trans ((congrArg List.length hobjs).trans hb.objsLen),
    hsys'.trans (hsys.trans hb.syss), ?_⟩
  rw [hprops, hobj o]
  exact All2.append (hb.cols.mono (fun _ _ hr => hr.mono hext')) (All2.cons hcol' All2.nil)

theorem Built.step {κ : Nat → String} {s0 st : State} {o : Nat} {srcs : List PropRef} (hb : Built s0 o srcs st)
    (hinv : InvK κ st) (ho : o < s0.objs.length) (q : PropRef) (hq : ArrValid s0 q.arr)
    (hlen : q.arr.idx.length = (s0.obj o).natoms) (hnew : ∀ q' ∈ srcs, q'.key ≠ q.key) :
    Post (viewSet o q.key (.arr q.arr)) st (fun r st' => r = .ok () → Built s0 o (srcs ++ [q]) st') := by
  have hkeys : (st.obj o).props.map (·.key) = srcs.map (·.key) :=
    hb.cols.map_eq (·.key) (·.key) (fun _ _ hr => hr.key)
  have hfind : (st.obj o).find q.key = none := by
    rw [find_none_iff]
    intro p hp hpk
    have : p.key ∈ srcs.map (·.key) := by rw [← hkeys]; exact List.mem_map.mpr ⟨p, hp, rfl⟩
    obtain ⟨q', hq', hk'⟩ := List.mem_map.mp this
    exact hnew q' hq' (hk'.trans hpk)
  have hqv : ArrValid st q.arr := hb.heap.valid hq
  have ho' : o < st.objs.length := by rw [hb.objsLen]; exact ho
  have hn : (st.obj o).natoms = q.arr.idx.length := hb.natoms.trans hlen.symm
  obtain ⟨r1, r2, r3⟩ := hb.heap.rows q.arr hq.1
  apply post_viewSet
  · intro e hc; cases hc
  · intro _ a _ hfa; rw [hfind] at hfa; cases hfa
  · intro src' hp _ _
    -- numpy copies when the first dimension is 1 (`np.array(np.broadcast_to(...))`), otherwise the array itself is stored
    have hbc := hp.bcast
    rw [hn, viewBcast_arr st q.arr (arrVal_ok hinv hqv)] at hbc
    obtain rfl := M.pure_inj hbc
    split
    · rename_i h1
      have hR : rowsOf (st.obj o).natoms (prod (arrTrail st q.arr)) (arrVal st q.arr).data = arrRows st q.arr := by
        have := rowsOf_flatten (arrRows st q.arr) _ (arrRows_bufOK hinv hqv).width
        rwa [show (arrRows st q.arr).length = (st.obj o).natoms by simp [arrRows, hn]] at this
      rw [boundTo_lit st o q.key (rfl : (⟨_, 1 :: arrTrail st q.arr, _⟩ : Val).shape = _)]
      simp only [hR]
      obtain ⟨a1, a2, a3, a4⟩ := alloc_reads st ⟨arrDt st q.arr, arrTrail st q.arr, arrRows st q.arr⟩ (st.obj o).natoms
        (by simp [arrRows, hn])
      exact hb.added ho' (heapExt_alloc st _) rfl rfl q _
        ⟨rfl, a1, a2.trans r1, a3.trans r2, a4.trans r3, fun hne => absurd h1 hne, fun _ => hb.heap.len⟩
    · rename_i h1
      rw [boundTo_arr]
      exact hb.added ho' (HeapExt.refl st) rfl rfl q _ ⟨rfl, hqv, r1, r2, r3, fun _ => rfl, fun h => absurd h h1⟩

theorem built_push (s : State) (n : Nat) :
    Built { s with objs := s.objs ++ [⟨n, []⟩] } s.objs.length [] { s with objs := s.objs ++ [⟨n, []⟩] } :=
  ⟨HeapExt.refl _, fun _ _ => rfl, rfl, rfl, rfl, by rw [obj_push_eq]; exact All2.nil⟩

theorem Built.hasAP {s0 st : State} {o : Nat} {qa qp : PropRef} {rest : List PropRef}
    (hb : Built s0 o (qa :: qp :: rest) st) (hka : qa.key = "atype") (hkp : qp.key = "pos") : HasAP (st.obj o) := by
  have hc := hb.cols
  unfold HasAP AtomsObj.find
  generalize (st.obj o).props = ps at hc
  cases hc with
  | cons h1 t1 =>
    cases t1 with
    | cons h2 t2 => simp [List.find?, h1.key, hka, h2.key, hkp]

theorem atomsCount_views (m n : Nat) (ta tp : List Nat) (h : atomsCount none (m :: ta) (m :: tp) = .ok n) : n = m := by
  unfold atomsCount at h
  cases ta with
  | cons x xs => simp at h
  | nil =>
    simp only [] at h
    cases tp with
    | nil =>
      simp only [] at h
      by_cases h3 : m = 3
      · subst h3; simp at h; omega
      · simp [h3] at h
    | cons d tp' =>
      cases tp' with
      | nil =>
        simp only [] at h
        by_cases h3 : d = 3
        · subst h3; simp at h; omega
        · simp [h3] at h
      | cons e tp'' => simp at h

def restOf (views : List PropRef) : List PropRef := views.filter (fun p => p.key != "atype" && p.key != "pos")

/-- `Atoms(**views)` takes `atype` and `pos` first: the sources in that order are the views again, each once. -/
theorem reordered (views : List PropRef) (hnd : (views.map (·.key)).Nodup) (qa qp : PropRef)
    (hfa : views.find? (fun p => p.key == "atype") = some qa) (hfp : views.find? (fun p => p.key == "pos") = some qp) :
    qa.key = "atype" ∧ qp.key = "pos" ∧ (∀ q, q ∈ qa :: qp :: restOf views ↔ q ∈ views) ∧
    ((qa :: qp :: restOf views).map (·.key)).Nodup := by
  have hka : qa.key = "atype" := by simpa using List.find?_some hfa
  have hkp : qp.key = "pos" := by simpa using List.find?_some hfp
  have hqa : qa ∈ views := List.mem_of_find?_eq_some hfa
  have hqp : qp ∈ views := List.mem_of_find?_eq_some hfp
  refine ⟨hka, hkp, fun q => ⟨fun hq => ?_, fun hq => ?_⟩, ?_⟩
  · simp only [List.mem_cons] at hq
    rcases hq with rfl | rfl | hq
    · exact hqa
    · exact hqp
    · exact (List.mem_filter.mp hq).1
  · by_cases h1 : q.key = "atype"
    · simp [eq_of_key_eq views hnd q qa hq hqa (h1.trans hka.symm)]
    · by_cases h2 : q.key = "pos"
      · simp [eq_of_key_eq views hnd q qp hq hqp (h2.trans hkp.symm)]
      · exact List.mem_cons_of_mem _ (List.mem_cons_of_mem _ (List.mem_filter.mpr ⟨hq, by simp [h1, h2]⟩))
  · simp only [List.map_cons, List.nodup_cons, List.mem_cons, List.mem_map, not_or, not_exists, not_and]
    refine ⟨⟨by rw [hka, hkp]; decide, ?_⟩, ?_, ?_⟩
    · intro q hq hk
      have := (List.mem_filter.mp hq).2
      rw [hk, hka] at this; simp at this
    · intro q hq hk
      have := (List.mem_filter.mp hq).2
      rw [hk, hkp] at this; simp at this
    · exact List.Nodup.sublist (List.Sublist.map _ List.filter_sublist) hnd

theorem ofViews_spec {κ : Nat → String} {s : State} (h : InvK κ s) (views : List PropRef) (m : Nat)
    (hviews : ∀ q ∈ views, SrcOK κ s q.key (.arr q.arr) ∧ q.arr.idx.length = m)
    (hnd : (views.map (·.key)).Nodup) (qa qp : PropRef)
    (hfa : views.find? (fun p => p.key == "atype") = some qa) (hfp : views.find? (fun p => p.key == "pos") = some qp) :
    Post (ofViews views) s (fun r s' => Made κ s r s' ∧ ∀ o', r = .ok o' →
        Built { s with objs := s.objs ++ [⟨m, []⟩] } s.objs.length (qa :: qp :: restOf views) s') := by
  obtain ⟨hka, hkp, hmem, hnd'⟩ := reordered views hnd qa qp hfa hfp
  have hsa : (srcVal s (.arr qa.arr)).shape = m :: arrTrail s qa.arr := by simp [srcVal, arrVal, (hviews qa ((hmem qa).mp (by simp))).2]
  have hsp : (srcVal s (.arr qp.arr)).shape = m :: arrTrail s qp.arr := by simp [srcVal, arrVal, (hviews qp ((hmem qp).mp (by simp))).2]
  unfold ofViews
  simp only [hfa, hfp, Option.map_some]
  refine post_mkAtoms _ _ _ _ ((qa :: qp :: restOf views).map (fun p => (p.key, Src.arr p.arr))) s _
    (by simp [hka, hkp, restOf]) (fun e => ⟨Made.error h e, fun o hc => by cases hc⟩) ?_
  intro n hn
  simp only [Option.getD_some, hsa, hsp] at hn
  obtain rfl := atomsCount_views m n _ _ hn
  obtain ⟨hinv0, hext0⟩ := inv_pushObj h n
  generalize hs0 : ({ s with objs := s.objs ++ [⟨n, []⟩] } : State) = s0 at hinv0 hext0 ⊢
  have ho : s.objs.length < s0.objs.length := by rw [← hs0]; simp
  have hnat : (s0.obj s.objs.length).natoms = n := by rw [← hs0, obj_push_eq]
  refine ⟨fun done st => ∃ srcs rest κ', srcs.map (fun p => (p.key, Src.arr p.arr)) = done ∧
    srcs ++ rest = qa :: qp :: restOf views ∧ InvK κ' st ∧ Ext κ s0 κ' st ∧ Built s0 s.objs.length srcs st, ?_, ?_, ?_⟩
  · exact ⟨[], _, κ, rfl, rfl, hinv0, Ext.refl κ s0, by rw [← hs0]; exact built_push s n⟩
  · intro done kv rest hsplit st ⟨srcs, restP, κ1, hdone, happ, hinv1, hext1, hb⟩
    rw [← hdone, ← happ, List.map_append] at hsplit
    cases restP with
    | nil => simp at hsplit
    | cons q restP =>
      obtain ⟨rfl, _⟩ := List.cons.inj (List.append_cancel_left hsplit)
      obtain ⟨hsrc, hlen⟩ := hviews q ((hmem q).mp (by rw [← happ]; simp))
      -- the keys are distinct, so `q.key` is not among those bound so far
      have hnew : ∀ q' ∈ srcs, q'.key ≠ q.key := by
        rw [← happ, List.map_append, List.map_cons] at hnd'
        exact fun q' hq' => (List.nodup_append.mp hnd').2.2 _ (List.mem_map_of_mem hq') _ List.mem_cons_self
      apply Post.mono (Post.and (inv_viewSet hinv1 s.objs.length q.key (.arr q.arr) ((hsrc.mono hext0).mono hext1))
        (hb.step hinv1 ho q (hsrc.mono hext0).1 (by rw [hnat]; exact hlen) hnew))
      intro r st1 ⟨⟨⟨κ2, hinv2, hext2, _, _⟩, _⟩, hb1⟩ hr
      exact ⟨srcs ++ [q], restP, κ2, by simp [hdone], by simpa using happ, hinv2, hext1.trans hext2, hb1 hr⟩
  · intro st ⟨srcs, restP, κ3, hdone, happ, hinv3, hext3, hb3⟩
    obtain rfl : srcs = qa :: qp :: restOf views := by
      have := congrArg List.length hdone
      simp only [List.length_map] at this
      have h2 := congrArg List.length happ
      simp only [List.length_append] at h2
      have : restP = [] := List.eq_nil_of_length_eq_zero (by omega)
      rw [← happ, this, List.append_nil]
    have hlen3 : st.objs.length = s.objs.length + 1 := by rw [hb3.objsLen, ← hs0]; simp
    exact ⟨⟨κ3, hinv3, hext0.trans hext3, by rw [hb3.syss, ← hs0], fun e he => (by cases he),
      fun o ho => by obtain rfl := Except.ok.inj ho; exact ⟨rfl, hlen3, hb3.hasAP hka hkp⟩⟩,
      fun o' _ => hs0 ▸ hb3⟩

theorem arrRows_subArr (s : State) (a : Arr) (sel : Sel) (hpos : ∀ i ∈ sel.pos, i < a.idx.length) :
    arrRows s (subArr a sel) = sel.pos.map (fun i => (arrRows s a)[i]?.getD []) := by
  simp only [arrRows, subArr, List.map_map]
  apply List.map_congr_left
  intro i hi
  have hlt := hpos i hi
  simp [List.getElem?_eq_getElem hlt]

/-- column `p'` of the result of `atoms[index]` against column `p` of the operand: same key, dtype and trailing
    shape, row `j` is row `sel.pos[j]` of `p`; a fresh buffer for a copying selection or a single row, the view
    `subArr p.arr sel` otherwise. -/
structure ColRel (s : State) (sel : Sel) (s' : State) (p p' : PropRef) : Prop where
  key : p'.key = p.key
  rows : arrRows s' p'.arr = sel.pos.map (fun i => (arrRows s p.arr)[i]?.getD [])
  dt : arrDt s' p'.arr = arrDt s p.arr
  trail : arrTrail s' p'.arr = arrTrail s p.arr
  fresh : (sel.view = false ∨ sel.pos.length = 1) → s.heap.length ≤ p'.arr.buf
  view : sel.view = true → sel.pos.length ≠ 1 → p'.arr = subArr p.arr sel

/-- the two halves of `atoms[index]` put together: the operand's column `p` cut into the view `q` (`ViewOf`), the view
    bound by the constructor as `p'` (`ColOf`). -/
theorem ColRel.of_view {s s1 s' : State} {sel : Sel} {κ1 : Nat → String} {n : Nat} {p q p' : PropRef}
    (hvo : ViewOf s sel κ1 s1 p q) (hcol : ColOf { s1 with objs := s1.objs ++ [⟨n, []⟩] } s' q p')
    (hheap : HeapExt s s1) (hpl : ∀ i ∈ sel.pos, i < p.arr.idx.length) : ColRel s sel s' p p' := by
  refine ⟨hcol.key.trans hvo.key, ?_, hcol.dt.trans hvo.dt, hcol.trail.trans hvo.trail, ?_, ?_⟩
  · rw [hcol.rows]
    show arrRows s1 q.arr = _
    rw [hvo.rows, arrRows_subArr s p.arr sel hpl]
  · intro hc
    by_cases h1 : q.arr.idx.length = 1
    · exact Nat.le_trans hheap.len (hcol.fresh h1)
    · rw [hcol.same h1]
      rcases hc with hc | hc
      · exact hvo.copy hc
      · exact absurd (hvo.len.trans hc) h1
  · intro hv hne
    have h1 : q.arr.idx.length ≠ 1 := by rw [hvo.len]; exact hne
    rw [hcol.same h1]
    exact hvo.view hv

/-- **what `atoms[index]` returns.**  `o'` is a new object with one atom per selected position; for
    every property `p` of the operand it has a property of the same name, dtype and trailing shape whose
    row `j` is row `sel.pos[j]` of `p` (row alignment: every property is cut by the same positions);
    nothing that existed before is modified; for list / boolean indices (and single-row results, which
    numpy's length-1 broadcast copies) the new arrays live in buffers allocated by the call, for a
    basic slice they are the views `p.arr[sel]` of the operand's arrays. -/
structure GetItemRes (s : State) (o : Nat) (sel : Sel) (o' : Nat) (s' : State) : Prop where
  id : o' = s.objs.length
  natoms : (s'.obj o').natoms = sel.pos.length
  heap : HeapExt s s'
  objs : ∀ o'', o'' < s.objs.length → s'.obj o'' = s.obj o''
  objsLen : s'.objs.length = s.objs.length + 1
  syss : s'.syss = s.syss
  keys : (s'.obj o').keys = "atype" :: "pos" :: (s.obj o).keys.filter (fun k => k != "atype" && k != "pos")
  oob : sel.oob = false
  inRange : ∀ i ∈ sel.pos, i < (s.obj o).natoms
  cols : ∀ p ∈ (s.obj o).props, ∃ p' ∈ (s'.obj o').props, ColRel s sel s' p p'
  colsRev : ∀ p' ∈ (s'.obj o').props, ∃ p ∈ (s.obj o).props, ColRel s sel s' p p'

theorem getItemRes_of_built {κ κ1 : Nat → String} {s s1 s' : State} (h : InvK κ s) (o : Nat) (sel : Sel)
    (hpos : ∀ p ∈ sel.pos, p < (s.obj o).natoms) (views : List PropRef)
    (hviews : All2 (fun p q => ViewOf s sel κ1 s1 p q) (s.obj o).props views) (hheap : HeapExt s s1)
    (hobjs : s1.objs = s.objs) (hsys : s1.syss = s.syss) (qa qp : PropRef)
    (hfa : views.find? (fun p => p.key == "atype") = some qa) (hfp : views.find? (fun p => p.key == "pos") = some qp)
    (hb : Built { s1 with objs := s1.objs ++ [⟨sel.pos.length, []⟩] } s1.objs.length (qa :: qp :: restOf views) s') :
    GetItemRes s o sel s.objs.length s' := by
  have hvkeys : views.map (·.key) = (s.obj o).props.map (·.key) :=
    hviews.map_eq (·.key) (·.key) (fun _ _ hr => hr.key)
  have hnd : (views.map (·.key)).Nodup := by
    rw [hvkeys]
    exact h.obj_nodup o
  obtain ⟨hka, hkp, hmem, -⟩ := reordered views hnd qa qp hfa hfp
  have hlen : s1.objs.length = s.objs.length := by rw [hobjs]
  rw [hlen] at hb
  have hpkeys : (s'.obj s.objs.length).props.map (·.key) = (qa :: qp :: restOf views).map (·.key) :=
    hb.cols.map_eq (·.key) (·.key) (fun _ _ hr => hr.key)
  have hpl : ∀ p ∈ (s.obj o).props, ∀ i ∈ sel.pos, i < p.arr.idx.length := fun p hp => by
    rw [(h.obj_props o p hp).len]; exact hpos
  have hoob : sel.oob = false := by
    obtain ⟨p, _, hv⟩ := hviews.mem_right qa ((hmem qa).mp (by simp))
    exact hv.oob
  refine ⟨rfl, ?_, hheap.trans hb.heap, ?_, ?_, hb.syss.trans hsys, ?_, hoob, hpos, ?_, ?_⟩
  · rw [hb.natoms, ← hlen, obj_push_eq]
  · intro o'' ho''
    rw [hb.objs o'' (Nat.ne_of_lt ho''), obj_push_lt _ _ _ (by rw [hlen]; exact ho'')]
    exact obj_congr hobjs _
  · rw [hb.objsLen]; simp [hlen]
  · show (s'.obj s.objs.length).props.map (·.key) = _
    rw [hpkeys]
    simp only [List.map_cons, hka, hkp]
    congr 2
    simp only [restOf, AtomsObj.keys]
    rw [← hvkeys, List.filter_map]
    rfl
  · intro p hp
    obtain ⟨q, hq, hvo⟩ := hviews.mem_left p hp
    obtain ⟨p', hp', hcol⟩ := hb.cols.mem_left q ((hmem q).mpr hq)
    exact ⟨p', hp', .of_view hvo hcol hheap (hpl p hp)⟩
  · intro p' hp'
    obtain ⟨q, hqin, hcol⟩ := hb.cols.mem_right p' hp'
    obtain ⟨p, hp, hvo⟩ := hviews.mem_right q ((hmem q).mp hqin)
    exact ⟨p, hp, .of_view hvo hcol hheap (hpl p hp)⟩

theorem sliceObj_spec {κ : Nat → String} {s : State} (h : InvK κ s) (o : Nat) (sel : Sel) (hap : HasAP (s.obj o))
    (hpos : ∀ p ∈ sel.pos, p < (s.obj o).natoms) (hselnd : sel.view = true → sel.pos.Nodup) :
    Post (sliceObj o sel) s (fun r s' => Made κ s r s' ∧ ∀ o', r = .ok o' → GetItemRes s o sel o' s') := by
  unfold sliceObj
  refine post_atomic_of_ok (fun e => ⟨Made.error h e, fun o hc => by cases hc⟩) ?_
  rw [post_bind_getS]
  refine Post.bind_ok (getItem_views h o sel hpos hselnd) ?_
  intro views s1 ⟨κ1, ⟨hinv1, hext1, hheap1, hobjs1, hsys1⟩, hall⟩
  have hviews := hall views rfl
  -- the operand has `atype` and `pos`, hence so do the views
  obtain ⟨aa, haa⟩ := Option.isSome_iff_exists.mp hap.1
  obtain ⟨ap, hap'⟩ := Option.isSome_iff_exists.mp hap.2
  obtain ⟨pa, hpa, hpak, _⟩ := find_mem _ _ _ haa
  obtain ⟨pp, hpp, hppk, _⟩ := find_mem _ _ _ hap'
  obtain ⟨qa0, hqa0, hva⟩ := hviews.mem_left pa hpa
  obtain ⟨qp0, hqp0, hvp⟩ := hviews.mem_left pp hpp
  obtain ⟨qa, hfa⟩ := find?_of_key views "atype" qa0 hqa0 (hva.key.trans hpak)
  obtain ⟨qp, hfp⟩ := find?_of_key views "pos" qp0 hqp0 (hvp.key.trans hppk)
  have hvkeys : views.map (·.key) = (s.obj o).props.map (·.key) :=
    hviews.map_eq (·.key) (·.key) (fun _ _ hr => hr.key)
  have hnd : (views.map (·.key)).Nodup := by
    rw [hvkeys]
    exact h.obj_nodup o
  have hvlen : ∀ q ∈ views, SrcOK κ1 s1 q.key (.arr q.arr) ∧ q.arr.idx.length = sel.pos.length := by
    intro q hq
    obtain ⟨p, _, hv⟩ := hviews.mem_right q hq
    exact ⟨hv.src, hv.len⟩
  apply Post.mono (ofViews_spec hinv1 views sel.pos.length hvlen hnd qa qp hfa hfp)
  intro r s2 ⟨hm, hok⟩ o' ho'
  subst ho'
  refine ⟨Made.after hext1 (by rw [hobjs1]) hsys1 hm, fun o'' ho'' => ?_⟩
  obtain rfl := Except.ok.inj ho''
  have := getItemRes_of_built h o sel hpos views hviews hheap1 hobjs1 hsys1 qa qp hfa hfp (hok o' rfl)
  obtain ⟨_, _, _, _, _, hmk⟩ := hm
  rw [(hmk o' rfl).1, hobjs1]
  exact this

theorem getItem_spec {κ : Nat → String} {s : State} (h : InvK κ s) (o : Nat) (ix : Index) (hap : HasAP (s.obj o)) :
    Post (getItem o ix) s (fun r s' => Made κ s r s' ∧
      ∀ o', r = .ok o' → ∃ sel, resolve (s.obj o).natoms (atomsIndex ix) = .ok sel ∧ GetItemRes s o sel o' s') := by
  cases hres : resolve (s.obj o).natoms (atomsIndex ix) with
  | error e => exact Post.of_eq _ _ (by rw [getItem_eq, hres]) ⟨Made.error h e, fun o' hc => by cases hc⟩
  | ok sel =>
    refine Post.of_run (m' := sliceObj o sel) (by rw [getItem_eq, hres]) ?_
    exact Post.mono (sliceObj_spec h o sel hap (resolve_spec _ _ _ hres).1 (resolve_spec _ _ _ hres).2.2)
      (fun _ _ hq => ⟨hq.1, fun o' ho' => ⟨sel, rfl, hq.2 o' ho'⟩⟩)

theorem deepcopy_spec {κ : Nat → String} {s : State} (h : InvK κ s) (o : Nat) (hap : HasAP (s.obj o)) :
    Post (deepcopy o) s (fun r s' => Made κ s r s' ∧
      ∀ o', r = .ok o' → GetItemRes s o (copySel (s.obj o).natoms) o' s') := by
  refine Post.of_run (deepcopy_eq h o) ?_
  exact sliceObj_spec h o _ hap (by intro p hp; simpa [copySel] using hp) (by intro hc; cases hc)

theorem copySel_rows (s : State) (a : Arr) :
    (copySel a.idx.length).pos.map (fun i => (arrRows s a)[i]?.getD []) = arrRows s a := by
  have : (arrRows s a).length = a.idx.length := by simp [arrRows]
  simp only [copySel]
  rw [← this]
  exact map_range_getD _ _

theorem GetItemRes.frame {s s' : State} {o o' : Nat} {sel : Sel} (hr : GetItemRes s o sel o' s') :
    FrameOK s.heap.length s.objs.length s s' :=
  ⟨fun b hb => hr.heap.buf b hb, fun o'' ho'' => hr.objs o'' ho'', hr.syss⟩

theorem GetItemRes.freshObj {s s' : State} {o o' : Nat} {sel : Sel} (hr : GetItemRes s o sel o' s')
    (hcopy : sel.view = false ∨ sel.pos.length = 1) : FreshObj s.heap.length o' s' := by
  intro p' hp'
  obtain ⟨p, _, hrel⟩ := hr.colsRev p' hp'
  exact hrel.fresh hcopy

theorem resolve_list_copy (n : Nat) (l : List Int) (sel : Sel) (h : resolve n (atomsIndex (.list l)) = .ok sel) :
    sel.view = false := by
  simp only [atomsIndex, resolve] at h
  injection h with h; subst h; rfl

theorem GetItemRes.priv {s s' : State} {o o' : Nat} {sel : Sel} (hr : GetItemRes s o sel o' s')
    (hcopy : sel.view = false ∨ sel.pos.length = 1) : Priv s.heap.length s.objs.length o' s s' :=
  ⟨hr.frame, hr.freshObj hcopy, hr.heap.len, by rw [hr.id]; exact Nat.le_refl _⟩

/-- between operations every object has an `atype` and a `pos` property (`Atoms.__init__` always sets both). -/
def Boundary (s : State) : Prop := ∀ o, o < s.objs.length → HasAP (s.obj o)

/-- the invariant is re-established (for an extension of the ghost) and the boundary condition kept.  The lemmas `inv_X` state
    the invariant through `X` with the relation that says most about what `X` leaves alone; all of them imply this one:
    `Writes` (same ghost, same objects and systems) ⇒ `Kept` (no new object, same systems) ⇒ `Good`; `Made` (one new object, or
    nothing) ⇒ `GoodObj` ⇒ `Good`; and, for the `System` operations, a relation with heap and objects equal. -/
def Good (κ : Nat → String) (s s' : State) : Prop :=
  ∃ κ', InvK κ' s' ∧ Ext κ s κ' s' ∧ (Boundary s → Boundary s')

theorem Good.refl {κ : Nat → String} {s : State} (h : InvK κ s) : Good κ s s := ⟨κ, h, Ext.refl κ s, id⟩

theorem Boundary.of_le {s s' : State} (hb : Boundary s) (hle : Le s s') (hlen : s'.objs.length = s.objs.length) :
    Boundary s' := by
  intro o ho
  exact (hb o (by omega)).persists hle o

theorem Good.of_kept {κ : Nat → String} {s s' : State} (h : Kept κ s s') : Good κ s s' := by
  obtain ⟨κ', hinv, hext, hlen, _⟩ := h
  exact ⟨κ', hinv, hext, fun hb => hb.of_le hext.le hlen⟩

theorem Made.boundary {κ : Nat → String} {s s' : State} {r : Except Err Nat} (h : Made κ s r s') :
    Boundary s → Boundary s' := by
  obtain ⟨κ', hinv, hext, _, herr, hok⟩ := h
  intro hb
  cases r with
  | error e => rw [herr e rfl]; exact hb
  | ok o =>
    obtain ⟨ho, hlen, hat⟩ := hok o rfl
    intro o' ho'
    by_cases hlt : o' < s.objs.length
    · exact (hb o' hlt).persists hext.le o'
    · have : o' = o := by omega
      rw [this]; exact hat

theorem Kept.boundary {κ : Nat → String} {s s' : State} (h : Kept κ s s') : Boundary s → Boundary s' := by
  obtain ⟨κ', hinv, hext, hlen, _⟩ := h
  exact fun hb => hb.of_le hext.le hlen

theorem Good.of_made {κ : Nat → String} {s s' : State} {r : Except Err Nat} (h : Made κ s r s') : Good κ s s' := by
  have hbd := h.boundary
  obtain ⟨κ', hinv, hext, _, herr, hok⟩ := h
  exact ⟨κ', hinv, hext, hbd⟩

theorem Good.trans {κ κ1 : Nat → String} {s s1 s2 : State} (hext : Ext κ s κ1 s1) (hb : Boundary s → Boundary s1)
    (h2 : Good κ1 s1 s2) : Good κ s s2 := by
  obtain ⟨κ2, hinv2, hext2, hb2⟩ := h2
  exact ⟨κ2, hinv2, hext.trans hext2, fun h => hb2 (hb h)⟩

theorem post_map_good {α : Type} {κ : Nat → String} {s : State} {m : M α} (g : α → Out)
    (h : Post m s (fun _ s' => Good κ s s')) :
    Post (do let a ← m; pure (g a) : M Out) s (fun _ s' => Good κ s s') :=
  Post.bind h (fun _ _ hg => hg) (fun _ _ hg => hg)

theorem post_unit_good {κ : Nat → String} {s : State} {m : M Unit}
    (h : Post m s (fun _ s' => Good κ s s')) :
    Post (do m; pure Out.unit : M Out) s (fun _ s' => Good κ s s') := post_map_good (fun _ => Out.unit) h

theorem Post.good_of_kept {α : Type} {κ : Nat → String} {s : State} {m : M α}
    (h : Post m s (fun _ s' => Kept κ s s')) : Post m s (fun _ s' => Good κ s s') :=
  Post.mono h (fun _ _ hq => Good.of_kept hq)

theorem Post.good_of_made {κ : Nat → String} {s : State} {m : M Nat}
    (h : Post m s (Made κ s)) : Post m s (fun _ s' => Good κ s s') :=
  Post.mono h (fun _ _ hq => Good.of_made hq)

theorem good_of_eq {κ : Nat → String} {s s' : State} (h : InvK κ s) (he : s' = s) : Good κ s s' := by
  subst he; exact Good.refl h

theorem Made.lt {κ : Nat → String} {s s' : State} {o : Nat} (h : Made κ s (.ok o) s') : o < s'.objs.length := by
  obtain ⟨_, _, _, _, _, hok⟩ := h
  obtain ⟨h1, h2, _⟩ := hok o rfl
  omega

def GoodObj (κ : Nat → String) (s : State) (r : Except Err Nat) (s' : State) : Prop :=
  Good κ s s' ∧ ∀ o, r = .ok o → o < s'.objs.length ∧ HasAP (s'.obj o)

theorem GoodObj.of_made {κ : Nat → String} {s s' : State} {r : Except Err Nat} (h : Made κ s r s') :
    GoodObj κ s r s' := by
  refine ⟨Good.of_made h, ?_⟩
  intro o ho
  subst ho
  refine ⟨h.lt, ?_⟩
  obtain ⟨_, _, _, _, _, hok⟩ := h
  exact (hok o rfl).2.2

theorem GoodObj.error {κ : Nat → String} {s : State} (h : InvK κ s) (e : Err) : GoodObj κ s (.error e) s :=
  ⟨Good.refl h, fun o ho => by cases ho⟩

/-- two constructor calls in a row made as one (the first object is an operand of the second call): the invariant, and
    the private region of the object returned when the first call leaves what existed alone. -/
theorem GoodObj.seq {κ : Nat → String} {s : State} (h : InvK κ s) {m : M Nat} {f : Nat → M Nat}
    (h1 : Post m s (fun r s1 => Made κ s r s1 ∧
      ∀ d, r = .ok d → FrameOK s.heap.length s.objs.length s s1 ∧ s.heap.length ≤ s1.heap.length))
    (h2 : ∀ d κ1 s1, InvK κ1 s1 → Ext κ s κ1 s1 → d < s1.objs.length → HasAP (s1.obj d) →
      Post (f d) s1 (fun r s2 => Made κ1 s1 r s2 ∧ ∀ o, r = .ok o → Priv s1.heap.length s1.objs.length o s1 s2)) :
    Post (atomic (m >>= f)) s (fun r s' => GoodObj κ s r s' ∧
      OrSame s (fun o s' => Priv s.heap.length s.objs.length o s s') r s') := by
  refine post_atomic_of_ok (fun e => ⟨GoodObj.error h e, rfl⟩) ?_
  refine Post.bind_ok h1 ?_
  intro d s1 ⟨hm1, hfr1⟩
  obtain ⟨hf1, hn1⟩ := hfr1 d rfl
  have hb1 := hm1.boundary
  obtain ⟨κ1, hinv1, hext1, _, _, hok1⟩ := hm1
  apply Post.mono (h2 d κ1 s1 hinv1 hext1 (by have := hok1 d rfl; omega) (hok1 d rfl).2.2)
  intro r s2 ⟨hm2, hfr2⟩ o' ho'
  subst ho'
  have := GoodObj.of_made hm2
  obtain ⟨hf2, hfo2, hn2, hm2'⟩ := hfr2 o' rfl
  exact ⟨⟨Good.trans hext1 hb1 this.1, this.2⟩, hf1.trans (hf2.weaken hn1 hext1.le.objsLen),
    fun p hp => Nat.le_trans hn1 (hfo2 p hp), Nat.le_trans hn1 hn2, Nat.le_trans hext1.le.objsLen hm2'⟩

theorem propGetAtoms_spec {κ : Nat → String} {s : State} (h : InvK κ s) (o : Nat) (ix : Index) (hap : HasAP (s.obj o)) :
    Post (propGetAtoms o ix) s (fun r s' => GoodObj κ s r s' ∧
      OrSame s (fun o' s' => Priv s.heap.length s.objs.length o' s s') r s') :=
  GoodObj.seq h
    (Post.mono (getItem_spec h o ix hap) (fun r s1 ⟨hm, hok⟩ => ⟨hm, fun d hd => by
      obtain ⟨sel, -, hgr⟩ := hok d hd
      exact ⟨hgr.frame, hgr.heap.len⟩⟩))
    (fun d _ _ hinv1 _ _ hd => Post.mono (deepcopy_spec hinv1 d hd)
      (fun r s2 ⟨hm, hok⟩ => ⟨hm, fun o' ho' => (hok o' ho').priv (Or.inl rfl)⟩))

/-- `atoms.prop(index=…)` is `deepcopy(atoms[index])`. -/
theorem propGetAtoms_decomp (o : Nat) (ix : Index) (s s' : State) (nw : Nat) (h : propGetAtoms o ix s = (.ok nw, s')) :
    ∃ t s1, getItem o ix s = (.ok t, s1) ∧ deepcopy t s1 = (.ok nw, s') := by
  simpa only [propGetAtoms, atomic_ok_iff, bind_ok_iff] using h

theorem deepcopy_frame {κ : Nat → String} {s : State} (h : InvK κ s) (o : Nat) (hap : HasAP (s.obj o)) :
    Post (deepcopy o) s (fun r s' => GoodObj κ s r s' ∧
      OrSame s (fun o' s' => Priv s.heap.length s.objs.length o' s s') r s') :=
  Post.mono (deepcopy_spec h o hap)
    (fun _ _ ⟨hm, hok⟩ => ⟨GoodObj.of_made hm, hm.orSame (fun o' ho' => (hok o' ho').priv (Or.inl rfl))⟩)

end Atomman.C06
