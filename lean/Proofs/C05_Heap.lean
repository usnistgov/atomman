/-
  C05 — which object a call works on (model: lean/Atomman/C05_Heap.lean), and which per-atom properties the copy made by
  `normalize` carries: `Atoms.__deepcopy__`, its keys (`copyKeys`, lean/Atomman/C05_Src.lean) and its values (`copyView`).
-/
import Atomman.C05_Heap
import Atomman.Generated.WrapSource
import Proofs.C05_Hist

namespace Atomman.C05
open Atomman
open Atomman.Generated

/-- source tie: which entry each explicitly copied key of `Atoms.__deepcopy__` is read from, and that the loop stores
    under `key` what it read under `key` (regenerated from atomman/core/Atoms.py on every run). -/
theorem gen_deepcopyValues_eq_model :
    WrapSource.atomsCopySource = atomsCopySource ∧ WrapSource.atomsCopyLoopSource = atomsCopyLoopSource ∧
    WrapSource.atomsCopySource.map Prod.fst = WrapSource.atomsCopyExplicit := ⟨rfl, rfl, rfl⟩

variable {K V α : Type}

/-- **copyKeys_complete**: the copy of the atoms that `normalize` works on has exactly the keys of the original — `atype`
    and `pos` copied explicitly, every other key (whatever its name: a substring or superstring of a reserved one, not an
    identifier, empty) through the loop with its EXACT-match filter. -/
theorem copyKeys_complete (keys : List String) (h1 : "atype" ∈ keys) (h2 : "pos" ∈ keys) (k : String) :
    k ∈ copyKeys atomsCopyExplicit atomsCopyReserved keys ↔ k ∈ keys := by
  simp only [copyKeys, atomsCopyExplicit, atomsCopyReserved, List.mem_append, List.mem_filter, List.mem_cons,
    List.not_mem_nil, or_false, Bool.not_eq_true', List.contains_eq_mem, decide_eq_false_iff_not, not_or]
  constructor
  · rintro ((rfl | rfl) | ⟨h, _⟩)
    · exact h1
    · exact h2
    · exact h
  · intro h
    by_cases ha : k = "atype"
    · exact Or.inl (Or.inl ha)
    · by_cases hp : k = "pos"
      · exact Or.inl (Or.inr hp)
      · exact Or.inr ⟨h, ha, hp⟩

/-- **copyKeys_nodup**: the copy has no key twice (the explicit `atype`, `pos` are exactly the ones the loop's filter
    skips). -/
theorem copyKeys_nodup (keys : List String) (hk : keys.Nodup) : (copyKeys atomsCopyExplicit atomsCopyReserved keys).Nodup := by
  simp only [copyKeys, atomsCopyExplicit, atomsCopyReserved]
  rw [List.nodup_append]
  refine ⟨by decide, hk.filter _, ?_⟩
  intro a ha b hb
  simp only [List.mem_filter, Bool.not_eq_true', List.contains_eq_mem, decide_eq_false_iff_not] at hb
  intro hab
  subst hab
  exact hb.2 ha

-- awkward names: substrings and superstrings of the reserved ones, the empty name
example : copyKeys atomsCopyExplicit atomsCopyReserved ["atype", "pos", "type", "p", "", "atype pos", "position"]
    = ["atype", "pos", "type", "p", "", "atype pos", "position"] := by decide

/-- **copyView_mem**: the copy `normalize` works on holds exactly the entries of the view it was made from — every key
    with the value that was stored under THAT key (no hypothesis on the names: substrings of `atype` / `pos`, the empty
    name, duplicates of nothing). -/
theorem copyView_mem (view : List (String × α)) (k : String) (v : α) :
    (k, v) ∈ copyView atomsCopySource atomsCopyLoopSource atomsCopyReserved view ↔ (k, v) ∈ view := by
  simp only [copyView, atomsCopySource, atomsCopyLoopSource, atomsCopyReserved, List.flatMap_cons, List.flatMap_nil,
    List.append_nil, List.mem_append, List.mem_map, List.mem_filter, beq_iff_eq, Prod.mk.injEq, Prod.exists,
    List.mem_flatMap, BEq.rfl, if_true, Bool.not_eq_true', List.contains_eq_mem,
    decide_eq_false_iff_not, List.mem_cons, List.not_mem_nil, or_false, not_or]
  -- after unfolding: `(k, v)` is read by the `atype` line, by the `pos` line, or by the loop
  constructor
  · rintro ((⟨a, b, ⟨hm, rfl⟩, rfl, rfl⟩ | ⟨a, b, ⟨hm, rfl⟩, rfl, rfl⟩) | ⟨a, b, ⟨hm, _⟩, rfl, rfl⟩) <;> exact hm
  · intro hm
    by_cases ha : k = "atype"
    · exact Or.inl (Or.inl ⟨k, v, ⟨hm, ha⟩, ha.symm, rfl⟩)
    · by_cases hp : k = "pos"
      · exact Or.inl (Or.inr ⟨k, v, ⟨hm, hp⟩, hp.symm, rfl⟩)
      · exact Or.inr ⟨k, v, ⟨hm, ha, hp⟩, rfl, rfl⟩

/-- among entries under names other than `atype` and `pos`, the two explicit reads find nothing and the loop's filter
    keeps everything. -/
theorem filter_other_keys (rest : List (String × α)) (hr : ∀ kv ∈ rest, kv.1 ≠ "atype" ∧ kv.1 ≠ "pos") :
    rest.filter (fun kv => kv.1 == "atype") = [] ∧ rest.filter (fun kv => kv.1 == "pos") = [] ∧
    rest.filter (fun kv => !(["atype", "pos"] : List String).contains kv.1) = rest := by
  refine ⟨?_, ?_, ?_⟩
  · rw [List.filter_eq_nil_iff]; intro kv h; simp [(hr kv h).1]
  · rw [List.filter_eq_nil_iff]; intro kv h; simp [(hr kv h).2]
  · rw [List.filter_eq_self]; intro kv h; simp [(hr kv h).1, (hr kv h).2]

/-- **copyView_canonical**: for a view laid out as `Atoms` lays it out (`atype` first, then — in the full view — `pos`,
    then the other properties under names other than these two) the copy IS the view: same entries, same order, every
    value under its own key. -/
theorem copyView_canonical (t : α) (rest : List (String × α))
    (hr : ∀ kv ∈ rest, kv.1 ≠ "atype" ∧ kv.1 ≠ "pos") :
    copyView atomsCopySource atomsCopyLoopSource atomsCopyReserved (("atype", t) :: rest) = ("atype", t) :: rest := by
  obtain ⟨f1, f2, f3⟩ := filter_other_keys rest hr
  simp only [copyView, atomsCopySource, atomsCopyLoopSource, atomsCopyReserved, List.flatMap_cons, List.flatMap_nil,
    List.append_nil, List.filter_cons, BEq.rfl, if_true, f1, f2, f3, List.map_cons, List.map_nil]
  simp

theorem copyView_canonical_full (t p : α) (rest : List (String × α))
    (hr : ∀ kv ∈ rest, kv.1 ≠ "atype" ∧ kv.1 ≠ "pos") :
    copyView atomsCopySource atomsCopyLoopSource atomsCopyReserved (("atype", t) :: ("pos", p) :: rest)
      = ("atype", t) :: ("pos", p) :: rest := by
  obtain ⟨f1, f2, f3⟩ := filter_other_keys rest hr
  simp only [copyView, atomsCopySource, atomsCopyLoopSource, atomsCopyReserved, List.flatMap_cons, List.flatMap_nil,
    List.append_nil, List.filter_cons, BEq.rfl, if_true, f1, f2, f3, List.map_cons]
  simp

-- non-vacuity, and what the hypothesis excludes: a loop that read a fixed key would hand every property the type column
example : copyView atomsCopySource atomsCopyLoopSource atomsCopyReserved
    [("atype", [1, 2]), ("pos", [7, 8]), ("p", [3, 4]), ("", [5, 6]), ("atype pos", [9, 9])]
    = [("atype", [1, 2]), ("pos", [7, 8]), ("p", [3, 4]), ("", [5, 6]), ("atype pos", [9, 9])] := by decide
example : copyView atomsCopySource "atype" atomsCopyReserved [("atype", [1, 2]), ("p", [3, 4])]
    = [("atype", [1, 2]), ("p", [1, 2])] := by decide
example : copyView [("atype", "atype"), ("pos", "atype")] "key" atomsCopyReserved [("atype", [1, 2]), ("pos", [3, 4])]
    = [("atype", [1, 2]), ("pos", [1, 2])] := by decide

section
variable [Add K] [Sub K] [Mul K] [Div K] [Neg K] [Zero K] [One K] [IntCast K]
  [LT K] [LE K] [DecidableLT K] [DecidableLE K]

/-- **heap_wrap_in_place**: `wrap` called on the object at address `a`
    * creates no object and removes none (the store keeps its size) and evaluates to the flags or to `None` only;
    * writes to no other object;
    * rewrites the object at `a` itself: its state becomes that of `CSys.wrapC` (the function every `wrapC_*` /
      `hist_wrap_*` theorem is about), its periodicity and EVERY per-atom property (names, values, order) stay as they are,
      the number of position rows stays, so row `i` of every property still belongs to row `i` of the positions (which by
      `wrapC_reconstruct` is the old row `i` moved by whole cell vectors). -/
theorem heap_wrap_in_place (P : Params K) (h : Heap K V) (a : Nat) (flag : Option PyVal)
    (r : Option (List (V3 Int))) (h' : Heap K V) (hw : wrapH P h a flag = some (r, h')) :
    h'.length = h.length ∧ (∀ b, b ≠ a → h'[b]? = h[b]?) ∧
    ∃ o o', h[a]? = some o ∧ h'[a]? = some o' ∧
      o'.sys = (o.sys.wrapC P).2 ∧ o'.props = o.props ∧ o'.sys.pbc = o.sys.pbc ∧
      o'.sys.pos.length = o.sys.pos.length ∧ (o.RowAligned → o'.RowAligned) ∧
      r = (if (flag.getD wrapFlagDefault).truthy then some (o.sys.wrapC P).1 else none) := by
  unfold wrapH at hw
  cases ho : h[a]? with
  | none => rw [ho] at hw; cases hw
  | some o =>
    rw [ho] at hw
    simp only [Option.some.injEq, Prod.mk.injEq, CSys.wrapApi] at hw
    obtain ⟨hr, hh⟩ := hw
    obtain ⟨ha, _⟩ := List.getElem?_eq_some_iff.mp ho
    subst hh
    refine ⟨by simp, ?_, o, { o with sys := (o.sys.wrapC P).2 }, rfl, ?_, rfl, rfl, wrapC_pbc P o.sys,
      wrapC_pos_length P o.sys, ?_, hr.symm⟩
    · intro b hb
      rw [List.getElem?_set_ne (Ne.symm hb)]
    · rw [List.getElem?_set_self ha]
    · intro hal kv hkv
      show kv.2.length = (o.sys.wrapC P).2.pos.length
      rw [wrapC_pos_length]
      exact hal kv hkv

/-- **heap_normalize_input_untouched**: "the input is left as it was" on the store.  A `normalize` that returns
    * hands back an address that did not exist before (`= h.length`, so different from the address it was called on and
      from every other object: nothing is shared with the input);
    * leaves EVERY object that existed — the one it was called on included — exactly as it was (state, cache,
      periodicity, properties);
    * the one new object has the box and positions of `CSys.normalizeC` (the function `normalizeC_full` and every
      `hist_normalize*` theorem is about), the periodicity of the input and the properties `Atoms.__deepcopy__` copies;
    * the transformation is part of what is returned iff the flag is truthy. -/
theorem heap_normalize_input_untouched (P : Params K) (explicit : List (String × String)) (loopSrc : String)
    (reserved : List String) (h : Heap K V) (a : Nat) (style flag : Option PyVal) (r : NormRet K V)
    (hn : normalizeH P explicit loopSrc reserved h a style flag = some (.ok r)) :
    r.addr = h.length ∧ r.addr ≠ a ∧ r.heap.length = h.length + 1 ∧
    (∀ b, b < h.length → r.heap[b]? = h[b]?) ∧ r.heap[a]? = h[a]? ∧
    ∃ o z, h[a]? = some o ∧ o.sys.normalizeC P = some z ∧
      r.heap[r.addr]? = some ⟨⟨z.box, none, o.sys.pbc, z.pos⟩, copyView explicit loopSrc reserved o.props⟩ ∧
      r.flags = z.flags ∧
      r.transform = (if (flag.getD normFlagDefault).truthy then some z.transform else none) := by
  cases ho : h[a]? with
  | none => simp only [normalizeH, ho] at hn; cases hn
  | some o =>
    simp only [normalizeH, ho] at hn
    obtain ⟨ha, _⟩ := List.getElem?_eq_some_iff.mp ho
    cases hz : o.sys.normalizeApi P style flag with
    | error e => rw [hz] at hn; simp at hn
    | ok zr =>
      obtain ⟨z, rt⟩ := zr
      rw [hz] at hn
      simp only [Option.some.injEq, Except.ok.injEq] at hn
      -- what the entry point returned
      have hz' : o.sys.normalizeC P = some z ∧ rt = (flag.getD normFlagDefault).truthy := by
        unfold CSys.normalizeApi CSys.lmpNormalizeApi at hz
        split_ifs at hz
        cases hc : o.sys.normalizeC P with
        | none => rw [hc] at hz; simp at hz
        | some z' =>
          rw [hc] at hz
          simp only [Except.ok.injEq, Prod.mk.injEq] at hz
          exact ⟨by rw [hz.1], hz.2.symm⟩
      subst hn
      refine ⟨rfl, Nat.ne_of_gt ha, by simp, ?_, ?_, o, z, rfl, hz'.1, ?_, rfl, ?_⟩
      · intro b hb
        exact List.getElem?_append_left hb
      · show (h ++ _)[a]? = some o
        rw [List.getElem?_append_left ha, ho]
      · show (h ++ [_])[h.length]? = _
        simp
      · show (if rt then some z.transform else none) = _
        rw [hz'.2]

/-- the call on the store refuses exactly when the entry point refuses (`ValueError` for a style other than `'lammps'` or a lattice
    angle outside (0, 180), the assertion of `set_lengths`); a refusal carries no store (`Except`), so nothing is written or created. -/
theorem heap_normalize_refusal (P : Params K) (explicit : List (String × String)) (loopSrc : String)
    (reserved : List String) (h : Heap K V) (a : Nat) (style flag : Option PyVal) (o : HObj K V) (ho : h[a]? = some o) :
    (∃ e, normalizeH P explicit loopSrc reserved h a style flag = some (.error e)) ↔
      ∃ e, o.sys.normalizeApi P style flag = .error e := by
  simp only [normalizeH, ho]
  cases hz : o.sys.normalizeApi P style flag with
  | error e => simp
  | ok zr => simp

/-- **heap_normalize_carried**: end to end, with the key lists and sources `Atoms.__deepcopy__` has in the current source
    (`gen_deepcopyKeys_eq_model`, `gen_deepcopyValues_eq_model`): the system `normalize` returns carries every per-atom
    property of the input — an entry `(name, values)` is in the result iff it is in the input (any names); for the layout
    every `Atoms` has (`atype` first, no other property called `atype` or `pos`) the list of entries is IDENTICAL (same
    order, each value list under its own name, unchanged); each value list still has one row per atom of the result, so
    row `i` belongs to position row `i`, which is the old atom `i` (`normalize` maps over the position list). -/
theorem heap_normalize_carried (P : Params K) (h : Heap K V) (a : Nat) (style flag : Option PyVal) (r : NormRet K V)
    (hn : normalizeH P atomsCopySource atomsCopyLoopSource atomsCopyReserved h a style flag = some (.ok r)) :
    ∃ o o', h[a]? = some o ∧ r.heap[a]? = some o ∧ r.heap[r.addr]? = some o' ∧
      (∀ k v, (k, v) ∈ o'.props ↔ (k, v) ∈ o.props) ∧
      (∀ t rest, o.props = ("atype", t) :: rest → (∀ kv ∈ rest, kv.1 ≠ "atype" ∧ kv.1 ≠ "pos") → o'.props = o.props) ∧
      o'.sys.pbc = o.sys.pbc ∧ o'.sys.pos.length = o.sys.pos.length ∧ (o.RowAligned → o'.RowAligned) := by
  obtain ⟨_, _, _, _, hsame, o, z, ho, hz, hnew, _, _⟩ :=
    heap_normalize_input_untouched P _ _ _ h a style flag r hn
  have hlen := normalizeC_pos_length P o.sys z hz
  refine ⟨o, _, ho, by rw [hsame, ho], hnew, ?_, ?_, rfl, hlen, ?_⟩
  · intro k v; exact copyView_mem o.props k v
  · intro t rest hp hr
    show copyView _ _ _ o.props = o.props
    rw [hp]; exact copyView_canonical t rest hr
  · intro hal kv hkv
    show kv.2.length = z.pos.length
    rw [hlen]
    have : (kv.1, kv.2) ∈ o.props := (copyView_mem o.props kv.1 kv.2).mp hkv
    exact hal kv this

end

def heapEx : Heap ℚ String :=
  [⟨⟨⟨⟨⟨3, 0, 0⟩, ⟨0, 4, 0⟩, ⟨0, 0, -5⟩⟩, ⟨0, 0, 0⟩⟩, none, ⟨true, true, true⟩, [⟨4, 1, 1⟩, ⟨-1, 9, -7⟩]⟩,
     [("atype", ["1", "2"]), ("p", ["a", "b"]), ("", ["c", "d"])]⟩,
   ⟨⟨⟨⟨⟨1, 0, 0⟩, ⟨0, 1, 0⟩, ⟨0, 0, 1⟩⟩, ⟨0, 0, 0⟩⟩, none, ⟨true, false, true⟩, [⟨2, 2, 2⟩]⟩, [("atype", ["1"])]⟩]

-- `sqrt` as a table on the arguments the 3-4-5 cell of `heapEx` needs (9, 16, 25)
def heapPar : Params ℚ := ⟨Rat.floor, 1/1000, 1/1000000000, fun x => if x = 9 then 3 else if x = 16 then 4 else if x = 25 then 5 else x⟩

-- wrap on object 0: object 1 untouched, properties of object 0 untouched, nothing allocated, nothing returned
example : ∃ r h', wrapH heapPar heapEx 0 none = some (r, h') ∧ r = none ∧ h'.length = 2 ∧
    h'[1]?.map (·.sys.pos) = some [⟨2, 2, 2⟩] ∧
    h'[0]?.map (·.props) = some [("atype", ["1", "2"]), ("p", ["a", "b"]), ("", ["c", "d"])] ∧
    h'[0]?.map (·.sys.pos) = some [⟨1, 1, -4⟩, ⟨2, 1, -2⟩] :=
  ⟨_, _, rfl, by decide +kernel⟩
-- normalize on object 0 (left-handed cell): a third object appears, objects 0 and 1 are what they were
def heapNormEx : Option (NormRet ℚ String) :=
  match normalizeH heapPar atomsCopySource atomsCopyLoopSource atomsCopyReserved heapEx 0 none (some (.int 1)) with
  | some (.ok r) => some r
  | _ => none
example : heapNormEx.map (·.addr) = some 2 ∧ heapNormEx.map (·.heap.length) = some 3 ∧
    heapNormEx.map (fun r => r.heap[0]?.map (·.sys.pos)) = some (some [⟨4, 1, 1⟩, ⟨-1, 9, -7⟩]) ∧
    heapNormEx.map (fun r => r.heap[1]?.map (·.sys.pos)) = some (some [⟨2, 2, 2⟩]) ∧
    heapNormEx.map (fun r => r.heap[2]?.map (·.props))
      = some (some [("atype", ["1", "2"]), ("p", ["a", "b"]), ("", ["c", "d"])]) ∧
    heapNormEx.map (fun r => r.heap[2]?.map (·.sys.box.vects)) = some (some ⟨⟨3, 0, 0⟩, ⟨0, 4, 0⟩, ⟨0, 0, 5⟩⟩) ∧
    heapNormEx.map (·.transform.isSome) = some true := by
  decide +kernel

end Atomman.C05
