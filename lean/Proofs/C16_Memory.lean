/-
  C16 — the CALLER's memory (`Atomman.C16.Mem`): the functions of the property do not write into their arguments, and
  what they return is a new array every time.  In the functional model this is TRUE BY CONSTRUCTION (`Mem.call` is
  defined to append `f x` and to leave every existing cell alone); the theorems spell out what that gives for HISTORIES
  (call → the caller overwrites arrays in place → the identical call again), for every `f`.  What they are worth for the
  real code is decided by the correspondence (`_corr_memory` in harness/props/c16.py), which runs the same histories on
  real numpy arrays and on this model and compares the whole memory after each step.
-/
import Atomman.C16

namespace Atomman.C16
namespace Mem
variable {α : Type}

theorem size_alloc (m : Mem α) (v : α) : (m.alloc v).1.size = m.size + 1 := by
  simp [alloc, size]

theorem size_scribble (m : Mem α) (a : Nat) (v : α) : (m.scribble a v).size = m.size := by
  simp [scribble, size]

theorem size_call_le (m : Mem α) (f : α → Except Err α) (src : Nat) : m.size ≤ (m.call f src).1.size := by
  unfold call
  split
  · exact Nat.le_refl _
  · split
    · simp [size]
    · exact Nat.le_refl _

theorem size_callConst_le (m : Mem α) (r : Except Err α) : m.size ≤ (m.callConst r).1.size := by
  cases r <;> simp [callConst, size]

/-- the memory only grows: addresses handed out stay in use, so a later result never gets the address of an
    earlier one. -/
theorem size_step_le (m : Mem α) (op : Op α) : m.size ≤ (m.step op).size := by
  cases op with
  | alloc v => simp [step, size_alloc]
  | scribble a v => simp [step, size_scribble]
  | call f src => exact size_call_le m f src
  | callConst r => exact size_callConst_le m r

theorem size_run_le (m : Mem α) (ops : List (Op α)) : m.size ≤ (m.run ops).size := by
  induction ops generalizing m with
  | nil => exact Nat.le_refl _
  | cons op ops ih => exact Nat.le_trans (size_step_le m op) (ih (m.step op))

/-- a call does not modify its input — nor any other array the caller holds. -/
theorem call_frame (m : Mem α) (f : α → Except Err α) (src a : Nat) (ha : a < m.size) :
    (m.call f src).1.get? a = m.get? a := by
  unfold call
  split
  · rfl
  · split
    · simp only [get?, size] at ha ⊢
      exact List.getElem?_append_left ha
    · rfl

theorem callConst_frame (m : Mem α) (r : Except Err α) (a : Nat) (ha : a < m.size) :
    (m.callConst r).1.get? a = m.get? a := by
  cases r with
  | ok r =>
    simp only [callConst, get?, size] at ha ⊢
    exact List.getElem?_append_left ha
  | error e => rfl

/-- the value returned is `f` of the CONTENTS of the argument, whatever else is in memory, and it is stored at a
    FRESH address (`m.size`: no array in use has it). -/
theorem call_result (m : Mem α) (f : α → Except Err α) (src : Nat) (x r : α)
    (hx : m.get? src = some x) (hf : f x = .ok r) :
    (m.call f src).2 = some (.ok (m.size, r)) ∧ (m.call f src).1.get? m.size = some r ∧
      (m.call f src).1.size = m.size + 1 := by
  unfold call
  rw [hx]
  simp only [hf]
  refine ⟨trivial, ?_, ?_⟩
  · simp [get?, size]
  · simp [size]

/-- a call that raises leaves the memory as it was. -/
theorem call_error (m : Mem α) (f : α → Except Err α) (src : Nat) (x : α) (e : Err)
    (hx : m.get? src = some x) (hf : f x = .error e) : (m.call f src).1 = m := by
  unfold call
  simp only [hx, hf]

/-- one step changes the array at `a` only if it is the caller's own write to `a`. -/
theorem step_frame (m : Mem α) (op : Op α) (a : Nat) (ha : a < m.size) (hw : op.writes a = false) :
    (m.step op).get? a = m.get? a := by
  cases op with
  | alloc v =>
    simp only [step, alloc, get?, size] at ha ⊢
    exact List.getElem?_append_left ha
  | scribble b v =>
    simp only [Op.writes, beq_eq_false_iff_ne, ne_eq] at hw
    simp only [step, scribble, get?]
    exact List.getElem?_set_ne hw
  | call f src => exact call_frame m f src a ha
  | callConst r => exact callConst_frame m r a ha

/-- after ANY history of allocations, calls of ANY functions on ANY arguments (the array at `a` included) and
    caller writes to OTHER arrays, the array at `a` holds what it held. -/
theorem run_frame (m : Mem α) (ops : List (Op α)) (a : Nat) (ha : a < m.size)
    (hw : ∀ op ∈ ops, op.writes a = false) : (m.run ops).get? a = m.get? a := by
  induction ops generalizing m with
  | nil => rfl
  | cons op ops ih =>
    exact (ih (m.step op) (Nat.lt_of_lt_of_le ha (size_step_le m op)) fun o ho => hw o (List.mem_cons_of_mem _ ho)).trans
      (step_frame m op a ha (hw op List.mem_cons_self))

/-- outputs are fresh: call, then let the caller overwrite the RESULT (address `m.size`) — or anything else
    but the argument — and call any other functions in between; the identical call gives the identical value
    again, at yet another address. -/
theorem call_scribble_call (m : Mem α) (f : α → Except Err α) (src : Nat) (x r : α)
    (hx : m.get? src = some x) (hf : f x = .ok r) (ops : List (Op α))
    (hw : ∀ op ∈ ops, op.writes src = false) :
    let m1 := (m.call f src).1
    let m2 := m1.run ops
    (m2.call f src).2 = some (.ok (m2.size, r)) ∧ m.size < m2.size := by
  intro m1 m2
  have hs : src < m.size := (List.getElem?_eq_some_iff.mp hx).1
  have h1 : m1.size = m.size + 1 := (call_result m f src x r hx hf).2.2
  have hx1 : m1.get? src = some x := (call_frame m f src src hs).trans hx
  have hx2 : m2.get? src = some x := (run_frame m1 ops src (by omega) hw).trans hx1
  have h2 : m1.size ≤ m2.size := size_run_le m1 ops
  exact ⟨(call_result m2 f src x r hx2 hf).1, by omega⟩

/-- two results of identical calls are two arrays: their addresses differ (so a write to one is not a write
    to the other: `step_frame`). -/
theorem two_results_distinct (m : Mem α) (f : α → Except Err α) (src : Nat) (x r : α)
    (hx : m.get? src = some x) (hf : f x = .ok r) :
    let m1 := (m.call f src).1
    (m.call f src).2 = some (.ok (m.size, r)) ∧ (m1.call f src).2 = some (.ok (m.size + 1, r)) := by
  intro m1
  have h1 : m1.size = m.size + 1 := (call_result m f src x r hx hf).2.2
  refine ⟨(call_result m f src x r hx hf).1, ?_⟩
  rw [← h1]
  exact (call_scribble_call m f src x r hx hf [] (fun _ h => nomatch h)).1

/-- non-vacuity: a three-step history on a concrete memory. -/
example : let m : Mem (List Int) := (Mem.empty.alloc [2, 4, -6]).1
    let f : List Int → Except Err (List Int) := reduceIndices
    let m1 := (m.call f 0).1
    let m2 := m1.scribble 1 [9, 9, 9]
    (m2.call f 0).2 = some (.ok (2, [1, 2, -3])) ∧ m2.get? 0 = some [2, 4, -6] := by
  intro m f m1 m2
  exact ⟨rfl, rfl⟩

end Mem

end Atomman.C16
