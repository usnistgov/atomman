/-
  C16 — the `Box` OBJECT: queries are functions of the current cell, the `reciprocal_vects` cache stays valid through every
  history of setters and reads, vectors and normals do not see the origin.
-/
import Atomman.C16
import Proofs.Linear3

namespace Atomman.C16

namespace BoxObj
section field
variable {K : Type} [Field K]

theorem cacheValid_new (V : M3 K) (org : V3 K) (p : CellParams K) : (new V org p).CacheValid := Or.inl rfl

theorem reciprocalVects_of_valid (o : BoxObj K) (h : o.CacheValid) :
    o.reciprocalVects = (⟨o.box, o.par, some o.box.recip⟩, o.box.recip) := by
  obtain ⟨b, p, c⟩ := o
  rcases h with h | h <;> simp only at h <;> subst h <;> rfl

theorem cacheValid_step (o : BoxObj K) (h : o.CacheValid) (op : Op K) : (o.step op).CacheValid := by
  cases op with
  | setVects V p => exact Or.inl rfl
  | setOrigin org => exact h
  | set V org p => exact Or.inl rfl
  | readRecip => exact Or.inr (by rw [step, reciprocalVects_of_valid o h])

/-- after ANY history of setters and `reciprocal_vects` reads on one object the cache is empty or holds the
    reciprocal vectors of the cell the object has NOW. -/
theorem cacheValid_run (ops : List (Op K)) : ∀ o : BoxObj K, o.CacheValid → (o.run ops).CacheValid := by
  induction ops with
  | nil => intro o h; exact h
  | cons op ops ih => intro o h; exact ih _ (cacheValid_step o h op)

/-- `Box.reciprocal_vects` read after any history is `inv(vects).T` of the current `vects`. -/
theorem reciprocalVects_run (V : M3 K) (org : V3 K) (p : CellParams K) (ops : List (Op K)) :
    ((new V org p).run ops).reciprocalVects.2 = ((new V org p).run ops).box.recip := by
  rw [reciprocalVects_of_valid _ (cacheValid_run ops _ (cacheValid_new V org p))]

end field

section ordered
variable {K : Type} [Field K] [LinearOrder K] [IsStrictOrderedRing K]

set_option linter.unusedSectionVars false in
/-- whatever was asked of the object before and however it got its present cell, `identifyfamily`, the
    vector conversion and the plane normal after a setter are those of the NEW cell. -/
theorem queries_after_set (o : BoxObj K) (ops : List (Op K)) (V : M3 K) (org : V3 K) (p : CellParams K)
    (rtol atol : K) :
    ((o.run ops).set V org p).identifyFamily rtol atol = C16.identifyFamily rtol atol p
    ∧ ((o.run ops).setVects V p).identifyFamily rtol atol = C16.identifyFamily rtol atol p
    ∧ (∀ idx, ((o.run ops).set V org p).vectorCrystalToCartesian atol idx
        = C16.vectorCrystalToCartesian atol (isHexagonal defaultRtol defaultAtol p) V idx)
    ∧ (∀ idx, ((o.run ops).set V org p).planeCrystalToCartesianUnnorm atol idx
        = C16.planeCrystalToCartesianUnnorm atol (isHexagonal defaultRtol defaultAtol p) V idx) :=
  ⟨rfl, rfl, fun _ => rfl, fun _ => rfl⟩

set_option linter.unusedSectionVars false in
/-- reading `reciprocal_vects` or moving the origin changes no answer about the cell. -/
theorem queries_origin_independent (o : BoxObj K) (org : V3 K) (rtol atol : K) :
    (o.setOrigin org).identifyFamily rtol atol = o.identifyFamily rtol atol
    ∧ (∀ idx, (o.setOrigin org).vectorCrystalToCartesian atol idx = o.vectorCrystalToCartesian atol idx)
    ∧ (∀ idx, (o.setOrigin org).planeCrystalToCartesianUnnorm atol idx = o.planeCrystalToCartesianUnnorm atol idx)
    ∧ (∀ idx, o.reciprocalVects.1.vectorCrystalToCartesian atol idx = o.vectorCrystalToCartesian atol idx)
    ∧ o.reciprocalVects.1.identifyFamily rtol atol = o.identifyFamily rtol atol := by
  refine ⟨rfl, fun _ => rfl, fun _ => rfl, ?_, ?_⟩
  · intro idx; simp only [reciprocalVects]; cases o.recipCache <;> rfl
  · simp only [reciprocalVects]; cases o.recipCache <;> rfl

set_option linter.unusedSectionVars false in
/-- a crystal VECTOR `[uvw]` is the difference of the Cartesian positions of two points that differ by
    `(u,v,w)` in box coordinates — for every origin; and it is the position of `(u,v,w)` itself only up to the
    origin (`position_relative_to_cartesian` must not be used for vectors). -/
theorem vector_is_position_difference (atol : K) (o : BoxObj K) (s d : V3 K) :
    o.vectorCrystalToCartesian atol [d.x, d.y, d.z] = .ok (o.relToCart (s + d) - o.relToCart s)
    ∧ o.relToCart d = M3.vecMul d o.box.vects + o.box.origin := by
  refine ⟨?_, rfl⟩
  rw [relToCart, relToCart, Box.relToCart_sub, V3.add_sub_cancel_left']
  rfl

end ordered
end BoxObj

end Atomman.C16
