/-
  Every field coefficient of a mode is a function of its amplitude `kLbₐ Aₐ / 2πi` and of `m + pₐn`, and strain and stress are
  `Σₐ coefₐ / ηₐ` with `ηₐ` linear in the field point: the 1/r law, the independence of the eigenvectors' normalisation and the
  change of the length or stiffness unit are read off this form.  The solver's four self-checks are field identities, used at
  `Cx K` with the real unit embedded.
-/
import Proofs.C12_Stroh

namespace Atomman.C12
set_option linter.unusedSimpArgs false
set_option linter.unusedSectionVars false

section units
variable {F : Type} [Field F] [CharZero F]

theorem eta_homog (s : Setup F) (μ : Mode F) (x : Vec F) (t : F) :
    eta s μ (fun i => t * x i) = t * eta s μ x := by
  simp only [eta, dot, sum3]; ring

/-- for every `t`: both sides vanish for `t = 0`. -/
theorem strainAt_smul (pi I : F) (s : Setup F) (μ : Fin 6 → Mode F) (k : Fin 6 → F) (x : Vec F) (t : F) (i j : Fin 3) :
    strainAt pi I s μ k (fun c => t * x c) i j = strainAt pi I s μ k x i j / t := by
  simp only [strainAt, eta_homog, sum6]; ring

theorem stressAt_smul (pi I : F) (s : Setup F) (μ : Fin 6 → Mode F) (k : Fin 6 → F) (x : Vec F) (t : F) (i j : Fin 3) :
    stressAt pi I s μ k (fun c => t * x c) i j = stressAt pi I s μ k x i j / t := by
  simp only [stressAt, eta_homog, sum6]; ring

set_option linter.unusedVariables false in
/-- strain and stress are homogeneous of degree −1 in the field point (fall off as 1/r along every ray); the two guards are
    not needed (`strainAt_smul`, `stressAt_smul`). -/
theorem falls_as_inv_r (pi I : F) (s : Setup F) (μ : Fin 6 → Mode F) (k : Fin 6 → F) (x : Vec F) (t : F)
    (ht : t ≠ 0) (hx : ∀ a, eta s (μ a) x ≠ 0) (i j : Fin 3) :
    strainAt pi I s μ k (fun c => t * x c) i j = strainAt pi I s μ k x i j / t
      ∧ stressAt pi I s μ k (fun c => t * x c) i j = stressAt pi I s μ k x i j / t :=
  ⟨strainAt_smul pi I s μ k x t i j, stressAt_smul pi I s μ k x t i j⟩

theorem dot_smul_left (c : F) (v w : Vec F) : dot (fun i => c * v i) w = c * dot v w := by
  simp only [dot, sum3]; ring
theorem dot_smul_right (c : F) (v w : Vec F) : dot v (fun i => c * w i) = c * dot v w := by
  simp only [dot, sum3]; ring

/-- a mode with its eigenvector rescaled (`numpy.linalg.eig` fixes the scale only by convention). -/
def scaleMode (c : F) (μ : Mode F) : Mode F := ⟨μ.p, fun i => c * μ.A i, fun i => c * μ.L i⟩

theorem kOf_scale (c : F) (μ : Mode F) : kOf (scaleMode c μ) = kOf μ / (c * c) := by
  simp only [kOf, scaleMode, dot_smul_left, dot_smul_right]; ring

set_option linter.unusedVariables false in
/-- the field coefficients and the summands of `K_tensor` do not depend on the scale of the eigenvectors
    (with `k` computed from them as the code does).  (`hAL` is not used.) -/
theorem scale_invariant (pi I : F) (s : Setup F) (μ : Fin 6 → Mode F) (c : Fin 6 → F) (hc : ∀ a, c a ≠ 0)
    (hAL : ∀ a, dot (μ a).A (μ a).L ≠ 0) (a : Fin 6) :
    (∀ i, dispCoef pi I s (fun a => scaleMode (c a) (μ a)) (fun a => kOf (scaleMode (c a) (μ a))) a i
        = dispCoef pi I s μ (fun a => kOf (μ a)) a i)
    ∧ (∀ i j, strainCoef pi I s (fun a => scaleMode (c a) (μ a)) (fun a => kOf (scaleMode (c a) (μ a))) a i j
        = strainCoef pi I s μ (fun a => kOf (μ a)) a i j)
    ∧ (∀ i j, stressCoef pi I s (fun a => scaleMode (c a) (μ a)) (fun a => kOf (scaleMode (c a) (μ a))) a i j
        = stressCoef pi I s μ (fun a => kOf (μ a)) a i j)
    ∧ ∀ i j, kOf (scaleMode (c a) (μ a)) * (scaleMode (c a) (μ a)).L i * (scaleMode (c a) (μ a)).L j
        = kOf (μ a) * (μ a).L i * (μ a).L j := by
  have hk := kOf_scale (c a) (μ a)
  have hca := hc a
  -- `A`, `L` times `c`, `k` over `c²`: the amplitude `kLb · A` does not change, and `m + p n` does not see the scale
  obtain ⟨h1, h2, h3⟩ := coef_congr pi I s s μ (fun a => scaleMode (c a) (μ a)) (fun a => kOf (μ a))
    (fun a => kOf (scaleMode (c a) (μ a))) a (fun i => by
      simp only [kLb, hk]; simp only [scaleMode, dot_smul_left]; field_simp) rfl
  refine ⟨congrFun h1, fun i j => by rw [h2], fun i j => by rw [h3, ← stressCoef_eq], fun i j => ?_⟩
  rw [hk]; simp only [scaleMode]; field_simp

/-- the same problem in another length unit: the Burgers vector (and every field point) times `t`. -/
def lenSetup (t : F) (s : Setup F) : Setup F := ⟨s.C, s.m, s.n, fun i => t * s.b i⟩
/-- the same problem in another stiffness unit: `C` times `c`; the eigenvectors keep `A`, their `L` part takes the
    unit of `C` (`stiffMode`), the normalisation `k = 1/(2 A·L)` its inverse. -/
def stiffSetup (c : F) (s : Setup F) : Setup F := ⟨fun i j k l => c * s.C i j k l, s.m, s.n, s.b⟩
def stiffMode (c : F) (μ : Mode F) : Mode F := ⟨μ.p, μ.A, fun i => c * μ.L i⟩

/-! every field quantity is linear in the Burgers vector, which enters through `kLb` only -/
section len
variable (pi I t : F) (s : Setup F) (μ : Fin 6 → Mode F) (k : Fin 6 → F)

theorem kLb_len (a : Fin 6) : kLb (lenSetup t s) μ k a = t * kLb s μ k a := by
  simp only [kLb, lenSetup, dot_smul_right]; ring

theorem mpn_len (ν : Mode F) : mpn (lenSetup t s) ν = mpn s ν := rfl
theorem eta_len (ν : Mode F) (x : Vec F) : eta (lenSetup t s) ν x = eta s ν x := rfl

theorem dispCoef_len (a : Fin 6) : dispCoef pi I (lenSetup t s) μ k a = fun i => t * dispCoef pi I s μ k a i := by
  funext i; simp only [dispCoef, kLb_len]; ring

theorem dispAt_len (l : Fin 6 → F) (i : Fin 3) : dispAt pi I (lenSetup t s) μ k l i = t * dispAt pi I s μ k l i := by
  simp only [dispAt, dispCoef_len, mul_sum6, mul_assoc]

theorem strainAt_len (x : Vec F) (i j : Fin 3) :
    strainAt pi I (lenSetup t s) μ k x i j = t * strainAt pi I s μ k x i j := by
  simp only [strainAt, strainCoef_eq, dispCoef_len, mpn_len, eta_len, symOuter_smul, mul_sum6, mul_assoc]

theorem stressAt_len (x : Vec F) (i j : Fin 3) :
    stressAt pi I (lenSetup t s) μ k x i j = t * stressAt pi I s μ k x i j := by
  simp only [stressAt, stressCoef_eq, dispCoef_len, mpn_len, eta_len, hooke_smul, mul_sum6, mul_assoc]
  rfl

end len

set_option linter.unusedVariables false in
/-- the same problem in another length unit (Burgers vector and field point times `t`): displacement coefficients and
    the jump times `t`, strain and stress unchanged.  (`hx` is not used.) -/
theorem length_unit_covariant (pi I : F) (s : Setup F) (μ : Fin 6 → Mode F) (k : Fin 6 → F) (t : F) (ht : t ≠ 0)
    (x : Vec F) (hx : ∀ a, eta s (μ a) x ≠ 0) :
    (∀ a i, dispCoef pi I (lenSetup t s) μ k a i = t * dispCoef pi I s μ k a i)
    ∧ (∀ i j, strainAt pi I (lenSetup t s) μ k (fun c => t * x c) i j = strainAt pi I s μ k x i j)
    ∧ (∀ i j, stressAt pi I (lenSetup t s) μ k (fun c => t * x c) i j = stressAt pi I s μ k x i j)
    ∧ (∀ i, dispJump pi I (lenSetup t s) μ k i = t * dispJump pi I s μ k i) := by
  refine ⟨fun a => congrFun (dispCoef_len pi I t s μ k a), fun i j => ?_, fun i j => ?_, fun i => dispAt_len pi I t s μ k _ i⟩
  · rw [strainAt_len, strainAt_smul, mul_div_cancel₀ _ ht]
  · rw [stressAt_len, stressAt_smul, mul_div_cancel₀ _ ht]

/-- displacement differences are homogeneous of degree 1: with `ln η(t x) = ln η(x) + λ` (`λ = ln t` for the principal
    logarithm and a positive real `t`) for every mode and point, `u(t x) − u(t x₀) = t (u(x) − u(x₀))`; the displacement
    itself changes by the rigid translation `t λ Σₐ dispCoef a`. -/
theorem length_unit_displacement (pi I : F) (s : Setup F) (μ : Fin 6 → Mode F) (k : Fin 6 → F) (t lam : F)
    (l l0 : Fin 6 → F) (i : Fin 3) :
    dispAt pi I (lenSetup t s) μ k (fun a => l a + lam) i - dispAt pi I (lenSetup t s) μ k (fun a => l0 a + lam) i
      = t * (dispAt pi I s μ k l i - dispAt pi I s μ k l0 i) := by
  rw [dispAt_len, dispAt_len, ← mul_sub, (disp_continuous_off_cut ..).1, (disp_continuous_off_cut ..).1]
  simp only [add_sub_add_right_eq_sub]

theorem contract_smul (c : F) (a b : Vec F) (C : Ten4 F) (i j : Fin 3) :
    contract a (fun i j k l => c * C i j k l) b i j = c * contract a C b i j := by
  simp only [contract, sum3]; ring

theorem stiff_NA (c : F) (hc : c ≠ 0) (s : Setup F) (nnInv : Mat F) (i j : Fin 3) :
    NA (stiffSetup c s) (fun a b => nnInv a b / c) i j = NA s nnInv i j := by
  simp only [NA, NB, matMul, sum3, Setup.nm, stiffSetup, contract_smul]; field_simp
theorem stiff_ND (c : F) (hc : c ≠ 0) (s : Setup F) (nnInv : Mat F) (i j : Fin 3) :
    ND (stiffSetup c s) (fun a b => nnInv a b / c) i j = ND s nnInv i j := by
  simp only [ND, NB, matMul, sum3, Setup.mn, stiffSetup, contract_smul]; field_simp
theorem stiff_NC (c : F) (hc : c ≠ 0) (s : Setup F) (nnInv : Mat F) (i j : Fin 3) :
    NC (stiffSetup c s) (fun a b => nnInv a b / c) i j = c * NC s nnInv i j := by
  simp only [NC, matMul, sum3, stiff_NA c hc]
  simp only [Setup.mn, Setup.mm, stiffSetup, contract_smul]; ring

/-- the rescaled eigenvectors solve the rescaled eigenproblem: with `nn⁻¹/c` for the inverse, the upper half of
    `N v − p v` is unchanged and the lower half is multiplied by `c`; the inverse relation is unchanged. -/
theorem stiffness_unit_eigen (c : F) (hc : c ≠ 0) (s : Setup F) (nnInv : Mat F) (μ : Mode F) (i : Fin 3) :
    eigResTop (stiffSetup c s) (fun a b => nnInv a b / c) (stiffMode c μ) i = eigResTop s nnInv μ i
    ∧ eigResBot (stiffSetup c s) (fun a b => nnInv a b / c) (stiffMode c μ) i = c * eigResBot s nnInv μ i
    ∧ ∀ j, matMul (stiffSetup c s).nn (fun a b => nnInv a b / c) i j = matMul s.nn nnInv i j := by
  refine ⟨?_, ?_, fun j => ?_⟩
  · simp only [eigResTop, matVec, sum3, stiff_NA c hc]
    simp only [NB, stiffMode]
    field_simp
  · simp only [eigResBot, matVec, sum3, stiff_NC c hc, stiff_ND c hc]
    simp only [stiffMode]
    ring
  · simp only [matMul, sum3, Setup.nn, stiffSetup, contract_smul]
    field_simp

theorem kOf_stiff (c : F) (μ : Mode F) : kOf (stiffMode c μ) = kOf μ / c := by
  simp only [kOf, stiffMode, dot_smul_right]; ring

set_option linter.unusedVariables false in
/-- the same problem in another stiffness unit (`k` as the code computes it from the eigenvectors): `η`, the
    displacement and strain coefficients are unchanged, the stress coefficients and `K_tensor` are multiplied by `c`.  (`hAL` is not used.) -/
theorem stiffness_unit_covariant (pi I c : F) (hc : c ≠ 0) (s : Setup F) (μ : Fin 6 → Mode F)
    (hAL : ∀ a, dot (μ a).A (μ a).L ≠ 0) (a : Fin 6) :
    (∀ x, eta (stiffSetup c s) (stiffMode c (μ a)) x = eta s (μ a) x)
    ∧ (∀ i, dispCoef pi I (stiffSetup c s) (fun a => stiffMode c (μ a)) (fun a => kOf (stiffMode c (μ a))) a i
        = dispCoef pi I s μ (fun a => kOf (μ a)) a i)
    ∧ (∀ i j, strainCoef pi I (stiffSetup c s) (fun a => stiffMode c (μ a)) (fun a => kOf (stiffMode c (μ a))) a i j
        = strainCoef pi I s μ (fun a => kOf (μ a)) a i j)
    ∧ (∀ i j, stressCoef pi I (stiffSetup c s) (fun a => stiffMode c (μ a)) (fun a => kOf (stiffMode c (μ a))) a i j
        = c * stressCoef pi I s μ (fun a => kOf (μ a)) a i j)
    ∧ ∀ i j, kOf (stiffMode c (μ a)) * (stiffMode c (μ a)).L i * (stiffMode c (μ a)).L j
        = c * (kOf (μ a) * (μ a).L i * (μ a).L j) := by
  have hk := kOf_stiff c (μ a)
  -- `A` fixed, `L` times `c`, `k` over `c`: the amplitude `kLb · A` does not change; only the stress sees `C`
  obtain ⟨h1, h2, h3⟩ := coef_congr pi I s (stiffSetup c s) μ (fun a => stiffMode c (μ a)) (fun a => kOf (μ a))
    (fun a => kOf (stiffMode c (μ a))) a (fun i => by
      simp only [kLb, hk]; simp only [stiffMode, stiffSetup, dot_smul_left]; field_simp) rfl
  refine ⟨fun x => rfl, congrFun h1, fun i j => by rw [h2], fun i j => ?_, fun i j => ?_⟩
  · rw [h3, stressCoef_eq]; exact hooke_stiff c s.C _ _ i j
  · rw [hk]; simp only [stiffMode]; field_simp

theorem chkAL_stiff (c : F) (hc : c ≠ 0) (μ : Fin 6 → Mode F) (k : Fin 6 → F) (i j : Fin 3) :
    chkAL (fun a => stiffMode c (μ a)) (fun a => k a / c) i j = chkAL μ k i j := by
  simp only [chkAL, stiffMode, sum6]; field_simp

theorem chkAA_stiff (c : F) (hc : c ≠ 0) (μ : Fin 6 → Mode F) (k : Fin 6 → F) (i j : Fin 3) :
    chkAA (fun a => stiffMode c (μ a)) (fun a => k a / c) i j = chkAA μ k i j / c := by
  simp only [chkAA, stiffMode, sum6]; field_simp

theorem chkLL_stiff (c : F) (hc : c ≠ 0) (μ : Fin 6 → Mode F) (k : Fin 6 → F) (i j : Fin 3) :
    chkLL (fun a => stiffMode c (μ a)) (fun a => k a / c) i j = c * chkLL μ k i j := by
  simp only [chkLL, stiffMode, sum6]; field_simp

theorem chkST_stiff (t : F) (ht : t ≠ 0) (μ : Fin 6 → Mode F) (sk : Fin 6 → F) (a b : Fin 6) :
    chkST (fun a => stiffMode (t * t) (μ a)) (fun a => sk a / t) a b = chkST μ sk a b := by
  simp only [chkST, stiffMode, dot_smul_right]; field_simp

end units
section checks
variable {K : Type} [Field K] [LinearOrder K] [IsStrictOrderedRing K]

/-- complex eigenvectors in another (real, positive) stiffness unit. -/
def stiffModeC (c : K) (μ : Mode (Cx K)) : Mode (Cx K) := ⟨μ.p, μ.A, fun i => Cx.rmul c (μ.L i)⟩

theorem stiffModeC_eq (c : K) (μ : Mode (Cx K)) : stiffModeC c μ = stiffMode (Cx.ofReal c) μ := by
  simp only [stiffModeC, stiffMode, Cx.rmul_eq]

/-- **the acceptance test of `Stroh.solve` does not depend on the unit of the stiffness**: for the
    same problem with `C` times `c = t² > 0` — eigenvectors `(A, c L)`, `k / c`, `√k / t`, `max|C|` times `c` — the
    four self-checks give the same verdict. -/
theorem stroh_checks_unit_invariant (tol rtol cmax c t : K) (ht : t ≠ 0) (hc : c = t * t) (hm : cmax ≠ 0)
    (μ : Fin 6 → Mode (Cx K)) (k sk : Fin 6 → Cx K) :
    strohChecksOk tol rtol (c * cmax) (fun a => stiffModeC c (μ a)) (fun a => Cx.rdiv (k a) c) (fun a => Cx.rdiv (sk a) t)
      = strohChecksOk tol rtol cmax μ k sk := by
  subst hc
  have ht' : Cx.ofReal t ≠ 0 := Cx.ofReal_ne_zero ht
  have hc := mul_ne_zero ht' ht'
  have hm' := Cx.ofReal_ne_zero hm
  -- `Σ k A⊗A` is divided by the unit and multiplied by `max|C|`, which carries it; `Σ k L⊗L` the other way round
  have eAA : ∀ z : Cx K, Cx.ofReal t * Cx.ofReal t * Cx.ofReal cmax * (z / (Cx.ofReal t * Cx.ofReal t)) = Cx.ofReal cmax * z :=
    fun z => by field_simp
  have eLL : ∀ z : Cx K, Cx.ofReal t * Cx.ofReal t * z / (Cx.ofReal t * Cx.ofReal t * Cx.ofReal cmax) = z / Cx.ofReal cmax :=
    fun z => by field_simp
  simp only [strohChecksOk, stiffModeC_eq, Cx.rmul_eq, Cx.rdiv_eq, Cx.ofReal_mul, chkAL_stiff _ hc, chkAA_stiff _ hc,
    chkLL_stiff _ hc, chkST_stiff _ ht', eAA, eLL]

end checks


/-- hypotheses of `stroh_checks_unit_invariant` at `t = 2`, `c = 4`, `cmax = 3` -/
example : (2 : ℚ) ≠ 0 ∧ (4 : ℚ) = 2 * 2 ∧ (3 : ℚ) ≠ 0 := by norm_num
end Atomman.C12
