/-
  C06 — `natypes`, the reads `prop(key…)` and the writes into existing columns: `prop(key, index, value)` (`propSet_cases`),
  the well-formedness of the per-type table of `prop_atype` (`picked_ok`; the rest of `prop_atype` is in `C06_Atype`),
  and `__setitem__` as a loop of `assign` over the properties of an object (`assign_loop`: invariant and record update together).
-/
import Proofs.C06_Atoms

namespace Atomman.C06

/-- **`prop(key)` / `prop(key, index)` read records**: the state is untouched; without index the value
    is the whole column; with an index it is the rows at the selected positions, in order (an integer
    index drops the leading axis). -/
theorem propGet_reads (o : Nat) (key : String) (ix : Option Index) (s : State) :
    Post (propGet o key ix) s (fun r s' => s' = s ∧ ∀ v, r = .ok v →
      ∃ a, (s.obj o).find key = some a ∧
        match ix with
        | none => v = arrVal s a
        | some i => ∃ sel, resolve a.idx.length i = .ok sel ∧ sel.oob = false ∧ v.dt = arrDt s a ∧
            v.data = (sel.pos.map (fun p => (arrRows s a)[p]?.getD [])).flatten ∧
            v.shape = (if sel.scalar then arrTrail s a else sel.pos.length :: arrTrail s a)) := by
  unfold propGet
  rw [post_bind_getS, post_bind_keyErr]
  split
  · rename_i a hfind
    cases ix with
    | none =>
      simp only []
      rw [post_pure]
      refine ⟨rfl, ?_⟩
      intro v hv
      exact ⟨a, hfind, (Except.ok.inj hv).symm⟩
    | some i =>
      simp only []
      rw [post_bind_liftE]
      cases hres : resolve a.idx.length i with
      | error e => exact ⟨rfl, fun v hc => by cases hc⟩
      | ok sel =>
        simp only []
        obtain ⟨hpos, _⟩ := resolve_spec _ _ _ hres
        split
        · exact ⟨rfl, fun v hc => by cases hc⟩
        · rename_i hoob
          rw [post_pure]
          refine ⟨rfl, ?_⟩
          intro v hv
          refine ⟨a, hfind, sel, hres, by simpa using hoob, ?_⟩
          have hrows : arrRows s ⟨a.buf, sel.pos.map (fun p => a.idx[p]?.getD 0)⟩ = _ := arrRows_subArr s a sel hpos
          by_cases hsc : sel.scalar = true
          · simp only [hsc, if_true] at hv ⊢
            obtain rfl := Except.ok.inj hv
            refine ⟨rfl, ?_, rfl⟩
            simp only [arrVal, hrows]
          · simp only [hsc, if_false, Bool.false_eq_true] at hv ⊢
            obtain rfl := Except.ok.inj hv
            refine ⟨rfl, ?_, ?_⟩
            · simp only [arrVal, hrows]
            · simp [arrVal, arrTrail]
  · exact ⟨rfl, fun v hc => by cases hc⟩

theorem propGet_post (o : Nat) (key : String) (ix : Option Index) (s : State) :
    Post (propGet o key ix) s (fun _ s' => s' = s) :=
  Post.mono (propGet_reads o key ix s) (fun _ _ h => h.1)

theorem natypes_closed (o : Nat) (s : State) :
    natypes o s = match (s.obj o).find "atype" with
      | none => (.error .key, s)
      | some a => match (arrVal s a).data.mapM Cell.num? with
        | none => (.error .unmodelled, s)
        | some nums => match listMin nums, listMax nums with
          | some mn, some mx => if mn < 1 then (.error .value, s) else (.ok (truncRat mx).toNat, s)
          | _, _ => (.error .value, s) := by
  unfold natypes
  show M.bind getS _ s = _
  unfold M.bind getS
  simp only []
  cases hf : (s.obj o).find "atype" with
  | none => rfl
  | some a =>
    simp only [keyErr, liftO]
    show M.bind (M.pure a) _ s = _
    unfold M.bind M.pure
    simp only []
    cases hm : (arrVal s a).data.mapM Cell.num? with
    | none => rfl
    | some nums =>
      simp only []
      cases hmin : listMin nums with
      | none => cases hmax : listMax nums <;> rfl
      | some mn =>
        cases hmax : listMax nums with
        | none => rfl
        | some mx =>
          simp only []
          by_cases hlt : mn < 1
          · simp only [hlt, if_true]; rfl
          · simp only [hlt, if_false]; rfl

theorem natypes_fst_congr (o : Nat) (s s' : State) (h1 : s'.heap = s.heap) (h2 : s'.objs = s.objs) :
    (natypes o s').1 = (natypes o s).1 := by
  have hobj : s'.obj o = s.obj o := obj_congr h2 o
  have harr : ∀ a, arrVal s' a = arrVal s a := arrVal_of_heap_eq h1
  rw [natypes_closed, natypes_closed, hobj]
  cases hf : (s.obj o).find "atype" with
  | none => rfl
  | some a =>
    simp only [harr]
    cases hm : (arrVal s a).data.mapM Cell.num? with
    | none => rfl
    | some nums =>
      simp only []
      split
      · split <;> rfl
      · rfl

/-- `nt` is what `natypes o` returns in `s`: the truncated maximum of a numeric `atype` column whose minimum is
    not below 1. -/
def NatypesRes (s : State) (o : Nat) (nt : Nat) : Prop :=
  ∃ a nums mn mx, (s.obj o).find "atype" = some a ∧ (arrVal s a).data.mapM Cell.num? = some nums ∧
    listMin nums = some mn ∧ listMax nums = some mx ∧ ¬ mn < 1 ∧ nt = (truncRat mx).toNat

theorem natypes_post (o : Nat) (s : State) :
    Post (natypes o) s (fun r s' => s' = s ∧ ∀ nt, r = .ok nt → NatypesRes s o nt) := by
  refine Post.of_run (m' := fun _ => _) (natypes_closed o s) ?_
  split
  · exact ⟨rfl, fun nt h => by cases h⟩
  · rename_i a hfind
    split
    · exact ⟨rfl, fun nt h => by cases h⟩
    · rename_i nums hnums
      split
      · rename_i mn mx hmn hmx
        split
        · exact ⟨rfl, fun nt h => by cases h⟩
        · rename_i hlt
          exact ⟨rfl, fun nt hnt => ⟨a, nums, mn, mx, hfind, hnums, hmn, hmx, hlt, (Except.ok.inj hnt).symm⟩⟩
      · exact ⟨rfl, fun nt h => by cases h⟩

theorem natypes_eq (o : Nat) (s : State) : natypes o s = ((natypes o s).1, s) :=
  Prod.ext rfl (natypes_post o s).1

theorem post_bind_natypes {β : Type} (o : Nat) (f : Nat → M β) (s : State) (Q : Except Err β → State → Prop) :
    Post (natypes o >>= f) s Q ↔
    (match (natypes o s).1 with | .ok nt => Post (f nt) s Q | .error e => Q (.error e) s) := by
  rw [post_bind]
  unfold Post
  rw [natypes_eq o s]
  cases (natypes o s).1 <;> rfl

theorem atypeGuard_cases (key : String) (v : Val) :
    (∃ e, atypeGuard key v = fail e) ∨
    (atypeGuard key v = pure () ∧ (key = "atype" → ∀ c ∈ v.data, CellGE1 c)) := by
  unfold atypeGuard
  by_cases hc : key = "atype" ∧ v.data ≠ []
  · rw [if_pos hc]
    cases hnums : v.data.mapM Cell.num? with
    | none => exact Or.inl ⟨_, rfl⟩
    | some nums =>
      simp only []
      cases hm : listMin nums with
      | none =>
        -- `listMin` of a non-empty list is defined
        have hlen := (mapM_option _ _ _ hnums).1
        cases nums with
        | nil => exact absurd (List.eq_nil_of_length_eq_zero (by simpa using hlen.symm)) hc.2
        | cons x xs => simp [listMin] at hm
      | some m =>
        simp only []
        by_cases hlt : m < 1
        · rw [if_pos hlt]; exact Or.inl ⟨_, rfl⟩
        · rw [if_neg hlt]; exact Or.inr ⟨rfl, fun _ => cells_ge1_of_min _ _ _ hnums hm hlt⟩
  · rw [if_neg hc]
    refine Or.inr ⟨rfl, fun hk c hcm => ?_⟩
    by_cases hne : v.data = []
    · rw [hne] at hcm; cases hcm
    · exact absurd ⟨hk, hne⟩ hc

/-- `prop(key, index, value)`, walked once: it raises and changes nothing, or — the column found, the index resolved, the
    `atype` guard passed — it is ONE assignment through the column's array. -/
theorem propSet_cases (o : Nat) (key : String) (ix : Index) (v : Val) (s : State) :
    (∃ e, propSet o key (some ix) v s = (.error e, s)) ∨
    ∃ a sel, (s.obj o).find key = some a ∧ resolve a.idx.length ix = .ok sel ∧
      (key = "atype" → ∀ c ∈ v.data, CellGE1 c) ∧ propSet o key (some ix) v s = assign a sel v s := by
  unfold propSet
  rcases atypeGuard_cases key v with ⟨e, hg⟩ | ⟨hg, hguard⟩
  · exact Or.inl ⟨e, by rw [hg]; rfl⟩
  simp only [hg, bind, M.bind, pure, M.pure, getS]
  cases hfind : (s.obj o).find key with
  | none => exact Or.inl ⟨.key, rfl⟩
  | some a =>
    simp only [keyErr, liftO, M.pure]
    cases hres : resolve a.idx.length ix with
    | error e => exact Or.inl ⟨e, rfl⟩
    | ok sel => exact Or.inr ⟨a, sel, rfl, hres, hguard, rfl⟩

theorem inv_propSet {κ : Nat → String} {s : State} (h : InvK κ s) (o : Nat) (key : String) (ix : Option Index) (v : Val)
    (hv : ValOK v) : Post (propSet o key ix v) s (fun _ s' => Kept κ s s') := by
  unfold propSet
  cases ix with
  | none =>
    simp only []
    exact Post.mono (inv_viewSet h o key (.lit v) hv) (fun _ _ hq => hq.1)
  | some ix =>
    rcases propSet_cases o key ix v s with ⟨e, he⟩ | ⟨a, sel, hfind, hres, hguard, he⟩
    · exact Post.of_eq _ _ he (Kept.refl h)
    refine Post.of_run he (Post.mono (inv_assign h a sel v (resolve_spec _ _ _ hres).2.1 fun hκ => ?_)
      fun _ _ hw => hw.kept)
    exact Or.inr (hguard ((h.find_ok o key a hfind).key.symm.trans hκ))

theorem truncRat_of_nonneg (r : Rat) (h : 0 ≤ r) : truncRat r = r.floor := by
  unfold truncRat; simp [h]

/-- the per-type table of `prop_atype(key, value)` looked up by every atom's type is a well-formed
    per-atom literal. -/
theorem picked_ok {κ : Nat → String} {s : State} (h : InvK κ s) (o : Nat) (ta : Arr)
    (hfind : (s.obj o).find "atype" = some ta) (v : Val) (hv : ValOK v) (nv : Nat) (trail : List Nat)
    (hs : v.shape = nv :: trail) (nt : Nat) (hnt : NatypesRes s o nt) (hnv : ¬ nv < nt)
    (hdt : arrDt s ta = .int) (htr : arrTrail s ta = []) :
    ValOK ⟨v.dt, ta.idx.length :: trail, ((arrVal s ta).data.map (fun c => match c with
        | .int i => (rowsOf nv (prod trail) v.data)[(i - 1).toNat]?.getD []
        | _ => [])).flatten⟩ := by
  have hp := h.find_ok o "atype" ta hfind
  have hvalid := hp.valid
  have hb := h.buf_ok ta.buf
  obtain ⟨a, nums, mn, mx, hfa, hnums, hmn, hmx, hlt, hnteq⟩ := hnt
  have hata : a = ta := by rw [hfind] at hfa; injection hfa with hfa; exact hfa.symm
  subst hata
  have hvlen : v.data.length = nv * prod trail := by rw [hv.1, hs]; rfl
  -- every exposed row of atype is a single int cell
  have hrow1 : ∀ r ∈ arrRows s a, r.length = 1 := by
    intro r hr
    obtain ⟨i, _, _, hmem⟩ := arrRows_mem hvalid r hr
    have := hb.width r hmem
    simp only [arrTrail] at htr
    rw [htr] at this; simpa [prod] using this
  have hdlen : (arrVal s a).data.length = a.idx.length := by
    simp only [arrVal]
    rw [length_flatten_const _ 1 hrow1]
    simp [arrRows]
  -- every cell: an int `i` with `1 ≤ i ≤ nt`
  have hcell : ∀ c ∈ (arrVal s a).data, ∃ i : Int, c = .int i ∧ (i - 1).toNat < nv := by
    intro c hc
    have htyped : c.hasType .int = true := by
      have := (arrVal_ok h hvalid).2 c hc
      simpa [arrVal, hdt] using this
    cases c with
    | int i =>
      refine ⟨i, rfl, ?_⟩
      obtain ⟨q, hq, hcq⟩ := mapM_option_fwd _ _ _ hnums _ hc
      simp only [Cell.num?, Option.some.injEq] at hcq
      subst hcq
      have h1 : (1 : Rat) ≤ (i : Rat) := Rat.le_trans (Rat.not_lt.mp hlt) (listMin_le _ _ hmn _ hq)
      have h2 : (i : Rat) ≤ mx := listMax_ge _ _ hmx _ hq
      have hmx0 : (0 : Rat) ≤ mx := Rat.le_trans (Rat.le_trans (by decide) h1) h2
      have hfl : i ≤ mx.floor := Rat.le_floor_iff.mpr h2
      have hi1 : (1 : Int) ≤ i := by exact_mod_cast h1
      rw [truncRat_of_nonneg mx hmx0] at hnteq
      omega
    | flt r => simp [Cell.hasType] at htyped
    | bool b => simp [Cell.hasType] at htyped
    | str s => simp [Cell.hasType] at htyped
  have hpick : ∀ r ∈ (arrVal s a).data.map (fun c => match c with
        | .int i => (rowsOf nv (prod trail) v.data)[(i - 1).toNat]?.getD []
        | _ => []), r ∈ rowsOf nv (prod trail) v.data := by
    intro r hr
    simp only [List.mem_map] at hr
    obtain ⟨c, hc, rfl⟩ := hr
    obtain ⟨i, rfl, hi⟩ := hcell c hc
    simp only []
    have : (i - 1).toNat < (rowsOf nv (prod trail) v.data).length := by rw [rowsOf_length]; exact hi
    rw [List.getElem?_eq_getElem this, Option.getD_some]
    exact List.getElem_mem this
  constructor
  · simp only [prod]
    rw [length_flatten_const _ (prod trail) (fun r hr => rowsOf_width _ _ _ r (hpick r hr))]
    simp [hdlen]
  · intro c hc
    simp only [List.mem_flatten] at hc
    obtain ⟨r, hr, hcr⟩ := hc
    exact hv.2 c (rowsOf_mem _ _ _ hvlen r (hpick r hr) c hcr)

/-- what `prop(key, index, value)` wrote (the form `refines_propSet` is read off): a returning indexed write resolved the index against the
    column, passed the `atype` guard, and wrote the cast broadcast value through the column's array:
    exactly the rows `a.idx[sel.pos[j]]` of that one buffer change (later duplicates win), nothing else. -/
theorem propSet_wrote (o : Nat) (key : String) (ix : Index) (v : Val) (s : State) :
    Post (propSet o key (some ix) v) s (OrSame s fun _ s' =>
      ∃ a sel newRows, (s.obj o).find key = some a ∧ resolve a.idx.length ix = .ok sel ∧
        (key = "atype" → ∀ c ∈ v.data, CellGE1 c) ∧
        AssignedRows s a sel v newRows ∧ sel.oob = false ∧ Wrote s a sel newRows s') := by
  rcases propSet_cases o key ix v s with ⟨e, he⟩ | ⟨a, sel, hfind, hres, hguard, he⟩
  · exact Post.of_eq _ _ he rfl
  exact Post.of_run he (Post.mono (assign_wrote a sel v s) fun _ _ =>
    OrSame.mono fun _ _ ⟨newRows, hn, hoob, hw⟩ => ⟨a, sel, newRows, hfind, hres, hguard, hn, hoob, hw⟩)

theorem arrVal_congr (s st : State) (a : Arr) (h : st.buf a.buf = s.buf a.buf) : arrVal st a = arrVal s a := by
  simp [arrVal, arrDt, arrTrail, arrRows, h]

theorem AssignedRows.congr {s st : State} {a : Arr} {sel : Sel} {v : Val} {newRows : List Row}
    (h : AssignedRows st a sel v newRows) (hb : st.buf a.buf = s.buf a.buf) : AssignedRows s a sel v newRows := by
  obtain ⟨flat, cells, h1, h2, h3⟩ := h
  refine ⟨flat, cells, ?_, ?_, ?_⟩
  · simpa [assignShape, hb] using h1
  · simpa [hb] using h2
  · simpa [hb] using h3

/-- state of a loop of `assign` through `p.arr[sel]` over the properties of an object (`assign_loop` below) after the
    properties `done` were written: each of them reads its old rows
    overwritten at the selected positions by the rows of a value described by `Src`; every buffer that
    belongs to none of them is as it was. -/
structure AssignLoop (s : State) (sel : Sel) (Src : PropRef → Val → Prop) (done : List PropRef) (st : State) : Prop where
  objs : st.objs = s.objs
  syss : st.syss = s.syss
  heapLen : st.heap.length = s.heap.length
  other : ∀ b, (∀ p ∈ done, b ≠ p.arr.buf) → st.buf b = s.buf b
  shape : ∀ b, b < s.heap.length → (st.buf b).dt = (s.buf b).dt ∧ (st.buf b).trail = (s.buf b).trail
  cols : ∀ p ∈ done, ∃ v newRows, Src p v ∧ AssignedRows s p.arr sel v newRows ∧
    arrRows st p.arr = writeRows (arrRows s p.arr) (sel.pos.zip newRows)

theorem AssignLoop.init (s : State) (sel : Sel) (Src : PropRef → Val → Prop) : AssignLoop s sel Src [] s :=
  ⟨rfl, rfl, rfl, fun _ _ => rfl, fun _ _ => ⟨rfl, rfl⟩, fun p hp => by simp at hp⟩

/-- the loop rule: every turn either raises and changes nothing, or is ONE assignment through `p.arr[sel]` of a value described
    by `Src p` (`≥ 1` where `p` is `atype`).  Then the loop keeps the invariant, however far it gets, and a loop that returns
    has performed the record update column by column. -/
theorem assign_loop {κ : Nat → String} {s : State} (hinv : InvK κ s) (o : Nat) (sel : Sel) (hsel : SelOK sel)
    (hpos : ∀ p ∈ sel.pos, p < (s.obj o).natoms) (body : PropRef → M Unit) (Src : PropRef → Val → Prop)
    (hat : ∀ p v, Src p v → p.key = "atype" → sel.count = 0 ∨ ∀ c ∈ v.data, CellGE1 c)
    (hbody : ∀ (done : List PropRef) (p : PropRef) (rest : List PropRef), done ++ p :: rest = (s.obj o).props →
      ∀ st, AssignLoop s sel Src done st →
        (∃ e, body p st = (.error e, st)) ∨ ∃ v, Src p v ∧ body p st = assign p.arr sel v st) :
    Post (forEach (s.obj o).props body) s
      (fun r st' => Writes κ s st' ∧ (r = .ok () → AssignLoop s sel Src (s.obj o).props st')) := by
  refine post_forEach_prefix _ body (Writes κ s) (AssignLoop s sel Src) ?_ _ [] s rfl ⟨hinv, Ext.refl κ s, rfl, rfl⟩
    (AssignLoop.init s sel _)
  intro done p rest hsplit st hw hl
  have hpmem : p ∈ (s.obj o).props := by rw [← hsplit]; simp
  have hp0 := hinv.obj_props o p hpmem
  have hknew : p.key ∉ done.map (·.key) := by
    have hnd := hinv.obj_nodup o
    rw [← hsplit] at hnd
    simp only [List.map_append, List.map_cons] at hnd
    have := (List.nodup_append.mp hnd).2.2
    intro hc
    exact this _ hc _ (by simp) rfl
  have hdone : ∀ q ∈ done, PropOK κ s (s.obj o).natoms q := by
    intro q hq; exact hinv.obj_props o q (by rw [← hsplit]; simp [hq])
  -- distinct keys are filed in distinct buffers
  have hdisj : ∀ q ∈ done, q.arr.buf ≠ p.arr.buf := by
    intro q hq hc
    have : q.key = p.key := by rw [← (hdone q hq).key, hc, hp0.key]
    exact hknew (List.mem_map.mpr ⟨q, hq, this⟩)
  have hbuf_p : st.buf p.arr.buf = s.buf p.arr.buf := hl.other _ (fun q hq hc => hdisj q hq hc.symm)
  rcases hbody done p rest hsplit st hl with ⟨e, he⟩ | ⟨v, hsrc, he⟩
  · exact Post.of_eq _ _ he ⟨hw, fun hc => by cases hc⟩
  refine Post.of_run he ?_
  apply Post.mono (assign_step hw.inv p.arr sel v hsel (fun hκ => hat p v hsrc (hp0.key.symm.trans ((hw.ext.agree _ hp0.valid.1).symm.trans hκ))))
  intro r st1 h2
  cases r with
  | error e => obtain rfl : st1 = st := h2; exact ⟨hw, fun hc => by cases hc⟩
  | ok u =>
    obtain ⟨hstep, newRows, hn, _, hwr⟩ := h2
    refine ⟨hw.trans hstep, fun _ => ?_⟩
    have hn' := hn.congr hbuf_p
    have hvalid_st : ArrValid st p.arr := ⟨by rw [hl.heapLen]; exact hp0.valid.1, by rw [hbuf_p]; exact hp0.valid.2⟩
    have hposl : ∀ i ∈ sel.pos, i < p.arr.idx.length := by rw [hp0.len]; exact hpos
    have hrb := hwr.readback hvalid_st hp0.nodup hposl
    have hrows_p : arrRows st p.arr = arrRows s p.arr := by simp [arrRows, hbuf_p]
    refine ⟨hwr.objs.trans hl.objs, hwr.syss.trans hl.syss, hwr.heapLen.trans hl.heapLen, ?_, ?_, ?_⟩
    · intro b hb
      have hne : b ≠ p.arr.buf := hb p (by simp)
      rw [hwr.other b hne]
      exact hl.other b (fun q hq => hb q (by simp [hq]))
    · intro b hb
      by_cases hbp : b = p.arr.buf
      · subst hbp
        have := hwr.same (by rw [hl.heapLen]; exact hb)
        exact ⟨this.1.trans (hl.shape _ hb).1, this.2.1.trans (hl.shape _ hb).2⟩
      · rw [hwr.other b hbp]; exact hl.shape b hb
    · intro q hq
      simp only [List.mem_append, List.mem_singleton] at hq
      rcases hq with hq | rfl
      · obtain ⟨v', nr', h1, h2', h3⟩ := hl.cols q hq
        refine ⟨v', nr', h1, h2', ?_⟩
        rw [hwr.read q.arr (hdisj q hq)]
        exact h3
      · exact ⟨v, newRows, hsrc, hn', by rw [hrb, hrows_p]⟩

/-- **`atoms[index] = other`** keeps the invariant, however far its loop gets; and a returning `__setitem__` is, property
    by property, the record update "atom `sel.pos[j]` := atom `j` of the donor" (the donor's column as it was *before*
    the call, broadcast to the selection and cast to the target's dtype; later duplicates win); object tables and
    Systems are untouched and every buffer that belongs to no property of the target is unchanged. -/
theorem setItem_spec {κ : Nat → String} {s : State} (hinv : InvK κ s) (o : Nat) (ix : Index) (src : Nat) :
    Post (setItem o ix src) s (fun r s' => Kept κ s s' ∧ (r = .ok () →
      ∃ sel, resolve (s.obj o).natoms (atomsIndex ix) = .ok sel ∧ s'.objs = s.objs ∧ s'.syss = s.syss ∧
        (∀ p ∈ (s.obj o).props, ∃ a newRows, (s.obj src).find p.key = some a ∧
          AssignedRows s p.arr sel (arrVal s a) newRows ∧
          arrRows s' p.arr = writeRows (arrRows s p.arr) (sel.pos.zip newRows)) ∧
        (∀ c : Arr, (∀ p ∈ (s.obj o).props, c.buf ≠ p.arr.buf) → arrRows s' c = arrRows s c))) := by
  unfold setItem
  rw [post_bind_getS]
  simp only []
  split
  · exact ⟨Kept.refl hinv, fun hc => by cases hc⟩
  · rw [post_bind_liftE]
    cases hres : resolve (s.obj o).natoms (atomsIndex ix) with
    | error e => exact ⟨Kept.refl hinv, fun hc => by cases hc⟩
    | ok sel =>
      simp only []
      have hnd := hinv.obj_nodup o
      obtain ⟨hposs, hsel, _⟩ := resolve_spec _ _ _ hres
      have hloop := assign_loop hinv o sel hsel hposs
        (fun p => do
          let s' ← getS
          let a ← keyErr ((s'.obj src).find p.key)
          assign p.arr sel (arrVal s' a))
        (fun p v => ∃ a, (s.obj src).find p.key = some a ∧ v = arrVal s a)
        (fun p v ⟨a, hfind, hv⟩ hka => Or.inr (hv ▸ arrVal_ge1 ((hinv.find_ok src p.key a hfind).atype hka)))
        (by
          intro done p rest hsplit st hl
          have hobj : st.obj src = s.obj src := obj_congr hl.objs src
          cases hfind : (s.obj src).find p.key with
          | none =>
            refine Or.inl ⟨.key, ?_⟩
            show (keyErr ((st.obj src).find p.key) >>= _) st = _
            rw [hobj, hfind]; rfl
          | some a =>
            -- the donor's column is filed under `p.key`, the columns written so far under other keys
            have hbuf_a : st.buf a.buf = s.buf a.buf := hl.other _ (by
              intro q hq hc
              have hq0 := hinv.obj_props o q (by rw [← hsplit]; simp [hq])
              have hk : q.key = p.key := by rw [← hq0.key, ← hc, (hinv.find_ok src p.key a hfind).key]
              rw [← hsplit] at hnd
              simp only [List.map_append, List.map_cons] at hnd
              exact (List.nodup_append.mp hnd).2.2 _ (List.mem_map.mpr ⟨q, hq, rfl⟩) _ (by simp) hk)
            refine Or.inr ⟨arrVal s a, ⟨a, rfl, rfl⟩, ?_⟩
            show (keyErr ((st.obj src).find p.key) >>= _) st = _
            rw [hobj, hfind, ← arrVal_congr s st a hbuf_a]; rfl)
      apply Post.mono hloop
      intro r s' ⟨hw, hq⟩
      refine ⟨hw.kept, fun hr => ?_⟩
      have hl := hq hr
      refine ⟨sel, rfl, hl.objs, hl.syss, ?_, ?_⟩
      · intro p hp
        obtain ⟨v, newRows, ⟨a, hfind, rfl⟩, hn, hrows⟩ := hl.cols p hp
        exact ⟨a, newRows, hfind, hn, hrows⟩
      · intro c hc
        simp [arrRows, hl.other c.buf hc]

theorem propGet_none_eq (o : Nat) (key : String) (s : State) (a : Arr) (h : (s.obj o).find key = some a) :
    propGet o key none s = (.ok (arrVal s a), s) := by
  apply eq_of_post
  unfold propGet
  rw [post_bind_getS, post_bind_keyErr, h]
  exact ⟨rfl, rfl⟩

end Atomman.C06
