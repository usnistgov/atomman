/-
  C09 — text: blanks and `strip`, the split points of `set_literal` (tried from the right), the literal reader (`readLit`: a
  complete value followed by a blank and more text is refused) — what `set_literal_value_unit` rests on — and the model's
  renderer (`render_renders`: it writes the ordinary grammar).  First, a fact about `numLit` that nothing else here needs:
  a numeral contains no blank (`numLit_none_of_ws`).
-/
import Atomman.C09
import Mathlib.Tactic.Common

namespace Atomman.C09

theorem mem_tw_dw (p : Char → Bool) (l : List Char) (c : Char) (h : c ∈ l) (hp : p c = false) :
    c ∈ l.dropWhile p := by
  have := List.takeWhile_append_dropWhile (p := p) (l := l)
  rw [← this] at h
  rcases List.mem_append.mp h with h | h
  · have h2 := List.all_eq_true.mp (List.all_takeWhile (p := p) (l := l)) c h
    rw [hp] at h2; cases h2
  · exact h

theorem ws_not_digit {c : Char} (h : isWs c = true) : isDigit c = false := by
  simp only [isWs, Bool.or_eq_true, decide_eq_true_eq] at h
  rcases h with ((rfl | rfl) | rfl) | rfl <;> decide

theorem mem_dropMinus {c : Char} {cs : List Char} (h : c ∈ cs) (hc : c ≠ '-') : c ∈ dropMinus cs := by
  unfold dropMinus
  split
  · exact List.mem_of_ne_of_mem hc h
  · exact h

theorem mem_dropSign {c : Char} {cs : List Char} (h : c ∈ cs) (h1 : c ≠ '-') (h2 : c ≠ '+') : c ∈ dropSign cs := by
  unfold dropSign
  split
  · exact List.mem_of_ne_of_mem h1 h
  · exact List.mem_of_ne_of_mem h2 h
  · exact h

theorem mem_fracPart {c : Char} {r1 : List Char} (h : c ∈ r1) (h1 : c ≠ '.') (hd : isDigit c = false) :
    c ∈ (fracPart r1).2 := by
  unfold fracPart
  split
  · exact mem_tw_dw _ _ _ (List.mem_of_ne_of_mem h1 h) hd
  · exact h

theorem numLit_none_of_ws (cs : List Char) (c : Char) (hc : c ∈ cs) (hw : isWs c = true) : numLit cs = none := by
  have hd := ws_not_digit hw
  have hne : c ≠ '-' ∧ c ≠ '+' ∧ c ≠ '.' ∧ c ≠ 'e' ∧ c ≠ 'E' := by
    simp only [isWs, Bool.or_eq_true, decide_eq_true_eq] at hw
    rcases hw with ((rfl | rfl) | rfl) | rfl <;> decide
  obtain ⟨n1, n2, n3, n4, n5⟩ := hne
  have h2 : c ∈ (fracPart ((dropMinus cs).dropWhile isDigit)).2 :=
    mem_fracPart (mem_tw_dw _ _ _ (mem_dropMinus hc n1) hd) n3 hd
  unfold numLit
  simp only
  generalize (fracPart ((dropMinus cs).dropWhile isDigit)).2 = r2 at h2
  split
  · rfl
  · cases r2 with
    | nil => cases h2
    | cons e r3 =>
      simp only
      split
      · rename_i he
        have hce : c ≠ e := by
          simp only [Bool.or_eq_true, decide_eq_true_eq] at he
          rcases he with rfl | rfl
          · exact n4
          · exact n5
        have h4 := mem_dropSign (List.mem_of_ne_of_mem hce h2) n1 n2
        have : (dropSign r3).all isDigit = false := by
          rw [List.all_eq_false]
          exact ⟨c, h4, by simp [hd]⟩
        simp [this]
      · rfl

def allWs (s : List Char) : Prop := ∀ c ∈ s, isWs c = true
def noWs (s : List Char) : Prop := ∀ c ∈ s, isWs c = false

def rstrip (s : List Char) : List Char := (s.reverse.dropWhile isWs).reverse

theorem strip_eq (s : List Char) : strip s = rstrip (s.dropWhile isWs) := rfl

theorem rstrip_append_ws (a b : List Char) (hb : allWs b) : rstrip (a ++ b) = rstrip a := by
  unfold rstrip
  rw [List.reverse_append, List.dropWhile_append_of_pos fun x hx => hb x (List.mem_reverse.mp hx)]

theorem rstrip_snoc (a : List Char) (c : Char) (hc : isWs c = false) : rstrip (a ++ [c]) = a ++ [c] := by
  unfold rstrip
  simp [List.reverse_append, hc]

theorem rstrip_noWs (v : List Char) (hv : noWs v) : rstrip v = v := by
  rcases List.eq_nil_or_concat v with rfl | ⟨a, c, rfl⟩
  · rfl
  · rw [List.concat_eq_append]
    exact rstrip_snoc a c (hv c (by simp))

theorem strip_ws_prefix (b s : List Char) (hb : allWs b) : strip (b ++ s) = strip s := by
  rw [strip_eq, strip_eq, List.dropWhile_append_of_pos hb]

theorem last_nonws (w : List Char) :
    allWs w ∨ ∃ w1 c w2, w = w1 ++ c :: w2 ∧ isWs c = false ∧ allWs w2 := by
  induction w with
  | nil => left; intro c hc; cases hc
  | cons a w ih =>
    rcases ih with h | ⟨w1, c, w2, rfl, hc, h2⟩
    · by_cases ha : isWs a = true
      · exact .inl (List.forall_mem_cons.mpr ⟨ha, h⟩)
      · right
        exact ⟨[], a, w, rfl, by simpa using ha, h⟩
    · right
      exact ⟨a :: w1, c, w2, rfl, hc, h2⟩

theorem rstrip_length_le (s : List Char) : (rstrip s).length ≤ s.length := by
  unfold rstrip
  simp only [List.length_reverse]
  have := (List.dropWhile_sublist isWs (l := s.reverse)).length_le
  simpa using this

theorem head_of_strip {v : List Char} (hs : strip v = v) (hne : v ≠ []) : ∃ c r, v = c :: r ∧ isWs c = false := by
  cases v with
  | nil => exact absurd rfl hne
  | cons c r =>
    refine ⟨c, r, rfl, ?_⟩
    cases hw : isWs c with
    | false => rfl
    | true =>
      exfalso
      have h1 : (strip (c :: r)).length ≤ r.length := by
        rw [strip_eq]
        simp only [List.dropWhile_cons, hw, if_true]
        exact Nat.le_trans (rstrip_length_le _) (List.dropWhile_sublist _).length_le
      rw [hs] at h1
      simp only [List.length_cons] at h1
      omega

theorem rstrip_of_strip {v : List Char} (hs : strip v = v) (hne : v ≠ []) : rstrip v = v := by
  obtain ⟨c, r, rfl, hc⟩ := head_of_strip hs hne
  rw [strip_eq] at hs
  simpa [List.dropWhile_cons, hc] using hs

theorem dropWhile_of_strip {v : List Char} (hs : strip v = v) (hne : v ≠ []) (x : List Char) :
    (v ++ x).dropWhile isWs = v ++ x := by
  obtain ⟨c, r, rfl, hc⟩ := head_of_strip hs hne
  simp [hc]

theorem strip_append_ws {v : List Char} (hs : strip v = v) (hne : v ≠ []) (b : List Char) (hb : allWs b) :
    strip (v ++ b) = v := by
  rw [strip_eq, dropWhile_of_strip hs hne, rstrip_append_ws _ _ hb, rstrip_of_strip hs hne]

theorem strip_value_more {v : List Char} (hs : strip v = v) (hne : v ≠ []) (x : List Char) (hx : ¬ allWs x) :
    ∃ x', (∃ c ∈ x', isWs c = false) ∧ (∀ c ∈ x', c ∈ x) ∧ strip (v ++ ' ' :: x) = v ++ ' ' :: x' := by
  rcases last_nonws x with h | ⟨x1, c, x2, rfl, hc, h2⟩
  · exact absurd h hx
  · refine ⟨x1 ++ [c], ⟨c, by simp, hc⟩, by intro d hd; simp at hd ⊢; tauto, ?_⟩
    rw [strip_eq, dropWhile_of_strip hs hne]
    have : v ++ ' ' :: (x1 ++ c :: x2) = ((v ++ ' ' :: x1) ++ [c]) ++ x2 := by simp
    rw [this, rstrip_append_ws _ _ h2, rstrip_snoc _ _ hc]
    simp

theorem strip_noWs {v : List Char} (hv : noWs v) : strip v = v := by
  cases v with
  | nil => rfl
  | cons c r =>
    rw [strip_eq, List.dropWhile_cons_of_neg (by simp [hv c (List.mem_cons_self ..)]), rstrip_noWs _ hv]

theorem strip_word_ws (v b : List Char) (hv : noWs v) (hne : v ≠ []) (hb : allWs b) : strip (v ++ b) = v :=
  strip_append_ws (strip_noWs hv) hne b hb

theorem strip_interior (v x : List Char) (hv : noWs v) (hne : v ≠ []) (hx : ¬ allWs x) :
    ' ' ∈ strip (v ++ ' ' :: x) := by
  obtain ⟨x', -, -, e⟩ := strip_value_more (strip_noWs hv) hne x hx
  simp [e]

theorem findSome_of {α β : Type} (g : α → Option β) (t : β) (L : List α)
    (h1 : ∀ j ∈ L, g j = none ∨ g j = some t) (h2 : ∃ j ∈ L, g j = some t) : L.findSome? g = some t := by
  induction L with
  | nil => obtain ⟨j, hj, _⟩ := h2; cases hj
  | cons a L ih =>
    rw [List.findSome?_cons]
    rcases h1 a (List.mem_cons_self ..) with h | h
    · rw [h]
      apply ih (fun j hj => h1 j (List.mem_cons_of_mem _ hj))
      obtain ⟨j, hj, hg⟩ := h2
      rcases List.mem_cons.mp hj with rfl | hj
      · rw [h] at hg; cases hg
      · exact ⟨j, hj, hg⟩
    · rw [h]

theorem mem_splitPoints (term : List Char) (j : Nat) :
    j ∈ splitPoints term ↔ j = term.length ∨ (j < term.length ∧ term[j]? = some ' ') := by
  simp [splitPoints, List.mem_filter, List.mem_range]

theorem findSome_first {β : Type} (g : Nat → Option β) (t : β) (n : Nat) (L : List Nat)
    (hp : L.Pairwise (· > ·)) (hn : n ∈ L) (hgn : g n = some t)
    (hgt : ∀ j ∈ L, n < j → g j = none ∨ g j = some t) : L.findSome? g = some t := by
  induction L with
  | nil => cases hn
  | cons a L ih =>
    rw [List.findSome?_cons]
    rcases List.mem_cons.mp hn with rfl | hn'
    · rw [hgn]
    · have ha : n < a := (List.pairwise_cons.mp hp).1 n hn'
      rcases hgt a (List.mem_cons_self ..) ha with h | h
      · rw [h]
        exact ih (List.pairwise_cons.mp hp).2 hn' (fun j hj => hgt j (List.mem_cons_of_mem _ hj))
      · rw [h]

theorem splitPoints_pairwise (term : List Char) : (splitPoints term).Pairwise (· > ·) := by
  unfold splitPoints
  simp only
  rw [List.pairwise_cons]
  constructor
  · intro j hj
    rw [List.mem_reverse, List.mem_filter, List.mem_range] at hj
    exact hj.1
  · rw [List.pairwise_reverse]
    exact List.Pairwise.filter _ (List.pairwise_lt_range)

theorem foldlM_append_bind {α β : Type} (f : β → α → Option β) (b : β) (l1 l2 : List α) :
    (l1 ++ l2).foldlM f b = (l1.foldlM f b).bind fun b' => l2.foldlM f b' := by
  simp [List.foldlM_append]

theorem tok_after_ws (v : List Char) (ts : List LTok) (h : litToks v = some ts) :
    (v ++ [' ']).foldlM tokStep ([], []) = some ([], ts.reverse) := by
  obtain ⟨st, hst, h⟩ := Option.bind_eq_some_iff.mp h
  obtain ⟨out, hout, rfl⟩ := Option.map_eq_some_iff.mp h
  have hd : isLitDelim ' ' = true := by decide
  have hdt : delimTok ' ' = [] := by decide
  rw [foldlM_append_bind, hst]
  simp [List.foldlM, tokStep, hd, hout, hdt]

theorem tokFlush_spec {st : TokSt} {out : List LTok} (h : tokFlush st = some out) :
    ∃ m0, out = m0 ++ st.2 ∧ (st.1 ≠ [] → ∃ t ∈ m0, t ≠ LTok.nl) ∧ LTok.comma ∉ m0 := by
  unfold tokFlush at h
  split at h
  · rename_i he
    cases h
    exact ⟨[], rfl, fun hne => absurd (List.isEmpty_iff.mp he) hne, List.not_mem_nil⟩
  · obtain ⟨me, -, rfl⟩ := Option.map_eq_some_iff.mp h
    exact ⟨[.num me.1 me.2], rfl, fun _ => ⟨_, List.mem_cons_self .., nofun⟩, by simp⟩

theorem mem_ite_singleton {α : Type} {p : Prop} [Decidable p] {a x : α} {l : List α}
    (h : a ∈ if p then [x] else l) : a = x ∨ a ∈ l := by
  split at h
  · exact .inl (List.mem_singleton.mp h)
  · exact .inr h

theorem comma_of_mem_delimTok {c : Char} (h : LTok.comma ∈ delimTok c) : c = ',' := by
  by_contra hc
  rw [delimTok, if_neg hc] at h
  -- the five remaining conditionals each give one token, none of them the comma
  iterate 5
    rcases mem_ite_singleton h with h | h
    · cases h
  cases h

theorem delimTok_of_nonws {c : Char} (hd : isLitDelim c = true) (hw : isWs c = false) :
    ∃ t ∈ delimTok c, t ≠ LTok.nl := by
  simp only [isLitDelim, hw, Bool.false_or, Bool.or_eq_true, decide_eq_true_eq] at hd
  rcases hd with (((rfl | rfl) | rfl) | rfl) | rfl <;> exact ⟨_, List.mem_cons_self .., nofun⟩

/-- from any state, more characters only add tokens (or fail); a pending word or a non-blank character adds at
    least one. -/
theorem tok_grows (x : List Char) : ∀ (st : TokSt) (res : List LTok),
    (x.foldlM tokStep st).bind tokFlush = some res →
    ∃ more, res = more ++ st.2 ∧ ((st.1 ≠ [] ∨ ∃ c ∈ x, isWs c = false) → ∃ t ∈ more, t ≠ LTok.nl) ∧
      (',' ∉ x → LTok.comma ∉ more) := by
  induction x with
  | nil =>
    intro st res h
    obtain ⟨m0, rfl, hm0, hm0c⟩ := tokFlush_spec (st := st) h
    refine ⟨m0, rfl, ?_, fun _ => hm0c⟩
    rintro (h1 | ⟨_, hc, _⟩)
    · exact hm0 h1
    · cases hc
  | cons c x ih =>
    intro st res h
    simp only [List.foldlM_cons, Option.bind_eq_bind, Option.bind_assoc] at h
    obtain ⟨st', hs, h⟩ := Option.bind_eq_some_iff.mp h
    obtain ⟨more, hres, hmore, hnc⟩ := ih st' res h
    have hnc' : ',' ∉ c :: x → LTok.comma ∉ more := fun hcx => hnc fun h => hcx (List.mem_cons_of_mem _ h)
    unfold tokStep at hs
    split at hs
    · -- a delimiter: the pending word is flushed, then the delimiter's own token
      rename_i hd
      obtain ⟨out, hf, rfl⟩ := Option.map_eq_some_iff.mp hs
      obtain ⟨m0, rfl, hm0, hm0c⟩ := tokFlush_spec hf
      refine ⟨more ++ delimTok c ++ m0, by simp [hres], ?_, fun hcx => ?_⟩
      · rintro (h1 | ⟨c', hc', hcw⟩)
        · obtain ⟨t, ht, hn⟩ := hm0 h1
          exact ⟨t, by simp [ht], hn⟩
        · rcases List.mem_cons.mp hc' with rfl | hc'
          · obtain ⟨t, ht, hn⟩ := delimTok_of_nonws hd hcw
            exact ⟨t, by simp [ht], hn⟩
          · obtain ⟨t, ht, hn⟩ := hmore (Or.inr ⟨c', hc', hcw⟩)
            exact ⟨t, by simp [ht], hn⟩
      · have h2 : LTok.comma ∉ delimTok c := fun h => hcx (comma_of_mem_delimTok h ▸ List.mem_cons_self ..)
        simp [hnc' hcx, h2, hm0c]
    · -- one more character of the pending word
      cases hs
      exact ⟨more, hres, fun _ => hmore (Or.inl (List.cons_ne_nil _ _)), hnc'⟩
theorem litToks_extend (v x : List Char) (ts : List LTok) (h : litToks v = some ts) (hx : ∃ c ∈ x, isWs c = false)
    (hcomma : ',' ∉ x)
    (res : List LTok) (hr : litToks (v ++ ' ' :: x) = some res) :
    ∃ more, (∃ t ∈ more, t ≠ LTok.nl) ∧ LTok.comma ∉ more ∧ res = ts ++ more := by
  have e : v ++ ' ' :: x = (v ++ [' ']) ++ x := by simp
  unfold litToks at hr
  rw [e, foldlM_append_bind, tok_after_ws v ts h, Option.bind_some] at hr
  obtain ⟨st, hst, hr⟩ := Option.bind_eq_some_iff.mp hr
  obtain ⟨out, hout, rfl⟩ := Option.map_eq_some_iff.mp hr
  obtain ⟨more, hres, hmore, hnc⟩ := tok_grows x ([], ts.reverse) out (by rw [hst]; exact hout)
  refine ⟨more.reverse, ?_, by simpa using hnc hcomma, by simp [hres]⟩
  obtain ⟨t, ht, hn⟩ := hmore (Or.inr hx)
  exact ⟨t, by simpa using ht, hn⟩

theorem exists_ne_nl_tail {ts : List LTok} (h : ∃ t ∈ LTok.nl :: ts, t ≠ LTok.nl) : ∃ t ∈ ts, t ≠ LTok.nl :=
  let ⟨t, ht, hn⟩ := h
  ⟨t, List.mem_of_ne_of_mem hn ht, hn⟩

/-- once the expression is closed (`([], some x)`: a line break outside brackets), only line breaks may follow. -/
theorem foldlM_popped (ts : List LTok) (x : Lit) (h : ∃ t ∈ ts, t ≠ LTok.nl) :
    ts.foldlM parStep ([], some x) = none := by
  induction ts with
  | nil => obtain ⟨t, ht, _⟩ := h; cases ht
  | cons t ts ih =>
    simp only [List.foldlM_cons]
    cases t with
    | nl =>
      have : parStep ([], some x) .nl = some ([], some x) := rfl
      rw [this]
      simp only [Option.bind_eq_bind, Option.bind_some]
      exact ih (exists_ne_nl_tail h)
    | num | lopen | lclose | comma => rfl

/-- after a text that ended on an item, tokens without a comma (and not only line breaks) lead nowhere. -/
theorem par_extend (more : List LTok) (x : Lit) (hne : ∃ t ∈ more, t ≠ LTok.nl) (hc : LTok.comma ∉ more) (fr : Frame) :
    parEnd (more.foldlM parStep ([fr], some x)) = none := by
  cases more with
  | nil => obtain ⟨t, ht, _⟩ := hne; cases ht
  | cons t more =>
    simp only [List.foldlM_cons]
    cases t with
    | num | lopen | lclose => rfl
    | comma => exact absurd (List.mem_cons_self ..) hc
    | nl =>
      have hstep : parStep ([fr], some x) .nl = (parFinish fr (some x)).map fun r => ([], some r.1) := by
        simp [parStep]
      rw [hstep]
      cases hfin : parFinish fr (some x) with
      | none => rfl
      | some r =>
        simp only [Option.map_some, Option.bind_eq_bind, Option.bind_some]
        rw [foldlM_popped more r.1 (exists_ne_nl_tail hne)]
        rfl

theorem parEnd_item (st : Option ParSt) (lit : Lit) (h : parEnd st = some (lit, true)) :
    (∃ fr x, st = some ([fr], some x)) ∨ (∃ x, st = some ([], some x)) := by
  cases st with
  | none => cases h
  | some s =>
    obtain ⟨stack, cur⟩ := s
    cases stack with
    | nil =>
      cases cur with
      | none => cases h
      | some x => exact Or.inr ⟨x, rfl⟩
    | cons fr stack =>
      cases stack with
      | cons _ _ => cases h
      | nil =>
        cases cur with
        | some x => exact Or.inl ⟨fr, x, rfl⟩
        | none =>
          exfalso
          have h' : parFinish fr none = some (lit, true) := h
          simp only [parFinish] at h'
          split at h'
          · split at h' <;> cases h'
          · cases h'

theorem readLit_extend (v x : List Char) (lit : Lit) (h : readLitCore v = some (lit, true))
    (hx : ∃ c ∈ x, isWs c = false) (hcomma : ',' ∉ x) : readLit (v ++ ' ' :: x) = none := by
  unfold readLit
  unfold readLitCore at h ⊢
  obtain ⟨ts, hts, h⟩ := Option.bind_eq_some_iff.mp h
  cases hr : litToks (v ++ ' ' :: x) with
  | none => rfl
  | some res =>
    obtain ⟨more, hne, hnc, rfl⟩ := litToks_extend v x ts hts hx hcomma res hr
    simp only [Option.bind_some]
    rw [foldlM_append_bind]
    -- the tokens of `v` left the parser on an item; what follows is refused in either state
    rcases parEnd_item _ lit h with ⟨fr, y, hst⟩ | ⟨y, hst⟩
    · rw [hst, Option.bind_some, par_extend more y hne hnc fr]
      rfl
    · rw [hst, Option.bind_some, foldlM_popped more y hne]
      rfl

theorem readLit_nil : readLitCore [] = none := by decide

/-- the leaves of a tree are tokens `parse` can read back. -/
def LeavesOK : Expr → Prop
  | .num l => validNum l
  | .name n => validName n
  | .mul a b => LeavesOK a ∧ LeavesOK b
  | .div a b => LeavesOK a ∧ LeavesOK b
  | .pow a b => LeavesOK a ∧ LeavesOK b

theorem renders_le {e : Expr} {l l' : Nat} {s : List Char} (h : Renders e l s) (hl : l ≤ l') : Renders e l' s := by
  induction hl with
  | refl => exact h
  | step _ ih => exact ih.up

theorem renders_wsL {e : Expr} {l : Nat} {s : List Char} (h : Renders e l s) (w : List Char) (hw : allWs w) :
    Renders e l (w ++ s) := by
  induction w with
  | nil => exact h
  | cons c w ih =>
    exact Renders.wsL c (hw c (List.mem_cons_self ..)) (ih (fun x hx => hw x (List.mem_cons_of_mem _ hx)))

theorem renders_wsR {e : Expr} {l : Nat} {s : List Char} (h : Renders e l s) (w : List Char) (hw : allWs w) :
    Renders e l (s ++ w) := by
  induction w generalizing s with
  | nil => simpa using h
  | cons c w ih =>
    have h1 := Renders.wsR c (hw c (List.mem_cons_self ..)) h
    have h2 := ih h1 (fun x hx => hw x (List.mem_cons_of_mem _ hx))
    simpa using h2

theorem renders_paren_pad {e : Expr} {l : Nat} {s : List Char} (h : Renders e l s) (w : List Char) (hw : allWs w)
    (k : Nat) : Renders e k (w ++ '(' :: s ++ ')' :: w) := by
  have h1 : Renders e 0 ('(' :: (s ++ [')'])) := Renders.paren h
  have h2 := renders_wsR (renders_wsL h1 w hw) w hw
  have : w ++ '(' :: (s ++ [')']) ++ w = w ++ '(' :: s ++ ')' :: w := by simp
  rw [this] at h2
  exact renders_le h2 (Nat.zero_le _)

/-- a binary node as `render` writes it: bare where the level allows, else in padded parentheses. -/
theorem renders_node {e : Expr} {l : Nat} {s : List Char} (h : Renders e l s) (w : List Char) (hw : allWs w)
    (lvl : Nat) : Renders e lvl (if l ≤ lvl then s else w ++ '(' :: s ++ ')' :: w) := by
  split
  · exact renders_le h ‹_›
  · exact renders_paren_pad h w hw lvl

/-- the model's renderer (minimal parentheses, the blank string `w` around every token and parenthesis group)
    writes the tree in the ordinary grammar. -/
theorem render_renders (w : List Char) (hw : allWs w) : ∀ (e : Expr) (lvl : Nat), LeavesOK e →
    Renders e lvl (render w lvl e)
  | .num l, lvl, h => by
    simp only [render]
    exact renders_le (renders_wsR (renders_wsL (Renders.num l h) w hw) w hw) (Nat.zero_le _)
  | .name n, lvl, h => by
    simp only [render]
    exact renders_le (renders_wsR (renders_wsL (Renders.name n h) w hw) w hw) (Nat.zero_le _)
  | .mul a b, lvl, h =>
    renders_node (Renders.mul (render_renders w hw a 2 h.1) (render_renders w hw b 1 h.2)) w hw lvl
  | .div a b, lvl, h =>
    renders_node (Renders.div (render_renders w hw a 2 h.1) (render_renders w hw b 1 h.2)) w hw lvl
  | .pow a b, lvl, h =>
    renders_node (Renders.pow (render_renders w hw a 1 h.1) (render_renders w hw b 0 h.2)) w hw lvl

end Atomman.C09
