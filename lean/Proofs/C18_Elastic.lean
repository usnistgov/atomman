/-
  C18 — the elastic term of `SDVPN` as a symmetric bilinear form of the dislocation density (`elasticB` as a double
  `Finset` sum), its invariance under a rigid shift, and the `[m, n, ξ]` frame of the constructor.
-/
import Proofs.C18_Lemmas
import Mathlib.Algebra.BigOperators.Ring.Finset

namespace Atomman.C18
open Atomman
set_option linter.unusedSectionVars false

variable {K : Type} [Field K] [LinearOrder K] [IsStrictOrderedRing K]

theorem psi_neg (lg : K → K) (dx : K) (d : Int) : psi lg dx (-d) = psi lg dx d := by
  unfold psi
  by_cases h : d = 0
  · simp [h]
  · simp only [neg_eq_zero, h, if_false, Int.natAbs_neg, Int.cast_neg]; ring

theorem chi_symm (lg : K → K) (dx : K) (i j : Int) : chi lg dx i j = chi lg dx j i := by
  unfold chi
  have e1 : (i - 1) - (j - 1) = -((j - 1) - (i - 1)) := by ring
  have e2 : i - j = -(j - i) := by ring
  rw [e1, e2, psi_neg, psi_neg]; ring

theorem kform_symm (Kt : M3 K) (hK : Kt.transpose = Kt) (a b : V3 K) : kform Kt a b = kform Kt b a := by
  rw [kform, kform, M3.dot_vecMul, M3.mulVec_eq_vecMul, hK, V3.dot_comm]

theorem kform_add_left (Kt : M3 K) (a a' b : V3 K) : kform Kt (a + a') b = kform Kt a b + kform Kt a' b := by
  rw [kform, M3.vecMul_add, V3.dot_comm, V3.dot_add, V3.dot_comm b, V3.dot_comm b]; rfl

theorem kform_smul_left (Kt : M3 K) (c : K) (a b : V3 K) : kform Kt (V3.smul c a) b = c * kform Kt a b := by
  rw [kform, M3.vecMul_smul, V3.dot_smul_left]; rfl

theorem elasticB_eq (lg : K → K) (pi dx : K) (Kt : M3 K) (n : Nat) (ρ σ : Nat → V3 K) :
    elasticB lg pi dx Kt n ρ σ =
      (∑ i ∈ Finset.range n, ∑ j ∈ Finset.range n, chi lg dx (i : Int) (j : Int) * kform Kt (ρ i) (σ j)) / (4 * pi) := by
  simp only [elasticB, sumTo_eq_sum, div_eq_mul_inv, Finset.sum_mul, Nat.cast_ofNat]

theorem elasticB_symm (lg : K → K) (pi dx : K) (Kt : M3 K) (hK : Kt.transpose = Kt) (n : Nat) (ρ σ : Nat → V3 K) :
    elasticB lg pi dx Kt n ρ σ = elasticB lg pi dx Kt n σ ρ := by
  rw [elasticB_eq, elasticB_eq, Finset.sum_comm]
  refine congrArg (· / (4 * pi)) (Finset.sum_congr rfl fun i _ => Finset.sum_congr rfl fun j _ => ?_)
  rw [chi_symm, kform_symm Kt hK]

theorem elasticB_add_left (lg : K → K) (pi dx : K) (Kt : M3 K) (n : Nat) (ρ ρ' σ : Nat → V3 K) :
    elasticB lg pi dx Kt n (fun i => ρ i + ρ' i) σ = elasticB lg pi dx Kt n ρ σ + elasticB lg pi dx Kt n ρ' σ := by
  simp only [elasticB_eq, kform_add_left, mul_add, Finset.sum_add_distrib, add_div]

theorem elasticB_smul_left (lg : K → K) (pi dx : K) (Kt : M3 K) (n : Nat) (c : K) (ρ σ : Nat → V3 K) :
    elasticB lg pi dx Kt n (fun i => V3.smul c (ρ i)) σ = c * elasticB lg pi dx Kt n ρ σ := by
  simp only [elasticB_eq, kform_smul_left, mul_left_comm _ c, ← Finset.mul_sum, mul_div_assoc]

/-- the elastic term is a **symmetric quadratic form of the dislocation density**: `Q ρ = B ρ ρ` with `B`
    symmetric (for a symmetric energy-coefficient tensor) and linear in its first (hence each) argument —
    for every `log`, `π`, `Δx`. -/
theorem elastic_symmetric_quadratic (lg : K → K) (pi dx : K) (Kt : M3 K) (hK : Kt.transpose = Kt) (n : Nat) :
    (∀ ρ : List (V3 K), elasticOfDensity lg pi dx Kt ρ
        = elasticB lg pi dx Kt ρ.length (fun i => ρ.getD i v3zero) (fun i => ρ.getD i v3zero)) ∧
    (∀ ρ σ : Nat → V3 K, elasticB lg pi dx Kt n ρ σ = elasticB lg pi dx Kt n σ ρ) ∧
    (∀ ρ ρ' σ : Nat → V3 K, elasticB lg pi dx Kt n (fun i => ρ i + ρ' i) σ
        = elasticB lg pi dx Kt n ρ σ + elasticB lg pi dx Kt n ρ' σ) ∧
    (∀ (c : K) (ρ σ : Nat → V3 K), elasticB lg pi dx Kt n (fun i => V3.smul c (ρ i)) σ
        = c * elasticB lg pi dx Kt n ρ σ) :=
  ⟨fun _ => rfl, elasticB_symm lg pi dx Kt hK n, elasticB_add_left lg pi dx Kt n, elasticB_smul_left lg pi dx Kt n⟩

theorem elastic_polarization (lg : K → K) (pi dx : K) (Kt : M3 K) (hK : Kt.transpose = Kt) (n : Nat) (ρ σ : Nat → V3 K) :
    elasticB lg pi dx Kt n (fun i => ρ i + σ i) (fun i => ρ i + σ i)
      = elasticB lg pi dx Kt n ρ ρ + elasticB lg pi dx Kt n σ σ + 2 * elasticB lg pi dx Kt n ρ σ := by
  rw [elasticB_add_left, elasticB_symm lg pi dx Kt hK n ρ, elasticB_symm lg pi dx Kt hK n σ,
    elasticB_add_left, elasticB_add_left, elasticB_symm lg pi dx Kt hK n σ ρ]
  ring

/-- scaling the density by `c` scales the elastic term by `c²`, on the density as a list (the form `elastic_energy` computes). -/
theorem elastic_scaling (lg : K → K) (pi dx : K) (Kt : M3 K) (hK : Kt.transpose = Kt) (c : K) (ρ : List (V3 K)) :
    elasticOfDensity lg pi dx Kt (ρ.map (V3.smul c)) = c * c * elasticOfDensity lg pi dx Kt ρ := by
  have hg : ∀ i, (ρ.map (V3.smul c)).getD i v3zero = V3.smul c (ρ.getD i v3zero) :=
    fun i => getD_map_of_eq _ ρ i (by simp [v3zero, V3.smul])
  simp only [elasticOfDensity, hg, List.length_map]
  rw [elasticB_smul_left, elasticB_symm lg pi dx Kt hK, elasticB_smul_left, mul_assoc]

/-- the dislocation density is a difference quotient of the disregistry, so a rigid shift of the disregistry leaves it unchanged
    (either finite-difference option); the elastic term follows (`elastic_shift_invariant`). -/
theorem density_shift_invariant (cdiff : Bool) (x : List K) (d : List (V3 K)) (c : V3 K) :
    disldensity cdiff x (d.map (· + c)) = disldensity cdiff x d := by
  unfold disldensity
  simp only [← List.map_drop, List.zipWith_map]
  congr 2
  funext a b
  exact V3.add_sub_add_right a b c

theorem elastic_shift_invariant (lg : K → K) (pi : K) (Kt : M3 K) (cdiff : Bool) (x : List K) (d : List (V3 K))
    (c : V3 K) : elasticEnergy lg pi Kt cdiff x (d.map (· + c)) = elasticEnergy lg pi Kt cdiff x d := by
  unfold elasticEnergy
  rw [density_shift_invariant]

/-- the long-range bilinear form is frame independent for an orthogonal `M`: `(M a)·((M K Mᵀ)(M b)) = (M a)·(M (K b)) = a·(K b)`.
    `M3.one` is by definition the literal identity written out in `frameK_symmetric`. -/
theorem kform_frame (M Kv : M3 K) (hM : M3.mul M.transpose M = M3.one) (a b : V3 K) :
    kform (frameK M Kv) (frameB M a) (frameB M b) = kform Kv a b := by
  rw [kform, kform, M3.dot_vecMul, M3.dot_vecMul, frameK, ← M3.mul_assoc, frameB, frameB, M3.mulVec_conj_of_orth hM,
    M3.dot_mulVec_of_orth hM]

/-- the energy-coefficient tensor stays symmetric in the `[m, n, ξ]` frame (for ANY `M`), so the hypothesis of
    `elastic_symmetric_quadratic` is met by the object's tensor whenever the Volterra solution's is symmetric;
    and the long-range quadratic form is frame independent for an orthogonal `M` (`Mᵀ M = 1`). -/
theorem frameK_symmetric (M Kv : M3 K) (hK : Kv.transpose = Kv) :
    (frameK M Kv).transpose = frameK M Kv ∧
    (M3.mul M.transpose M = ⟨⟨1, 0, 0⟩, ⟨0, 1, 0⟩, ⟨0, 0, 1⟩⟩ → ∀ b : V3 K, kform (frameK M Kv) (frameB M b) (frameB M b) = kform Kv b b) := by
  constructor
  · rw [frameK, M3.transpose_mul, M3.transpose_mul, hK]
    exact M3.mul_assoc M Kv M.transpose
  · exact fun hM b => kform_frame M Kv hM b b

end Atomman.C18
