/-
  C18 — the coordinate conversions of `GammaSurface` (fractional ↔ Cartesian ↔ plotting) as solves in the basis
  `[A1, A2, A1 × A2]` resp. the plotting transform, their guards, the query forms of `E_gsf`, independence of the unit of
  length, and the data-model record (round trip, units, reload).
-/
import Proofs.C18_Lemmas
import Mathlib.Tactic.FieldSimp
import Mathlib.Tactic.LinearCombination

namespace Atomman.C18
open Atomman
set_option linter.unusedSectionVars false

variable {K : Type} [Field K] [LinearOrder K] [IsStrictOrderedRing K]

theorem det_basis (A1 A2 : V3 K) :
    M3.det ⟨A1, A2, V3.cross A1 A2⟩ = V3.normSq (V3.cross A1 A2) := M3.det_rotate' ⟨A1, A2, _⟩

theorem det_basis_ne (A1 A2 : V3 K) (h : V3.cross A1 A2 ≠ v3zero) : M3.det ⟨A1, A2, V3.cross A1 A2⟩ ≠ 0 := by
  rw [det_basis]; exact ne_of_gt (V3.normSq_pos _ h)

theorem a12ToPos_eq (A1 A2 : V3 K) (a : K × K) :
    a12ToPos A1 A2 a = M3.vecMul ⟨a.1, a.2, 0⟩ ⟨A1, A2, V3.cross A1 A2⟩ := by
  simp only [a12ToPos, M3.vecMul, V3.smul]
  ext <;> simp only [add_x, add_y, add_z] <;> ring

/-- `posToA123` solves the system: `p` has these coordinates in the basis `[A1, A2, A1 × A2]` … -/
theorem vecMul_posToA123 (A1 A2 : V3 K) (h : V3.cross A1 A2 ≠ v3zero) (p : V3 K) :
    M3.vecMul (posToA123 A1 A2 p) ⟨A1, A2, V3.cross A1 A2⟩ = p :=
  M3.vecMul_inv_cancel' p _ (det_basis_ne A1 A2 h)

/-- … and they are the only ones: to compute `posToA123` of a position, exhibit its coordinates. -/
theorem posToA123_unique (A1 A2 : V3 K) (h : V3.cross A1 A2 ≠ v3zero) (a p : V3 K)
    (e : M3.vecMul a ⟨A1, A2, V3.cross A1 A2⟩ = p) : posToA123 A1 A2 p = a := by
  rw [← e, posToA123, M3.vecMul_inv_cancel _ _ (det_basis_ne A1 A2 h)]

theorem posToA123_a12ToPos (A1 A2 : V3 K) (h : V3.cross A1 A2 ≠ v3zero) (a : K × K) :
    posToA123 A1 A2 (a12ToPos A1 A2 a) = ⟨a.1, a.2, 0⟩ :=
  posToA123_unique A1 A2 h _ _ (a12ToPos_eq A1 A2 a).symm

theorem posToA123_z (A1 A2 pos : V3 K) :
    (posToA123 A1 A2 pos).z = V3.dot pos (V3.cross A1 A2) / M3.det ⟨A1, A2, V3.cross A1 A2⟩ := by
  simp only [posToA123, M3.vecMul, M3.inv, V3.dot]
  ring

theorem a12ToPos_posToA12 (A1 A2 : V3 K) (h : V3.cross A1 A2 ≠ v3zero) (pos : V3 K)
    (hp : V3.dot pos (V3.cross A1 A2) = 0) :
    a12ToPos A1 A2 (posToA12 A1 A2 pos) = pos := by
  have hz : (posToA123 A1 A2 pos).z = 0 := by rw [posToA123_z, hp, zero_div]
  rw [a12ToPos_eq]
  have : (⟨(posToA12 A1 A2 pos).1, (posToA12 A1 A2 pos).2, 0⟩ : V3 K) = posToA123 A1 A2 pos := by
    ext <;> simp [posToA12, hz]
  rw [this, vecMul_posToA123 A1 A2 h]

theorem inPlaneOk_of_z_zero (A1 A2 a : V3 K) (hz : a.z = 0) : inPlaneOk A1 A2 a = true := by
  simp only [inPlaneOk, hz, mul_zero, zero_mul, decide_eq_true_eq]
  exact mul_nonneg (mul_nonneg (mul_self_nonneg _) (mul_self_nonneg _)) (mul_nonneg (mul_self_nonneg _) (mul_self_nonneg _))

theorem abs_le_iff_fourth (u v : K) (hv : 0 ≤ v) : |u| ≤ v ↔ (u * u) * (u * u) ≤ (v * v) * (v * v) := by
  rw [mul_self_le_mul_self_iff (abs_nonneg u) hv, mul_self_le_mul_self_iff (mul_self_nonneg _) (mul_self_nonneg v),
    abs_mul_abs_self]

/-- the root-free out-of-plane test is the source's `|a3'| ≤ 1e-6 · max(1, |a1|, |a2|)` with `a3' = a3 · rn`, for any `rn` with
    `rn⁴ = |A1 × A2|²`. -/
theorem inPlaneOk_iff (A1 A2 a : V3 K) (rn : K) (h4 : (rn * rn) * (rn * rn) = V3.dot (V3.cross A1 A2) (V3.cross A1 A2)) :
    inPlaneOk A1 A2 a = true ↔ absK (a.z * rn) ≤ tolPlane * maxK 1 (maxK (absK a.x) (absK a.y)) := by
  have hM : (0 : K) ≤ tolPlane * maxK 1 (maxK (absK a.x) (absK a.y)) :=
    mul_nonneg (by unfold tolPlane; positivity) (zero_le_one.trans (le_maxK_left _ _))
  rw [absK_eq, abs_le_iff_fourth _ _ hM, inPlaneOk, decide_eq_true_eq, ← h4]
  generalize maxK 1 (maxK (absK a.x) (absK a.y)) = M
  rw [mul_mul_mul_comm a.z rn, mul_mul_mul_comm (a.z * a.z) (rn * rn), mul_mul_mul_comm tolPlane M,
    mul_mul_mul_comm (tolPlane * tolPlane) (M * M)]

theorem tolPlane_eq : (tolPlane : K) = ((1 : Nat) : K) / ((1000000 : Nat) : K) := by rw [Nat.cast_one]; rfl

/-- fractional ↔ Cartesian: mutual inverses whenever `A1 × A2 ≠ 0`; the out-of-plane assertion of
    `pos_to_a12` passes on every position produced by `a12_to_pos`. -/
theorem a12_pos_inverse (A1 A2 : V3 K) (h : V3.cross A1 A2 ≠ v3zero) :
    (∀ a : K × K, posToA12? A1 A2 (a12ToPos A1 A2 a) = some a) ∧
    (∀ pos : V3 K, V3.dot pos (V3.cross A1 A2) = 0 → a12ToPos A1 A2 (posToA12 A1 A2 pos) = pos) := by
  refine ⟨fun a => ?_, fun pos hp => a12ToPos_posToA12 A1 A2 h pos hp⟩
  unfold posToA12?
  simp only [posToA123_a12ToPos A1 A2 h a]
  rw [if_pos (inPlaneOk_of_z_zero A1 A2 _ rfl)]

/-- `a12_pos_inverse` for arrays of positions. -/
theorem a12_pos_inverse_many (A1 A2 : V3 K) (h : V3.cross A1 A2 ≠ v3zero) :
    (∀ l : List (K × K), (l.map (a12ToPos A1 A2)).mapM (posToA12? A1 A2) = some l) ∧
    (∀ ps : List (V3 K), (∀ p ∈ ps, V3.dot p (V3.cross A1 A2) = 0) →
      (ps.map (posToA12 A1 A2)).map (a12ToPos A1 A2) = ps) := by
  refine ⟨mapM_map_eq_some _ _ (a12_pos_inverse A1 A2 h).1, fun ps hps => ?_⟩
  rw [List.map_map]
  exact map_eq_self _ ps (fun p hp => (a12_pos_inverse A1 A2 h).2 p (hps p hp))

theorem xvectOk_of_perp (X Nh : V3 K) (h0 : V3.dot X Nh = 0) (hX : X ≠ v3zero) : xvectOk X Nh = true := by
  have hp : 0 < V3.dot X X := V3.normSq_pos X hX
  simp only [xvectOk, h0, mul_zero, Bool.and_eq_true, decide_eq_true_eq]
  exact ⟨mul_nonneg (mul_self_nonneg _) hp.le, hp⟩

/-- the determinant of the plotting transform is `|N × X|² / (nx ny nz)`, written out by Lagrange's identity. -/
theorem det_xyTransform (X Nh : V3 K) (nx ny nz : K) :
    M3.det (xyTransform X Nh nx ny nz) = (V3.normSq Nh * V3.normSq X - V3.dot X Nh * V3.dot X Nh) / (nx * ny * nz) := by
  simp only [xyTransform, M3.det, V3.dot, V3.cross, V3.map, V3.normSq]
  ring

theorem det_xyTransform_ne (X Nh : V3 K) (nx ny nz : K) (hx : nx ≠ 0) (hy : ny ≠ 0) (hz : nz ≠ 0)
    (hperp : V3.dot X Nh = 0) (hX : X ≠ v3zero) (hN : Nh ≠ v3zero) :
    M3.det (xyTransform X Nh nx ny nz) ≠ 0 := by
  rw [det_xyTransform, hperp, mul_zero, sub_zero]
  exact div_ne_zero (mul_pos (V3.normSq_pos Nh hN) (V3.normSq_pos X hX)).ne' (mul_ne_zero (mul_ne_zero hx hy) hz)

theorem posToXY_xyToPos (T : M3 K) (h : M3.det T ≠ 0) (q : K × K) : posToXY T (xyToPos T q) = q := by
  have := M3.mulVec_inv_cancel' ⟨q.1, q.2, 0⟩ T h
  unfold posToXY xyToPos
  have hx := congrArg V3.x this
  have hy := congrArg V3.y this
  ext
  · exact hx
  · exact hy

theorem xyToPos_posToXY (T : M3 K) (h : M3.det T ≠ 0) (pos : V3 K) (hp : V3.dot T.r2 pos = 0) :
    xyToPos T (posToXY T pos) = pos := by
  unfold posToXY xyToPos
  have : (⟨V3.dot T.r0 pos, V3.dot T.r1 pos, 0⟩ : V3 K) = M3.mulVec T pos := by
    simp only [M3.mulVec, hp]
  simp only [this]
  exact M3.mulVec_inv_cancel pos T h

/-- Cartesian ↔ plotting coordinates: mutual inverses for every in-plane x axis `X ≠ 0`, every
    non-zero plane normal and every non-zero value of the three row normalisations. -/
theorem pos_xy_inverse (X Nh : V3 K) (nx ny nz : K) (hx : nx ≠ 0) (hy : ny ≠ 0) (hz : nz ≠ 0)
    (hperp : V3.dot X Nh = 0) (hX : X ≠ v3zero) (hN : Nh ≠ v3zero) :
    (∀ q : K × K, posToXY (xyTransform X Nh nx ny nz) (xyToPos (xyTransform X Nh nx ny nz) q) = q) ∧
    (∀ pos : V3 K, V3.dot Nh pos = 0 →
      xyToPos (xyTransform X Nh nx ny nz) (posToXY (xyTransform X Nh nx ny nz) pos) = pos) := by
  have hdet := det_xyTransform_ne X Nh nx ny nz hx hy hz hperp hX hN
  refine ⟨fun q => posToXY_xyToPos _ hdet q, fun pos hp => xyToPos_posToXY _ hdet pos ?_⟩
  show V3.dot (Nh.map (· / nz)) pos = 0
  rw [V3.dot_comm, dot_map_div, V3.dot_comm, hp, zero_div]

theorem pos_xy_inverse_many (X Nh : V3 K) (nx ny nz : K) (hx : nx ≠ 0) (hy : ny ≠ 0) (hz : nz ≠ 0)
    (hperp : V3.dot X Nh = 0) (hX : X ≠ v3zero) (hN : Nh ≠ v3zero) :
    (∀ l : List (K × K), (l.map (xyToPos (xyTransform X Nh nx ny nz))).map (posToXY (xyTransform X Nh nx ny nz)) = l) ∧
    (∀ ps : List (V3 K), (∀ p ∈ ps, V3.dot Nh p = 0) →
      (ps.map (posToXY (xyTransform X Nh nx ny nz))).map (xyToPos (xyTransform X Nh nx ny nz)) = ps) := by
  obtain ⟨h1, h2⟩ := pos_xy_inverse X Nh nx ny nz hx hy hz hperp hX hN
  constructor
  · intro l
    rw [List.map_map]
    exact map_eq_self _ l (fun q _ => h1 q)
  · intro ps hps
    rw [List.map_map]
    exact map_eq_self _ ps (fun p hp => h2 p (hps p hp))

/-- the plane normal of the model is perpendicular to the default x axis `A1` (so the guard of
    `pos_to_xy` passes) and non-zero for a non-degenerate basis. -/
theorem planeNormal_perp (A1 A2 : V3 K) (nn : K) (hnn : nn ≠ 0) (h : V3.cross A1 A2 ≠ v3zero) :
    V3.dot A1 (planeNormal A1 A2 nn) = 0 ∧ V3.dot A2 (planeNormal A1 A2 nn) = 0 ∧ planeNormal A1 A2 nn ≠ v3zero := by
  refine ⟨?_, ?_, ?_⟩
  · rw [planeNormal, dot_map_div, V3.dot_cross_left, zero_div]
  · rw [planeNormal, dot_map_div, V3.dot_cross_right, zero_div]
  · intro e
    apply h
    simp only [planeNormal, V3.map, v3zero, V3.mk.injEq, div_eq_zero_iff, hnn, or_false] at e
    exact V3.ext e.1 e.2.1 e.2.2

theorem a12ToPos_inplane (A1 A2 : V3 K) (nn : K) (a : K × K) :
    V3.dot (planeNormal A1 A2 nn) (a12ToPos A1 A2 a) = 0 := by
  rw [a12ToPos, V3.dot_add, V3.dot_smul_right, V3.dot_smul_right, V3.dot_comm _ A1, V3.dot_comm _ A2, planeNormal, dot_map_div,
    dot_map_div, V3.dot_cross_left, V3.dot_cross_right, zero_div, mul_zero, mul_zero, add_zero]

theorem left_ne_zero_of_cross (A1 A2 : V3 K) (h : V3.cross A1 A2 ≠ v3zero) : A1 ≠ v3zero := by
  intro e; apply h; rw [e]; simp [V3.cross, v3zero]

/-- with the default x axis, or any in-plane non-zero one, the guard passes and `pos_to_xy` / `xy_to_pos` are mutual inverses
    on the positions of the plane. -/
theorem xy_api_inverse (A1 A2 : V3 K) (nn nx ny nz : K) (hnn : nn ≠ 0) (hx : nx ≠ 0) (hy : ny ≠ 0) (hz : nz ≠ 0)
    (h : V3.cross A1 A2 ≠ v3zero) (xv : Option (V3 K))
    (hxv : ∀ X, xv = some X → V3.dot X (planeNormal A1 A2 nn) = 0 ∧ X ≠ v3zero) :
    (∀ q : K × K, ∃ p, xyToPosApi A1 A2 nn nx ny nz xv q = some p ∧ posToXYApi A1 A2 nn nx ny nz xv p = some q) ∧
    (∀ pos : V3 K, V3.dot (planeNormal A1 A2 nn) pos = 0 →
      ∃ q, posToXYApi A1 A2 nn nx ny nz xv pos = some q ∧ xyToPosApi A1 A2 nn nx ny nz xv q = some pos) := by
  obtain ⟨p1, _, p3⟩ := planeNormal_perp A1 A2 nn hnn h
  have hX : V3.dot (xyDefaultX A1 xv) (planeNormal A1 A2 nn) = 0 ∧ xyDefaultX A1 xv ≠ v3zero := by
    cases xv with
    | none => exact ⟨p1, left_ne_zero_of_cross A1 A2 h⟩
    | some X => exact hxv X rfl
  obtain ⟨i1, i2⟩ := pos_xy_inverse (xyDefaultX A1 xv) (planeNormal A1 A2 nn) nx ny nz hx hy hz hX.1 hX.2 p3
  simp only [xyToPosApi, posToXYApi, xvectOk_of_perp _ _ hX.1 hX.2, if_true, Option.some.injEq, exists_eq_left']
  exact ⟨i1, i2⟩

/-- with the DEFAULT x axis (`xvect=None`, the Cartesian `a1vect`) the in-plane guard passes in both directions
    and `pos_to_xy` / `xy_to_pos` are mutual inverses — in any cell (`A1`, `A2` are arbitrary non-parallel
    Cartesian vectors: hexagonal, monoclinic, triclinic, rotated), for any non-zero normalisations. -/
theorem xy_default_inverse (A1 A2 : V3 K) (nn nx ny nz : K) (hnn : nn ≠ 0) (hx : nx ≠ 0) (hy : ny ≠ 0) (hz : nz ≠ 0)
    (h : V3.cross A1 A2 ≠ v3zero) :
    (∀ q : K × K, ∃ p, xyToPosApi A1 A2 nn nx ny nz none q = some p ∧ posToXYApi A1 A2 nn nx ny nz none p = some q) ∧
    (∀ a : K × K, ∃ q, posToXYApi A1 A2 nn nx ny nz none (a12ToPos A1 A2 a) = some q ∧
      xyToPosApi A1 A2 nn nx ny nz none q = some (a12ToPos A1 A2 a)) := by
  obtain ⟨i1, i2⟩ := xy_api_inverse A1 A2 nn nx ny nz hnn hx hy hz h none (fun X e => nomatch e)
  exact ⟨i1, fun a => i2 _ (a12ToPos_inplane A1 A2 nn a)⟩

/-- **a position given in fractional, Cartesian or plotting coordinates is accepted interchangeably**: the same
    physical point `a1 A1 + a2 A2` asked for as `pos=` or as `x=, y=` (default axis, or any in-plane axis `X`)
    yields the value at `(a1, a2)` — for every function `gam` of the fractional coordinates (`E_gsf`, `delta`). -/
theorem E_interchangeable (gam : K → K → K) (A1 A2 : V3 K) (nn nx ny nz : K) (hnn : nn ≠ 0) (hx : nx ≠ 0)
    (hy : ny ≠ 0) (hz : nz ≠ 0) (h : V3.cross A1 A2 ≠ v3zero) (a : K × K) :
    EofQuery gam A1 A2 nn nx ny nz (.a12 a) = some (gam a.1 a.2) ∧
    EofQuery gam A1 A2 nn nx ny nz (.pos (a12ToPos A1 A2 a)) = some (gam a.1 a.2) ∧
    (∀ xv : Option (V3 K), (∀ X, xv = some X → V3.dot X (planeNormal A1 A2 nn) = 0 ∧ X ≠ v3zero) →
      ∃ q, posToXYApi A1 A2 nn nx ny nz xv (a12ToPos A1 A2 a) = some q ∧
        EofQuery gam A1 A2 nn nx ny nz (.xy q xv) = some (gam a.1 a.2)) := by
  have hp := (a12_pos_inverse A1 A2 h).1 a
  refine ⟨rfl, ?_, fun xv hxv => ?_⟩
  · simp only [EofQuery, Query.toA12?, hp, Option.map_some]
  · obtain ⟨q, h1, h2⟩ := (xy_api_inverse A1 A2 nn nx ny nz hnn hx hy hz h xv hxv).2 _ (a12ToPos_inplane A1 A2 nn a)
    exact ⟨q, h1, by simp only [EofQuery, Query.toA12?, h2, Option.bind_some, hp, Option.map_some]⟩

/-- fractional coordinates relative to another basis of the same plane (`a1vect=`, `a2vect=` keywords):
    with `B1 = m11 A1 + m12 A2`, `B2 = m21 A1 + m22 A2` the query `(a1, a2)` is the surface's own
    `(a1 m11 + a2 m21, a1 m12 + a2 m22)` and is never refused. -/
theorem E_other_basis (A1 A2 : V3 K) (h : V3.cross A1 A2 ≠ v3zero) (m11 m12 m21 m22 : K) (a : K × K) :
    otherBasisToA12? A1 A2 (V3.smul m11 A1 + V3.smul m12 A2) (V3.smul m21 A1 + V3.smul m22 A2) a
      = some (a.1 * m11 + a.2 * m21, a.1 * m12 + a.2 * m22) := by
  have e : a12ToPos (V3.smul m11 A1 + V3.smul m12 A2) (V3.smul m21 A1 + V3.smul m22 A2) a
      = a12ToPos A1 A2 (a.1 * m11 + a.2 * m21, a.1 * m12 + a.2 * m22) := by
    simp only [a12ToPos, V3.smul]
    ext <;> simp only [add_x, add_y, add_z] <;> ring
  unfold otherBasisToA12?
  rw [e]
  exact (a12_pos_inverse A1 A2 h).1 _

/-- with the `a1vect=` / `a2vect=` keywords the three kinds of query stay interchangeable: the Cartesian position of
    the fractional point `(a1, a2)` of the OTHER basis, queried by `pos=` with the same keywords, is reduced to the same
    own coordinates as the fractional query — `(a1 m11 + a2 m21, a1 m12 + a2 m22)` for a basis of the same plane. -/
theorem E_interchangeable_other (A1 A2 : V3 K) (h : V3.cross A1 A2 ≠ v3zero) (m11 m12 m21 m22 nn nx ny nz : K) (a : K × K) :
    let B1 := V3.smul m11 A1 + V3.smul m12 A2
    let B2 := V3.smul m21 A1 + V3.smul m22 A2
    (Query.pos (a12ToPos B1 B2 a)).toA12Other? A1 A2 B1 B2 nn nx ny nz = (Query.a12 a).toA12Other? A1 A2 B1 B2 nn nx ny nz ∧
    (Query.a12 a).toA12Other? A1 A2 B1 B2 nn nx ny nz = some (a.1 * m11 + a.2 * m21, a.1 * m12 + a.2 * m22) :=
  ⟨rfl, E_other_basis A1 A2 h m11 m12 m21 m22 a⟩

/-- 4-index (Miller-Bravais) shift vectors `[u v t w]` with `u + v + t = 0` are accepted by `set()` and stand for
    `u a₁ + v a₂ + t a₃ + w c` with `a₃ = -(a₁ + a₂)`, for ANY cell rows `a₁, a₂, c`. -/
theorem vec4to3_spec (u v t w : K) (B : M3 K) (h : u + v + t = 0) :
    ∃ r, vec4to3? u v t w = some r ∧
      cartOf r B = V3.smul u B.r0 + V3.smul v B.r1 + V3.smul t (-(B.r0 + B.r1)) + V3.smul w B.r2 := by
  have ht : t = -(u + v) := by linear_combination h
  refine ⟨⟨two * u + v, two * v + u, w⟩, ?_, ?_⟩
  · unfold vec4to3?
    rw [if_pos (by rw [h, absK_eq, abs_zero]; exact tolA_pos.le)]
  · subst ht
    simp only [cartOf, M3.vecMul, V3.smul, two_eq]
    ext <;> simp only [add_x, add_y, add_z, neg_x, neg_y, neg_z] <;> ring

/-- scaling `A1`, `A2`, `p` by `s` scales the third basis vector `A1 × A2` by `s²`, so the in-plane coefficients are
    unchanged and the out-of-plane one is divided by `s`; `inPlaneOk` compares `a.z⁴ |A1 × A2|²` with its tolerance, which is
    invariant under exactly this pair of changes (`inPlaneOk_scale`). -/
theorem posToA123_scale (s : K) (hs : s ≠ 0) (A1 A2 p : V3 K) (h : V3.cross A1 A2 ≠ v3zero) :
    posToA123 (V3.smul s A1) (V3.smul s A2) (V3.smul s p)
      = ⟨(posToA123 A1 A2 p).x, (posToA123 A1 A2 p).y, (posToA123 A1 A2 p).z / s⟩ := by
  have hc : V3.cross (V3.smul s A1) (V3.smul s A2) ≠ v3zero := by
    rw [V3.cross_smul]; exact v3smul_ne_zero _ (mul_ne_zero hs hs) _ h
  have hp := vecMul_posToA123 A1 A2 h p
  generalize posToA123 A1 A2 p = a at hp ⊢
  -- `s p` has the coefficients `(a.x, a.y, a.z / s)` in the scaled basis, whose third vector is `s² (A1 × A2)`
  apply posToA123_unique _ _ hc
  have k : ∀ t : K, a.z / s * (s * s * t) = s * (a.z * t) := fun t => by field_simp
  rw [V3.cross_smul, ← hp]
  ext <;> simp only [M3.vecMul, V3.smul, k] <;> ring

theorem inPlaneOk_scale (s : K) (hs : s ≠ 0) (A1 A2 a : V3 K) :
    inPlaneOk (V3.smul s A1) (V3.smul s A2) ⟨a.x, a.y, a.z / s⟩ = inPlaneOk A1 A2 a := by
  have e : ∀ q : K, ((a.z / s * (a.z / s)) * (a.z / s * (a.z / s))) * (s * s * (s * s * q)) = ((a.z * a.z) * (a.z * a.z)) * q := by
    intro q; field_simp
  simp only [inPlaneOk, V3.cross_smul, V3.dot_smul_left, V3.dot_smul_right, e]

theorem xvectOk_scale (s : K) (hs : s ≠ 0) (X Nh : V3 K) : xvectOk (V3.smul s X) Nh = xvectOk X Nh := by
  have hss : 0 < s * s := mul_self_pos.mpr hs
  have e1 : V3.dot (V3.smul s X) Nh * V3.dot (V3.smul s X) Nh = (s * s) * (V3.dot X Nh * V3.dot X Nh) := by
    rw [V3.dot_smul_left]; ring
  have e2 : V3.dot (V3.smul s X) (V3.smul s X) = (s * s) * V3.dot X X := by
    rw [V3.dot_smul_left, V3.dot_smul_right, mul_assoc]
  simp only [xvectOk, e1, e2, mul_left_comm (tolA * tolA) (s * s), mul_le_mul_iff_right₀ hss, mul_pos_iff_of_pos_left hss]

/-- **the guards and the conversions do not depend on the unit of length**: scaling the whole geometry (shift vectors,
    positions, plotting axis) by any `s ≠ 0` changes neither what `pos_to_a12` accepts nor the fractional coordinates it
    returns, nor what the x-axis guard accepts, nor the plane normal. -/
theorem guards_scale_free (s : K) (hs : s ≠ 0) (A1 A2 : V3 K) (h : V3.cross A1 A2 ≠ v3zero) :
    (∀ p, posToA12? (V3.smul s A1) (V3.smul s A2) (V3.smul s p) = posToA12? A1 A2 p) ∧
    (∀ X Nh, xvectOk (V3.smul s X) Nh = xvectOk X Nh) ∧
    (∀ nn, planeNormal (V3.smul s A1) (V3.smul s A2) (s * s * nn) = planeNormal A1 A2 nn) := by
  refine ⟨fun p => ?_, fun X Nh => xvectOk_scale s hs X Nh, fun nn => ?_⟩
  · simp only [posToA12?, posToA123_scale s hs A1 A2 p h, inPlaneOk_scale s hs]
  · have hss : s * s ≠ 0 := mul_ne_zero hs hs
    rw [planeNormal, V3.cross_smul]
    simp only [planeNormal, V3.smul, V3.map]
    ext <;> simp only <;> rw [mul_div_mul_left _ _ hss]

/-- data-model round trip: writing the record with unit factors and reading it back is the identity. -/
theorem model_roundtrip (ue ul : K) (hue : ue ≠ 0) (hul : ul ≠ 0) (g : GsfRecord K) :
    ofModel ue ul (toModel ue ul g) = g := by
  obtain ⟨box, v1, v2, a1, a2, e, delta⟩ := g
  cases delta <;>
    simp only [ofModel, toModel, Option.map_some, Option.map_none, map_div_mul_cancel _ hue, map_div_mul_cancel _ hul]

theorem toModel_ofModel (ue ul : K) (hue : ue ≠ 0) (hul : ul ≠ 0) (r : GsfRecord K) :
    toModel ue ul (ofModel ue ul r) = r := by
  obtain ⟨box, v1, v2, a1, a2, e, delta⟩ := r
  cases delta <;>
    simp only [ofModel, toModel, Option.map_some, Option.map_none, map_mul_div_cancel _ hue, map_mul_div_cancel _ hul]

set_option linter.unusedVariables false in
/-- **the working units change between `model()` and `model(model=)`**: a record written while the named units were worth
    `(ue₁, ul₁)` working units and read while they are worth `(ue₂, ul₂)` holds every energy times `ue₂/ue₁` and every
    plane separation times `ul₂/ul₁` -- i.e. expressed in the record's NAMED units it is what was written; fractions,
    shift vectors and box (stored without unit) are unchanged.  Nothing of the first conversion may survive. -/
theorem model_units_switch (ue1 ul1 ue2 ul2 : K) (h1 : ue1 ≠ 0) (h2 : ul1 ≠ 0) (h3 : ue2 ≠ 0) (h4 : ul2 ≠ 0) (g : GsfRecord K) :
    toModel ue2 ul2 (ofModel ue2 ul2 (toModel ue1 ul1 g)) = toModel ue1 ul1 g ∧
    (ofModel ue2 ul2 (toModel ue1 ul1 g)).e = g.e.map (· * (ue2 / ue1)) ∧
    (ofModel ue2 ul2 (toModel ue1 ul1 g)).delta = g.delta.map (fun d => d.map (· * (ul2 / ul1))) ∧
    (ofModel ue2 ul2 (toModel ue1 ul1 g)).a1 = g.a1 ∧ (ofModel ue2 ul2 (toModel ue1 ul1 g)).a2 = g.a2 ∧
    (ofModel ue2 ul2 (toModel ue1 ul1 g)).box = g.box ∧ (ofModel ue2 ul2 (toModel ue1 ul1 g)).a1vect = g.a1vect ∧
    (ofModel ue2 ul2 (toModel ue1 ul1 g)).a2vect = g.a2vect := by
  refine ⟨toModel_ofModel ue2 ul2 h3 h4 _, ?_, ?_, rfl, rfl, rfl, rfl, rfl⟩ <;>
    simp only [ofModel, toModel, List.map_map, Option.map_map, Function.comp_def, div_mul_eq_mul_div, mul_div_assoc]

theorem GObj.run_append_set (o : GObj K) (ops : List (GOp K)) (r : GsfRecord K) : o.run (ops ++ [.set r]) = ⟨r⟩ := by
  simp only [GObj.run, List.foldl_append, List.foldl_cons, List.foldl_nil, GObj.apply]

/-- **last load wins, nothing is remembered**: after ANY history of loads, `set(r)` — or reading back the model that
    `⟨r⟩.model(units)` wrote, with any non-zero unit factors — leaves the object in exactly the state of a fresh
    `GammaSurface` built from `r`.  Hence every query (conversions, fit nodes, cushions, `E_gsf`, `delta`) of the
    reloaded object is the query of a fresh object (a memoised basis / fit / cushion in the implementation would violate
    this). -/
theorem gamma_reload_state (o : GObj K) (ops : List (GOp K)) (r : GsfRecord K) (ue ul : K) (hue : ue ≠ 0) (hul : ul ≠ 0) :
    o.run (ops ++ [.set r]) = ⟨r⟩ ∧
    o.run (ops ++ [.loadModel ue ul (GObj.model ue ul ⟨r⟩)]) = ⟨r⟩ := by
  refine ⟨o.run_append_set ops r, ?_⟩
  simp only [GObj.run, List.foldl_append, List.foldl_cons, List.foldl_nil, GObj.apply, GObj.model, model_roundtrip ue ul hue hul]

/-- on the reloaded object `pos_to_a12` undoes `a12_to_pos` (one or many positions) with respect to the NEW shift vectors and box,
    whatever was loaded and queried before. -/
theorem gamma_reload_conversions (o : GObj K) (ops : List (GOp K)) (r : GsfRecord K)
    (h : V3.cross (cartOf r.a1vect r.box) (cartOf r.a2vect r.box) ≠ v3zero) :
    let o' := o.run (ops ++ [.set r])
    (∀ a : K × K, o'.posToA12? (o'.a12ToPos a) = some a) ∧
    (∀ l : List (K × K), (l.map o'.a12ToPos).mapM o'.posToA12? = some l) ∧
    (∀ a : K × K, o'.a12ToPos a = a12ToPos (cartOf r.a1vect r.box) (cartOf r.a2vect r.box) a) := by
  simp only [GObj.run_append_set]
  exact ⟨(a12_pos_inverse _ _ h).1, (a12_pos_inverse_many _ _ h).1, fun a => rfl⟩

end Atomman.C18
