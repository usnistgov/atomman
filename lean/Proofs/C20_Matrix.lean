/- C20 — the Taylor clause of the generated integrators written with `n × n` matrices and `mulVec`; a module of its own
   so that `C20_Integrators` and what rests on it import no matrix theory. -/
import Proofs.C20_Integrators
import Mathlib.LinearAlgebra.Matrix.ToLin

namespace Atomman.C20
open Atomman.Gen

section matrixform
variable {K : Type} [Field K] [CharZero K]

/-- the Taylor clause of `euler_linear` spelled out for `n × n` matrices of every `n`. -/
theorem euler_matrix (n : Nat) (A : Matrix (Fin n) (Fin n) K) (y : Fin n → K) (h : K) :
    euler (fun v => A.mulVec v) y h = y + h • A.mulVec y := by
  simpa only [Matrix.mulVecLin_apply] using euler_linear (Matrix.mulVecLin A) y h

/-- the Taylor clause of `rk4_linear` for `n × n` matrices of every `n`, written with matrix powers. -/
theorem rk4_matrix (n : Nat) (A : Matrix (Fin n) (Fin n) K) (y : Fin n → K) (h : K) :
    rungekutta (fun v => A.mulVec v) y h
      = ((1 : Matrix (Fin n) (Fin n) K) + h • A + (h ^ 2 / 2) • A ^ 2 + (h ^ 3 / 6) • A ^ 3 + (h ^ 4 / 24) • A ^ 4).mulVec y := by
  have := rk4_linear (Matrix.mulVecLin A) y h
  simp only [Matrix.mulVecLin_apply] at this
  rw [this]
  simp only [Matrix.add_mulVec, Matrix.smul_mulVec, Matrix.one_mulVec, pow_succ, pow_zero, one_mul,
    Matrix.mulVec_mulVec, mul_assoc]

example : rungekutta (fun v => (!![0, 1; -1, 0] : Matrix (Fin 2) (Fin 2) ℚ).mulVec v) (![1, 0] : Fin 2 → ℚ) (1 / 2 : ℚ)
    = ![337 / 384, -23 / 48] := by
  decide +kernel

end matrixform

end Atomman.C20
