/-
  C01_Scale — the same cell in another unit of length (`scaleBox s b`: every cell vector and the origin times `s`), and the cosine
  `angleCos` that `vect_angle` computes.  The failing-input search evaluates its clauses for very large and very small cells on the
  exactly rescaled cell: these theorems are what makes that the same clause.
-/
import Proofs.C01_Lemmas
import Mathlib.Algebra.Order.Field.Basic
import Mathlib.Tactic.FieldSimp

namespace Atomman.C01
open Atomman
set_option linter.unusedSectionVars false

variable {K : Type} [Field K] [LinearOrder K] [IsStrictOrderedRing K]

/-- `scaleV` is the scalar multiple of `Proofs/Linear3.lean`, whose lemmas (`V3.dot_smul_left`, `V3.cross_smul`, …) apply through this. -/
theorem scaleV_eq_smul (s : K) (v : V3 K) : scaleV s v = V3.smul s v := rfl
theorem scaleM_eq_smul (s : K) (m : M3 K) : scaleM s m = M3.smul s m := rfl

theorem dot_scale (s t : K) (u v : V3 K) : V3.dot (scaleV s u) (scaleV t v) = s * t * V3.dot u v := by
  rw [scaleV_eq_smul, scaleV_eq_smul, V3.dot_smul_left, V3.dot_smul_right, mul_assoc]

theorem scale_lengths_sq (s : K) (b : Box K) :
    a2 (scaleBox s b) = s * s * a2 b ∧ b2 (scaleBox s b) = s * s * b2 b ∧ c2 (scaleBox s b) = s * s * c2 b :=
  ⟨dot_scale _ _ _ _, dot_scale _ _ _ _, dot_scale _ _ _ _⟩

theorem scale_dots (s : K) (b : Box K) :
    dotBC (scaleBox s b) = s * s * dotBC b ∧ dotAC (scaleBox s b) = s * s * dotAC b ∧
    dotAB (scaleBox s b) = s * s * dotAB b :=
  ⟨dot_scale _ _ _ _, dot_scale _ _ _ _, dot_scale _ _ _ _⟩

theorem scale_gram (s : K) (v : M3 K) : gram (scaleM s v) = scaleM (s * s) (gram v) := by
  rw [gram_def, gram_def]
  simp only [scaleM, dot_scale]
  rfl

/-- the angle between two cell vectors does not depend on the unit: a statement about any numbers `lu lv c` meeting the defining
    equations of the two lengths and the cosine; `angleCos_scale` below is the same fact for the expression `vect_angle` evaluates. -/
theorem scale_angle_cos (s : K) (hs : s ≠ 0) (u v : V3 K) (lu lv c : K)
    (hlu : lu * lu = V3.normSq u) (hlv : lv * lv = V3.normSq v) (h0u : 0 < lu) (h0v : 0 < lv)
    (hc : c * (lu * lv) = V3.dot u v) :
    (|s| * lu) * (|s| * lu) = V3.normSq (scaleV s u) ∧ (|s| * lv) * (|s| * lv) = V3.normSq (scaleV s v) ∧
    0 < |s| * lu ∧ 0 < |s| * lv ∧ c * ((|s| * lu) * (|s| * lv)) = V3.dot (scaleV s u) (scaleV s v) := by
  have hss : |s| * |s| = s * s := abs_mul_abs_self s
  have hp : 0 < |s| := abs_pos.mpr hs
  refine ⟨?_, ?_, mul_pos hp h0u, mul_pos hp h0v, ?_⟩
  · rw [V3.normSq, dot_scale, ← V3.normSq, ← hlu, ← hss]; ring
  · rw [V3.normSq, dot_scale, ← V3.normSq, ← hlv, ← hss]; ring
  · rw [dot_scale, ← hc, ← hss]; ring

theorem scale_det (s : K) (v : M3 K) : (scaleM s v).det = s * s * s * v.det :=
  M3.det_smul s v

theorem scale_volume (s : K) (b : Box K) : volume (scaleBox s b) = |s| * |s| * |s| * volume b := by
  rw [volume_eq_absdet, volume_eq_absdet, scaleBox, scale_det, abs_mul, abs_mul, abs_mul]

theorem scale_isLammpsNorm (s : K) (hs : 0 < s) (b : Box K) :
    (scaleBox s b).isLammpsNorm = b.isLammpsNorm := by
  simp only [Box.isLammpsNorm, scaleBox, scaleM, scaleV, mul_eq_zero, hs.ne', false_or, mul_pos_iff_of_pos_left hs]

theorem scale_relToCart (s : K) (b : Box K) (r : V3 K) :
    (scaleBox s b).relToCart r = scaleV s (b.relToCart r) := by
  rw [Box.relToCart, Box.relToCart, scaleBox, scaleM_eq_smul, scaleV_eq_smul, scaleV_eq_smul, M3.vecMul_smul_right, V3.smul_add]

set_option linter.unusedVariables false in
theorem scale_recip (s : K) (hs : s ≠ 0) (b : Box K) (hd : b.vects.det ≠ 0) :
    (scaleBox s b).recip = scaleM s⁻¹ b.recip := by
  -- `M3.inv_smul` holds for a singular matrix too (both sides are then `0`)
  rw [Box.recip, Box.recip, scaleBox, scaleM_eq_smul, M3.inv_smul s hs]
  rfl

theorem scale_cartToRel (s : K) (hs : s ≠ 0) (b : Box K) (hd : b.vects.det ≠ 0) (p : V3 K) :
    (scaleBox s b).cartToRel (scaleV s p) = b.cartToRel p := by
  have e : scaleV s p - (scaleBox s b).origin = scaleV s (p - b.origin) := by
    simp only [scaleBox, scaleV, V3.sub_def, mul_sub]
  rw [Box.cartToRel, scale_recip s hs b hd, e]
  simp only [M3.mulVec, scaleM, dot_scale, inv_mul_cancel₀ hs, one_mul]
  rfl

theorem angleCos_eq (u v : V3 K) (n1 n2 : K) : angleCos u v n1 n2 = V3.dot u v / (n1 * n2) := by
  simp only [angleCos, vdiv, V3.dot]; ring

theorem angleCos_spec (u v : V3 K) (n1 n2 : K) (h1 : 0 < n1) (h2 : 0 < n2) :
    angleCos u v n1 n2 * (n1 * n2) = V3.dot u v := by
  rw [angleCos_eq, div_mul_cancel₀ _ (mul_pos h1 h2).ne']

theorem lagrange (u v : V3 K) :
    V3.normSq u * V3.normSq v - V3.dot u v * V3.dot u v = V3.normSq (V3.cross u v) :=
  V3.lagrange u v

/-- Lagrange's identity divided by the squared lengths: both Cauchy–Schwarz and its strict form for non-parallel vectors. -/
theorem angleCos_sq_add (u v : V3 K) (n1 n2 : K) (h1 : 0 < n1) (h2 : 0 < n2)
    (hn1 : n1 * n1 = V3.normSq u) (hn2 : n2 * n2 = V3.normSq v) :
    angleCos u v n1 n2 * angleCos u v n1 n2 + V3.normSq (V3.cross u v) / (n1 * n2 * (n1 * n2)) = 1 := by
  have hp : n1 * n2 ≠ 0 := (mul_pos h1 h2).ne'
  rw [angleCos_eq, ← V3.lagrange, ← hn1, ← hn2]
  field_simp
  ring

/-- Cauchy–Schwarz: with the exact norms the cosine lies in [-1, 1], so the clamp before `arccos` only absorbs rounding. -/
theorem angleCos_sq_le_one (u v : V3 K) (n1 n2 : K) (h1 : 0 < n1) (h2 : 0 < n2)
    (hn1 : n1 * n1 = V3.normSq u) (hn2 : n2 * n2 = V3.normSq v) :
    angleCos u v n1 n2 * angleCos u v n1 n2 ≤ 1 := by
  calc angleCos u v n1 n2 * angleCos u v n1 n2
      ≤ angleCos u v n1 n2 * angleCos u v n1 n2 + V3.normSq (V3.cross u v) / (n1 * n2 * (n1 * n2)) :=
        le_add_of_nonneg_right (div_nonneg (V3.normSq_nonneg _) (mul_self_nonneg _))
    _ = 1 := angleCos_sq_add u v n1 n2 h1 h2 hn1 hn2

set_option linter.unusedVariables false in
/-- the cosine computed by `vect_angle` does not depend on the unit of length. -/
theorem angleCos_scale (s : K) (hs : s ≠ 0) (u v : V3 K) (n1 n2 : K) (h1 : 0 < n1) (h2 : 0 < n2) :
    angleCos (scaleV s u) (scaleV s v) (|s| * n1) (|s| * n2) = angleCos u v n1 n2 := by
  rw [angleCos_eq, angleCos_eq, dot_scale, mul_mul_mul_comm |s| n1 |s| n2, abs_mul_abs_self,
    mul_div_mul_left _ _ (mul_ne_zero hs hs)]

end Atomman.C01
