/-
  Ordered-field lemmas about the tolerance tests and round-off clean-ups of the orientation handling: `absF` is the absolute
  value, `closeTo` with `rtol = 0` is a two-sided bound, the running maximum `listMax` (hence `maxAbs3`) bounds its start value
  and every member, `chop` moves an entry by at most `tol · big`.
-/
import Atomman.C12
import Proofs.Folds
import Proofs.Abs
import Mathlib.Data.Fintype.Basic
import Mathlib.Tactic.FinCases
import Mathlib.Algebra.Order.Field.Basic
import Mathlib.Algebra.Order.Ring.Rat

namespace Atomman.C12
set_option linter.unusedSectionVars false

section order
variable {K : Type} [Field K] [LinearOrder K] [IsStrictOrderedRing K]

theorem absF_eq_abs (v : K) : absF v = |v| := ite_neg_eq_abs v

/-- the axis tests call `np.isclose(a, b, atol=tol, rtol=0)`: with `rtol = 0` it is `-tol ≤ a - b ≤ tol`. -/
theorem closeTo_zero_rtol (tol a b : K) : closeTo tol 0 a b = (decide (-tol ≤ a - b) && decide (a - b ≤ tol)) := by
  simp only [closeTo, absF_eq_abs, zero_mul, add_zero, abs_le, Bool.decide_and]

theorem listMax_ge (d : K) (l : List K) : d ≤ listMax d l ∧ ∀ c ∈ l, c ≤ listMax d l := le_foldl_ite_max l d

theorem maxAbs3_ge (b : Vec K) (i : Fin 3) : |b i| ≤ maxAbs3 b := by
  have h := listMax_ge (absF (b 0)) [absF (b 1), absF (b 2)]
  simp only [absF_eq_abs, List.mem_cons, List.not_mem_nil, or_false, forall_eq_or_imp, forall_eq] at h
  unfold maxAbs3; simp only [absF_eq_abs]
  fin_cases i
  · exact h.1
  · exact h.2.1
  · exact h.2.2

/-- the relative clean-up moves an entry by at most `tol · big` (`big` any bound of `|v|`, e.g. the largest magnitude). -/
theorem chop_close (tol big v : K) (ht : 0 ≤ tol) (hb : |v| ≤ big) : |chop tol big v - v| ≤ tol * big := by
  have hb0 : 0 ≤ big := le_trans (abs_nonneg v) hb
  unfold chop
  split_ifs with h
  · simp only [Bool.and_eq_true, decide_eq_true_eq] at h
    rw [zero_sub, abs_neg]
    rcases hb0.lt_or_eq with hpos | h0
    · have : |v / big| ≤ tol := abs_le.2 h
      rw [abs_div, abs_of_pos hpos, div_le_iff₀ hpos] at this
      exact this
    · rw [← h0] at hb ⊢
      simpa using hb
  · simp only [sub_self, abs_zero]
    exact mul_nonneg ht hb0

end order

example : |chop (1 / 10 : ℚ) 4 (1 / 5) - 1 / 5| ≤ 1 / 10 * 4 ∧ chop (1 / 10 : ℚ) 4 (1 / 5) = 0 := by
  constructor <;> decide +kernel

end Atomman.C12
