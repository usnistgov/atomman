/-
  C13 — which shift, core centre and boundary width the generators use (model: `setShift`, `ShiftCall.step`,
  `runShiftCalls`, `resolveCenter`, `resolveWidth`), after the offered shifts themselves (`shift_between_planes`, `shifts_complete`).  The clause: the shift used is the shift requested, for every way of
  requesting it (vector / index / nothing; at construction, by `set_shift`, in the generator call) and every value of
  `shiftscale`; a shift requested by index or by default is an offered one and so puts the slip plane midway between two
  atomic planes (`shift_between_planes`).
-/
import Atomman.C13
import Proofs.C14_Shifts
import Proofs.Linear3
import Mathlib.Tactic.Ring
import Mathlib.Tactic.Linarith

namespace Atomman.C13
open Atomman
set_option linter.unusedSectionVars false

variable {K : Type} [Field K] [LinearOrder K] [IsStrictOrderedRing K]

/-- every offered shift `s` belongs to a pair `p < q` of consecutive atomic layers of the
    rotated cell (heights along the cut; the last pair closes the period `W`).  After the shift the two layers sit at
    `k W ∓ (q - p)/2`: symmetric about the slip plane (the planes `k W` of the periodic stack) at a non-zero distance,
    and no layer `c + t W` of the stack lies strictly between them.  So each offered shift puts the slip plane exactly
    midway between two consecutive atomic planes and never on one.
    Hypotheses: the layer heights are strictly ascending and lie within one period above the lowest one (what
    `np.unique` of the coordinates of a cell of height `W` gives). -/
theorem shift_between_planes (coords : List K) (W tol : K) (hW : 0 < W) (htol : 0 ≤ tol)
    (hs : coords.Pairwise (· < ·)) (c0 : K) (hh : coords.head? = some c0) (hr : ∀ c ∈ coords, c ≤ c0 + W) :
    ∀ s ∈ identifyShifts coords W tol,
      ∃ p q : K, (p, q) ∈ C14.consec (C14.withReplica coords W tol) ∧ p < q ∧ ∃ k : Int,
        p + s = (k : K) * W - (q - p) / 2 ∧ q + s = (k : K) * W + (q - p) / 2 ∧
        ∀ c ∈ C14.withReplica coords W tol, ∀ t : Int,
          c + (t : K) * W + s ≤ (k : K) * W - (q - p) / 2 ∨ (k : K) * W + (q - p) / 2 ≤ c + (t : K) * W + s := by
  intro s hsm
  obtain ⟨l, hl⟩ : ∃ l, coords.getLast? = some l :=
    Option.isSome_iff_exists.mp (List.getLast?_isSome.mpr fun e => by rw [e] at hh; cases hh)
  obtain ⟨p, q, hpq, hlt, k, rfl, himg⟩ :=
    C14.shifts_spec coords W tol c0 l hs hh hl (hr l (List.mem_of_getLast? hl)) hW htol s hsm
  refine ⟨p, q, hpq, hlt, k, by ring, by ring, fun c hc t => ?_⟩
  rcases himg c hc t with h | h
  · left; linarith only [h]
  · right; linarith only [h]

/-- every gap between consecutive layers is offered: the shift list has one entry per pair. -/
theorem shifts_complete (coords : List K) (W tol : K) :
    ∀ pq ∈ C14.consec (C14.withReplica coords W tol), C14.relShift W (C14.mid pq) ∈ identifyShifts coords W tol := by
  intro pq hpq
  exact (C14.shifts_perm coords W tol).mem_iff.mpr (List.mem_map.mpr ⟨pq, hpq, rfl⟩)

example : identifyShifts ([0, 1, 3] : List ℚ) 4 (1 / 100000000) = [1 / 2, 2, 7 / 2] := by
  decide +kernel

/-- an explicitly given vector is used as it is, or as the row combination `s.x a + s.y b + s.z c` of the box
    vectors of the rotated cell when `shiftscale` is set. -/
theorem setShift_explicit (vects : M3 K) (shifts : List (V3 K)) (s : V3 K) (sc : Bool) :
    setShift vects shifts ⟨some s, none, sc⟩
      = .ok (if sc then V3.smul s.x vects.r0 + V3.smul s.y vects.r1 + V3.smul s.z vects.r2 else s) := by
  cases sc
  · simp [setShift]
  · simp only [setShift, if_true]
    rw [M3.vecMul_rows]

/-- when no vector is given (`shiftindex`, or nothing at all) the outcome does
    not depend on `shiftscale`. -/
theorem setShift_scale_only_for_vector (vects : M3 K) (shifts : List (V3 K)) (i : Option Int) (sc sc' : Bool) :
    setShift vects shifts ⟨none, i, sc⟩ = setShift vects shifts ⟨none, i, sc'⟩ := by
  cases i <;> simp [setShift]

/-- `shiftindex = i` selects `shifts[i]` (Python indexing), whatever `shiftscale`. -/
theorem setShift_index (vects : M3 K) (shifts : List (V3 K)) (i : Int) (sc : Bool) (s : V3 K)
    (h : pyGet? shifts i = some s) : setShift vects shifts ⟨none, some i, sc⟩ = .ok s := by
  simp [setShift, h]

/-- neither `shift` nor `shiftindex`: the first offered shift, whatever `shiftscale`. -/
theorem setShift_default (vects : M3 K) (s : V3 K) (rest : List (V3 K)) (sc : Bool) :
    setShift vects (s :: rest) ⟨none, none, sc⟩ = .ok s := by
  simp [setShift]

/-- `shift` and `shiftindex` together are refused. -/
theorem setShift_both_refused (vects : M3 K) (shifts : List (V3 K)) (s : V3 K) (i : Int) (sc : Bool) :
    setShift vects shifts ⟨some s, some i, sc⟩ = .error "value" := by
  simp [setShift]

theorem pyGet?_mem {α : Type} (l : List α) (i : Int) (a : α) (h : pyGet? l i = some a) : a ∈ l := by
  unfold pyGet? at h
  split at h
  · exact List.mem_of_getElem? h
  · split at h
    · exact List.mem_of_getElem? h
    · cases h

/-- a shift obtained without giving a vector is one of the offered shifts. -/
theorem setShift_offered (vects : M3 K) (shifts : List (V3 K)) (i : Option Int) (sc : Bool) (s : V3 K)
    (h : setShift vects shifts ⟨none, i, sc⟩ = .ok s) : s ∈ shifts := by
  cases i with
  | none =>
    cases shifts with
    | nil => simp [setShift] at h
    | cons a r =>
      simp only [setShift, Except.ok.injEq] at h
      subst h; exact List.mem_cons_self
  | some i =>
    simp only [setShift] at h
    split at h
    · rename_i s' hs'
      simp only [Except.ok.injEq] at h
      subst h; exact pyGet?_mem _ _ _ hs'
    · cases h

/-- the offered shifts are the mid-plane heights along the slip-plane normal
    `nv` (`np.outer(sort(relshifts), n)`).  A shift requested by `shiftindex` or by default — at construction, through
    `set_shift` or in a generator call, with `shiftscale` set or not — is `t · nv` for an offered height `t`, and
    `t` puts the slip plane exactly midway between two consecutive atomic planes of the stack, at non-zero distance,
    with no plane in between (the conclusion of `shift_between_planes`). -/
theorem shift_by_index_between_planes (vects : M3 K) (nv : V3 K) (coords : List K) (W tol : K) (hW : 0 < W)
    (htol : 0 ≤ tol) (hs : coords.Pairwise (· < ·)) (c0 : K) (hh : coords.head? = some c0)
    (hr : ∀ c ∈ coords, c ≤ c0 + W) (i : Option Int) (sc : Bool) (s : V3 K)
    (h : setShift vects ((identifyShifts coords W tol).map (fun t => V3.smul t nv)) ⟨none, i, sc⟩ = .ok s) :
    ∃ t ∈ identifyShifts coords W tol, s = V3.smul t nv ∧
      ∃ p q : K, (p, q) ∈ C14.consec (C14.withReplica coords W tol) ∧ p < q ∧ ∃ k : Int,
        p + t = (k : K) * W - (q - p) / 2 ∧ q + t = (k : K) * W + (q - p) / 2 ∧
        ∀ c ∈ C14.withReplica coords W tol, ∀ j : Int,
          c + (j : K) * W + t ≤ (k : K) * W - (q - p) / 2 ∨ (k : K) * W + (q - p) / 2 ≤ c + (j : K) * W + t := by
  have hm := setShift_offered vects _ i sc s h
  obtain ⟨t, ht, rfl⟩ := List.mem_map.mp hm
  exact ⟨t, ht, rfl, shift_between_planes coords W tol hW htol hs c0 hh hr t ht⟩

/-- `set_shift(...)` that succeeds: the object's shift is the resolved one, and that is what is reported. -/
theorem step_set_ok (vects : M3 K) (shifts : List (V3 K)) (cur s : V3 K) (a : ShiftArgs K)
    (h : setShift vects shifts a = .ok s) : (ShiftCall.set a).step vects shifts cur = (s, .ok s) := by
  simp [ShiftCall.step, h]

/-- a generator called with a `shift` or a `shiftindex` resolves it exactly as `set_shift` does. -/
theorem step_gen_given (vects : M3 K) (shifts : List (V3 K)) (cur : V3 K) (a : ShiftArgs K) (h : a.given = true) :
    (ShiftCall.gen a).step vects shifts cur = (ShiftCall.set a).step vects shifts cur := by
  simp [ShiftCall.step, h]

/-- a generator called without `shift` and without `shiftindex` uses the shift the object
    already has (set at construction or by an earlier call) — also when `shiftscale=True` is passed. -/
theorem step_gen_keeps (vects : M3 K) (shifts : List (V3 K)) (cur : V3 K) (sc : Bool) :
    (ShiftCall.gen ⟨none, none, sc⟩).step vects shifts cur = (cur, .ok cur) := by
  simp [ShiftCall.step, ShiftArgs.given]

theorem step_gen_cases (vects : M3 K) (shifts : List (V3 K)) (cur : V3 K) (a : ShiftArgs K) :
    (∃ e, a.given = true ∧ setShift vects shifts a = .error e ∧
      (ShiftCall.gen a).step vects shifts cur = (cur, .error e)) ∨
    ∃ s, (ShiftCall.gen a).step vects shifts cur = (s, .ok s) ∧
      (if a.given then setShift vects shifts a = .ok s else s = cur) := by
  simp only [ShiftCall.step]
  cases a.given
  · exact Or.inr ⟨cur, by simp⟩
  · cases setShift vects shifts a with
    | error e => exact Or.inl ⟨e, by simp⟩
    | ok s => exact Or.inr ⟨s, by simp⟩

theorem step_cases (vects : M3 K) (shifts : List (V3 K)) (cur : V3 K) (c : ShiftCall K) :
    (∃ e, c.step vects shifts cur = (cur, .error e)) ∨ ∃ s, c.step vects shifts cur = (s, .ok s) := by
  cases c with
  | set a =>
    simp only [ShiftCall.step]
    cases setShift vects shifts a with
    | error e => exact Or.inl ⟨e, rfl⟩
    | ok s => exact Or.inr ⟨s, rfl⟩
  | gen a => exact (step_gen_cases vects shifts cur a).imp (fun ⟨e, _, _, he⟩ => ⟨e, he⟩) fun ⟨s, hs, _⟩ => ⟨s, hs⟩

/-- a refused call leaves the object's shift as it was. -/
theorem step_refused_keeps (vects : M3 K) (shifts : List (V3 K)) (cur : V3 K) (c : ShiftCall K) (e : String)
    (h : (c.step vects shifts cur).2 = .error e) : (c.step vects shifts cur).1 = cur := by
  rcases step_cases vects shifts cur c with ⟨e', he⟩ | ⟨s, hs⟩
  · rw [he]
  · rw [hs] at h; cases h

/-- every accepted call reports the shift the object has afterwards: the shift used is the shift in force. -/
theorem step_reports_state (vects : M3 K) (shifts : List (V3 K)) (cur s : V3 K) (c : ShiftCall K)
    (h : (c.step vects shifts cur).2 = .ok s) : (c.step vects shifts cur).1 = s := by
  rcases step_cases vects shifts cur c with ⟨e', he⟩ | ⟨s', hs⟩
  · rw [he] at h; cases h
  · rw [hs] at h ⊢; exact Except.ok.inj h

theorem runShiftCalls_append (vects : M3 K) (shifts : List (V3 K)) (cur : V3 K) (cs : List (ShiftCall K))
    (c : ShiftCall K) :
    runShiftCalls vects shifts cur (cs ++ [c])
      = ((c.step vects shifts (runShiftCalls vects shifts cur cs).1).1,
         (runShiftCalls vects shifts cur cs).2 ++ [(c.step vects shifts (runShiftCalls vects shifts cur cs).1).2]) := by
  induction cs generalizing cur with
  | nil => simp [runShiftCalls]
  | cons d ds ih => simp [runShiftCalls, ih]

/-- after any history of calls, a final generator call that names its shift by index (or a
    `set_shift` without a vector) gets an offered shift, independent of everything before and of `shiftscale`. -/
theorem shift_history_index (vects : M3 K) (shifts : List (V3 K)) (cur : V3 K) (cs : List (ShiftCall K)) (i : Int)
    (sc : Bool) (s : V3 K) (h : pyGet? shifts i = some s) :
    (runShiftCalls vects shifts cur (cs ++ [.gen ⟨none, some i, sc⟩])).1 = s := by
  rw [runShiftCalls_append]
  simp [ShiftCall.step, ShiftArgs.given, setShift, h]

/-- a final generator call without shift arguments gets whatever the history left. -/
theorem shift_history_keeps (vects : M3 K) (shifts : List (V3 K)) (cur : V3 K) (cs : List (ShiftCall K)) (sc : Bool) :
    (runShiftCalls vects shifts cur (cs ++ [.gen ⟨none, none, sc⟩])).1 = (runShiftCalls vects shifts cur cs).1 := by
  rw [runShiftCalls_append, step_gen_keeps]

/-- no `center`: the origin, whatever `centerscale`. -/
theorem resolveCenter_none (vects : M3 K) (sc : Bool) : resolveCenter vects none sc = ⟨0, 0, 0⟩ := by
  cases sc <;> simp [resolveCenter, M3.vecMul]

/-- `centerscale`: the centre is the combination `c.x a + c.y b + c.z c` of the box vectors (rows) of the rotated
    cell; without it the vector itself. -/
theorem resolveCenter_some (vects : M3 K) (c : V3 K) (sc : Bool) :
    resolveCenter vects (some c) sc
      = if sc then V3.smul c.x vects.r0 + V3.smul c.y vects.r1 + V3.smul c.z vects.r2 else c := by
  cases sc
  · simp [resolveCenter]
  · simp only [resolveCenter, Option.getD_some, if_true]
    rw [M3.vecMul_rows]

/-- `boundaryscale`: the width in units of the given unit cell's `a`; a zero width stays zero. -/
theorem resolveWidth_spec (a w : K) (sc : Bool) :
    resolveWidth a w sc = (if sc then w * a else w) ∧ resolveWidth a 0 sc = 0 := by
  cases sc <;> simp [resolveWidth]

/-! non-vacuity (ℚ): a tilted rotated cell, two offered shifts -/
section examples
def exV : M3 ℚ := ⟨⟨2, 0, 0⟩, ⟨1, 3, 0⟩, ⟨0, 1 / 2, 4⟩⟩
def exS : List (V3 ℚ) := [⟨0, 0, 1⟩, ⟨0, 0, 3⟩]

example : setShift exV exS ⟨none, some 1, true⟩ = .ok ⟨0, 0, 3⟩ := by decide +kernel
example : setShift exV exS ⟨none, some (-2), true⟩ = .ok ⟨0, 0, 1⟩ := by decide +kernel
example : setShift exV exS ⟨none, some 2, false⟩ = .error "index" := by decide +kernel
example : setShift exV exS ⟨some ⟨0, 1 / 2, 1 / 4⟩, none, true⟩ = .ok ⟨1 / 2, 13 / 8, 1⟩ := by decide +kernel
example : (runShiftCalls exV exS ⟨0, 0, 1⟩
    [.gen ⟨some ⟨0, 0, 1 / 4⟩, none, true⟩, .gen ⟨none, none, true⟩, .set ⟨some ⟨1, 1, 1⟩, some 0, false⟩]).1
    = ⟨0, 1 / 8, 1⟩ := by decide +kernel
example : resolveCenter exV (some ⟨0, 1, 1⟩) true = ⟨1, 7 / 2, 4⟩ := by decide +kernel
end examples

end Atomman.C13
