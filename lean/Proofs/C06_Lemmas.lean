/-
  C06 — list plumbing of the mini-numpy: `mapM`, `writeRows`, `rowsOf`, `bcast`, `castCell`, `listMin` / `listMax` and the
  `np.min(value) < 1` test, `prod`, key lookup in a list of properties.
-/
import Atomman.C06
import Proofs.Folds
import Proofs.Lists

namespace Atomman.C06

theorem mapM_option {α β : Type} (f : α → Option β) : ∀ (l : List α) (l' : List β), l.mapM f = some l' →
    l'.length = l.length ∧ ∀ c' ∈ l', ∃ c ∈ l, f c = some c' :=
  fun _ _ h => ⟨forall₂_length (mapM_option_some_iff.mp h), forall₂_mem_right (mapM_option_some_iff.mp h)⟩

theorem mapM_option_fwd {α β : Type} (f : α → Option β) : ∀ (l : List α) (l' : List β), l.mapM f = some l' →
    ∀ c ∈ l, ∃ c' ∈ l', f c = some c' :=
  fun _ _ h => forall₂_mem_left (mapM_option_some_iff.mp h)

theorem nodup_reverse' {α : Type} {l : List α} (h : l.Nodup) : l.reverse.Nodup := by
  unfold List.Nodup at *
  rw [List.pairwise_reverse]
  exact h.imp (fun hab => Ne.symm hab)

theorem nodup_getElem_inj {α : Type} {l : List α} (h : l.Nodup) (i j : Nat) (hi : i < l.length) (hj : j < l.length)
    (he : l[i] = l[j]) : i = j := by
  unfold List.Nodup at h
  rw [List.pairwise_iff_getElem] at h
  rcases Nat.lt_trichotomy i j with hlt | heq | hgt
  · exact absurd he (h i j hi hj hlt)
  · exact heq
  · exact absurd he.symm (h j i hj hi hgt)

theorem nodup_map_on {α β : Type} {l : List α} (f : α → β) (h : l.Nodup)
    (hinj : ∀ x ∈ l, ∀ y ∈ l, f x = f y → x = y) : (l.map f).Nodup := by
  unfold List.Nodup at *
  rw [List.pairwise_map, List.pairwise_iff_getElem]
  rw [List.pairwise_iff_getElem] at h
  intro i j hi hj hlt hfe
  exact h i j hi hj hlt (hinj _ (List.getElem_mem hi) _ (List.getElem_mem hj) hfe)

theorem getD_set {α : Type} (l : List α) (i j : Nat) (x d : α) :
    (l.set i x)[j]?.getD d = if j = i ∧ i < l.length then x else l[j]?.getD d := by
  simp only [List.getElem?_set]
  by_cases h : i = j
  · subst h
    by_cases h2 : i < l.length <;> simp [h2]
  · have : ¬ j = i := fun h' => h h'.symm
    simp [h, this]

theorem writeRows_length (rows : List Row) (upd : List (Nat × Row)) :
    (writeRows rows upd).length = rows.length := by
  induction upd generalizing rows with
  | nil => rfl
  | cons u t ih => obtain ⟨a, b⟩ := u; simp [writeRows, ih]

theorem writeRows_mem (rows : List Row) (upd : List (Nat × Row)) (r : Row) (h : r ∈ writeRows rows upd) :
    r ∈ rows ∨ ∃ u ∈ upd, r = u.2 := by
  induction upd generalizing rows with
  | nil => left; exact h
  | cons u t ih =>
    obtain ⟨a, b⟩ := u
    simp only [writeRows] at h
    rcases ih _ h with h1 | ⟨u, hu, rfl⟩
    · rcases List.mem_or_eq_of_mem_set h1 with h2 | h2
      · left; exact h2
      · right; exact ⟨(a, b), by simp, h2⟩
    · right; exact ⟨u, by simp [hu], rfl⟩

theorem writeRows_get (rows : List Row) (upd : List (Nat × Row)) (i : Nat) :
    (writeRows rows upd)[i]? = rows[i]? ∨ ∃ u ∈ upd, u.1 = i ∧ (writeRows rows upd)[i]? = some u.2 := by
  induction upd generalizing rows with
  | nil => left; rfl
  | cons u t ih =>
    obtain ⟨a, b⟩ := u
    simp only [writeRows]
    rcases ih (rows.set a b) with h1 | ⟨u, hu, h0, h2⟩
    · by_cases hai : a = i
      · subst hai
        by_cases hlt : a < rows.length
        · right; refine ⟨(a, b), by simp, rfl, ?_⟩; rw [h1]; simp [hlt]
        · left; rw [h1]; simp [hlt]
      · left; rw [h1]; simp [hai]
    · right; exact ⟨u, by simp [hu], h0, h2⟩

theorem writeRows_get_notin (rows : List Row) (upd : List (Nat × Row)) (i : Nat) (h : ∀ u ∈ upd, u.1 ≠ i) :
    (writeRows rows upd)[i]? = rows[i]? := by
  induction upd generalizing rows with
  | nil => rfl
  | cons u t ih =>
    obtain ⟨a, b⟩ := u
    simp only [writeRows]
    rw [ih _ (fun u hu => h u (by simp [hu]))]
    have : a ≠ i := h (a, b) (by simp)
    simp [this]

theorem writeRows_run (new : List Row) : ∀ (pre mid post : List Row), mid.length = new.length →
    writeRows (pre ++ mid ++ post) (((List.range new.length).map (fun j => pre.length + j)).zip new) =
      pre ++ new ++ post := by
  induction new with
  | nil =>
    intro pre mid post h
    rw [List.eq_nil_of_length_eq_zero h]
    rfl
  | cons x xs ih =>
    intro pre mid post h
    cases mid with
    | nil => cases h
    | cons m ms =>
      have hset : (pre ++ m :: ms ++ post).set pre.length x = (pre ++ [x]) ++ ms ++ post := by simp
      have hfun : (fun j => pre.length + j) ∘ Nat.succ = fun j => (pre ++ [x]).length + j := by
        funext j; simp; omega
      simp only [List.length_cons, List.range_succ_eq_map, List.map_cons, List.map_map, List.zip_cons_cons,
        writeRows, Nat.add_zero, hset, hfun]
      rw [ih (pre ++ [x]) ms post (by simpa using h)]
      simp

theorem writeRows_last (rows : List Row) (upd : List (Nat × Row)) (i : Nat) (hi : i < rows.length) (r : Row)
    (pre post : List (Nat × Row)) (hsplit : upd = pre ++ (i, r) :: post) (hpost : ∀ u ∈ post, u.1 ≠ i) :
    (writeRows rows upd)[i]? = some r := by
  subst hsplit
  induction pre generalizing rows with
  | nil =>
    simp only [List.nil_append, writeRows]
    rw [writeRows_get_notin _ _ _ hpost]
    simp [hi]
  | cons u t ih =>
    obtain ⟨a, b⟩ := u
    simp only [List.cons_append, writeRows]
    exact ih (rows.set a b) (by simpa using hi)

theorem map_set_nodup (rows : List Row) (idx : List Nat) (hnd : idx.Nodup) (p : Nat) (hp : p < idx.length) (r : Row)
    (hvalid : idx[p] < rows.length) :
    idx.map (fun i => (rows.set idx[p] r)[i]?.getD []) = (idx.map (fun i => rows[i]?.getD [])).set p r := by
  apply List.ext_getElem
  · simp
  · intro j h1 h2
    have hj : j < idx.length := by simpa using h1
    simp only [List.getElem_map, List.getElem_set]
    by_cases hjp : p = j
    · subst hjp
      simp [hvalid]
    · have hne : idx[p] ≠ idx[j] := fun he => hjp (nodup_getElem_inj hnd p j hp hj he)
      simp [hjp, hne]

/-- writing through an array whose row indices are pairwise distinct is `writeRows` on what the array
    reads: position `pos[j]` of the array gets `new[j]` (later duplicates win), the rest is unchanged. -/
theorem view_writeRows (idx : List Nat) (hnd : idx.Nodup) :
    ∀ (upd : List (Nat × Row)) (rows : List Row), (∀ i ∈ idx, i < rows.length) → (∀ u ∈ upd, u.1 < idx.length) →
      idx.map (fun i => (writeRows rows (upd.map (fun u => (idx[u.1]?.getD 0, u.2))))[i]?.getD []) =
        writeRows (idx.map (fun i => rows[i]?.getD [])) upd := by
  intro upd
  induction upd with
  | nil => intro rows _ _; rfl
  | cons u rest ih =>
    intro rows hvalid hupd
    obtain ⟨p, r⟩ := u
    have hp : p < idx.length := hupd (p, r) (by simp)
    simp only [List.map_cons, writeRows, List.getElem?_eq_getElem hp, Option.getD_some]
    rw [ih (rows.set idx[p] r) (by intro i hi; simpa using hvalid i hi) (fun u hu => hupd u (by simp [hu]))]
    rw [map_set_nodup rows idx hnd p hp r (hvalid _ (List.getElem_mem hp))]

theorem zip_map_left' {α β γ : Type} (f : α → γ) (l1 : List α) (l2 : List β) :
    (l1.map f).zip l2 = (l1.zip l2).map (fun u => (f u.1, u.2)) := by
  induction l1 generalizing l2 with
  | nil => simp
  | cons x t ih =>
    cases l2 with
    | nil => simp
    | cons y t2 => simp [ih]

theorem writeRows_all (old new : List Row) (h : new.length = old.length) :
    writeRows old ((List.range old.length).zip new) = new := by
  simpa [h] using writeRows_run new [] old [] h.symm

theorem filter_ge_range (n1 n2 : Nat) :
    (List.range (n1 + n2)).filter (fun i => decide (n1 ≤ i)) = (List.range n2).map (fun j => n1 + j) := by
  induction n2 with
  | zero =>
    simp only [Nat.add_zero, List.range_zero, List.map_nil]
    rw [List.filter_eq_nil_iff]
    intro i hi
    have := List.mem_range.mp hi
    simp; omega
  | succ k ih =>
    rw [← Nat.add_assoc, List.range_succ, List.filter_append, ih, List.range_succ, List.map_append]
    simp

theorem writeRows_tail (base new : List Row) (n1 n2 : Nat) (hb : base.length = n1 + n2) (hn : new.length = n2) :
    writeRows base (((List.range n2).map (fun j => n1 + j)).zip new) = base.take n1 ++ new := by
  have hlen : (base.take n1).length = n1 := by simp [hb]
  simpa [hlen, hn] using writeRows_run new (base.take n1) (base.drop n1) [] (by simp [hb, hn])

theorem rowsOf_length (k w : Nat) (flat : List Cell) : (rowsOf k w flat).length = k := by
  simp [rowsOf]

theorem rowsOf_width (k w : Nat) (flat : List Cell) (r : Row) (h : r ∈ rowsOf k w flat) : r.length = w := by
  simp only [rowsOf, List.mem_map, List.mem_range] at h
  obtain ⟨j, _, rfl⟩ := h
  simp

theorem rowsOf_mem (k w : Nat) (flat : List Cell) (hlen : flat.length = k * w) (r : Row)
    (h : r ∈ rowsOf k w flat) : ∀ c ∈ r, c ∈ flat := by
  simp only [rowsOf, List.mem_map, List.mem_range] at h
  obtain ⟨j, hj, rfl⟩ := h
  intro c hc
  simp only [List.mem_map, List.mem_range] at hc
  obtain ⟨i, hi, rfl⟩ := hc
  have hlt : j * w + i < flat.length := hlen ▸ mul_add_lt hj hi
  rw [List.getD_eq_getElem?_getD, List.getElem?_eq_getElem hlt]
  simp

theorem flatten_getD (rows : List Row) (w : Nat) (h : ∀ r ∈ rows, r.length = w) :
    ∀ j c, j < rows.length → c < w →
      rows.flatten.getD (j * w + c) default = (rows[j]?.getD []).getD c default := by
  intro j c hj hc
  rw [List.getD_eq_getElem?_getD, getElem?_flatten_const w rows h j c hc, List.getElem?_eq_getElem hj]
  simp [List.getD_eq_getElem?_getD]

theorem rowsOf_flatten (rows : List Row) (w : Nat) (h : ∀ r ∈ rows, r.length = w) :
    rowsOf rows.length w rows.flatten = rows := by
  apply List.ext_getElem
  · simp [rowsOf]
  · intro j h1 h2
    simp only [rowsOf, List.getElem_map, List.getElem_range]
    apply List.ext_getElem
    · simp [h _ (List.getElem_mem h2)]
    · intro c hc1 hc2
      simp only [List.getElem_map, List.getElem_range]
      have hc : c < w := by simpa using hc1
      rw [flatten_getD rows w h j c h2 hc, List.getElem?_eq_getElem h2, Option.getD_some,
        List.getD_eq_getElem?_getD, List.getElem?_eq_getElem hc2]
      rfl

theorem rowsOf_replicate (k w : Nat) (z : Cell) (data : List Cell) (hlen : data.length = k * w)
    (hall : ∀ c ∈ data, c = z) : rowsOf k w data = List.replicate k (List.replicate w z) := by
  rw [List.eq_replicate_iff]
  refine ⟨rowsOf_length k w data, ?_⟩
  intro r hr
  rw [List.eq_replicate_iff]
  exact ⟨rowsOf_width k w data r hr, fun c hc => hall c (rowsOf_mem k w data hlen r hr c hc)⟩

theorem bcast_length (v : Val) (tshape : List Nat) (flat : List Cell) (h : bcast v tshape = some flat) :
    flat.length = prod tshape := by
  unfold bcast at h
  simp only [] at h
  split at h
  · split at h
    · injection h with h; subst h; simp
    · cases h
  · cases h

theorem bcast_mem (v : Val) (tshape : List Nat) (flat : List Cell) (h : bcast v tshape = some flat) :
    ∀ c ∈ flat, c ∈ v.data := by
  unfold bcast at h
  simp only [] at h
  split at h
  · split at h
    · rename_i hall
      injection h with h; subst h
      intro c hc
      obtain ⟨i, hi, rfl⟩ := List.mem_map.mp hc
      have hlt : i < v.data.length := by
        have := List.all_eq_true.mp hall i hi
        simpa using this
      rw [List.getD_eq_getElem?_getD, List.getElem?_eq_getElem hlt]
      simp
    · cases h
  · cases h

theorem stripOnes_self (sh : List Nat) : stripOnes sh sh.length = sh := by
  cases sh with
  | nil => rfl
  | cons d ds =>
    by_cases h1 : d = 1
    · subst h1
      simp [stripOnes]
    · unfold stripOnes
      split
      · rename_i ds' k heq
        simp at heq
        exact absurd heq.1 h1
      · rfl

theorem padOnes_self (sh : List Nat) : padOnes sh sh.length = sh := by simp [padOnes]

theorem compat_self (sh : List Nat) : compat sh sh = true := by
  induction sh with
  | nil => rfl
  | cons d ds ih => simp [compat, ih]

theorem srcIdx_self (sh : List Nat) : ∀ f, f < prod sh → srcIdx sh sh f = f := by
  induction sh with
  | nil => intro f hf; simp [prod] at hf; subst hf; rfl
  | cons d ds ih =>
    intro f hf
    simp only [prod] at hf
    have hP : 0 < prod ds := by
      rcases Nat.eq_zero_or_pos (prod ds) with h0 | h0
      · rw [h0] at hf; simp at hf
      · exact h0
    have hmod : f % prod ds < prod ds := Nat.mod_lt _ hP
    have hdiv : f / prod ds < d := by
      rw [Nat.div_lt_iff_lt_mul hP]; exact hf
    simp only [srcIdx]
    rw [ih _ hmod]
    by_cases h1 : d = 1
    · subst h1
      have : f / prod ds = 0 := Nat.lt_one_iff.mp hdiv
      simp only [beq_self_eq_true, if_true, Nat.zero_mul, Nat.zero_add]
      have := Nat.div_add_mod f (prod ds)
      rw [‹f / prod ds = 0›] at this
      simp at this; exact this
    · have hne : (d == 1) = false := by simpa using h1
      simp only [hne]
      rw [Nat.mod_eq_of_lt hdiv]
      have := Nat.div_add_mod f (prod ds)
      rw [Nat.mul_comm] at this
      simpa using this

theorem bcast_self (v : Val) (h : v.data.length = prod v.shape) : bcast v v.shape = some v.data := by
  unfold bcast
  simp only [stripOnes_self, padOnes_self, compat_self, h, and_self, if_true]
  have hmap : (List.range (prod v.shape)).map (srcIdx v.shape v.shape) = List.range (prod v.shape) := by
    apply List.ext_getElem
    · simp
    · intro i h1 h2
      simp only [List.getElem_map, List.getElem_range]
      exact srcIdx_self v.shape i (by simpa using h1)
  rw [hmap]
  have hall : (List.range (prod v.shape)).all (fun i => decide (i < prod v.shape)) = true := by
    simp [List.all_eq_true]
  simp only [hall, if_true]
  congr 1
  apply List.ext_getElem
  · simp [h]
  · intro i h1 h2
    simp only [List.getElem_map, List.getElem_range]
    rw [List.getD_eq_getElem?_getD, List.getElem?_eq_getElem h2]
    rfl

/-- a numeric cell whose value is at least 1 (what `np.min(atype) < 1` refuses). -/
def CellGE1 (c : Cell) : Prop := ∃ q, c.num? = some q ∧ 1 ≤ q

theorem castCell_typed (dt : DType) (c c' : Cell) (h : castCell dt c = some c') : c'.hasType dt = true := by
  cases dt <;> cases c <;> simp [castCell] at h <;> subst h <;> simp [Cell.hasType]
  exact Nat.min_le_left _ _

theorem truncRat_ge1 (r : Rat) (h : 1 ≤ r) : (1 : Rat) ≤ ((truncRat r : Int) : Rat) := by
  unfold truncRat
  have h0 : (0 : Rat) ≤ r := Rat.le_trans (by decide) h
  simp only [h0, if_true]
  have h1 : (1 : Int) ≤ r.floor := Rat.le_floor_iff.mpr (by simpa using h)
  exact_mod_cast h1

theorem castCell_ge1 (dt : DType) (c c' : Cell) (h : castCell dt c = some c') (hc : CellGE1 c) : CellGE1 c' := by
  obtain ⟨q, hq, h1⟩ := hc
  cases dt <;> cases c <;> simp only [castCell, Option.some.injEq, reduceCtorEq] at h <;> subst h <;>
    simp only [Cell.num?, Option.some.injEq, reduceCtorEq] at hq
  · exact ⟨q, by simp [Cell.num?, hq], h1⟩
  · subst hq; exact ⟨_, rfl, truncRat_ge1 _ h1⟩
  · rename_i b
    cases b
    · simp at hq; subst hq; exact absurd h1 (by decide)
    · exact ⟨1, by simp [Cell.num?], by decide⟩
  · exact ⟨q, by simp [Cell.num?, hq], h1⟩
  · exact ⟨q, by simp [Cell.num?, hq], h1⟩
  · exact ⟨q, by simp [Cell.num?, hq], h1⟩
  · rename_i i
    refine ⟨1, ?_, by decide⟩
    have : i ≠ 0 := by
      intro h0; subst h0; subst hq; exact absurd h1 (by decide)
    simp [Cell.num?, this]
  · rename_i r
    refine ⟨1, ?_, by decide⟩
    have : r ≠ 0 := by
      intro h0; subst h0; subst hq; exact absurd h1 (by decide)
    simp [Cell.num?, this]
  · exact ⟨q, by simp [Cell.num?, hq], h1⟩

theorem listMin_le (l : List Rat) (m : Rat) (h : listMin l = some m) : ∀ y ∈ l, m ≤ y := by
  cases l with
  | nil => simp [listMin] at h
  | cons x xs =>
    simp only [listMin, Option.some.injEq] at h
    subst h
    exact List.forall_mem_cons.mpr (foldl_bound (· ≤ ·) (fun _ => Rat.le_refl) (fun _ _ _ => Rat.le_trans) _
      (fun m c => by split; exacts [⟨Rat.le_of_lt ‹_›, Rat.le_refl⟩, ⟨Rat.le_refl, Rat.not_lt.mp ‹_›⟩]) xs x)

theorem listMin_mem (l : List Rat) (m : Rat) (h : listMin l = some m) : m ∈ l := by
  cases l with
  | nil => simp [listMin] at h
  | cons x xs =>
    simp only [listMin, Option.some.injEq] at h
    subst h
    exact List.mem_cons.mpr (foldl_select _ (fun m c => by split; exacts [Or.inr rfl, Or.inl rfl]) xs x)

theorem listMax_ge (l : List Rat) (m : Rat) (h : listMax l = some m) : ∀ y ∈ l, y ≤ m := by
  cases l with
  | nil => simp [listMax] at h
  | cons x xs =>
    simp only [listMax, Option.some.injEq] at h
    subst h
    exact List.forall_mem_cons.mpr (foldl_bound (· ≥ ·) (fun _ => Rat.le_refl) (fun _ _ _ h1 h2 => Rat.le_trans h2 h1) _
      (fun m c => by split; exacts [⟨Rat.le_of_lt ‹_›, Rat.le_refl⟩, ⟨Rat.le_refl, Rat.not_lt.mp ‹_›⟩]) xs x)

theorem cells_ge1_of_min (cells : List Cell) (nums : List Rat) (m : Rat) (h1 : cells.mapM Cell.num? = some nums)
    (h2 : listMin nums = some m) (h3 : ¬ m < 1) : ∀ c ∈ cells, CellGE1 c := by
  intro c hc
  obtain ⟨q, hq, hcq⟩ := mapM_option_fwd _ _ _ h1 c hc
  exact ⟨q, hcq, Rat.le_trans (Rat.not_lt.mp h3) (listMin_le nums m h2 q hq)⟩

theorem mapM_num_total (cells : List Cell) (h : ∀ c ∈ cells, (c.num?).isSome) :
    ∃ nums, cells.mapM Cell.num? = some nums := by
  induction cells with
  | nil => exact ⟨[], rfl⟩
  | cons x t ih =>
    obtain ⟨ns, hns⟩ := ih (fun c hc => h c (by simp [hc]))
    have hx := h x (by simp)
    cases hxn : x.num? with
    | none => simp [hxn] at hx
    | some q => exact ⟨q :: ns, by simp [List.mapM_cons, hxn, hns]⟩

/-- the `np.min(value) < 1` test fires as soon as one cell of a numeric value is below 1. -/
theorem guard_fires (cells : List Cell) (hnum : ∀ c ∈ cells, (c.num?).isSome) (c : Cell) (hc : c ∈ cells) (q : Rat)
    (hq : c.num? = some q) (hlt : q < 1) :
    ∃ nums m, cells.mapM Cell.num? = some nums ∧ listMin nums = some m ∧ m < 1 := by
  obtain ⟨nums, hnums⟩ := mapM_num_total cells hnum
  obtain ⟨q', hq', hcq'⟩ := mapM_option_fwd _ _ _ hnums c hc
  rw [hq] at hcq'; injection hcq' with hcq'; subst hcq'
  cases hm : listMin nums with
  | none =>
    cases nums with
    | nil => simp at hq'
    | cons x xs => simp [listMin] at hm
  | some m =>
    exact ⟨nums, m, hnums, hm, Std.lt_of_le_of_lt (listMin_le nums m hm q hq') hlt⟩

theorem prod_getLast_dvd (shape : List Nat) (d : Nat) (h : shape.getLast? = some d) : d ∣ prod shape := by
  induction shape with
  | nil => simp at h
  | cons x t ih =>
    cases t with
    | nil =>
      simp at h; subst h
      simp [prod]
    | cons y t' =>
      have : (y :: t').getLast? = some d := by simpa [List.getLast?_cons_cons] using h
      obtain ⟨k, hk⟩ := ih this
      exact ⟨x * k, by simp only [prod] at hk ⊢; rw [hk]; exact Nat.mul_left_comm _ _ _⟩

theorem eq_of_key_eq (l : List PropRef) (hnd : (l.map (·.key)).Nodup) (a b : PropRef) (ha : a ∈ l) (hb : b ∈ l)
    (hk : a.key = b.key) : a = b := by
  induction l with
  | nil => simp at ha
  | cons x t ih =>
    simp only [List.map_cons, List.nodup_cons, List.mem_map, not_exists, not_and] at hnd
    simp only [List.mem_cons] at ha hb
    rcases ha with rfl | ha
    · rcases hb with rfl | hb
      · rfl
      · exact absurd hk.symm (hnd.1 b hb)
    · rcases hb with rfl | hb
      · exact absurd hk (hnd.1 a ha)
      · exact ih hnd.2 ha hb

theorem find?_of_key (l : List PropRef) (k : String) (q : PropRef) (hq : q ∈ l) (hk : q.key = k) :
    ∃ q', l.find? (fun p => p.key == k) = some q' := by
  cases hf : l.find? (fun p => p.key == k) with
  | some q' => exact ⟨q', rfl⟩
  | none =>
    rw [List.find?_eq_none] at hf
    have := hf q hq
    simp [hk] at this

end Atomman.C06
