/-
  C06 — the source tie.  `Atomman/Generated/AtomsSource.lean` is regenerated from atomman/core/Atoms.py and System.py on every
  check; every generated definition is proved equal to the hand-written decision of `Atomman/C06.lean` (`gen_…_eq_model`) and the
  functions of the model factor through those decisions (`…_by_decision`, `…_refuses_iff`; those of `view[key] = value` stand in
  `Proofs/C06_View.lean`): an edit of a branch condition, of the order of the
  branches, of a default or of a signature either re-proves or breaks one of the named obligations.
-/
import Atomman.Generated.AtomsSource
import Proofs.Lists

namespace Atomman.C06
open Atomman Atomman.Generated

theorem gen_sigs_eq_model :
    AtomsSource.sigAtomsInit = sigAtomsInit ∧ AtomsSource.sigProp = sigProp ∧ AtomsSource.sigPropAtype = sigPropAtype ∧
    AtomsSource.sigExtend = sigExtend ∧ AtomsSource.sigSystemInit = sigSystemInit ∧
    AtomsSource.sigAtomsProp = sigAtomsProp ∧ AtomsSource.sigAtomsDf = sigAtomsDf ∧
    AtomsSource.sigAtomsExtend = sigAtomsExtend := ⟨rfl, rfl, rfl, rfl, rfl, rfl, rfl, rfl⟩

theorem gen_defaults_eq_model :
    AtomsSource.reservedKeys = reservedKeys ∧ AtomsSource.defaultAtypeShape = defaultAtypeShape ∧
    AtomsSource.defaultAtypeValue = defaultAtypeValue ∧ AtomsSource.defaultPosShape = defaultPosShape ∧
    AtomsSource.pbcShape = pbcShape ∧ AtomsSource.systemInitOrder = systemInitOrder := ⟨rfl, rfl, rfl, rfl, rfl, rfl⟩

/-- the dtype decision for the constructor's `pos` (`posLit` of the model casts exactly these kinds). -/
theorem gen_posCastKinds_eq_model : AtomsSource.posCastKinds = posCastKinds := rfl

/-- which properties `atoms_df(scale)` converts. -/
theorem gen_dfScaleKeys_eq_model : AtomsSource.dfScaleKeys = dfScaleKeys := by
  funext scale
  rcases scale with ((_ | _) | t) | k | l <;> simp [AtomsSource.dfScaleKeys, dfScaleKeys, DfScale.isList, DfScale.single, DfScale.toKeys]

theorem gen_intslice_eq_model : AtomsSource.intslice = intslice := by
  funext i; simp only [AtomsSource.intslice, intslice]

theorem gen_bcastDecision_eq_model : AtomsSource.bcastDecision = bcastDecision := by
  funext shape n
  cases shape <;> simp [AtomsSource.bcastDecision, bcastDecision]

theorem gen_guards_eq_model :
    AtomsSource.viewGuardRefuses = guardRefuses ∧ AtomsSource.propGuardRefuses = guardRefuses ∧
    AtomsSource.patypeGuardRefuses = guardRefuses := ⟨rfl, rfl, rfl⟩

theorem gen_storeDecision_eq_model : AtomsSource.storeDecision = storeDecision := by
  funext has; cases has <;> rfl

theorem gen_countAtype_eq_model : AtomsSource.countAtype = countAtype := by
  funext a
  rcases a with _ | (_ | ⟨n, _ | ⟨m, t⟩⟩) <;> simp [AtomsSource.countAtype, countAtype]

theorem gen_countPos_eq_model : AtomsSource.countPos = countPos := by
  funext a
  rcases a with _ | (_ | ⟨n, _ | ⟨m, _ | ⟨k, t⟩⟩⟩) <;> simp [AtomsSource.countPos, countPos]

theorem gen_countNatoms_eq_model : AtomsSource.countNatoms = countNatoms := by
  funext natoms na np
  cases natoms <;> simp [AtomsSource.countNatoms, countNatoms]

theorem gen_propDispatch_eq_model : AtomsSource.propDispatch = propDispatch := by
  funext key index value a_id
  rcases a_id with _ | a <;> rcases index with _ | ix <;> rcases value with _ | (v | o) <;> rcases key with _ | k <;>
    simp [AtomsSource.propDispatch, propDispatch, CallVal.isAtoms]

theorem gen_atomsPropDispatch_eq_model : AtomsSource.atomsPropDispatch = atomsPropDispatch := by
  funext key index value a_id scale
  rcases scale with (_ | _) | t
  · simp [AtomsSource.atomsPropDispatch, atomsPropDispatch, Flag.isBool]
  · rcases a_id with _ | a <;> rcases index with _ | ix <;> rcases value with _ | (v | o) <;> rcases key with _ | k <;>
      simp [AtomsSource.atomsPropDispatch, atomsPropDispatch, CallVal.isAtoms, Flag.isBool]
  · simp [AtomsSource.atomsPropDispatch, atomsPropDispatch, Flag.isBool]

theorem gen_patypeTableOk_eq_model : AtomsSource.patypeTableOk = patypeTableOk := rfl

theorem gen_extendDispatch_eq_model : AtomsSource.extendDispatch = extendDispatch := by
  funext kind; cases kind <;> rfl

theorem gen_sysNatypesOf_eq_model : AtomsSource.sysNatypesOf = sysNatypesOf := rfl

theorem gen_padTests_eq_model :
    AtomsSource.symbolsGetPads = symbolsGetPads ∧ AtomsSource.symbolsSetPads = symbolsSetPads ∧
    AtomsSource.massesGetPads = massesGetPads := ⟨rfl, rfl, rfl⟩

theorem gen_massesSetDecision_eq_model : AtomsSource.massesSetDecision = massesSetDecision := rfl

theorem gen_systemInit_eq_model :
    AtomsSource.systemInitRefuses = systemInitRefuses ∧ AtomsSource.systemInitConverts = systemInitConverts := by
  refine ⟨?_, rfl⟩
  funext scale; cases scale <;> simp [AtomsSource.systemInitRefuses, systemInitRefuses, Flag.isBool]

theorem gen_atomsExtend_eq_model :
    AtomsSource.atomsExtendRefuses = atomsExtendRefuses ∧ AtomsSource.atomsExtendConverts = atomsExtendConverts ∧
    AtomsSource.atomsExtendOffsetDonor = atomsExtendOffsetDonor := ⟨rfl, rfl, rfl⟩

/-- the step function of the theorems uses the offset read from the source (`AtomsSource.atomsExtendOffsetDonor`). -/
theorem gen_step_eq_model (s : State) (op : Op) :
    step s op = (stepWith AtomsSource.atomsExtendOffsetDonor s op).2 ∧
    output s op = (stepWith AtomsSource.atomsExtendOffsetDonor s op).1 := ⟨rfl, rfl⟩

/-- the guard of the indexed write `prop(key, index, value)` and of `prop_atype(key, value, atype=t)` raises exactly under the
    condition of the source. -/
theorem atypeGuard_refuses_iff (key : String) (v : Val) (nums : List Rat) (s : State)
    (hn : v.data.mapM Cell.num? = some nums) :
    (atypeGuard key v s).1 = .error .value ↔
      guardRefuses (key = "atype") v.data.length (∃ m, listMin nums = some m ∧ m < 1) := by
  unfold atypeGuard guardRefuses
  by_cases hk : key = "atype" ∧ v.data ≠ []
  · rw [if_pos hk]; simp only [hn]
    have hl : v.data.length > 0 := List.length_pos_iff.mpr hk.2
    cases hm : listMin nums with
    | none => simp [pure, M.pure]
    | some m =>
      by_cases h1 : m < 1
      · simp [h1, hk.1, hl, fail]
      · simp [h1, pure, M.pure]
  · rw [if_neg hk]
    constructor
    · intro h; simp [pure, M.pure] at h
    · intro h
      exact absurd ⟨h.1, List.length_pos_iff.mp h.2.1⟩ hk

/-- the constructor's default `atype` / `pos` are the ones of the source. -/
theorem mkAtoms_defaults (natoms : Option Int) (extra : List (String × Src)) :
    mkAtoms natoms none none extra =
      mkAtoms natoms (some (.lit ⟨.int, defaultAtypeShape, [.int defaultAtypeValue]⟩))
        (some (.lit ⟨.flt, defaultPosShape, [.flt 0, .flt 0, .flt 0]⟩)) extra := rfl

/-- `System.natypes` is the decision of the source on `len(self.symbols)` and the atoms' natypes. -/
theorem sysNatypes_by_decision (i : Nat) :
    sysNatypes i = (do
      let syms ← symbolsGet i
      let s ← getS
      let nt ← natypes (s.sys i).atoms
      pure (sysNatypesOf syms.length nt)) := rfl

/-- the `symbols` getter pads (re-assigns through the setter) exactly under the test of the source. -/
theorem symbolsGet_by_decision (i : Nat) (s : State) (nt : Nat) (s1 : State)
    (h : natypes (s.sys i).atoms s = (.ok nt, s1)) :
    (symbolsGetPads (s.sys i).symbols.length nt →
      symbolsGet i s = (do symbolsSet i (s.sys i).symbols; let s' ← getS; pure (s'.sys i).symbols : M _) s1) ∧
    (¬ symbolsGetPads (s.sys i).symbols.length nt → symbolsGet i s = (.ok (s1.sys i).symbols, s1)) := by
  unfold symbolsGet symbolsGetPads
  constructor
  · intro hp
    simp only [bind, M.bind, getS, h, if_pos hp]
  · intro hp
    simp only [bind, M.bind, getS, h, if_neg hp]
    rfl

/-- the `masses` setter: pad / refuse / keep as the source decides. -/
theorem massesSet_by_decision (i : Nat) (value : List (Option Rat)) (s : State) (nt : Nat) (s1 : State)
    (h : sysNatypes i s = (.ok nt, s1)) :
    massesSet i value s =
      (match massesSetDecision value.length nt with
       | .pad => modifySys i (fun y => { y with masses := value ++ List.replicate (nt - value.length) none }) s1
       | .refuse => (.error .value, s1)
       | .keep => modifySys i (fun y => { y with masses := value }) s1) := by
  show M.bind (sysNatypes i) _ s = _
  simp only [M.bind, h, massesSetDecision, padTo]
  by_cases h1 : value.length < nt
  · have h2 : ¬ value.length > nt := by omega
    simp [h1, h2]
  · by_cases h2 : value.length > nt
    · simp [h1, h2, fail]
    · simp [h1, h2]

/-- the `pbc` setter asserts the shape of the source. -/
theorem pbcSet_by_decision (i : Nat) (value : List Bool) :
    pbcSet i value = (if [value.length] ≠ pbcShape then fail .assert else modifySys i (fun y => { y with pbc := value })) := by
  unfold pbcSet pbcShape
  by_cases h : value.length = 3 <;> simp [h]

/-- what follows the count blocks: a negative `natoms` is refused (by `np.broadcast_to` in the source). -/
def countFinish (k : Int) : Except Err Nat := if k < 0 then .error .value else .ok k.toNat

theorem countFinish_natCast (n : Nat) : countFinish (n : Int) = .ok n := by
  simp [countFinish]

theorem countNatoms_core_none (na np : Nat) :
    (if na = np then Except.ok na
      else if na = 1 then Except.ok np else if np = 1 then Except.ok na else Except.error Err.value) =
    (countNatoms none (na : Int) (np : Int)).bind countFinish := by
  have c1 : ((na : Int) = 1) ↔ na = 1 := by omega
  have c2 : ((np : Int) = 1) ↔ np = 1 := by omega
  simp only [countNatoms, Int.natCast_inj, c1, c2, apply_ite (Except.bind · countFinish), exceptSimp,
    countFinish_natCast]

theorem countNatoms_core_some (k : Int) (na np : Nat) :
    (if k < 0 then Except.error Err.value
      else if (na = 1 ∨ na = k.toNat) ∧ (np = 1 ∨ np = k.toNat) then Except.ok k.toNat else Except.error Err.value) =
    (countNatoms (some k) (na : Int) (np : Int)).bind countFinish := by
  have c1 : ((na : Int) = 1) ↔ na = 1 := by omega
  have c2 : ((np : Int) = 1) ↔ np = 1 := by omega
  simp only [countNatoms, apply_ite (Except.bind · countFinish), exceptSimp, countFinish, c1, c2]
  by_cases hk : k < 0
  · simp only [hk, if_true, ite_self]
  · have e1 : ((na : Int) = k) ↔ na = k.toNat := by omega
    have e2 : ((np : Int) = k) ↔ np = k.toNat := by omega
    simp only [hk, if_false, e1, e2]

/-- `Atoms.__init__`: the number of atoms is the three count blocks of the source, one after the other, followed by the
    refusal of a negative count (which the source leaves to `np.broadcast_to`). -/
theorem atomsCount_by_blocks (natoms : Option Int) (sa sp : List Nat) :
    atomsCount natoms sa sp =
      (countAtype (some sa)).bind (fun na => (countPos (some sp)).bind (fun np =>
        (countNatoms natoms na np).bind countFinish)) := by
  cases natoms with
  | none =>
    rcases sa with _ | ⟨a, _ | ⟨a', ta⟩⟩ <;> rcases sp with _ | ⟨p, _ | ⟨p', _ | ⟨p'', tp⟩⟩⟩ <;>
      simp only [atomsCount, countAtype, countPos, Except.bind] <;> try rfl
    · by_cases h : p = 3
      · simp only [h, if_true]; simpa [Except.bind] using countNatoms_core_none 1 1
      · simp only [h, if_false]
    · by_cases h : p' = 3
      · simp only [h, if_true]; simpa [Except.bind] using countNatoms_core_none 1 p
      · simp only [h, if_false]
    · by_cases h : p = 3
      · simp only [h, if_true]; simpa [Except.bind] using countNatoms_core_none a 1
      · simp only [h, if_false]
    · by_cases h : p' = 3
      · simp only [h, if_true]; simpa [Except.bind] using countNatoms_core_none a p
      · simp only [h, if_false]
  | some k =>
    rcases sa with _ | ⟨a, _ | ⟨a', ta⟩⟩ <;> rcases sp with _ | ⟨p, _ | ⟨p', _ | ⟨p'', tp⟩⟩⟩ <;>
      simp only [atomsCount, countAtype, countPos, Except.bind] <;> try rfl
    · by_cases h : p = 3
      · simp only [h, if_true]; simpa [Except.bind] using countNatoms_core_some k 1 1
      · simp only [h, if_false]
    · by_cases h : p' = 3
      · simp only [h, if_true]; simpa [Except.bind] using countNatoms_core_some k 1 p
      · simp only [h, if_false]
    · by_cases h : p = 3
      · simp only [h, if_true]; simpa [Except.bind] using countNatoms_core_some k a 1
      · simp only [h, if_false]
    · by_cases h : p' = 3
      · simp only [h, if_true]; simpa [Except.bind] using countNatoms_core_some k a p
      · simp only [h, if_false]

end Atomman.C06
