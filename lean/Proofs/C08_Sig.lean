/-
  C08 — both LAMMPS loaders factor through the lines of the file that have terms: one simulation (`loop_sim`) between a
  loop as coded (physical line numbers, `skiprows` offsets) and a fold over those lines.
-/
import Proofs.C08_Lemmas
import Proofs.C08_Source
namespace Atomman.C08
open Atomman Atomman.C07
set_option linter.unusedSimpArgs false


/-- what the data-file loader looks at in a physical line: its terms, and on an `Atoms` line its comment. -/
structure SigLine where
  terms : Line
  hint : Option (List Char)
deriving DecidableEq

def sigOf (l : RawLine) : SigLine := ⟨termsC l, if classify (termsC l) = .atoms then hintOf l else none⟩

/-- the significant lines of a file: those with at least one term, in file order. -/
def sig (lines : List RawLine) : List SigLine := (lines.map sigOf).filter fun s => !s.terms.isEmpty

/-- first-pass state with the two offsets replaced by the rows they select. -/
structure FPA where
  st : FP
  rowsA : Option (List Line)
  rowsV : Option (List Line)

/-- the first-pass state with the line numbers forgotten: an offset that is set becomes `1`, so that states reached
    through different numbers of blank or comment lines compare equal. -/
def FP.erase (s : FP) : FP :=
  { s with atomsStart := s.atomsStart.map fun _ => 1, velStart := s.velStart.map fun _ => 1 }

/-- the line is the `Velocities` header and the first pass is in the state in which it records `velStart`. -/
def setsVel (terms : Line) (s : FP) : Bool :=
  decide (classify terms = .velocities) && !s.firstAtoms && decide (s.massesToRead = 0)

/-- one step of the first pass on a significant line: the coded step at line number 0, and instead of the offsets the
    rows collected since the `Atoms` / `Velocities` header (reset at the header, extended by every later line). -/
def fpStepA (lf : Option Rat) (sl : SigLine) (a : FPA) : Res FPA := do
  let st' ← fpStepT lf 0 sl.terms sl.hint a.st
  pure ⟨st', if classify sl.terms = .atoms then some [] else a.rowsA.map (· ++ [sl.terms]),
        if setsVel sl.terms a.st then some [] else a.rowsV.map (· ++ [sl.terms])⟩

def fpLoopA (lf : Option Rat) : List SigLine → FPA → Res FPA
  | [], a => pure a
  | sl :: sls, a => do let a' ← fpStepA lf sl a; fpLoopA lf sls a'

theorem erase_fields (s : FP) : s.erase.firstAtoms = s.firstAtoms ∧ s.erase.massesToRead = s.massesToRead ∧
    s.erase.natypes = s.natypes ∧ s.erase.masses = s.masses := ⟨rfl, rfl, rfl, rfl⟩

theorem fpAct_erase (lf : Option Rat) (i : Nat) (t : Line) (h : Option (List Char)) (s : FP) (k : Nat) :
    (fpAct lf i t h s k).map FP.erase = fpAct lf 0 t h s.erase k := by
  unfold fpAct
  split <;> simp only [bind, Except.bind, pure, Except.pure, erase_fields] <;> (repeat' split) <;> rfl

theorem fpStepT_hint (lf : Option Rat) (i : Nat) (t : Line) (h : Option (List Char)) (s : FP) :
    fpStepT lf i t h s = fpStepT lf i t (if classify t = .atoms then h else none) s := by
  rw [fpStepT_eq_act, fpStepT_eq_act]
  split
  · rfl
  by_cases hc : classify t = .atoms
  · rw [if_pos hc]
  · rw [if_neg hc]
    exact fpAct_hint lf i t h s _ (mt (fpBranch_kind t _ _).1.mp hc)

theorem fpStep_sig (lf : Option Rat) (i : Nat) (l : RawLine) (s : FP) :
    fpStep lf i l s = fpStepT lf i (sigOf l).terms (sigOf l).hint s := by
  unfold fpStep sigOf
  exact fpStepT_hint lf i (termsC l) (hintOf l) s

theorem fpStepT_erase (lf : Option Rat) (i : Nat) (t : Line) (h : Option (List Char)) (s : FP) :
    (fpStepT lf i t h s).map FP.erase = fpStepT lf 0 t h s.erase := by
  rw [fpStepT_eq_act, fpStepT_eq_act]
  split
  · rfl
  · exact fpAct_erase lf i t h s _

theorem fpStepT_offsets (lf : Option Rat) (i : Nat) (t : Line) (h : Option (List Char)) (s s' : FP)
    (hs : fpStepT lf i t h s = .ok s') (hne : t.isEmpty = false) :
    s'.atomsStart = (if classify t = .atoms then some (i + 1) else s.atomsStart) ∧
    s'.velStart = (if setsVel t s = true then some (i + 1) else s.velStart) := by
  rw [fpStepT_eq_act, hne, if_neg Bool.false_ne_true] at hs
  obtain ⟨h1, h2, -⟩ := fpAct_fields lf i t h s s' _ hs
  obtain ⟨k6, k10, -⟩ := fpBranch_kind t s.firstAtoms s.massesToRead
  exact ⟨h1.trans (if_congr k6 rfl rfl), h2.trans (if_congr k10 rfl rfl)⟩

theorem rowsOf_append (c : Bool) (a b : List RawLine) : rowsOf c (a ++ b) = rowsOf c a ++ rowsOf c b := by
  simp [rowsOf, List.map_append, List.filter_append]

theorem rowsOf_single_empty (c : Bool) (l : RawLine) (h : (termsOf c l).isEmpty = true) : rowsOf c [l] = [] := by
  simp [rowsOf, h]

theorem rowsOf_single (c : Bool) (l : RawLine) (h : (termsOf c l).isEmpty = false) : rowsOf c [l] = [termsOf c l] := by
  simp [rowsOf, h]

/-- an offset into the physical lines read so far (`skiprows`) against the rows it selects; `c`: comments are cut. -/
def offRel (c : Bool) (done : List RawLine) (off : Option Nat) (rows : Option (List Line)) : Prop :=
  match off with
  | none => rows = none
  | some k => k ≤ done.length ∧ rows = some (rowsOf c (done.drop k))

/-- simulation relation: `a` is `s` with the two `skiprows` offsets replaced by the rows they select among the lines
    `done` read so far. -/
def fpRel (done : List RawLine) (s : FP) (a : FPA) : Prop :=
  a.st = s.erase ∧ offRel true done s.atomsStart a.rowsA ∧ offRel true done s.velStart a.rowsV

theorem offRel_skip (c : Bool) (done : List RawLine) (l : RawLine) (off : Option Nat) (rows : Option (List Line))
    (h : offRel c done off rows) (he : (termsOf c l).isEmpty = true) : offRel c (done ++ [l]) off rows := by
  cases off with
  | none => exact h
  | some k =>
    obtain ⟨h1, h2⟩ := h
    refine ⟨by simp; omega, ?_⟩
    rw [List.drop_append_of_le_length h1, rowsOf_append, rowsOf_single_empty c l he, List.append_nil]
    exact h2

theorem offRel_push (c : Bool) (done : List RawLine) (l : RawLine) (off : Option Nat) (rows : Option (List Line))
    (h : offRel c done off rows) (he : (termsOf c l).isEmpty = false) :
    offRel c (done ++ [l]) off (rows.map (· ++ [termsOf c l])) := by
  cases off with
  | none => simp [offRel] at h ⊢; exact h
  | some k =>
    obtain ⟨h1, h2⟩ := h
    refine ⟨by simp; omega, ?_⟩
    rw [List.drop_append_of_le_length h1, rowsOf_append, rowsOf_single c l he, h2]
    rfl

theorem offRel_set (c : Bool) (done : List RawLine) (l : RawLine) :
    offRel c (done ++ [l]) (some (done.length + 1)) (some []) := by
  refine ⟨by simp, ?_⟩
  have : (done ++ [l]).drop (done.length + 1) = [] := by
    apply List.drop_eq_nil_of_le; simp
  rw [this]; rfl

theorem fpStepT_empty (lf : Option Rat) (i : Nat) (t : Line) (h : Option (List Char)) (s : FP)
    (he : t.isEmpty = true) : fpStepT lf i t h s = .ok s := by
  unfold fpStepT; simp [he]; rfl

theorem setsVel_erase (t : Line) (s : FP) : setsVel t s.erase = setsVel t s := rfl

def FPA.init : FPA := ⟨{}, none, none⟩


/-- a loop over the physical lines of a file, each step told the number of its line: `fpLoop`, `dsLoop`. -/
def loopP {S : Type} (step : Nat → RawLine → S → Res S) : Nat → List RawLine → S → Res S
  | _, [], s => pure s
  | i, l :: ls, s => step i l s >>= loopP step (i + 1) ls

/-- a loop that numbers the physical lines and does nothing on the lines without terms, against a fold over what the
    lines with terms show (`item`), for any relation `R` that the steps keep (`done`: the lines read so far). -/
theorem loop_sim {S A X : Type} (c : Bool) (stepP : Nat → RawLine → S → Res S) (stepA : A → X → Res A)
    (item : RawLine → X) (R : List RawLine → S → A → Prop)
    (hskip : ∀ done l s a, (termsOf c l).isEmpty = true → R done s a →
      stepP done.length l s = .ok s ∧ R (done ++ [l]) s a)
    (hstep : ∀ done l s a, (termsOf c l).isEmpty = false → R done s a →
      ResRel (R (done ++ [l])) (stepP done.length l s) (stepA a (item l))) :
    ∀ (ls done : List RawLine) (s : S) (a : A), R done s a →
      ResRel (R (done ++ ls)) (loopP stepP done.length ls s)
        (((ls.filter fun l => !(termsOf c l).isEmpty).map item).foldlM stepA a) := by
  intro ls
  induction ls with
  | nil => intro done s a hr; simpa [loopP, ResRel, exceptSimp] using hr
  | cons l ls ih =>
    intro done s a hr
    have hcons : done ++ l :: ls = (done ++ [l]) ++ ls := by simp
    have hlen : done.length + 1 = (done ++ [l]).length := by simp
    rw [loopP, hcons, hlen]
    cases he : (termsOf c l).isEmpty with
    | true =>
      obtain ⟨h1, h2⟩ := hskip done l s a he hr
      rw [h1, List.filter_cons_of_neg (by simp [he])]
      exact ih _ s a h2
    | false =>
      rw [List.filter_cons_of_pos (by simp [he]), List.map_cons, List.foldlM_cons]
      exact (hstep done l s a he hr).bind fun s' a' h' => ih _ s' a' h'

theorem rowsOf_eq (c : Bool) (ls : List RawLine) :
    rowsOf c ls = (ls.filter fun l => !(termsOf c l).isEmpty).map (termsOf c) := by
  rw [rowsOf, List.filter_map]; rfl

theorem fpLoop_eq (lf : Option ℚ) (i : Nat) (ls : List RawLine) (s : FP) : fpLoop lf i ls s = loopP (fpStep lf) i ls s := by
  induction ls generalizing i s with
  | nil => rfl
  | cons l ls ih => simp only [fpLoop, loopP, ih]

theorem fpLoopA_eq (lf : Option ℚ) (sl : List SigLine) (a : FPA) :
    fpLoopA lf sl a = sl.foldlM (fun a x => fpStepA lf x a) a := by
  induction sl generalizing a with
  | nil => rfl
  | cons t ts ih => simp only [fpLoopA, List.foldlM_cons, ih]

theorem fpLoopA_append (lf : Option ℚ) (x y : List SigLine) (a : FPA) :
    fpLoopA lf (x ++ y) a = (fpLoopA lf x a).bind (fpLoopA lf y) := by
  rw [fpLoopA_eq, List.foldlM_append, ← fpLoopA_eq]
  exact congrArg (Except.bind _) (funext fun a' => (fpLoopA_eq lf y a').symm)

theorem sig_eq (ls : List RawLine) : sig ls = (ls.filter fun l => !(termsOf true l).isEmpty).map sigOf := by
  rw [sig, List.filter_map]; rfl

theorem fpStep_sim (lf : Option Rat) (done : List RawLine) (l : RawLine) (s : FP) (a : FPA) (hr : fpRel done s a)
    (he : (termsC l).isEmpty = false) :
    ResRel (fpRel (done ++ [l])) (fpStep lf done.length l s) (fpStepA lf (sigOf l) a) := by
  obtain ⟨h1, h2, h3⟩ := hr
  have herase := fpStepT_erase lf done.length (sigOf l).terms (sigOf l).hint s
  rw [fpStep_sig, fpStepA, h1, ← herase]
  cases hs : fpStepT lf done.length (sigOf l).terms (sigOf l).hint s with
  | error e => rfl
  | ok s' =>
    obtain ⟨o1, o2⟩ := fpStepT_offsets lf done.length (sigOf l).terms (sigOf l).hint s s' hs he
    refine ⟨rfl, ?_, ?_⟩
    · show offRel true _ s'.atomsStart (if _ then _ else _)
      rw [o1]
      split
      · exact offRel_set true done l
      · exact offRel_push true done l _ _ h2 he
    · show offRel true _ s'.velStart (if _ then _ else _)
      rw [o2, setsVel_erase]
      split
      · exact offRel_set true done l
      · exact offRel_push true done l _ _ h3 he

theorem fpLoop_sim (lf : Option Rat) (lines : List RawLine) :
    ResRel (fpRel lines) (fpLoop lf 0 lines {}) (fpLoopA lf (sig lines) FPA.init) := by
  rw [fpLoop_eq, fpLoopA_eq, sig_eq]
  exact loop_sim true (fpStep lf) (fun a x => fpStepA lf x a) sigOf fpRel
    (fun done l s a he hr =>
      ⟨fpStepT_empty _ _ _ _ _ he, hr.1, offRel_skip true _ _ _ _ hr.2.1 he, offRel_skip true _ _ _ _ hr.2.2 he⟩)
    (fun done l s a he hr => fpStep_sim lf done l s a hr he) lines [] {} FPA.init ⟨rfl, rfl, rfl⟩

/-- the data-file loader as a function of the significant lines only (`short`: the file has at most one line). -/
def loadDataSig (sl : List SigLine) (short : Bool) (pbc : V3 Bool) (symbols : Option (List (Option String)))
    (styleArg : Option String) (u : Units) : Res Loaded := do
  let lf ← lengthFactor u
  let a ← fpLoopA lf sl FPA.init
  let fp ← fpFinish a.st short
  loadDataCore fp (a.rowsA.getD []) a.rowsV pbc symbols styleArg u

theorem fpFinish_erase (s : FP) (short : Bool) : fpFinish s.erase short = fpFinish s short := by
  unfold fpFinish
  have : s.erase.atomsStart.isNone = s.atomsStart.isNone := by
    simp [FP.erase]
  simp only [this]
  rfl

theorem fpFinish_missing (s : FP)
    (h : s.natoms = none ∨ s.x = none ∨ s.y = none ∨ s.z = none ∨ s.atomsStart = none) :
    fpFinish s false = .error "format" := by
  unfold fpFinish
  cases hn : s.natoms; · rfl
  cases hx : s.x; · rfl
  cases hy : s.y; · rfl
  cases hz : s.z; · rfl
  cases ha : s.atomsStart; · rfl
  simp [hn, hx, hy, hz, ha] at h

theorem fpFinish_short (s : FP) : fpFinish s true = .error "notfound" := rfl

theorem fpFinish_atomsStart (s : FP) (short : Bool) (fp : FirstPass) (h : fpFinish s short = .ok fp) :
    s.atomsStart.isSome = true := by
  cases hs : s.atomsStart with
  | some k => rfl
  | none =>
    cases short
    · rw [fpFinish_missing s (Or.inr (Or.inr (Or.inr (Or.inr hs))))] at h; cases h
    · rw [fpFinish_short] at h; cases h

theorem fpFinish_ok (s : FP) (fp : FirstPass) (h : fpFinish s false = .ok fp) :
    (∃ n : Int, s.natoms = some n ∧ fp.natoms = n.toNat) ∧ fp.hint = s.hint := by
  unfold fpFinish at h
  cases hn : s.natoms with
  | none => simp [hn, bind, Except.bind, throw, throwThe, MonadExceptOf.throw] at h
  | some n =>
    cases hx : s.x <;> cases hy : s.y <;> cases hz : s.z <;> cases ha : s.atomsStart <;>
      simp [hn, hx, hy, hz, ha, bind, Except.bind, pure, Except.pure, throw, throwThe, MonadExceptOf.throw] at h
    rename_i x y z k
    cases hb : Box.ofHiLos? x.1 x.2 y.1 y.2 z.1 z.2 s.xy s.xz s.yz with
    | none => simp [hb] at h
    | some b =>
      simp only [hb] at h
      by_cases hneg : n < 0
      · simp [hneg] at h
      · simp only [hneg, if_false] at h
        injection h with h
        rw [← h]
        exact ⟨⟨n, rfl, rfl⟩, rfl⟩

/-- **the loader factors through the significant lines.** -/
theorem loadDataLines_eq_sig (lines : List RawLine) (pbc : V3 Bool) (symbols : Option (List (Option String)))
    (styleArg : Option String) (u : Units) :
    loadDataLines lines pbc symbols styleArg u =
      loadDataSig (sig lines) (decide (lines.length ≤ 1)) pbc symbols styleArg u := by
  unfold loadDataLines loadDataSig
  refine ResRel.eq (.bind_same fun lf _ => (fpLoop_sim lf lines).bind fun s a ⟨h1, h2, h3⟩ => ?_)
  rw [h1, fpFinish_erase]
  refine .bind_same fun fp hf => .of_eq ?_
  obtain ⟨k, hk⟩ := Option.isSome_iff_exists.mp (fpFinish_atomsStart s _ fp hf)
  rw [hk] at h2 ⊢
  rw [h2.2]
  congr 1
  cases hv : s.velStart with
  | none => rw [hv] at h3; exact h3.symm
  | some kv => rw [hv] at h3; exact h3.2.symm

theorem fpStepT_frame (lf : Option Rat) (i : Nat) (t : Line) (h : Option (List Char)) (s s' : FP)
    (hs : fpStepT lf i t h s = .ok s') :
    ((∀ n, classify t ≠ .natoms n) → s'.natoms = s.natoms) ∧
    ((∀ a b, classify t ≠ .xb a b) → s'.x = s.x) ∧
    ((∀ a b, classify t ≠ .yb a b) → s'.y = s.y) ∧
    ((∀ a b, classify t ≠ .zb a b) → s'.z = s.z) ∧
    (classify t ≠ .atoms → s'.atomsStart = s.atomsStart) := by
  rw [fpStepT_eq_act] at hs
  split at hs
  · cases hs
    exact ⟨fun _ => rfl, fun _ => rfl, fun _ => rfl, fun _ => rfl, fun _ => rfl⟩
  · obtain ⟨h6, -, h0, h2, h3, h4⟩ := fpAct_fields lf i t h s s' _ hs
    obtain ⟨k6, -, k0, k2, k3, k4⟩ := fpBranch_kind t s.firstAtoms s.massesToRead
    exact ⟨fun hc => h0 fun hk => (k0 hk).elim hc,
      fun hc => h2 fun hk => (k2 hk).elim fun a ⟨b, hb⟩ => hc a b hb,
      fun hc => h3 fun hk => (k3 hk).elim fun a ⟨b, hb⟩ => hc a b hb,
      fun hc => h4 fun hk => (k4 hk).elim fun a ⟨b, hb⟩ => hc a b hb,
      fun hc => h6.trans (if_neg (mt k6.mp hc))⟩

/-- what no line of the list changes (`P`: the line does not change `get`) is the same after the loop. -/
theorem fpLoopA_keeps {α : Type} (get : FP → α) (P : Line → Prop) (lf : Option Rat)
    (hstep : ∀ t h s s', fpStepT lf 0 t h s = .ok s' → P t → get s' = get s) :
    ∀ (sl : List SigLine) (a a' : FPA), fpLoopA lf sl a = .ok a' → (∀ e ∈ sl, P e.terms) → get a'.st = get a.st
  | [], a, a', h, _ => by cases h; rfl
  | e :: es, a, a', h, hP => by
    rw [fpLoopA, fpStepA] at h
    obtain ⟨a1, h1, h2⟩ := bind_ok h
    obtain ⟨st1, ht, h1⟩ := bind_ok h1
    cases h1
    exact (fpLoopA_keeps get P lf hstep es _ a' h2 fun x hx => hP x (List.mem_cons_of_mem _ hx)).trans
      (hstep _ _ _ _ ht (hP e List.mem_cons_self))

theorem fpLoopA_frame (lf : Option Rat) (sl : List SigLine) (a a' : FPA) (h : fpLoopA lf sl a = .ok a') :
    ((∀ e ∈ sl, ∀ n, classify e.terms ≠ .natoms n) → a'.st.natoms = a.st.natoms) ∧
    ((∀ e ∈ sl, ∀ p q, classify e.terms ≠ .xb p q) → a'.st.x = a.st.x) ∧
    ((∀ e ∈ sl, ∀ p q, classify e.terms ≠ .yb p q) → a'.st.y = a.st.y) ∧
    ((∀ e ∈ sl, ∀ p q, classify e.terms ≠ .zb p q) → a'.st.z = a.st.z) ∧
    ((∀ e ∈ sl, classify e.terms ≠ .atoms) → a'.st.atomsStart = a.st.atomsStart) :=
  ⟨fpLoopA_keeps (·.natoms) _ lf (fun t h s s' hs => (fpStepT_frame lf 0 t h s s' hs).1) sl a a' h,
   fpLoopA_keeps (·.x) _ lf (fun t h s s' hs => (fpStepT_frame lf 0 t h s s' hs).2.1) sl a a' h,
   fpLoopA_keeps (·.y) _ lf (fun t h s s' hs => (fpStepT_frame lf 0 t h s s' hs).2.2.1) sl a a' h,
   fpLoopA_keeps (·.z) _ lf (fun t h s s' hs => (fpStepT_frame lf 0 t h s s' hs).2.2.2.1) sl a a' h,
   fpLoopA_keeps (·.atomsStart) _ lf (fun t h s s' hs => (fpStepT_frame lf 0 t h s s' hs).2.2.2.2) sl a a' h⟩

/-- the dump-file counterpart of `fpStepA`: the coded step `dsCore`, with the rows collected since
    `ITEM: ATOMS` in place of the offset. -/
def dsStepA (lf : Option Rat) (t : Line) (a : DSC × Option (List Line)) : Res (DSC × Option (List Line)) := do
  let r ← dsCore lf t a.1
  pure (r.1, if r.2 then some [] else a.2.map (· ++ [t]))

def dsLoopA (lf : Option Rat) : List Line → DSC × Option (List Line) → Res (DSC × Option (List Line))
  | [], a => pure a
  | t :: ts, a => do let a' ← dsStepA lf t a; dsLoopA lf ts a'

theorem dsCore_empty (lf : Option Rat) (t : Line) (s : DSC) (h : t.isEmpty = true) : dsCore lf t s = .ok (s, false) := by
  unfold dsCore; simp [h]; rfl

theorem dsLoop_eq (lf : Option ℚ) (i : Nat) (ls : List RawLine) (s : DS) : dsLoop lf i ls s = loopP (dsStep lf) i ls s := by
  induction ls generalizing i s with
  | nil => rfl
  | cons l ls ih => simp only [dsLoop, loopP, ih]

theorem dsLoopA_eq (lf : Option ℚ) (ts : List Line) (a : DSC × Option (List Line)) :
    dsLoopA lf ts a = ts.foldlM (fun a t => dsStepA lf t a) a := by
  induction ts generalizing a with
  | nil => rfl
  | cons t ts ih => simp only [dsLoopA, List.foldlM_cons, ih]

theorem dsLoopA_append (lf : Option ℚ) (a b : List Line) (st : DSC × Option (List Line)) :
    dsLoopA lf (a ++ b) st = (dsLoopA lf a st).bind (dsLoopA lf b) := by
  rw [dsLoopA_eq, List.foldlM_append, ← dsLoopA_eq]
  exact congrArg (Except.bind _) (funext fun st' => (dsLoopA_eq lf b st').symm)

theorem dsLoop_sim (lf : Option Rat) (lines : List RawLine) :
    ResRel (fun s a => a.1 = s.c ∧ offRel false lines s.atomsStart a.2) (dsLoop lf 0 lines {})
      (dsLoopA lf (rowsOf false lines) ({}, none)) := by
  rw [dsLoop_eq, dsLoopA_eq, rowsOf_eq]
  refine loop_sim false (dsStep lf) (fun a t => dsStepA lf t a) termsN
    (fun done s a => a.1 = s.c ∧ offRel false done s.atomsStart a.2)
    (fun done l s a he hr =>
      ⟨by rw [dsStep, dsStepT, dsCore_empty lf (termsN l) s.c he]; rfl, hr.1, offRel_skip false done l _ _ hr.2 he⟩)
    (fun done l s a he hr => ?_) lines [] {} ({}, none) ⟨rfl, rfl⟩
  obtain ⟨a1, a2⟩ := a
  obtain rfl : a1 = s.c := hr.1
  rw [dsStep, dsStepT, dsStepA]
  cases hc : dsCore lf (termsN l) s.c with
  | error e => rfl
  | ok r =>
    refine ⟨rfl, ?_⟩
    show offRel false _ (if r.2 = true then _ else _) (if r.2 = true then _ else _)
    split
    · exact offRel_set false done l
    · exact offRel_push false done l _ _ hr.2 he

/-- the dump-file loader as a function of the lines that have terms. -/
def loadDumpRows (rows : List Line) (symbols : Option (List (Option String))) (given : Option (List PCol))
    (u : Units) : Res Loaded := do
  let lf ← lengthFactor u
  let a ← dsLoopA lf rows ({}, none)
  loadDumpCore a.1 a.2 symbols given u

theorem loadDumpLines_eq_rows (lines : List RawLine) (symbols : Option (List (Option String)))
    (given : Option (List PCol)) (u : Units) :
    loadDumpLines lines symbols given u = loadDumpRows (rowsOf false lines) symbols given u := by
  unfold loadDumpLines loadDumpRows
  refine ResRel.eq (.bind_same fun lf _ => (dsLoop_sim lf lines).bind fun s a ⟨h1, h2⟩ => .of_eq ?_)
  obtain ⟨a1, a2⟩ := a
  obtain rfl : a1 = s.c := h1
  congr 1
  cases hk : s.atomsStart with
  | none => rw [hk] at h2; exact h2.symm
  | some k => rw [hk] at h2; exact h2.2.symm

end Atomman.C08
