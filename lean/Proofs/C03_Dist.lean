/-
  C03 — the periodic distance `dmag2` is the least of the candidates over the image shifts (`dmag2_lt_iff` of Proofs/Images), so
  it transfers, with a factor, along any correspondence of shifts (`dmag2_transfer`); it is symmetric, and the driver's memoised
  table holds it.
-/
import Atomman.C03
import Proofs.Images
import Mathlib.Data.Rat.Cast.Order

namespace Atomman.C03
open List

theorem v3sub_x (a b : V3 ℚ) : (a - b).x = a.x - b.x := V3.sub_x a b
theorem v3sub_y (a b : V3 ℚ) : (a - b).y = a.y - b.y := V3.sub_y a b
theorem v3sub_z (a b : V3 ℚ) : (a - b).z = a.z - b.z := V3.sub_z a b

/-- squared length of the candidate separation for the image shift `s`. -/
def cand2 (vects : M3 ℚ) (p0 p1 : V3 ℚ) (s : Int × Int × Int) : ℚ := V3.normSq (shiftBy vects (p1 - p0) s)

/-- `dmag2_congr` of Proofs/Images with a factor `k` on the squared lengths.  Its instances here are the similarities of space
    (`dist2_mapSys`: unit of length, mirror image, renamed axes), with both maps of shifts the identity. -/
theorem dmag2_transfer {V V' : M3 ℚ} {px py pz px' py' pz' : Bool} {p0 p1 p0' p1' : V3 ℚ} (k : ℚ) (hk : 0 < k)
    (φ ψ : Int × Int × Int → Int × Int × Int)
    (hφ : ∀ s ∈ allShifts px py pz, φ s ∈ allShifts px' py' pz' ∧ cand2 V' p0' p1' (φ s) = k * cand2 V p0 p1 s)
    (hψ : ∀ s ∈ allShifts px' py' pz', ψ s ∈ allShifts px py pz ∧ k * cand2 V p0 p1 (ψ s) = cand2 V' p0' p1' s) :
    dmag2 V' px' py' pz' p0' p1' = k * dmag2 V px py pz p0 p1 := by
  apply eq_of_forall_gt_iff
  intro t
  simp only [cand2] at hφ hψ
  rw [dmag2_lt_iff, ← lt_div_iff₀' hk, dmag2_lt_iff]
  constructor
  · rintro ⟨s, hs, h⟩
    exact ⟨ψ s, (hψ s hs).1, (lt_div_iff₀' hk).2 ((hψ s hs).2 ▸ h)⟩
  · rintro ⟨s, hs, h⟩
    exact ⟨φ s, (hφ s hs).1, (hφ s hs).2 ▸ (lt_div_iff₀' hk).1 h⟩

theorem dist2_symm (S : Sys) (u v : Nat) : dist2 S u v = dist2 S v u := dmag2_symm _ _ _ _ _ _

/-- the memoised distance of the driver (`distTable`: each `dist2 S j i`, `j < i`, evaluated once) is `dist2`. -/
theorem tableDist_eq (S : Sys) (u v : Nat) (hu : u < S.natoms) (hv : v < S.natoms) (huv : u ≠ v) :
    tableDist (distTable S) u v = dist2 S u v := by
  unfold tableDist distTable
  by_cases h : u < v
  · simp [h, hv, Array.getD]
  · have h' : v < u := by omega
    simp [h, h', hu, Array.getD]
    exact dist2_symm S v u

end Atomman.C03
