/-
  C06 — the history invariant `InvK κ s`, and the two primitives that touch the heap: `alloc` (invariant) and `assign`
  (its cases, invariant, exact effect `Wrote`, frame).  The ghost `κ` maps a buffer to the property key under which it is
  (or will be) referenced: numpy arrays are never shared between different property names, which is what keeps a write
  to one property from changing `atype`.
-/
import Proofs.C06_Monad

namespace Atomman.C06

structure BufOK (b : Buf) : Prop where
  width : ∀ r ∈ b.rows, r.length = prod b.trail
  typed : ∀ r ∈ b.rows, ∀ c ∈ r, c.hasType b.dt = true

def ArrValid (s : State) (a : Arr) : Prop :=
  a.buf < s.heap.length ∧ ∀ i ∈ a.idx, i < (s.buf a.buf).rows.length

def AtypeOK (s : State) (a : Arr) : Prop :=
  ∀ i ∈ a.idx, ∀ c ∈ (s.buf a.buf).rows[i]?.getD [], CellGE1 c

structure PropOK (κ : Nat → String) (s : State) (n : Nat) (p : PropRef) : Prop where
  valid : ArrValid s p.arr
  len : p.arr.idx.length = n
  key : κ p.arr.buf = p.key
  atype : p.key = "atype" → AtypeOK s p.arr
  nodup : p.arr.idx.Nodup

structure InvK (κ : Nat → String) (s : State) : Prop where
  heap : ∀ b ∈ s.heap, BufOK b
  props : ∀ o ∈ s.objs, ∀ p ∈ o.props, PropOK κ s o.natoms p
  nodup : ∀ o ∈ s.objs, (o.props.map (·.key)).Nodup
  syss : ∀ y ∈ s.syss, y.atoms < s.objs.length ∧ y.pbc.length = 3

/-- the order between the state an operation starts from and the state it leaves, proved operation by operation as part
    of `Ext`: buffers keep dtype, trailing shape and number of rows; objects keep `natoms` and the array bound to each
    existing key; nothing is removed. -/
structure Le (s s' : State) : Prop where
  heapLen : s.heap.length ≤ s'.heap.length
  buf : ∀ b, b < s.heap.length → (s'.buf b).dt = (s.buf b).dt ∧ (s'.buf b).trail = (s.buf b).trail ∧
    (s'.buf b).rows.length = (s.buf b).rows.length
  objsLen : s.objs.length ≤ s'.objs.length
  obj : ∀ o, o < s.objs.length → (s'.obj o).natoms = (s.obj o).natoms ∧
    ∀ k a, (s.obj o).find k = some a → (s'.obj o).find k = some a
  syssLen : s.syss.length ≤ s'.syss.length
  sys : ∀ i, i < s.syss.length → (s'.sys i).atoms = (s.sys i).atoms ∧ (s'.sys i).box = (s.sys i).box

theorem Le.refl (s : State) : Le s s :=
  ⟨Nat.le_refl _, fun _ _ => ⟨rfl, rfl, rfl⟩, Nat.le_refl _, fun _ _ => ⟨rfl, fun _ _ h => h⟩, Nat.le_refl _,
    fun _ _ => ⟨rfl, rfl⟩⟩

theorem Le.trans {s s1 s2 : State} (h1 : Le s s1) (h2 : Le s1 s2) : Le s s2 := by
  refine ⟨Nat.le_trans h1.heapLen h2.heapLen, ?_, Nat.le_trans h1.objsLen h2.objsLen, ?_,
    Nat.le_trans h1.syssLen h2.syssLen, ?_⟩
  · intro b hb
    obtain ⟨a1, a2, a3⟩ := h1.buf b hb
    obtain ⟨b1, b2, b3⟩ := h2.buf b (Nat.lt_of_lt_of_le hb h1.heapLen)
    exact ⟨b1.trans a1, b2.trans a2, b3.trans a3⟩
  · intro o ho
    obtain ⟨a1, a2⟩ := h1.obj o ho
    obtain ⟨b1, b2⟩ := h2.obj o (Nat.lt_of_lt_of_le ho h1.objsLen)
    exact ⟨b1.trans a1, fun k a h => b2 k a (a2 k a h)⟩
  · intro i hi
    obtain ⟨a1, a2⟩ := h1.sys i hi
    obtain ⟨b1, b2⟩ := h2.sys i (Nat.lt_of_lt_of_le hi h1.syssLen)
    exact ⟨b1.trans a1, b2.trans a2⟩

structure Ext (κ : Nat → String) (s : State) (κ' : Nat → String) (s' : State) : Prop where
  le : Le s s'
  agree : ∀ b, b < s.heap.length → κ' b = κ b

theorem Ext.refl (κ : Nat → String) (s : State) : Ext κ s κ s := ⟨Le.refl s, fun _ _ => rfl⟩

theorem Ext.trans {κ κ1 κ2 : Nat → String} {s s1 s2 : State} (h1 : Ext κ s κ1 s1) (h2 : Ext κ1 s1 κ2 s2) :
    Ext κ s κ2 s2 :=
  ⟨h1.le.trans h2.le, fun b hb => (h2.agree b (Nat.lt_of_lt_of_le hb h1.le.heapLen)).trans (h1.agree b hb)⟩

theorem ArrValid.mono {s s' : State} {a : Arr} (h : ArrValid s a) (hle : Le s s') : ArrValid s' a := by
  refine ⟨Nat.lt_of_lt_of_le h.1 hle.heapLen, ?_⟩
  intro i hi
  rw [(hle.buf a.buf h.1).2.2]
  exact h.2 i hi

theorem buf_lt (s : State) (b : Nat) (h : b < s.heap.length) : s.buf b = s.heap[b] := by
  simp [State.buf, List.getElem?_eq_getElem h]

theorem buf_mem (s : State) (b : Nat) (h : b < s.heap.length) : s.buf b ∈ s.heap := by
  rw [buf_lt s b h]; exact List.getElem_mem h

theorem obj_lt (s : State) (o : Nat) (h : o < s.objs.length) : s.obj o = s.objs[o] := by
  simp [State.obj, List.getElem?_eq_getElem h]

theorem obj_mem (s : State) (o : Nat) (h : o < s.objs.length) : s.obj o ∈ s.objs := by
  rw [obj_lt s o h]; exact List.getElem_mem h

theorem obj_ge (s : State) (o : Nat) (h : s.objs.length ≤ o) : s.obj o = emptyObj := by
  simp [State.obj, List.getElem?_eq_none h]

theorem obj_congr {s s' : State} (h : s'.objs = s.objs) (o : Nat) : s'.obj o = s.obj o := by simp [State.obj, h]

theorem buf_congr {s s' : State} (h : s'.heap = s.heap) (b : Nat) : s'.buf b = s.buf b := by simp [State.buf, h]

theorem arrVal_of_heap_eq {s s' : State} (h : s'.heap = s.heap) (a : Arr) : arrVal s' a = arrVal s a := by
  simp [arrVal, arrDt, arrTrail, arrRows, buf_congr h]

theorem sys_mem (s : State) (i : Nat) (h : i < s.syss.length) : s.sys i ∈ s.syss := by
  simp [State.sys, List.getElem?_eq_getElem h]

/-- also for a dangling `o`, which reads as the empty object. -/
theorem InvK.obj_props {κ : Nat → String} {s : State} (h : InvK κ s) (o : Nat) :
    ∀ p ∈ (s.obj o).props, PropOK κ s (s.obj o).natoms p := by
  by_cases ho : o < s.objs.length
  · exact h.props _ (obj_mem s o ho)
  · rw [obj_ge s o (Nat.le_of_not_lt ho)]
    intro p hp; simp [emptyObj] at hp

theorem InvK.obj_nodup {κ : Nat → String} {s : State} (h : InvK κ s) (o : Nat) :
    ((s.obj o).props.map (·.key)).Nodup := by
  by_cases ho : o < s.objs.length
  · exact h.nodup _ (obj_mem s o ho)
  · rw [obj_ge s o (Nat.le_of_not_lt ho)]; simp [emptyObj]

theorem find_mem (o : AtomsObj) (key : String) (a : Arr) (h : o.find key = some a) :
    ∃ p ∈ o.props, p.key = key ∧ p.arr = a := by
  unfold AtomsObj.find at h
  cases hf : o.props.find? (fun p => p.key == key) with
  | none => simp [hf] at h
  | some p =>
    simp [hf] at h
    refine ⟨p, List.mem_of_find?_eq_some hf, ?_, h⟩
    have := List.find?_some hf
    simpa using this

theorem InvK.find_ok {κ : Nat → String} {s : State} (h : InvK κ s) (o : Nat) (key : String) (a : Arr)
    (hf : (s.obj o).find key = some a) : PropOK κ s (s.obj o).natoms ⟨key, a⟩ := by
  obtain ⟨p, hp, hk, ha⟩ := find_mem _ _ _ hf
  have := h.obj_props o p hp
  cases p; simp at hk ha; subst hk; subst ha; exact this

/-- the ghost after buffer `b` was filed under key `k`. -/
def upd (κ : Nat → String) (b : Nat) (k : String) : Nat → String := fun x => if x = b then k else κ x

theorem buf_append_lt (s : State) (x : Buf) (b : Nat) (h : b < s.heap.length) :
    ({ s with heap := s.heap ++ [x] } : State).buf b = s.buf b := by
  simp [State.buf, List.getElem?_append_left h]

theorem buf_append_eq (s : State) (x : Buf) :
    ({ s with heap := s.heap ++ [x] } : State).buf s.heap.length = x := by
  simp [State.buf]

theorem buf_set (s : State) (b c : Nat) (x : Buf) :
    ({ s with heap := s.heap.set b x } : State).buf c = if c = b ∧ b < s.heap.length then x else s.buf c :=
  getD_set _ _ _ _ _

/-- transport of `PropOK` to a later state: only the `atype` clause depends on buffer contents. -/
theorem PropOK.transport {κ κ' : Nat → String} {s s' : State} {n : Nat} {p : PropRef} (h : PropOK κ s n p)
    (hext : Ext κ s κ' s') (hat : p.key = "atype" → AtypeOK s' p.arr) : PropOK κ' s' n p :=
  ⟨h.valid.mono hext.le, h.len, (hext.agree _ h.valid.1).trans h.key, hat, h.nodup⟩

def SameBufs (s s' : State) : Prop := ∀ b, b < s.heap.length → s'.buf b = s.buf b

theorem AtypeOK.same {s s' : State} {a : Arr} (h : AtypeOK s a) (hb : s'.buf a.buf = s.buf a.buf) : AtypeOK s' a := by
  intro i hi; rw [hb]; exact h i hi

/-- the heap only grew: every buffer of `s` is the same buffer of `st`. -/
def HeapExt (s st : State) : Prop := ∃ extra, st.heap = s.heap ++ extra

theorem HeapExt.refl (s : State) : HeapExt s s := ⟨[], by simp⟩

theorem HeapExt.trans {s s1 s2 : State} (h1 : HeapExt s s1) (h2 : HeapExt s1 s2) : HeapExt s s2 := by
  obtain ⟨e1, h1⟩ := h1
  obtain ⟨e2, h2⟩ := h2
  exact ⟨e1 ++ e2, by rw [h2, h1, List.append_assoc]⟩

theorem HeapExt.len {s st : State} (h : HeapExt s st) : s.heap.length ≤ st.heap.length := by
  obtain ⟨e, h⟩ := h; rw [h]; simp

theorem HeapExt.buf {s st : State} (h : HeapExt s st) (b : Nat) (hb : b < s.heap.length) : st.buf b = s.buf b := by
  obtain ⟨e, h⟩ := h
  simp [State.buf, h, List.getElem?_append_left hb]

theorem HeapExt.rows {s st : State} (h : HeapExt s st) (a : Arr) (hb : a.buf < s.heap.length) :
    arrRows st a = arrRows s a ∧ arrDt st a = arrDt s a ∧ arrTrail st a = arrTrail s a := by
  simp [arrRows, arrDt, arrTrail, h.buf a.buf hb]

theorem HeapExt.valid {s st : State} (h : HeapExt s st) {a : Arr} (hv : ArrValid s a) : ArrValid st a :=
  ⟨Nat.lt_of_lt_of_le hv.1 h.len, by rw [h.buf _ hv.1]; exact hv.2⟩

theorem heapExt_alloc (s : State) (x : Buf) : HeapExt s { s with heap := s.heap ++ [x] } := ⟨[x], rfl⟩

theorem alloc_eq (dt : DType) (trail : List Nat) (rows : List Row) (s : State) :
    alloc dt trail rows s =
      (.ok ⟨s.heap.length, List.range rows.length⟩, { s with heap := s.heap ++ [⟨dt, trail, rows⟩] }) := rfl

/-- the array `alloc` returns for a buffer `x` of `n` rows: valid, and it reads `x`. -/
theorem alloc_reads (s : State) (x : Buf) (n : Nat) (hn : x.rows.length = n) :
    ArrValid { s with heap := s.heap ++ [x] } ⟨s.heap.length, List.range n⟩ ∧
    arrRows { s with heap := s.heap ++ [x] } ⟨s.heap.length, List.range n⟩ = x.rows ∧
    arrDt { s with heap := s.heap ++ [x] } ⟨s.heap.length, List.range n⟩ = x.dt ∧
    arrTrail { s with heap := s.heap ++ [x] } ⟨s.heap.length, List.range n⟩ = x.trail := by
  subst hn
  refine ⟨⟨by simp, fun i hi => by rw [buf_append_eq]; simpa using hi⟩, ?_, ?_, ?_⟩
  · show (List.range _).map (fun i => (State.buf _ s.heap.length).rows[i]?.getD []) = _
    rw [buf_append_eq]; exact map_range_getD x.rows []
  · simp only [arrDt, buf_append_eq]
  · simp only [arrTrail, buf_append_eq]

theorem le_alloc (s : State) (x : Buf) : Le s { s with heap := s.heap ++ [x] } := by
  refine ⟨by simp, ?_, Nat.le_refl _, fun _ _ => ⟨rfl, fun _ _ h => h⟩, Nat.le_refl _, fun _ _ => ⟨rfl, rfl⟩⟩
  intro b hb
  rw [buf_append_lt s x b hb]
  exact ⟨rfl, rfl, rfl⟩

/-- the ghost records the key `k` the new buffer is meant for. -/
theorem inv_alloc {κ : Nat → String} {s : State} (h : InvK κ s) (x : Buf) (hx : BufOK x) (k : String) :
    InvK (upd κ s.heap.length k) { s with heap := s.heap ++ [x] } ∧
    Ext κ s (upd κ s.heap.length k) { s with heap := s.heap ++ [x] } := by
  have hext : Ext κ s (upd κ s.heap.length k) { s with heap := s.heap ++ [x] } := by
    refine ⟨le_alloc s x, ?_⟩
    intro b hb
    simp [upd, Nat.ne_of_lt hb]
  refine ⟨⟨?_, ?_, h.nodup, h.syss⟩, hext⟩
  · intro b hb
    simp only [List.mem_append, List.mem_singleton] at hb
    rcases hb with hb | rfl
    · exact h.heap b hb
    · exact hx
  · intro o ho p hp
    have hp0 := h.props o ho p hp
    exact hp0.transport hext (fun hk => (hp0.atype hk).same (buf_append_lt s x _ hp0.valid.1))

/-- an integer (axis-dropping) selection names exactly one row. -/
def SelOK (sel : Sel) : Prop := sel.scalar = true → sel.count = 1

def assignedBuf (s : State) (a : Arr) (sel : Sel) (cells : List Cell) : Buf :=
  ⟨(s.buf a.buf).dt, (s.buf a.buf).trail, writeRows (s.buf a.buf).rows
      ((sel.pos.map (fun p => a.idx[p]?.getD 0)).zip (rowsOf sel.count (prod (s.buf a.buf).trail) cells))⟩

def assignShape (s : State) (a : Arr) (sel : Sel) : List Nat :=
  if sel.scalar then (s.buf a.buf).trail else sel.count :: (s.buf a.buf).trail

theorem assign_cases (a : Arr) (sel : Sel) (v : Val) (s : State) :
    (∃ e, assign a sel v s = (.error e, s) ∧ (bcast v (assignShape s a sel) = none → e = .value ∨ e = .type)) ∨
    (∃ flat cells, bcast v (assignShape s a sel) = some flat ∧ flat.mapM (castCell (s.buf a.buf).dt) = some cells ∧
      sel.oob = false ∧
      assign a sel v s = (.ok (), { s with heap := s.heap.set a.buf (assignedBuf s a sel cells) })) := by
  unfold assign assignShape
  simp only []
  by_cases h1 : sel.scalar = true ∧ (s.buf a.buf).trail = [] ∧ v.shape ≠ []
  · rw [if_pos h1]; exact Or.inl ⟨_, rfl, fun _ => Or.inl rfl⟩
  rw [if_neg h1]
  by_cases h2 : sel.mask = true ∧ (s.buf a.buf).trail = [] ∧ v.shape.length > 1
  · rw [if_pos h2]; exact Or.inl ⟨_, rfl, fun _ => Or.inr rfl⟩
  rw [if_neg h2]
  cases hb : bcast v (if sel.scalar = true then (s.buf a.buf).trail else sel.count :: (s.buf a.buf).trail) with
  | none => exact Or.inl ⟨_, rfl, fun _ => Or.inl rfl⟩
  | some flat =>
    simp only []
    by_cases h3 : sel.oob = true
    · rw [if_pos h3]; exact Or.inl ⟨_, rfl, fun hc => by cases hc⟩
    rw [if_neg h3]
    cases hc : flat.mapM (castCell (s.buf a.buf).dt) with
    | none => exact Or.inl ⟨_, rfl, fun hc => by cases hc⟩
    | some cells => exact Or.inr ⟨flat, cells, rfl, hc, by simpa using h3, rfl⟩

theorem le_heap_set (s : State) (b : Nat) (x : Buf) (h1 : x.dt = (s.buf b).dt) (h2 : x.trail = (s.buf b).trail)
    (h3 : x.rows.length = (s.buf b).rows.length) : Le s { s with heap := s.heap.set b x } := by
  refine ⟨by simp, ?_, Nat.le_refl _, fun _ _ => ⟨rfl, fun _ _ h => h⟩, Nat.le_refl _, fun _ _ => ⟨rfl, rfl⟩⟩
  intro c hc
  rw [buf_set]
  split
  · rename_i hcb; rw [hcb.1]; exact ⟨h1, h2, h3⟩
  · exact ⟨rfl, rfl, rfl⟩

theorem bufOK_empty : BufOK emptyBuf := ⟨by intro r hr; simp [emptyBuf] at hr, by intro r hr; simp [emptyBuf] at hr⟩

theorem InvK.buf_ok {κ : Nat → String} {s : State} (h : InvK κ s) (b : Nat) : BufOK (s.buf b) := by
  by_cases hb : b < s.heap.length
  · exact h.heap _ (buf_mem s b hb)
  · have : s.buf b = emptyBuf := by simp [State.buf, List.getElem?_eq_none (Nat.le_of_not_lt hb)]
    rw [this]; exact bufOK_empty

theorem assigned_rows {s : State} {a : Arr} {sel : Sel} {v : Val} {flat cells : List Cell} (hsel : SelOK sel)
    (hflat : bcast v (assignShape s a sel) = some flat)
    (hcells : flat.mapM (castCell (s.buf a.buf).dt) = some cells) :
    ∀ r ∈ rowsOf sel.count (prod (s.buf a.buf).trail) cells,
      r.length = prod (s.buf a.buf).trail ∧ ∀ c' ∈ r, c'.hasType (s.buf a.buf).dt = true ∧
        ∃ c ∈ v.data, castCell (s.buf a.buf).dt c = some c' := by
  intro r hr
  obtain ⟨hlen, hmem⟩ := mapM_option _ _ _ hcells
  have hfl := bcast_length _ _ _ hflat
  have hcl : cells.length = sel.count * prod (s.buf a.buf).trail := by
    rw [hlen, hfl]
    unfold assignShape
    by_cases hs : sel.scalar = true
    · simp [hs, hsel hs]
    · simp [hs, prod]
  refine ⟨rowsOf_width _ _ _ r hr, ?_⟩
  intro c' hc'
  have hc'' := rowsOf_mem _ _ _ hcl r hr c' hc'
  obtain ⟨c, hc, hcast⟩ := hmem c' hc''
  exact ⟨castCell_typed _ _ _ hcast, c, bcast_mem _ _ _ hflat c hc, hcast⟩

/-- invariant of the loops that only write into existing buffers. -/
structure Writes (κ : Nat → String) (s st : State) : Prop where
  inv : InvK κ st
  ext : Ext κ s κ st
  objs : st.objs = s.objs
  syss : st.syss = s.syss

theorem Writes.trans {κ : Nat → String} {s st st' : State} (h : Writes κ s st) (h' : Writes κ st st') : Writes κ s st' :=
  ⟨h'.inv, h.ext.trans h'.ext, h'.objs.trans h.objs, h'.syss.trans h.syss⟩

theorem inv_assign {κ : Nat → String} {s : State} (h : InvK κ s) (a : Arr) (sel : Sel) (v : Val) (hsel : SelOK sel)
    (hat : κ a.buf = "atype" → sel.count = 0 ∨ ∀ c ∈ v.data, CellGE1 c) :
    Post (assign a sel v) s (fun _ s' => Writes κ s s') := by
  rcases assign_cases a sel v s with ⟨e, he, _⟩ | ⟨flat, cells, hflat, hcells, _, hok⟩
  · exact Post.of_eq _ _ he ⟨h, Ext.refl κ s, rfl, rfl⟩
  · apply Post.of_eq _ _ hok
    have hrows := assigned_rows hsel hflat hcells
    have hb := h.buf_ok a.buf
    have hle : Le s { s with heap := s.heap.set a.buf (assignedBuf s a sel cells) } :=
      le_heap_set s a.buf _ rfl rfl (by simp [assignedBuf, writeRows_length])
    have hext : Ext κ s κ { s with heap := s.heap.set a.buf (assignedBuf s a sel cells) } := ⟨hle, fun _ _ => rfl⟩
    have hnew : BufOK (assignedBuf s a sel cells) := by
      constructor
      · intro r hr
        rcases writeRows_mem _ _ r hr with h1 | ⟨u, hu, rfl⟩
        · exact hb.width r h1
        · exact (hrows u.2 (List.of_mem_zip hu).2).1
      · intro r hr c hc
        rcases writeRows_mem _ _ r hr with h1 | ⟨u, hu, rfl⟩
        · exact hb.typed r h1 c hc
        · exact ((hrows u.2 (List.of_mem_zip hu).2).2 c hc).1
    refine ⟨⟨?_, ?_, h.nodup, h.syss⟩, hext, rfl, rfl⟩
    · intro b0 hb0
      rcases List.mem_or_eq_of_mem_set hb0 with h1 | h1
      · exact h.heap b0 h1
      · rw [h1]; exact hnew
    · intro o ho p hp
      have hp0 := h.props o ho p hp
      apply hp0.transport hext
      intro hk
      have hold := hp0.atype hk
      by_cases hpb : p.arr.buf = a.buf
      · -- the written buffer is an `atype` buffer: the written cells are ≥ 1
        have hκ : κ a.buf = "atype" := by rw [← hpb, hp0.key, hk]
        intro i hi c hc
        have hbuf : ({ s with heap := s.heap.set a.buf (assignedBuf s a sel cells) } : State).buf p.arr.buf =
            assignedBuf s a sel cells := by
          rw [buf_set, if_pos]; exact ⟨hpb, hpb ▸ hp0.valid.1⟩
        rw [hbuf] at hc
        simp only [assignedBuf] at hc
        rcases writeRows_get (s.buf a.buf).rows
          ((sel.pos.map (fun p => a.idx[p]?.getD 0)).zip (rowsOf sel.count (prod (s.buf a.buf).trail) cells)) i
          with h1 | ⟨u, hu, _, h2⟩
        · rw [h1] at hc
          have := hold i hi c
          rw [hpb] at this
          exact this hc
        · rw [h2] at hc
          simp only [Option.getD_some] at hc
          have hu2 := (List.of_mem_zip hu).2
          rcases hat hκ with h0 | hge
          · rw [h0] at hu2; simp [rowsOf] at hu2
          · obtain ⟨_, c0, hc0, hcast⟩ := (hrows u.2 hu2).2 c hc
            exact castCell_ge1 _ _ _ hcast (hge c0 hc0)
      · apply hold.same
        rw [buf_set]; simp [hpb]

/-- the cells written by a successful `arr[sel] = value`: the value broadcast to the selected shape and
    cast to the buffer's dtype, cut into rows. -/
def AssignedRows (s : State) (a : Arr) (sel : Sel) (v : Val) (newRows : List Row) : Prop :=
  ∃ flat cells, bcast v (assignShape s a sel) = some flat ∧ flat.mapM (castCell (s.buf a.buf).dt) = some cells ∧
    newRows = rowsOf sel.count (prod (s.buf a.buf).trail) cells

/-- **`arr[sel] = value` changes exactly one buffer**: the rows of `a`'s buffer become
    `writeRows old (targets zip newRows)` with `targets[j] = a.idx[sel.pos[j]]`; dtype, trailing shape,
    every other buffer, every object and every system stay as they were; a refusal changes nothing. -/
theorem assign_spec (a : Arr) (sel : Sel) (v : Val) (s : State) :
    Post (assign a sel v) s (fun r s' =>
      (∀ e, r = .error e → s' = s) ∧
      (r = .ok () → ∃ newRows, AssignedRows s a sel v newRows ∧ sel.oob = false ∧
        s'.objs = s.objs ∧ s'.syss = s.syss ∧ s'.heap.length = s.heap.length ∧
        (∀ b, b ≠ a.buf → s'.buf b = s.buf b) ∧
        (a.buf < s.heap.length →
          (s'.buf a.buf).dt = (s.buf a.buf).dt ∧ (s'.buf a.buf).trail = (s.buf a.buf).trail ∧
          (s'.buf a.buf).rows = writeRows (s.buf a.buf).rows
            ((sel.pos.map (fun p => a.idx[p]?.getD 0)).zip newRows)))) := by
  rcases assign_cases a sel v s with ⟨e, he, _⟩ | ⟨flat, cells, hflat, hcells, hoob, hok⟩
  · apply Post.of_eq _ _ he
    refine ⟨fun _ _ => rfl, ?_⟩
    intro hc; cases hc
  · apply Post.of_eq _ _ hok
    refine ⟨?_, ?_⟩
    · intro e hc; cases hc
    · intro _
      refine ⟨_, ⟨flat, cells, hflat, hcells, rfl⟩, hoob, rfl, rfl, by simp, ?_, ?_⟩
      · intro b hb
        rw [buf_set]; simp [hb]
      · intro hlt
        rw [buf_set]
        simp only [hlt, and_self, if_true]
        exact ⟨rfl, rfl, rfl⟩

structure Wrote (s : State) (a : Arr) (sel : Sel) (newRows : List Row) (s' : State) : Prop where
  objs : s'.objs = s.objs
  syss : s'.syss = s.syss
  heapLen : s'.heap.length = s.heap.length
  other : ∀ b, b ≠ a.buf → s'.buf b = s.buf b
  same : a.buf < s.heap.length →
    (s'.buf a.buf).dt = (s.buf a.buf).dt ∧ (s'.buf a.buf).trail = (s.buf a.buf).trail ∧
    (s'.buf a.buf).rows = writeRows (s.buf a.buf).rows ((sel.pos.map (fun p => a.idx[p]?.getD 0)).zip newRows)

theorem assign_wrote (a : Arr) (sel : Sel) (v : Val) (s : State) :
    Post (assign a sel v) s (OrSame s fun _ s' =>
      ∃ newRows, AssignedRows s a sel v newRows ∧ sel.oob = false ∧ Wrote s a sel newRows s') := by
  apply Post.mono (assign_spec a sel v s)
  intro r s' ⟨h1, h2⟩
  cases r with
  | error e => exact h1 e rfl
  | ok u =>
    obtain ⟨newRows, hn, hoob, a1, a2, a3, a4, a5⟩ := h2 rfl
    exact ⟨newRows, hn, hoob, a1, a2, a3, a4, a5⟩

theorem assign_step {κ : Nat → String} {s : State} (h : InvK κ s) (a : Arr) (sel : Sel) (v : Val) (hsel : SelOK sel)
    (hat : κ a.buf = "atype" → sel.count = 0 ∨ ∀ c ∈ v.data, CellGE1 c) :
    Post (assign a sel v) s (OrSame s fun _ s' => Writes κ s s' ∧
      ∃ newRows, AssignedRows s a sel v newRows ∧ sel.oob = false ∧ Wrote s a sel newRows s') := by
  apply Post.mono (Post.and (inv_assign h a sel v hsel hat) (assign_wrote a sel v s))
  intro r s' ⟨hi, hw⟩
  cases r with
  | error e => exact hw
  | ok u => exact ⟨hi, hw⟩

theorem Wrote.read {s s' : State} {a : Arr} {sel : Sel} {newRows : List Row} (hw : Wrote s a sel newRows s')
    (c : Arr) (hne : c.buf ≠ a.buf) : arrRows s' c = arrRows s c := by
  simp [arrRows, hw.other c.buf hne]

/-- atoms that the index does not select keep their value in every array of every object. -/
theorem Wrote.untouched {s s' : State} {a : Arr} {sel : Sel} {newRows : List Row} (hw : Wrote s a sel newRows s')
    (b i : Nat) (hfree : b = a.buf → ∀ p ∈ sel.pos, a.idx[p]?.getD 0 ≠ i) :
    (s'.buf b).rows[i]? = (s.buf b).rows[i]? := by
  by_cases hb : b = a.buf
  · subst hb
    by_cases hlt : a.buf < s.heap.length
    · rw [(hw.same hlt).2.2]
      apply writeRows_get_notin
      intro u hu
      have := (List.of_mem_zip hu).1
      simp only [List.mem_map] at this
      obtain ⟨p, hp, hpu⟩ := this
      rw [← hpu]
      exact hfree rfl p hp
    · have hl := hw.heapLen
      have h1 : s'.buf a.buf = emptyBuf := by simp [State.buf, List.getElem?_eq_none (by omega : s'.heap.length ≤ a.buf)]
      have h2 : s.buf a.buf = emptyBuf := by simp [State.buf, List.getElem?_eq_none (by omega : s.heap.length ≤ a.buf)]
      rw [h1, h2]
  · rw [hw.other b hb]

/-- rows of the written buffer that no target names keep their content (in every array that exposes
    them: atoms that were not selected keep their values). -/
theorem assign_untouched (a : Arr) (sel : Sel) (v : Val) (s s' : State) (h : assign a sel v s = (.ok (), s'))
    (b i : Nat) (hfree : b = a.buf → ∀ p ∈ sel.pos, a.idx[p]?.getD 0 ≠ i) :
    (s'.buf b).rows[i]? = (s.buf b).rows[i]? := by
  obtain ⟨_, _, _, hw⟩ := (assign_wrote a sel v s).run h
  exact hw.untouched b i hfree

/-- **read-back**: after `a[sel] = value` the array `a` itself reads its old rows with the selected
    positions overwritten by the new rows. -/
theorem Wrote.readback {s s' : State} {a : Arr} {sel : Sel} {newRows : List Row} (hw : Wrote s a sel newRows s')
    (hv : ArrValid s a) (hnd : a.idx.Nodup) (hpos : ∀ p ∈ sel.pos, p < a.idx.length) :
    arrRows s' a = writeRows (arrRows s a) (sel.pos.zip newRows) := by
  simp only [arrRows]
  rw [(hw.same hv.1).2.2, zip_map_left']
  exact view_writeRows a.idx hnd (sel.pos.zip newRows) (s.buf a.buf).rows hv.2
    (fun u hu => hpos u.1 (List.of_mem_zip hu).1)

def FrameOK (n m : Nat) (s s' : State) : Prop :=
  (∀ b, b < n → s'.buf b = s.buf b) ∧ (∀ o, o < m → s'.obj o = s.obj o) ∧ s'.syss = s.syss

theorem FrameOK.refl (n m : Nat) (s : State) : FrameOK n m s s := ⟨fun _ _ => rfl, fun _ _ => rfl, rfl⟩

theorem FrameOK.trans {n m : Nat} {s s1 s2 : State} (h1 : FrameOK n m s s1) (h2 : FrameOK n m s1 s2) :
    FrameOK n m s s2 :=
  ⟨fun b hb => (h2.1 b hb).trans (h1.1 b hb), fun o ho => (h2.2.1 o ho).trans (h1.2.1 o ho), h2.2.2.trans h1.2.2⟩

def FreshObj (n : Nat) (o : Nat) (s : State) : Prop := ∀ p ∈ (s.obj o).props, n ≤ p.arr.buf

theorem assign_frame (a : Arr) (sel : Sel) (v : Val) (s : State) (n m : Nat) (ha : n ≤ a.buf) :
    Post (assign a sel v) s (fun _ s' => FrameOK n m s s' ∧ s'.objs = s.objs ∧ s'.heap.length = s.heap.length) := by
  apply Post.mono (assign_spec a sel v s)
  intro r s' ⟨h1, h2⟩
  cases r with
  | error e => rw [h1 e rfl]; exact ⟨FrameOK.refl n m s, rfl, rfl⟩
  | ok u =>
    obtain ⟨_, _, _, hobjs, hsys, hlen, hother, _⟩ := h2 rfl
    refine ⟨⟨fun b hb => hother b (by omega), fun o _ => obj_congr hobjs o, hsys⟩, hobjs, hlen⟩

theorem FrameOK.weaken {n m n' m' : Nat} {s s' : State} (h : FrameOK n' m' s s') (hn : n ≤ n') (hm : m ≤ m') :
    FrameOK n m s s' :=
  ⟨fun b hb => h.1 b (by omega), fun o ho => h.2.1 o (by omega), h.2.2⟩

end Atomman.C06
