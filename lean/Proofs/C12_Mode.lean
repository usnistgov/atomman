/-
  One mode of the Stroh solution as an amplitude `D = dispCoef a` (it contributes `D ln ηₐ` to the displacement) and a
  gradient `d = m + pₐ n` of `ηₐ`: the coded strain coefficient is `symOuter D d = ½(D⊗d + d⊗D)`, the coded stress
  coefficient `hooke C D d = C : (D⊗d)`.  What is proved about the two is proved for arbitrary `D d`; how the fields
  change with the problem then only depends on what happens to `D`, `d` and `η`.
-/
import Proofs.C12_Sums

namespace Atomman.C12
variable {F : Type} [Field F]

def symOuter (D d : Vec F) : Mat F := fun i j => (D i * d j + D j * d i) / 2

def hooke (C : Ten4 F) (D d : Vec F) : Mat F := fun i j => sum3 fun k => sum3 fun l => C i j k l * (d l * D k)

theorem strainCoef_eq [CharZero F] (pi I : F) (s : Setup F) (μ : Fin 6 → Mode F) (k : Fin 6 → F) (a : Fin 6) :
    strainCoef pi I s μ k a = symOuter (dispCoef pi I s μ k a) (mpn s (μ a)) := by
  funext i j
  simp only [strainCoef, dispCoef, symOuter, Nat.cast_ofNat, Nat.cast_one]; ring

theorem stressCoef_eq (pi I : F) (s : Setup F) (μ : Fin 6 → Mode F) (k : Fin 6 → F) (a : Fin 6) :
    stressCoef pi I s μ k a = hooke s.C (dispCoef pi I s μ k a) (mpn s (μ a)) := by
  funext i j
  simp only [stressCoef, dispCoef, hooke, mul_sum3]
  congr 1; funext k'; congr 1; funext l; ring

/-- two eigen-solutions with the same amplitude `kLbₐ Aₐ` and the same gradient `m + pₐ n` give the same coefficients for mode
    `a` (the stress coefficient with whatever stiffness the second problem has). -/
theorem coef_congr [CharZero F] (pi I : F) (s s' : Setup F) (μ μ' : Fin 6 → Mode F) (k k' : Fin 6 → F) (a : Fin 6)
    (hA : ∀ i, kLb s' μ' k' a * (μ' a).A i = kLb s μ k a * (μ a).A i) (hm : mpn s' (μ' a) = mpn s (μ a)) :
    dispCoef pi I s' μ' k' a = dispCoef pi I s μ k a
    ∧ strainCoef pi I s' μ' k' a = strainCoef pi I s μ k a
    ∧ stressCoef pi I s' μ' k' a = hooke s'.C (dispCoef pi I s μ k a) (mpn s (μ a)) := by
  have hD : dispCoef pi I s' μ' k' a = dispCoef pi I s μ k a := funext fun i => by simp only [dispCoef, hA]
  rw [strainCoef_eq, strainCoef_eq, stressCoef_eq, hD, hm]
  exact ⟨rfl, rfl, rfl⟩

theorem matVec_dispCoef (M : Mat F) (pi I : F) (s : Setup F) (μ : Fin 6 → Mode F) (k : Fin 6 → F) (a : Fin 6) (i : Fin 3) :
    matVec M (dispCoef pi I s μ k a) i = 1 / (2 * pi * I) * (kLb s μ k a * matVec M (μ a).A i) := by
  simp only [matVec, dispCoef, mul_left_comm (M _ _), ← mul_sum3, Nat.cast_ofNat, Nat.cast_one]

theorem hooke_eq_symOuter [CharZero F] (C : Ten4 F) (hC : ∀ i j k l, C i j k l = C i j l k) (D d : Vec F) (i j : Fin 3) :
    hooke C D d i j = sum3 fun k => sum3 fun l => C i j k l * symOuter D d k l := by
  simp only [hooke, symOuter, sum3]
  rw [hC i j 1 0, hC i j 2 0, hC i j 2 1]
  ring

theorem hooke_apply (C : Ten4 F) (hC : ∀ i j k l, C i j k l = C j i k l) (D d v : Vec F) (i : Fin 3) :
    (sum3 fun j => hooke C D d i j * v j) = matVec (contract v C d) D i := by
  simp only [hooke, contract, matVec, sum3, hC 0 i, hC 1 i, hC 2 i]
  ring

theorem symOuter_smul (t : F) (D d : Vec F) (i j : Fin 3) :
    symOuter (fun g => t * D g) d i j = t * symOuter D d i j := by
  simp only [symOuter]; ring

theorem hooke_smul (t : F) (C : Ten4 F) (D d : Vec F) (i j : Fin 3) :
    hooke C (fun g => t * D g) d i j = t * hooke C D d i j := by
  simp only [hooke, mul_sum3]
  congr 1; funext k; congr 1; funext l; ring

theorem hooke_stiff (c : F) (C : Ten4 F) (D d : Vec F) (i j : Fin 3) :
    hooke (fun i j k l => c * C i j k l) D d i j = c * hooke C D d i j := by
  simp only [hooke, mul_sum3, mul_assoc]

end Atomman.C12
