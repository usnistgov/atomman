/-
  C16 — the vector algebra under the plane normals: the cofactor matrix `cof V`, through which cross products of
  lattice vectors, reciprocal vectors and determinants are expressed; integer vectors cast into the field; the division
  by the norm.  The cell enters a plane normal only through `cof` (`normalOf_eq_cof`), so what a change of cell does to
  the normals is a fact about `cof` (`planeNormalUnnorm_map`): for `R` with orthonormal rows `R Rᵀ = 1`, hence `R⁻¹ = Rᵀ`
  and `cof R = det R · R`.
-/
import Atomman.C16
import Proofs.Lattice
import Proofs.Lists

namespace Atomman.C16

section field
variable {K : Type} [Field K]

theorem v3_add (a b : V3 K) : a + b = ⟨a.x + b.x, a.y + b.y, a.z + b.z⟩ := V3.add_def a b
theorem v3_sub (a b : V3 K) : a - b = ⟨a.x - b.x, a.y - b.y, a.z - b.z⟩ := V3.sub_def a b
theorem v3_neg (a : V3 K) : -a = ⟨-a.x, -a.y, -a.z⟩ := V3.neg_def a

def cof (V : M3 K) : M3 K := ⟨V3.cross V.r1 V.r2, V3.cross V.r2 V.r0, V3.cross V.r0 V.r1⟩

theorem cross_vecMul (V : M3 K) (p q : V3 K) :
    V3.cross (M3.vecMul p V) (M3.vecMul q V) = M3.vecMul (V3.cross p q) (cof V) :=
  M3.cross_vecMul V p q

/-- `V (cof V)ᵀ = det V · 1`, read on vectors. -/
theorem dot_vecMul_cof (V : M3 K) (x p : V3 K) :
    V3.dot (M3.vecMul x (cof V)) (M3.vecMul p V) = M3.det V * V3.dot x p :=
  M3.dot_vecMul_cof V x p

/-- all lengths of the cell multiplied by `t`. -/
def scaleM (t : K) (V : M3 K) : M3 K := ⟨V3.smul t V.r0, V3.smul t V.r1, V3.smul t V.r2⟩

theorem vecMul_scaleM (t : K) (V : M3 K) (x : V3 K) : M3.vecMul x (scaleM t V) = V3.smul t (M3.vecMul x V) :=
  M3.vecMul_smul_right t V x

theorem cof_mul (A B : M3 K) : cof (A.mul B) = (cof A).mul (cof B) := by
  simp only [cof, M3.mul, cross_vecMul]

/-- the rows of `cof V` are `det V` times the reciprocal vectors (`Box.reciprocal_vects = inv(vects).T`). -/
theorem cof_eq (V : M3 K) (hdet : M3.det V ≠ 0) : cof V = scaleM (M3.det V) (M3.inv V).transpose :=
  M3.cof_eq V hdet

theorem vecMul_cof (V : M3 K) (hdet : M3.det V ≠ 0) (x : V3 K) :
    M3.vecMul x (cof V) = V3.smul (M3.det V) (M3.vecMul x (M3.inv V).transpose) := by
  rw [cof_eq V hdet, vecMul_scaleM]

theorem cof_scaleM (t : K) (V : M3 K) : cof (scaleM t V) = scaleM (t * t) (cof V) :=
  M3.cof_smul t V

theorem castV_smul (s : ℤ) (a : V3 ℤ) : castV (K := K) (V3.smul s a) = V3.smul (s : K) (castV a) :=
  V3.castInt_smul s a

theorem castV_cross (a b : V3 ℤ) : castV (K := K) (V3.cross a b) = V3.cross (castV a) (castV b) :=
  V3.castInt_cross a b

theorem castV_of_smul_eq {w v : V3 ℤ} {num den : ℤ} (hden : (den : K) ≠ 0) (he : V3.smul den w = V3.smul num v) :
    castV (K := K) w = V3.smul ((num : K) / den) (castV v) := by
  have e := congrArg (castV (K := K)) he
  rw [castV_smul, castV_smul] at e
  rw [div_eq_inv_mul, ← V3.smul_smul, ← e, V3.smul_smul, inv_mul_cancel₀ hden, V3.one_smul]

theorem normalOf_eq_cof (V : M3 K) (a b : V3 ℤ) (s : ℤ) :
    normalOf V a b s = M3.vecMul (castV (V3.smul s (V3.cross a b))) (cof V) := by
  rw [castV_smul, castV_cross, M3.vecMul_smul, ← cross_vecMul]; rfl

/-- with `cof_mul`: the cell `V·A` has the normals of `V` times `cof A`, for every matrix `A`; a plane that is refused
    stays refused. -/
theorem planeNormalUnnorm_map {V W : M3 K} {g : V3 K → V3 K}
    (hg : ∀ w, M3.vecMul w (cof W) = g (M3.vecMul w (cof V))) (h k l : ℤ) :
    planeNormalUnnorm W h k l = (planeNormalUnnorm V h k l).map g := by
  simp only [planeNormalUnnorm]
  rcases planeInPlane h k l with e | ⟨a, b, s⟩
  · rfl
  · simp only [exceptSimp, normalOf_eq_cof, hg]

theorem normalise_smul (c : K) (v : V3 K) (r : K) : normalise (V3.smul c v) r = V3.smul (c / r) v := by
  simp only [normalise, V3.smul, mul_div_right_comm]

theorem dot_normalise (n v : V3 K) (r : K) : V3.dot (normalise n r) v = V3.dot n v / r := by
  simp only [normalise, V3.dot]; ring

theorem normalise_unit {n : V3 K} {r : K} (hr : r ≠ 0) (hsq : r * r = V3.normSq n) :
    V3.dot (normalise n r) (normalise n r) = 1 := by
  simp only [V3.normSq, V3.dot] at hsq
  simp only [normalise, V3.dot, div_mul_div_comm, ← add_div, ← hsq]
  exact div_self (mul_ne_zero hr hr)

end field

section orth
variable {K : Type} [Field K]

def RowsOrthonormal (R : M3 K) : Prop :=
  V3.dot R.r0 R.r0 = 1 ∧ V3.dot R.r1 R.r1 = 1 ∧ V3.dot R.r2 R.r2 = 1 ∧
  V3.dot R.r0 R.r1 = 0 ∧ V3.dot R.r0 R.r2 = 0 ∧ V3.dot R.r1 R.r2 = 0

/-- the six dot products are the entries of `R Rᵀ` on and above the diagonal. -/
theorem mul_transpose_of_orthonormal {R : M3 K} (ho : RowsOrthonormal R) : R.mul R.transpose = M3.one := by
  obtain ⟨h00, h11, h22, h01, h02, h12⟩ := ho
  exact (M3.mul_transpose_eq_one_iff R R).mpr ⟨h00, h01, h02, V3.dot_comm R.r0 R.r1 ▸ h01, h11, h12,
    V3.dot_comm R.r0 R.r2 ▸ h02, V3.dot_comm R.r1 R.r2 ▸ h12, h22⟩

/-- each row is `det R = ±1` times the cross product of the other two. -/
theorem cof_of_orth {R : M3 K} (h : R.mul R.transpose = M3.one) : cof R = scaleM (M3.det R) R := by
  rw [cof_eq R (left_ne_zero_of_mul_eq_one (M3.det_mul_self_of_orth h)), M3.inv_eq_transpose_of_orth h]; rfl

theorem cross_vecMul_orth (R : M3 K) (ho : RowsOrthonormal R) (p q : V3 K) :
    V3.cross (M3.vecMul p R) (M3.vecMul q R) = V3.smul (M3.det R) (M3.vecMul (V3.cross p q) R) := by
  rw [cross_vecMul, cof_of_orth (mul_transpose_of_orthonormal ho), vecMul_scaleM]

end orth

section rot
variable {K : Type} [Field K] [LinearOrder K] [IsStrictOrderedRing K]

set_option linter.unusedSectionVars false in
theorem rot_rows_cross (R : M3 K) (ho : RowsOrthonormal R) (hd : M3.det R = 1) :
    V3.cross R.r1 R.r2 = R.r0 ∧ V3.cross R.r2 R.r0 = R.r1 ∧ V3.cross R.r0 R.r1 = R.r2 := by
  have e := cof_of_orth (mul_transpose_of_orthonormal ho)
  simp only [hd, scaleM, V3.one_smul] at e
  exact ⟨congrArg M3.r0 e, congrArg M3.r1 e, congrArg M3.r2 e⟩

set_option linter.unusedSectionVars false in
theorem cross_vecMul_rot (R : M3 K) (ho : RowsOrthonormal R) (hd : M3.det R = 1) (p q : V3 K) :
    V3.cross (M3.vecMul p R) (M3.vecMul q R) = M3.vecMul (V3.cross p q) R := by
  rw [cross_vecMul_orth R ho, hd, V3.one_smul]

end rot

end Atomman.C16
