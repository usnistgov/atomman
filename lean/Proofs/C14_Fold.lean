/-
  C14: folds over a list, on the shared fold invariants of `Proofs/Lists.lean` (`foldl_inv_prefix`): a fold that keeps
  the best candidate seen so far returns a candidate that passes the filter and that no passing candidate beats
  (`foldl_keepBest`): the shape of both searches of `free_surface_basis`.
-/
import Proofs.Lists
import Mathlib.Tactic.SplitIfs

namespace Atomman.C14

theorem foldl_inv {α β : Type} (f : β → α → β) (P : β → Prop) (l : List α)
    (hstep : ∀ b a, a ∈ l → P b → P (f b a)) (b0 : β) (h0 : P b0) : P (l.foldl f b0) :=
  Atomman.foldl_inv f P l hstep b0 h0

theorem forall_mem_snoc {α : Type} {p : α → Prop} {l : List α} {a : α} :
    (∀ x ∈ l ++ [a], p x) ↔ (∀ x ∈ l, p x) ∧ p a := by
  rw [List.forall_mem_append, List.forall_mem_singleton]

theorem mem_snoc_self {α : Type} (l : List α) (a : α) : a ∈ l ++ [a] :=
  List.mem_append_right _ (List.mem_singleton_self a)

section keep
variable {α κ : Type} (key : α → κ) (beats : α → κ → Prop) [∀ v k, Decidable (beats v k)]
  (ok : α → Prop) [DecidablePred ok]

/-- one step on (kept candidate, kept key): a candidate that passes `ok` and beats the kept key replaces the kept one. -/
def keepStep (st : Option α × κ) (v : α) : Option α × κ :=
  if ok v ∧ beats v st.2 then (some v, key v) else st

/-- what a fold returns whose state is seen through `view` as keeping the best candidate so far: no passing member of
    `l` beats the kept key, and a kept candidate is a passing member of `l` whose key is the kept key.  "Beats" only has
    to be irreflexive and transitive on the keys that occur (those of `l` and the initial key `k0`). -/
theorem foldl_keepBest {σ : Type} (f : σ → α → σ) (view : σ → Option α × κ)
    (hf : ∀ st v, view (f st v) = keepStep key beats ok (view st) v) (l : List α) (s : σ) (k0 : κ)
    (hs : view s = (none, k0)) (hirr : ∀ v ∈ l, ¬ beats v (key v))
    (htr : ∀ u ∈ l, ∀ v ∈ l, ∀ k, (k = k0 ∨ ∃ w ∈ l, k = key w) → beats u (key v) → beats v k → beats u k) :
    (∀ w ∈ l, ok w → ¬ beats w (view (l.foldl f s)).2) ∧
    ∀ a, (view (l.foldl f s)).1 = some a → a ∈ l ∧ ok a ∧ (view (l.foldl f s)).2 = key a := by
  have inv := Atomman.foldl_inv_prefix f
    (fun pre st => pre ⊆ l → ((view st).2 = k0 ∨ ∃ w ∈ l, (view st).2 = key w) ∧
      (∀ w ∈ pre, ok w → ¬ beats w (view st).2) ∧ ∀ a, (view st).1 = some a → a ∈ pre ∧ ok a ∧ (view st).2 = key a) l s
    (fun _ => by rw [hs]; exact ⟨Or.inl rfl, fun w hw => absurd hw List.not_mem_nil, fun a ha => by cases ha⟩) ?_
  · exact (inv (List.Subset.refl l)).2
  · intro pre st v ih hsub
    have hv : v ∈ l := hsub (mem_snoc_self pre v)
    obtain ⟨hk, hmin, hkept⟩ := ih fun x hx => hsub (List.mem_append_left _ hx)
    rw [hf, keepStep]
    split_ifs with hc
    · -- `v` replaces the kept candidate: whoever did not beat the old key does not beat `v`'s
      refine ⟨Or.inr ⟨v, hv, rfl⟩, forall_mem_snoc.mpr ⟨fun w hw hok hlt => ?_, fun _ => hirr v hv⟩, ?_⟩
      · exact hmin w hw hok (htr w (hsub (List.mem_append_left _ hw)) v hv _ hk hlt hc.2)
      · rintro a ⟨⟩; exact ⟨mem_snoc_self pre v, hc.1, rfl⟩
    · refine ⟨hk, forall_mem_snoc.mpr ⟨hmin, fun hok hlt => hc ⟨hok, hlt⟩⟩, fun a ha => ?_⟩
      obtain ⟨h1, h2⟩ := hkept a ha
      exact ⟨List.mem_append_left _ h1, h2⟩

end keep

end Atomman.C14
