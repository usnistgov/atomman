/-
  C03 — the text written by `NeighborList.dump` is read back by `NeighborList.load`;
  `header_eq_lines`: the three header lines are the lines of `Gen.dumpHeader`.
-/
import Atomman.C03
import Proofs.Lists


namespace Atomman.C03
open List

theorem flatMap_sep {α : Type} (ls : List (List α)) (x : α) :
    ls.flatMap (fun l => l ++ [x]) = [x].intercalate (ls ++ [[]]) := by
  induction ls with
  | nil => simp
  | cons l ls ih =>
    rw [flatMap_cons, ih, cons_append, intercalate_cons_of_ne_nil (by simp)]

theorem tokens_join (t : List Char) (ts : List (List Char)) :
    t ++ ts.flatMap (fun u => ' ' :: u) = [' '].intercalate (t :: ts) := by
  induction ts generalizing t with
  | nil => simp
  | cons u ts ih =>
    rw [flatMap_cons, intercalate_cons_cons, ← ih u]
    simp

theorem digit_of_mem (n : Nat) (c : Char) (h : c ∈ Nat.toDigits 10 n) : c.isDigit = true :=
  Nat.isDigit_of_mem_toDigits (by decide) (by decide) h

theorem renderLine_eq (i : Nat) (row : List Nat) :
    renderLine i row = [' '].intercalate (Nat.toDigits 10 i :: row.map (Nat.toDigits 10)) := by
  unfold renderLine
  rw [← tokens_join, List.flatMap_map]

theorem splitBlank_renderLine (i : Nat) (row : List Nat) :
    splitBlank (renderLine i row) = Nat.toDigits 10 i :: row.map (Nat.toDigits 10) := by
  unfold splitBlank
  rw [renderLine_eq, List.splitOn_intercalate]
  · apply List.filter_eq_self.2
    intro t ht
    have : t ≠ [] := by
      rcases mem_cons.1 ht with rfl | ht
      · exact Nat.toDigits_ne_nil
      · obtain ⟨j, _, rfl⟩ := mem_map.1 ht
        exact Nat.toDigits_ne_nil
    simpa using this
  · intro t ht hmem
    have hd : (' ' : Char).isDigit = true := by
      rcases mem_cons.1 ht with rfl | ht
      · exact digit_of_mem _ _ hmem
      · obtain ⟨j, _, rfl⟩ := mem_map.1 ht
        exact digit_of_mem _ _ hmem
    exact absurd hd (by decide)
  · simp

theorem parseNat_digits (n : Nat) : parseNat? (Nat.toDigits 10 n) = some n := by
  unfold parseNat?
  rw [if_pos]
  · simp
  · refine ⟨Nat.toDigits_ne_nil, ?_⟩
    rw [List.all_eq_true]
    intro c hc
    exact digit_of_mem n c hc

theorem mapM_parseNat (row : List Nat) : (row.map (Nat.toDigits 10)).mapM parseNat? = some row := by
  simpa using mapM_option_map _ parseNat? id row fun n _ => parseNat_digits n

theorem parseLine_renderLine (i : Nat) (row : List Nat) : parseLine (renderLine i row) = .entry i row := by
  unfold parseLine
  rw [splitBlank_renderLine]
  have hh : (Nat.toDigits 10 i).head? ≠ some '#' := by
    intro h
    have hm : '#' ∈ Nat.toDigits 10 i := by
      cases hd : Nat.toDigits 10 i with
      | nil => rw [hd] at h; simp at h
      | cons a t => rw [hd] at h; simp at h; rw [h]; exact mem_cons_self
    exact absurd (digit_of_mem _ _ hm) (by decide)
  simp only [hh, if_false, parseNat_digits, mapM_parseNat]

/-- The header lines are the lines of the header text the source writes.  A string literal is `String.ofList` of its
    characters by definition, so the literals of `header` are compared under `String.ofList`: evaluating `toList` on
    them would decode UTF-8, which is quadratic in the kernel.  What is needed about the header is then read off the
    explicit character list `Gen.dumpHeader`. -/
theorem header_eq_lines : header = fileLines Gen.dumpHeader := by
  have h : ∀ ls : List (List Char), ls.map (fun l => (String.ofList l).toList) = ls := fun ls => by
    simp only [String.toList_ofList, List.map_id']
  rw [← h (fileLines Gen.dumpHeader)]
  rfl

theorem parseLine_header : header.map parseLine = [.comment, .comment, .comment] := by
  rw [header_eq_lines]
  decide +kernel

theorem newline_not_mem_renderLine (i : Nat) (row : List Nat) : '\n' ∉ renderLine i row := by
  unfold renderLine
  intro h
  rcases mem_append.1 h with h | h
  · exact absurd (digit_of_mem _ _ h) (by decide)
  · obtain ⟨j, _, hj⟩ := mem_flatMap.1 h
    rcases mem_cons.1 hj with e | hj
    · exact absurd e (by decide)
    · exact absurd (digit_of_mem _ _ hj) (by decide)

theorem newline_not_mem_header : ∀ l ∈ header, '\n' ∉ l := by
  rw [header_eq_lines]
  decide +kernel

theorem fileLines_render (rows : Rows) : fileLines (render rows) = renderLines rows := by
  unfold fileLines render
  rw [flatMap_sep, List.splitOn_intercalate]
  · simp
  · intro l hl
    rcases mem_append.1 hl with hl | hl
    · unfold renderLines at hl
      rcases mem_append.1 hl with hl | hl
      · exact newline_not_mem_header l hl
      · obtain ⟨k, hk, rfl⟩ := List.mem_mapIdx.1 hl
        exact newline_not_mem_renderLine _ _
    · have : l = [] := by simpa using hl
      subst this; simp
  · simp

/-- the second pass of `load`, from row `k` on. -/
theorem foldlM_set (rows : Rows) (n k : Nat) (acc : Rows) (hacc : acc.length = n) (hk : k + rows.length = n) :
    (rows.zipIdx k).foldlM
        (fun (a : Rows) (e : List Nat × Nat) => if e.2 < n then some (a.set e.2 e.1) else none) acc
      = some (acc.take k ++ rows) := by
  induction rows generalizing k acc with
  | nil =>
    rw [List.take_of_length_le (by simp at hk; omega), List.append_nil]
    rfl
  | cons r rows ih =>
    have hkn : k < n := by simp at hk; omega
    rw [List.zipIdx_cons, List.foldlM_cons, if_pos hkn, Option.bind_eq_bind, Option.bind_some,
      ih (k + 1) (acc.set k r) (by simp [hacc]) (by simp at hk ⊢; omega), List.take_add_one, List.take_set,
      List.set_eq_of_length_le (by rw [List.length_take]; exact Nat.min_le_left _ _),
      List.getElem?_set_self (by omega)]
    simp

/-- reading back what `dump` wrote gives the same lists
    (`load (dump rows) = rows`, hence the same coordination numbers). -/
theorem nlist_text_roundtrip (rows : Rows) : parse (render rows) = some rows := by
  unfold parse
  rw [fileLines_render]
  have hls : (renderLines rows).map parseLine
      = [.comment, .comment, .comment] ++ rows.zipIdx.map fun e => Line.entry e.2 e.1 := by
    unfold renderLines
    rw [List.map_append, parseLine_header, List.mapIdx_eq_zipIdx_map, List.map_map]
    exact congrArg _ (List.map_congr_left fun e _ => parseLine_renderLine e.2 e.1)
  simp only [hls]
  rw [if_neg (by simp [Line.isBad]), List.filterMap_append, List.filterMap_map]
  have hes : List.filterMap (Line.entry? ∘ fun e : List Nat × Nat => Line.entry e.2 e.1) rows.zipIdx
      = rows.zipIdx.map fun e => (e.2, e.1) := congrFun List.filterMap_eq_map' _
  rw [hes, show List.filterMap Line.entry? [Line.comment, .comment, .comment] = [] from rfl, List.nil_append,
    List.length_map, List.length_zipIdx, List.foldlM_map]
  exact foldlM_set rows rows.length 0 _ List.length_replicate (Nat.zero_add _)

end Atomman.C03
