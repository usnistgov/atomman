/-
  C10 — helper lemmas on `ElasticConstants.normalized_as` (`normForm`, Atomman/C10.lean): a tensor that already is
  in the general normal form of a crystal system is a fixed point of the normalisation into that system, and
  whatever the normalisation hands to the `Cij` setter is in normal form.
-/
import Atomman.C10
import Mathlib.Tactic.FieldSimp
import Mathlib.Tactic.Ring

namespace Atomman.C10
open Atomman
variable {K : Type}

/-- any length other than 36 is refused by the model (as the `(6, 6)` assertion of the setter refuses it). -/
theorem normForm_length [Add K] [Sub K] [Mul K] [Div K] [Neg K] [OfNat K 0] [IntCast K]
    (muK : Option (K × K)) (cs : String) (c r : List K) (h : normForm muK cs c = some r) : c.length = 36 := by
  unfold normForm at h
  split at h
  · rfl
  · cases h

variable [Field K] [CharZero K]

/-- `InForm cs c`: the 6×6 array `c` (row-major) is in the general normal form of the crystal system `cs` — the
    array one of atomman's crystal-system constructors builds from independent constants: 3 cubic, 5 hexagonal
    (`C66 = (C11 - C12)/2`), 7 tetragonal (`C16 = -C26`), 7 rhombohedral (`C14`, `C15`), 9 orthorhombic, 13
    monoclinic (`C15`, `C25`, `C35`, `C46`); any 36 entries for triclinic. -/
inductive InForm : String → List K → Prop
  | triclinic (c : List K) (h : c.length = 36) : InForm "triclinic" c
  | cubic (c11 c12 c44 : K) : InForm "cubic" (cubicForm c11 c12 c44)
  | hexagonal (c11 c33 c12 c13 c44 : K) : InForm "hexagonal" (hexForm c11 c33 c12 c13 c44)
  | tetragonal (c11 c33 c12 c13 c44 c66 c16 : K) : InForm "tetragonal" (tetraForm c11 c33 c12 c13 c44 c66 c16)
  | rhombohedral (c11 c33 c12 c13 c14 c15 c44 : K) :
      InForm "rhombohedral" (rhomboForm c11 c33 c12 c13 c14 c15 c44)
  | orthorhombic (c11 c22 c33 c12 c13 c23 c44 c55 c66 : K) :
      InForm "orthorhombic" (orthoForm c11 c22 c33 c12 c13 c23 c44 c55 c66)
  | monoclinic (c11 c12 c13 c15 c22 c23 c25 c33 c35 c44 c46 c55 c66 : K) :
      InForm "monoclinic" (monoForm c11 c12 c13 c15 c22 c23 c25 c33 c35 c44 c46 c55 c66)

/-! The constants `normalized_as` averages from a tensor already in normal form are sums of equal entries (or of an
   entry and its negative), so each average gives the entry back. -/

theorem avg2 (x : K) : (x + x) / ((2 : Int) : K) = x := by
  push_cast; field_simp; ring

theorem avg3 (x : K) : (x + x + x) / ((3 : Int) : K) = x := by
  push_cast; field_simp; ring

theorem avgNeg2 (x : K) : (x - -x) / ((2 : Int) : K) = x := by
  push_cast; field_simp; ring

theorem avgNeg3 (x : K) : (x - -x - -x) / ((3 : Int) : K) = x := by
  push_cast; field_simp; ring

/-- `C12` of the hexagonal and rhombohedral branches, averaged with `C11 - 2 C66` where `C66 = (C11 - C12) / 2`. -/
theorem avgC12 (c11 c12 : K) :
    (c12 + (c11 - ((2 : Int) : K) * ((c11 - c12) / ((2 : Int) : K)))) / ((2 : Int) : K) = c12 := by
  push_cast; field_simp; ring

theorem normForm_cubic (muK : Option (K × K)) (c11 c12 c44 : K) :
    normForm muK "cubic" (cubicForm c11 c12 c44) = some (cubicForm c11 c12 c44) := by
  simp only [normForm, cubicForm, String.reduceEq, ↓reduceIte, avg3]

theorem normForm_hex (muK : Option (K × K)) (c11 c33 c12 c13 c44 : K) :
    normForm muK "hexagonal" (hexForm c11 c33 c12 c13 c44) = some (hexForm c11 c33 c12 c13 c44) := by
  simp only [normForm, hexForm, String.reduceEq, ↓reduceIte, avg2, avgC12]

theorem normForm_tetra (muK : Option (K × K)) (c11 c33 c12 c13 c44 c66 c16 : K) :
    normForm muK "tetragonal" (tetraForm c11 c33 c12 c13 c44 c66 c16)
      = some (tetraForm c11 c33 c12 c13 c44 c66 c16) := by
  simp only [normForm, tetraForm, String.reduceEq, ↓reduceIte, avg2, avgNeg2]

theorem normForm_rhombo (muK : Option (K × K)) (c11 c33 c12 c13 c14 c15 c44 : K) :
    normForm muK "rhombohedral" (rhomboForm c11 c33 c12 c13 c14 c15 c44)
      = some (rhomboForm c11 c33 c12 c13 c14 c15 c44) := by
  simp only [normForm, rhomboForm, String.reduceEq, ↓reduceIte, avg2, avgC12, avgNeg2, avgNeg3]

omit [CharZero K] in
theorem normForm_ortho (muK : Option (K × K)) (c11 c22 c33 c12 c13 c23 c44 c55 c66 : K) :
    normForm muK "orthorhombic" (orthoForm c11 c22 c33 c12 c13 c23 c44 c55 c66)
      = some (orthoForm c11 c22 c33 c12 c13 c23 c44 c55 c66) := by
  simp only [normForm, orthoForm, String.reduceEq, ↓reduceIte]

omit [CharZero K] in
theorem normForm_mono (muK : Option (K × K)) (c11 c12 c13 c15 c22 c23 c25 c33 c35 c44 c46 c55 c66 : K) :
    normForm muK "monoclinic" (monoForm c11 c12 c13 c15 c22 c23 c25 c33 c35 c44 c46 c55 c66)
      = some (monoForm c11 c12 c13 c15 c22 c23 c25 c33 c35 c44 c46 c55 c66) := by
  simp only [normForm, monoForm, String.reduceEq, ↓reduceIte]

theorem forall_length_succ {α : Type} {P : List α → Prop} {n : Nat} (hP : ∀ a r, r.length = n → P (a :: r)) :
    ∀ l, l.length = n + 1 → P l
  | a :: r, h => hP a r (Nat.succ.inj h)

omit [CharZero K] in
/-- the two branches that do not read the entries. -/
theorem normForm_of_length (muK : Option (K × K)) (c : List K) (h : c.length = 36) :
    normForm muK "triclinic" c = some c
      ∧ normForm muK "isotropic" c = muK.map fun mk => isoForm mk.1 mk.2 := by
  -- peel 36 heads off `c`, so that the 36-variable pattern of `normForm` matches and both sides reduce
  iterate 36 (revert c; refine forall_length_succ fun _ c h => ?_)
  obtain rfl := List.length_eq_zero_iff.mp h
  exact ⟨rfl, rfl⟩

theorem normForm_fix (muK : Option (K × K)) (cs : String) (c : List K) (h : InForm cs c) :
    normForm muK cs c = some c := by
  cases h with
  | triclinic c h => exact (normForm_of_length muK c h).1
  | cubic => exact normForm_cubic muK ..
  | hexagonal => exact normForm_hex muK ..
  | tetragonal => exact normForm_tetra muK ..
  | rhombohedral => exact normForm_rhombo muK ..
  | orthorhombic => exact normForm_ortho muK ..
  | monoclinic => exact normForm_mono muK ..

omit [Field K] [CharZero K] in
/-- one step down a chain `if c then some a else …` that is known to return `n`. -/
theorem ite_some {α : Type} {c : Prop} [Decidable c] {a n : α} {e : Option α} (h : (if c then some a else e) = some n) :
    (c ∧ a = n) ∨ (¬ c ∧ e = some n) := by
  by_cases hc : c
  · rw [if_pos hc] at h; exact Or.inl ⟨hc, Option.some.inj h⟩
  · rw [if_neg hc] at h; exact Or.inr ⟨hc, h⟩

omit [CharZero K] in
/-- whatever `normalized_as(cs)` hands to the `Cij` setter is in the normal form of `cs` (every system whose
    constants are averages of the entries; `'isotropic'` goes through the Hill estimates). -/
theorem normForm_inForm (muK : Option (K × K)) (cs : String) (c n : List K) (hcs : cs ≠ "isotropic")
    (h : normForm muK cs c = some n) : InForm cs n := by
  unfold normForm at h
  split at h
  · -- one `ite_some` per branch of the chain (`split_ifs at h` on 36 bound entries is two orders of magnitude dearer)
    obtain ⟨rfl, rfl⟩ | ⟨-, h⟩ := ite_some h
    · exact .triclinic _ rfl
    rw [if_neg hcs] at h
    obtain ⟨rfl, rfl⟩ | ⟨-, h⟩ := ite_some h
    · exact .cubic ..
    obtain ⟨rfl, rfl⟩ | ⟨-, h⟩ := ite_some h
    · exact .hexagonal ..
    obtain ⟨rfl, rfl⟩ | ⟨-, h⟩ := ite_some h
    · exact .tetragonal ..
    obtain ⟨rfl, rfl⟩ | ⟨-, h⟩ := ite_some h
    · exact .rhombohedral ..
    obtain ⟨rfl, rfl⟩ | ⟨-, h⟩ := ite_some h
    · exact .orthorhombic ..
    obtain ⟨rfl, rfl⟩ | ⟨-, h⟩ := ite_some h
    · exact .monoclinic ..
    cases h
  · cases h

set_option linter.unusedSectionVars false in
theorem normForm_iso (mu k : K) (c : List K) (h : c.length = 36) :
    normForm (some (mu, k)) "isotropic" c = some (isoForm mu k) :=
  (normForm_of_length (some (mu, k)) c h).2

end Atomman.C10
