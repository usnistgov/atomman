/-
  A left fold that keeps one of the values it has seen: `l.foldl step m₀` where `step m c` is `m` or `c`.  The result
  is the start value or a member of the list (`foldl_select`), and it is related to the start value and to every member
  by any preorder that every single step respects (`foldl_bound`).  Below the two general lemmas stand their instances
  over a linear order for the four spellings of a running minimum or maximum in the models: `min`, `max`,
  `if c < m then c else m`, `if m < c then c else m`; a step defined as one of these (`C03.minStep`, `C10.maxK`, …)
  unfolds to it, so the instance applies as it stands.  Use an instance where the step is one of the four, the general
  lemmas for any other step (a comparison of keys, an `Option` accumulator).  A fold that compares `f c` comes to the
  instances through `List.foldl_map`.  The fold of `dvectStep` (`Proofs/Images.lean`) does not: it keeps a vector and
  compares squared lengths, so its order is not one on the kept values; it has its own two inductions there.  What
  holds of any fold (invariants, homomorphisms) is in `Proofs/Lists.lean`.
-/
import Mathlib.Order.Defs.LinearOrder

namespace Atomman

section keep
variable {α : Type}

theorem foldl_select (step : α → α → α) (hsel : ∀ m c, step m c = m ∨ step m c = c) (l : List α) (m0 : α) :
    l.foldl step m0 = m0 ∨ l.foldl step m0 ∈ l := by
  induction l generalizing m0 with
  | nil => exact Or.inl rfl
  | cons a t ih =>
    rw [List.foldl_cons]
    rcases ih (step m0 a) with h | h
    · exact (hsel m0 a).imp (h.trans ·) fun e => List.mem_cons.mpr (Or.inl (h.trans e))
    · exact Or.inr (List.mem_cons_of_mem _ h)

/-- `r` is `≤` for a running minimum and `≥` for a running maximum. -/
theorem foldl_bound (r : α → α → Prop) (hr : ∀ a, r a a) (ht : ∀ a b c, r a b → r b c → r a c) (step : α → α → α)
    (hs : ∀ m c, r (step m c) m ∧ r (step m c) c) (l : List α) (m0 : α) :
    r (l.foldl step m0) m0 ∧ ∀ c ∈ l, r (l.foldl step m0) c := by
  induction l generalizing m0 with
  | nil => exact ⟨hr m0, fun _ h => nomatch h⟩
  | cons a t ih =>
    rw [List.foldl_cons]
    obtain ⟨h1, h2⟩ := ih (step m0 a)
    exact ⟨ht _ _ _ h1 (hs m0 a).1, fun c hc => (List.mem_cons.mp hc).elim (fun e => e.symm ▸ ht _ _ _ h1 (hs m0 a).2) (h2 c)⟩

variable [LinearOrder α] (l : List α) (m0 : α)

theorem foldl_min_le : l.foldl min m0 ≤ m0 ∧ ∀ x ∈ l, l.foldl min m0 ≤ x :=
  foldl_bound (· ≤ ·) le_refl (fun _ _ _ => le_trans) min (fun m c => ⟨min_le_left m c, min_le_right m c⟩) l m0

theorem le_foldl_max : m0 ≤ l.foldl max m0 ∧ ∀ x ∈ l, x ≤ l.foldl max m0 :=
  foldl_bound (· ≥ ·) le_refl (fun _ _ _ h1 h2 => le_trans h2 h1) max (fun m c => ⟨le_max_left m c, le_max_right m c⟩) l m0

theorem foldl_ite_min_le : l.foldl (fun m x => if x < m then x else m) m0 ≤ m0 ∧
    ∀ x ∈ l, l.foldl (fun m x => if x < m then x else m) m0 ≤ x :=
  foldl_bound (· ≤ ·) le_refl (fun _ _ _ => le_trans) _
    (fun m c => by split; exacts [⟨le_of_lt ‹_›, le_rfl⟩, ⟨le_rfl, not_lt.mp ‹_›⟩]) l m0

theorem le_foldl_ite_max : m0 ≤ l.foldl (fun m x => if m < x then x else m) m0 ∧
    ∀ x ∈ l, x ≤ l.foldl (fun m x => if m < x then x else m) m0 :=
  foldl_bound (· ≥ ·) le_refl (fun _ _ _ h1 h2 => le_trans h2 h1) _
    (fun m c => by split; exacts [⟨le_of_lt ‹_›, le_rfl⟩, ⟨le_rfl, not_lt.mp ‹_›⟩]) l m0

theorem foldl_min_mem : l.foldl min m0 = m0 ∨ l.foldl min m0 ∈ l :=
  foldl_select min (fun m c => by rw [min_def]; split; exacts [Or.inl rfl, Or.inr rfl]) l m0

theorem foldl_ite_min_mem : l.foldl (fun m x => if x < m then x else m) m0 = m0 ∨
    l.foldl (fun m x => if x < m then x else m) m0 ∈ l :=
  foldl_select _ (fun m c => by split; exacts [Or.inr rfl, Or.inl rfl]) l m0

theorem foldl_ite_max_mem : l.foldl (fun m x => if m < x then x else m) m0 = m0 ∨
    l.foldl (fun m x => if m < x then x else m) m0 ∈ l :=
  foldl_select _ (fun m c => by split; exacts [Or.inr rfl, Or.inl rfl]) l m0

/-- the running maximum is the one bound of start value and members that is itself one of them. -/
theorem foldl_ite_max_eq_of (M : α) (h1 : m0 ≤ M) (h2 : ∀ v ∈ l, v ≤ M) (h3 : M = m0 ∨ M ∈ l) :
    l.foldl (fun m x => if m < x then x else m) m0 = M := by
  apply le_antisymm
  · rcases foldl_ite_max_mem l m0 with h | h
    · rw [h]; exact h1
    · exact h2 _ h
  · rcases h3 with h3 | h3
    · rw [h3]; exact (le_foldl_ite_max l m0).1
    · exact (le_foldl_ite_max l m0).2 M h3

end keep

end Atomman
