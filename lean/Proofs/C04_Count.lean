/-
  C04 — from the sublattice-index theorem (`rotate_lattice_index`) to the model: the filter of `rotateRaw` on replica `r` of
  atom `a` is `Rep U (offset a) (shiftOf r)`, every representative of such an offset lies inside the bounding supercell, so
  each atom has `|det U|` kept images, pairwise distinct, none missed.  The model takes its floor as a parameter `fl`;
  proof-side notions (`offset`) use `⌊·⌋`, and `imageOf_pos` is where `hfl : ∀ x, fl x = ⌊x⌋` joins the two.  At the end: for
  `uvws = identity` the only kept image of an atom is the atom wrapped into the cell, so the shortcut agrees with this path.
-/
import Proofs.C04_Index
import Proofs.C04_Order
import Proofs.Folds
import Mathlib.Tactic.LinearCombination

namespace Atomman.C04
open Atomman

theorem flatMap_map_perm {α β τ : Type} (T : List τ) (atoms : List α) (g : τ → α → β) :
    (T.flatMap fun r => atoms.map (g r)).Perm (atoms.flatMap fun a => T.map fun r => g r a) := by
  induction atoms with
  | nil => simp
  | cons a as ih =>
    have h1 : (T.flatMap fun r => (a :: as).map (g r)) = T.flatMap fun r => [g r a] ++ as.map (g r) := by
      simp
    rw [h1, List.flatMap_cons]
    refine (List.flatMap_append_perm T (fun r => [g r a]) (fun r => as.map (g r))).symm.trans ?_
    rw [← List.map_eq_flatMap]
    exact List.Perm.append_left _ ih

variable {K : Type} [Field K] [LinearOrder K] [IsStrictOrderedRing K] [FloorRing K]

theorem cartToRel_newCell (U : M3 Int) (hU : M3.det U ≠ 0) (V : M3 K) (hV : M3.det V ≠ 0) (x : V3 K) :
    (⟨newVects U V, ⟨0, 0, 0⟩⟩ : Box K).cartToRel (M3.vecMul x V) = newRel U x := by
  have hN : M3.det (newVects U V) ≠ 0 := by
    rw [newVects_det]; exact mul_ne_zero (by exact_mod_cast hU) hV
  have e : M3.vecMul (newRel U x) (newVects U V) = M3.vecMul x V := by
    rw [newVects_eq, ← M3.vecMul_vecMul, newRel, M3.vecMul_inv_cancel' _ _ (castM_det_ne U hU)]
  rw [Box.cartToRel_eq, V3.sub_zero', ← e, M3.vecMul_inv_cancel _ _ hN]

theorem min_le_mul_le_max (t : K) (u : Int) (h0 : 0 ≤ t) (h1 : t < 1) :
    ((min 0 u : Int) : K) ≤ t * (u : K) ∧ t * (u : K) ≤ ((max 0 u : Int) : K) := by
  rcases le_total 0 u with hu | hu
  · have hk : (0 : K) ≤ (u : K) := by exact_mod_cast hu
    rw [min_eq_left hu, max_eq_right hu, Int.cast_zero]
    exact ⟨mul_nonneg h0 hk, mul_le_of_le_one_left hk h1.le⟩
  · have hk : (u : K) ≤ 0 := by exact_mod_cast hu
    rw [min_eq_right hu, max_eq_left hu, Int.cast_zero]
    exact ⟨le_mul_of_le_one_left hk h1.le, mul_nonpos_of_nonneg_of_nonpos h0 hk⟩

theorem axis_bound {t0 t1 t2 s : K} {u0 u1 u2 n : Int}
    (h0 : 0 ≤ t0 ∧ t0 < 1) (h1 : 0 ≤ t1 ∧ t1 < 1) (h2 : 0 ≤ t2 ∧ t2 < 1) (hs : -1 < s ∧ s < 2)
    (e : s + (n : K) = t0 * (u0 : K) + t1 * (u1 : K) + t2 * (u2 : K)) :
    min 0 u0 + min 0 u1 + min 0 u2 - 1 ≤ n ∧ n ≤ max 0 u0 + max 0 u1 + max 0 u2 := by
  obtain ⟨a0, b0⟩ := min_le_mul_le_max t0 u0 h0.1 h0.2
  obtain ⟨a1, b1⟩ := min_le_mul_le_max t1 u1 h1.1 h1.2
  obtain ⟨a2, b2⟩ := min_le_mul_le_max t2 u2 h2.1 h2.2
  constructor
  · have : ((min 0 u0 + min 0 u1 + min 0 u2 - 2 : Int) : K) < (n : K) := by
      push_cast; push_cast at a0 a1 a2; linarith [hs.2]
    have := Int.cast_lt.mp this
    omega
  · have : (n : K) < ((max 0 u0 + max 0 u1 + max 0 u2 + 1 : Int) : K) := by
      push_cast; push_cast at b0 b1 b2; linarith [hs.1]
    have := Int.cast_lt.mp this
    omega

theorem minOf_le {l : List Int} {x : Int} (h : x ∈ l) : minOf l ≤ x := (Atomman.foldl_min_le l _).2 x h
theorem le_maxOf {l : List Int} {x : Int} (h : x ∈ l) : x ≤ maxOf l := (Atomman.le_foldl_max l _).2 x h

/-- `f` a coordinate projection: each sum is the coordinate of the corner that adds the rows with a negative (positive) entry. -/
theorem corners_reach (U : M3 Int) (f : V3 Int → Int) (h0 : f ⟨0, 0, 0⟩ = 0) (hadd : ∀ a b, f (a + b) = f a + f b) :
    minOf ((corners U).map f) ≤ min 0 (f U.r0) + min 0 (f U.r1) + min 0 (f U.r2) ∧
    max 0 (f U.r0) + max 0 (f U.r1) + max 0 (f U.r2) ≤ maxOf ((corners U).map f) := by
  have e : (corners U).map f = [0, f U.r0, f U.r1, f U.r2, f U.r0 + f U.r1, f U.r0 + f U.r2, f U.r1 + f U.r2,
      f U.r0 + f U.r1 + f U.r2] := by
    simp only [corners, List.map, h0, hadd]
  have lo : ∀ x ∈ (corners U).map f, minOf ((corners U).map f) ≤ x := fun x => minOf_le
  have hi : ∀ x ∈ (corners U).map f, x ≤ maxOf ((corners U).map f) := fun x => le_maxOf
  rw [e] at lo hi ⊢
  simp only [List.forall_mem_cons] at lo hi
  omega

theorem rotateSizes_bounds (U : M3 Int) :
    (rotateSizes U).1.lo ≤ min 0 U.r0.x + min 0 U.r1.x + min 0 U.r2.x - 1 ∧
    max 0 U.r0.x + max 0 U.r1.x + max 0 U.r2.x < (rotateSizes U).1.hi ∧
    (rotateSizes U).2.1.lo ≤ min 0 U.r0.y + min 0 U.r1.y + min 0 U.r2.y - 1 ∧
    max 0 U.r0.y + max 0 U.r1.y + max 0 U.r2.y < (rotateSizes U).2.1.hi ∧
    (rotateSizes U).2.2.lo ≤ min 0 U.r0.z + min 0 U.r1.z + min 0 U.r2.z - 1 ∧
    max 0 U.r0.z + max 0 U.r1.z + max 0 U.r2.z < (rotateSizes U).2.2.hi := by
  obtain ⟨x0, x1⟩ := corners_reach U (·.x) rfl V3.add_x'
  obtain ⟨y0, y1⟩ := corners_reach U (·.y) rfl V3.add_y'
  obtain ⟨z0, z1⟩ := corners_reach U (·.z) rfl V3.add_z'
  exact ⟨Int.sub_le_sub_right x0 1, Int.lt_add_one_of_le x1, Int.sub_le_sub_right y0 1, Int.lt_add_one_of_le y1,
    Int.sub_le_sub_right z0 1, Int.lt_add_one_of_le z1⟩

/-- the origin is a corner, so min ≤ 0 ≤ max and every multiplier `(max + 1) − (min − 1)` is positive. -/
theorem rotateSizes_mult_pos (U : M3 Int) :
    0 < (rotateSizes U).1.mult ∧ 0 < (rotateSizes U).2.1.mult ∧ 0 < (rotateSizes U).2.2.mult := by
  have span : ∀ f : V3 Int → Int, f ⟨0, 0, 0⟩ = 0 →
      0 < (maxOf ((corners U).map f) + 1) - (minOf ((corners U).map f) - 1) := by
    intro f h0
    have hz : (0 : Int) ∈ (corners U).map f := List.mem_map.mpr ⟨_, List.mem_cons_self, h0⟩
    have := minOf_le hz
    have := le_maxOf hz
    omega
  exact ⟨span (·.x) rfl, span (·.y) rfl, span (·.z) rfl⟩

/-- **coverage**: a representative of an offset `s ∈ (-1,2)³` (atom inside the box plus the reduced origin)
    lies inside the multiplier ranges of the bounding supercell. -/
theorem rep_in_bounds (U : M3 Int) (hU : M3.det U ≠ 0) (s : V3 K)
    (hs : (-1 < s.x ∧ s.x < 2) ∧ (-1 < s.y ∧ s.y < 2) ∧ (-1 < s.z ∧ s.z < 2)) (n : V3 Int) (hn : Rep U s n) :
    ((rotateSizes U).1.lo ≤ n.x ∧ n.x < (rotateSizes U).1.hi) ∧
    ((rotateSizes U).2.1.lo ≤ n.y ∧ n.y < (rotateSizes U).2.1.hi) ∧
    ((rotateSizes U).2.2.lo ≤ n.z ∧ n.z < (rotateSizes U).2.2.hi) := by
  unfold Rep at hn
  set t := newRel U (s + castV n) with ht
  have e : s + castV n = M3.vecMul t (castM U) := by
    rw [ht, newRel, M3.vecMul_inv_cancel' _ _ (castM_det_ne U hU)]
  obtain ⟨t0a, t0b, t1a, t1b, t2a, t2b⟩ := hn
  have ex := congrArg V3.x e; have ey := congrArg V3.y e; have ez := congrArg V3.z e
  simp only [V3.add_def, castV, castM, M3.vecMul] at ex ey ez
  have bx := axis_bound ⟨t0a, t0b⟩ ⟨t1a, t1b⟩ ⟨t2a, t2b⟩ hs.1 ex
  have by' := axis_bound ⟨t0a, t0b⟩ ⟨t1a, t1b⟩ ⟨t2a, t2b⟩ hs.2.1 ey
  have bz := axis_bound ⟨t0a, t0b⟩ ⟨t1a, t1b⟩ ⟨t2a, t2b⟩ hs.2.2 ez
  have R := rotateSizes_bounds U
  omega

/-- the Cartesian shift `rint(origin·V⁻¹)·V` (nearest lattice vector, `⌊x + 1/2⌋`) of `rotateRaw`. -/
def originShift (fl : K → Int) (b : Box K) : V3 K :=
  M3.vecMul ⟨((rintK fl (0 - (b.cartToRel ⟨0, 0, 0⟩).x) : Int) : K), ((rintK fl (0 - (b.cartToRel ⟨0, 0, 0⟩).y) : Int) : K),
             ((rintK fl (0 - (b.cartToRel ⟨0, 0, 0⟩).z) : Int) : K)⟩ b.vects

/-- replica `r` of atom `a` of the bounding supercell, as `rotateRaw` positions it. -/
def imageOf (fl : K → Int) (b : Box K) (U : M3 Int) (a : Atom K) (r : Nat × Nat × Nat) : Atom K :=
  { a with pos := replicaPos b (rotateSizes U).1 (rotateSizes U).2.1 (rotateSizes U).2.2 a.pos r.1 r.2.1 r.2.2
                    - originShift fl b }

/-- the filter of `rotateRaw`: inside the half-open new cell. -/
def keptPred (b : Box K) (U : M3 Int) (a : Atom K) : Bool :=
  inHalfOpen ((⟨newVects U b.vects, ⟨0, 0, 0⟩⟩ : Box K).cartToRel a.pos)

def rotTriples (U : M3 Int) : List (Nat × Nat × Nat) :=
  triples (rotateSizes U).1.mult.toNat (rotateSizes U).2.1.mult.toNat (rotateSizes U).2.2.mult.toNat

/-- the periodic images of atom `a` that `rotateRaw` keeps. -/
def imagesOf (fl : K → Int) (b : Box K) (U : M3 Int) (a : Atom K) : List (Atom K) :=
  ((rotTriples U).map (imageOf fl b U a)).filter (keptPred b U)

omit [FloorRing K] [IsStrictOrderedRing K] in
/-- the bounding supercell the filter of `rotate` runs over, replica triple by replica triple. -/
theorem rotateSup_eq (fl : K → Int) (b : Box K) (U : M3 Int) (atoms : List (Atom K)) :
    rotateSup fl b U atoms = (⟨newVects U b.vects, ⟨0, 0, 0⟩⟩,
      (rotTriples U).flatMap fun r => atoms.map fun a => imageOf fl b U a r) := by
  unfold rotateSup
  simp only [supersizeAtoms_eq_triples, List.map_flatMap, List.map_map]
  rfl

omit [FloorRing K] [IsStrictOrderedRing K] in
/-- `rotateRaw` is the refusal of `det U = 0` in front of the exact half-open filter over `rotateSup`. -/
theorem rotateRaw_def (fl : K → Int) (b : Box K) (U : M3 Int) (atoms : List (Atom K)) :
    rotateRaw fl b U atoms = if M3.det U = 0 then none else
      some ((rotateSup fl b U atoms).1,
        (rotateSup fl b U atoms).2.filter fun a => inHalfOpen ((rotateSup fl b U atoms).1.cartToRel a.pos)) := by
  unfold rotateRaw rotateSup
  rfl

omit [FloorRing K] [IsStrictOrderedRing K] in
theorem rotateRaw_iff {fl : K → Int} {b : Box K} {U : M3 Int} {atoms : List (Atom K)} {nb : Box K}
    {kept : List (Atom K)} :
    rotateRaw fl b U atoms = some (nb, kept) ↔
      M3.det U ≠ 0 ∧ nb = ⟨newVects U b.vects, ⟨0, 0, 0⟩⟩ ∧
      kept = ((rotTriples U).flatMap fun r => atoms.map fun a => imageOf fl b U a r).filter (keptPred b U) := by
  rw [rotateRaw_def, rotateSup_eq]
  split
  · rename_i h0
    exact ⟨nofun, fun h => absurd h0 h.1⟩
  · rename_i hU
    rw [Option.some.injEq, Prod.mk.injEq]
    exact ⟨fun h => ⟨hU, h.1.symm, h.2.symm⟩, fun h => ⟨h.2.1.symm, h.2.2.symm⟩⟩

theorem rintK_bounds (x : K) : x - 1 / 2 ≤ ((rintK (fun x => ⌊x⌋) x : Int) : K) ∧ ((rintK (fun x => ⌊x⌋) x : Int) : K) ≤ x + 1 / 2 := by
  have hh : (1 : K) / ((2 : Int) : K) = 1 / 2 := by norm_num
  have h1 := Int.floor_le (x + 1 / 2)
  have h2 := Int.lt_floor_add_one (x + 1 / 2)
  unfold rintK
  simp only [hh]
  split
  · -- the exact half: `⌊x + 1/2⌋ = x + 1/2`, and the result is one less
    rename_i hc
    simp only [Bool.and_eq_true, decide_eq_true_eq] at hc
    rw [Int.cast_sub, Int.cast_one, le_antisymm hc.1.1 hc.1.2]
    constructor <;> linarith
  · exact ⟨by linarith, h1⟩

/-- offset of an atom at `p`: its relative position in the old cell plus the box origin (in cell units) reduced to
    `[-1/2, 1/2]` by the nearest lattice vector (both ends occur: `rint` rounds halves to even); inside
    `[-1/2, 3/2]³ ⊂ (-1, 2)³` for an atom inside the box (far faces included). -/
noncomputable def offset (b : Box K) (p : V3 K) : V3 K :=
  b.cartToRel p + ⟨(0 - (b.cartToRel ⟨0, 0, 0⟩).x) - rintK (fun x => ⌊x⌋) (0 - (b.cartToRel ⟨0, 0, 0⟩).x),
                   (0 - (b.cartToRel ⟨0, 0, 0⟩).y) - rintK (fun x => ⌊x⌋) (0 - (b.cartToRel ⟨0, 0, 0⟩).y),
                   (0 - (b.cartToRel ⟨0, 0, 0⟩).z) - rintK (fun x => ⌊x⌋) (0 - (b.cartToRel ⟨0, 0, 0⟩).z)⟩

/-- lattice shift (in old-cell units) of replica `r`. -/
def shiftOf (U : M3 Int) (r : Nat × Nat × Nat) : V3 Int :=
  ⟨(r.1 : Int) + (rotateSizes U).1.lo, (r.2.1 : Int) + (rotateSizes U).2.1.lo, (r.2.2 : Int) + (rotateSizes U).2.2.lo⟩

/-- the lattice vector (in old-cell units) by which `rotateRaw` translates: `rint(origin·V⁻¹)`. -/
def originIdx (fl : K → Int) (b : Box K) : V3 Int :=
  ⟨rintK fl (0 - (b.cartToRel ⟨0, 0, 0⟩).x), rintK fl (0 - (b.cartToRel ⟨0, 0, 0⟩).y),
   rintK fl (0 - (b.cartToRel ⟨0, 0, 0⟩).z)⟩

omit [FloorRing K] [IsStrictOrderedRing K] in
theorem originShift_eq (fl : K → Int) (b : Box K) : originShift fl b = M3.vecMul (castV (originIdx fl b)) b.vects := rfl

omit [FloorRing K] in
theorem imageOf_pos_eq (fl : K → Int) (b : Box K) (hV : M3.det b.vects ≠ 0) (U : M3 Int) (a : Atom K)
    (r : Nat × Nat × Nat) :
    (imageOf fl b U a r).pos = a.pos + M3.vecMul (castV (shiftOf U r - originIdx fl b)) b.vects := by
  obtain ⟨m0, m1, m2⟩ := rotateSizes_mult_pos U
  have nz : ∀ {m : Int}, 0 < m → (m : K) ≠ 0 := fun h => by exact_mod_cast ne_of_gt h
  rw [castV_sub, M3.vecMul_sub, ← V3.add_sub_assoc']
  show replicaPos b _ _ _ a.pos r.1 r.2.1 r.2.2 - originShift fl b = _
  rw [replicaPos_eq b _ _ _ a.pos r.1 r.2.1 r.2.2 hV (nz m0) (nz m1) (nz m2), originShift_eq]
  -- `castV (shiftOf U r)` is the vector of casts `replicaPos_eq` writes out
  rfl

theorem offset_pos (b : Box K) (hV : M3.det b.vects ≠ 0) (p : V3 K) (m : V3 Int) :
    M3.vecMul (offset b p + castV m) b.vects
      = p + M3.vecMul (castV (m - originIdx (fun x => ⌊x⌋) b)) b.vects := by
  have hp := Box.relToCart_cartToRel b hV p
  have ho := Box.relToCart_cartToRel b hV ⟨0, 0, 0⟩
  simp only [offset, originIdx]
  generalize b.cartToRel p = s at hp ⊢
  generalize b.cartToRel ⟨0, 0, 0⟩ = o at ho ⊢
  have hpx := congrArg V3.x hp; have hpy := congrArg V3.y hp; have hpz := congrArg V3.z hp
  have hox := congrArg V3.x ho; have hoy := congrArg V3.y ho; have hoz := congrArg V3.z ho
  simp only [Box.relToCart, M3.vecMul, V3.add_def] at hpx hpy hpz hox hoy hoz
  ext <;> simp only [M3.vecMul, V3.add_def, castV, V3.sub_x', V3.sub_y', V3.sub_z', Int.cast_sub]
  · linear_combination hpx - hox
  · linear_combination hpy - hoy
  · linear_combination hpz - hoz

theorem imageOf_pos (fl : K → Int) (hfl : ∀ x, fl x = ⌊x⌋) (b : Box K) (hV : M3.det b.vects ≠ 0) (U : M3 Int)
    (a : Atom K) (r : Nat × Nat × Nat) :
    (imageOf fl b U a r).pos = M3.vecMul (offset b a.pos + castV (shiftOf U r)) b.vects := by
  rw [imageOf_pos_eq fl b hV, offset_pos b hV]
  simp only [originIdx, rintK, hfl]

/-- `rotateRaw` keeps image `r` of atom `a` iff its lattice shift is a representative of the atom's offset. -/
theorem keptPred_imageOf (fl : K → Int) (hfl : ∀ x, fl x = ⌊x⌋) (b : Box K) (hV : M3.det b.vects ≠ 0) (U : M3 Int)
    (hU : M3.det U ≠ 0) (a : Atom K) (r : Nat × Nat × Nat) :
    keptPred b U (imageOf fl b U a r) = true ↔ Rep U (offset b a.pos) (shiftOf U r) := by
  have e : (⟨newVects U b.vects, ⟨0, 0, 0⟩⟩ : Box K).cartToRel (imageOf fl b U a r).pos
      = newRel U (offset b a.pos + castV (shiftOf U r)) := by
    rw [imageOf_pos fl hfl b hV, cartToRel_newCell U hU b.vects hV]
  unfold keptPred Rep
  rw [e]
  exact inHalfOpen_iff_inCell _

theorem shiftOf_injective (U : M3 Int) : Function.Injective (shiftOf U) := by
  rintro ⟨a, b, c⟩ ⟨a', b', c'⟩ h
  simp only [shiftOf, V3.mk.injEq] at h
  obtain ⟨h0, h1, h2⟩ := h
  simp only [Prod.mk.injEq]; omega

theorem exists_triple_of_rep (b : Box K) (U : M3 Int) (hU : M3.det U ≠ 0) (p : V3 K) (hp : InBox (b.cartToRel p))
    (n : V3 Int) (hn : Rep U (offset b p) n) : ∃ r ∈ rotTriples U, shiftOf U r = n := by
  -- the offset is a coordinate in `[0,1]` plus a remainder `x - rint x ∈ [-1/2, 1/2]`
  have key : ∀ s x : K, 0 ≤ s → s ≤ 1 →
      -1 < s + (x - rintK (fun x => ⌊x⌋) x) ∧ s + (x - rintK (fun x => ⌊x⌋) x) < 2 := by
    intro s x h0 h1
    obtain ⟨r1, r2⟩ := rintK_bounds x
    constructor <;> linarith
  obtain ⟨a1, a2, a3, a4, a5, a6⟩ := hp
  obtain ⟨⟨x0, x1⟩, ⟨y0, y1⟩, ⟨z0, z1⟩⟩ :=
    rep_in_bounds U hU (offset b p) ⟨key _ _ a1 a2, key _ _ a3 a4, key _ _ a5 a6⟩ n hn
  refine ⟨((n.x - (rotateSizes U).1.lo).toNat, (n.y - (rotateSizes U).2.1.lo).toNat,
    (n.z - (rotateSizes U).2.2.lo).toNat), ?_, ?_⟩
  · rw [rotTriples, mem_triples]; simp only [Size.mult]; omega
  · ext <;> simp only [shiftOf] <;> omega

theorem imagesOf_length (fl : K → Int) (hfl : ∀ x, fl x = ⌊x⌋) (b : Box K) (hV : M3.det b.vects ≠ 0) (U : M3 Int)
    (hU : M3.det U ≠ 0) (a : Atom K) (ha : InBox (b.cartToRel a.pos)) :
    (imagesOf fl b U a).length = (M3.det U).natAbs := by
  classical
  -- the kept triples `T'` map injectively (`shiftOf`) onto the shifts `n` with `Rep U (offset a) n`: their `Finset` is the
  -- subtype `rotate_lattice_index` counts, and a nodup list has as many elements as its `Finset`
  rw [← rotate_lattice_index U hU (offset b a.pos)]
  unfold imagesOf
  rw [List.filter_map, List.length_map]
  set T' := (rotTriples U).filter (keptPred b U ∘ imageOf fl b U a) with hT'
  have nd : (T'.map (shiftOf U)).Nodup :=
    List.Nodup.map (shiftOf_injective U) ((triples_nodup _ _ _).filter _)
  have hmem : ∀ n : V3 Int, n ∈ (T'.map (shiftOf U)).toFinset ↔ Rep U (offset b a.pos) n := by
    intro n
    simp only [List.mem_toFinset, List.mem_map, hT', List.mem_filter, Function.comp_apply,
      keptPred_imageOf fl hfl b hV U hU a]
    constructor
    · rintro ⟨r, ⟨_, hr⟩, rfl⟩; exact hr
    · intro hn
      obtain ⟨r, hr, rfl⟩ := exists_triple_of_rep b U hU a.pos ha n hn
      exact ⟨r, ⟨hr, hn⟩, rfl⟩
  rw [Nat.subtype_card _ hmem, List.toFinset_card_of_nodup nd, List.length_map]

omit [FloorRing K] [IsStrictOrderedRing K] in
theorem rotateRaw_perm (fl : K → Int) (b : Box K) (U : M3 Int) (atoms : List (Atom K)) (nb : Box K)
    (kept : List (Atom K)) (h : rotateRaw fl b U atoms = some (nb, kept)) :
    kept.Perm (atoms.flatMap (imagesOf fl b U)) := by
  obtain ⟨_, _, rfl⟩ := rotateRaw_iff.mp h
  refine ((flatMap_map_perm (rotTriples U) atoms fun r a => imageOf fl b U a r).filter (keptPred b U)).trans ?_
  rw [List.filter_flatMap]
  rfl

/-- **Atom count**: what `rotateRaw` keeps is `natoms · |det U|` atoms — the number the code's own expected-count test
    (`newnatoms = round(newvolume / volume) · natoms`) compares with; that the test passes is `rotate_check_passes`. -/
theorem rotate_total (fl : K → Int) (hfl : ∀ x, fl x = ⌊x⌋) (b : Box K) (hV : M3.det b.vects ≠ 0) (U : M3 Int)
    (atoms : List (Atom K)) (hin : ∀ a ∈ atoms, InBox (b.cartToRel a.pos)) (nb : Box K) (kept : List (Atom K))
    (h : rotateRaw fl b U atoms = some (nb, kept)) :
    kept.length = (M3.det U).natAbs * atoms.length := by
  have hU := (rotateRaw_iff.mp h).1
  rw [(rotateRaw_perm fl b U atoms nb kept h).length_eq,
    length_flatMap_const atoms _ (M3.det U).natAbs (fun a ha => imagesOf_length fl hfl b hV U hU a (hin a ha)), Nat.mul_comm]

theorem imagesOf_nodup (fl : K → Int) (hfl : ∀ x, fl x = ⌊x⌋) (b : Box K) (hV : M3.det b.vects ≠ 0) (U : M3 Int)
    (a : Atom K) : ((imagesOf fl b U a).map (·.pos)).Nodup := by
  -- different replica triples give different positions: undo `· V`, cancel the offset, `castV` and `shiftOf` are injective
  have inj : Function.Injective (fun r => (imageOf fl b U a r).pos) := by
    intro r r' h
    simp only [imageOf_pos fl hfl b hV U a] at h
    have h2 := congrArg (fun x => M3.vecMul x (M3.inv b.vects)) h
    simp only [M3.vecMul_inv_cancel _ _ hV] at h2
    apply shiftOf_injective U
    apply castV_injective (K := K)
    have hx := congrArg V3.x h2; have hy := congrArg V3.y h2; have hz := congrArg V3.z h2
    simp only [V3.add_def] at hx hy hz
    ext
    · exact add_left_cancel hx
    · exact add_left_cancel hy
    · exact add_left_cancel hz
  have h1 : (((rotTriples U).map (imageOf fl b U a)).map (·.pos)).Nodup := by
    rw [List.map_map]
    exact List.Nodup.map inj (triples_nodup _ _ _)
  exact h1.sublist (List.Sublist.map _ List.filter_sublist)

theorem imagesOf_complete (fl : K → Int) (hfl : ∀ x, fl x = ⌊x⌋) (b : Box K) (hV : M3.det b.vects ≠ 0) (U : M3 Int)
    (hU : M3.det U ≠ 0) (a : Atom K) (ha : InBox (b.cartToRel a.pos)) (n : V3 Int)
    (hq : InCell ((⟨newVects U b.vects, ⟨0, 0, 0⟩⟩ : Box K).cartToRel (a.pos + M3.vecMul (castV n) b.vects))) :
    ∃ r, imageOf fl b U a r ∈ imagesOf fl b U a ∧ (imageOf fl b U a r).pos = a.pos + M3.vecMul (castV n) b.vects := by
  set f := originIdx (fun x => ⌊x⌋) b
  have hpos : a.pos + M3.vecMul (castV n) b.vects = M3.vecMul (offset b a.pos + castV (n + f)) b.vects := by
    rw [offset_pos b hV, V3.add_sub_cancel']
  have hrep : Rep U (offset b a.pos) (n + f) := by
    unfold Rep
    rwa [hpos, cartToRel_newCell U hU b.vects hV] at hq
  obtain ⟨r, hr, hsh⟩ := exists_triple_of_rep b U hU a.pos ha (n + f) hrep
  refine ⟨r, List.mem_filter.mpr ⟨List.mem_map.mpr ⟨r, hr, rfl⟩, ?_⟩, ?_⟩
  · rw [keptPred_imageOf fl hfl b hV U hU a r, hsh]; exact hrep
  · rw [imageOf_pos fl hfl b hV U a r, hsh, hpos]

omit [LinearOrder K] [IsStrictOrderedRing K] [FloorRing K] in
theorem newVects_one (V : M3 K) : newVects (M3.one : M3 Int) V = V := by
  obtain ⟨⟨a, b, c⟩, ⟨d, e, f⟩, ⟨g, h, i⟩⟩ := V
  simp only [newVects, M3.one, M3.mul, M3.vecMul, V3.map, Int.cast_one, Int.cast_zero, one_mul, zero_mul,
    add_zero, zero_add]

theorem imagesOf_one (fl : K → Int) (hfl : ∀ x, fl x = ⌊x⌋) (b : Box K) (hV : M3.det b.vects ≠ 0)
    (a : Atom K) (ha : InBox (b.cartToRel a.pos)) :
    imagesOf fl b M3.one a = [wrapAtom fl b a] := by
  have hU : M3.det (M3.one : M3 Int) ≠ 0 := by rw [M3.det_one]; exact one_ne_zero
  have hlen := imagesOf_length fl hfl b hV M3.one hU a ha
  rw [M3.det_one] at hlen
  set s := (⟨b.vects, ⟨0, 0, 0⟩⟩ : Box K).cartToRel a.pos with hs
  set n : V3 Int := ⟨-⌊s.x⌋, -⌊s.y⌋, -⌊s.z⌋⟩ with hn
  have hpos : a.pos + M3.vecMul (castV n) b.vects = (wrapAtom fl b a).pos := by
    simp only [wrapAtom, hfl, ← hs]
    ext <;> simp only [V3.add_def, V3.sub_def, M3.vecMul, castV, hn, Int.cast_neg] <;> ring
  have hq : InCell ((⟨newVects M3.one b.vects, ⟨0, 0, 0⟩⟩ : Box K).cartToRel (a.pos + M3.vecMul (castV n) b.vects)) := by
    have e : s + castV n = s - castV ⟨⌊s.x⌋, ⌊s.y⌋, ⌊s.z⌋⟩ := by
      ext <;> simp only [V3.add_def, V3.sub_def, castV, hn, Int.cast_neg] <;> ring
    rw [newVects_one, Box.cartToRel_add_vecMul ⟨b.vects, ⟨0, 0, 0⟩⟩ hV, ← hs, e]
    exact inCell_sub_floor s
  obtain ⟨r, hmem, hp⟩ := imagesOf_complete fl hfl b hV M3.one hU a ha n hq
  have hw : imageOf fl b M3.one a r = wrapAtom fl b a :=
    congrArg (fun p => ({ a with pos := p } : Atom K)) (hp.trans hpos)
  obtain ⟨x, hx⟩ := List.length_eq_one_iff.mp hlen
  rw [hx] at hmem ⊢
  rw [← List.mem_singleton.mp hmem, hw]

theorem rotateRaw_one (fl : K → Int) (hfl : ∀ x, fl x = ⌊x⌋) (b : Box K) (hV : M3.det b.vects ≠ 0)
    (atoms : List (Atom K)) (hin : ∀ a ∈ atoms, InBox (b.cartToRel a.pos)) :
    ∃ kept, rotateRaw fl b M3.one atoms = some ((rotateIdentity fl b atoms).1, kept) ∧
      kept.Perm (rotateIdentity fl b atoms).2 := by
  have hU : M3.det (M3.one : M3 Int) ≠ 0 := by rw [M3.det_one]; exact one_ne_zero
  have h : rotateRaw fl b M3.one atoms = some (_, _) := rotateRaw_iff.mpr ⟨hU, rfl, rfl⟩
  rw [newVects_one] at h
  refine ⟨_, h, ?_⟩
  have hp := rotateRaw_perm fl b M3.one atoms _ _ h
  rw [List.flatMap_congr (fun a ha => imagesOf_one fl hfl b hV a (hin a ha)), ← List.map_eq_flatMap] at hp
  exact hp

end Atomman.C04
