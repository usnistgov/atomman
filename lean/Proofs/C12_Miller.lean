/-
  The slip-plane normal of `(hkl)` is the reciprocal-lattice vector `h a* + k b* + l c*`; the model carries it as
  `millerNormal V hkl = h b×c + k c×a + l a×b` (cell volume times that vector), so the zone law and the side to which the
  normal points are polynomial identities with the factor `det V`.  `__find_transform` is the matrix
  `m ⊗ (n_axis × ξ_axis) + n ⊗ n_axis + (m × n) ⊗ ξ_axis`.
-/
import Atomman.C12
import Mathlib.Tactic.Ring
import Mathlib.Tactic.FinCases
import Mathlib.Data.Fintype.Basic

namespace Atomman.C12
set_option linter.unusedSimpArgs false

section miller
variable {K : Type} [Field K]

/-- zone law with the volume factor. -/
theorem miller_normal_dot_line (V : Mat K) (h u : Vec K) :
    dot (millerNormal V h) (millerLine V u) = det3 V * dot h u := by
  simp only [dot, millerNormal, millerLine, det3, cross, sum3, Fin.isValue, Fin.reduceAdd, zero_add]
  ring

theorem miller_zone (V : Mat K) (h u : Vec K) (hz : dot h u = 0) :
    dot (millerNormal V h) (millerLine V u) = 0 := by
  rw [miller_normal_dot_line, hz, mul_zero]

/-- along the three cell edges the normal has the components `h det V`, `k det V`, `l det V`: in a right-handed cell
    (`det V > 0`) the SIGNS of the indices decide to which side of the plane the normal points. -/
theorem miller_normal_dot_edges (V : Mat K) (h : Vec K) (i : Fin 3) :
    dot (millerNormal V h) (V i) = det3 V * h i := by
  fin_cases i <;>
  · simp only [dot, millerNormal, det3, cross, sum3, Fin.isValue, Fin.reduceAdd, Fin.reduceFinMk, zero_add]
    ring

theorem dot_comm (a b : Vec K) : dot a b = dot b a := by
  simp only [dot, sum3]; ring
theorem dot_cross_left (a b : Vec K) : dot (cross a b) a = 0 := by
  simp only [dot, cross, sum3, Fin.isValue, Fin.reduceAdd, zero_add]; ring
theorem dot_cross_right (a b : Vec K) : dot (cross a b) b = 0 := by
  simp only [dot, cross, sum3, Fin.isValue, Fin.reduceAdd, zero_add]; ring
theorem dot_cross_self (a b : Vec K) : dot (cross a b) (cross a b) = dot a a * dot b b - dot a b * dot a b := by
  simp only [dot, cross, sum3, Fin.isValue, Fin.reduceAdd, zero_add]; ring

theorem findTransform_apply (m n na xa v : Vec K) (i : Fin 3) :
    matVec (findTransform m n na xa) v i = m i * dot (cross na xa) v + n i * dot na v + cross m n i * dot xa v := by
  simp only [matVec, findTransform, dot, sum3]; ring

/-- `__find_transform` takes the unit plane normal to `n`. -/
theorem find_transform_normal (m n na xa : Vec K) (hn : dot na na = 1) (hx : dot na xa = 0) (i : Fin 3) :
    matVec (findTransform m n na xa) na i = n i := by
  rw [findTransform_apply, dot_cross_left, hn, dot_comm xa, hx]; ring

/-- `__find_transform` takes the unit line direction to `m × n`. -/
theorem find_transform_line (m n na xa : Vec K) (hxx : dot xa xa = 1) (hx : dot na xa = 0) (i : Fin 3) :
    matVec (findTransform m n na xa) xa i = cross m n i := by
  rw [findTransform_apply, dot_cross_right, hxx, hx]; ring

/-- `__find_transform` takes `n_axis × ξ_axis` (the in-plane direction perpendicular to the line) to `m`. -/
theorem find_transform_inplane (m n na xa : Vec K) (hn : dot na na = 1) (hxx : dot xa xa = 1) (hx : dot na xa = 0)
    (i : Fin 3) : matVec (findTransform m n na xa) (cross na xa) i = m i := by
  rw [findTransform_apply, dot_cross_self, dot_comm na (cross na xa), dot_cross_left, dot_comm xa (cross na xa),
    dot_cross_right, hn, hxx, hx]; ring

set_option linter.unusedVariables false in
/-- if the unit normal handed to `__find_transform` is the multiple `s · millerNormal V hkl`, the transform takes
    `millerNormal V hkl` to `(1/s) n` (stated as `s · T N = n`).  The statement carries no sign condition on `s`; that `s > 0`
    in a right-handed cell, so that the SIGNS of the indices fix the orientation, is `miller_normal_side`.  (`hs` is not used.) -/
theorem find_transform_miller_sign (V : Mat K) (h m n xa : Vec K) (s : K) (hs : s ≠ 0)
    (hn : dot (fun c => s * millerNormal V h c) (fun c => s * millerNormal V h c) = 1)
    (hx : dot (fun c => s * millerNormal V h c) xa = 0) (i : Fin 3) :
    s * matVec (findTransform m n (fun c => s * millerNormal V h c) xa) (millerNormal V h) i = n i := by
  have := find_transform_normal m n (fun c => s * millerNormal V h c) xa hn hx i
  rw [← this]
  simp only [matVec, sum3]
  ring

theorem miller_normal_neg (V : Mat K) (h : Vec K) (c : Fin 3) :
    millerNormal V (fun i => - h i) c = - millerNormal V h c := by
  simp only [millerNormal]
  ring

end miller

section order
variable {K : Type} [Field K] [LinearOrder K] [IsStrictOrderedRing K]

theorem miller_normal_side (V : Mat K) (h : Vec K) (i : Fin 3) (hV : 0 < det3 V) (hi : 0 < h i) :
    0 < dot (millerNormal V h) (V i) := by
  rw [miller_normal_dot_edges]
  exact mul_pos hV hi

end order

/-- non-vacuity: the cubic cell, the plane (1 0 -1) (zero pattern h0l with mixed signs) and the line [0 1 0]. -/
example : dot (millerNormal (fun i j => if i = j then (1 : ℚ) else 0) (fun i => if i = 0 then 1 else if i = 1 then 0 else -1))
    (millerLine (fun i j => if i = j then (1 : ℚ) else 0) (fun i => if i = 1 then 1 else 0)) = 0 := by
  rw [miller_normal_dot_line]; simp [dot, sum3]

end Atomman.C12
