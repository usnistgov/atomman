/-
  C16 — conversions between index sets: the 3 ↔ 4 index maps and their sum guard (single sets, arrays, arrays in
  blocks), and the centering tables (the *generated* ones, `Atomman/Generated/MillerTables.lean`, regenerated from
  miller.py on every run).
-/
import Atomman.C16
import Proofs.Linear3
import Proofs.C16_Close
import Mathlib.Tactic.LinearCombination

namespace Atomman.C16
open Atomman.Gen

theorem guarded_map_eq_mapM {α β : Type} (g : α → Bool) (f : α → β) (e : Err) : ∀ l : List α,
    (if l.all g = true then Except.ok (l.map f) else Except.error e)
      = l.mapM fun q => if g q = true then Except.ok (f q) else .error e
  | [] => rfl
  | q :: l => by
    rw [List.mapM_cons, ← guarded_map_eq_mapM g f e l, List.all_cons]
    cases g q <;> cases l.all g <;> rfl

theorem ok_of_guard {α : Type} {b : Bool} {x p : α} {e : Err}
    (h : (if b = true then Except.ok x else Except.error e) = .ok p) : b = true ∧ x = p := by
  cases b
  · cases h
  · cases h; exact ⟨rfl, rfl⟩

section ordered
variable {K : Type} [Field K] [LinearOrder K] [IsStrictOrderedRing K]

/-- what the 3 → 4 maps build passes the guard. -/
theorem sumIsZero_add_neg (atol : K) (hat : 0 ≤ atol) (u v : K) : sumIsZero atol (u + v + -(u + v)) = true := by
  rw [sumIsZero_iff, add_neg_cancel, abs_zero]; exact hat

/-- integer sums: with `0 ≤ atol < 1` the numerical guard is the exact guard. -/
theorem sumIsZero_int (atol : K) (h0 : 0 ≤ atol) (h1 : atol < 1) (n : ℤ) :
    sumIsZero atol (n : K) = true ↔ n = 0 := by
  rw [sumIsZero_iff]
  refine ⟨fun h => Int.abs_lt_one_iff.mp ?_, fun h => by rw [h, Int.cast_zero, abs_zero]; exact h0⟩
  exact_mod_cast h.trans_lt h1

/-- the array guard accepts iff every row's own sum is within `atol` (sums do not cancel across rows). -/
theorem guardAll_iff (atol : K) (rows : List (V4 K)) :
    guardAll atol rows = true ↔ ∀ q ∈ rows, |q.a + q.b + q.c| ≤ atol := by
  simp only [guardAll, List.all_eq_true, sumIsZero_iff]

set_option linter.unusedSectionVars false in
/-- `plane4to3` on an array is `plane4to3` on every row, and one offending row rejects the array. -/
theorem plane4to3Arr_eq_mapM (atol : K) (rows : List (V4 K)) :
    plane4to3Arr atol rows = rows.mapM (plane4to3 atol) :=
  guarded_map_eq_mapM _ _ _ rows

set_option linter.unusedSectionVars false in
theorem vector4to3Arr_eq_mapM (atol : K) (rows : List (V4 K)) :
    vector4to3Arr atol rows = rows.mapM (vector4to3 atol) :=
  guarded_map_eq_mapM _ _ _ rows

/-- integer arrays, `0 ≤ atol < 1`: accepted iff `h + k + i = 0` in EVERY row; then no row loses anything
    (`plane3to4` of the result row is the row). -/
theorem plane4to3Arr_int (atol : K) (h0 : 0 ≤ atol) (h1 : atol < 1) (rows : List (ℤ × ℤ × ℤ × ℤ)) :
    let rowsK : List (V4 K) := rows.map fun r => ⟨(r.1 : K), (r.2.1 : K), (r.2.2.1 : K), (r.2.2.2 : K)⟩
    ((∃ out, plane4to3Arr atol rowsK = .ok out) ↔ ∀ r ∈ rows, r.1 + r.2.1 + r.2.2.1 = 0) ∧
    (∀ out, plane4to3Arr atol rowsK = .ok out → out.map plane3to4 = rowsK) := by
  intro rowsK
  have hg : guardAll atol rowsK = true ↔ ∀ r ∈ rows, r.1 + r.2.1 + r.2.2.1 = 0 := by
    simp only [rowsK, guardAll, List.all_map, List.all_eq_true, Function.comp_apply, ← Int.cast_add,
      sumIsZero_int atol h0 h1]
  unfold plane4to3Arr
  refine ⟨⟨fun ⟨out, ho⟩ => hg.1 (ok_of_guard ho).1, fun h => ⟨_, if_pos (hg.2 h)⟩⟩, fun out ho => ?_⟩
  obtain ⟨hga, rfl⟩ := ok_of_guard ho
  simp only [rowsK, List.map_map]
  refine List.map_congr_left fun r hr => ?_
  have e : (r.2.2.1 : K) = -((r.1 : K) + (r.2.1 : K)) := by
    rw [← Int.cast_add, ← Int.cast_neg]; congr 1; have := hg.1 hga r hr; omega
  simp only [Function.comp, plane3to4, e]

/-- 3 → 4 → 3 is the identity for `atol ≥ 0`; 4 → 3 → 4 is the identity for quadruples whose sum is EXACTLY zero (the guard
    only gives `|sum| ≤ atol`, and `plane3to4` rebuilds `i = -(h+k)`).  Likewise for vectors below. -/
theorem plane34_roundtrip (atol : K) (hat : 0 ≤ atol) :
    (∀ p : V3 K, plane4to3 atol (plane3to4 p) = .ok p) ∧
    (∀ (q : V4 K) (p : V3 K), plane4to3 atol q = .ok p → q.a + q.b + q.c = 0 → plane3to4 p = q) := by
  refine ⟨fun p => ?_, fun q p h hs => ?_⟩
  · simp only [plane4to3, plane3to4, sumIsZero_add_neg atol hat, if_true]
  · obtain ⟨-, rfl⟩ := ok_of_guard h
    exact V4.ext rfl rfl (by show -(q.a + q.b) = q.c; linear_combination -hs) rfl

theorem vector34_roundtrip (atol : K) (hat : 0 ≤ atol) :
    (∀ p : V3 K, vector4to3 atol (vector3to4 p) = .ok p) ∧
    (∀ (q : V4 K) (p : V3 K), vector4to3 atol q = .ok p → q.a + q.b + q.c = 0 → vector3to4 p = q) := by
  constructor
  · intro p
    simp only [vector4to3, vector3to4, sumIsZero_add_neg atol hat, if_true, Except.ok.injEq]
    ext <;> simp only [Nat.cast_ofNat] <;> ring
  · intro q p h hs
    obtain ⟨-, rfl⟩ := ok_of_guard h
    simp only [vector3to4, Nat.cast_ofNat]
    ext <;> simp only []
    · ring
    · ring
    · linear_combination (-1 : K) * hs

/-- a four-index vector `[u v t w]` (with `u+v+t = 0`) denotes `u a₁ + v a₂ + t a₃ + w c` where
    `a₃ = -a₁ - a₂`; the code's three-index vector dotted with the cell gives the same Cartesian vector. -/
theorem vector4_same_direction (atol : K) (V : M3 K) (q : V4 K) (p : V3 K)
    (h : vector4to3 atol q = .ok p) (hs : q.a + q.b + q.c = 0) :
    M3.vecMul p V =
      V3.smul q.a V.r0 + V3.smul q.b V.r1 + V3.smul q.c (-V.r0 - V.r1) + V3.smul q.d V.r2
    ∧ vectorCrystalToCartesian atol true V [q.a, q.b, q.c, q.d] = .ok (M3.vecMul p V) := by
  constructor
  · obtain ⟨-, rfl⟩ := ok_of_guard h
    have hc : q.c = -(q.a + q.b) := by linear_combination hs
    simp only [M3.vecMul, V3.smul, V3.add_def, V3.sub_def, V3.neg_def, Nat.cast_ofNat, V3.mk.injEq, hc]
    refine ⟨?_, ?_, ?_⟩ <;> ring
  · simp only [vectorCrystalToCartesian, if_true, h]

/-- the four-index plane API: with integer indices and `0 ≤ atol < 1` it accepts exactly `h+k+i = 0`
    and returns the normal of `(hkl)`. -/
theorem plane4_api (atol : K) (h0 : 0 ≤ atol) (h1 : atol < 1) (V : M3 K) (h k i l : ℤ) :
    planeCrystalToCartesianUnnorm atol true V [h, k, i, l]
      = if h + k + i = 0 then planeNormalUnnorm V h k l else .error .value := by
  simp only [planeCrystalToCartesianUnnorm, if_true]
  by_cases hs : h + k + i = 0
  · rw [if_pos ((sumIsZero_int atol h0 h1 _).mpr hs), if_pos hs]
  · rw [if_neg (fun hc => hs ((sumIsZero_int atol h0 h1 _).mp hc)), if_neg hs]

/-- integer quadruples: 4 → 3 → 4 is lossless whenever the code accepts the quadruple. -/
theorem plane43_int_roundtrip (atol : K) (h0 : 0 ≤ atol) (h1 : atol < 1) (h k i l : ℤ) (p : V3 K)
    (hp : plane4to3 atol ⟨(h : K), (k : K), (i : K), (l : K)⟩ = .ok p) :
    plane3to4 p = ⟨(h : K), (k : K), (i : K), (l : K)⟩ := by
  have hs : h + k + i = 0 := (sumIsZero_int atol h0 h1 _).mp (by push_cast; exact (ok_of_guard hp).1)
  refine (plane34_roundtrip atol h0).2 _ p hp ?_
  have := congrArg (Int.cast (R := K)) hs
  push_cast at this; exact this

end ordered

section blocks
variable {K : Type} [Zero K] [Add K] [Neg K] [LT K] [DecidableLT K] [LE K] [DecidableLE K]

/-- the sum guard of a long array is the guard of its blocks. -/
theorem guardAll_append (atol : K) (xs ys : List (V4 K)) :
    guardAll atol (xs ++ ys) = (guardAll atol xs && guardAll atol ys) := by
  unfold guardAll
  exact List.all_append

theorem plane4to3Arr_append (atol : K) (xs ys : List (V4 K)) :
    plane4to3Arr atol (xs ++ ys) =
      match plane4to3Arr atol xs, plane4to3Arr atol ys with
      | .ok o1, .ok o2 => .ok (o1 ++ o2)
      | _, _ => .error .value := by
  unfold plane4to3Arr
  rw [guardAll_append, List.map_append]
  cases guardAll atol xs <;> cases guardAll atol ys <;> simp

theorem vector4to3Arr_append [Mul K] [NatCast K] (atol : K) (xs ys : List (V4 K)) :
    vector4to3Arr atol (xs ++ ys) =
      match vector4to3Arr atol xs, vector4to3Arr atol ys with
      | .ok o1, .ok o2 => .ok (o1 ++ o2)
      | _, _ => .error .value := by
  unfold vector4to3Arr
  rw [guardAll_append, List.map_append]
  cases guardAll atol xs <;> cases guardAll atol ys <;> simp

end blocks

set_option linter.unusedVariables false in
/-- indices held in an UNSIGNED array: the four-index form of a plane with `h, k ≥ 0`, `h + k > 0` has a negative third
    index (and sums to zero), so it does not fit the dtype the three-index form came in: `plane3to4` has to leave it. -/
theorem plane3to4_third_negative (h k l : ℤ) (hh : 0 ≤ h) (hk : 0 ≤ k) (hpos : 0 < h + k) :
    (plane3to4 (⟨h, k, l⟩ : V3 ℤ)).c < 0 ∧
      (plane3to4 (⟨h, k, l⟩ : V3 ℤ)).a + (plane3to4 (⟨h, k, l⟩ : V3 ℤ)).b + (plane3to4 (⟨h, k, l⟩ : V3 ℤ)).c = 0 := by
  simp only [plane3to4]
  constructor <;> omega

section centering
variable {K : Type} [Field K] [CharZero K]
/-- the keys `centering_inverse` / `centering_det` quantify over; `centering_settings_exhaustive` shows these are all keys
    of the generated tables. -/
def settings : List String := ["p", "a", "b", "c", "i", "f", "t1", "t2"]
/-- number of lattice points of the conventional cell per primitive cell. -/
def centeringMultiplicity : String → Nat
  | "p" => 1 | "a" => 2 | "b" => 2 | "c" => 2 | "i" => 2 | "f" => 4 | "t1" => 3 | "t2" => 3 | _ => 0

/-- the one place the generated tables are evaluated; the other product and the other determinant follow from these. -/
theorem centering_tables : ∀ s ∈ settings, ∃ P C : M3 K,
    primToConv? s = some P ∧ convToPrim? s = some C ∧ M3.mul P C = M3.one
      ∧ M3.det C = (centeringMultiplicity s : K) := by
  intro s hs
  simp only [settings, List.mem_cons, List.not_mem_nil, or_false] at hs
  rcases hs with rfl | rfl | rfl | rfl | rfl | rfl | rfl | rfl
  all_goals
    refine ⟨_, _, by simp [primToConv?]; rfl, by simp [convToPrim?]; rfl, ?_, ?_⟩
  all_goals
    simp only [M3.mul, M3.vecMul, M3.one, M3.det, V3.dot, V3.cross, centeringMultiplicity, p2c_p, c2p_p, p2c_a, c2p_a,
      p2c_b, c2p_b, p2c_c, c2p_c, p2c_i, c2p_i, p2c_f, c2p_f, p2c_t1, c2p_t1, p2c_t2, c2p_t2, M3.mk.injEq, V3.mk.injEq]
    norm_num

theorem centering_inverse : ∀ s ∈ settings, ∃ P C : M3 K,
    primToConv? s = some P ∧ convToPrim? s = some C ∧ M3.mul P C = M3.one ∧ M3.mul C P = M3.one := by
  intro s hs
  obtain ⟨P, C, hP, hC, h1, -⟩ := centering_tables (K := K) s hs
  exact ⟨P, C, hP, hC, h1, M3.mul_eq_one_comm h1⟩

theorem centering_det : ∀ s ∈ settings, ∃ P C : M3 K,
    primToConv? s = some P ∧ convToPrim? s = some C ∧
      M3.det P = 1 / (centeringMultiplicity s : K) ∧ M3.det C = (centeringMultiplicity s : K) := by
  intro s hs
  obtain ⟨P, C, hP, hC, h1, hd⟩ := centering_tables (K := K) s hs
  -- `det P · det C = det (P C) = 1`
  have h : M3.det P * M3.det C = 1 := by
    rw [← M3.det_mul, h1, M3.det_one]
  exact ⟨P, C, hP, hC, eq_one_div_of_mul_eq_one_left (hd ▸ h), hd⟩

end centering

/-- the hand-written list `settings` that `centering_inverse` / `centering_det` quantify over is the WHOLE key set of the
    regenerated tables: every other string is refused by both lookups (a ninth centering added to miller.py breaks this). -/
theorem centering_settings_exhaustive {K : Type} [NatCast K] [Div K] [Neg K] (s : String) (hs : s ∉ settings) :
    (primToConv? s : Option (M3 K)) = none ∧ (convToPrim? s : Option (M3 K)) = none := by
  simp only [settings, List.mem_cons, List.not_mem_nil, or_false, not_or] at hs
  obtain ⟨h1, h2, h3, h4, h5, h6, h7, h8⟩ := hs
  constructor <;> simp [primToConv?, convToPrim?, h1, h2, h3, h4, h5, h6, h7, h8]

end Atomman.C16
