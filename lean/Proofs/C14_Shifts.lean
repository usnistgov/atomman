/-
  C14, `FreeSurface` termination shifts: neighbours of a strictly ascending list have nothing between them
  (`consec_spec`), no periodic image of a layer lies in a gap of the replicated layer list (`images_outside_gap`),
  `relShift` is minus the midpoint modulo the cell width (`relShift_mod`): every offered shift puts the cut strictly
  between atomic planes (`shifts_spec`, `shift_between_planes`); a cell whose atoms lie in ONE layer at ANY height is
  offered one shift, half a cell width from the cut (`shifts_single_layer`).  Rests on the model file and the shared
  `Proofs/Lists.lean` (the insertion step `IsInsert`) only.
-/
import Atomman.C14
import Proofs.Lists
import Mathlib.Tactic.Linarith
import Mathlib.Tactic.Ring

namespace Atomman.C14
open Atomman
set_option linter.unusedSectionVars false

section shifts
variable {K : Type} [Field K] [LinearOrder K] [IsStrictOrderedRing K]

theorem absLe_iff (x t : K) : absLe x t = true ↔ -t ≤ x ∧ x ≤ t := by
  simp only [absLe, Bool.and_eq_true, Bool.not_eq_true', decide_eq_false_iff_not, not_lt]
  tauto

/-- `insertAsc` is the insertion step of `Proofs/Lists.lean` (in front of the first larger entry, never "already there"). -/
theorem isInsert : IsInsert (insertAsc (K := K)) (· < ·) (fun _ _ => False) :=
  ⟨fun _ => rfl, fun x y t => by rw [insertAsc, if_neg not_false]⟩

theorem sortAsc_perm (l : List K) : (sortAsc l).Perm l := isInsert.foldr_perm l

theorem shifts_sorted (coords : List K) (W tol : K) : (shifts coords W tol).Pairwise (· ≤ ·) :=
  isInsert.foldr_sorted (hr := fun _ _ => le_of_lt) (hn := fun _ _ => le_of_not_gt) (ht := fun _ _ _ => le_trans)
    (rawShifts coords W tol)

theorem shifts_perm (coords : List K) (W tol : K) : (shifts coords W tol).Perm (rawShifts coords W tol) :=
  sortAsc_perm _

theorem consec_spec (l : List K) (h : l.Pairwise (· < ·)) (p q : K) (hpq : (p, q) ∈ consec l) :
    p < q ∧ p ∈ l ∧ q ∈ l ∧ ∀ x ∈ l, x ≤ p ∨ q ≤ x := by
  induction l with
  | nil => simp [consec] at hpq
  | cons a t ih =>
    cases t with
    | nil => simp [consec] at hpq
    | cons b u =>
      simp only [consec, List.tail_cons, List.zip_cons_cons, List.mem_cons, Prod.mk.injEq] at hpq
      rw [List.pairwise_cons] at h
      rcases hpq with ⟨rfl, rfl⟩ | hpq
      · refine ⟨h.1 q (by simp), by simp, by simp, ?_⟩
        intro x hx
        rcases List.mem_cons.mp hx with rfl | hx
        · exact Or.inl (le_refl _)
        · rcases List.mem_cons.mp hx with rfl | hx'
          · exact Or.inr (le_refl _)
          · exact Or.inr ((List.pairwise_cons.mp h.2).1 x hx').le
      · obtain ⟨h1, h2, h3, h4⟩ := ih h.2 hpq
        refine ⟨h1, List.mem_cons_of_mem _ h2, List.mem_cons_of_mem _ h3, ?_⟩
        intro x hx
        rcases List.mem_cons.mp hx with rfl | hx
        · rcases List.mem_cons.mp h2 with rfl | h2'
          · exact Or.inl (h.1 _ (by simp)).le
          · exact Or.inl (h.1 _ (List.mem_cons_of_mem _ h2')).le
        · exact h4 x hx

theorem relShift_mod (W m : K) : ∃ j : ℤ, relShift W m = (j : K) * W - m := by
  unfold relShift
  simp only
  split_ifs
  · exact ⟨0, by push_cast; ring⟩
  · exact ⟨2, by push_cast; ring⟩
  · exact ⟨1, by push_cast; ring⟩


theorem between_head_last (coords : List K) (f l : K) (hs : coords.Pairwise (· < ·))
    (hf : coords.head? = some f) (hl : coords.getLast? = some l) : ∀ x ∈ coords, f ≤ x ∧ x ≤ l := by
  intro x hx
  constructor
  · obtain ⟨t, rfl⟩ := List.head?_eq_some_iff.mp hf
    rcases List.mem_cons.mp hx with rfl | hx
    · exact le_refl _
    · exact ((List.pairwise_cons.mp hs).1 x hx).le
  · obtain ⟨ini, rfl⟩ := List.getLast?_eq_some_iff.mp hl
    rcases List.mem_append.mp hx with hx | hx
    · exact ((List.pairwise_append.mp hs).2.2 x hx l (List.mem_singleton_self l)).le
    · rw [List.mem_singleton.mp hx]

theorem withReplica_spec (coords : List K) (W tol f l : K) (hs : coords.Pairwise (· < ·))
    (hf : coords.head? = some f) (hl : coords.getLast? = some l) (hW : l ≤ f + W) (htol : 0 ≤ tol) :
    (withReplica coords W tol).Pairwise (· < ·) ∧ (∀ x ∈ coords, x ∈ withReplica coords W tol) ∧
    (∀ x ∈ withReplica coords W tol, f ≤ x ∧ x ≤ f + W) ∧ (∀ x ∈ coords, f ≤ x ∧ x ≤ l) := by
  have hfl := between_head_last coords f l hs hf hl
  have hfl' : f ≤ l := (hfl f (List.mem_of_head? hf)).2
  have hin : ∀ x ∈ coords, f ≤ x ∧ x ≤ f + W := fun x hx => ⟨(hfl x hx).1, le_trans (hfl x hx).2 hW⟩
  unfold withReplica
  simp only [hf, hl]
  split_ifs with hc
  · exact ⟨hs, fun x hx => hx, hin, hfl⟩
  · -- the replica is appended only when the last layer is not already at `f + W`
    have hlt : l < f + W := by
      refine lt_of_le_of_ne hW fun h => hc ((absLe_iff _ _).mpr ?_)
      rw [h, add_sub_cancel_left, sub_self]
      exact ⟨neg_nonpos.mpr htol, htol⟩
    refine ⟨?_, fun x hx => List.mem_append_left _ hx, ?_, hfl⟩
    · rw [List.pairwise_append]
      refine ⟨hs, List.pairwise_singleton _ _, fun x hx y hy => ?_⟩
      rw [List.mem_singleton.mp hy]
      exact lt_of_le_of_lt (hfl x hx).2 hlt
    · intro x hx
      rcases List.mem_append.mp hx with hx | hx
      · exact hin x hx
      · rw [List.mem_singleton.mp hx]
        exact ⟨by linarith, le_refl _⟩

theorem mid_eq (p q : K) : mid (p, q) = (p + q) / 2 := by
  simp only [mid]; push_cast; rfl

theorem mem_shifts {coords : List K} {W tol s : K} (h : s ∈ shifts coords W tol) :
    ∃ p q, (p, q) ∈ consec (withReplica coords W tol) ∧ s = relShift W ((p + q) / 2) := by
  obtain ⟨⟨p, q⟩, hpq, rfl⟩ := List.mem_map.mp ((shifts_perm coords W tol).subset h)
  exact ⟨p, q, hpq, by rw [mid_eq]⟩

/-- in a periodic stack of period `W` whose layers `c` lie within one period above `c0`, no image `c + t W` falls
    strictly between two layers `p < q` of that period that have none of its own layers between them: an image below
    the period is `≤ c0 ≤ p`, one above it is `≥ c0 + W ≥ q`. -/
theorem stack_gap {W c0 p q c : K} (hW : 0 < W) (hp : c0 ≤ p) (hq : q ≤ c0 + W) (hc0 : c0 ≤ c) (hc1 : c ≤ c0 + W)
    (hb : c ≤ p ∨ q ≤ c) (t : ℤ) : c + (t : K) * W ≤ p ∨ q ≤ c + (t : K) * W := by
  rcases lt_trichotomy t 0 with ht | rfl | ht
  · left
    have : (t : K) * W ≤ -1 * W := mul_le_mul_of_nonneg_right (by exact_mod_cast (by omega : t ≤ -1)) hW.le
    linarith only [this, hp, hc1]
  · rwa [Int.cast_zero, zero_mul, add_zero]
  · right
    have : 1 * W ≤ (t : K) * W := mul_le_mul_of_nonneg_right (by exact_mod_cast (by omega : 1 ≤ t)) hW.le
    linarith only [this, hq, hc0]

/-- every layer is in the replicated layer list. -/
theorem mem_withReplica_of_mem {coords : List K} {W tol x : K} (hx : x ∈ coords) : x ∈ withReplica coords W tol := by
  unfold withReplica
  split
  · split_ifs
    · exact hx
    · exact List.mem_append_left _ hx
  · exact hx

/-- no periodic image of an entry of the replicated layer list (the replica `f + W` included) lies strictly between two
    of its neighbours. -/
theorem replica_images_outside_gap (coords : List K) (W tol f l : K) (hs : coords.Pairwise (· < ·))
    (hf : coords.head? = some f) (hl : coords.getLast? = some l) (hW : l ≤ f + W) (hW0 : 0 < W)
    (htol : 0 ≤ tol) (p q : K) (hpq : (p, q) ∈ consec (withReplica coords W tol)) :
    p < q ∧ ∀ x ∈ withReplica coords W tol, ∀ m : ℤ, x + (m : K) * W ≤ p ∨ q ≤ x + (m : K) * W := by
  obtain ⟨h1, -, h3, -⟩ := withReplica_spec coords W tol f l hs hf hl hW htol
  obtain ⟨c1, c2, c3, c4⟩ := consec_spec _ h1 p q hpq
  exact ⟨c1, fun x hx m => stack_gap hW0 (h3 p c2).1 (h3 q c3).2 (h3 x hx).1 (h3 x hx).2 (c4 x hx) m⟩

theorem images_outside_gap (coords : List K) (W tol f l : K) (hs : coords.Pairwise (· < ·))
    (hf : coords.head? = some f) (hl : coords.getLast? = some l) (hW : l ≤ f + W) (hW0 : 0 < W)
    (htol : 0 ≤ tol) (p q : K) (hpq : (p, q) ∈ consec (withReplica coords W tol)) :
    p < q ∧ ∀ x ∈ coords, ∀ m : ℤ, x + (m : K) * W ≤ p ∨ q ≤ x + (m : K) * W := by
  obtain ⟨c1, h⟩ := replica_images_outside_gap coords W tol f l hs hf hl hW hW0 htol p q hpq
  exact ⟨c1, fun x hx => h x (mem_withReplica_of_mem hx)⟩

/-- what an offered shift is: `j W` minus the midpoint of two neighbours `p < q` of the replicated layer list, between
    which no periodic image of any entry of that list (the replica included) lies.  `FreeSurface` reads it after the
    shift (`shift_between_planes`), `Dislocation` for the slip plane (C13). -/
theorem shifts_spec (coords : List K) (W tol f l : K) (hs : coords.Pairwise (· < ·))
    (hf : coords.head? = some f) (hl : coords.getLast? = some l) (hW : l ≤ f + W) (hW0 : 0 < W)
    (htol : 0 ≤ tol) :
    ∀ s ∈ shifts coords W tol, ∃ p q : K, (p, q) ∈ consec (withReplica coords W tol) ∧ p < q ∧
      ∃ j : ℤ, s = (j : K) * W - (p + q) / 2 ∧
        ∀ x ∈ withReplica coords W tol, ∀ m : ℤ, x + (m : K) * W ≤ p ∨ q ≤ x + (m : K) * W := by
  intro s hsm
  obtain ⟨p, q, hpq, rfl⟩ := mem_shifts hsm
  obtain ⟨c1, himg⟩ := replica_images_outside_gap coords W tol f l hs hf hl hW hW0 htol p q hpq
  obtain ⟨j, hj⟩ := relShift_mod W ((p + q) / 2)
  exact ⟨p, q, hpq, c1, j, hj, himg⟩

/-- **shift_between_planes**: every offered termination shift `s` is (modulo the cell width `W`) minus
    the midpoint of two neighbouring atomic layers `p < q` (the last layer's neighbour being the periodic
    replica of the first), so that after the shift every periodic image of every layer is at least half
    that interlayer gap away from the cell boundary where the surface is cut; in particular no atomic
    layer lies on the cut.  Hypotheses: the layer coordinates are strictly ascending and span at most one
    period. -/
theorem shift_between_planes (coords : List K) (W tol f l : K) (hs : coords.Pairwise (· < ·))
    (hf : coords.head? = some f) (hl : coords.getLast? = some l) (hW : l ≤ f + W) (hW0 : 0 < W)
    (htol : 0 ≤ tol) :
    ∀ s ∈ shifts coords W tol, ∃ p q : K, (p, q) ∈ consec (withReplica coords W tol) ∧ p < q ∧
      (∃ j : ℤ, s = (j : K) * W - (p + q) / 2) ∧
      (∀ x ∈ coords, ∀ m : ℤ, x + s + (m : K) * W ≤ -((q - p) / 2) ∨ (q - p) / 2 ≤ x + s + (m : K) * W) ∧
      (∀ x ∈ coords, ∀ m : ℤ, x + s + (m : K) * W ≠ 0) := by
  intro s hsm
  obtain ⟨p, q, hpq, c1, j, rfl, himg⟩ := shifts_spec coords W tol f l hs hf hl hW hW0 htol s hsm
  -- the image `m` after the shift is the image `m + j` before it, moved down by the midpoint
  have hdist : ∀ x ∈ coords, ∀ m : ℤ, x + ((j : K) * W - (p + q) / 2) + (m : K) * W ≤ -((q - p) / 2) ∨
      (q - p) / 2 ≤ x + ((j : K) * W - (p + q) / 2) + (m : K) * W := by
    intro x hx m
    have e : x + ((j : K) * W - (p + q) / 2) + (m : K) * W = (x + ((m + j : ℤ) : K) * W) - (p + q) / 2 := by
      push_cast; ring
    rw [e]
    rcases himg x (mem_withReplica_of_mem hx) (m + j) with h | h
    · left; linarith only [h]
    · right; linarith only [h]
  refine ⟨p, q, hpq, c1, ⟨j, rfl⟩, hdist, fun x hx m h0 => ?_⟩
  have hgap : 0 < (q - p) / 2 := by linarith only [c1]
  rcases hdist x hx m with h | h <;> rw [h0] at h <;> linarith only [h, hgap]

theorem relShift_mem_cell (W m : K) (h1 : -W ≤ m) (h2 : m ≤ 2 * W) : 0 ≤ relShift W m ∧ relShift W m ≤ W := by
  unfold relShift
  simp only
  split_ifs <;> constructor <;> linarith

/-- atoms inside the cell (`0 ≤ x`, `x ≤ W`): every offered shift lies in `[0, W]`. -/
theorem shifts_in_cell (coords : List K) (W tol f l : K) (hs : coords.Pairwise (· < ·))
    (hf : coords.head? = some f) (hl : coords.getLast? = some l) (hW : l ≤ f + W) (hW0 : 0 < W)
    (htol : 0 ≤ tol) (h0 : 0 ≤ f) (h1 : l ≤ W) :
    ∀ s ∈ shifts coords W tol, 0 ≤ s ∧ s ≤ W := by
  intro s hsm
  obtain ⟨p, q, hpq, rfl⟩ := mem_shifts hsm
  obtain ⟨g1, g2, g3, g4⟩ := withReplica_spec coords W tol f l hs hf hl hW htol
  obtain ⟨c1, c2, c3, c4⟩ := consec_spec _ g1 p q hpq
  have hfl : f ≤ l := (g4 f (List.mem_of_head? hf)).2
  have hp := g3 p c2
  have hq := g3 q c3
  exact relShift_mem_cell W _ (by linarith only [hp.1, hq.1, h0, hW0]) (by linarith only [hp.2, hq.2, hfl, h1])

theorem shifts_length (coords : List K) (W tol : K) :
    (shifts coords W tol).length = (withReplica coords W tol).length - 1 := by
  rw [(shifts_perm coords W tol).length_eq]
  simp [rawShifts, consec, List.length_zip, List.length_tail]

end shifts

section onelayer
variable {K : Type} [Field K] [LinearOrder K] [IsStrictOrderedRing K]

set_option linter.unusedVariables false in
/-- a rotated cell whose atoms all share one layer, at any height `x`: exactly one shift is offered, the one
    computed from `x` and its periodic replica `x + W`.  (`htol` is not needed: only `tol < W` is used.) -/
theorem shifts_single_layer (x W tol : K) (htol : 0 ≤ tol) (hW : tol < W) :
    shifts [x] W tol = [relShift W (x + W / 2)] := by
  have hrep : withReplica [x] W tol = [x, x + W] := by
    -- `last - first - W = -W` is not within `tol` of zero
    have hn : absLe (x - x - W) tol = false := by
      rw [Bool.eq_false_iff, ne_eq, absLe_iff]
      intro h; linarith only [h.1, hW]
    simp only [withReplica, List.head?_cons, List.getLast?_singleton, hn]
    rfl
  unfold shifts rawShifts
  rw [hrep]
  have hmid : mid (x, x + W) = x + W / 2 := by
    simp only [mid]; push_cast; ring
  simp [consec, sortAsc, insertAsc, hmid]

/-- that shift puts the lone layer exactly half a cell width from the cut (modulo the cell width): the cut is
    strictly between the layer and its periodic image, midway, wherever the atom sits in the cell. -/
theorem single_layer_centered (x W : K) :
    ∃ m : ℤ, x + relShift W (x + W / 2) = W / 2 + (m : K) * W := by
  unfold relShift
  simp only
  split_ifs
  · exact ⟨-1, by push_cast; ring⟩
  · exact ⟨1, by push_cast; ring⟩
  · exact ⟨0, by push_cast; ring⟩

example : shifts [(3 : ℚ) / 4] 3 (1 / 100000000) = [3 / 4] := by
  rw [shifts_single_layer _ _ _ (by norm_num) (by norm_num)]
  simp [relShift]; norm_num

end onelayer

end Atomman.C14
