/-
  C20 — source tie: every definition of `Atomman/Generated/PathSource.lean` (regenerated from
  atomman/mep/BasePath.py, ISMPath.py, __init__.py on every run) has a named obligation that ties it to the hand model of
  `Atomman/C20.lean`: equality with the model's definition (`genArccoord` for a string with at least one image, `genLoop` for
  a body that is step, measure and test), and for the `climbindex` expression inside `genRelax` equality with `climbIndices`.
  A source edit that changes behaviour breaks one of them.
-/
import Atomman.C20
import Atomman.Generated.PathSource
import Proofs.C20_Construct
-- no lemma of `C20_Loops` is used here: both modules use functional induction on `localMaxima`, whose auxiliary
-- declarations are made where it is first used, and two modules that both make them cannot be imported together
import Proofs.C20_Loops
import Mathlib.Algebra.Order.Field.Basic
import Mathlib.Algebra.Module.Defs

namespace Atomman.C20
open Atomman.C20.Src
set_option linter.unusedSimpArgs false
set_option linter.unusedSectionVars false

theorem gen_resolveGradientfxn_eq_model (a : FxnArg) : genResolveGradientfxn a = resolveGradientfxn a :=
  match a with
  | .name s => (resolveGradientfxn_name s).symm
  | .callable => rfl
  | .other => rfl

theorem gen_resolveIntegratorfxn_eq_model (a : FxnArg) : genResolveIntegratorfxn a = resolveIntegratorfxn a :=
  match a with
  | .name s => (resolveIntegratorfxn_name s).symm
  | .callable => rfl
  | .other => rfl

theorem gen_sigInit_eq_model : genSigInit = sigInit := rfl
theorem gen_sigCreatePath_eq_model : genSigCreatePath = sigCreatePath := rfl
theorem gen_sigStep_eq_model : genSigStep = sigStep := rfl
theorem gen_sigRelax_eq_model : genSigRelax = sigRelax := rfl
theorem gen_initOrder_eq_model : genInitOrder = initOrder := rfl
theorem gen_defaults_eq_model :
    genDefaultGradientfxn = defaultGradientfxn ∧ genDefaultIntegratorfxn = defaultIntegratorfxn
    ∧ genDefaultGradientkwargs = defaultGradientkwargs ∧ genDefaultStyle = defaultStyle
    ∧ genCreateGradientfxnDefault = defaultGradientfxn ∧ genCreateIntegratorfxnDefault = defaultIntegratorfxn
    ∧ genCreateGradientkwargsDefault = defaultGradientkwargs := ⟨rfl, rfl, rfl, rfl, rfl, rfl, rfl⟩
theorem gen_stepCarried_eq_model : genStepCarried = carriedFields := rfl
theorem gen_interpCarried_eq_model : genInterpCarried = carriedFields := rfl
theorem gen_stepSegmentPins_eq_model : genStepSegmentPins = stepSegmentPins := rfl

theorem gen_initPath_eq_model (a : CtorArgs) : genInitPath a = initPath a := by
  simp only [genInitPath, initPath, gen_resolveGradientfxn_eq_model, gen_resolveIntegratorfxn_eq_model,
    gen_defaults_eq_model.1, gen_defaults_eq_model.2.1, gen_defaults_eq_model.2.2.1]
  rfl

theorem gen_createPath_eq_model (a : CtorArgs) : genCreatePath a = createPath a := by
  -- `contains` on the list of styles is the disjunction the source writes
  simp only [genCreatePath, createPath, gen_initPath_eq_model, gen_defaults_eq_model.2.2.2.1, styleNames,
    List.contains_cons, List.contains_nil, Bool.or_false, Bool.or_eq_true, beq_iff_eq]

section defaults
variable {K : Type} [Field K] [LinearOrder K] [IsStrictOrderedRing K]

theorem gen_defaultTimestep_eq_model (n : Nat) : genDefaultTimestep (K := K) n = Path.defaultTimestep n := by
  simp only [genDefaultTimestep, Path.defaultTimestep]

theorem gen_defaultTolerance_eq_model (n : Nat) : genDefaultTolerance (K := K) n = Path.defaultTolerance n := by
  simp only [genDefaultTolerance, Path.defaultTolerance, Nat.cast_mul]

end defaults

section loops

theorem genLoop_eq_relaxLoop {P L : Type} [LT L] [DecidableLT L] (body : P → P × L × Bool) (step : P → P)
    (measure : P → P → L) (tol : L)
    (hb : ∀ p, body p = (step p, measure p (step p), decide (measure p (step p) < tol))) (n : Nat) (p : P) :
    genLoop body n p = relaxLoop step measure tol n p := by
  induction n generalizing p with
  | zero => rfl
  | succ n ih => simp only [genLoop, relaxLoop, hb, ih, decide_eq_true_eq]

variable {K V : Type} [Field K] [LinearOrder K] [IsStrictOrderedRing K] [AddCommGroup V] [Module K V]
variable (dot : V → V → K) (sqrt : K → K)

/-- the measure as the source writes it (`norm(new - old, axis=-1).max() / timestep`) is the model's `displacement`. -/
theorem gen_measure_eq_model (h : K) (old new : List V) :
    Np.maxOf (Np.rowNorms dot sqrt (Np.ew (fun a b => a - b) new old)) / h = Path.displacement dot sqrt h old new := by
  simp only [Np.maxOf, Np.rowNorms, Np.ew, Path.displacement, List.map_zipWith]
  rw [List.zipWith_comm]

theorem gen_loopBody2_eq_model (respace : List Nat → List V → List V) (h tol : K) (climb : List Nat) (p : Path V K) :
    genLoopBody2 dot sqrt respace h tol climb p
      = (p.stringStep dot sqrt respace h climb, Path.measure dot sqrt h p (p.stringStep dot sqrt respace h climb),
         decide (Path.measure dot sqrt h p (p.stringStep dot sqrt respace h climb) < tol)) := by
  simp only [genLoopBody2, Path.measure, gen_measure_eq_model]
  rfl

/-- the first loop of `relax` has the body of the second one with no climbing image. -/
theorem gen_loopBody1_eq_model (respace : List Nat → List V → List V) (h tol : K) (p : Path V K) :
    genLoopBody1 dot sqrt respace h tol p
      = (p.stringStep dot sqrt respace h [], Path.measure dot sqrt h p (p.stringStep dot sqrt respace h []),
         decide (Path.measure dot sqrt h p (p.stringStep dot sqrt respace h []) < tol)) :=
  gen_loopBody2_eq_model dot sqrt respace h tol [] p

end loops

/-! the source expressions `maxmap`, `np.arange(len(maxmap))[maxmap]`, `[:climbpoints]` against `climbIndices` -/
section maxmap
variable {L : Type} [LT L] [DecidableLT L]

/-- the flags of the interior images, one per consecutive triple. -/
def mask3 : List L → List Bool
  | a :: b :: c :: t => decide (a < b ∧ ¬ b < c) :: mask3 (b :: c :: t)
  | _ => []

/-- the interior part of `maxmap` as the source writes it. -/
def innerMask (E : List L) : List Bool :=
  Np.ew and (Np.ew (fun a b => decide (b < a)) (List.drop 1 (List.dropLast E)) (List.dropLast (List.dropLast E)))
    (Np.ew (fun a b => decide (¬ a < b)) (List.drop 1 (List.dropLast E)) (List.drop 2 E))

theorem innerMask_eq_mask3 : ∀ E : List L, innerMask E = mask3 E
  | [] => rfl
  | [_] => rfl
  | [_, _] => rfl
  | a :: b :: c :: t => by
    have ih := innerMask_eq_mask3 (b :: c :: t)
    simp only [innerMask, Np.ew, mask3, List.dropLast_cons_cons, List.drop_succ_cons, List.drop_zero,
      List.zipWith_cons_cons, Bool.decide_and] at ih ⊢
    rw [ih]

theorem whereTrue_cons (b : Bool) (m : List Bool) :
    Np.whereTrue (b :: m) = (if b then [0] else []) ++ (Np.whereTrue m).map (· + 1) := by
  simp only [Np.whereTrue, List.length_cons, List.range_succ_eq_map, List.filter_cons, List.getD_cons_zero,
    List.filter_map]
  have : ((fun i => (b :: m).getD i false) ∘ Nat.succ) = fun i => m.getD i false := by
    funext i; simp
  rw [this]
  cases b <;> simp

theorem whereTrue_append_false (m : List Bool) : Np.whereTrue (m ++ [false]) = Np.whereTrue m := by
  induction m with
  | nil => rfl
  | cons b m ih => rw [List.cons_append, whereTrue_cons, whereTrue_cons, ih]

theorem localMaxima_eq_whereTrue (k : Nat) (E : List L) :
    localMaxima k E = (Np.whereTrue (mask3 E)).map (· + (k + 1)) := by
  fun_induction localMaxima k E with
  | case1 k a b c t hc ih =>
    rw [ih, mask3, decide_eq_true hc, whereTrue_cons, if_pos rfl, List.map_append, List.map_map]
    simp only [List.map_cons, List.map_nil, Nat.zero_add, List.singleton_append, Function.comp_def, Nat.add_assoc,
      Nat.add_comm 1]
  | case2 k a b c t hc ih =>
    rw [ih, mask3, decide_eq_false hc, whereTrue_cons, if_neg Bool.false_ne_true, List.nil_append, List.map_map]
    simp only [Function.comp_def, Nat.add_assoc, Nat.add_comm 1]
  | case3 E k hne =>
    match E, hne with
    | [], _ => rfl
    | [_], _ => rfl
    | [_, _], _ => rfl
    | a :: b :: c :: t, hne => exact (hne a b c t rfl).elim

theorem countTrue_eq_length (m : List Bool) : Np.countTrue m = (Np.whereTrue m).length := by
  induction m with
  | nil => rfl
  | cons b m ih =>
    rw [whereTrue_cons]
    simp only [Np.countTrue] at ih ⊢
    cases b <;> simp [List.count_cons, ih]

/-- the left side is, once `innerMask` is unfolded (as `gen_relax_eq_model` does), the expression `relax` computes
    `climbindex` with. -/
theorem gen_climbindex_eq_model (cp : Nat) (E : List L) :
    (if cp < Np.countTrue ([false] ++ innerMask E ++ [false])
      then List.take cp (Np.whereTrue ([false] ++ innerMask E ++ [false]))
      else Np.whereTrue ([false] ++ innerMask E ++ [false])) = climbIndices cp E := by
  have hw : Np.whereTrue ([false] ++ innerMask E ++ [false]) = localMaxima 0 E := by
    rw [whereTrue_append_false, List.singleton_append, whereTrue_cons, innerMask_eq_mask3, localMaxima_eq_whereTrue]
    simp
  rw [countTrue_eq_length, hw, climbIndices]
  split
  · rfl
  · rw [List.take_of_length_le (by omega)]

end maxmap

section tangent
variable {K V : Type} [Field K] [LinearOrder K] [IsStrictOrderedRing K] [AddCommGroup V] [Module K V]
variable (dot : V → V → K) (sqrt : K → K)

theorem diffs_eq_slices : ∀ c : List V, Path.diffs c = List.zipWith (fun a b => a - b) (c.drop 1) c.dropLast
  | [] => rfl
  | [_] => rfl
  | a :: b :: t => by
    have ih := diffs_eq_slices (b :: t)
    simp only [Path.diffs, List.drop_succ_cons, List.drop_zero, List.dropLast_cons_cons, List.zipWith_cons_cons] at ih ⊢
    rw [ih]

theorem tangentGo_eq_slices (prev : V) (us : List V) :
    Path.tangentGo prev us = List.zipWith (fun a b => a + b) (prev :: us).dropLast us ++ ((prev :: us).getLast?).toList := by
  induction us generalizing prev with
  | nil => rfl
  | cons u t ih =>
    simp only [Path.tangentGo, ih, List.dropLast_cons_cons, List.zipWith_cons_cons, List.getLast?_cons_cons, List.cons_append]

theorem rawTangent_eq_slices (u : List V) :
    Path.rawTangent u = u.head?.toList ++ List.zipWith (fun a b => a + b) u.dropLast (u.drop 1) ++ u.getLast?.toList := by
  cases u with
  | nil => rfl
  | cons u0 us =>
    simp only [Path.rawTangent, tangentGo_eq_slices, List.head?_cons, Option.toList_some, List.drop_succ_cons,
      List.drop_zero, List.singleton_append, List.cons_append, List.nil_append]

theorem gen_unitTangent_eq_model (p : Path V K) : genUnitTangent dot sqrt p = p.unitTangent dot sqrt := by
  simp only [genUnitTangent, Path.unitTangent, Path.unitTangentOf, Np.ew, Np.rowUnit, rawTangent_eq_slices,
    diffs_eq_slices]

end tangent

section reads
variable {K V : Type} [Field K] [LinearOrder K] [IsStrictOrderedRing K] [AddCommGroup V] [Module K V]
variable (dot : V → V → K) (sqrt : K → K)

theorem gen_energy_eq_model (p : Path V K) (c : List V) :
    genEnergy p none = p.energy ∧ genEnergy p (some c) = p.energyAt c := ⟨rfl, rfl⟩

theorem gen_gradEnergy_eq_model (p : Path V K) (c : List V) :
    genGradEnergy p none = p.gradEnergy ∧ genGradEnergy p (some c) = p.gradAt c := ⟨rfl, rfl⟩

theorem gen_force_eq_model (p : Path V K) : genForce dot sqrt p = p.force dot sqrt := by
  simp only [genForce, Path.force, Np.ew, gen_unitTangent_eq_model, (gen_gradEnergy_eq_model p []).1]

theorem gen_interpRefuses_eq_model (α t : List K) : genInterpRefuses α t = interpRefuses α t := rfl

theorem cumsum_eq_prefix_sums (acc : K) (l : List K) :
    Path.cumsum acc l = (List.range (l.length + 1)).map (fun i => acc + (List.take i l).sum) := by
  induction l generalizing acc with
  | nil => simp [Path.cumsum]
  | cons x t ih =>
    rw [Path.cumsum, ih, List.length_cons, List.range_succ_eq_map (n := t.length + 1), List.map_cons, List.map_map]
    simp only [List.take_zero, List.sum_nil, add_zero, List.cons.injEq, true_and]
    apply List.map_congr_left
    intro i _
    simp only [Function.comp, List.take_succ_cons, List.sum_cons, add_assoc]

theorem sumOf_eq_sum (l : List K) : Np.sumOf l = l.sum := by
  simp only [Np.sumOf, Nat.cast_zero]
  rw [List.sum_eq_foldl]

theorem gen_arccoord_eq_model (p : Path V K) (hc : p.coord ≠ []) : genArccoord dot sqrt p = p.arccoord dot sqrt := by
  have hd : (Path.diffs p.coord).length + 1 = p.coord.length := by
    rw [diffs_eq_slices, List.length_zipWith, List.length_drop, List.length_dropLast, Nat.min_self]
    exact Nat.sub_add_cancel (List.length_pos_iff.mpr hc)
  have h1 : (List.replicate p.coord.length (0 : K)).take 1 = [0] := by
    rw [← hd, List.replicate_succ, List.take_succ_cons, List.take_zero]
  simp only [genArccoord, Path.arccoord, Path.arccoordOf, Np.rowNorms, Np.ew, ← diffs_eq_slices, h1, sumOf_eq_sum,
    cumsum_eq_prefix_sums, List.length_map, hd, Nat.cast_zero, zero_add, List.singleton_append, List.take_succ_cons,
    List.sum_cons]

end reads

section relax
variable {K V : Type} [Field K] [LinearOrder K] [IsStrictOrderedRing K] [AddCommGroup V] [Module K V]
variable (dot : V → V → K) (sqrt : K → K)

theorem gen_relax_eq_model (p : Path V K) (respace : List Nat → List V → List V) (a : RelaxArgs K) :
    genRelax p dot sqrt respace a.relaxsteps a.climbsteps a.timestep a.tolerance a.climbpoints
      = p.relax dot sqrt respace a := by
  simp only [genRelax, Path.relax, gen_defaultTimestep_eq_model, gen_defaultTolerance_eq_model]
  have h1 := fun h tol => genLoop_eq_relaxLoop _ _ _ tol (gen_loopBody1_eq_model dot sqrt respace h tol)
  have h2 := fun h tol climb => genLoop_eq_relaxLoop _ _ _ tol (gen_loopBody2_eq_model dot sqrt respace h tol climb)
  simp only [h1, h2]
  have hc := fun E : List K => gen_climbindex_eq_model a.climbpoints E
  unfold innerMask at hc
  rw [hc]

end relax

end Atomman.C20
