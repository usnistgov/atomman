/-
  C09 — source tie: the definitions of `Atomman/Generated/UnitconvertSource.lean` (regenerated from the current
  atomman/unitconvert.py with python's ast on every run) are proved equal to the hand model of `Atomman/C09.lean`;
  the two `while` loops of `uc.parse` as python writes them (list indexing and slicing, `pyPowLoop` / `pyMulDivLoop`)
  are proved to compute the single passes `powGo` / `mulDivPass` the precedence theorem is about.
-/
import Atomman.C09
import Atomman.Generated.UnitconvertSource

namespace Atomman.C09
open Atomman.Gen

section loops
variable {V : Type} (alg : Alg V)

def NoPow (l : List (Item V)) : Prop := ∀ x ∈ l, Item.isOp .pow x = false

/-- the pending base as `powGo` finally puts it out. -/
def emit : Option V → List (Item V)
  | none => []
  | some a => [.val a]

theorem noPow_cons {x : Item V} {l : List (Item V)} : NoPow (x :: l) ↔ Item.isOp .pow x = false ∧ NoPow l :=
  List.forall_mem_cons

theorem split_first_pow : ∀ l : List (Item V), NoPow l ∨ (∃ post, l = .op .pow :: post) ∨
    ∃ pre x post, l = pre ++ x :: .op .pow :: post ∧ NoPow pre ∧ Item.isOp .pow x = false := by
  intro l
  induction l with
  | nil => left; simp [NoPow]
  | cons x xs ih =>
    by_cases hx : Item.isOp .pow x = true
    · right; left
      cases x with
      | val v => simp [Item.isOp] at hx
      | op o => simp [Item.isOp] at hx; exact ⟨xs, by rw [hx]⟩
    · have hx' : Item.isOp .pow x = false := by simpa using hx
      rcases ih with h | ⟨post, rfl⟩ | ⟨pre, y, post, rfl, hp, hy⟩
      · left; exact noPow_cons.mpr ⟨hx', h⟩
      · right; right; exact ⟨[], x, post, rfl, nofun, hx'⟩
      · right; right; exact ⟨x :: pre, y, post, rfl, noPow_cons.mpr ⟨hx', hp⟩, hy⟩

theorem pyIndex_noPow : ∀ l : List (Item V), NoPow l → pyIndex .pow l = none := by
  intro l h
  induction l with
  | nil => rfl
  | cons x xs ih =>
    have := noPow_cons.mp h
    simp [pyIndex, this.1, ih this.2]

theorem pyIndex_split (pre : List (Item V)) (x : Item V) (post : List (Item V)) (h : NoPow pre)
    (hx : Item.isOp .pow x = false) : pyIndex .pow (pre ++ x :: .op .pow :: post) = some (pre.length + 1) := by
  induction pre with
  | nil => simp [pyIndex, hx]; rfl
  | cons y ys ih =>
    have := noPow_cons.mp h
    simp [pyIndex, this.1, ih this.2]

/-- what a `^`-free item leaves pending as the possible base of a `^`, and what it puts out at once. -/
def pending : Item V → Option V
  | .val a => some a
  | .op _ => none

def output : Item V → List (Item V)
  | .val _ => []
  | .op o => [.op o]

/-- `powGo` walks through a `^`-free stretch and one more `^`-free item: everything before that item is put out. -/
theorem powGo_pre (pre : List (Item V)) (acc : Option V) (x : Item V) (tail : List (Item V)) (h : NoPow pre)
    (hx : Item.isOp .pow x = false) :
    powGo alg acc (pre ++ x :: tail)
      = (powGo alg (pending x) tail).map (fun r => emit acc ++ pre ++ output x ++ r) := by
  induction pre generalizing acc with
  | nil =>
    cases x with
    | val a => cases acc <;> simp [powGo, emit, pending, output]
    | op o =>
      cases o with
      | pow => simp [Item.isOp] at hx
      | mul | div => cases acc <;> simp [powGo, emit, pending, output]
  | cons y ys ih =>
    have hh := noPow_cons.mp h
    cases y with
    | val b => cases acc <;> simp [powGo, emit, ih _ hh.2, Option.map_map, Function.comp_def]
    | op o =>
      cases o with
      | pow => simp [Item.isOp] at hh
      | mul | div => cases acc <;> simp [powGo, emit, ih _ hh.2, Option.map_map, Function.comp_def]

theorem powGo_pre_val : ∀ (pre : List (Item V)) (acc : Option V) (a : V) (tail : List (Item V)), NoPow pre →
    powGo alg acc (pre ++ .val a :: tail) = (powGo alg (some a) tail).map (fun r => emit acc ++ pre ++ r) := by
  intro pre acc a tail h
  simpa [pending, output] using powGo_pre alg pre acc (.val a) tail h rfl

theorem powGo_pre_op : ∀ (pre : List (Item V)) (acc : Option V) (o : Op) (tail : List (Item V)), NoPow pre → o ≠ .pow →
    powGo alg acc (pre ++ .op o :: tail) = (powGo alg none tail).map (fun r => emit acc ++ pre ++ .op o :: r) := by
  intro pre acc o tail h ho
  simpa [pending, output] using powGo_pre alg pre acc (.op o) tail h (by simpa [Item.isOp] using ho)

theorem powGo_noPow (l : List (Item V)) (acc : Option V) (h : NoPow l) : powGo alg acc l = some (emit acc ++ l) := by
  rcases List.eq_nil_or_concat l with rfl | ⟨pre, x, rfl⟩
  · cases acc <;> simp [powGo, emit]
  · rw [List.concat_eq_append] at h ⊢
    rw [powGo_pre alg pre acc x [] (fun y hy => h y (by simp [hy])) (h x (by simp))]
    cases x <;> simp [powGo, pending, output, emit]

theorem get_at {α : Type} (pre : List α) (x y z : α) (rest : List α) :
    (pre ++ x :: y :: z :: rest)[pre.length + 1 + 1]? = some z := by
  induction pre with
  | nil => simp
  | cons p ps ih => simp

theorem get_at_end {α : Type} (pre : List α) (x y : α) :
    (pre ++ [x, y])[pre.length + 1 + 1]? = none := by
  simp

theorem drop_at {α : Type} (pre : List α) (x y z : α) (rest : List α) :
    List.drop (pre.length + 1 + 2) (pre ++ x :: y :: z :: rest) = rest := by
  induction pre with
  | nil => simp
  | cons p ps ih => simp

def cntPow (l : List (Item V)) : Nat := l.countP (Item.isOp .pow)

theorem cntPow_noPow {l : List (Item V)} (h : NoPow l) : cntPow l = 0 := by
  simp [cntPow, List.countP_eq_zero]; intro x hx; simp [h x hx]

theorem pyPowLoop_eq_aux : ∀ (f : Nat) (terms : List (Item V)), cntPow terms < f →
    pyPowLoop alg .pow .pow 1 1 1 2 f terms = powGo alg none terms := by
  intro f
  induction f with
  | zero => intro terms h; omega
  | succ f ih =>
    intro terms hc
    rcases split_first_pow terms with h | ⟨post, rfl⟩ | ⟨pre, x, post, rfl, hp, hx⟩
    · simp [pyPowLoop, pyPowStep, pyIndex_noPow _ h, powGo_noPow alg _ _ h, emit]
    · simp [pyPowLoop, pyPowStep, pyIndex, Item.isOp, powGo]
    · have hidx := pyIndex_split pre x post hp hx
      cases x with
      | op o =>
        have ho : o ≠ .pow := by intro h; simp [Item.isOp, h] at hx
        rw [powGo_pre_op alg pre none o _ hp ho]
        simp [pyPowLoop, pyPowStep, hidx, powGo]
      | val a =>
        rw [powGo_pre_val alg pre none a _ hp]
        cases post with
        | nil => simp [pyPowLoop, pyPowStep, hidx, powGo]
        | cons y rest =>
          cases y with
          | op o2 => simp [pyPowLoop, pyPowStep, hidx, powGo, get_at]
          | val b =>
            cases hv : alg.pow a b with
            | none => simp [pyPowLoop, pyPowStep, hidx, powGo, Alg.apply, hv, get_at]
            | some v =>
              -- one turn of the python loop at the first `^` is the step `a ^ b` of `powGo`, which has walked the
              -- `^`-free `pre` unchanged (`powGo_pre_val`); the list it leaves has one `^` less
              have hcnt : cntPow (pre ++ Item.val v :: rest) < f := by
                simp [cntPow, List.countP_append, Item.isOp] at hc ⊢; omega
              have hstep : pyPowStep alg .pow .pow 1 1 1 2 (pre ++ Item.val a :: Item.op Op.pow :: Item.val b :: rest)
                  = some (some (pre ++ Item.val v :: rest)) := by
                simp [pyPowStep, hidx, Alg.apply, hv, get_at, drop_at]
              simp only [pyPowLoop, hstep]
              rw [ih _ hcnt, powGo_pre_val alg pre none v _ hp]
              simp [powGo, hv, emit]

theorem pyMulDiv_eq_aux : ∀ (f : Nat) (terms : List (Item V)), terms.length < f →
    pyMulDivLoop alg [(.mul, .mul), (.div, .div)] 1 0 2 3 f terms = mulDivPass alg terms := by
  intro f
  induction f with
  | zero => intro terms h; omega
  | succ f ih =>
    intro terms h
    match terms with
    | [] => simp [pyMulDivLoop, mulDivPass]
    | [.val v] => simp [pyMulDivLoop, mulDivPass, mulDiv]
    | [.op o] => simp [pyMulDivLoop, mulDivPass]
    | x :: .val y :: rest => cases x <;> simp [pyMulDivLoop, mulDivPass, mulDiv]
    | x :: .op o :: [] => cases x <;> cases o <;> simp [pyMulDivLoop, mulDivPass, mulDiv]
    | x :: .op o :: .op o2 :: rest => cases x <;> cases o <;> simp [pyMulDivLoop, mulDivPass, mulDiv]
    | .op o1 :: .op o :: .val b :: rest => cases o <;> simp [pyMulDivLoop, mulDivPass]
    | .val a :: .op o :: .val b :: rest =>
      cases o with
      | pow => simp [pyMulDivLoop, mulDivPass, mulDiv]
      | mul | div =>
        simp [pyMulDivLoop, mulDivPass, mulDiv, Alg.apply]
        refine Option.bind_congr fun v _ => ?_
        rw [ih _ (by simp at h ⊢; omega)]; rfl

/-- **the power loop of the source is `powGo`**, given `terms.length + 1` turns (`pyPowLoop_eq_aux`: one more than the number
    of `^` is enough). -/
theorem pyPowLoop_eq_powGo (terms : List (Item V)) :
    pyPowLoop alg .pow .pow 1 1 1 2 (terms.length + 1) terms = powGo alg none terms := by
  apply pyPowLoop_eq_aux
  have : cntPow terms ≤ terms.length := List.countP_le_length
  omega

/-- **the multiplication / division loop of the source is `mulDivPass`**. -/
theorem pyMulDivLoop_eq_mulDivPass (terms : List (Item V)) :
    pyMulDivLoop alg [(.mul, .mul), (.div, .div)] 1 0 2 3 (terms.length + 1) terms = mulDivPass alg terms :=
  pyMulDiv_eq_aux alg _ _ (by omega)

end loops

section gen
variable {V : Type}

theorem gen_isStopName_eq_model : UC.isStopName = isStop := by
  funext c; simp [UC.isStopName, isStop]

theorem gen_isStopNum_eq_model : UC.isStopNum = isStop := by
  funext c; simp [UC.isStopNum, isStop]

theorem gen_isWs_eq_model : UC.isWs = isWs := by
  funext c; simp [UC.isWs, isWs]

theorem gen_isNumStart_eq_model : UC.isNumStart = isNumStart := by
  funext c; simp [UC.isNumStart, isNumStart]

theorem gen_splitParen_eq_model : UC.splitParen = splitParen := by
  funext cs
  induction cs with
  | nil => funext k; simp [UC.splitParen, splitParen]
  | cons c cs ih =>
    funext k
    cases k <;> simp [UC.splitParen, splitParen, ih]

theorem gen_powLoop_eq_model (alg : Alg V) (terms : List (Item V)) :
    UC.powLoop alg (terms.length + 1) terms = powGo alg none terms :=
  pyPowLoop_eq_powGo alg terms

theorem gen_mulDivLoop_eq_model (alg : Alg V) (terms : List (Item V)) :
    UC.mulDivLoop alg (terms.length + 1) terms = mulDivPass alg terms :=
  pyMulDivLoop_eq_mulDivPass alg terms

theorem gen_reduce_eq_model (alg : Alg V) : UC.reduce alg = reduce alg := by
  funext its
  simp only [UC.reduce, reduce, gen_powLoop_eq_model, gen_mulDivLoop_eq_model]

theorem gen_scan_eq_model (alg : Alg V) (env : List Char → Option V) : UC.scan alg env = scan alg env := by
  funext f
  induction f with
  | zero => funext cs; cases cs <;> simp [UC.scan, scan]
  | succ f ih =>
    funext cs
    cases cs with
    | nil => simp [UC.scan, scan]
    | cons c cs =>
      simp only [UC.scan, scan, ih, gen_reduce_eq_model, gen_splitParen_eq_model, gen_isStopName_eq_model,
        gen_isStopNum_eq_model, gen_isWs_eq_model, gen_isNumStart_eq_model]
      simp only [ite_self]
      rfl

theorem gen_parse_eq_model (alg : Alg V) (env : List Char → Option V) : UC.parse alg env = parse alg env := by
  funext cs
  simp only [UC.parse, parse, gen_scan_eq_model, gen_reduce_eq_model]

theorem gen_parseUnits_eq_model (alg : Alg V) (env : List Char → Option V) :
    UC.parseUnits alg env = parseUnits alg env := by
  funext u
  cases u <;> simp [UC.parseUnits, parseUnits, UC.noneValue, UC.scaledWord, gen_parse_eq_model]

theorem gen_setInUnits_eq_model {K : Type} [Mul K] : @UC.setInUnits K _ = setInUnits := rfl
theorem gen_getInUnits_eq_model {K : Type} [Div K] : @UC.getInUnits K _ = getInUnits := rfl
theorem gen_splitPoints_eq_model : UC.splitPoints = splitPoints := rfl

theorem gen_setLiteralV_eq_model {K : Type} [Mul K] [Div K] [OfNat K 1] [IntCast K] [NatCast K]
    (alg : Alg K) (env : List Char → Option K) : UC.setLiteralV alg env = setLiteralV alg env := by
  funext term
  simp only [UC.setLiteralV, setLiteralV, gen_parseUnits_eq_model, gen_splitPoints_eq_model, UC.setInUnits,
    List.map_map, Function.comp_def]
  rfl

theorem gen_valueUnit_eq_model {K : Type} [Mul K] (alg : Alg K) (env : List Char → Option K) :
    UC.valueUnit alg env = valueUnit alg env := by
  funext t
  simp only [UC.valueUnit, valueUnit, gen_parseUnits_eq_model, gen_setInUnits_eq_model]
  rfl

theorem gen_ucModel_eq_model {K : Type} [Div K] [OfNat K 0] [DecidableEq K] (alg : Alg K) (env : List Char → Option K) :
    UC.ucModel alg env = ucModel alg env := by
  funext a units
  simp only [UC.ucModel, ucModel, gen_parseUnits_eq_model, gen_getInUnits_eq_model, UC.ndimScalar, UC.ndimList]
  congr 1
  funext vs
  rcases a with ⟨sh, vals⟩
  match sh with
  | [] => simp
  | [_] => simp
  | _ :: _ :: _ => simp

theorem gen_choiceOf_eq_model : UC.choiceOf = choiceOf := rfl
theorem gen_resetPath_eq_model : UC.resetPath = resetPath := rfl

theorem gen_radicand_eq_model {K : Type} [Mul K] [Div K] [OfNat K 0] [OfNat K 1] [DecidableEq K] :
    @UC.radicand K _ _ _ _ _ = radicand := rfl

theorem gen_resetScales_eq_model {K : Type} [Mul K] [Div K] [OfNat K 0] [OfNat K 1] [DecidableEq K] :
    @UC.resetScales K _ _ _ _ _ = resetScales := rfl

/-- signatures and defaults of the public functions the harness calls (positional order `value, units`;
    `model(value, units=None, error=None)`; `reset_units(seed=None, **kwargs)`), and the filter of `build_unit`. -/
theorem gen_signatures_pinned :
    UC.signatures =
      [("build_unit", []), ("reset_units", [("seed", "None"), ("**kwargs", "")]), ("set_literal", [("term", "")]),
       ("set_in_units", [("value", ""), ("units", "")]), ("get_in_units", [("value", ""), ("units", "")]),
       ("value_unit", [("term", "")]), ("error_unit", [("term", "")]),
       ("model", [("value", ""), ("units", "None"), ("error", "None")]), ("parse", [("units", "")])]
    ∧ UC.buildUnitFilter = ["key[:1] != '_'", "isinstance(value, float)"] := by
  constructor <;> rfl

end gen

end Atomman.C09
