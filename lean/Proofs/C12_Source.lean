/-
  The source tie.  `Generated/StrohSource.lean` is regenerated on every check by `translate()` (harness/props/c12.py) with `ast`
  from the CURRENT source of atomman/defect/{Stroh, VolterraDislocation, solve_volterra_dislocation,
  dislocation_system_transform, IsotropicVolterraDislocation}.py and of ElasticConstants.transform.  Each generated definition is
  proved equal to the hand model (`gen_…_eq_model`), so an edit of the source that changes one breaks a named obligation;
  statements that are not Lean definitions (calls into numpy / other properties' code, stores, clean-up masks) are held by
  normalised statement pins (`gen_…_pinned`: the generated text must equal the text written here).  One link is assembled
  by hand: `srcChecksOk` (the `allclose` shape around the generated `chk1..chk4`), used by `gen_checks_stored`.
-/
import Atomman.Generated.StrohSource
import Proofs.C12_Order
import Proofs.C12_Sums
import Mathlib.Tactic.Linarith

namespace Atomman.C12
open Atomman
set_option linter.unusedSectionVars false
set_option linter.unusedSimpArgs false

/-- the eigen-solver output as the three arrays `p`, `A`, `L` of the source. -/
def modeP {F : Type} (μ : Fin 6 → Mode F) : Fin 6 → F := fun a => (μ a).p
def modeA {F : Type} (μ : Fin 6 → Mode F) : Fin 6 → Vec F := fun a => (μ a).A
def modeL {F : Type} (μ : Fin 6 → Mode F) : Fin 6 → Vec F := fun a => (μ a).L

section field
variable {F : Type} [Field F]

/-- `mm, mn, nm, nn`: the einsum `'i,ijkl,l'` with the operands of the source is the model's `contract`. -/
theorem gen_contractions_eq_model (s : Setup F) :
    Gen.Stroh.mm s.m s.n s.C = s.mm ∧ Gen.Stroh.mn s.m s.n s.C = s.mn
      ∧ Gen.Stroh.nm s.m s.n s.C = s.nm ∧ Gen.Stroh.nn s.m s.n s.C = s.nn := ⟨rfl, rfl, rfl, rfl⟩

/-- the four quadrants of `N` as the source builds them. -/
theorem gen_quadrants_eq_model (s : Setup F) (nnInv : Mat F) :
    Gen.Stroh.NA s.m s.n s.C nnInv = NA s nnInv ∧ Gen.Stroh.NB s.m s.n s.C nnInv = NB nnInv
      ∧ Gen.Stroh.NC s.m s.n s.C nnInv = NC s nnInv ∧ Gen.Stroh.ND s.m s.n s.C nnInv = ND s nnInv :=
  ⟨rfl, rfl, rfl, rfl⟩

/-- the block layout of `N` and the split of an eigenvector into `A` (first three) and `L` (last three components):
    `N v - p v` of the source is the model's pair of residuals. -/
theorem gen_eigRes_eq_model (s : Setup F) (nnInv : Mat F) (μ : Mode F) :
    Gen.Stroh.eigResTop s.m s.n s.C nnInv μ.p μ.A μ.L = eigResTop s nnInv μ
      ∧ Gen.Stroh.eigResBot s.m s.n s.C nnInv μ.p μ.A μ.L = eigResBot s nnInv μ := ⟨rfl, rfl⟩

/-- `k = 1. / (2. * einsum('si,si->s', A, L))`. -/
theorem gen_kNorm_eq_model (μ : Fin 6 → Mode F) (a : Fin 6) :
    Gen.Stroh.kNorm (modeA μ) (modeL μ) a = kOf (μ a) := rfl

/-- the literal `updn` arrays of `K_tensor`, `displacement`, `strain`, `stress` are all the model's alternating sign. -/
theorem gen_updn_eq_model (a : Fin 6) :
    (Gen.Stroh.updn_K_tensor a : F) = updn a ∧ (Gen.Stroh.updn_displacement a : F) = updn a
      ∧ (Gen.Stroh.updn_strain a : F) = updn a ∧ (Gen.Stroh.updn_stress a : F) = updn a := by
  fin_cases a <;> exact ⟨rfl, rfl, rfl, rfl⟩

/-- left-hand sides of the four self-checks. -/
theorem gen_checks_eq_model (μ : Fin 6 → Mode F) (k sk : Fin 6 → F) :
    Gen.Stroh.chk1 k sk (modeA μ) (modeL μ) = chkAL μ k ∧ Gen.Stroh.chk2 k sk (modeA μ) (modeL μ) = chkAA μ k
      ∧ Gen.Stroh.chk3 k sk (modeA μ) (modeL μ) = chkLL μ k
      ∧ ∀ s t, Gen.Stroh.chk4 k sk (modeA μ) (modeL μ) s t = chkST μ sk s t := by
  refine ⟨rfl, rfl, rfl, fun s t => ?_⟩
  simp only [Gen.Stroh.chk4, chkST, dot, sum3, modeA, modeL]
  ring

/-- targets of the four self-checks, in source order: identity, zero, zero, 6x6 identity. -/
theorem gen_checkTargets_pinned :
    Gen.Stroh.checkTargets = [("chk1", "kron"), ("chk2", "zero"), ("chk3", "zero"), ("chk4", "kron6")] := rfl

theorem gen_eta_eq_model (s : Setup F) (μ : Fin 6 → Mode F) (x : Vec F) (a : Fin 6) :
    Gen.Stroh.eta s.m s.n (modeP μ) x a = eta s (μ a) x := rfl

theorem gen_kTensor_eq_model (I : F) (μ : Fin 6 → Mode F) (k : Fin 6 → F) :
    Gen.Stroh.kTensor I k (modeL μ) = kTensor I μ k := by
  funext i j
  simp only [Gen.Stroh.kTensor, kTensor, sum6, modeL, (gen_updn_eq_model _).1]

/-! the source multiplies the prefactor into the finished mode sum, the model into every mode's coefficient: after
    `mul_sum6` the two are compared mode by mode -/

/-- **`Stroh.displacement` as coded is the model's `dispAt`** (prefactor, `kLb`, operand order and index string of the
    einsum, the `updn` literal). -/
theorem gen_displacement_eq_model (pi I : F) (s : Setup F) (μ : Fin 6 → Mode F) (k : Fin 6 → F) (lnη : Fin 6 → F) :
    Gen.Stroh.displacement pi I s.m s.n s.b s.C (modeP μ) k (modeA μ) (modeL μ) lnη = dispAt pi I s μ k lnη := by
  funext i
  simp only [Gen.Stroh.displacement, dispAt, mul_sum6]
  congr 1; funext a
  simp only [dispCoef, kLb, dot, modeA, modeL, (gen_updn_eq_model _).2.1]
  ring

/-- **`Stroh.strain` as coded is the model's `strainAt`**. -/
theorem gen_strain_eq_model (pi I : F) (s : Setup F) (μ : Fin 6 → Mode F) (k : Fin 6 → F) (x : Vec F) :
    Gen.Stroh.strain pi I s.m s.n s.b s.C (modeP μ) k (modeA μ) (modeL μ) x = strainAt pi I s μ k x := by
  funext i j
  simp only [Gen.Stroh.strain, strainAt, mul_sum6]
  congr 1; funext a
  simp only [strainCoef, kLb, mpn, dot, modeA, modeL, modeP, (gen_updn_eq_model _).2.2.1, gen_eta_eq_model]
  ring

/-- **`Stroh.stress` as coded is the model's `stressAt`**. -/
theorem gen_stress_eq_model (pi I : F) (s : Setup F) (μ : Fin 6 → Mode F) (k : Fin 6 → F) (x : Vec F) :
    Gen.Stroh.stress pi I s.m s.n s.b s.C (modeP μ) k (modeA μ) (modeL μ) x = stressAt pi I s μ k x := by
  funext i j
  simp only [Gen.Stroh.stress, stressAt, mul_sum6]
  congr 1; funext a
  simp only [stressCoef, kLb, mpn, dot, modeA, modeL, modeP, (gen_updn_eq_model _).2.2.2, gen_eta_eq_model, sum3]
  ring

/-- `K_coeff`, `preln` of the base class. -/
theorem gen_Kcoeff_preln_eq_model (pi : F) (K : Mat F) (b : Vec F) :
    Gen.Stroh.Kcoeff K b = kCoeff K b ∧ Gen.Stroh.preln pi K b = preln pi K b := ⟨rfl, rfl⟩

/-- the two einsums of `ElasticConstants.transform` are the model's four-index rotation. -/
theorem gen_rotC_eq_model (T : Mat F) (C : Ten4 F) : Gen.Stroh.rotC T C = rotC T C := by
  funext i j k l
  simp only [Gen.Stroh.rotC, rotC, mul_sum3]
  congr 1; funext g; congr 1; funext h; congr 1; funext m; congr 1; funext n
  ring

/-- `__find_transform` and the stand-alone `dislocation_system_transform` build the same matrix: the model's
    `findTransform` of the normalised line direction. -/
theorem gen_findTransform_eq_model (m n nAxis ξ0 : Vec F) (nrm : F) :
    Gen.Stroh.findTransform m n nAxis ξ0 nrm = findTransform m n nAxis (fun i => ξ0 i / nrm)
      ∧ Gen.Stroh.dstTransform m n nAxis ξ0 nrm = findTransform m n nAxis (fun i => ξ0 i / nrm) := by
  constructor <;>
  · funext i c
    simp only [Gen.Stroh.findTransform, Gen.Stroh.dstTransform, findTransform, Gen.Stroh.rows3, sum3]
    simp

theorem gen_axisOfStr_eq_model (s : String) : (Gen.Stroh.axisOfStr s : Option (Vec F)) = axisOfStr s := by
  unfold Gen.Stroh.axisOfStr axisOfStr
  split_ifs <;> first | rfl | (congr 1; funext i; fin_cases i <;> rfl)

end field

/-- every layer (`__init__`, the three `solve` methods, `solve_volterra_dislocation`) has the model's signature:
    names, ORDER and defaults. -/
theorem gen_signatures_eq_model :
    Gen.Stroh.sigInit = solveSig ∧ Gen.Stroh.sigSolve = solveSig ∧ Gen.Stroh.sigStrohSolve = solveSig
      ∧ Gen.Stroh.sigIsoSolve = solveSig ∧ Gen.Stroh.sigDispatch = solveSig := ⟨rfl, rfl, rfl, rfl, rfl⟩

/-- every layer hands every argument on under its own name: nothing is dropped, swapped or replaced on the way from the
    entry point to `VolterraDislocation.solve` (through `Stroh` as well as through the isotropic fallback). -/
theorem gen_forwarding_eq_model :
    Gen.Stroh.initForward = forwardOf solveSig
      ∧ Gen.Stroh.dispatchFirstForward = forwardOf solveSig ∧ Gen.Stroh.dispatchSecondForward = forwardOf solveSig
      ∧ Gen.Stroh.strohSuper = ("self" :: (forwardOf solveSig).1, (forwardOf solveSig).2)
      ∧ Gen.Stroh.isoSuper = ("self" :: (forwardOf solveSig).1, (forwardOf solveSig).2) := by
  refine ⟨?_, ?_, ?_, ?_, ?_⟩ <;> decide

/-- the option handling of `VolterraDislocation.solve`, executed statement by statement, is the model's `routeOf`. -/
theorem gen_route_eq_model {M : Type} (ξ hkl : Bool) (t a : Option M) :
    Gen.Stroh.route ξ hkl t a = routeOf ξ hkl t a := by
  cases ξ <;> cases hkl <;> cases t <;> cases a <;> rfl

/-- `solve_volterra_dislocation` is `try: Stroh except ValueError: IsotropicVolterraDislocation`. -/
theorem gen_dispatch_eq_model (sOk isoN inPl : Bool) :
    Gen.Stroh.dispatch sOk (isoAccept isoN inPl) = dispatch sOk isoN inPl := by
  cases sOk <;> cases isoN <;> cases inPl <;> decide

/-- what the `except` clause catches is what both refusals of `Stroh.solve` (and of the isotropic solver) raise. -/
theorem gen_dispatch_catches :
    Gen.Stroh.dispatchCatches = "ValueError" ∧ (∀ e ∈ Gen.Stroh.strohRaises, e = Gen.Stroh.dispatchCatches)
      ∧ (∀ e ∈ Gen.Stroh.isoRaises, e = "ValueError") := by decide

/-- every array-valued getter of the base class hands out a copy. -/
theorem gen_getters_pinned :
    Gen.Stroh.getters = [("m", "return self.__m.copy()"), ("n", "return self.__n.copy()"), ("ξ", "return self.__ξ.copy()"),
      ("burgers", "return self.__burgers.copy()"), ("transform", "return self.__transform.copy()"),
      ("tol", "return self.__tol"), ("C", "return self.__C")] := rfl

/-- `ElasticConstants.transform(axes, tol=1e-08)`: the solver calls it WITHOUT its own `tol` (see `gen_pins_pinned`). -/
theorem gen_sigTransform_pinned : Gen.Stroh.sigTransform = [("axes", ""), ("tol", "1e-08")] := rfl

/-- statement pin of `IsotropicVolterraDislocation.theta`: `arctan(y / x)`, the two special cases on
    `x = 0`, `+π` for `x < 0`, then `-2π` where the value is `≥ π` — the hand model is `thetaOf` (`thetaOf_halfplanes`); an
    edit of a comparison or of the order of the four in-place updates changes this text. -/
theorem gen_theta_pinned : Gen.Stroh.thetaBody =
  ["pos = np.asarray(pos, dtype=float)",
   "x = pos.dot(self.m)",
   "y = pos.dot(self.n)",
   "with warnings.catch_warnings():\n    warnings.simplefilter('ignore')\n    theta = np.arctan(y / x)",
   "theta[(x == 0) & (y > 0)] = np.pi / 2",
   "theta[(x == 0) & (y < 0)] = -np.pi / 2",
   "theta[x < 0] += np.pi",
   "theta[theta >= np.pi] -= 2 * np.pi",
   "return theta"] := rfl

/-- statements outside the Lean definitions, in source order. -/
theorem gen_pins_pinned : Gen.Stroh.pins =
  ["Cmax = np.abs(self.C.Cijkl).max()",
   "Cijkl = self.C.Cijkl / Cmax",
   "eig = np.linalg.eig(N)",
   "p = eig[0]",
   "eigvec = np.transpose(eig[1])",
   "self.__p = p",
   "self.__A = A",
   "self.__L = L * Cmax",
   "self.__k = k / Cmax",
   "if self.K_tensor.dtype == 'complex128':\n    raise ValueError('Solution not real: check elastic constants')",
   "K_tensor: K = np.real_if_close(K, tol=self.tol)",
   "K_tensor: K[np.isclose(K / K.max(), 0.0, atol=self.tol)] = 0.0",
   "displacement: disp = real_if_close(disp, self.tol)",
   "strain: strain = real_if_close(strain, self.tol)",
   "stress: stress = real_if_close(stress, self.tol)",
   "burgers = np.asarray(burgers, dtype=float)",
   "if box is None:\n    box = Box()",
   "m, n = self.__mn_check(m, n, cart_axes, tol)",
   "burgers = miller.vector_crystal_to_cartesian(burgers, box)",
   "C = C.transform(transform)",
   "self.__C = C",
   "self.__m = m",
   "self.__n = n",
   "self.__ξ = np.cross(m, n)",
   "self.__burgers = burgers",
   "self.__tol = tol",
   "self.__transform = transform",
   "axis = np.array(axis, dtype=float)",
   "assert axis.shape == (3,)",
   "characterangle: return vect_angle(self.burgers, self.ξ, unit=unit)",
   "dst: assert m.shape == (3,)",
   "dst: assert np.isclose(np.linalg.norm(m), 1.0, atol=tol)",
   "dst: assert n.shape == (3,)",
   "dst: assert np.isclose(np.linalg.norm(n), 1.0, atol=tol)",
   "dst: assert np.isclose(np.dot(m, n), 0.0, atol=tol)",
   "if not C.is_normal('isotropic', atol=0.0, rtol=0.0001):\n    raise ValueError('C must be isotropic elastic constants')",
   "C = C.normalized_as('isotropic')",
   "axes = np.asarray(axes, dtype='float64')",
   "T = axes_check(axes)",
   "C[abs(C / C.max()) < tol] = 0.0",
   "return ElasticConstants(Cijkl=C)"] := rfl

section ordered
variable {K : Type} [Field K] [LinearOrder K] [IsStrictOrderedRing K]

/-- Burgers vector: crystal → Cartesian, rotation, relative clean-up. -/
theorem gen_orientB_eq_model (tol : K) (T vects : Mat K) (b : Vec K) :
    Gen.Stroh.orientB tol T vects b = orientB tol T vects b := rfl

/-- in-plane test of the isotropic solver. -/
theorem gen_isoInPlaneOk_eq_model (tol : K) (b n : Vec K) :
    Gen.Stroh.isoInPlaneOk tol b n = isoInPlaneOk tol b n := rfl

/-- **the model's square-root-free unit test is the coded one**: `isclose(norm(axis), 1, atol=tol, rtol=0)` with
    `norm(axis) = √(axis·axis)` holds exactly when `(1-tol)² ≤ axis·axis ≤ (1+tol)²` (for `0 ≤ tol ≤ 1`). -/
theorem gen_unitOk_eq_model (tol nrm : K) (a : Vec K) (h0 : 0 ≤ nrm) (hn : nrm * nrm = dot a a)
    (ht0 : 0 ≤ tol) (ht1 : tol ≤ 1) : Gen.Stroh.unitOk tol nrm = unitOk tol a := by
  simp only [Gen.Stroh.unitOk, unitOk, Nat.cast_zero, Nat.cast_one, closeTo_zero_rtol, ← hn]
  rw [Bool.eq_iff_iff]
  simp only [decide_eq_true_eq, Bool.and_eq_true]
  -- both sides of each bound are nonnegative, so squaring is an equivalence
  rw [← mul_self_le_mul_self_iff (sub_nonneg.2 ht1) h0, ← mul_self_le_mul_self_iff h0 (add_nonneg zero_le_one ht0)]
  constructor <;> rintro ⟨h1, h2⟩ <;> constructor <;> linarith

/-- Cartesian alignment (`cart_axes=True`). -/
theorem gen_cartOk_eq_model (tol : K) (a : Vec K) : Gen.Stroh.cartOk tol a = cartAligned tol a := by
  simp only [Gen.Stroh.cartOk, cartAligned, Gen.Stroh.count3, Nat.cast_zero, Nat.cast_one, closeTo_zero_rtol]

/-- perpendicularity of `m` and `n`. -/
theorem gen_perpOk_eq_model (tol : K) (m n : Vec K) :
    Gen.Stroh.perpOk tol m n = (decide (-tol ≤ dot m n) && decide (dot m n ≤ tol)) := by
  simp only [Gen.Stroh.perpOk, Nat.cast_zero, closeTo_zero_rtol, sub_zero, dot]
  rfl

/-- what `Stroh.solve` asserts — on the eigen-solution of the problem for `C / max|C|`, BEFORE it gives `L` and `k` their
    units back: the generated left-hand sides against the pinned targets, `np.allclose(…, atol=tol)`.  Assembled by hand
    from the generated `chk1..chk4` and the targets pinned by `gen_checkTargets_pinned`; the `allclose` shape itself is
    not regenerated. -/
def srcChecksOk (tol rtol : K) (k sk : Fin 6 → Cx K) (A L : Fin 6 → Vec (Cx K)) : Bool :=
  (all3 fun i => all3 fun j => closeToReal tol rtol (Gen.Stroh.chk1 k sk A L i j) (kron i j))
  && (all3 fun i => all3 fun j => closeToReal tol rtol (Gen.Stroh.chk2 k sk A L i j) 0)
  && (all3 fun i => all3 fun j => closeToReal tol rtol (Gen.Stroh.chk3 k sk A L i j) 0)
  && (all6 fun s => all6 fun t => closeToReal tol rtol (Gen.Stroh.chk4 k sk A L s t) (kron6 s t))

end ordered

end Atomman.C12
