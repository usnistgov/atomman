/-
  C16 — plane normals: for every cell the un-normalised normal the code computes is a positive multiple of
  `(h,k,l)·cof V` (`normal_along_cof`); with `det V ≠ 0` that is the reciprocal-lattice direction, from which the zone
  law, unit length and handedness follow; cells moved by an orthogonal matrix or written in another length unit; the
  assumed norm `IsNormAt`; arrays of planes (`planeRow`, `planeArr`: over ℚ, as the model has them).  Rests on `C16_Vec` and
  `C16_Index`; does not import the regenerated source tie.
-/
import Atomman.C16
import Proofs.C16_Vec
import Proofs.C16_Index
import Proofs.Lists
import Mathlib.Tactic.Positivity

namespace Atomman.C16

section field
variable {K : Type} [Field K]

/-- cross products of lattice vectors are reciprocal-lattice vectors (times `det V`). -/
theorem cross_of_lattice_vectors (V : M3 K) (p q : V3 K) :
    V3.cross (M3.vecMul p V) (M3.vecMul q V) = M3.vecMul (V3.cross p q) (cof V)
    ∧ (M3.det V ≠ 0 → V3.cross (M3.vecMul p V) (M3.vecMul q V)
        = V3.smul (M3.det V) (M3.vecMul (V3.cross p q) (M3.inv V).transpose)) :=
  ⟨cross_vecMul V p q, fun hd => by rw [cross_vecMul, vecMul_cof V hd]⟩

theorem normalOf_eq_smul_cof (V : M3 K) (a b : V3 ℤ) (s num den h k l : ℤ) (hden : (den : K) ≠ 0)
    (he : V3.smul den (V3.smul s (V3.cross a b)) = V3.smul num ⟨h, k, l⟩) :
    normalOf V a b s = V3.smul ((num : K) / den) (M3.vecMul (castV ⟨h, k, l⟩) (cof V)) := by
  rw [normalOf_eq_cof, castV_of_smul_eq hden he, M3.vecMul_smul]

/-- the normal for a given in-plane pair in closed form; interface for `Proofs/C14_C16`. -/
theorem normalOf_eq (V : M3 K) (a b : V3 ℤ) (s num den h k l : ℤ) (hden : (den : K) ≠ 0) (hdet : M3.det V ≠ 0)
    (he : V3.smul den (V3.smul s (V3.cross a b)) = V3.smul num ⟨h, k, l⟩) :
    normalOf V a b s = V3.smul ((num : K) / den * M3.det V) (recipVector V h k l) := by
  rw [normalOf_eq_smul_cof V a b s num den h k l hden he, vecMul_cof V hdet, V3.smul_smul]; rfl

theorem normal_orth_covariant (V R : M3 K) (ho : RowsOrthonormal R) (h k l : ℤ) :
    planeNormalUnnorm (M3.mul V R) h k l
      = (planeNormalUnnorm V h k l).map (fun n => V3.smul (M3.det R) (M3.vecMul n R)) :=
  planeNormalUnnorm_map (fun w => by
    rw [cof_mul, ← M3.vecMul_vecMul, cof_of_orth (mul_transpose_of_orthonormal ho), vecMul_scaleM]) h k l

end field

section ordered
variable {K : Type} [Field K] [LinearOrder K] [IsStrictOrderedRing K]

theorem normal_along_cof (V : M3 K) (h k l : ℤ) (hne : ¬(h = 0 ∧ k = 0 ∧ l = 0)) :
    ∃ n, planeNormalUnnorm V h k l = .ok n ∧
      ∃ c : K, 0 < c ∧ n = V3.smul c (M3.vecMul (castV ⟨h, k, l⟩) (cof V)) := by
  obtain ⟨a, b, s, hp, num, den, hnum, hden, he⟩ := idx_cross_parallel h k l hne
  have hdenK : (0 : K) < (den : K) := by exact_mod_cast hden
  have hnumK : (0 : K) < (num : K) := by exact_mod_cast hnum
  exact ⟨normalOf V a b s, by simp only [planeNormalUnnorm, hp], (num : K) / den, div_pos hnumK hdenK,
    normalOf_eq_smul_cof V a b s num den h k l hdenK.ne' he⟩

/-- the (unnormalised) normal computed by the code is `c · det V · (h a* + k b* + l c*)` with `c > 0`. -/
theorem normal_is_reciprocal (V : M3 K) (hdet : M3.det V ≠ 0) (h k l : ℤ) (hne : ¬(h = 0 ∧ k = 0 ∧ l = 0)) :
    ∃ n, planeNormalUnnorm V h k l = .ok n ∧
      ∃ c : K, 0 < c ∧ n = V3.smul (c * M3.det V) (recipVector V h k l) := by
  obtain ⟨n, hn, c, hc, he⟩ := normal_along_cof V h k l hne
  exact ⟨n, hn, c, hc, by rw [he, vecMul_cof V hdet, V3.smul_smul]; rfl⟩

/-- `(h a* + k b* + l c*) · (u a + v b + w c) = hu + kv + lw`. -/
theorem recip_dot_lattice (V : M3 K) (hdet : M3.det V ≠ 0) (h k l : ℤ) (p : V3 K) :
    V3.dot (recipVector V h k l) (M3.vecMul p V) = h * p.x + k * p.y + l * p.z := by
  have e : M3.det V * V3.dot (recipVector V h k l) (M3.vecMul p V) = M3.det V * V3.dot (castV ⟨h, k, l⟩) p := by
    rw [← V3.dot_smul_left, recipVector, ← vecMul_cof V hdet, dot_vecMul_cof]
  exact mul_left_cancel₀ hdet e

/-- zone law: the normal returned for `(hkl)` is perpendicular to the lattice vector `[uvw]`
    (any real multiples `u v w`, in particular integers) exactly when `hu + kv + lw = 0`. -/
theorem normal_perp_iff_zone (V : M3 K) (hdet : M3.det V ≠ 0) (h k l : ℤ) (hne : ¬(h = 0 ∧ k = 0 ∧ l = 0))
    (nrm : K) (hn : 0 < nrm) (p : V3 K) :
    ∃ n, planeNormalUnnorm V h k l = .ok n ∧
      (V3.dot (normalise n nrm) (M3.vecMul p V) = 0 ↔ (h : K) * p.x + k * p.y + l * p.z = 0) := by
  obtain ⟨n, hn1, c, hc, he⟩ := normal_is_reciprocal V hdet h k l hne
  refine ⟨n, hn1, ?_⟩
  have hc' : c * M3.det V ≠ 0 := mul_ne_zero hc.ne' hdet
  rw [dot_normalise, he, V3.dot_smul_left, recip_dot_lattice V hdet, div_eq_zero_iff, mul_eq_zero]
  simp only [hc', hn.ne', false_or, or_false]

/-- for a right-handed cell the returned normal (after the division by its norm `nrm`) is the
    *unit* vector that is a *positive* multiple of `h a* + k b* + l c*`. -/
theorem normal_unit_along_reciprocal (V : M3 K) (hdet : 0 < M3.det V) (h k l : ℤ)
    (hne : ¬(h = 0 ∧ k = 0 ∧ l = 0)) :
    ∃ n, planeNormalUnnorm V h k l = .ok n ∧
      ∀ nrm : K, 0 < nrm → nrm * nrm = V3.normSq n →
        V3.dot (normalise n nrm) (normalise n nrm) = 1 ∧
        ∃ c : K, 0 < c ∧ normalise n nrm = V3.smul c (recipVector V h k l) := by
  obtain ⟨n, hn1, c, hc, he⟩ := normal_is_reciprocal V hdet.ne' h k l hne
  refine ⟨n, hn1, fun nrm hn hsq => ⟨normalise_unit hn.ne' hsq, c * M3.det V / nrm, by positivity, ?_⟩⟩
  rw [he, normalise_smul]

/-- left-handed cells: the same formula gives the *negative* direction (why the property is stated
    for right-handed cells). -/
theorem normal_left_handed (V : M3 K) (hdet : M3.det V < 0) (h k l : ℤ)
    (hne : ¬(h = 0 ∧ k = 0 ∧ l = 0)) :
    ∃ n, planeNormalUnnorm V h k l = .ok n ∧ ∃ c : K, c < 0 ∧ n = V3.smul c (recipVector V h k l) := by
  obtain ⟨n, hn1, c, hc, he⟩ := normal_is_reciprocal V hdet.ne h k l hne
  exact ⟨n, hn1, c * M3.det V, mul_neg_of_pos_of_neg hc hdet, he⟩

set_option linter.unusedSectionVars false in
/-- **rotated cells**: the cell `V·R` (every cell vector rotated by the proper rotation `R`) has, for every
    plane `(hkl)`, the rotated normal — the unnormalised normal the code computes is `n·R` where `n` is the one
    of the unrotated cell.  In particular the normal of a rotated CUBIC cell is not `(h,k,l)/|hkl|`. -/
theorem normal_rotation_covariant (V R : M3 K) (ho : RowsOrthonormal R) (hd : M3.det R = 1) (h k l : ℤ) :
    planeNormalUnnorm (M3.mul V R) h k l = (planeNormalUnnorm V h k l).map (fun n => M3.vecMul n R) := by
  simpa only [hd, V3.one_smul] using normal_orth_covariant V R ho h k l

set_option linter.unusedSectionVars false in
/-- reflected (left-handed) copies of a cell: the code's normal is the NEGATIVE of the reflected normal
    (the in-plane pair keeps its index orientation while the cell changes hand). -/
theorem normal_reflection_flips (V R : M3 K) (ho : RowsOrthonormal R) (hd : M3.det R = -1) (h k l : ℤ) :
    planeNormalUnnorm (M3.mul V R) h k l = (planeNormalUnnorm V h k l).map (fun n => -M3.vecMul n R) := by
  simpa only [hd, V3.neg_one_smul] using normal_orth_covariant V R ho h k l

set_option linter.unusedSectionVars false in
/-- crystal vectors of a rigidly moved cell are the moved vectors (any matrix `R`), three- and four-index. -/
theorem vector_rotation_covariant (atol : K) (isHex : Bool) (V R : M3 K) (idx : List K) :
    vectorCrystalToCartesian atol isHex (M3.mul V R) idx
      = (vectorCrystalToCartesian atol isHex V idx).map (fun v => M3.vecMul v R) := by
  unfold vectorCrystalToCartesian
  split
  · split
    · split <;> simp_all [exceptSimp, ← M3.vecMul_vecMul]
    · rfl
  · simp [exceptSimp, ← M3.vecMul_vecMul]
  · rfl

set_option linter.unusedSectionVars false in
/-- the un-normalised normal of the cell scaled by `t` is `t²` times that of the cell, in every branch. -/
theorem normal_scale (t : K) (V : M3 K) (h k l : ℤ) :
    planeNormalUnnorm (scaleM t V) h k l = (planeNormalUnnorm V h k l).map (V3.smul (t * t)) :=
  planeNormalUnnorm_map (fun w => by rw [cof_scaleM, vecMul_scaleM]) h k l

set_option linter.unusedSectionVars false in
/-- a rotated right-handed cell is right-handed. -/
theorem det_mul (A B : M3 K) : M3.det (M3.mul A B) = M3.det A * M3.det B :=
  M3.det_mul A B

/-- a right-handed cell rotated by any proper rotation is right-handed, and the normal the code returns for it is
    the unit vector along the reciprocal-lattice vector of the ROTATED cell. -/
theorem normal_unit_along_reciprocal_rotated (V R : M3 K) (hdet : 0 < M3.det V) (hd : M3.det R = 1) (h k l : ℤ)
    (hne : ¬(h = 0 ∧ k = 0 ∧ l = 0)) :
    0 < M3.det (M3.mul V R) ∧
    ∃ n, planeNormalUnnorm (M3.mul V R) h k l = .ok n ∧
      ∀ nrm : K, 0 < nrm → nrm * nrm = V3.normSq n →
        V3.dot (normalise n nrm) (normalise n nrm) = 1 ∧
        ∃ c : K, 0 < c ∧ normalise n nrm = V3.smul c (recipVector (M3.mul V R) h k l) := by
  have hpos : 0 < M3.det (M3.mul V R) := by rw [det_mul, hd, mul_one]; exact hdet
  exact ⟨hpos, normal_unit_along_reciprocal _ hpos h k l hne⟩

omit [LinearOrder K] [IsStrictOrderedRing K] in
theorem vecMul_cof_diag (a : K) (x : V3 K) :
    M3.vecMul x (cof ⟨⟨a, 0, 0⟩, ⟨0, a, 0⟩, ⟨0, 0, a⟩⟩) = V3.smul (a * a) x := by
  simp only [M3.vecMul, cof, V3.cross, V3.smul, V3.mk.injEq]
  exact ⟨by ring, by ring, by ring⟩

/-- a CUBIC cell in any orientation, `vects = a·R` with `R` a proper rotation: the (unnormalised) normal is a
    positive multiple of `(h,k,l)·R` — the rotated index vector, not the index vector itself. -/
theorem normal_cubic_rotated (a : K) (ha : 0 < a) (R : M3 K) (ho : RowsOrthonormal R) (hd : M3.det R = 1)
    (h k l : ℤ) (hne : ¬(h = 0 ∧ k = 0 ∧ l = 0)) :
    ∃ n c, planeNormalUnnorm (M3.mul ⟨⟨a, 0, 0⟩, ⟨0, a, 0⟩, ⟨0, 0, a⟩⟩ R) h k l = .ok n ∧ 0 < c ∧
      n = V3.smul c (M3.vecMul ⟨(h : K), (k : K), (l : K)⟩ R) := by
  obtain ⟨n, hn, c, hc, he⟩ := normal_along_cof (⟨⟨a, 0, 0⟩, ⟨0, a, 0⟩, ⟨0, 0, a⟩⟩ : M3 K) h k l hne
  refine ⟨M3.vecMul n R, c * (a * a), ?_, by positivity, ?_⟩
  · rw [normal_rotation_covariant _ R ho hd, hn]; rfl
  · rw [he, vecMul_cof_diag, V3.smul_smul, M3.vecMul_smul]; rfl

/-- the un-normalised normal is never the zero vector (so the final division is by a positive number). -/
theorem normal_nonzero (V : M3 K) (hdet : M3.det V ≠ 0) (h k l : ℤ) (hne : ¬(h = 0 ∧ k = 0 ∧ l = 0)) :
    ∃ n, planeNormalUnnorm V h k l = .ok n ∧ 0 < V3.normSq n := by
  obtain ⟨n, hn1, c, hc, he⟩ := normal_is_reciprocal V hdet h k l hne
  have hc' : c * M3.det V ≠ 0 := mul_ne_zero hc.ne' hdet
  refine ⟨n, hn1, ?_⟩
  -- `n·(pV) = c det V (h p.x + k p.y + l p.z)`: were `n` zero, every such sum would vanish
  by_contra hpos
  have key : ∀ p : V3 K, (h : K) * p.x + k * p.y + l * p.z = 0 := fun p => by
    by_contra hz
    refine hpos (V3.normSq_pos_of_dot_ne_zero_left (w := M3.vecMul p V) ?_)
    rw [he, V3.dot_smul_left, recip_dot_lattice V hdet]
    exact mul_ne_zero hc' hz
  have e1 := key ⟨1, 0, 0⟩
  have e2 := key ⟨0, 1, 0⟩
  have e3 := key ⟨0, 0, 1⟩
  simp only [mul_one, mul_zero, add_zero, zero_add] at e1 e2 e3
  exact hne ⟨by exact_mod_cast e1, by exact_mod_cast e2, by exact_mod_cast e3⟩

/-- what `np.linalg.norm` is assumed to give for the vector `v`: the non-negative root of the sum of squares (asked only of
    the vectors the code divides by, so the hypothesis is satisfiable in ℚ whenever that root is rational). -/
def IsNormAt (norm : V3 K → K) (v : V3 K) : Prop := 0 ≤ norm v ∧ norm v * norm v = V3.normSq v

set_option linter.unusedSectionVars false in
theorem IsNormAt.pos {norm : V3 K → K} {v : V3 K} (hn : IsNormAt norm v) (hv : 0 < V3.normSq v) : 0 < norm v := by
  obtain ⟨h0, hsq⟩ := hn
  rcases h0.lt_or_eq with hlt | heq
  · exact hlt
  · rw [← heq] at hsq; simp at hsq; rw [← hsq] at hv; exact absurd hv (lt_irrefl _)

theorem IsNormAt.smul {norm : V3 K → K} (c : K) (hc : 0 ≤ c) {v : V3 K} (hv : IsNormAt norm v)
    (hcv : IsNormAt norm (V3.smul c v)) : norm (V3.smul c v) = c * norm v := by
  obtain ⟨h0, hsq⟩ := hcv
  obtain ⟨h1, hsq1⟩ := hv
  refine (mul_self_inj h0 (mul_nonneg hc h1)).mp ?_
  rw [hsq, mul_mul_mul_comm, hsq1, V3.normSq_smul]

end ordered

theorem planeInPlane_error {h k l : ℤ} {e : Err} (he : planeInPlane h k l = .error e) : e = .value := by
  by_cases hz : h = 0 ∧ k = 0 ∧ l = 0
  · obtain ⟨rfl, rfl, rfl⟩ := hz
    exact (Except.error.inj (planeInPlane_zero ▸ he)).symm
  · obtain ⟨a, b, s, hp, -⟩ := idx_cross_parallel h k l hz
    rw [hp] at he; cases he

theorem planeNormalUnnorm_error {K : Type} [Add K] [Sub K] [Mul K] [IntCast K] {V : M3 K} {h k l : ℤ} {e : Err}
    (he : planeNormalUnnorm V h k l = .error e) : e = .value := by
  unfold planeNormalUnnorm at he
  split at he
  · cases he
  · next h' => cases he; exact planeInPlane_error h'

theorem planeCrystalToCartesianUnnorm_error {K : Type} [Zero K] [Add K] [Sub K] [Mul K] [Neg K] [IntCast K] [LT K]
    [DecidableLT K] [LE K] [DecidableLE K] {atol : K} {isHex : Bool} {V : M3 K} {idx : List ℤ} {e : Err}
    (he : planeCrystalToCartesianUnnorm atol isHex V idx = .error e) : e = .value := by
  unfold planeCrystalToCartesianUnnorm at he
  split at he
  · split_ifs at he
    · exact planeNormalUnnorm_error he
    all_goals exact (Except.error.inj he).symm
  · exact planeNormalUnnorm_error he
  · exact (Except.error.inj he).symm

theorem planeRow_error {rtol atol gatol : Rat} {isHex : Bool} {V : M3 Rat} {r : List Rat} {e : Err}
    (he : planeRow rtol atol gatol isHex V r = .error e) : e = .value := by
  unfold planeRow at he
  split at he
  · exact planeCrystalToCartesianUnnorm_error he
  · exact (Except.error.inj he).symm

/-- the whole-array tests of `plane_crystal_to_cartesian` followed by `apply_along_axis` are the row-wise routine, row after
    row (as `plane4to3Arr_eq_mapM` for the sum guard): every failure of a row is a `ValueError` (`planeRow_error`). -/
theorem planeArr_eq_mapM (rtol atol gatol : Rat) (isHex : Bool) (V : M3 Rat) : ∀ rows : List (List Rat),
    planeArr rtol atol gatol isHex V rows = rows.mapM (planeRow rtol atol gatol isHex V)
  | [] => rfl
  | r :: rows => by
    rw [List.mapM_cons, ← planeArr_eq_mapM rtol atol gatol isHex V rows]
    unfold planeArr
    rw [List.all_cons, List.filterMap_cons]
    rcases h : planeRow rtol atol gatol isHex V r with e | n
    · cases planeRow_error h; rfl
    · cases rows.all fun r => (planeRow rtol atol gatol isHex V r).toBool <;> rfl

/-- the array is accepted iff every row is accepted on its own — however many rows, whatever the others are. -/
theorem planeArr_ok_iff (rtol atol gatol : Rat) (isHex : Bool) (V : M3 Rat) (rows : List (List Rat)) :
    (planeArr rtol atol gatol isHex V rows).toBool = true ↔
      ∀ r ∈ rows, (planeRow rtol atol gatol isHex V r).toBool = true := by
  unfold planeArr
  split
  · rename_i h
    simp only [Except.toBool, true_iff]
    exact List.all_eq_true.mp h
  · rename_i h
    simp only [Except.toBool, Bool.false_eq_true, false_iff]
    intro hall
    exact h (List.all_eq_true.mpr hall)

/-- an accepted array holds, row by row and in order, what each row gives on its own. -/
theorem planeArr_rows (rtol atol gatol : Rat) (isHex : Bool) (V : M3 Rat) (rows : List (List Rat))
    (out : List (V3 Rat)) (h : planeArr rtol atol gatol isHex V rows = .ok out) :
    rows.map (planeRow rtol atol gatol isHex V) = out.map .ok := by
  have := mapM_except_ok (planeArr_eq_mapM rtol atol gatol isHex V rows ▸ h)
  clear h
  induction this with
  | nil => rfl
  | cons h1 _ ih => rw [List.map_cons, List.map_cons, h1, ih]

/-- MANY planes in one call: evaluating an array in two blocks and joining the results is evaluating it whole — the
    result for a row depends neither on how many rows come with it nor on where the array is cut (so on no block size);
    a block that is refused refuses the whole. -/
theorem planeArr_append (rtol atol gatol : Rat) (isHex : Bool) (V : M3 Rat) (xs ys : List (List Rat)) :
    planeArr rtol atol gatol isHex V (xs ++ ys) =
      match planeArr rtol atol gatol isHex V xs, planeArr rtol atol gatol isHex V ys with
      | .ok o1, .ok o2 => .ok (o1 ++ o2)
      | _, _ => .error .value := by
  unfold planeArr
  rw [List.all_append, List.filterMap_append]
  by_cases h1 : (xs.all fun r => (planeRow rtol atol gatol isHex V r).toBool) = true <;>
    by_cases h2 : (ys.all fun r => (planeRow rtol atol gatol isHex V r).toBool) = true <;>
    simp [h1, h2]

/-- ORDER of the rows: the FIRST row of an array gets its own result and decides nothing about the others: the
    array is the first row's result followed by the result of the rest; a refused first row (or rest) refuses the whole. -/
theorem planeArr_cons (rtol atol gatol : Rat) (isHex : Bool) (V : M3 Rat) (x : List Rat) (xs : List (List Rat)) :
    planeArr rtol atol gatol isHex V (x :: xs) =
      match planeRow rtol atol gatol isHex V x, planeArr rtol atol gatol isHex V xs with
      | .ok n, .ok o => .ok (n :: o)
      | _, _ => .error .value := by
  have h1 : planeArr rtol atol gatol isHex V [x] =
      match planeRow rtol atol gatol isHex V x with
      | .ok n => .ok [n]
      | .error _ => .error .value := by
    unfold planeArr
    simp only [List.all_cons, List.all_nil, Bool.and_true, List.filterMap_cons, List.filterMap_nil]
    rcases h : planeRow rtol atol gatol isHex V x with e | n <;> simp [Except.toBool]
  rw [show x :: xs = [x] ++ xs from rfl, planeArr_append, h1]
  cases planeRow rtol atol gatol isHex V x <;> cases planeArr rtol atol gatol isHex V xs <;> simp

/-- the same planes handed over in reverse order give the reversed results (and are refused alike). -/
theorem planeArr_reverse (rtol atol gatol : Rat) (isHex : Bool) (V : M3 Rat) (xs : List (List Rat)) :
    planeArr rtol atol gatol isHex V xs.reverse =
      match planeArr rtol atol gatol isHex V xs with
      | .ok o => .ok o.reverse
      | .error e => .error e := by
  unfold planeArr
  rw [List.all_reverse, List.filterMap_reverse]
  by_cases h : (xs.all fun r => (planeRow rtol atol gatol isHex V r).toBool) = true <;> simp [h]

/-- the same planes in ANY order: accepted alike, and the results are the same normals in the permuted order — what comes
    first (a basal plane (0 0 l), a plane with three non-zero indices) has no bearing on the rows that follow. -/
theorem planeArr_perm (rtol atol gatol : Rat) (isHex : Bool) (V : M3 Rat) (xs ys : List (List Rat)) (hp : xs.Perm ys) :
    match planeArr rtol atol gatol isHex V xs, planeArr rtol atol gatol isHex V ys with
    | .ok o1, .ok o2 => o1.Perm o2
    | .error _, .error _ => True
    | _, _ => False := by
  unfold planeArr
  rw [hp.all_eq]
  by_cases h : (ys.all fun r => (planeRow rtol atol gatol isHex V r).toBool) = true
  · simp only [h, if_true]
    exact hp.filterMap _
  · simp [h]

/-- the zero index vector is no plane, alone or as a row. -/
theorem planeRow_zero (rtol atol gatol : Rat) (isHex : Bool) (V : M3 Rat) :
    (planeRow rtol atol gatol isHex V [0, 0, 0]).toBool = false := by
  unfold planeRow
  split
  · simp [planeCrystalToCartesianUnnorm, planeNormalUnnorm, planeInPlane, truncRat, Except.toBool]
  · rfl

end Atomman.C16
