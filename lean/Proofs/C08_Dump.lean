/-
  C08 — load ∘ dump for LAMMPS dump files: the header `C07.dumpDoc` lays out run through the loader's state machine, then
  the atom rows.  `bflagTok`, `dumpIds`, `isOrtho`, `dumpNames` are Proofs/C07_Files.lean's `bflagD`, `dumpIds`, `orthoH`,
  `nameLine` under the names the statements here use (equal by `rfl`; where both are in scope the short names mean the
  ones here).
-/
import Proofs.C08_Text
namespace Atomman.C08
open Atomman Atomman.C07
set_option linter.unusedSimpArgs false

/-- the boundary flag the dump writer prints (`C07.bflagD`). -/
def bflagTok (p : Bool) : Tok := if p then cs!"pp" else cs!"fm"

theorem bflag_pp (p : Bool) : (decide (some (bflagTok p) = some (cs!"pp"))) = p := by
  cases p <;> decide

def DSC.idle (s : DSC) : Prop :=
  s.readNatoms = false ∧ s.readTimestep = false ∧ s.bcount ≠ 0 ∧ s.bcount ≠ 1 ∧ s.bcount ≠ 2

theorem DSC.idle_of (s : DSC) (h1 : s.readNatoms = false) (h2 : s.readTimestep = false) (h3 : s.bcount = 3) : s.idle :=
  ⟨h1, h2, by omega, by omega, by omega⟩

/-! The header loop one line at a time, for any state in which that line is due. -/

theorem dsLoopA_step (lf : Option ℚ) (t : Line) (ts : List Line) (s s' : DSC) (rows : Option (List Line)) (b : Bool)
    (h : dsCore lf t s = .ok (s', b)) :
    dsLoopA lf (t :: ts) (s, rows) = dsLoopA lf ts (s', if b then some [] else rows.map (· ++ [t])) := by
  rw [dsLoopA, dsStepA, h]; rfl

theorem dsCore_timestep (lf : Option ℚ) (s : DSC) (hs : s.idle) :
    dsCore lf [cs!"ITEM:", cs!"TIMESTEP"] s = .ok ({ s with readTimestep := true }, false) := by
  obtain ⟨h1, h2, h3, h4, h5⟩ := hs
  simp [dsCore, h1, h2, h3, h4, h5, term, bind, Except.bind, pure, Except.pure]

/-- the line after `ITEM: TIMESTEP` is not looked at. -/
theorem dsCore_skip (lf : Option ℚ) (t : Tok) (ts : Line) (s : DSC) (h1 : s.readNatoms = false) (h2 : s.readTimestep = true) :
    dsCore lf (t :: ts) s = .ok ({ s with readTimestep := false }, false) := by
  simp [dsCore, h1, h2, exceptSimp]

theorem dsCore_number (lf : Option ℚ) (s : DSC) (hs : s.idle) :
    dsCore lf [cs!"ITEM:", cs!"NUMBER", cs!"OF", cs!"ATOMS"] s = .ok ({ s with readNatoms := true }, false) := by
  obtain ⟨h1, h2, h3, h4, h5⟩ := hs
  simp [dsCore, h1, h2, h3, h4, h5, term, bind, Except.bind, pure, Except.pure]

theorem dsCore_count (lf : Option ℚ) (n : Nat) (s : DSC) (h : s.readNatoms = true) :
    dsCore lf [natTok n] s = .ok ({ s with natoms := some (n : Int), readNatoms := false }, false) := by
  simp [dsCore, h, term, pyInt_natTok, exceptSimp]

theorem bflagTok_pp (p : Bool) : decide (bflagTok p = cs!"pp") = p := by
  cases p <;> decide

theorem dsCore_boxOrtho (lf : Option ℚ) (pbc : V3 Bool) (s : DSC) (hs : s.idle) :
    dsCore lf [cs!"ITEM:", cs!"BOX", cs!"BOUNDS", bflagTok pbc.x, bflagTok pbc.y, bflagTok pbc.z] s =
      .ok ({ s with pbc := some pbc, bcount := 0 }, false) := by
  obtain ⟨h1, h2, h3, h4, h5⟩ := hs
  simp [dsCore, h1, h2, h3, h4, h5, term, pyIndex, bflagTok_pp, bind, Except.bind, pure, Except.pure]

/-- with the tilt keywords in front, the flags are still the last three terms. -/
theorem dsCore_boxTri (lf : Option ℚ) (pbc : V3 Bool) (s : DSC) (hs : s.idle) :
    dsCore lf [cs!"ITEM:", cs!"BOX", cs!"BOUNDS", cs!"xy", cs!"xz", cs!"yz", bflagTok pbc.x, bflagTok pbc.y, bflagTok pbc.z] s =
      .ok ({ s with pbc := some pbc, bcount := 0 }, false) := by
  obtain ⟨h1, h2, h3, h4, h5⟩ := hs
  simp [dsCore, h1, h2, h3, h4, h5, term, pyIndex, bflagTok_pp, bind, Except.bind, pure, Except.pure]

theorem boundsLine_two {f : Fmt} (lf : Option ℚ) (a b : ℚ) :
    boundsLine lf [fmtNum f a, fmtNum f b] = .ok (mulBy lf (fmtVal f a), mulBy lf (fmtVal f b), none) := by
  simp [boundsLine, term, pyFloat_fmt, bind, Except.bind, pure, Except.pure]

theorem boundsLine_three {f : Fmt} (lf : Option ℚ) (a b c : ℚ) :
    boundsLine lf [fmtNum f a, fmtNum f b, fmtNum f c] =
      .ok (mulBy lf (fmtVal f a), mulBy lf (fmtVal f b), some (mulBy lf (fmtVal f c))) := by
  simp [boundsLine, term, pyFloat_fmt, bind, Except.bind, pure, Except.pure]

theorem dsCore_x (lf : Option ℚ) (t : Tok) (ts : Line) (s : DSC) (r : ℚ × ℚ × Option ℚ)
    (h1 : s.readNatoms = false) (h2 : s.readTimestep = false) (h3 : s.bcount = 0) (hb : boundsLine lf (t :: ts) = .ok r) :
    dsCore lf (t :: ts) s =
      .ok ({ s with xlo := some r.1, xhi := some r.2.1, xy := r.2.2.getD s.xy, bcount := 1 }, false) := by
  simp [dsCore, h1, h2, h3, hb, exceptSimp]

theorem dsCore_y (lf : Option ℚ) (t : Tok) (ts : Line) (s : DSC) (r : ℚ × ℚ × Option ℚ)
    (h1 : s.readNatoms = false) (h2 : s.readTimestep = false) (h3 : s.bcount = 1) (hb : boundsLine lf (t :: ts) = .ok r) :
    dsCore lf (t :: ts) s =
      .ok ({ s with ylo := some r.1, yhi := some r.2.1, xz := r.2.2.getD s.xz, bcount := 2 }, false) := by
  simp [dsCore, h1, h2, h3, hb, exceptSimp]

theorem dsCore_zOrtho (lf : Option ℚ) (t : Tok) (ts : Line) (s : DSC) (a b : ℚ)
    (h1 : s.readNatoms = false) (h2 : s.readTimestep = false) (h3 : s.bcount = 2)
    (hb : boundsLine lf (t :: ts) = .ok (a, b, none)) :
    dsCore lf (t :: ts) s = .ok ({ s with zlo := some a, zhi := some b, bcount := 3 }, false) := by
  simp [dsCore, h1, h2, h3, hb, bind, Except.bind, pure, Except.pure]

/-- the third line of a tilted box: the tilt extents come off the x and y bounds read before. -/
theorem dsCore_zTri (lf : Option ℚ) (t : Tok) (ts : Line) (s : DSC) (a b yz xlo xhi ylo yhi : ℚ)
    (h1 : s.readNatoms = false) (h2 : s.readTimestep = false) (h3 : s.bcount = 2)
    (hb : boundsLine lf (t :: ts) = .ok (a, b, some yz))
    (hx : s.xlo = some xlo) (hX : s.xhi = some xhi) (hy : s.ylo = some ylo) (hY : s.yhi = some yhi) :
    dsCore lf (t :: ts) s =
      .ok ({ s with zlo := some a, zhi := some b, yz := yz, bcount := 3,
                    xlo := some (xlo - minR (minR (minR 0 s.xy) s.xz) (s.xy + s.xz)),
                    xhi := some (xhi - maxR (maxR (maxR 0 s.xy) s.xz) (s.xy + s.xz)),
                    ylo := some (ylo - minR 0 yz), yhi := some (yhi - maxR 0 yz) }, false) := by
  simp [dsCore, h1, h2, h3, hb, hx, hX, hy, hY, bind, Except.bind, pure, Except.pure]

theorem dsCore_atoms (lf : Option ℚ) (names : Line) (s : DSC) (hs : s.idle) :
    dsCore lf (cs!"ITEM:" :: cs!"ATOMS" :: names) s = .ok ({ s with names := some names }, true) := by
  obtain ⟨h1, h2, h3, h4, h5⟩ := hs
  simp [dsCore, h1, h2, h3, h4, h5, term, bind, Except.bind, pure, Except.pure]

def dumpHeaderOrtho (f : Fmt) (ts : Int) (n : Nat) (pbc : V3 Bool) (bb : BBox) (names : Line) : Doc :=
  [[cs!"ITEM:", cs!"TIMESTEP"], [intTok ts], [cs!"ITEM:", cs!"NUMBER", cs!"OF", cs!"ATOMS"], [natTok n],
   [cs!"ITEM:", cs!"BOX", cs!"BOUNDS", bflagTok pbc.x, bflagTok pbc.y, bflagTok pbc.z],
   [fmtNum f bb.xlo, fmtNum f bb.xhi], [fmtNum f bb.ylo, fmtNum f bb.yhi], [fmtNum f bb.zlo, fmtNum f bb.zhi],
   cs!"ITEM:" :: cs!"ATOMS" :: names]

def dumpHeaderTri (f : Fmt) (ts : Int) (n : Nat) (pbc : V3 Bool) (bb : BBox) (xy xz yz : ℚ) (names : Line) : Doc :=
  [[cs!"ITEM:", cs!"TIMESTEP"], [intTok ts], [cs!"ITEM:", cs!"NUMBER", cs!"OF", cs!"ATOMS"], [natTok n],
   [cs!"ITEM:", cs!"BOX", cs!"BOUNDS", cs!"xy", cs!"xz", cs!"yz", bflagTok pbc.x, bflagTok pbc.y, bflagTok pbc.z],
   [fmtNum f bb.xlo, fmtNum f bb.xhi, fmtNum f xy], [fmtNum f bb.ylo, fmtNum f bb.yhi, fmtNum f xz],
   [fmtNum f bb.zlo, fmtNum f bb.zhi, fmtNum f yz],
   cs!"ITEM:" :: cs!"ATOMS" :: names]

/-- what a tilted box adds to the low x bound of its bounding box, as the loader removes it. -/
def tiltLo (xy xz : ℚ) : ℚ := minR (minR (minR 0 xy) xz) (xy + xz)
/-- the same for the high x bound. -/
def tiltHi (xy xz : ℚ) : ℚ := maxR (maxR (maxR 0 xy) xz) (xy + xz)

def orthoState (f : Fmt) (lf : Option ℚ) (n : Nat) (pbc : V3 Bool) (bb : BBox) (names : Line) : DSC :=
  { pbc := some pbc, natoms := some (n : Int),
    xlo := some (mulBy lf (fmtVal f bb.xlo)), xhi := some (mulBy lf (fmtVal f bb.xhi)),
    ylo := some (mulBy lf (fmtVal f bb.ylo)), yhi := some (mulBy lf (fmtVal f bb.yhi)),
    zlo := some (mulBy lf (fmtVal f bb.zlo)), zhi := some (mulBy lf (fmtVal f bb.zhi)),
    names := some names }

/-- the header state after a tilted box: the tilt extents are taken off the bounding box. -/
def triState (f : Fmt) (lf : Option ℚ) (n : Nat) (pbc : V3 Bool) (bb : BBox) (xy xz yz : ℚ) (names : Line) : DSC :=
  { pbc := some pbc, natoms := some (n : Int),
    xlo := some (mulBy lf (fmtVal f bb.xlo) - tiltLo (mulBy lf (fmtVal f xy)) (mulBy lf (fmtVal f xz))),
    xhi := some (mulBy lf (fmtVal f bb.xhi) - tiltHi (mulBy lf (fmtVal f xy)) (mulBy lf (fmtVal f xz))),
    ylo := some (mulBy lf (fmtVal f bb.ylo) - minR 0 (mulBy lf (fmtVal f yz))),
    yhi := some (mulBy lf (fmtVal f bb.yhi) - maxR 0 (mulBy lf (fmtVal f yz))),
    zlo := some (mulBy lf (fmtVal f bb.zlo)), zhi := some (mulBy lf (fmtVal f bb.zhi)),
    xy := mulBy lf (fmtVal f xy), xz := mulBy lf (fmtVal f xz), yz := mulBy lf (fmtVal f yz),
    names := some names }

theorem dsLoopA_ortho {f : Fmt} (lf : Option ℚ) (ts : Int) (n : Nat) (pbc : V3 Bool) (bb : BBox)
    (names : Line) :
    dsLoopA lf (dumpHeaderOrtho f ts n pbc bb names) ({}, none) = .ok (orthoState f lf n pbc bb names, some []) := by
  unfold dumpHeaderOrtho
  rw [dsLoopA_step (h := dsCore_timestep lf _ (DSC.idle_of _ rfl rfl rfl)),
    dsLoopA_step (h := dsCore_skip lf _ _ _ rfl rfl),
    dsLoopA_step (h := dsCore_number lf _ (DSC.idle_of _ rfl rfl rfl)),
    dsLoopA_step (h := dsCore_count lf _ _ rfl),
    dsLoopA_step (h := dsCore_boxOrtho lf _ _ (DSC.idle_of _ rfl rfl rfl)),
    dsLoopA_step (h := dsCore_x lf _ _ _ _ rfl rfl rfl (boundsLine_two lf _ _)),
    dsLoopA_step (h := dsCore_y lf _ _ _ _ rfl rfl rfl (boundsLine_two lf _ _)),
    dsLoopA_step (h := dsCore_zOrtho lf _ _ _ _ _ rfl rfl rfl (boundsLine_two lf _ _)),
    dsLoopA_step (h := dsCore_atoms lf _ _ (DSC.idle_of _ rfl rfl rfl))]
  rfl

theorem dsLoopA_tri {f : Fmt} (lf : Option ℚ) (ts : Int) (n : Nat) (pbc : V3 Bool) (bb : BBox)
    (xy xz yz : ℚ) (names : Line) :
    dsLoopA lf (dumpHeaderTri f ts n pbc bb xy xz yz names) ({}, none) =
      .ok (triState f lf n pbc bb xy xz yz names, some []) := by
  unfold dumpHeaderTri
  rw [dsLoopA_step (h := dsCore_timestep lf _ (DSC.idle_of _ rfl rfl rfl)),
    dsLoopA_step (h := dsCore_skip lf _ _ _ rfl rfl),
    dsLoopA_step (h := dsCore_number lf _ (DSC.idle_of _ rfl rfl rfl)),
    dsLoopA_step (h := dsCore_count lf _ _ rfl),
    dsLoopA_step (h := dsCore_boxTri lf _ _ (DSC.idle_of _ rfl rfl rfl)),
    dsLoopA_step (h := dsCore_x lf _ _ _ _ rfl rfl rfl (boundsLine_three lf _ _ _)),
    dsLoopA_step (h := dsCore_y lf _ _ _ _ rfl rfl rfl (boundsLine_three lf _ _ _)),
    dsLoopA_step (h := dsCore_zTri lf _ _ _ _ _ _ _ _ _ _ rfl rfl rfl (boundsLine_three lf _ _ _) rfl rfl rfl rfl),
    dsLoopA_step (h := dsCore_atoms lf _ _ (DSC.idle_of _ rfl rfl rfl))]
  rfl

theorem dsCore_idle (lf : Option ℚ) (t : Line) (s : DSC) (hs : s.idle) (ht : t.head? ≠ some (cs!"ITEM:")) :
    dsCore lf t s = .ok (s, false) := by
  obtain ⟨h1, h2, h3, h4, h5⟩ := hs
  unfold dsCore
  by_cases he : t.isEmpty = true
  · simp [he]; rfl
  · simp [he, h1, h2, h3, h4, h5, ht]; rfl

theorem dsLoopA_idle_rows (lf : Option ℚ) (rows : List Line) (s : DSC) (r : Option (List Line)) (hs : s.idle)
    (hrows : ∀ t ∈ rows, t.head? ≠ some (cs!"ITEM:")) :
    dsLoopA lf rows (s, r) = .ok (s, r.map (· ++ rows)) := by
  induction rows generalizing r with
  | nil => cases r <;> simp [dsLoopA, exceptSimp]
  | cons t ts ih =>
    unfold dsLoopA dsStepA
    rw [dsCore_idle lf t s hs (hrows t List.mem_cons_self)]
    simp only [exceptSimp, Bool.false_eq_true, if_false]
    rw [ih _ (fun x hx => hrows x (List.mem_cons_of_mem _ hx))]
    cases r <;> simp

theorem rowsDoc_heads {f : Fmt} (rows : List (List Cell)) :
    ∀ t ∈ rowsDoc f rows, t.head? ≠ some (cs!"ITEM:") := by
  intro t ht
  simp only [rowsDoc, List.mem_map] at ht
  obtain ⟨r, _, rfl⟩ := ht
  cases r with
  | nil => simp
  | cons c cs =>
    simp only [List.map_cons, List.head?_cons, ne_eq, Option.some.injEq]
    obtain ⟨v, hv, _⟩ := parseVal_cellTok f c
    exact numeric_ne_keyword _ _ ⟨v, hv⟩ (by decide +kernel)

/-- the file-unit numbers the dump writer prints for a system. -/
def dumpHiLo (s : Sys) (lf : Option ℚ) : HiLo := (hiLoOf s.box).map (divBy lf)

def dumpCols (props : List (String × List Nat)) : List ColSpec := props.map fun p => dumpCol p.1 p.2

/-- the column names of the `ITEM: ATOMS` line (`C07.nameLine` of `dumpCols`). -/
def dumpNames (props : List (String × List Nat)) : Line := ((dumpCols props).map fun c => c.names.map strTok).flatten

/-- the ids the dump writer prints (`C07.dumpIds`). -/
def dumpIds (s : Sys) : List Int :=
  match s.prop? "atom_id" with
  | some c => c.vals.map fun v => (v.headD 0).floor
  | none => seqIds s.natoms

def isOrtho (h : HiLo) : Prop := h.xy = 0 ∧ h.xz = 0 ∧ h.yz = 0
instance (h : HiLo) : Decidable (isOrtho h) := by unfold isOrtho; infer_instance

theorem isOrtho_eq (h : HiLo) : isOrtho h = orthoH h := rfl

/-- the layout of `C07.dumpDoc` as the loader walks it: one of the two headers, then the rows. -/
theorem dumpDoc_eq (f : Fmt) (ts : Int) (n : Nat) (pbc : V3 Bool) (h : HiLo) (cols : List ColSpec) (rows : List (List Cell)) :
    dumpDoc f ts n pbc h cols rows =
      (if isOrtho h then dumpHeaderOrtho f ts n pbc (bboxOf h) (nameLine cols)
       else dumpHeaderTri f ts n pbc (bboxOf h) h.xy h.xz h.yz (nameLine cols)) ++ rowsDoc f rows := by
  unfold dumpDoc
  by_cases ho : orthoH h
  · simp only [isOrtho_eq, ho, if_true]; rfl
  · simp only [isOrtho_eq, ho, if_false]; rfl

theorem cleanTok_bflag (p : Bool) : CleanTok (bflagTok p) := by
  cases p <;> decide

theorem cleanDoc_headerOrtho {f : Fmt} (ts : Int) (n : Nat) (pbc : V3 Bool) (bb : BBox) (names : Line)
    (hn : ∀ t ∈ names, CleanTok t) : CleanDoc (dumpHeaderOrtho f ts n pbc bb names) := by
  simp only [CleanDoc, dumpHeaderOrtho, List.forall_mem_cons, List.not_mem_nil, false_imp_iff, implies_true, and_true]
  exact ⟨by decide, cleanTok_intTok ts, by decide, cleanTok_natTok n,
    ⟨by decide, by decide, by decide, cleanTok_bflag _, cleanTok_bflag _, cleanTok_bflag _⟩,
    ⟨cleanTok_fmtNum f _, cleanTok_fmtNum f _⟩, ⟨cleanTok_fmtNum f _, cleanTok_fmtNum f _⟩, ⟨cleanTok_fmtNum f _, cleanTok_fmtNum f _⟩, by decide, by decide, hn⟩

theorem cleanDoc_headerTri {f : Fmt} (ts : Int) (n : Nat) (pbc : V3 Bool) (bb : BBox) (xy xz yz : ℚ)
    (names : Line) (hn : ∀ t ∈ names, CleanTok t) : CleanDoc (dumpHeaderTri f ts n pbc bb xy xz yz names) := by
  simp only [CleanDoc, dumpHeaderTri, List.forall_mem_cons, List.not_mem_nil, false_imp_iff, implies_true, and_true]
  exact ⟨by decide, cleanTok_intTok ts, by decide, cleanTok_natTok n,
    ⟨by decide, by decide, by decide, by decide, by decide, by decide, cleanTok_bflag _, cleanTok_bflag _, cleanTok_bflag _⟩,
    ⟨cleanTok_fmtNum f _, cleanTok_fmtNum f _, cleanTok_fmtNum f _⟩, ⟨cleanTok_fmtNum f _, cleanTok_fmtNum f _, cleanTok_fmtNum f _⟩, ⟨cleanTok_fmtNum f _, cleanTok_fmtNum f _, cleanTok_fmtNum f _⟩,
    by decide, by decide, hn⟩

/-- a rendered dump file, header then table: when the header loop ends the header in `st` with the table opened and
    nothing pending, `loadDumpCore` gets that state and exactly the written rows. -/
theorem loadDump_header_rows {f : Fmt} (hdr : Doc) (rows : List (List Cell)) (u : Units) (lf : Option ℚ)
    (st : DSC) (hlf : lengthFactor u = .ok lf) (hc : CleanDoc hdr) (hne : (hdr.all fun l => !l.isEmpty) = true)
    (hrows : ∀ r ∈ rows, r ≠ []) (hrun : dsLoopA lf hdr ({}, none) = .ok (st, some [])) (hs : st.idle)
    (symbols : Option (List (Option String))) (given : Option (List PCol)) :
    loadDump (renderLines (hdr ++ rowsDoc f rows)) symbols given u =
      loadDumpCore st (some (rowsDoc f rows)) symbols given u := by
  unfold loadDump
  rw [loadDumpLines_eq_rows, rowsOfN_render _ (cleanDoc_append _ _ hc (cleanDoc_rowsDoc f rows)),
    filter_nonempty _ fun l hl => (List.mem_append.mp hl).elim
      (fun h e => by simpa [e] using List.all_eq_true.mp hne l h) (rowsDoc_ne_nil rows hrows l)]
  unfold loadDumpRows
  simp only [hlf, bind, Except.bind]
  rw [dsLoopA_append, hrun]
  simp only [Except.bind]
  rw [dsLoopA_idle_rows lf _ _ _ hs (rowsDoc_heads rows)]
  rfl

theorem tiltLo_eq_min4 (xy xz : ℚ) : tiltLo xy xz = min4 0 xy xz (xy + xz) := rfl
theorem tiltHi_eq_max4 (xy xz : ℚ) : tiltHi xy xz = max4 0 xy xz (xy + xz) := rfl

theorem minR0_eq_min4 (yz : ℚ) : minR 0 yz = min4 0 yz 0 0 := by
  unfold minR min4
  simp only []
  split_ifs <;> first | rfl | linarith

theorem maxR0_eq_max4 (yz : ℚ) : maxR 0 yz = max4 0 yz 0 0 := by
  unfold maxR max4
  simp only []
  split_ifs <;> first | rfl | linarith

/-- DESIGN's `load_eq_independent_parse` for the bounds of a dump file: in file units the lo/hi values the loader derives from the
    printed bounding box and tilts are those of `C07.hiLoOfBBox`, the inverse map of the LAMMPS manual used by the
    independent parser. -/
theorem dump_bounds_eq_independent (f : Fmt) (n : Nat) (pbc : V3 Bool) (bb : BBox) (xy xz yz : ℚ) (names : Line) :
    let st := triState f none n pbc bb xy xz yz names
    let h := hiLoOfBBox ⟨fmtVal f bb.xlo, fmtVal f bb.xhi, fmtVal f bb.ylo, fmtVal f bb.yhi, fmtVal f bb.zlo,
      fmtVal f bb.zhi⟩ (fmtVal f xy) (fmtVal f xz) (fmtVal f yz)
    st.xlo = some h.xlo ∧ st.xhi = some h.xhi ∧ st.ylo = some h.ylo ∧ st.yhi = some h.yhi ∧
    st.zlo = some h.zlo ∧ st.zhi = some h.zhi ∧ st.xy = h.xy ∧ st.xz = h.xz ∧ st.yz = h.yz := by
  simp [triState, hiLoOfBBox, mulBy, tiltLo_eq_min4, tiltHi_eq_max4, minR0_eq_min4, maxR0_eq_max4]

/-- the state of the loader's header loop after the header of the dump file written for `s`. -/
def dumpState (f : Fmt) (lf : Option ℚ) (s : Sys) (props : List (String × List Nat)) : DSC :=
  if isOrtho (dumpHiLo s lf) then orthoState f lf s.natoms s.pbc (bboxOf (dumpHiLo s lf)) (dumpNames props)
  else triState f lf s.natoms s.pbc (bboxOf (dumpHiLo s lf)) (dumpHiLo s lf).xy (dumpHiLo s lf).xz (dumpHiLo s lf).yz
    (dumpNames props)

/-- **load ∘ dump for dump files, through the header**: for every dump file the C07 writer emits, the loader ends its
    header loop in `dumpState` — number of atoms, `pp` flags, bounds with the tilt extents removed, all from the
    printed numbers converted with the length unit — and hands `loadDumpCore` exactly the written rows. -/
theorem loadDump_writeDump {f : Fmt} (s : Sys) (props : List (String × List Nat)) (u : Units)
    (ts : Int) (text : List Char) (hw : writeDump s props u f ts = .ok text)
    (hnames : ∀ t ∈ dumpNames props, CleanTok t) :
    ∃ lf rows, lengthFactor u = .ok lf ∧ tableRows s u (dumpIds s) s.pos (dumpCols props) [] = .ok rows ∧
      hasDup (dumpIds s) = false ∧
      ((∀ r ∈ rows, r ≠ []) → ∀ symbols given,
        loadDump text symbols given u = loadDumpCore (dumpState f lf s props) (some (rowsDoc f rows)) symbols given u) := by
  obtain ⟨doc, hd, rfl⟩ := map_ok hw
  obtain ⟨lf, rows, -, hlf, hdup, hrows, rfl⟩ := writeDumpDoc_ok s props u f ts doc hd
  refine ⟨lf, rows, hlf, hrows, hdup, fun hr symbols given => ?_⟩
  rw [dumpDoc_eq, show (hiLoOf s.box).map (divBy lf) = dumpHiLo s lf from rfl, dumpState]
  by_cases ho : isOrtho (dumpHiLo s lf) <;> simp only [ho, if_true, if_false]
  · exact loadDump_header_rows _ rows u lf _ hlf (cleanDoc_headerOrtho _ _ _ _ _ hnames)
      rfl hr (dsLoopA_ortho lf _ _ _ _ _) (DSC.idle_of _ rfl rfl rfl) symbols given
  · exact loadDump_header_rows _ rows u lf _ hlf (cleanDoc_headerTri _ _ _ _ _ _ _ _ hnames)
      rfl hr (dsLoopA_tri lf _ _ _ _ _ _ _ _) (DSC.idle_of _ rfl rfl rfl) symbols given

end Atomman.C08
