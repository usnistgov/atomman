/-
  C01_Source — the definitions regenerated on every run from atomman/core/Box.py, region/Plane.py, region/Shape.py, tools/vect_angle.py and
  the two wrappers of core/System.py (`Atomman/Generated/BoxSource.lean`, written by `translate()` of harness/props/c01.py) are the
  hand-written model, and the hidden state / write protocol of the class is the one `CBox` has.  If a formula, a guard, the set of private
  attributes, who writes them, or the unconditional cache drop of the `vects` setter changes, this file stops compiling (or the translator refuses).
-/
import Proofs.C01_Lemmas
import Atomman.Generated.BoxSource
import Mathlib.Algebra.Order.Field.Basic

namespace Atomman.C01
open Atomman
set_option linter.unusedSectionVars false

variable {K : Type} [Field K] [LinearOrder K] [IsStrictOrderedRing K]

/-- the class has exactly the three private attributes of the object model (`box.vects`, `box.origin`,
    `cache`); only `__init__` and the two property setters store to the cell, only the `vects` setter,
    `__init__` and the `reciprocal_vects` getter store to the cache; the `vects` setter copies the numbers
    in and then drops the cache unconditionally; the `origin` setter copies and does nothing else; the three
    getters hand out copies; every `set_*` goes through both property setters. -/
theorem src_state_protocol :
    Generated.BoxSource.hiddenState = ["origin", "reciprocal_vects", "vects"] ∧
    Generated.BoxSource.directWrites =
      [("__init__", ["origin", "reciprocal_vects", "vects"]), ("origin.setter", ["origin"]),
       ("reciprocal_vects", ["reciprocal_vects"]), ("vects.setter", ["reciprocal_vects", "vects"])] ∧
    Generated.BoxSource.vectsSetterCopies = true ∧ Generated.BoxSource.vectsSetterDropsCache = true ∧
    Generated.BoxSource.originSetterCopies = true ∧ Generated.BoxSource.vectsGetterCopies = true ∧
    Generated.BoxSource.originGetterCopies = true ∧ Generated.BoxSource.recipGetterCopies = true ∧
    Generated.BoxSource.setterAssigns =
      [("set_vectors", true, true), ("set_lengths", true, true), ("set_hi_los", true, true),
       ("set_abc", true, true)] := by
  refine ⟨rfl, rfl, rfl, rfl, rfl, rfl, rfl, rfl, rfl⟩

theorem src_r2c (b : Box K) (s : V3 K) : Generated.BoxSource.r2c b.vects b.origin s = b.relToCart s := rfl

theorem src_c2r (b : Box K) (p : V3 K) : Generated.BoxSource.c2r b.origin b.recip p = b.cartToRel p := rfl

theorem src_cacheFill (b : Box K) : Generated.BoxSource.cacheFill b.vects = b.recip := rfl

/-- the object model's cached read uses the source's two formulas. -/
theorem src_obj_c2r (c : CBox K) (p : V3 K) (hd : c.box.vects.det ≠ 0) (hc : c.cache = none) :
    (c.read (.c2r p)).2 =
      .vec (Generated.BoxSource.c2r c.box.origin (Generated.BoxSource.cacheFill c.box.vects) p) := by
  simp [CBox.read, CBox.recip?, hc, hd, Generated.BoxSource.c2r, Generated.BoxSource.cacheFill, Box.recip]

example : ∃ c : CBox ℚ, c.box.vects.det ≠ 0 ∧ c.cache = none ∧ c.box.origin ≠ ⟨0, 0, 0⟩ :=
  ⟨⟨⟨⟨⟨2, 0, 0⟩, ⟨1, 3, 0⟩, ⟨0, 1, 4⟩⟩, ⟨1, 2, 3⟩⟩, none⟩, by decide +kernel, rfl, by decide +kernel⟩

theorem src_planes (b : Box K) : Generated.BoxSource.planes b.vects b.origin = planes b := rfl

theorem src_volume (b : Box K) : Generated.BoxSource.volume b.vects = volume b := rfl

theorem src_isLammpsNorm (b : Box K) : Generated.BoxSource.isLammpsNorm b.vects = b.isLammpsNorm := by
  simp [Generated.BoxSource.isLammpsNorm, Box.isLammpsNorm]

/-- the twelve LAMMPS getters. -/
theorem src_lammps_getters (b : Box K) (h : b.isLammpsNorm = true) :
    lengths? b = some ⟨Generated.BoxSource.lx b.vects b.origin, Generated.BoxSource.ly b.vects b.origin,
      Generated.BoxSource.lz b.vects b.origin, Generated.BoxSource.xy b.vects b.origin,
      Generated.BoxSource.xz b.vects b.origin, Generated.BoxSource.yz b.vects b.origin⟩ ∧
    hilos? b = some ⟨Generated.BoxSource.xlo b.vects b.origin, Generated.BoxSource.xhi b.vects b.origin,
      Generated.BoxSource.ylo b.vects b.origin, Generated.BoxSource.yhi b.vects b.origin,
      Generated.BoxSource.zlo b.vects b.origin, Generated.BoxSource.zhi b.vects b.origin,
      Generated.BoxSource.xy b.vects b.origin, Generated.BoxSource.xz b.vects b.origin,
      Generated.BoxSource.yz b.vects b.origin⟩ := by
  rw [lengths?, hilos?, if_pos h, if_pos h]
  exact ⟨rfl, rfl⟩

/-- the values under the square roots of `a`, `b`, `c`. -/
theorem src_abc_sq (b : Box K) :
    Generated.BoxSource.aSq b.vects = a2 b ∧ Generated.BoxSource.bSq b.vects = b2 b ∧
    Generated.BoxSource.cSq b.vects = c2 b := ⟨rfl, rfl, rfl⟩

/-- `set_lengths`: guard and matrix. -/
theorem src_set_lengths (p : Lengths K) (o : V3 K) :
    ofLengthsP? p o =
      if Generated.BoxSource.lengthsOk p.lx p.ly p.lz = true then
        some ⟨Generated.BoxSource.lengthsVects p.lx p.ly p.lz p.xy p.xz p.yz, o⟩ else none := by
  simp only [ofLengthsP?, Box.ofLengths?, Generated.BoxSource.lengthsOk, Generated.BoxSource.lengthsVects,
    Bool.and_eq_true, decide_eq_true_eq, and_assoc]

/-- `set_hi_los` = `set_lengths` of the differences with origin `(xlo, ylo, zlo)`. -/
theorem src_set_hi_los (p : HiLos K) :
    ofHiLosP? p = ofLengthsP? (Generated.BoxSource.hilosLengths p.xlo p.xhi p.ylo p.yhi p.zlo p.zhi p.xy p.xz p.yz)
      (Generated.BoxSource.hilosOrigin p.xlo p.ylo p.zlo) := rfl

/-- `set_abc`: what goes to `set_lengths`, and the two radicands. -/
theorem src_set_abc (a b c ca cb cg ly lz : K) :
    Generated.BoxSource.abcLengths a b c ca cb cg ly lz = abcLengths a b c ca cb cg ly lz ∧
    Generated.BoxSource.abcLySq a b c ca cb cg = abcLySq b cg ∧
    Generated.BoxSource.abcLzSq a b c ca cb cg ly = abcLzSq b c ca cb cg ly := ⟨rfl, rfl, rfl⟩

/-- the angle guard of `set_abc` rejects exactly what `anglesOk` does not accept. -/
theorem src_angles (al be ga : K) : Generated.BoxSource.anglesRejected al be ga = !anglesOk al be ga := by
  simp only [Generated.BoxSource.anglesRejected, anglesOk, Bool.not_and, Bool.or_assoc]
  simp only [← not_lt, decide_not]

/-- `tools/vect_angle.py`: each vector is divided by its own `np.linalg.norm`, the cosine is the inner product of the two unit vectors
    (`angleCos` of the model), clamped and turned into degrees; `alpha beta gamma` call it with rows (1,2), (0,2), (0,1) of `vects`. -/
theorem src_vect_angle (u v : V3 K) (n1 n2 : K) :
    Generated.BoxSource.vectAngleCos u v n1 n2 = angleCos u v n1 n2 ∧
    Generated.BoxSource.vectAngleClampsAndDegrees = true ∧
    Generated.BoxSource.angleGetters = [("alpha", 1, 2), ("beta", 0, 2), ("gamma", 0, 1)] := ⟨rfl, rfl, rfl⟩

/-- `Plane.below` with the stored normal `normal / λ`. -/
theorem src_below (pl : RawPlane K) (lam : K) (p : V3 K) (incl : Bool) :
    below pl lam p incl = Generated.BoxSource.planeBelow (vdiv pl.normal lam) pl.point p incl := rfl

/-- `Box.inside` is the conjunction of `Plane.below` over the six planes of `Box.planes` (in the
    order the source lists them, each with the caller's `inclusive`), `Plane` normalises the normal and
    keeps the point, and `outside` is the negated `inside` with the opposite flag. -/
theorem src_inside (b : Box K) (lam : Lams K) (p : V3 K) (incl : Bool) :
    Generated.BoxSource.insidePlanes = [0, 1, 2, 3, 4, 5] ∧
    Generated.BoxSource.planeStoresUnitNormalAndPoint = true ∧
    Generated.BoxSource.outsideIsNotInsideOpposite = true ∧
    inside b lam p incl =
      ((Generated.BoxSource.planes b.vects b.origin).zip lam.toList).all
        (fun pl => Generated.BoxSource.planeBelow (vdiv pl.1.normal pl.2) pl.1.point p incl) ∧
    outside b lam p incl = !inside b lam p (!incl) := by
  refine ⟨rfl, rfl, rfl, ?_, rfl⟩
  simp only [Generated.BoxSource.planes, Lams.toList, List.zip_cons_cons, List.zip_nil_right, List.all_cons,
    List.all_nil, Bool.and_true, inside, below, Generated.BoxSource.planeBelow, Bool.and_assoc]

/-- which parameter set a branch of the source's `if / elif` chain stands for. -/
def famOfAction : String → Option SetFamily
  | "inline:vects" => some .vects
  | "set_vectors" => some .vectors
  | "set_lengths" => some .lengths
  | "set_hi_los" => some .hilos
  | "set_abc" => some .abc
  | "inline:origin" => some .origin
  | _ => none

/-- `Box.set` is the chain `setChain` of the model (same keys, same order, each branch handing *all* keywords to
    its `set_*` method resp. popping `vects`/`origin` — default origin `[0.0, 0.0, 0.0]` — and asserting that
    nothing is left), preceded by the unit-cell branch and ending in `raise TypeError`; the `set_*` methods have
    the parameters of `sigVectors … sigHiLos` in that order (so a positional call means what the documentation
    says) with the documented defaults; `__init__` allocates fresh state per instance; the seven family
    constructors pass the documented lengths and angles. -/
theorem src_set_dispatch :
    Generated.BoxSource.setUnitBranch = true ∧
    Generated.BoxSource.setChainSrc.map (fun p => (p.1, famOfAction p.2)) = setChain.map (fun p => (p.1, some p.2)) ∧
    Generated.BoxSource.setElseRaisesTypeError = true ∧
    Generated.BoxSource.signatures =
      [("set_vectors", sigVectors), ("set_abc", sigAbc), ("set_lengths", sigLengths), ("set_hi_los", sigHiLos)] ∧
    Generated.BoxSource.defaults =
      [("set_vectors", [("origin", "None")]),
       ("set_abc", [("alpha", "90.0"), ("beta", "90.0"), ("gamma", "90.0"), ("origin", "None")]),
       ("set_lengths", [("xy", "0.0"), ("xz", "0.0"), ("yz", "0.0"), ("origin", "None")]),
       ("set_hi_los", [("xy", "0.0"), ("xz", "0.0"), ("yz", "0.0")])] ∧
    Generated.BoxSource.initFreshState = true ∧
    Generated.BoxSource.familyCalls =
      [("cubic", "a", "cls(a=a, b=a, c=a, alpha=90, beta=90, gamma=90)"),
       ("hexagonal", "a, c", "cls(a=a, b=a, c=c, alpha=90, beta=90, gamma=120)"),
       ("tetragonal", "a, c", "cls(a=a, b=a, c=c, alpha=90, beta=90, gamma=90)"),
       ("trigonal", "a, alpha", "cls(a=a, b=a, c=a, alpha=alpha, beta=alpha, gamma=alpha)"),
       ("orthorhombic", "a, b, c", "cls(a=a, b=b, c=c, alpha=90, beta=90, gamma=90)"),
       ("monoclinic", "a, b, c, beta", "cls(a=a, b=b, c=c, alpha=90, beta=beta, gamma=90)"),
       ("triclinic", "a, b, c, alpha, beta, gamma", "cls(a=a, b=b, c=c, alpha=alpha, beta=beta, gamma=gamma)")] := by
  refine ⟨rfl, rfl, rfl, rfl, rfl, rfl, rfl⟩

/-- the `atol=1e-9` literal of the source is the threshold the driver runs the model with. -/
theorem gen_cleanupAtol_eq_model :
    Generated.BoxSource.cleanupAtolNum = atolNum ∧ Generated.BoxSource.cleanupAtolDen = atolDen := ⟨rfl, rfl⟩

/-- one entry: the source divides by the largest entry and compares with `atol`, the model multiplies out
    (`M > 0`; for `M = 0` the entry is `0` and both leave `0`). -/
theorem gen_cleanupEntry_eq_model (thr M x : K) (hM : 0 < M) :
    Generated.BoxSource.cleanupEntry thr M x = cleanEntry thr M x := by
  simp only [Generated.BoxSource.cleanupEntry, cleanEntry, absK_eq_abs, abs_div, abs_of_pos hM, div_le_iff₀ hM]

/-- for an entry no larger than `M` the side condition can go: `M = 0` forces the entry to be `0`, which both keep. -/
theorem cleanupEntry_eq_of_abs_le (thr M x : K) (hx : |x| ≤ M) :
    Generated.BoxSource.cleanupEntry thr M x = cleanEntry thr M x := by
  rcases (le_trans (abs_nonneg x) hx).lt_or_eq with hM | hM
  · exact gen_cleanupEntry_eq_model thr M x hM
  · obtain rfl : x = 0 := abs_eq_zero.mp (le_antisymm (hM ▸ hx) (abs_nonneg x))
    simp only [Generated.BoxSource.cleanupEntry, cleanEntry, ite_self]

/-- **the clean-up statement of the `vects` setter, regenerated from the source, is the model's `cleanVects`** — for every
    matrix and every threshold (no side condition). -/
theorem gen_cleanup_eq_model (thr : K) (m : M3 K) : Generated.BoxSource.cleanupVects thr m = cleanVects thr m := by
  obtain ⟨h1, h2, h3, h4, h5, h6, h7, h8, h9⟩ := (maxAbs_le_iff m _).mp le_rfl
  simp only [Generated.BoxSource.cleanupVects, cleanVects, cleanV, cleanupEntry_eq_of_abs_le _ _ _ h1,
    cleanupEntry_eq_of_abs_le _ _ _ h2, cleanupEntry_eq_of_abs_le _ _ _ h3, cleanupEntry_eq_of_abs_le _ _ _ h4,
    cleanupEntry_eq_of_abs_le _ _ _ h5, cleanupEntry_eq_of_abs_le _ _ _ h6, cleanupEntry_eq_of_abs_le _ _ _ h7,
    cleanupEntry_eq_of_abs_le _ _ _ h8, cleanupEntry_eq_of_abs_le _ _ _ h9]

example : ∃ (thr : ℚ) (m : M3 ℚ), 0 < thr ∧ cleanVects thr m ≠ m ∧ (cleanVects thr m).r0.x ≠ 0 :=
  ⟨1/1000, ⟨⟨4, 1/1000, 0⟩, ⟨1, 3, 0⟩, ⟨0, 1, 5⟩⟩, by decide +kernel, by decide +kernel, by decide +kernel⟩

/-- the getters `a b c` with the root in place. -/
theorem gen_lengths_eq_model (T : Trig K) (b : Box K) :
    Generated.BoxSource.aLen T b.vects = lenOf T b.vects.r0 ∧ Generated.BoxSource.bLen T b.vects = lenOf T b.vects.r1 ∧
    Generated.BoxSource.cLen T b.vects = lenOf T b.vects.r2 := ⟨rfl, rfl, rfl⟩

/-- the clamp of `vect_angle` (scalar and array branch agree, checked by the translator). -/
theorem gen_clamp_eq_model (c : K) : Generated.BoxSource.vectAngleClamp c = clampCos c := rfl

/-- `vect_angle` down to the angle in degrees = the model's `angleDeg`. -/
theorem gen_angleDeg_eq_model (T : Trig K) (u v : V3 K) : Generated.BoxSource.vectAngleDeg T u v = angleDeg T u v := rfl

/-- the straight-line part of `set_abc` with the library calls in place = the model's `abcOfDeg`. -/
theorem gen_abcOfDeg_eq_model (T : Trig K) (a b c al be ga : K) :
    Generated.BoxSource.abcOfDegSrc T a b c al be ga = abcOfDeg T a b c al be ga := rfl

/-- shapes: both conversions refuse exactly a trailing dimension other than 3 (`convShape`); `Plane.below` contracts the
    trailing axis (`insideShape`). -/
theorem gen_shapes_eq_model (sh : List Nat) (d : Nat) (h : sh.getLast? = some d) :
    Generated.BoxSource.r2cTrailingDim = 3 ∧ Generated.BoxSource.c2rTrailingDim = 3 ∧
    Generated.BoxSource.belowInnerOverLastAxis = true ∧
    (convShape sh = .errValue ↔ d ≠ Generated.BoxSource.r2cTrailingDim) ∧
    (convShape sh = .ok sh ↔ d = Generated.BoxSource.c2rTrailingDim) := by
  refine ⟨rfl, rfl, rfl, ?_, ?_⟩
  · simp only [convShape, h, Generated.BoxSource.r2cTrailingDim]
    by_cases hd : d = 3 <;> simp [hd]
  · simp only [convShape, h, Generated.BoxSource.c2rTrailingDim]
    by_cases hd : d = 3 <;> simp [hd]

/-- `System.scale` / `System.unscale` are the two conversions of the system's box. -/
theorem gen_system_wrappers :
    Generated.BoxSource.systemWrappers =
      [("scale", "self.box.position_cartesian_to_relative(value)"),
       ("unscale", "self.box.position_relative_to_cartesian(value)")] := rfl

/-- the seven crystal-family constructors, regenerated (own guards in order, keywords handed to `cls(...)`) = the model's
    `Ctor.params?`. -/
theorem gen_family_ctors_eq_model (a b c al be ga : K) :
    Generated.BoxSource.cubicSrc a = (Ctor.cubic a).params? ∧
    Generated.BoxSource.hexagonalSrc a c = (Ctor.hexagonal a c).params? ∧
    Generated.BoxSource.tetragonalSrc a c = (Ctor.tetragonal a c).params? ∧
    Generated.BoxSource.trigonalSrc a al = (Ctor.trigonal a al).params? ∧
    Generated.BoxSource.orthorhombicSrc a b c = (Ctor.orthorhombic a b c).params? ∧
    Generated.BoxSource.monoclinicSrc a b c be = (Ctor.monoclinic a b c be).params? ∧
    Generated.BoxSource.triclinicSrc a b c al be ga = (Ctor.triclinic a b c al be ga).params? := by
  refine ⟨rfl, ?_, ?_, ?_, ?_, ?_, ?_⟩ <;>
    simp only [Generated.BoxSource.hexagonalSrc, Generated.BoxSource.tetragonalSrc, Generated.BoxSource.trigonalSrc,
      Generated.BoxSource.orthorhombicSrc, Generated.BoxSource.monoclinicSrc, Generated.BoxSource.triclinicSrc,
      Ctor.params?, Bool.or_eq_true, decide_eq_true_eq]

/-- `avect bvect cvect` are rows 0, 1, 2; `Plane(normal, point)` keeps the order of its arguments; `Box(**kwargs)` hands
    every keyword set except `model` to `set(**kwargs)`. -/
theorem gen_glue_pins :
    Generated.BoxSource.vectGetters = [("avect", 0), ("bvect", 1), ("cvect", 2)] ∧
    Generated.BoxSource.planeInitNormalThenPoint = true ∧ Generated.BoxSource.initHandsKeywordsToSet = true :=
  ⟨rfl, rfl, rfl⟩

end Atomman.C01
