/-
  C05 — the cell `normalize` builds: same Gram matrix ⇒ related by a rotation (`gram_eq_rotation`); the reversal of a left-handed
  cell (`flip`); the rebuilt cell as the Cholesky factor of the Gram matrix (`gram_lower`, `abcBox_spec`, `gram_schur`); what
  `normalize?` returns read off (`normalize_full_spec`); the angle check of `set_abc`, which passes exactly when no two cell vectors
  are parallel (`angleGuard_iff`).  Defined here: `SqrtAt`, `SqrtOK` (what is assumed of `x**0.5`), `normPos`, `normFlags`.
-/
import Proofs.C05_Lemmas
import Mathlib.Tactic.LinearCombination

namespace Atomman.C05
open Atomman
-- the `variable` lines give every theorem of a section the same instances, needed or not
set_option linter.unusedSectionVars false

section m3
variable {K : Type} [Field K]

theorem M3.transpose_transpose (A : M3 K) : A.transpose.transpose = A := rfl

theorem M3.inv_mul_cancel (A : M3 K) (h : M3.det A ≠ 0) : M3.mul (M3.inv A) A = M3.one :=
  Atomman.M3.inv_mul_cancel A h

theorem M3.det_inv (A : M3 K) (h : M3.det A ≠ 0) : M3.det (M3.inv A) * M3.det A = 1 := by
  rw [← M3.det_mul, M3.inv_mul_cancel A h, M3.det_one]

/-- **gram_eq_rotation** (algebraic core of the rotation clause): two non-singular cells with the same
    Gram matrix `V Vᵀ` are related by `R = M⁻¹ N` with `R Rᵀ = 1`, `Rᵀ R = 1` and `M R = N`. -/
theorem gram_eq_rotation (M N : M3 K) (hM : M3.det M ≠ 0) (hg : gram N = gram M) :
    let R := M3.mul (M3.inv M) N
    M3.mul M R = N ∧ M3.mul R R.transpose = M3.one ∧ M3.mul R.transpose R = M3.one ∧
    M3.det R * M3.det R = 1 :=
  Atomman.M3.rotation_of_gram_eq M N hM hg

end m3

section abc
variable {K : Type} [Field K] [LinearOrder K] [IsStrictOrderedRing K]

/-- what is assumed of `x**0.5` at one argument. -/
def SqrtAt (sqrt : K → K) (x : K) : Prop := sqrt x * sqrt x = x ∧ 0 < sqrt x

/-- the five square roots `set_abc`/`Box.a,b,c` take for the cell `v`. -/
structure SqrtOK (sqrt : K → K) (v : M3 K) : Prop where
  a : SqrtAt sqrt (V3.normSq v.r0)
  b : SqrtAt sqrt (V3.normSq v.r1)
  c : SqrtAt sqrt (V3.normSq v.r2)
  ly : SqrtAt sqrt (lyArg sqrt v)
  lz : SqrtAt sqrt (lzArg sqrt v)

theorem triple_eq_det (v : M3 K) : triple v = M3.det v :=
  (V3.dot_comm _ _).trans (M3.det_rotate' v).symm

theorem gram_entries (v : M3 K) :
    gram v = ⟨⟨V3.normSq v.r0, V3.dot v.r0 v.r1, V3.dot v.r0 v.r2⟩,
              ⟨V3.dot v.r0 v.r1, V3.normSq v.r1, V3.dot v.r1 v.r2⟩,
              ⟨V3.dot v.r0 v.r2, V3.dot v.r1 v.r2, V3.normSq v.r2⟩⟩ := by
  obtain ⟨⟨a0, a1, a2⟩, ⟨a3, a4, a5⟩, ⟨a6, a7, a8⟩⟩ := v
  apply M3.ext <;> apply V3.ext <;>
    simp only [gram, M3.mul, M3.vecMul, M3.transpose, V3.normSq, V3.dot] <;> ring

theorem det_gram (v : M3 K) : M3.det (gram v) = M3.det v * M3.det v := by
  rw [gram, M3.det_mul, M3.det_transpose]

/-- lower triangular: the shape `set_lengths` writes. -/
theorem gram_lower (lx xy ly xz yz lz : K) :
    gram ⟨⟨lx, 0, 0⟩, ⟨xy, ly, 0⟩, ⟨xz, yz, lz⟩⟩
      = ⟨⟨lx * lx, lx * xy, lx * xz⟩, ⟨lx * xy, xy * xy + ly * ly, xy * xz + ly * yz⟩,
         ⟨lx * xz, xy * xz + ly * yz, xz * xz + yz * yz + lz * lz⟩⟩ := by
  simp only [gram, M3.mul, M3.vecMul, M3.transpose, M3.mk.injEq, V3.mk.injEq]
  refine ⟨⟨?_, ?_, ?_⟩, ⟨?_, ?_, ?_⟩, ⟨?_, ?_, trivial⟩⟩ <;> ring

theorem lammpsNorm_form (b : Box K) (h : Box.isLammpsNorm b = true) :
    ∃ lx xy ly xz yz lz : K, b.vects = ⟨⟨lx, 0, 0⟩, ⟨xy, ly, 0⟩, ⟨xz, yz, lz⟩⟩ ∧ 0 < lx ∧ 0 < ly ∧ 0 < lz :=
  ⟨_, _, _, _, _, _, Box.vects_eq_of_normal b h, ((Box.isLammpsNorm_iff b).mp h).2.2.2⟩

theorem mul_div_mul_self {a b d : K} (hb : b ≠ 0) : b * (d / (a * b)) = d / a := by
  rw [mul_div_assoc', mul_comm, mul_div_mul_right _ _ hb]

/-- the tilt factors `set_abc` computes, with `cos(arccos x) = x` applied: `xy = a·b/|a|`, `xz = a·c/|a|`, and the numerator
    of `yz`. -/
theorem tilt_closed_form (sqrt : K → K) (v : M3 K) (hb : SqrtAt sqrt (V3.normSq v.r1)) (hc : SqrtAt sqrt (V3.normSq v.r2)) :
    tiltXY sqrt v = V3.dot v.r0 v.r1 / lenA sqrt v ∧ tiltXZ sqrt v = V3.dot v.r0 v.r2 / lenA sqrt v ∧
    tiltYZ sqrt v = (V3.dot v.r1 v.r2 - tiltXY sqrt v * tiltXZ sqrt v) / lenLy sqrt v := by
  have hB : lenB sqrt v ≠ 0 := hb.2.ne'
  have hC : lenC sqrt v ≠ 0 := hc.2.ne'
  refine ⟨mul_div_mul_self hB, mul_div_mul_self hC, ?_⟩
  rw [tiltYZ, cosAlpha, mul_div_cancel₀ _ (mul_ne_zero hB hC)]

/-- the cell rebuilt from lengths and cosines: defined, LAMMPS-normal, origin 0, same Gram matrix,
    positive determinant. -/
theorem abcBox_spec (sqrt : K → K) (v : M3 K) (hs : SqrtOK sqrt v) :
    ∃ b2 : Box K, abcBox? sqrt v = some b2 ∧ b2.origin = ⟨0, 0, 0⟩ ∧ Box.isLammpsNorm b2 = true ∧
      gram b2.vects = gram v ∧ 0 < M3.det b2.vects := by
  obtain ⟨⟨eA, hA⟩, ⟨eB, hB⟩, ⟨eC, hC⟩, ⟨eLY, hLY⟩, ⟨eLZ, hLZ⟩⟩ := hs
  have hA' : 0 < lenA sqrt v := hA
  have hLY' : 0 < lenLy sqrt v := hLY
  have hLZ' : 0 < lenLz sqrt v := hLZ
  obtain ⟨exy, exz, eyz⟩ := tilt_closed_form sqrt v ⟨eB, hB⟩ ⟨eC, hC⟩
  refine ⟨⟨⟨⟨lenA sqrt v, 0, 0⟩, ⟨tiltXY sqrt v, lenLy sqrt v, 0⟩, ⟨tiltXZ sqrt v, tiltYZ sqrt v, lenLz sqrt v⟩⟩,
    ⟨0, 0, 0⟩⟩, ?_, rfl, ?_, ?_, ?_⟩
  · simp only [abcBox?, Box.ofLengths?, hA', hLY', hLZ', and_self, if_true]
  · simp only [Box.isLammpsNorm, hA', hLY', hLZ', decide_true, Bool.and_self]
  · -- the six equations of the Cholesky factorisation
    have g00 : lenA sqrt v * lenA sqrt v = V3.normSq v.r0 := eA
    have g01 : lenA sqrt v * tiltXY sqrt v = V3.dot v.r0 v.r1 := by rw [exy, mul_div_cancel₀ _ hA'.ne']
    have g02 : lenA sqrt v * tiltXZ sqrt v = V3.dot v.r0 v.r2 := by rw [exz, mul_div_cancel₀ _ hA'.ne']
    have g12 : tiltXY sqrt v * tiltXZ sqrt v + lenLy sqrt v * tiltYZ sqrt v = V3.dot v.r1 v.r2 := by
      rw [eyz, mul_div_cancel₀ _ hLY'.ne', add_sub_cancel]
    have g11 : tiltXY sqrt v * tiltXY sqrt v + lenLy sqrt v * lenLy sqrt v = V3.normSq v.r1 := by
      rw [← eB]; exact add_eq_of_eq_sub' eLY
    have g22 : tiltXZ sqrt v * tiltXZ sqrt v + tiltYZ sqrt v * tiltYZ sqrt v + lenLz sqrt v * lenLz sqrt v
        = V3.normSq v.r2 := by
      have eLZ' : lenLz sqrt v * lenLz sqrt v
          = lenC sqrt v * lenC sqrt v - tiltXZ sqrt v * tiltXZ sqrt v - tiltYZ sqrt v * tiltYZ sqrt v := eLZ
      have eC' : lenC sqrt v * lenC sqrt v = V3.normSq v.r2 := eC
      rw [← eC']; linear_combination eLZ'
    rw [gram_lower, gram_entries, g00, g01, g02, g12, g11, g22]
  · rw [M3.det_lower]
    exact mul_pos (mul_pos hA' hLY') hLZ'
end abc

section norm
variable {K : Type} [Field K] [LinearOrder K] [IsStrictOrderedRing K]

theorem flip_of_neg {b : Box K} (h : triple b.vects < 0) : flip b = flipC b := if_pos h
theorem flip_of_not_neg {b : Box K} (h : ¬ triple b.vects < 0) : flip b = b := if_neg h

theorem det_flipC (b : Box K) : M3.det (flipC b).vects = - M3.det b.vects := by
  obtain ⟨⟨⟨a0, a1, a2⟩, ⟨a3, a4, a5⟩, ⟨a6, a7, a8⟩⟩, o⟩ := b
  simp only [flipC, M3.det, V3.dot, V3.cross, V3.neg_def]; ring

theorem flip_det_pos (b : Box K) (hdet : M3.det b.vects ≠ 0) : 0 < M3.det (flip b).vects := by
  simp only [flip]
  split
  · rename_i h; rw [triple_eq_det] at h; rw [det_flipC]; linarith
  · rename_i h; rw [triple_eq_det] at h
    exact lt_of_le_of_ne (not_lt.mp h) (Ne.symm hdet)

theorem relToCart_flipC (b : Box K) (s : V3 K) : (flipC b).relToCart ⟨s.x, s.y, 1 - s.z⟩ = b.relToCart s := by
  obtain ⟨⟨⟨a0, a1, a2⟩, ⟨a3, a4, a5⟩, ⟨a6, a7, a8⟩⟩, ⟨o0, o1, o2⟩⟩ := b
  simp only [flipC, Box.relToCart, M3.vecMul, V3.add_def, V3.neg_def, V3.mk.injEq]
  refine ⟨?_, ?_, ?_⟩ <;> ring

theorem latticeVec_flipC (b : Box K) (f : V3 Int) :
    latticeVec (flipC b).vects f = latticeVec b.vects ⟨f.x, f.y, -f.z⟩ := by
  obtain ⟨⟨⟨a0, a1, a2⟩, ⟨a3, a4, a5⟩, ⟨a6, a7, a8⟩⟩, ⟨o0, o1, o2⟩⟩ := b
  simp only [flipC, latticeVec, M3.vecMul, V3.neg_def, V3.mk.injEq, Int.cast_neg]
  refine ⟨?_, ?_, ?_⟩ <;> ring

theorem normalize_eq (fl : K → Int) (pad : K) (sqrt : K → K) (b : Box K) (pbc : V3 Bool) (pos : List (V3 K))
    (b2 : Box K) (h2 : abcBox? sqrt (flip b).vects = some b2) :
    normalize? fl pad sqrt b pbc pos =
      some ⟨(wrap fl pad b2 pbc (pos.map (fun p => b2.relToCart ((flip b).cartToRel p)))).box,
            (wrap fl pad b2 pbc (pos.map (fun p => b2.relToCart ((flip b).cartToRel p)))).pos,
            (wrap fl pad b2 pbc (pos.map (fun p => b2.relToCart ((flip b).cartToRel p)))).flags,
            (M3.mul (M3.inv (flip b).vects)
              (wrap fl pad b2 pbc (pos.map (fun p => b2.relToCart ((flip b).cartToRel p)))).box.vects).transpose⟩ := by
  simp only [normalize?, h2]

/-- new position and image flags of one atom under `normalize` of a fully periodic system whose cell
    is rebuilt as `b2`. -/
def normPos (fl : K → Int) (b1 b2 : Box K) (p : V3 K) : V3 K :=
  atomPos fl b2 ⟨true, true, true⟩ (b2.relToCart (b1.cartToRel p))
def normFlags (fl : K → Int) (b1 b2 : Box K) (p : V3 K) : V3 Int :=
  atomFlags fl b2 ⟨true, true, true⟩ (b2.relToCart (b1.cartToRel p))

theorem normPos_eq (fl : K → Int) (b1 b2 : Box K) (hd : M3.det b2.vects ≠ 0) (p : V3 K) :
    normPos fl b1 b2 p = b2.relToCart (subFlags (b1.cartToRel p) (normFlags fl b1 b2 p)) := by
  rw [normPos, atomPos, Box.cartToRel_relToCart b2 hd]
  rfl

theorem normalize_full_form (fl : K → Int) (pad : K) (sqrt : K → K) (b : Box K)
    (hs : SqrtOK sqrt (flip b).vects) (pos : List (V3 K)) :
    ∃ b2 : Box K, abcBox? sqrt (flip b).vects = some b2 ∧ b2.origin = ⟨0, 0, 0⟩ ∧ Box.isLammpsNorm b2 = true ∧
      gram b2.vects = gram (flip b).vects ∧ 0 < M3.det b2.vects ∧
      normalize? fl pad sqrt b ⟨true, true, true⟩ pos =
        some ⟨b2, pos.map (normPos fl (flip b) b2), pos.map (normFlags fl (flip b) b2),
              (M3.mul (M3.inv (flip b).vects) b2.vects).transpose⟩ := by
  obtain ⟨b2, h2, ho, hn, hg, hd⟩ := abcBox_spec sqrt (flip b).vects hs
  refine ⟨b2, h2, ho, hn, hg, hd, ?_⟩
  rw [normalize_eq fl pad sqrt b _ pos b2 h2]
  rw [wrap_box_full]
  simp only [wrap, List.map_map, Function.comp_def]
  rfl

theorem normalize_full_spec (fl : K → Int) (pad : K) (sqrt : K → K) (b : Box K)
    (hs : SqrtOK sqrt (flip b).vects) (pos : List (V3 K)) (r : Normalized K)
    (hr : normalize? fl pad sqrt b ⟨true, true, true⟩ pos = some r) :
    r.box.origin = ⟨0, 0, 0⟩ ∧ Box.isLammpsNorm r.box = true ∧ gram r.box.vects = gram (flip b).vects ∧
    0 < M3.det r.box.vects ∧ r.pos = pos.map (normPos fl (flip b) r.box) ∧
    r.flags = pos.map (normFlags fl (flip b) r.box) ∧
    r.transform = (M3.mul (M3.inv (flip b).vects) r.box.vects).transpose := by
  obtain ⟨b2, _, ho, hn, hg, hd, hr'⟩ := normalize_full_form fl pad sqrt b hs pos
  rw [hr'] at hr
  obtain rfl := Option.some.inj hr
  exact ⟨ho, hn, hg, hd, rfl, rfl, rfl⟩

theorem det_eq_of_gram_eq {M N : M3 K} (hg : gram N = gram M) (hM : 0 < M3.det M) (hN : 0 < M3.det N) :
    M3.det N = M3.det M :=
  (mul_self_inj hN.le hM.le).mp (by rw [← det_gram, ← det_gram, hg])

end norm

section misc
variable {K : Type} [Field K] [LinearOrder K] [IsStrictOrderedRing K]

theorem lagrange (u v : V3 K) :
    V3.normSq u * V3.normSq v - V3.dot u v * V3.dot u v = V3.normSq (V3.cross u v) := V3.lagrange u v

/-- `c² - xz² - yz²` in the entries of a Gram matrix `⟨⟨n0, d01, d02⟩, ⟨d01, n1, d12⟩, ⟨d02, d12, n2⟩⟩` with leading 2 x 2 minor
    `w`: the Schur complement `det G / w`. -/
theorem gram_schur (n0 n1 n2 d01 d02 d12 w : K) (h : n0 ≠ 0) (hw : w ≠ 0) (e : n0 * n1 - d01 * d01 = w) :
    n2 - d02 * d02 / n0 - (d12 - d01 * d02 / n0) * (d12 - d01 * d02 / n0) / (w / n0)
      = M3.det ⟨⟨n0, d01, d02⟩, ⟨d01, n1, d12⟩, ⟨d02, d12, n2⟩⟩ / w := by
  simp only [M3.det, V3.dot, V3.cross]
  field_simp
  rw [← e]
  ring

theorem sep_rel (B : Box K) (s t : V3 K) (n : V3 Int) :
    B.relToCart t - B.relToCart s + latticeVec B.vects n
      = M3.vecMul ⟨t.x - s.x + (n.x : K), t.y - s.y + (n.y : K), t.z - s.z + (n.z : K)⟩ B.vects := by
  rw [Box.relToCart_sub, latticeVec, ← M3.vecMul_add]
  rfl

theorem normSq_cross_pos (v : M3 K) (hdet : M3.det v ≠ 0) : 0 < V3.normSq (V3.cross v.r0 v.r1) :=
  (M3.normSq_cross_pos_of_det_ne_zero v hdet).2.2

/-- strict Cauchy-Schwarz for the cosine `vect_angle` forms (strictly inside (-1, 1): the angle is not refused by `set_abc`):
    `-1 < d/s < 1 ⇔ |d| < s ⇔ d² < s² = |u|²|v|² ⇔ 0 < |u × v|²`. -/
theorem cosStrict_iff (sqrt : K → K) (u v : V3 K) (hu : SqrtAt sqrt (V3.normSq u)) (hv : SqrtAt sqrt (V3.normSq v)) :
    cosStrict (V3.dot u v / (sqrt (V3.normSq u) * sqrt (V3.normSq v))) = true ↔ 0 < V3.normSq (V3.cross u v) := by
  have hs : 0 < sqrt (V3.normSq u) * sqrt (V3.normSq v) := mul_pos hu.2 hv.2
  have e : (sqrt (V3.normSq u) * sqrt (V3.normSq v)) * (sqrt (V3.normSq u) * sqrt (V3.normSq v))
      = V3.normSq u * V3.normSq v := by rw [mul_mul_mul_comm, hu.1, hv.1]
  rw [cosStrict, Bool.and_eq_true, decide_eq_true_eq, decide_eq_true_eq, lt_div_iff₀ hs, div_lt_one hs, neg_one_mul,
    ← abs_lt, ← abs_of_pos hs, abs_lt_iff_mul_self_lt, e, ← lagrange, sub_pos]

/-- `set_abc` accepts the three lattice angles exactly when no two cell vectors are parallel. -/
theorem angleGuard_iff (sqrt : K → K) (v : M3 K)
    (ha : SqrtAt sqrt (V3.normSq v.r0)) (hb : SqrtAt sqrt (V3.normSq v.r1)) (hc : SqrtAt sqrt (V3.normSq v.r2)) :
    angleGuard sqrt v = true ↔ 0 < V3.normSq (V3.cross v.r1 v.r2) ∧ 0 < V3.normSq (V3.cross v.r0 v.r2) ∧
      0 < V3.normSq (V3.cross v.r0 v.r1) := by
  rw [angleGuard, Bool.and_eq_true, Bool.and_eq_true, and_assoc]
  exact and_congr (cosStrict_iff sqrt _ _ hb hc) (and_congr (cosStrict_iff sqrt _ _ ha hc) (cosStrict_iff sqrt _ _ ha hb))

/-- **angleGuard_of_det_ne_zero**: the lattice angles of a non-singular cell pass the check of `set_abc`. -/
theorem angleGuard_of_det_ne_zero (sqrt : K → K) (v : M3 K) (hdet : M3.det v ≠ 0)
    (ha : SqrtAt sqrt (V3.normSq v.r0)) (hb : SqrtAt sqrt (V3.normSq v.r1)) (hc : SqrtAt sqrt (V3.normSq v.r2)) :
    angleGuard sqrt v = true :=
  (angleGuard_iff sqrt v ha hb hc).mpr (M3.normSq_cross_pos_of_det_ne_zero v hdet)

end misc

end Atomman.C05
