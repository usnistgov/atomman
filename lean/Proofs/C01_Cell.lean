/-
  C01_Cell — the cell and its parameter sets.  A LAMMPS-oriented cell is a lower-triangular matrix with positive diagonal
  (`normal_cases`): what `set_lengths` and `set_hi_los` build and what the LAMMPS getters read.  Lengths and angles are the Gram matrix
  (`gram_eq_iff`); `set_abc` is its Cholesky factorisation (`abc_gram`), unique among LAMMPS-oriented cells (`normal_unique_of_gram`);
  any other right-handed cell with the same Gram matrix is a proper rotation of it (`gram_eq_rotation`).
  An `example` directly after a theorem meets the hypotheses of that theorem on a tilted cell over ℚ.
-/
import Proofs.C01_Lemmas
import Mathlib.Tactic.LinearCombination
import Mathlib.Tactic.Linarith

namespace Atomman.C01
open Atomman
set_option linter.unusedSectionVars false

variable {K : Type} [Field K] [LinearOrder K] [IsStrictOrderedRing K]

theorem ofLengthsP?_eq_some_iff (p : Lengths K) (o : V3 K) (b : Box K) :
    ofLengthsP? p o = some b ↔
      (0 < p.lx ∧ 0 < p.ly ∧ 0 < p.lz) ∧ b = ⟨⟨⟨p.lx, 0, 0⟩, ⟨p.xy, p.ly, 0⟩, ⟨p.xz, p.yz, p.lz⟩⟩, o⟩ :=
  Box.ofLengths?_eq_some_iff ..

theorem ofLengthsP?_some_pos (p : Lengths K) (o : V3 K) (b : Box K) (h : ofLengthsP? p o = some b) :
    0 < p.lx ∧ 0 < p.ly ∧ 0 < p.lz := ((ofLengthsP?_eq_some_iff p o b).mp h).1

theorem ofLengthsP?_eq_none_iff (p : Lengths K) (o : V3 K) :
    ofLengthsP? p o = none ↔ ¬(0 < p.lx ∧ 0 < p.ly ∧ 0 < p.lz) := by
  unfold ofLengthsP? Box.ofLengths?
  split <;> simp only [*, reduceCtorEq, and_self, not_true_eq_false, not_false_eq_true]

theorem lower_normal (lx ly lz xy xz yz : K) (o : V3 K) (hx : 0 < lx) (hy : 0 < ly) (hz : 0 < lz) :
    Box.isLammpsNorm (⟨⟨⟨lx, 0, 0⟩, ⟨xy, ly, 0⟩, ⟨xz, yz, lz⟩⟩, o⟩ : Box K) = true :=
  (Box.isLammpsNorm_iff _).mpr ⟨rfl, rfl, rfl, hx, hy, hz⟩

theorem normal_cases (b : Box K) (h : b.isLammpsNorm = true) :
    ∃ lx ly lz xy xz yz o, 0 < lx ∧ 0 < ly ∧ 0 < lz ∧ b = ⟨⟨⟨lx, 0, 0⟩, ⟨xy, ly, 0⟩, ⟨xz, yz, lz⟩⟩, o⟩ := by
  obtain ⟨-, -, -, hx, hy, hz⟩ := (Box.isLammpsNorm_iff b).mp h
  exact ⟨_, _, _, _, _, _, _, hx, hy, hz, Box.ext (Box.vects_eq_of_normal b h) rfl⟩

theorem lower_dots (lx ly lz xy xz yz : K) (o : V3 K) (b : Box K)
    (hb : b = ⟨⟨⟨lx, 0, 0⟩, ⟨xy, ly, 0⟩, ⟨xz, yz, lz⟩⟩, o⟩) :
    a2 b = lx * lx ∧ b2 b = xy * xy + ly * ly ∧ c2 b = xz * xz + yz * yz + lz * lz ∧
    dotAB b = lx * xy ∧ dotAC b = lx * xz ∧ dotBC b = xy * xz + ly * yz := by
  subst hb
  simp only [a2, b2, c2, dotAB, dotAC, dotBC, V3.normSq, V3.dot, mul_zero, zero_mul, add_zero, and_self]

/-- A LAMMPS-normal box read back as `lx ly lz xy xz yz` (+ origin) and rebuilt with `set_lengths`
    is the same box: same vectors, same origin. -/
theorem lengths_roundtrip (b : Box K) (h : b.isLammpsNorm = true) :
    ∃ p, lengths? b = some p ∧ ofLengthsP? p b.origin = some b := by
  obtain ⟨lx, ly, lz, xy, xz, yz, o, hx, hy, hz, rfl⟩ := normal_cases b h
  exact ⟨⟨lx, ly, lz, xy, xz, yz⟩, by simp only [lengths?, h, if_true],
    (ofLengthsP?_eq_some_iff _ _ _).mpr ⟨⟨hx, hy, hz⟩, rfl⟩⟩

/-- `set_lengths` then the LAMMPS getters: building from lengths and reading them back gives the inputs and the origin. -/
theorem lengths_readback (p : Lengths K) (o : V3 K) (b : Box K) (h : ofLengthsP? p o = some b) :
    b.isLammpsNorm = true ∧ lengths? b = some p ∧ b.origin = o := by
  obtain ⟨⟨h1, h2, h3⟩, rfl⟩ := (ofLengthsP?_eq_some_iff p o b).mp h
  have hn := lower_normal p.lx p.ly p.lz p.xy p.xz p.yz o h1 h2 h3
  exact ⟨hn, by simp only [lengths?, hn, if_true], rfl⟩

/-- the hypothesis of `lengths_roundtrip`, `hilos_roundtrip` met by a cell with a tilt and a non-zero origin. -/
example : ∃ b : Box ℚ, b.isLammpsNorm = true ∧ b.vects.r1.x ≠ 0 ∧ b.origin ≠ ⟨0, 0, 0⟩ :=
  ⟨⟨⟨⟨2, 0, 0⟩, ⟨1/2, 3, 0⟩, ⟨-1, 1/4, 5⟩⟩, ⟨1, -2, 3⟩⟩, by decide +kernel, by decide +kernel, by decide +kernel⟩

/-- A LAMMPS-normal box read back as `xlo xhi ylo yhi zlo zhi xy xz yz` and rebuilt with
    `set_hi_los` is the same box. -/
theorem hilos_roundtrip (b : Box K) (h : b.isLammpsNorm = true) :
    ∃ p, hilos? b = some p ∧ ofHiLosP? p = some b := by
  obtain ⟨lx, ly, lz, xy, xz, yz, o, hx, hy, hz, rfl⟩ := normal_cases b h
  refine ⟨⟨o.x, o.x + lx, o.y, o.y + ly, o.z, o.z + lz, xy, xz, yz⟩, by simp only [hilos?, h, if_true], ?_⟩
  refine (ofLengthsP?_eq_some_iff ⟨_, _, _, xy, xz, yz⟩ _ _).mpr ?_
  simp only [add_sub_cancel_left, hx, hy, hz, and_self]

/-- building from hi/lo then reading hi/lo gives the inputs. -/
theorem hilos_readback (p : HiLos K) (b : Box K) (h : ofHiLosP? p = some b) :
    b.isLammpsNorm = true ∧ hilos? b = some p := by
  obtain ⟨⟨h1, h2, h3⟩, rfl⟩ := (ofLengthsP?_eq_some_iff ⟨_, _, _, p.xy, p.xz, p.yz⟩ _ b).mp h
  have hn := lower_normal _ _ _ p.xy p.xz p.yz ⟨p.xlo, p.ylo, p.zlo⟩ h1 h2 h3
  exact ⟨hn, by simp only [hilos?, hn, if_true, add_sub_cancel]⟩

/-- three vectors -> `vects` and back is the identity (the two vector parameter sets). -/
theorem vectors_roundtrip (b : Box K) : ofVectors b.vects.r0 b.vects.r1 b.vects.r2 b.origin = b := rfl

/-- the LAMMPS lengths / tilts / bounds are handed out exactly for LAMMPS-compatible cells (upper triangle zero and ALL THREE
    diagonal entries positive), refused otherwise. -/
theorem lammps_getters_refuse_iff (b : Box K) :
    ((lengths? b).isSome = true ↔ (b.vects.r0.y = 0 ∧ b.vects.r0.z = 0 ∧ b.vects.r1.z = 0 ∧
      0 < b.vects.r0.x ∧ 0 < b.vects.r1.y ∧ 0 < b.vects.r2.z)) ∧
    ((hilos? b).isSome = (lengths? b).isSome) := by
  rw [← Box.isLammpsNorm_iff, lengths?, hilos?]
  cases b.isLammpsNorm <;> exact ⟨by simp only [if_true, Bool.false_eq_true, if_false, Option.isSome], rfl⟩

theorem gram_eq_iff (b b' : Box K) : gram b.vects = gram b'.vects ↔
    a2 b = a2 b' ∧ b2 b = b2 b' ∧ c2 b = c2 b' ∧ dotAB b = dotAB b' ∧ dotAC b = dotAC b' ∧ dotBC b = dotBC b' := by
  rw [gram_def, gram_def]
  constructor
  · intro h
    injection h with h0 h1 h2
    injection h0 with h00 h01 h02
    injection h1 with _ h11 h12
    injection h2 with _ _ h22
    exact ⟨h00, h11, h22, h01, h02, h12⟩
  · rintro ⟨h00, h11, h22, h01, h02, h12⟩
    simp only [a2, b2, c2, dotAB, dotAC, dotBC, V3.normSq] at h00 h11 h22 h01 h02 h12
    rw [V3.dot_comm b.vects.r1 b.vects.r0, V3.dot_comm b.vects.r2 b.vects.r0, V3.dot_comm b.vects.r2 b.vects.r1,
      h00, h11, h22, h01, h02, h12, V3.dot_comm b'.vects.r1 b'.vects.r0, V3.dot_comm b'.vects.r2 b'.vects.r0,
      V3.dot_comm b'.vects.r2 b'.vects.r1]

theorem gram_det (v : M3 K) : (gram v).det = v.det * v.det := by
  rw [gram, M3.det_mul, M3.det_transpose]

theorem gram_det_dots (bx : Box K) :
    bx.vects.det * bx.vects.det = a2 bx * b2 bx * c2 bx + 2 * (dotBC bx * dotAC bx * dotAB bx)
      - a2 bx * (dotBC bx * dotBC bx) - b2 bx * (dotAC bx * dotAC bx) - c2 bx * (dotAB bx * dotAB bx) := by
  rw [← gram_det, gram_def, M3.det_def']
  simp only [a2, b2, c2, dotBC, dotAC, dotAB, V3.normSq, V3.dot_comm bx.vects.r1 bx.vects.r0,
    V3.dot_comm bx.vects.r2 bx.vects.r0, V3.dot_comm bx.vects.r2 bx.vects.r1]
  ring

/-- Two right-handed bases with the same lengths and angles (equal Gram matrices `V Vᵀ`) differ by
    the proper rotation `R = V₁⁻¹ V₂`:  `V₁ R = V₂`, `R Rᵀ = 1`, `det R = 1`. -/
theorem gram_eq_rotation (v w : M3 K) (hv : 0 < v.det) (hw : 0 < w.det) (hg : gram v = gram w) :
    v.mul ((M3.inv v).mul w) = w ∧
    ((M3.inv v).mul w).mul ((M3.inv v).mul w).transpose = M3.one ∧
    ((M3.inv v).mul w).det = 1 := by
  obtain ⟨h1, h2, -, h4⟩ := M3.rotation_of_gram_eq v w hv.ne' hg.symm
  -- `det R = det w / det v` is positive and squares to 1
  have hpos : 0 < ((M3.inv v).mul w).det := by
    rw [M3.det_mul, M3.det_inv v hv.ne']; exact mul_pos (inv_pos.mpr hv) hw
  exact ⟨h1, h2, (mul_self_eq_one_iff.mp h4).resolve_right fun h => by rw [h] at hpos; exact absurd hpos (by norm_num)⟩

/-- conversely a rotation of the rows leaves all lengths and angles (the Gram matrix) unchanged. -/
theorem rotation_preserves_gram (v r : M3 K) (hr : r.mul r.transpose = M3.one) :
    gram (v.mul r) = gram v := by
  simp only [gram]
  rw [M3.transpose_mul, M3.mul_assoc, ← M3.mul_assoc r, hr, M3.one_mul]

example : ∃ v w : M3 ℚ, 0 < v.det ∧ 0 < w.det ∧ gram v = gram w ∧ v ≠ w :=
  ⟨⟨⟨1, 0, 0⟩, ⟨1/2, 2, 0⟩, ⟨0, 1, 3⟩⟩, ⟨⟨0, 1, 0⟩, ⟨-2, 1/2, 0⟩, ⟨-1, 0, 3⟩⟩,
    by decide +kernel, by decide +kernel, by decide +kernel, by decide +kernel⟩

/-- A rotation class of cells has at most one LAMMPS-compatible member, so "the same vectors … when the cell is in LAMMPS-compatible
    orientation" and "otherwise the same cell up to a rigid rotation" cannot be confused: a properly rotated copy of a
    LAMMPS-oriented cell (e.g. turned by 180 degrees about x) is never LAMMPS-oriented itself. -/
theorem normal_unique_of_gram (b1 b2 : Box K) (h1 : b1.isLammpsNorm = true) (h2 : b2.isLammpsNorm = true)
    (hg : gram b1.vects = gram b2.vects) : b1.vects = b2.vects := by
  obtain ⟨lx, ly, lz, xy, xz, yz, o, hx, hy, hz, rfl⟩ := normal_cases b1 h1
  obtain ⟨lx', ly', lz', xy', xz', yz', o', hx', hy', hz', rfl⟩ := normal_cases b2 h2
  obtain ⟨g00, g11, g22, g01, g02, g12⟩ := (gram_eq_iff _ _).mp hg
  obtain ⟨a1, a2, a3, a4, a5, a6⟩ := lower_dots lx ly lz xy xz yz o _ rfl
  obtain ⟨b1, b2, b3, b4, b5, b6⟩ := lower_dots lx' ly' lz' xy' xz' yz' o' _ rfl
  rw [a1, b1] at g00; rw [a2, b2] at g11; rw [a3, b3] at g22; rw [a4, b4] at g01; rw [a5, b5] at g02; rw [a6, b6] at g12
  -- row by row, as in a Cholesky factorisation: the diagonal entry from its square, then the entries below it
  obtain rfl := (mul_self_inj hx.le hx'.le).mp g00
  obtain rfl := mul_left_cancel₀ hx.ne' g01
  obtain rfl := mul_left_cancel₀ hx.ne' g02
  obtain rfl := (mul_self_inj hy.le hy'.le).mp (add_left_cancel g11)
  obtain rfl := mul_left_cancel₀ hy.ne' (add_left_cancel g12)
  obtain rfl := (mul_self_inj hz.le hz'.le).mp (add_left_cancel g22)
  rfl

/-- Reversing two Cartesian axes (a turn by 180 degrees about the third) keeps handedness, every length and every angle —
    and the upper triangle of a LAMMPS-oriented cell stays zero — but the result is not LAMMPS-oriented and hands out no
    LAMMPS parameters: positivity of EACH diagonal entry is part of the test, the product of two of them is not enough. -/
theorem turned_cell_not_normal (b : Box K) (h : b.isLammpsNorm = true) :
    let t := flipAxes 1 (-1) (-1) b
    t.vects.det = b.vects.det ∧ gram t.vects = gram b.vects ∧
    t.vects.r0.y = 0 ∧ t.vects.r0.z = 0 ∧ t.vects.r1.z = 0 ∧ 0 < t.vects.r0.x ∧ 0 < t.vects.r1.y * t.vects.r2.z ∧
    t.isLammpsNorm = false ∧ lengths? t = none ∧ hilos? t = none := by
  have flip : ∀ u v : V3 K, V3.dot ⟨1 * u.x, -1 * u.y, -1 * u.z⟩ ⟨1 * v.x, -1 * v.y, -1 * v.z⟩ = V3.dot u v :=
    fun u v => by simp only [V3.dot]; ring
  have hn : (flipAxes 1 (-1) (-1) b).isLammpsNorm = false := by
    rw [Bool.eq_false_iff]
    intro hc
    have h5 : 0 < -1 * b.vects.r1.y := ((Box.isLammpsNorm_iff _).mp hc).2.2.2.2.1
    have := ((Box.isLammpsNorm_iff b).mp h).2.2.2.2.1
    linarith
  obtain ⟨lx, ly, lz, xy, xz, yz, o, hx, hy, hz, rfl⟩ := normal_cases b h
  refine ⟨?_, (gram_eq_iff _ _).mpr ⟨flip _ _, flip _ _, flip _ _, flip _ _, flip _ _, flip _ _⟩,
    mul_zero _, mul_zero _, mul_zero _, ?_, ?_, hn, ?_, ?_⟩
  · simp only [flipAxes, M3.det, V3.dot, V3.cross]; ring
  · simp only [flipAxes, one_mul]; exact hx
  · have e : -1 * ly * (-1 * lz) = ly * lz := by ring
    exact e ▸ mul_pos hy hz
  · simp only [lengths?, hn]; rfl
  · simp only [hilos?, hn]; rfl

/-- the hypothesis of `normal_unique_of_gram`, `turned_cell_not_normal` met by a cell with non-zero tilts. -/
example : ∃ b : Box ℚ, b.isLammpsNorm = true ∧ b.vects.r1.x ≠ 0 ∧ b.vects.r2.y ≠ 0 :=
  ⟨⟨⟨⟨4, 0, 0⟩, ⟨1/2, 3, 0⟩, ⟨-3/2, 1/4, 5⟩⟩, ⟨1, 2, 3⟩⟩, by decide +kernel, by decide +kernel, by decide +kernel⟩

/-- the rows of a non-degenerate cell are pairwise non-parallel. -/
theorem cross_pos_of_det (m : M3 K) (h : m.det ≠ 0) :
    0 < V3.normSq (V3.cross m.r1 m.r2) ∧ 0 < V3.normSq (V3.cross m.r0 m.r2) ∧ 0 < V3.normSq (V3.cross m.r0 m.r1) :=
  M3.normSq_cross_pos_of_det_ne_zero m h

/-- the tilt `yz` that `set_abc` computes, with its division by `ly` cleared. -/
theorem abcLengths_yz_mul (a b c ca cb cg lz : K) {ly : K} (hly : ly ≠ 0) :
    ly * (abcLengths a b c ca cb cg ly lz).yz = b * c * ca - b * cg * (c * cb) := mul_div_cancel₀ _ hly

/-- neither side depends on `a` or `lz`: they only serve to name the tilt `yz` of `abcLengths`. -/
theorem abcLzSq_eq (a b c ca cb cg ly lz : K) :
    abcLzSq b c ca cb cg ly = c * c - c * cb * (c * cb)
      - (abcLengths a b c ca cb cg ly lz).yz * (abcLengths a b c ca cb cg ly lz).yz := rfl

/-- `set_abc`: if `ly`, `lz` are the positive square roots the code takes, the result is
    LAMMPS-normal, has the requested origin, and its Gram matrix is
    `[[a², ab·cγ, ac·cβ], [·, b², bc·cα], [·, ·, c²]]`: the lengths are `a b c` and the cosines of the
    angles are `cα cβ cγ`. -/
theorem abc_gram (a b c ca cb cg ly lz : K) (o : V3 K)
    (ha : 0 < a) (hly : 0 < ly) (hly2 : ly * ly = abcLySq b cg)
    (hlz : 0 < lz) (hlz2 : lz * lz = abcLzSq b c ca cb cg ly) :
    ∃ bx, ofAbc? a b c ca cb cg ly lz o = some bx ∧ bx.isLammpsNorm = true ∧ bx.origin = o ∧
      a2 bx = a * a ∧ b2 bx = b * b ∧ c2 bx = c * c ∧
      dotAB bx = a * b * cg ∧ dotAC bx = a * c * cb ∧ dotBC bx = b * c * ca := by
  rw [abcLySq] at hly2; rw [abcLzSq_eq a b c ca cb cg ly lz] at hlz2
  have hyz := abcLengths_yz_mul a b c ca cb cg lz hly.ne'
  obtain ⟨d1, d2, d3, d4, d5, d6⟩ := lower_dots a ly lz (b * cg) (c * cb) (abcLengths a b c ca cb cg ly lz).yz o _ rfl
  refine ⟨_, (ofLengthsP?_eq_some_iff _ o _).mpr ⟨⟨ha, hly, hlz⟩, rfl⟩, lower_normal _ _ _ _ _ _ o ha hly hlz, rfl,
    d1, ?_, ?_, ?_, ?_, ?_⟩
  · exact d2.trans (by linear_combination hly2)
  · exact d3.trans (by linear_combination hlz2)
  · exact d4.trans (by ring)
  · exact d5.trans (by ring)
  · exact d6.trans (by linear_combination hyz)

example : ∃ a b c ca cb cg ly lz : ℚ, 0 < a ∧ 0 < ly ∧ ly * ly = abcLySq b cg ∧ 0 < lz ∧
    lz * lz = abcLzSq b c ca cb cg ly ∧ cg ≠ 0 ∧ cb ≠ 0 :=
  ⟨2, 5, 13, 3/13, 5/13, 3/5, 4, 12, by decide +kernel⟩

/-- the arithmetic of `set_abc` applied to the lengths and cosines of a lower-triangular cell returns its entries. -/
theorem abcLengths_of_lower {lx ly xy xz yz a b c ca cb cg : K} (lz : K) (ha : 0 < a) (hlx : 0 < lx) (hly : 0 < ly)
    (ha2 : a * a = lx * lx) (hcg : a * b * cg = lx * xy) (hcb : a * c * cb = lx * xz)
    (hca : b * c * ca = xy * xz + ly * yz) :
    abcLengths a b c ca cb cg ly lz = ⟨lx, ly, lz, xy, xz, yz⟩ := by
  obtain rfl := (mul_self_inj ha.le hlx.le).mp ha2
  have e1 : b * cg = xy := mul_left_cancel₀ ha.ne' (by rw [← hcg]; ring)
  have e2 : c * cb = xz := mul_left_cancel₀ ha.ne' (by rw [← hcb]; ring)
  simp only [abcLengths, e1, e2, hca, add_sub_cancel_left, mul_div_cancel_left₀ _ hly.ne']

set_option linter.unusedVariables false in
/-- A LAMMPS-normal box fed back through `set_abc` with its own lengths `a b c` (positive roots of
    `a² b² c²`), its own cosines (`b c cα = bvect·cvect` …) and the roots `ly lz` is the same box. -/
theorem abc_rebuild_normal (bx : Box K) (h : bx.isLammpsNorm = true) (a b c ca cb cg : K)
    (ha : 0 < a) (hb : 0 < b) (hc : 0 < c)
    (ha2 : a * a = a2 bx) (hb2 : b * b = b2 bx) (hc2 : c * c = c2 bx)
    (hca : b * c * ca = dotBC bx) (hcb : a * c * cb = dotAC bx) (hcg : a * b * cg = dotAB bx) :
    ofAbc? a b c ca cb cg bx.vects.r1.y bx.vects.r2.z bx.origin = some bx := by
  obtain ⟨lx, ly, lz, xy, xz, yz, o, hx, hy, hz, rfl⟩ := normal_cases bx h
  obtain ⟨d1, _, _, d4, d5, d6⟩ := lower_dots lx ly lz xy xz yz o _ rfl
  rw [ofAbc?, abcLengths_of_lower lz ha hx hy (ha2.trans d1) (hcg.trans d4) (hcb.trans d5) (hca.trans d6)]
  exact (ofLengthsP?_eq_some_iff _ _ _).mpr ⟨⟨hx, hy, hz⟩, rfl⟩

example : ∃ (bx : Box ℚ) (a b c ca cb cg : ℚ), bx.isLammpsNorm = true ∧ 0 < a ∧ 0 < b ∧ 0 < c ∧
    a * a = a2 bx ∧ b * b = b2 bx ∧ c * c = c2 bx ∧ b * c * ca = dotBC bx ∧ a * c * cb = dotAC bx ∧
    a * b * cg = dotAB bx ∧ bx.vects.r1.x ≠ 0 ∧ bx.vects.r2.x ≠ 0 :=
  ⟨⟨⟨⟨2, 0, 0⟩, ⟨3, 4, 0⟩, ⟨5, 0, 12⟩⟩, ⟨1, 2, 3⟩⟩, 2, 5, 13, 3/13, 5/13, 3/5, by decide +kernel,
    by decide +kernel⟩

/-- the two radicands of `set_abc`, fed with the lengths and cosines of a LAMMPS-oriented cell, are the squares of its `ly`, `lz`. -/
theorem abc_roots_of_normal (bx : Box K) (h : bx.isLammpsNorm = true) (a b c ca cb cg : K)
    (ha : 0 < a) (ha2 : a * a = a2 bx) (hb2 : b * b = b2 bx) (hc2 : c * c = c2 bx)
    (hca : b * c * ca = dotBC bx) (hcb : a * c * cb = dotAC bx) (hcg : a * b * cg = dotAB bx) :
    abcLySq b cg = bx.vects.r1.y * bx.vects.r1.y ∧
    abcLzSq b c ca cb cg bx.vects.r1.y = bx.vects.r2.z * bx.vects.r2.z := by
  obtain ⟨lx, ly, lz, xy, xz, yz, o, hx, hy, hz, rfl⟩ := normal_cases bx h
  obtain ⟨d1, d2, d3, d4, d5, d6⟩ := lower_dots lx ly lz xy xz yz o _ rfl
  have E := abcLengths_of_lower lz ha hx hy (ha2.trans d1) (hcg.trans d4) (hcb.trans d5) (hca.trans d6)
  have e1 : b * cg = xy := congrArg Lengths.xy E
  have e2 : c * cb = xz := congrArg Lengths.xz E
  have e3 : (abcLengths a b c ca cb cg ly lz).yz = yz := congrArg Lengths.yz E
  constructor
  · rw [abcLySq, e1]; linear_combination hb2.trans d2
  · rw [abcLzSq_eq a b c ca cb cg ly lz, e2, e3]; linear_combination hc2.trans d3

/-- Any right-handed cell read back as lengths and cosines and rebuilt through `set_abc` is the same
    cell up to a proper rotation (and is LAMMPS-normal). -/
theorem abc_rebuild_rotation (bx : Box K) (hdet : 0 < bx.vects.det) (a b c ca cb cg ly lz : K)
    (ha : 0 < a) (ha2 : a * a = a2 bx) (hb2 : b * b = b2 bx) (hc2 : c * c = c2 bx)
    (hca : b * c * ca = dotBC bx) (hcb : a * c * cb = dotAC bx) (hcg : a * b * cg = dotAB bx)
    (hly : 0 < ly) (hly2 : ly * ly = abcLySq b cg)
    (hlz : 0 < lz) (hlz2 : lz * lz = abcLzSq b c ca cb cg ly) :
    ∃ bx', ofAbc? a b c ca cb cg ly lz bx.origin = some bx' ∧ bx'.isLammpsNorm = true ∧
      bx'.origin = bx.origin ∧
      ∃ r : M3 K, bx.vects.mul r = bx'.vects ∧ r.mul r.transpose = M3.one ∧ r.det = 1 := by
  obtain ⟨bx', h1, h2, h3, g1, g2, g3, g4, g5, g6⟩ :=
    abc_gram a b c ca cb cg ly lz bx.origin ha hly hly2 hlz hlz2
  exact ⟨bx', h1, h2, h3, _, gram_eq_rotation _ _ hdet (Box.det_pos_of_normal bx' h2) ((gram_eq_iff _ _).mpr
    ⟨(g1.trans ha2).symm, (g2.trans hb2).symm, (g3.trans hc2).symm, (g4.trans hcg).symm, (g5.trans hcb).symm,
      (g6.trans hca).symm⟩)⟩

example : ∃ (bx : Box ℚ) (a b c ca cb cg ly lz : ℚ), 0 < bx.vects.det ∧ bx.isLammpsNorm = false ∧ 0 < a ∧
    a * a = a2 bx ∧ b * b = b2 bx ∧ c * c = c2 bx ∧ b * c * ca = dotBC bx ∧ a * c * cb = dotAC bx ∧
    a * b * cg = dotAB bx ∧ 0 < ly ∧ ly * ly = abcLySq b cg ∧ 0 < lz ∧ lz * lz = abcLzSq b c ca cb cg ly :=
  ⟨⟨⟨⟨0, 2, 0⟩, ⟨0, 3, 4⟩, ⟨12, 5, 0⟩⟩, ⟨1, 2, 3⟩⟩, 2, 5, 13, 3/13, 5/13, 3/5, 4, 12, by decide +kernel, by decide +kernel,
    by decide +kernel⟩

/-- both radicands of `set_abc` are positive when it is fed with the lengths and cosines of a non-degenerate cell
    (`a² · ly² · (second radicand) = det²`). -/
theorem abc_radicands_pos (bx : Box K) (hdet : 0 < bx.vects.det) (a b c ca cb cg : K) (pa : 0 < a) (pb : 0 < b)
    (ha2 : a * a = a2 bx) (hb2 : b * b = b2 bx) (hc2 : c * c = c2 bx)
    (hca : b * c * ca = dotBC bx) (hcb : a * c * cb = dotAC bx) (hcg : a * b * cg = dotAB bx)
    (cgs : -1 < cg ∧ cg < 1) :
    0 < abcLySq b cg ∧ ∀ ly, 0 < ly → ly * ly = abcLySq b cg → 0 < abcLzSq b c ca cb cg ly := by
  have r1pos : 0 < abcLySq b cg := by
    have e : abcLySq b cg = (b * b) * ((1 - cg) * (1 + cg)) := by simp only [abcLySq]; ring
    rw [e]
    exact mul_pos (mul_pos pb pb) (mul_pos (sub_pos.mpr cgs.2) (neg_lt_iff_pos_add'.mp cgs.1))
  refine ⟨r1pos, fun ly ply hly2 => ?_⟩
  have hyz := abcLengths_yz_mul a b c ca cb cg 0 ply.ne'
  have key : (a * a * (ly * ly)) * abcLzSq b c ca cb cg ly = bx.vects.det * bx.vects.det := by
    rw [gram_det_dots, ← ha2, ← hb2, ← hc2, ← hca, ← hcb, ← hcg, abcLzSq_eq a b c ca cb cg ly 0]
    simp only [abcLySq] at hly2
    linear_combination (a * a * (c * c - c * cb * (c * cb))) * hly2
      - a * a * (b * c * ca - b * cg * (c * cb) + ly * (abcLengths a b c ca cb cg ly 0).yz) * hyz
  exact pos_of_mul_pos_right (key ▸ mul_pos hdet hdet) (mul_pos (mul_pos pa pa) (mul_pos ply ply)).le

end Atomman.C01
