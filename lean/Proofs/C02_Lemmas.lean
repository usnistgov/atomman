/-
  C02 — helper lemmas: the candidate list (`admissible` = member of `candidates`), reciprocal components (those of `d` are
  the entries of `d · vects⁻¹`, those of an image are those of the separation plus the shift), and the per-axis lemmas
  on which integer shifts a short image can have and which candidate shift brings a component nearest to zero.
-/
import Atomman.C02
import Proofs.Images
import Mathlib.Tactic.Linarith
import Mathlib.Tactic.FieldSimp
import Mathlib.Algebra.Order.Field.Basic

namespace Atomman.C02
open Atomman

section comps
variable {K : Type}
@[simp] theorem add_x [Add K] (a b : V3 K) : (a + b).x = a.x + b.x := V3.add_x a b
@[simp] theorem add_y [Add K] (a b : V3 K) : (a + b).y = a.y + b.y := V3.add_y a b
@[simp] theorem add_z [Add K] (a b : V3 K) : (a + b).z = a.z + b.z := V3.add_z a b
@[simp] theorem sub_x [Sub K] (a b : V3 K) : (a - b).x = a.x - b.x := V3.sub_x a b
@[simp] theorem sub_y [Sub K] (a b : V3 K) : (a - b).y = a.y - b.y := V3.sub_y a b
@[simp] theorem sub_z [Sub K] (a b : V3 K) : (a - b).z = a.z - b.z := V3.sub_z a b
end comps

variable {K : Type} [Field K] [LinearOrder K] [IsStrictOrderedRing K]

omit [LinearOrder K] [IsStrictOrderedRing K] in
theorem shiftBy_latticeVec (V : M3 K) (d : V3 K) (n : Shift) : shiftBy V d n = d + latticeVec V n :=
  shiftBy_eq V d n

theorem admissible_iff (px py pz : Bool) (s : Shift) :
    s.admissible px py pz ↔ s.1 ∈ pbcRange px ∧ s.2.1 ∈ pbcRange py ∧ s.2.2 ∈ pbcRange pz := by
  have h : ∀ (p : Bool) (x : Int), x ∈ pbcRange p ↔ (x = -1 ∨ x = 0 ∨ x = 1) ∧ (p = false → x = 0) := by
    intro p x; cases p <;> simp [pbcRange]; omega
  simp only [Shift.admissible, Shift.respects, h]
  exact ⟨fun ⟨a, b, c, d, e, f⟩ => ⟨⟨a, d⟩, ⟨b, e⟩, ⟨c, f⟩⟩, fun ⟨⟨a, d⟩, ⟨b, e⟩, ⟨c, f⟩⟩ => ⟨a, b, c, d, e, f⟩⟩

theorem Shift.admissible.respects {n : Shift} {px py pz : Bool} (h : n.admissible px py pz) : n.respects px py pz :=
  h.2.2.2

theorem admissible_zero (px py pz : Bool) : Shift.admissible (0, 0, 0) px py pz :=
  (admissible_iff px py pz _).mpr ⟨zero_mem_pbcRange px, zero_mem_pbcRange py, zero_mem_pbcRange pz⟩

theorem admissible_neg {n : Shift} {px py pz : Bool} (h : n.admissible px py pz) :
    Shift.admissible (-n.1, -n.2.1, -n.2.2) px py pz := by
  rw [admissible_iff] at h ⊢
  exact ⟨neg_mem_pbcRange h.1, neg_mem_pbcRange h.2.1, neg_mem_pbcRange h.2.2⟩

theorem mem_candidates (px py pz : Bool) (s : Shift) : s ∈ candidates px py pz ↔ s.admissible px py pz := by
  rw [admissible_iff]; exact mem_allShifts

set_option linter.unusedSectionVars false in
theorem lagrange (u v : V3 K) :
    V3.normSq u * V3.normSq v - (V3.dot u v)^2 = V3.normSq (V3.cross u v) := by
  rw [sq]; exact V3.lagrange u v

theorem cauchy_schwarz (u v : V3 K) : (V3.dot u v)^2 ≤ V3.normSq u * V3.normSq v := by
  rw [sq]; exact V3.cauchy_schwarz u v

/-- Cauchy–Schwarz for each of the two vectors, and `(x - y)² ≤ 2x² + 2y²`. -/
theorem dot_sub_sq_le (e f ρ : V3 K) :
    (V3.dot e ρ - V3.dot f ρ)^2 ≤ 2 * (V3.normSq e + V3.normSq f) * V3.normSq ρ := by
  have id : (V3.dot e ρ - V3.dot f ρ)^2
      = 2 * (V3.dot e ρ)^2 + 2 * (V3.dot f ρ)^2 - (V3.dot e ρ + V3.dot f ρ)^2 := by ring
  linarith [cauchy_schwarz e ρ, cauchy_schwarz f ρ, sq_nonneg (V3.dot e ρ + V3.dot f ρ)]

/-- `a < w` and `w N ≤ 1` give `a N < 1` also when `N` vanishes. -/
theorem mul_lt_one {a w N : K} (hN : 0 ≤ N) (h : a < w) (hw : w * N ≤ 1) : a * N < 1 := by
  rcases hN.eq_or_lt with h0 | hpos
  · rw [← h0, mul_zero]; exact one_pos
  · exact lt_of_lt_of_le (mul_lt_mul_of_pos_right h hpos) hw

omit [LinearOrder K] [IsStrictOrderedRing K] in
theorem recip_diag (b : Box K) (a bb c : K) (ha : a ≠ 0) (hb : bb ≠ 0) (hc : c ≠ 0)
    (hv : b.vects = ⟨⟨a, 0, 0⟩, ⟨0, bb, 0⟩, ⟨0, 0, c⟩⟩) :
    b.recip = ⟨⟨1 / a, 0, 0⟩, ⟨0, 1 / bb, 0⟩, ⟨0, 0, 1 / c⟩⟩ := by
  have hD : M3.det b.vects = a * bb * c := by rw [hv]; simp only [M3.det, V3.dot, V3.cross]; ring
  simp only [Box.recip, M3.inv, M3.transpose, hD]
  simp only [V3.cross, hv, mul_zero, zero_mul, sub_zero, sub_self, zero_div]
  ext <;> first | rfl | (simp only; field_simp)

omit [LinearOrder K] [IsStrictOrderedRing K] in
/-- the reciprocal components of `d` are the entries of `d · vects⁻¹` (`recip` is the transposed inverse). -/
theorem recip_comps (b : Box K) (d : V3 K) :
    (⟨V3.dot d b.recip.r0, V3.dot d b.recip.r1, V3.dot d b.recip.r2⟩ : V3 K) = M3.vecMul d (M3.inv b.vects) := rfl

omit [LinearOrder K] [IsStrictOrderedRing K] in
theorem image_comp (b : Box K) (hdet : M3.det b.vects ≠ 0) (d : V3 K) (n : Shift) :
    V3.dot (d + latticeVec b.vects n) b.recip.r0 = V3.dot d b.recip.r0 + (n.1 : K) ∧
    V3.dot (d + latticeVec b.vects n) b.recip.r1 = V3.dot d b.recip.r1 + (n.2.1 : K) ∧
    V3.dot (d + latticeVec b.vects n) b.recip.r2 = V3.dot d b.recip.r2 + (n.2.2 : K) := by
  have h : M3.vecMul (d + latticeVec b.vects n) (M3.inv b.vects)
      = M3.vecMul d (M3.inv b.vects) + ⟨(n.1 : K), (n.2.1 : K), (n.2.2 : K)⟩ := by
    rw [M3.vecMul_add, latticeVec, M3.vecMul_inv_cancel _ _ hdet]
  exact ⟨congrArg V3.x h, congrArg V3.y h, congrArg V3.z h⟩

set_option linter.unusedSectionVars false in
theorem decompose (b : Box K) (hdet : M3.det b.vects ≠ 0) (d : V3 K) :
    d = M3.vecMul ⟨V3.dot d b.recip.r0, V3.dot d b.recip.r1, V3.dot d b.recip.r2⟩ b.vects := by
  rw [recip_comps, M3.vecMul_inv_cancel' _ _ hdet]

theorem image_decompose (b : Box K) (hdet : M3.det b.vects ≠ 0) (d : V3 K) (n : Shift) :
    d + latticeVec b.vects n = M3.vecMul ⟨V3.dot d b.recip.r0 + (n.1 : K), V3.dot d b.recip.r1 + (n.2.1 : K),
      V3.dot d b.recip.r2 + (n.2.2 : K)⟩ b.vects := by
  obtain ⟨h0, h1, h2⟩ := image_comp b hdet d n
  rw [← h0, ← h1, ← h2]
  exact decompose b hdet _

omit [LinearOrder K] [IsStrictOrderedRing K] in
theorem normSq_ortho_comb (V : M3 K) (h01 : V3.dot V.r0 V.r1 = 0) (h02 : V3.dot V.r0 V.r2 = 0)
    (h12 : V3.dot V.r1 V.r2 = 0) (c : V3 K) :
    V3.normSq (M3.vecMul c V)
      = c.x^2 * V3.normSq V.r0 + c.y^2 * V3.normSq V.r1 + c.z^2 * V3.normSq V.r2 := by
  rw [M3.normSq_vecMul, h01, h02, h12]; ring

theorem incell_delta (b : Box K) (p0 p1 : V3 K) (h0 : InCell b p0) (h1 : InCell b p1) :
    (-1 ≤ V3.dot (p1 - p0) b.recip.r0 ∧ V3.dot (p1 - p0) b.recip.r0 ≤ 1) ∧
    (-1 ≤ V3.dot (p1 - p0) b.recip.r1 ∧ V3.dot (p1 - p0) b.recip.r1 ≤ 1) ∧
    (-1 ≤ V3.dot (p1 - p0) b.recip.r2 ∧ V3.dot (p1 - p0) b.recip.r2 ≤ 1) := by
  have e : ∀ ρ : V3 K, V3.dot (p1 - p0) ρ = V3.dot ρ (p1 - b.origin) - V3.dot ρ (p0 - b.origin) := by
    intro ρ; simp only [V3.dot, sub_x, sub_y, sub_z]; ring
  simp only [InCell, Box.cartToRel, M3.mulVec] at h0 h1
  obtain ⟨⟨a1, a2⟩, ⟨a3, a4⟩, ⟨a5, a6⟩⟩ := h0
  obtain ⟨⟨b1, b2⟩, ⟨b3, b4⟩, ⟨b5, b6⟩⟩ := h1
  rw [e, e, e]
  refine ⟨⟨?_, ?_⟩, ⟨?_, ?_⟩, ⟨?_, ?_⟩⟩ <;> linarith

/-! One axis at a time. Each lemma below takes the flag `p` of its axis: a non-periodic axis carries no shift (`k = 0`), a
  periodic one is bounded through the reciprocal component `e·ρ = δ + k`. -/

theorem int_abs_lt {k : Int} {x : K} (c : Int) (h : |x + (k : K)| < 1) (hx : |x| ≤ (c : K)) : -(c + 1) < k ∧ k < c + 1 := by
  obtain ⟨h1, h2⟩ := abs_lt.mp h
  obtain ⟨x1, x2⟩ := abs_le.mp hx
  have lo : ((-(c + 1) : Int) : K) < (k : K) := by push_cast; linarith
  have hi : (k : K) < ((c + 1 : Int) : K) := by push_cast; linarith
  exact ⟨Int.cast_lt.mp lo, Int.cast_lt.mp hi⟩

theorem comp_radius (e d ρ : V3 K) (k : K) (hk : V3.dot e ρ = V3.dot d ρ + k)
    (hle : V3.normSq e ≤ V3.normSq d) : k^2 ≤ 4 * V3.normSq d * V3.normSq ρ := by
  have h := dot_sub_sq_le e d ρ
  rw [hk, add_sub_cancel_left] at h
  linarith [mul_le_mul_of_nonneg_right hle (V3.normSq_nonneg ρ)]

theorem comp_unique (p : Bool) {e f ρ : V3 K} {x : K} {n m : Int} (he : V3.dot e ρ = x + (n : K))
    (hf : V3.dot f ρ = x + (m : K)) (hn : p = false → n = 0) (hm : p = false → m = 0)
    (h : p = true → 2 * (V3.normSq e + V3.normSq f) * V3.normSq ρ < 1) : n = m := by
  cases p
  · rw [hn rfl, hm rfl]
  · have hsq := lt_of_le_of_lt (dot_sub_sq_le e f ρ) (h rfl)
    rw [he, hf, add_sub_add_left_eq_sub, ← Int.cast_sub, sq_lt_one_iff_abs_lt_one, ← zero_add ((n - m : Int) : K)] at hsq
    have := int_abs_lt 0 hsq (by simp)
    omega

theorem comp_small (p : Bool) (e ρ : V3 K) (δ : K) (k : Int) (hk : V3.dot e ρ = δ + (k : K))
    (hδ : -1 ≤ δ ∧ δ ≤ 1) (h0 : p = false → k = 0) (h : p = true → V3.normSq e * V3.normSq ρ < 1) :
    k = -1 ∨ k = 0 ∨ k = 1 := by
  cases p
  · exact Or.inr (Or.inl (h0 rfl))
  · have hsq := lt_of_le_of_lt (cauchy_schwarz e ρ) (h rfl)
    rw [hk, sq_lt_one_iff_abs_lt_one] at hsq
    have := int_abs_lt 1 hsq (by rw [Int.cast_one]; exact abs_le.mpr hδ)
    omega

/-- how far a relative separation component can be brought towards zero by a candidate shift: `1/2` on a periodic
    axis (`[-1,1]` shifted by -1, 0 or 1), `1` on a non-periodic one (no shift). -/
def halfw (p : Bool) : K := if p then 1 / 2 else 1

omit [LinearOrder K] [IsStrictOrderedRing K] in
theorem halfw_true : halfw true = (1 / 2 : K) := rfl
omit [LinearOrder K] [IsStrictOrderedRing K] in
theorem halfw_false : halfw false = (1 : K) := rfl

theorem halfw_pos (p : Bool) : (0 : K) < halfw p := by
  cases p
  · exact one_pos
  · exact half_pos one_pos

theorem reduce_comp (p : Bool) (δ : K) (hδ : -1 ≤ δ ∧ δ ≤ 1) :
    ∃ m : Int, (m = -1 ∨ m = 0 ∨ m = 1) ∧ (p = false → m = 0) ∧ |δ + (m : K)| ≤ halfw p := by
  obtain ⟨lo, hi⟩ := hδ
  cases p
  · exact ⟨0, Or.inr (Or.inl rfl), fun _ => rfl, by rw [halfw_false, Int.cast_zero, add_zero]; exact abs_le.mpr ⟨lo, hi⟩⟩
  · rw [halfw_true]
    by_cases h1 : δ ≤ -(1/2)
    · refine ⟨1, Or.inr (Or.inr rfl), nofun, ?_⟩
      rw [Int.cast_one]; exact abs_le.mpr ⟨by linarith only [lo], by linarith only [h1]⟩
    · by_cases h2 : 1/2 ≤ δ
      · refine ⟨-1, Or.inl rfl, nofun, ?_⟩
        rw [Int.cast_neg, Int.cast_one]; exact abs_le.mpr ⟨by linarith only [h2], by linarith only [hi]⟩
      · refine ⟨0, Or.inr (Or.inl rfl), nofun, ?_⟩
        rw [Int.cast_zero, add_zero]; exact abs_le.mpr ⟨(not_le.mp h1).le, (not_le.mp h2).le⟩

theorem exists_reduced (b : Box K) (px py pz : Bool) (p0 p1 : V3 K) (h0 : InCell b p0) (h1 : InCell b p1) :
    ∃ m : Shift, m.admissible px py pz ∧ |V3.dot (p1 - p0) b.recip.r0 + (m.1 : K)| ≤ halfw px ∧
      |V3.dot (p1 - p0) b.recip.r1 + (m.2.1 : K)| ≤ halfw py ∧ |V3.dot (p1 - p0) b.recip.r2 + (m.2.2 : K)| ≤ halfw pz := by
  obtain ⟨dx, dy, dz⟩ := incell_delta b p0 p1 h0 h1
  obtain ⟨mx, hmx, hmx0, hx⟩ := reduce_comp px _ dx
  obtain ⟨my, hmy, hmy0, hy⟩ := reduce_comp py _ dy
  obtain ⟨mz, hmz, hmz0, hz⟩ := reduce_comp pz _ dz
  exact ⟨(mx, my, mz), ⟨hmx, hmy, hmz, hmx0, hmy0, hmz0⟩, hx, hy, hz⟩

/-- a reduced component is nearest to zero among all shifts allowed on its axis: with `x = δ + m`, `j = n - m`,
    `(x + j)² - x² = j (2x + j)`, and both factors have the sign of `j` when `|x| ≤ 1/2`. -/
theorem reduced_le (p : Bool) (δ : K) (m n : Int) (hx : |δ + (m : K)| ≤ halfw p) (hn : p = false → n = m) :
    (δ + (m : K)) ^ 2 ≤ (δ + (n : K)) ^ 2 := by
  have e : (δ + (n : K)) ^ 2 - (δ + (m : K)) ^ 2 = ((n - m : Int) : K) * (2 * (δ + (m : K)) + ((n - m : Int) : K)) := by
    push_cast; ring
  rw [← sub_nonneg, e]
  cases p
  · rw [hn rfl, sub_self, Int.cast_zero, zero_mul]
  · rw [halfw_true] at hx
    obtain ⟨x1, x2⟩ := abs_le.mp hx
    rcases lt_trichotomy (n - m) 0 with h | h | h
    · have hc : ((n - m : Int) : K) ≤ -1 := Int.cast_le_neg_one_of_neg h
      exact mul_nonneg_of_nonpos_of_nonpos (by linarith only [hc]) (by linarith only [hc, x2])
    · rw [h, Int.cast_zero, zero_mul]
    · have hc : (1 : K) ≤ ((n - m : Int) : K) := Int.cast_one_le_of_pos h
      exact mul_nonneg (by linarith only [hc]) (by linarith only [hc, x1])

end Atomman.C02
