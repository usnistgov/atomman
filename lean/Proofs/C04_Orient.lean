/-
  C04 — the ORIENTATION of the description does not matter.  A cell and its atoms may be written in any Cartesian frame
  `x ↦ x · M`, `det M ≠ 0` (rotated, mirrored = left-handed cell vectors, axes permuted: `reframe M`): relative coordinates
  do not change, so `supersize` and `rotate` (shortcut and general path) make the same decisions and return the re-framed
  result; only `normalize` (C05), applied last, looks at the frame.
-/
import Proofs.C04_Lemmas
import Proofs.Lists

namespace Atomman.C04
open Atomman

variable {K : Type} [Field K]

/-- the same cell written in the frame `x ↦ x · M`. -/
def reframe (M : M3 K) (b : Box K) : Box K := ⟨M3.mul b.vects M, M3.vecMul b.origin M⟩

/-- the same atom written in the frame `x ↦ x · M` (type and per-atom values untouched). -/
def reframeAtom (M : M3 K) (a : Atom K) : Atom K := { a with pos := M3.vecMul a.pos M }

theorem reframe_det (M : M3 K) (b : Box K) : M3.det (reframe M b).vects = M3.det b.vects * M3.det M :=
  M3.det_mul _ _

theorem relToCart_reframe (M : M3 K) (b : Box K) (s : V3 K) :
    (reframe M b).relToCart s = M3.vecMul (b.relToCart s) M := by
  simp only [Box.relToCart, reframe, ← M3.vecMul_vecMul, M3.vecMul_add]

/-- **relative coordinates do not depend on the frame** (rotated, mirrored - left-handed -, axes permuted, sheared). -/
theorem cartToRel_reframe (M : M3 K) (b : Box K) (hb : M3.det b.vects ≠ 0) (hM : M3.det M ≠ 0) (p : V3 K) :
    (reframe M b).cartToRel (M3.vecMul p M) = b.cartToRel p := by
  have h1 := Box.relToCart_cartToRel b hb p
  have hd : M3.det (reframe M b).vects ≠ 0 := by rw [reframe_det]; exact mul_ne_zero hb hM
  calc (reframe M b).cartToRel (M3.vecMul p M)
      = (reframe M b).cartToRel ((reframe M b).relToCart (b.cartToRel p)) := by rw [relToCart_reframe, h1]
    _ = b.cartToRel p := Box.cartToRel_relToCart _ hd _

theorem newVects_reframe (U : M3 Int) (V M : M3 K) : newVects U (M3.mul V M) = M3.mul (newVects U V) M := by
  rw [newVects_eq, newVects_eq, M3.mul_assoc]

theorem newBox_reframe (U : M3 Int) (M : M3 K) (b : Box K) :
    (⟨newVects U (reframe M b).vects, ⟨0, 0, 0⟩⟩ : Box K) = reframe M ⟨newVects U b.vects, ⟨0, 0, 0⟩⟩ := by
  simp only [reframe, newVects_reframe, M3.vecMul_zero]

/-- **the kept / dropped decision of `rotate` does not depend on the frame**: an atom is inside the half-open new cell
    of the re-framed description iff it is in the original one. -/
theorem kept_reframe [LinearOrder K] (U : M3 Int) (M : M3 K) (b : Box K) (hW : M3.det (newVects U b.vects) ≠ 0)
    (hM : M3.det M ≠ 0) (p : V3 K) :
    inHalfOpen ((⟨newVects U (reframe M b).vects, ⟨0, 0, 0⟩⟩ : Box K).cartToRel (M3.vecMul p M))
      = inHalfOpen ((⟨newVects U b.vects, ⟨0, 0, 0⟩⟩ : Box K).cartToRel p) := by
  have h := cartToRel_reframe M ⟨newVects U b.vects, ⟨0, 0, 0⟩⟩ hW hM p
  rw [newBox_reframe, h]

theorem superBox_reframe (M : M3 K) (b : Box K) (sa sb sc : Size) :
    superBox (reframe M b) sa sb sc = reframe M (superBox b sa sb sc) := by
  simp only [superBox, reframe, M3.mul, M3.vecMul_add, M3.vecMul_smul]

theorem replicaPos_reframe (M : M3 K) (b : Box K) (hb : M3.det b.vects ≠ 0) (hM : M3.det M ≠ 0) (sa sb sc : Size)
    (p : V3 K) (r0 r1 r2 : Nat) :
    replicaPos (reframe M b) sa sb sc (M3.vecMul p M) r0 r1 r2 = M3.vecMul (replicaPos b sa sb sc p r0 r1 r2) M := by
  simp only [replicaPos, cartToRel_reframe M b hb hM, superBox_reframe, relToCart_reframe]

/-- **`supersize` commutes with a change of frame**: the replicas of the re-framed atoms in the re-framed cell are the
    re-framed replicas, in the same order, with the same types and per-atom values. -/
theorem supersizeAtoms_reframe (M : M3 K) (b : Box K) (hb : M3.det b.vects ≠ 0) (hM : M3.det M ≠ 0) (sa sb sc : Size)
    (atoms : List (Atom K)) :
    supersizeAtoms (reframe M b) sa sb sc (atoms.map (reframeAtom M))
      = (supersizeAtoms b sa sb sc atoms).map (reframeAtom M) := by
  simp only [supersizeAtoms, List.map_flatMap, List.map_map]
  congr 1; funext r2; congr 1; funext r1; congr 1; funext r0
  apply List.map_congr_left
  intro a _
  simp only [Function.comp, reframeAtom, replicaPos_reframe M b hb hM]

/-- the identity shortcut (`uvws` = identity: the primitive setting `p` of the conversions): wrapping an atom into the
    cell commutes with a change of frame. -/
theorem wrapAtom_reframe (fl : K → Int) (M : M3 K) (b : Box K) (hb : M3.det b.vects ≠ 0) (hM : M3.det M ≠ 0)
    (a : Atom K) :
    wrapAtom fl (reframe M b) (reframeAtom M a) = reframeAtom M (wrapAtom fl b a) := by
  have h0 : (⟨(reframe M b).vects, ⟨0, 0, 0⟩⟩ : Box K) = reframe M ⟨b.vects, ⟨0, 0, 0⟩⟩ := by
    simp only [reframe, M3.vecMul_zero]
  have hs : (⟨(reframe M b).vects, ⟨0, 0, 0⟩⟩ : Box K).cartToRel (M3.vecMul a.pos M)
      = (⟨b.vects, ⟨0, 0, 0⟩⟩ : Box K).cartToRel a.pos := by
    rw [h0]; exact cartToRel_reframe M ⟨b.vects, ⟨0, 0, 0⟩⟩ hb hM a.pos
  simp only [wrapAtom, reframeAtom, hs]
  simp only [reframe, ← M3.vecMul_vecMul, M3.vecMul_sub]

/-- **the identity shortcut in any frame**: `rotate` with identity vectors of a cell written in another frame (rotated,
    left-handed, ...) is the re-framed result - every atom moved by whole cell vectors into the cell at the origin. -/
theorem rotateIdentity_reframe (fl : K → Int) (M : M3 K) (b : Box K) (hb : M3.det b.vects ≠ 0) (hM : M3.det M ≠ 0)
    (atoms : List (Atom K)) :
    rotateIdentity fl (reframe M b) (atoms.map (reframeAtom M))
      = (reframe M (rotateIdentity fl b atoms).1, (rotateIdentity fl b atoms).2.map (reframeAtom M)) := by
  simp only [rotateIdentity, List.map_map, Prod.mk.injEq]
  refine ⟨by simp only [reframe, M3.vecMul_zero], ?_⟩
  apply List.map_congr_left
  intro a _
  simp only [Function.comp, wrapAtom_reframe fl M b hb hM]

section general
variable [LinearOrder K] [IsStrictOrderedRing K]

/-- **`rotate` (general path, before `normalize`) commutes with a change of frame**: for a cell and its atoms written in
    the frame `x ↦ x · M` (`det M ≠ 0`: any rotation, mirror image - a left-handed set of cell vectors -, permutation of
    the axes) the bounding supercell, the lattice translation and the filter make the same decisions, and the result is
    the re-framed result: the same atoms (types, per-atom values) in the same order at the re-framed positions, in the
    re-framed new cell; refusals coincide.  A conversion of a cell that is not LAMMPS-oriented therefore returns the same
    crystal as the conversion of the LAMMPS-oriented description. -/
theorem rotateRaw_reframe (fl : K → Int) (M : M3 K) (b : Box K) (U : M3 Int) (hb : M3.det b.vects ≠ 0)
    (hM : M3.det M ≠ 0) (atoms : List (Atom K)) :
    rotateRaw fl (reframe M b) U (atoms.map (reframeAtom M))
      = (rotateRaw fl b U atoms).map fun r => (reframe M r.1, r.2.map (reframeAtom M)) := by
  by_cases hU : M3.det U = 0
  · simp [rotateRaw, hU]
  · have hW : M3.det (newVects U b.vects) ≠ 0 := by
      rw [newVects_det]
      exact mul_ne_zero (by exact_mod_cast hU) hb
    have h0 : (reframe M b).cartToRel ⟨0, 0, 0⟩ = b.cartToRel ⟨0, 0, 0⟩ := by
      have := cartToRel_reframe M b hb hM ⟨0, 0, 0⟩
      rwa [M3.vecMul_zero] at this
    simp only [rotateRaw, hU, if_false, Option.map_some, Option.some.injEq, Prod.mk.injEq, h0,
      supersizeAtoms_reframe M b hb hM, List.map_map, List.filter_map]
    refine ⟨newBox_reframe U M b, ?_⟩
    have hf : ∀ shift : V3 K,
        ((fun a : Atom K => { a with pos := a.pos - M3.vecMul shift (reframe M b).vects }) ∘ reframeAtom M)
          = (reframeAtom M ∘ fun a : Atom K => { a with pos := a.pos - M3.vecMul shift b.vects }) := by
      intro shift
      funext a
      simp only [Function.comp, reframeAtom, reframe, ← M3.vecMul_vecMul, M3.vecMul_sub]
    rw [hf]
    congr 2
    funext a
    simp only [Function.comp, reframeAtom]
    exact kept_reframe U M b hW hM _

/-- **the whole of `rotate` before `normalize`** - identity shortcut, bounding supercell, filter, the expected-count test
    with its refusals - **commutes with a change of frame**. -/
theorem rotate_reframe (fl : K → Int) (M : M3 K) (b : Box K) (U : M3 Int) (hb : M3.det b.vects ≠ 0)
    (hM : M3.det M ≠ 0) (atoms : List (Atom K)) :
    rotate fl (reframe M b) U (atoms.map (reframeAtom M))
      = (rotate fl b U atoms).map fun r => (reframe M r.1, r.2.map (reframeAtom M)) := by
  unfold rotate
  split
  · simp only [exceptSimp, rotateIdentity_reframe fl M b hb hM]
  · unfold rotateChecked
    rw [rotateRaw_reframe fl M b U hb hM]
    cases h : rotateRaw fl b U atoms with
    | none => simp [exceptSimp]
    | some r =>
      obtain ⟨nb, kept⟩ := r
      simp only [Option.map_some, List.length_map]
      split <;> simp [exceptSimp]

end general

example : reframe (⟨⟨1, 0, 0⟩, ⟨0, 1, 0⟩, ⟨0, 0, -1⟩⟩ : M3 Rat) ⟨⟨⟨3, 0, 0⟩, ⟨0, 4, 0⟩, ⟨0, 0, 5⟩⟩, ⟨1, 2, 3⟩⟩
    = ⟨⟨⟨3, 0, 0⟩, ⟨0, 4, 0⟩, ⟨0, 0, -5⟩⟩, ⟨1, 2, -3⟩⟩ := by decide +kernel

end Atomman.C04
