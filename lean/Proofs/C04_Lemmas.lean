/-
  C04 — integer vectors and matrices cast into the field (`newVects U V` is the product `castM U · V`), the position of a
  replica, indexing into nested `flatMap`s, and the supersize clauses other properties cite.  Must stay free of the
  generated source tie (C13 and C14 import it).
-/
import Atomman.C04
import Proofs.Lattice
import Proofs.Abs
import Proofs.Lists
import Mathlib.Tactic.FieldSimp

namespace Atomman.C04
open Atomman

theorem V3.sub_x' {α : Type} [Sub α] (a b : V3 α) : (a - b).x = a.x - b.x := V3.sub_x a b
theorem V3.sub_y' {α : Type} [Sub α] (a b : V3 α) : (a - b).y = a.y - b.y := V3.sub_y a b
theorem V3.sub_z' {α : Type} [Sub α] (a b : V3 α) : (a - b).z = a.z - b.z := V3.sub_z a b
theorem V3.add_x' {α : Type} [Add α] (a b : V3 α) : (a + b).x = a.x + b.x := V3.add_x a b
theorem V3.add_y' {α : Type} [Add α] (a b : V3 α) : (a + b).y = a.y + b.y := V3.add_y a b
theorem V3.add_z' {α : Type} [Add α] (a b : V3 α) : (a + b).z = a.z + b.z := V3.add_z a b

variable {K : Type} [Field K]

@[simp] theorem V3.add_def (a b : V3 K) : a + b = ⟨a.x + b.x, a.y + b.y, a.z + b.z⟩ := Atomman.V3.add_def a b
@[simp] theorem V3.sub_def (a b : V3 K) : a - b = ⟨a.x - b.x, a.y - b.y, a.z - b.z⟩ := Atomman.V3.sub_def a b

def castV (n : V3 Int) : V3 K := ⟨(n.x : K), (n.y : K), (n.z : K)⟩
def castM (U : M3 Int) : M3 K := ⟨castV U.r0, castV U.r1, castV U.r2⟩

theorem castV_sub (a b : V3 Int) : (castV (a - b) : V3 K) = castV a - castV b := V3.castInt_sub a b

theorem castV_injective [CharZero K] : Function.Injective (castV : V3 Int → V3 K) := V3.castInt_injective

theorem castM_det (U : M3 Int) : M3.det (castM U : M3 K) = ((M3.det U : Int) : K) := M3.castInt_det U

theorem castV_vecMul (m : V3 Int) (U : M3 Int) : (castV (M3.vecMul m U) : V3 K) = M3.vecMul (castV m) (castM U) :=
  V3.castInt_vecMul m U

theorem castM_mul (A B : M3 Int) : (castM (M3.mul A B) : M3 K) = M3.mul (castM A) (castM B) := M3.castInt_mul A B

theorem newVects_eq (U : M3 Int) (V : M3 K) : newVects U V = M3.mul (castM U) V := rfl

/-- new cell volume (signed) = `det U` × old volume. -/
theorem newVects_det (U : M3 Int) (V : M3 K) :
    M3.det (newVects U V) = ((M3.det U : Int) : K) * M3.det V := by
  rw [newVects_eq, M3.det_mul, castM_det]

theorem superBox_relToCart (b : Box K) (sa sb sc : Size) (s : V3 K) :
    (superBox b sa sb sc).relToCart s
      = b.relToCart ⟨s.x * (sa.mult : K) + (sa.lo : K), s.y * (sb.mult : K) + (sb.lo : K),
          s.z * (sc.mult : K) + (sc.lo : K)⟩ := by
  ext <;> simp only [superBox, Box.relToCart, M3.vecMul, V3.smul, V3.add_x, V3.add_y, V3.add_z] <;> ring

/-- Cartesian position of a replica: the original position plus the integer lattice vector
    `(r0+lo_a) a + (r1+lo_b) b + (r2+lo_c) c`  (for a non-degenerate cell and non-zero multipliers). -/
theorem replicaPos_eq (b : Box K) (sa sb sc : Size) (p : V3 K) (r0 r1 r2 : Nat)
    (hdet : M3.det b.vects ≠ 0)
    (ha : ((sa.mult : Int) : K) ≠ 0) (hb : ((sb.mult : Int) : K) ≠ 0) (hc : ((sc.mult : Int) : K) ≠ 0) :
    replicaPos b sa sb sc p r0 r1 r2
      = p + M3.vecMul ⟨(((r0 : Int) + sa.lo : Int) : K), (((r1 : Int) + sb.lo : Int) : K),
                        (((r2 : Int) + sc.lo : Int) : K)⟩ b.vects := by
  -- one coordinate, scaled back to the original cell and shifted by the lower end `l`
  have sc : ∀ {m : K}, m ≠ 0 → ∀ s r l : K, (s / m + r * (1 / m)) * m + l = s + (r + l) := fun hm s r l => by
    field_simp; ring
  rw [replicaPos, superBox_relToCart]
  simp only [Int.cast_one, sc ha, sc hb, sc hc, ← Int.cast_add]
  exact (Box.relToCart_add b (b.cartToRel p) ⟨_, _, _⟩).trans (by rw [Box.relToCart_cartToRel b hdet])

theorem length_flatMap_range_const {α : Type} (n L : Nat) (f : Nat → List α) (hf : ∀ j, (f j).length = L) :
    ((List.range n).flatMap f).length = n * L := by
  rw [length_flatMap_const _ f L (fun j _ => hf j), List.length_range]

theorem getElem?_flatMap_range_const {α : Type} (n L : Nat) (f : Nat → List α) (hf : ∀ j, (f j).length = L)
    (j i : Nat) (hj : j < n) (hi : i < L) :
    ((List.range n).flatMap f)[j * L + i]? = (f j)[i]? := by
  rw [List.flatMap_def, getElem?_flatten_const L _ (by simp [hf]) j i hi]; simp [hj]

/-- new index of replica `(r0,r1,r2)` of original atom `i` (`N` atoms, multipliers `m0 m1 _`). -/
def encode (N m0 m1 : Nat) (i r0 r1 r2 : Nat) : Nat := ((r2 * m1 + r1) * m0 + r0) * N + i

def decode (N m0 m1 : Nat) (k : Nat) : Nat × Nat × Nat × Nat :=
  (k % N, (k / N) % m0, (k / N / m0) % m1, k / N / m0 / m1)

theorem mem_supersizeAtoms (b : Box K) (sa sb sc : Size) (atoms : List (Atom K)) (a' : Atom K) :
    a' ∈ supersizeAtoms b sa sb sc atoms ↔ ∃ r2 < sc.mult.toNat, ∃ r1 < sb.mult.toNat, ∃ r0 < sa.mult.toNat, ∃ a ∈ atoms,
      a' = { a with pos := replicaPos b sa sb sc a.pos r0 r1 r2 } := by
  simp only [supersizeAtoms, List.mem_flatMap, List.mem_map, List.mem_range, eq_comm (a := a')]

theorem supersize_length (b : Box K) (sa sb sc : Size) (atoms : List (Atom K)) :
    (supersizeAtoms b sa sb sc atoms).length
      = sc.mult.toNat * (sb.mult.toNat * (sa.mult.toNat * atoms.length)) := by
  unfold supersizeAtoms
  apply length_flatMap_range_const; intro r2
  apply length_flatMap_range_const; intro r1
  apply length_flatMap_range_const; intro r0
  simp

/-- the atom at new index `encode i r0 r1 r2` is original atom `i` with every per-atom value copied
    and the position of replica `(r0,r1,r2)`. -/
theorem supersize_get (b : Box K) (sa sb sc : Size) (atoms : List (Atom K)) (i r0 r1 r2 : Nat)
    (hi : i < atoms.length) (h0 : r0 < sa.mult.toNat) (h1 : r1 < sb.mult.toNat) (h2 : r2 < sc.mult.toNat) :
    (supersizeAtoms b sa sb sc atoms)[encode atoms.length sa.mult.toNat sb.mult.toNat i r0 r1 r2]?
      = some { atoms[i] with pos := replicaPos b sa sb sc atoms[i].pos r0 r1 r2 } := by
  set N := atoms.length
  set m0 := sa.mult.toNat
  set m1 := sb.mult.toNat
  have hidx : encode N m0 m1 i r0 r1 r2 = r2 * (m1 * (m0 * N)) + (r1 * (m0 * N) + (r0 * N + i)) := by
    simp only [encode]; ring
  have hb0 : r0 * N + i < m0 * N := mul_add_lt h0 hi
  have hb1 : r1 * (m0 * N) + (r0 * N + i) < m1 * (m0 * N) := mul_add_lt h1 hb0
  rw [hidx]
  unfold supersizeAtoms
  rw [getElem?_flatMap_range_const _ (m1 * (m0 * N)) _ _ r2 _ h2 hb1]
  · rw [getElem?_flatMap_range_const _ (m0 * N) _ _ r1 _ h1 hb0]
    · rw [getElem?_flatMap_range_const _ N _ _ r0 _ h0 hi]
      · simp [List.getElem?_map, List.getElem?_eq_getElem hi]
      · intro j; simp [N]
    · intro j; apply length_flatMap_range_const; intro j'; simp [N]
  · intro j; apply length_flatMap_range_const; intro j'
    apply length_flatMap_range_const; intro j''; simp [N]

/-- the volume (signed) scales by the replication count. -/
theorem superBox_volume (b : Box K) (sa sb sc : Size) :
    M3.det (superBox b sa sb sc).vects
      = ((sa.mult : Int) : K) * ((sb.mult : Int) : K) * ((sc.mult : Int) : K) * M3.det b.vects := by
  simp only [superBox, M3.det, V3.dot, V3.cross, V3.smul]; ring

section ordered
variable [LinearOrder K] [IsStrictOrderedRing K]

theorem absK_eq_abs (x : K) : absK x = |x| := by unfold absK; rw [zero_sub]; exact ite_neg_eq_abs x

end ordered

example : (supersizeAtoms (K := ℚ) ⟨M3.one, ⟨0, 0, 0⟩⟩ ⟨0, 2⟩ ⟨-1, 1⟩ ⟨0, 1⟩ [⟨1, ⟨0, 0, 0⟩, []⟩]).length = 4 := by
  rw [supersize_length]; decide

end Atomman.C04
