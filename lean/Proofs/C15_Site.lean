/-
  C15 — which atom a request names: selection by index and by position (also through an adjacent periodic image), the
  tolerance as a closed ball, index objects that are not integers, the search under a change of the unit of length.
  The generators enter only as far as they see a request through `resolveSite` (a float index object: `floatIndex`) alone.
-/
import Proofs.C15_Lemmas
import Proofs.Images
import Mathlib.Algebra.Order.Ring.Cast

namespace Atomman.C15

section any
variable {K : Type} [Add K] [Sub K] [Mul K] [Zero K] [IntCast K] [LT K] [DecidableLT K] [DecidableEq K]

/-- index selection: `0 ≤ i < natoms` and `i - natoms` name the same atom. -/
theorem index_normalisation (s : Sys K) (i : Nat) (hi : i < s.atoms.length) (scale : Bool) (atol : K) :
    resolveSite s none (some (i : Int)) scale atol = .ok i :=
  resolveSite_idx.mpr (normIdx_eq ▸ pyNorm_natCast hi)

theorem index_negative (s : Sys K) (i : Nat) (hi : i < s.atoms.length) (scale : Bool) (atol : K) :
    resolveSite s none (some ((i : Int) - (s.atoms.length : Int))) scale atol = .ok i :=
  resolveSite_idx.mpr (normIdx_eq ▸ pyNorm_sub_length hi)

/-- **selection by index, completely** (also negative indices). -/
theorem resolve_index_iff (s : Sys K) (k : Int) (scale : Bool) (atol : K) (i : Nat) :
    resolveSite s none (some k) scale atol = .ok i ↔
      ((0 ≤ k ∧ k < (s.atoms.length : Int) ∧ (i : Int) = k) ∨
       (k < 0 ∧ 0 ≤ k + (s.atoms.length : Int) ∧ (i : Int) = k + (s.atoms.length : Int))) :=
  resolveSite_idx.trans (normIdx_eq_some_iff _ k i)

/-- **an index is refused exactly when it is out of range.** -/
theorem refuse_index_iff (s : Sys K) (k : Int) (scale : Bool) (atol : K) :
    resolveSite s none (some k) scale atol = .error .value ↔
      (k ≥ (s.atoms.length : Int) ∨ k < -(s.atoms.length : Int)) := by
  rw [← normIdx_eq_none_iff]
  simp only [resolveSite]
  cases normIdx s.atoms.length k <;> simp

theorem refuse_index_out_of_range (s : Sys K) (k : Int) (scale : Bool) (atol : K)
    (h : k ≥ (s.atoms.length : Int) ∨ k < -(s.atoms.length : Int)) :
    resolveSite s none (some k) scale atol = .error .value :=
  (refuse_index_iff s k scale atol).mpr h

theorem resolve_index_indep (s : Sys K) (k : Int) (sc sc' : Bool) (a a' : K) :
    resolveSite s none (some k) sc a = resolveSite s none (some k) sc' a' := rfl

theorem refuse_both_or_neither (s : Sys K) (p : V3 K) (k : Int) (scale : Bool) (atol : K) :
    resolveSite s (some p) (some k) scale atol = .error .value ∧
    resolveSite s none none scale atol = .error .value :=
  ⟨rfl, rfl⟩

/-- **selection by position, completely:** `pos` resolves to atom `i` exactly when atom `i` is within
    the tolerance and no other atom is (absent and ambiguous sites are the two ways to fail). -/
theorem resolve_pos_iff_unique (s : Sys K) (p : V3 K) (scale : Bool) (atol : K) (i : Nat) :
    resolveSite s (some p) none scale atol = .ok i ↔
      (∃ a, s.atoms[i]? = some a ∧ within s (toCart s scale p) atol a = true) ∧
      ∀ j b, j ≠ i → s.atoms[j]? = some b → within s (toCart s scale p) atol b = false :=
  resolveSite_pos.trans (siteMatches_eq_singleton_iff s _ atol i)

theorem refuse_absent_site (s : Sys K) (p : V3 K) (scale : Bool) (atol : K)
    (h : ∀ (j : Nat) b, s.atoms[j]? = some b → within s (toCart s scale p) atol b = false) :
    resolveSite s (some p) none scale atol = .error .value := by
  simp only [resolveSite, (siteMatches_eq_nil_iff s _ atol).mpr h]

theorem refuse_ambiguous_site (s : Sys K) (p : V3 K) (scale : Bool) (atol : K) (i j : Nat) (a b : Atom K)
    (hij : i ≠ j) (ha : s.atoms[i]? = some a) (hb : s.atoms[j]? = some b)
    (hwa : within s (toCart s scale p) atol a = true) (hwb : within s (toCart s scale p) atol b = true) :
    resolveSite s (some p) none scale atol = .error .value := by
  have hi : i ∈ siteMatches s (toCart s scale p) atol := mem_siteMatches.mpr ⟨a, ha, hwa⟩
  have hj : j ∈ siteMatches s (toCart s scale p) atol := mem_siteMatches.mpr ⟨b, hb, hwb⟩
  simp only [resolveSite]
  split
  · rename_i k hk
    rw [hk, List.mem_singleton] at hi hj
    exact absurd (hi.trans hj.symm) hij
  · rfl

theorem refusals_propagate (s : Sys K) (pos : Option (V3 K)) (ptd : Option Int) (scale : Bool) (atol : K)
    (e : Err) (hr : resolveSite s pos ptd scale atol = .error e) (kw : Kw K) (db : V3 K) :
    vacancy s pos ptd scale atol = .error e ∧
    substitutional s pos ptd scale atol kw = .error e ∧
    dumbbell s pos ptd db scale atol kw = .error e := by
  simp only [vacancy, substitutional, dumbbell, hr, and_self]

/-- **the two spellings of an index give the same RESULT** (not only the same site), for every generator. -/
theorem index_forms_same_result (s : Sys K) (i : Nat) (hi : i < s.atoms.length) (scale : Bool) (atol : K)
    (db : V3 K) (kw : Kw K) :
    vacancy s none (some ((i : Int) - (s.atoms.length : Int))) scale atol = vacancy s none (some (i : Int)) scale atol ∧
    substitutional s none (some ((i : Int) - (s.atoms.length : Int))) scale atol kw
      = substitutional s none (some (i : Int)) scale atol kw ∧
    dumbbell s none (some ((i : Int) - (s.atoms.length : Int))) db scale atol kw
      = dumbbell s none (some (i : Int)) db scale atol kw := by
  simp only [vacancy, substitutional, dumbbell, index_normalisation s i hi scale atol,
    index_negative s i hi scale atol, and_self]

end any

section field
variable {K : Type} [Field K] [LinearOrder K] [IsStrictOrderedRing K]

/-- a position that is atom `a` seen through an adjacent periodic image (shift `(x,y,z)`, zero along
    non-periodic directions) is within every tolerance of `a` (distance exactly 0). -/
theorem site_of_image (s : Sys K) (a : Atom K) (cart : V3 K) (atol : K) (x y z : Int)
    (hx : x ∈ pbcRange s.pbc.1) (hy : y ∈ pbcRange s.pbc.2.1) (hz : z ∈ pbcRange s.pbc.2.2)
    (hp : cart = shiftBy s.box.vects a.pos (x, y, z)) : within s cart atol a = true := by
  have h0 : dist2 s cart a = 0 := by
    rw [hp]; exact dvect_image_zero s.box.vects _ _ _ a.pos x y z hx hy hz
  simp only [within, h0, decide_true, Bool.true_or]

/-- **selection by position ≡ selection by index.** If `pos` (Cartesian, or box-relative with
    `scale`) is atom `i` seen through an adjacent periodic image and no other atom is within `atol`
    of it, then `pos`, the index `i` and the negative index `i - natoms` resolve to the same site, and
    therefore every generator returns the same result for the three requests. -/
theorem pos_eq_index_selection (s : Sys K) (i : Nat) (a : Atom K) (p : V3 K) (scale : Bool) (atol : K)
    (x y z : Int) (ha : s.atoms[i]? = some a)
    (hx : x ∈ pbcRange s.pbc.1) (hy : y ∈ pbcRange s.pbc.2.1) (hz : z ∈ pbcRange s.pbc.2.2)
    (hp : toCart s scale p = shiftBy s.box.vects a.pos (x, y, z))
    (huniq : ∀ j b, j ≠ i → s.atoms[j]? = some b → within s (toCart s scale p) atol b = false) :
    resolveSite s (some p) none scale atol = .ok i ∧
    resolveSite s none (some (i : Int)) scale atol = .ok i ∧
    resolveSite s none (some ((i : Int) - (s.atoms.length : Int))) scale atol = .ok i ∧
    vacancy s (some p) none scale atol = vacancy s none (some (i : Int)) scale atol ∧
    (∀ kw, substitutional s (some p) none scale atol kw = substitutional s none (some (i : Int)) scale atol kw) ∧
    (∀ db kw, dumbbell s (some p) none db scale atol kw = dumbbell s none (some (i : Int)) db scale atol kw) := by
  have hi : i < s.atoms.length := (List.getElem?_eq_some_iff.mp ha).1
  have h1 : resolveSite s (some p) none scale atol = .ok i :=
    (resolve_pos_iff_unique s p scale atol i).mpr
      ⟨⟨a, ha, site_of_image s a _ atol x y z hx hy hz hp⟩, huniq⟩
  have h2 := index_normalisation s i hi scale atol
  -- the generators see the request only through the resolved site
  exact ⟨h1, h2, index_negative s i hi scale atol, by simp only [vacancy, h1, h2],
    fun kw => by simp only [substitutional, h1, h2], fun db kw => by simp only [dumbbell, h1, h2]⟩

/-- Cartesian position of the atom itself. -/
theorem pos_eq_index_cartesian (s : Sys K) (i : Nat) (a : Atom K) (atol : K) (ha : s.atoms[i]? = some a)
    (huniq : ∀ j b, j ≠ i → s.atoms[j]? = some b → within s a.pos atol b = false) :
    resolveSite s (some a.pos) none false atol = resolveSite s none (some (i : Int)) false atol := by
  obtain ⟨h1, h2, _⟩ := pos_eq_index_selection s i a a.pos false atol 0 0 0 ha (zero_mem_pbcRange _) (zero_mem_pbcRange _)
    (zero_mem_pbcRange _) (shiftBy_zero _ _).symm huniq
  rw [h1, h2]

/-- box-relative position: the relative coordinates `r` of the atom plus an integer image shift. -/
theorem pos_eq_index_relative (s : Sys K) (i : Nat) (a : Atom K) (r : V3 K) (atol : K) (x y z : Int)
    (ha : s.atoms[i]? = some a) (hr : s.box.relToCart r = a.pos)
    (hx : x ∈ pbcRange s.pbc.1) (hy : y ∈ pbcRange s.pbc.2.1) (hz : z ∈ pbcRange s.pbc.2.2)
    (huniq : ∀ j b, j ≠ i → s.atoms[j]? = some b →
      within s (s.box.relToCart ⟨r.x + x, r.y + y, r.z + z⟩) atol b = false) :
    resolveSite s (some ⟨r.x + x, r.y + y, r.z + z⟩) none true atol =
      resolveSite s none (some (i : Int)) true atol := by
  -- `relToCart` is affine: integer steps in relative coordinates are whole cell vectors
  have hp : toCart s true ⟨r.x + x, r.y + y, r.z + z⟩ = shiftBy s.box.vects a.pos (x, y, z) := by
    rw [shiftBy_eq, ← hr]
    exact Box.relToCart_add s.box r ⟨x, y, z⟩
  obtain ⟨h1, h2, _⟩ := pos_eq_index_selection s i a _ true atol x y z ha hx hy hz hp huniq
  rw [h1, h2]

theorem dist2_nonneg (s : Sys K) (p : V3 K) (a : Atom K) : 0 ≤ dist2 s p a := V3.normSq_nonneg _

set_option linter.unusedSectionVars false in
/-- `np.isclose(dist, 0, atol)` on squares: an exact hit, or a non-negative tolerance whose closed
    ball contains the position. -/
theorem within_iff (s : Sys K) (p : V3 K) (atol : K) (a : Atom K) :
    within s p atol a = true ↔ dist2 s p a = 0 ∨ (0 ≤ atol ∧ dist2 s p a ≤ atol * atol) := by
  simp only [within, Bool.or_eq_true, Bool.and_eq_true, decide_eq_true_eq, Bool.not_eq_true',
    decide_eq_false_iff_not, not_lt]

/-- the boundary belongs to the tolerance: `|d| = atol` is a match. -/
theorem within_tie (s : Sys K) (p : V3 K) (atol : K) (a : Atom K) (h0 : 0 ≤ atol)
    (h : dist2 s p a = atol * atol) : within s p atol a = true :=
  (within_iff s p atol a).mpr (Or.inr ⟨h0, le_of_eq h⟩)

/-- with `atol = 0` (or any negative tolerance) only an exact hit matches: no default sneaks in. -/
theorem within_zero_tol (s : Sys K) (p : V3 K) (atol : K) (a : Atom K) (h : atol ≤ 0) :
    within s p atol a = true ↔ dist2 s p a = 0 := by
  rw [within_iff, or_iff_left_iff_imp]
  rintro ⟨h1, h2⟩
  obtain rfl : atol = 0 := le_antisymm h h1
  exact le_antisymm (h2.trans_eq (mul_zero 0)) (dist2_nonneg s p a)

theorem within_mono (s : Sys K) (p : V3 K) (t t' : K) (a : Atom K) (h0 : 0 ≤ t) (h : t ≤ t')
    (hw : within s p t a = true) : within s p t' a = true := by
  rw [within_iff] at hw ⊢
  exact hw.imp_right fun ⟨_, h2⟩ => ⟨le_trans h0 h, le_trans h2 (mul_self_le_mul_self h0 h)⟩

/-- **the tolerance test on squares is numpy's `isclose(dist, 0.0, atol=atol)`**: for the exact distance `r`
    (`r ≥ 0`, `r² = dist2`) and ANY `rtol`, `within` holds iff `r == 0` or `|r - 0| ≤ atol + rtol·|0|`. -/
theorem within_iff_isclose (s : Sys K) (p : V3 K) (atol : K) (a : Atom K) (r rtol : K) (hr : 0 ≤ r)
    (hrr : r * r = dist2 s p a) :
    within s p atol a = true ↔ (r = 0 ∨ |r - 0| ≤ atol + rtol * |(0 : K)|) := by
  rw [within_iff, ← hrr]
  simp only [sub_zero, abs_zero, mul_zero, add_zero, abs_of_nonneg hr, mul_self_eq_zero]
  -- for `r ≥ 0`, comparing squares with a non-negative tolerance is comparing `r` with it
  exact or_congr_right ⟨fun ⟨h0, h1⟩ => (mul_self_le_mul_self_iff hr h0).mpr h1,
    fun h => ⟨hr.trans h, mul_self_le_mul_self hr h⟩⟩

/-- in range (`-natoms ≤ q < natoms`) the object reaches its first use as an index and fails there;
    out of range it is the ordinary 'invalid ptd_id'. -/
theorem float_index_class (n : Nat) (q : K) (after : Refusal) :
    floatIndex n q after = if -((n : Int) : K) ≤ q ∧ q < ((n : Int) : K) then after else .value := by
  unfold floatIndex
  have hn : (0 : K) ≤ ((n : Int) : K) := Int.cast_nonneg (Int.natCast_nonneg n)
  generalize ((n : Int) : K) = N at hn ⊢
  -- the lower bound is the test `q' < 0` after `+= natoms`; the upper bound is the test `q' < natoms`
  have hlow : -N ≤ q ↔ ¬ (q + N < 0) := neg_le_iff_add_nonneg.trans not_lt.symm
  by_cases hq : q < 0
  · simp only [hlow, hq, if_true, add_lt_iff_neg_right, hq.trans_le hn, and_true, ite_not]
  · simp only [hlow, hq, if_false, (add_nonneg (not_lt.mp hq) hn).not_gt, not_false_eq_true, true_and]

/-- a whole-number float is refused with 'invalid ptd_id' exactly when the integer of the same value is. -/
theorem float_index_range_agrees (s : Sys K) (k : Int) (scale : Bool) (atol : K) (after : Refusal)
    (ha : after ≠ .value) :
    floatIndex s.atoms.length ((k : Int) : K) after = .value ↔
      resolveSite s none (some k) scale atol = .error .value := by
  rw [float_index_class, refuse_index_iff s k scale atol]
  simp only [← Int.cast_neg, Int.cast_le, Int.cast_lt]
  split_ifs with hin
  · exact ⟨fun h => absurd h ha, fun h => by omega⟩
  · exact ⟨fun _ => by omega, fun _ => rfl⟩

/-- **an index that is not of integer type is never accepted and never truncated**: the three generators
    answer with a refusal class that depends only on the range of its value. -/
theorem float_index_refused (s : Sys K) (q : K) (hq : -((s.atoms.length : Int) : K) ≤ q ∧ q < ((s.atoms.length : Int) : K)) :
    vacancyF s none q = .type ∧ substitutionalF s none q = .index ∧ dumbbellF s none q = .type ∧
    (∀ p, vacancyF s (some p) q = .value ∧ substitutionalF s (some p) q = .value ∧ dumbbellF s (some p) q = .value) := by
  have h := fun a => float_index_class (K := K) s.atoms.length q a
  simp only [hq, and_self, if_true] at h
  refine ⟨?_, ?_, ?_, ?_⟩
  · simp only [vacancyF]; exact h _
  · simp only [substitutionalF]; exact h _
  · simp only [dumbbellF]; exact h _
  · intro p; simp [vacancyF, substitutionalF, dumbbellF]

-- the cell with every vector multiplied by `c`: the shared `M3.smul c m`, spelt out
def scaleM (c : K) (m : M3 K) : M3 K := ⟨V3.smul c m.r0, V3.smul c m.r1, V3.smul c m.r2⟩

/-- a system with every length (cell vectors, origin, atom positions) multiplied by `c`. -/
def Sys.scaled (c : K) (s : Sys K) : Sys K :=
  { s with box := ⟨scaleM c s.box.vects, V3.smul c s.box.origin⟩,
           atoms := s.atoms.map fun a => { a with pos := V3.smul c a.pos } }

theorem dvect_scale (c : K) (hc : 0 < c) (m : M3 K) (px py pz : Bool) (p q : V3 K) :
    dvect (scaleM c m) px py pz (V3.smul c p) (V3.smul c q) = V3.smul c (dvect m px py pz p q) :=
  dvect_smul c hc.ne' m px py pz p q

/-- **no hidden length in the site search**: with the cell, the atoms, the requested position and the
    tolerance all multiplied by the same `c > 0`, every atom is matched or not exactly as before. -/
theorem within_scale (c : K) (hc : 0 < c) (s : Sys K) (p : V3 K) (atol : K) (a : Atom K) :
    within (s.scaled c) (V3.smul c p) (c * atol) { a with pos := V3.smul c a.pos } = within s p atol a := by
  have hcc : 0 < c * c := mul_pos hc hc
  -- the squared distance scales by `c²`, and so does the squared tolerance
  have hd : dist2 (s.scaled c) (V3.smul c p) { a with pos := V3.smul c a.pos } = c * c * dist2 s p a := by
    simp only [dist2, Sys.scaled, dvect_scale c hc, V3.normSq_smul]
  have hneg : c * atol < 0 ↔ atol < 0 := by
    simpa only [mul_zero] using mul_lt_mul_iff_right₀ hc (b := atol) (c := 0)
  simp only [within, hd, mul_mul_mul_comm c atol c atol, mul_eq_zero, hcc.ne', false_or,
    mul_lt_mul_iff_right₀ hcc, hneg]

theorem siteMatches_scale (c : K) (hc : 0 < c) (s : Sys K) (p : V3 K) (atol : K) :
    siteMatches (s.scaled c) (V3.smul c p) (c * atol) = siteMatches s p atol := by
  simp only [siteMatches, Sys.scaled, List.length_map, List.getElem?_map]
  refine List.filter_congr fun i _ => ?_
  cases s.atoms[i]? with
  | none => rfl
  | some a => exact within_scale c hc s p atol a

omit [LinearOrder K] [IsStrictOrderedRing K] in
theorem toCart_scaled_rel (c : K) (s : Sys K) (p : V3 K) :
    toCart (s.scaled c) true p = V3.smul c (toCart s true p) := by
  show M3.vecMul p (M3.smul c s.box.vects) + V3.smul c s.box.origin = V3.smul c (M3.vecMul p s.box.vects + s.box.origin)
  rw [M3.vecMul_smul_right, V3.smul_add]

/-- **the site search knows no absolute length.**  Multiply the cell, its origin, every atom position and
    the tolerance by the same `c > 0`: a Cartesian position multiplied by `c`, or the SAME box-relative
    position, resolves to the same site (or is refused alike), and an interstitial site is free or
    occupied alike.  (The only absolute length of `point.py` is the documented default tolerance, which
    enters through `effAtol` alone.) -/
theorem search_scale_invariant (c : K) (hc : 0 < c) (s : Sys K) (p : V3 K) (ptd : Option Int) (atol : K) :
    resolveSite (s.scaled c) (some (V3.smul c p)) ptd false (c * atol) = resolveSite s (some p) ptd false atol ∧
    resolveSite (s.scaled c) (some p) ptd true (c * atol) = resolveSite s (some p) ptd true atol ∧
    resolveSite (s.scaled c) none ptd false (c * atol) = resolveSite s none ptd false atol ∧
    siteMatches (s.scaled c) (toCart (s.scaled c) false (V3.smul c p)) (c * atol) = siteMatches s (toCart s false p) atol ∧
    siteMatches (s.scaled c) (toCart (s.scaled c) true p) (c * atol) = siteMatches s (toCart s true p) atol := by
  have hl : (s.scaled c).atoms.length = s.atoms.length := List.length_map _
  have h1 : siteMatches (s.scaled c) (toCart (s.scaled c) false (V3.smul c p)) (c * atol) =
      siteMatches s (toCart s false p) atol := siteMatches_scale c hc s p atol
  have h2 : siteMatches (s.scaled c) (toCart (s.scaled c) true p) (c * atol) =
      siteMatches s (toCart s true p) atol := by
    rw [toCart_scaled_rel]; exact siteMatches_scale c hc s _ atol
  -- `resolveSite` sees the system only through the matches and the number of atoms
  refine ⟨?_, ?_, ?_, h1, h2⟩ <;> cases ptd <;> simp only [resolveSite, h1, h2, hl]

end field

end Atomman.C15
