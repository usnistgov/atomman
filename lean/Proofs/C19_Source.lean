/-
  C19 — the source tie.  `Atomman/Generated/LogSource.lean` is regenerated from atomman/lammps/Log.py on every check
  (harness/props/c19.py, `translate_source`).  Every `gen_…_eq_model` proves a generated definition equal to the hand model
  the property theorems are about; every `gen_…_pinned` states what the normalised statements of pandas work or plain glue
  are.  A source edit that changes behaviour breaks one of them by name.
-/
import Atomman.Generated.LogSource
namespace Atomman.C19
open Atomman List
set_option linter.unusedSimpArgs false

/-- the bookkeeping starts as the model's `scan` is started by `readLog` -/
theorem gen_init_eq_model (hv : Bool) : Gen.LogSrc.init hv = ({ haveVersion := hv } : Scan) := rfl

/-- **the transition function of the single pass**: the loop body translated statement by statement from the source
    is the model's `Scan.step` (same tests, tried in the same order, with the same effect on the headers / footers /
    run-count state). -/
theorem gen_step_eq_model : Gen.LogSrc.step = Scan.step := by
  funext s line
  obtain ⟨i, hv, vl, th, tf, ph, ps, pf, old⟩ := s
  unfold Gen.LogSrc.step Scan.step
  by_cases hb : isBlank line = true
  · simp only [hb, if_true]
  · simp only [hb, Bool.false_eq_true, if_false]
    have e1 : (line.take 8 == "LAMMPS (".toList) = isVersionLine line := rfl
    have e2 : ∀ a b : Nat, decide ((a : Int) < (b : Int)) = decide (a < b) := by
      intro a b; simp
    simp only [e1, e2, Gen.Log.versionOnlyIfUnset, Gen.Log.thermoHeaderOffset, Gen.Log.thermoFooterOffset,
      Gen.Log.perfHeaderOffset, Gen.Log.perfHeaderOldOffset, Gen.Log.perfFooterOffset, Bool.not_true, Bool.or_false,
      Int.add_zero, Int.sub_eq_add_neg]

theorem gen_scan_eq_model (s : Scan) (lines : List Str) : lines.foldl Gen.LogSrc.step s = scan s lines := by
  rw [gen_step_eq_model]; rfl

/-- **how the last, unterminated block is closed**: after the pass the current line count is appended to the footers
    (so a block cut short by a crash extends to the end of the log) — what `thermoTables` hands to the table loop. -/
theorem gen_finish_eq_model (s : Scan) :
    (Gen.LogSrc.finish s).thermoFooters = s.thermoFooters ++ [(s.i : Int) + Gen.Log.thermoFinalFooterOffset] ∧
      (Gen.LogSrc.finish s).thermoHeaders = s.thermoHeaders ∧ (Gen.LogSrc.finish s).i = s.i ∧
      (Gen.LogSrc.finish s).perfHeaders = s.perfHeaders ∧ (Gen.LogSrc.finish s).perfSims = s.perfSims ∧
      (Gen.LogSrc.finish s).perfFooters = s.perfFooters ∧ (Gen.LogSrc.finish s).isOld = s.isOld := by
  simp [Gen.LogSrc.finish, Gen.Log.thermoFinalFooterOffset]

/-- the tables of a read, computed from the generated pass and the generated closing of the last block, are the
    model's `thermoTables`. -/
theorem gen_tables_eq_model (hv : Bool) (lines : List Str) :
    let sc := Gen.LogSrc.finish (lines.foldl Gen.LogSrc.step (Gen.LogSrc.init hv))
    readBlocks (nonBlank lines) sc.thermoHeaders sc.thermoFooters =
      thermoTables (scan { haveVersion := hv } lines) lines := by
  intro sc
  have h := gen_finish_eq_model (lines.foldl Gen.LogSrc.step (Gen.LogSrc.init hv))
  show readBlocks _ (Gen.LogSrc.finish _).thermoHeaders (Gen.LogSrc.finish _).thermoFooters = _
  rw [h.1, h.2.1, gen_scan_eq_model, gen_init_eq_model]
  rfl

/-- the offset of the timing tables into the records is the number of records before this read (`readLog` hands
    `st.sims.length` to `assignPerf`).  A flag, not a definition: the translator found `j = len(self.simulations)`
    before the table loop. -/
theorem gen_j_eq_model : Gen.LogSrc.jBeforeTableLoop = true := rfl

/-- the loop over the timing tables: one table per FOOTER (an unterminated breakdown is not read), header / footer /
    record index taken at the same position of the three lists, the record index offset by `j` — `assignPerf`. -/
theorem gen_perfLoop_pinned : Gen.LogSrc.perfLoop =
    ["for i in range(len(performance_footers)):\n    header = performance_headers[i]\n    footer = performance_footers[i]\n    performance = self.__read_performance(log_info, header, footer, is_old_version)\n    self.simulations[performance_simulations[i] + j].performance = performance"] := rfl

/-- `__read_performance` (pandas work; the model's `readPerfNew` / `readPerfOld` describe these two pipelines and are
    compared with them on every timing block of the correspondence). -/
theorem gen_readPerformance_pinned : Gen.LogSrc.readPerformance =
    ["if not is_old_version:\n    performance = pd.read_csv(log_info, header=header, nrows=footer - header, sep='|', skip_blank_lines=True)\n    performance = performance.drop([0])\n    performance.rename(columns=lambda x: x.strip(), inplace=True)\n    performance = performance.set_index('Section')\n    performance = performance.replace('^\\\\s*$', 0.0, regex=True)\n    performance = performance.astype(float)\nelse:\n    performance = pd.read_csv(log_info, header=header, nrows=footer - header, sep='=', skip_blank_lines=True)\n    performance = pd.concat([performance.columns.to_frame().T, performance], ignore_index=True)\n    performance.rename(columns=lambda x: x.strip(), inplace=True)\n    performance = performance.replace(')', '')\n    performance.columns = ['Section', 'time']\n    performance = performance.set_index('Section')\n    performance[['avg. Time', 'percentage']] = performance.time.str.split('(', expand=True)\n    performance[['%', 'symbol']] = performance.percentage.str.split(')', expand=True)\n    del performance['time']\n    del performance['symbol']\n    del performance['percentage']",
     "log_info.seek(0)",
     "return performance"] := rfl

/-- the input decision (text / path / bytes / stream) is `potentials.tools.uber_open_rmode`, reached through
    `atomman.tools` (ASSUMPTIONS: what it does with each kind of input). -/
theorem gen_opener_pinned : Gen.LogSrc.openerImports =
    ["from ..tools import uber_open_rmode", "from potentials.tools import uber_open_rmode"] := rfl

theorem gen_setThermo_eq_model : Gen.LogSrc.set_thermo = SimObj.setThermo := by
  funext s v
  obtain ⟨t, p, k⟩ := s
  simp only [Gen.LogSrc.set_thermo, SimObj.setThermo]
  cases k.contains "thermo" <;> rfl

theorem gen_setPerf_eq_model : Gen.LogSrc.set_performance = SimObj.setPerf := by
  funext s v
  obtain ⟨t, p, k⟩ := s
  simp only [Gen.LogSrc.set_performance, SimObj.setPerf]
  cases k.contains "performance" <;> rfl

theorem gen_simInit_eq_model : Gen.LogSrc.simInit = SimObj.init := by
  funext t p
  simp only [Gen.LogSrc.simInit, SimObj.init, gen_setThermo_eq_model, gen_setPerf_eq_model]
  rfl

theorem gen_getItem_eq_model : Gen.LogSrc.getItemRefuses = SimObj.getItemRefuses := rfl

section
variable {α : Type} (step : α → Int)

/-- **the merge loop's style dispatch**: which style strings are recognised, tried in which order, what each does to
    the table merged so far and the next run's table, and what an unrecognised one raises. -/
theorem gen_merge_eq_model : Gen.LogSrc.merge step = mergeStyle step := by
  funext style merged thermo
  simp only [Gen.LogSrc.merge, mergeStyle, mergeFirst, mergeLast, mergeAll, Gen.Log.firstKeep, Gen.Log.lastKeep]
  rfl
end

/-- the Step assertion refuses exactly the tables with rows and without a `Step` column — the test of
    `flattenTables`. -/
theorem gen_assertFails_eq_model (t : Table) :
    Gen.LogSrc.assertFails t = (!t.rows.isEmpty && !t.cols.contains stepName) := by
  unfold Gen.LogSrc.assertFails
  have : stepName = "Step".toList := rfl
  rw [this]
  cases h : t.rows <;> simp

/-- the statements of `flatten` in order: the selection `simulations[firstindex:lastindex]`, the assertion over the
    selection, `simulations[0]` (IndexError of an empty selection comes AFTER the assertion), the copy (the result is
    never the log's own table), the merge loop, `Simulation(thermo=merged_df)` (no timing table in the result). -/
theorem gen_flattenOrder_pinned : Gen.LogSrc.flattenOrder =
    ["simulations = self.simulations[firstindex:lastindex]", "assert-loop", "merged_df = simulations[0].thermo",
     "if merged_df is not None:\n    merged_df = merged_df.copy()", "dtypes = {}", "merge-loop",
     "return Simulation(thermo=merged_df)"] := rfl

/-- the dtype repair after each merge (pandas / numpy work; must leave every value as it is: oracle clause
    flatten:last on the real code). -/
theorem gen_afterMerge_pinned : Gen.LogSrc.afterMerge =
    ["for key in dtypes:\n    try:\n        values = np.asarray(merged_df[key])\n        with np.errstate(invalid='ignore'):\n            newvalues = values.astype(dtypes[key])\n        if np.array_equal(newvalues, values):\n            merged_df[key] = newvalues\n    except (ValueError, TypeError, OverflowError):\n        pass"] := rfl

/-- the defaults of the call forms, read off the signatures in Log.py. -/
theorem gen_defaults_pinned : Gen.Log.readAppendDefault = true ∧ Gen.Log.flattenStyleDefault = "last" ∧
    Gen.Log.ctorReads = true := ⟨rfl, rfl, rfl⟩

end Atomman.C19
