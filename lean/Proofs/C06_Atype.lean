/-
  C06 — `atoms.prop_atype(key, value, atype)`: a per-type table assigned by every atom's type.  As a whole-column
  assignment (`propAtype_none_decomp`), as a masked assignment to the atoms of one type (`maskAssign`,
  `propAtype_some_decomp`, `propAtype_some_existing`), and that the invariant survives it (`inv_propAtype`).
-/
import Proofs.C06_Write

namespace Atomman.C06

/-- `atoms.prop_atype(key, value)` is `view[key] = value[atype - 1]`: the per-type table looked up by every
    atom's type, assigned as a whole column (so `viewSet_existing_refines` / `viewSet_new_refines` apply). -/
theorem propAtype_none_decomp (o : Nat) (key : String) (v : Val) (s : State) (ta : Arr) (nv nt : Nat) (trail : List Nat)
    (hfind : (s.obj o).find "atype" = some ta) (hshape : v.shape = nv :: trail) (hnt : (natypes o s).1 = .ok nt)
    (hnv : ¬ nv < nt) (hdt : arrDt s ta = .int) (htr : arrTrail s ta = []) :
    propAtype o key v none s =
      viewSet o key (.lit ⟨v.dt, ta.idx.length :: trail, ((arrVal s ta).data.map (fun c => match c with
        | .int i => (rowsOf nv (prod trail) v.data)[(i - 1).toNat]?.getD []
        | _ => [])).flatten⟩) s := by
  unfold propAtype
  show M.bind getS _ s = _
  unfold M.bind getS
  simp only [hfind, keyErr, liftO, hshape]
  show M.bind (natypes o) _ s = _
  unfold M.bind
  rw [natypes_eq o s, hnt]
  simp only [hnv, if_false, hdt, htr, ne_eq, not_true_eq_false, or_self]
  rfl

/-- the last statement of `prop_atype(key, value, atype=t)`: `self.view[key][self.atype == t] = value`. -/
def maskAssign (o : Nat) (key : String) (v : Val) (t : Int) : M Unit := do
  let s' ← getS
  let a ← keyErr ((s'.obj o).find key)
  let ta' ← keyErr ((s'.obj o).find "atype")
  let mask := (arrVal s' ta').data.map (fun c => c.num? == some (t : Rat))
  assign a { pos := maskSel mask.length mask, view := false, scalar := false, mask := true } v

/-- `atoms.prop_atype(key, value, atype=t)` is: (for a NEW key) `view[key] = np.zeros((natoms,) + np.shape(value))`, then the
    `atype ≥ 1` guard, then the boolean-mask assignment `view[key][atype == t] = value` — provided `t` is one of
    the atom types (otherwise it is refused, see the definition). -/
theorem propAtype_some_decomp (o : Nat) (key : String) (v : Val) (t : Int) (s : State) (ta : Arr) (nt : Nat)
    (hfind : (s.obj o).find "atype" = some ta)
    (hnt : (natypes o s).1 = .ok nt) (ht : 1 ≤ t ∧ t ≤ (nt : Int)) (htr : arrTrail s ta = []) :
    propAtype o key v (some t) s =
      ((match (s.obj o).find key with
        | some _ => pure ()
        | none => viewSet o key (.lit (zerosRows (s.obj o).natoms v)) : M Unit) >>= fun _ =>
       atypeGuard key v >>= fun _ => maskAssign o key v t) s := by
  unfold propAtype
  show M.bind getS _ s = _
  unfold M.bind getS
  simp only [hfind, keyErr, liftO]
  show M.bind (natypes o) _ s = _
  unfold M.bind
  rw [natypes_eq o s, hnt]
  simp only [ht, and_self, not_true_eq_false, if_false, htr, ne_eq]
  rfl

/-- on an existing property: the guard, then one boolean-mask assignment with the mask taken from the atom
    types before the write (`assign_spec` gives the values). -/
theorem propAtype_some_existing (o : Nat) (key : String) (v : Val) (t : Int) (s : State) (ta a : Arr) (nt : Nat)
    (hfind : (s.obj o).find "atype" = some ta) (hkey : (s.obj o).find key = some a)
    (hnt : (natypes o s).1 = .ok nt) (ht : 1 ≤ t ∧ t ≤ (nt : Int)) (htr : arrTrail s ta = []) :
    propAtype o key v (some t) s =
      (atypeGuard key v >>= fun _ =>
         assign a { pos := maskSel ((arrVal s ta).data.map (fun c => c.num? == some (t : Rat))).length
                            ((arrVal s ta).data.map (fun c => c.num? == some (t : Rat))),
                    view := false, scalar := false, mask := true } v) s := by
  rw [propAtype_some_decomp o key v t s ta nt hfind hnt ht htr]
  simp only [hkey]
  rcases atypeGuard_cases key v with ⟨e, hg⟩ | ⟨hg, hguard⟩
  · rw [hg]; rfl
  · rw [hg]
    show (keyErr ((s.obj o).find key) >>= fun a' => keyErr ((s.obj o).find "atype") >>= fun ta' =>
      assign a' { pos := maskSel ((arrVal s ta').data.map (fun c => c.num? == some (t : Rat))).length
                            ((arrVal s ta').data.map (fun c => c.num? == some (t : Rat))),
                  view := false, scalar := false, mask := true } v) s = _
    rw [hkey, hfind]
    rfl

theorem inv_propAtype {κ : Nat → String} {s : State} (h : InvK κ s) (o : Nat) (key : String) (v : Val)
    (t : Option Int) (hv : ValOK v) : Post (propAtype o key v t) s (fun _ s' => Kept κ s s') := by
  unfold propAtype
  rw [post_bind_getS, post_bind_keyErr]
  cases hfind : (s.obj o).find "atype" with
  | none => exact Kept.refl h
  | some ta =>
    simp only []
    cases t with
    | none =>
      simp only []
      cases hshape : v.shape with
      | nil => exact Kept.refl h
      | cons nv trail =>
        simp only []
        rw [post_bind_natypes]
        cases hnt : (natypes o s).1 with
        | error e => exact Kept.refl h
        | ok nt =>
          simp only []
          rw [post_ite]
          refine ⟨fun _ => Kept.refl h, fun hnv => ?_⟩
          rw [post_ite]
          refine ⟨fun _ => Kept.refl h, fun hcond => ?_⟩
          have hdt : arrDt s ta = .int := Decidable.byContradiction fun hd => hcond (Or.inl hd)
          have htr : arrTrail s ta = [] := Decidable.byContradiction fun hd => hcond (Or.inr hd)
          have hlit := picked_ok h o ta hfind v hv nv trail hshape nt ((natypes_post o s).2 nt hnt) hnv hdt htr
          exact Post.mono (inv_viewSet h o key _ hlit) (fun _ _ hq => hq.1)
    | some t =>
      simp only []
      rw [post_bind_natypes]
      cases (natypes o s).1 with
      | error e => exact Kept.refl h
      | ok nt =>
        simp only []
        rw [post_ite]
        refine ⟨fun _ => Kept.refl h, fun _ => ?_⟩
        rw [post_ite]
        refine ⟨fun _ => Kept.refl h, fun _ => ?_⟩
        -- the optional creation of the column
        have hstep : Post (match (s.obj o).find key with
            | some _ => pure ()
            | none => viewSet o key (.lit (zerosRows (s.obj o).natoms v)) : M Unit) s (fun _ s2 => Kept κ s s2) := by
          split
          · exact Kept.refl h
          · exact Post.mono (inv_viewSet h o key _ (zerosOf_ok _ _)) (fun _ _ hq => hq.1)
        refine Post.bind hstep (fun _ _ hk2 => hk2) ?_
        · intro u s2 ⟨κ2, hinv2, hext2, hobjs2, hsys2⟩
          rcases atypeGuard_cases key v with ⟨e, hg⟩ | ⟨hg, hguard⟩
          · rw [hg, post_bind_fail]; exact ⟨κ2, hinv2, hext2, hobjs2, hsys2⟩
          rw [hg, post_bind_pure, post_bind_getS, post_bind_keyErr]
          cases hfa : (s2.obj o).find key with
          | none => exact ⟨κ2, hinv2, hext2, hobjs2, hsys2⟩
          | some a =>
            simp only []
            have hp := hinv2.find_ok o key a hfa
            rw [post_bind_keyErr]
            cases (s2.obj o).find "atype" with
            | none => exact ⟨κ2, hinv2, hext2, hobjs2, hsys2⟩
            | some ta' =>
              apply Post.mono (inv_assign hinv2 a _ v (fun hc => by simp at hc) ?_)
              · intro r s3 hw3
                exact Kept.trans hext2 hobjs2 hsys2 hw3.kept
              · intro hκ
                right
                exact hguard (hp.key.symm.trans hκ)

end Atomman.C06
