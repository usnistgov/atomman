/-
  C09 — the scanner branch by branch (`scanL_*`; the fuel of `scan` does not matter), precedence (`Reads`: what a rendering
  does to the tokens in front of a rest; `reads_renders`), and parametricity of the parser in the value algebra (`Lift`,
  `parse_rel`).
-/
import Atomman.C09
import Mathlib.Tactic.Common

namespace Atomman.C09

section parser
variable {V : Type} (alg : Alg V) (env : List Char → Option V)

theorem dw_len (p : Char → Bool) (l : List Char) : (l.dropWhile p).length ≤ l.length :=
  (List.dropWhile_sublist p).length_le

theorem splitParen_length : ∀ (cs : List Char) (k : Nat) (a b : List Char),
    splitParen cs k = some (a, b) → a.length + b.length + 1 = cs.length := by
  intro cs k
  fun_induction splitParen cs k with
  | case1 => nofun
  | case2 cs => rintro a b ⟨⟩; simp
  | case3 cs k ih | case4 cs k _ ih | case5 c cs k _ _ ih =>
    intro a b h
    obtain ⟨⟨p1, p2⟩, hp, ⟨⟩⟩ := Option.map_eq_some_iff.mp h
    have := ih p1 p2 hp
    simp only [List.length_cons]; omega

theorem ite_rel {A B : Type} (P : A → B → Prop) {p : Prop} [Decidable p] {a a' : A} {b b' : B}
    (h1 : P a b) (h2 : P a' b') : P (if p then a else a') (if p then b else b') := by
  split <;> assumption

theorem scan_fuel_irrel : ∀ (f f' : Nat) (cs : List Char), cs.length ≤ f → cs.length ≤ f' →
    scan alg env f cs = scan alg env f' cs := by
  intro f
  induction f with
  | zero =>
    intro f' cs h h'
    have : cs = [] := List.length_eq_zero_iff.mp (by omega)
    subst this; cases f' <;> simp [scan]
  | succ f ih =>
    intro f' cs h h'
    cases cs with
    | nil => cases f' <;> simp [scan]
    | cons c cs =>
      cases f' with
      | zero => simp at h'
      | succ f' =>
        simp only [List.length_cons, Nat.add_le_add_iff_right] at h h'
        have hd : (cs.dropWhile fun x => !isStop x).length ≤ cs.length := dw_len _ _
        simp only [scan, ih f' (cs.dropWhile fun x => !isStop x) (by omega) (by omega), ih f' cs h h']
        refine ite_rel Eq ?_ rfl
        cases hsp : splitParen cs 0 with
        | none => rfl
        | some p =>
          have hl := splitParen_length cs 0 p.1 p.2 hsp
          simp only
          rw [ih f' p.1 (by omega) (by omega), ih f' p.2 (by omega) (by omega)]

def scanL (cs : List Char) : Option (List (Item V)) := scan alg env cs.length cs

theorem parse_eq_scanL (cs : List Char) : parse alg env cs = (scanL alg env cs).bind (reduce alg) := rfl

theorem scanL_paren (cs inner rest : List Char) (h : splitParen cs 0 = some (inner, rest)) :
    scanL alg env ('(' :: cs) = (scanL alg env inner).bind fun its =>
      (reduce alg its).bind fun v => (scanL alg env rest).map (.val v :: ·) := by
  have hl := splitParen_length cs 0 inner rest h
  simp only [scanL, List.length_cons, scan, if_true, h]
  rw [scan_fuel_irrel alg env cs.length inner.length inner (by omega) (Nat.le_refl _),
      scan_fuel_irrel alg env cs.length rest.length rest (by omega) (Nat.le_refl _)]

theorem scanL_paren_none (cs : List Char) (h : splitParen cs 0 = none) :
    scanL alg env ('(' :: cs) = none := by
  simp only [scanL, List.length_cons, scan, if_true, h]

theorem alpha_noparen {c : Char} (h : isAlphaStart c = true) : c ≠ '(' ∧ c ≠ ')' :=
  ⟨by rintro rfl; revert h; decide, by rintro rfl; revert h; decide⟩

theorem ws_noparen {c : Char} (h : isWs c = true) : c ≠ '(' ∧ c ≠ ')' :=
  ⟨by rintro rfl; revert h; decide, by rintro rfl; revert h; decide⟩

theorem num_noparen {c : Char} (h : isNumStart c = true) : c ≠ '(' ∧ c ≠ ')' :=
  ⟨by rintro rfl; revert h; decide, by rintro rfl; revert h; decide⟩

theorem scanL_alpha (c : Char) (cs : List Char) (h : isAlphaStart c = true) :
    scanL alg env (c :: cs) = (env (c :: cs.takeWhile (fun x => !isStop x))).bind fun v =>
      (scanL alg env (cs.dropWhile (fun x => !isStop x))).map (.val v :: ·) := by
  have hd : (cs.dropWhile fun x => !isStop x).length ≤ cs.length := dw_len _ _
  simp only [scanL, List.length_cons, scan, if_neg (alpha_noparen h).1, h, if_true]
  rw [scan_fuel_irrel alg env cs.length _ _ hd (Nat.le_refl _)]

theorem num_not_alpha {c : Char} (h : isNumStart c = true) : isAlphaStart c = false := by
  simp only [isNumStart, isDigit, Bool.or_eq_true, Bool.and_eq_true, decide_eq_true_eq] at h
  rcases h with (h | rfl) | rfl
  · simp only [isAlphaStart, Bool.or_eq_false_iff, Bool.and_eq_false_iff, decide_eq_false_iff_not]
    omega
  · decide
  · decide

theorem scanL_num (c : Char) (cs : List Char) (h : isNumStart c = true) :
    scanL alg env (c :: cs) = (numLit (c :: cs.takeWhile (fun x => !isStop x))).bind fun me =>
      (alg.num me.1 me.2).bind fun v =>
      (scanL alg env (cs.dropWhile (fun x => !isStop x))).map (.val v :: ·) := by
  have hd : (cs.dropWhile fun x => !isStop x).length ≤ cs.length := dw_len _ _
  simp only [scanL, List.length_cons, scan, if_neg (num_noparen h).1, num_not_alpha h, h, if_true, Bool.false_eq_true,
    if_false]
  rw [scan_fuel_irrel alg env cs.length _ _ hd (Nat.le_refl _)]

theorem scanL_mul (cs : List Char) : scanL alg env ('*' :: cs) = (scanL alg env cs).map (.op .mul :: ·) := by
  simp [scanL, scan, isAlphaStart, isNumStart, isDigit]

theorem scanL_div (cs : List Char) : scanL alg env ('/' :: cs) = (scanL alg env cs).map (.op .div :: ·) := by
  simp [scanL, scan, isAlphaStart, isNumStart, isDigit]

theorem scanL_pow (cs : List Char) : scanL alg env ('^' :: cs) = (scanL alg env cs).map (.op .pow :: ·) := by
  simp [scanL, scan, isAlphaStart, isNumStart, isDigit]

theorem scanL_ws (w : Char) (cs : List Char) (h : isWs w = true) :
    scanL alg env (w :: cs) = scanL alg env cs := by
  simp only [isWs, Bool.or_eq_true, decide_eq_true_eq] at h
  rcases h with ((rfl | rfl) | rfl) | rfl <;>
    simp [scanL, scan, isAlphaStart, isNumStart, isDigit, isWs]

def OkRest (rest : List Char) : Prop := rest = [] ∨ ∃ c r, rest = c :: r ∧ isStop c = true

theorem tw_token (t rest : List Char) (ht : noStop t) (hr : OkRest rest) :
    (t ++ rest).takeWhile (fun x => !isStop x) = t ∧ (t ++ rest).dropWhile (fun x => !isStop x) = rest := by
  induction t with
  | nil =>
    rcases hr with rfl | ⟨c, r, rfl, hc⟩
    · simp
    · simp [hc]
  | cons a t ih =>
    have ha : isStop a = false := ht a (by simp)
    have := ih (fun c hc => ht c (by simp [hc]))
    simp [ha, this]

theorem splitParen_other (c : Char) (h1 : c ≠ '(') (h2 : c ≠ ')') (r : List Char) (k : Nat) :
    splitParen (c :: r) k = (splitParen r k).map fun p => (c :: p.1, p.2) := by
  rw [splitParen.eq_def]; simp only [if_neg h2, if_neg h1]

theorem splitParen_open (r : List Char) (k : Nat) :
    splitParen ('(' :: r) k = (splitParen r (k + 1)).map fun p => ('(' :: p.1, p.2) := by
  rw [splitParen.eq_def]; simp

theorem splitParen_close (r : List Char) (k : Nat) :
    splitParen (')' :: r) (k + 1) = (splitParen r k).map fun p => (')' :: p.1, p.2) := by
  rw [splitParen.eq_def]; simp

theorem splitParen_close0 (r : List Char) : splitParen (')' :: r) 0 = some ([], r) := by
  rw [splitParen.eq_def]; simp

theorem ws_stop {c : Char} (h : isWs c = true) : isStop c = true := by
  simp only [isWs, Bool.or_eq_true, decide_eq_true_eq] at h
  rcases h with ((rfl | rfl) | rfl) | rfl <;> decide

/-- `s` is transparent for the parenthesis scanner: scanning through it changes neither the depth nor the outcome. -/
def Transparent (s : List Char) : Prop :=
  ∀ (r : List Char) (k : Nat), splitParen (s ++ r) k = (splitParen r k).map fun p => (s ++ p.1, p.2)

theorem Transparent.char {c : Char} (hc : c ≠ '(' ∧ c ≠ ')') : Transparent [c] :=
  fun r k => splitParen_other c hc.1 hc.2 r k

theorem Transparent.append {s t : List Char} (hs : Transparent s) (ht : Transparent t) : Transparent (s ++ t) := by
  intro r k
  rw [List.append_assoc, hs, ht]
  cases splitParen r k <;> simp

theorem Transparent.token {t : List Char} (ht : noParen t) : Transparent t := by
  induction t with
  | nil => intro r k; simp
  | cons a t ih => exact (Transparent.char (ht a (by simp))).append (ih fun c hc => ht c (by simp [hc]))

theorem Transparent.paren {s : List Char} (hs : Transparent s) : Transparent ('(' :: (s ++ [')'])) := by
  intro r k
  have e1 : ('(' :: (s ++ [')'])) ++ r = '(' :: (s ++ (')' :: r)) := by simp
  rw [e1, splitParen_open, hs, splitParen_close]
  cases splitParen r k <;> simp

theorem Renders.transparent {e : Expr} {lvl : Nat} {s : List Char} (h : Renders e lvl s) : Transparent s := by
  induction h with
  | name n hn =>
    obtain ⟨c, cs, rfl, hc, _, hp⟩ := hn
    exact (Transparent.char (alpha_noparen hc)).append (.token hp)
  | num l hl =>
    obtain ⟨c, cs, rfl, hc, _, hp⟩ := hl
    exact (Transparent.char (num_noparen hc)).append (.token hp)
  | paren _ ih => exact ih.paren
  | wsL w hw _ ih => exact (Transparent.char (ws_noparen hw)).append ih
  | wsR w hw _ ih => exact ih.append (.char (ws_noparen hw))
  | up _ ih => exact ih
  | pow _ _ iha ihb | mul _ _ iha ihb | div _ _ iha ihb =>
    exact iha.append ((Transparent.char (by decide)).append ihb)

theorem okRest_stop (c : Char) (r : List Char) (h : isStop c = true) : OkRest (c :: r) :=
  Or.inr ⟨c, r, rfl, h⟩

def TailOK (t : List (Item V)) : Prop := t = [] ∨ ∃ o r, t = .op o :: r ∧ o ≠ .pow

/-- What a rendering of `e` at grammar level `lvl` does when it stands in front of a rest: `X` are the tokens of rendering
    and rest scanned together, `R` those of the rest alone (`none`: the scan fails).  Levels as in `Renders`:
    * 0 (name, number, parenthesised group): `X` is `R` with the value of `e` in front, a single token;
    * 1 (`a ^ b ^ …`): the power loop, having gone through `X` as far as the rest, stands there with the value of `e`
      pending, as if the rest had been preceded by that one value;
    * 2 and above (`p * q / …`): provided the rest is empty or begins with `*` or `/` (`TailOK`: the last power chain of
      `e` is not continued), reducing `X` is reducing the powers of the rest and running the product loop over the
      result, starting from the value of `e`.
    Where `e` has no value, or the rest does not scan, both sides are `none`.
    Example, `m^2` in front of `*s`: `X = [m, ^, 2, *, s]`, `R = [*, s]`; level 1 says
    `powGo none X = powGo (some m²) R` (both `[m², *, s]`), level 2 says `reduce X = mulDiv m² [*, s]`. -/
def Reads : Nat → Expr → Option (List (Item V)) → Option (List (Item V)) → Prop
  | 0, e, X, R => X = (evalAst alg env e).bind fun v => R.map (.val v :: ·)
  | 1, e, X, R => X.bind (powGo alg none) = (evalAst alg env e).bind fun v => R.bind (powGo alg (some v))
  | _ + 2, e, X, R => (∀ t, R = some t → TailOK t) →
      X.bind (reduce alg) = (evalAst alg env e).bind fun a => R.bind fun t => (powGo alg none t).bind (mulDiv alg a)

theorem powGo_some_tailOK (v : V) {t : List (Item V)} (ht : TailOK t) :
    powGo alg (some v) t = (powGo alg none t).map (.val v :: ·) := by
  obtain rfl | ⟨o, r, rfl, ho⟩ := ht
  · rfl
  · cases o with
    | pow => exact absurd rfl ho
    | mul | div => simp [powGo, Function.comp_def]

section reads

variable {alg env}

theorem Reads.up {lvl : Nat} {e : Expr} {X R : Option (List (Item V))} (h : Reads alg env lvl e X R) :
    Reads alg env (lvl + 1) e X R := by
  match lvl with
  | 0 =>
    have h : X = _ := h
    subst h
    show Option.bind _ _ = _
    cases evalAst alg env e with
    | none => rfl
    | some v => cases R <;> rfl
  | 1 =>
    intro hR
    have h : X.bind (powGo alg none) = _ := h
    have hX : X.bind (reduce alg) = (X.bind (powGo alg none)).bind (mulDivPass alg) := by cases X <;> rfl
    rw [hX, h]
    cases evalAst alg env e with
    | none => rfl
    | some v =>
      cases R with
      | none => rfl
      | some t =>
        simp only [Option.bind_some, powGo_some_tailOK alg v (hR t rfl)]
        cases powGo alg none t <;> rfl
  | _ + 2 => exact h

theorem Reads.reduce_eq {lvl : Nat} {e : Expr} {X : Option (List (Item V))} (h : Reads alg env lvl e X (some [])) :
    X.bind (reduce alg) = evalAst alg env e := by
  have h2 : Reads alg env (lvl + 2) e X (some []) := h.up.up
  rw [h2 (by rintro _ ⟨⟩; exact .inl rfl)]
  cases evalAst alg env e <;> rfl

/-- `a ^ b`: the rest of `a` is `^` followed by what `b` stands in front of. -/
theorem Reads.pow {a b : Expr} {X Y R : Option (List (Item V))}
    (ha : Reads alg env 1 a X (Y.map (.op .pow :: ·))) (hb : Reads alg env 0 b Y R) :
    Reads alg env 1 (.pow a b) X R := by
  have ha : X.bind (powGo alg none) = _ := ha
  have hb : Y = _ := hb
  subst hb
  show X.bind (powGo alg none) = _
  rw [ha, evalAst]
  -- both sides are `none` unless `a`, `b` have values and the rest scans; then it is one turn of the power loop
  cases evalAst alg env a <;> cases evalAst alg env b <;> cases R <;> simp [bind2, powGo]

/-- `a * b`, `a / b`: the rest of `a` is the operator followed by what `b` stands in front of. -/
theorem Reads.mul_div {a b e : Expr} {X Y R : Option (List (Item V))} (o : Op) (ho : o ≠ .pow)
    (ha : Reads alg env 2 a X (Y.map (.op o :: ·))) (hb : Reads alg env 1 b Y R)
    (he : evalAst alg env e = bind2 (alg.apply o) (evalAst alg env a) (evalAst alg env b)) :
    Reads alg env 2 e X R := by
  intro hR
  have hb : Y.bind (powGo alg none) = _ := hb
  rw [ha (by cases Y <;> rintro _ ⟨⟩; exact .inr ⟨o, _, rfl, ho⟩), he]
  -- the power loop passes `o` and goes on through the tokens of `b`
  have key : ∀ x, ((Y.map (.op o :: ·)).bind fun t => (powGo alg none t).bind (mulDiv alg x))
      = (Y.bind (powGo alg none)).bind fun r => mulDiv alg x (.op o :: r) := by
    intro x
    cases Y with
    | none => rfl
    | some t =>
      cases o with
      | pow => exact absurd rfl ho
      | mul | div => simp only [Option.map_some, Option.bind_some, powGo]; cases powGo alg none t <;> rfl
  simp only [key, hb]
  -- both sides are `none` unless `a`, `b` have values `x`, `w` and the rest scans to `t`; then `w` is put out in front
  -- of `t` and the product loop takes `o w` from there
  cases evalAst alg env a <;> cases evalAst alg env b <;> cases hr : R <;> simp [bind2]
  rename_i x w t
  rw [powGo_some_tailOK alg w (hR t hr)]
  cases o with
  | pow => exact absurd rfl ho
  | mul | div => cases powGo alg none t <;> simp [mulDiv, Alg.apply]

end reads

theorem reads_renders {e : Expr} {lvl : Nat} {s : List Char} (h : Renders e lvl s) :
    ∀ rest, OkRest rest → Reads alg env lvl e (scanL alg env (s ++ rest)) (scanL alg env rest) := by
  induction h with
  | name n hn =>
    obtain ⟨c, cs, rfl, hc, hs, _⟩ := hn
    intro rest hr
    obtain ⟨h1, h2⟩ := tw_token cs rest hs hr
    rw [List.cons_append, scanL_alpha alg env c _ hc, h1, h2]
    rfl
  | num l hl =>
    obtain ⟨c, cs, rfl, hc, hs, _⟩ := hl
    intro rest hr
    obtain ⟨h1, h2⟩ := tw_token cs rest hs hr
    rw [List.cons_append, scanL_num alg env c _ hc, h1, h2]
    exact (Option.bind_assoc ..).symm
  | @paren e lvl s hs ih =>
    intro rest _
    have hsp : splitParen ((s ++ [')']) ++ rest) 0 = some (s, rest) := by
      have e1 : (s ++ [')']) ++ rest = s ++ (')' :: rest) := by simp
      rw [e1, hs.transparent _ 0, splitParen_close0]; simp
    -- the group is parsed on its own: `s` in front of nothing
    have hp := (ih [] (.inl rfl)).reduce_eq
    rw [List.append_nil] at hp
    rw [List.cons_append, scanL_paren alg env _ s rest hsp]
    show _ = Option.bind _ _
    rw [← hp, Option.bind_assoc]
  | @wsL e lvl s w hw _ ih =>
    intro rest hr
    rw [List.cons_append, scanL_ws alg env w _ hw]
    exact ih rest hr
  | @wsR e lvl s w hw _ ih =>
    intro rest _
    have := ih _ (okRest_stop w rest (ws_stop hw))
    rwa [scanL_ws alg env w _ hw, List.append_cons] at this
  | up _ ih => exact fun rest hr => (ih rest hr).up
  | @pow a b s t _ _ iha ihb =>
    intro rest hr
    have := iha _ (okRest_stop '^' (t ++ rest) (by decide))
    rw [scanL_pow] at this
    rw [List.append_assoc, List.cons_append]
    exact this.pow (ihb rest hr)
  | @mul a b s t _ _ iha ihb =>
    intro rest hr
    have := iha _ (okRest_stop '*' (t ++ rest) (by decide))
    rw [scanL_mul] at this
    rw [List.append_assoc, List.cons_append]
    exact this.mul_div .mul (by decide) (ihb rest hr) rfl
  | @div a b s t _ _ iha ihb =>
    intro rest hr
    have := iha _ (okRest_stop '/' (t ++ rest) (by decide))
    rw [scanL_div] at this
    rw [List.append_assoc, List.cons_append]
    exact this.mul_div .div (by decide) (ihb rest hr) rfl

def chainTail (xs : List V) : List (Item V) := xs.flatMap fun x => [.op .pow, .val x]

def flatM (ps : List (Op × V × List V)) : List (Item V) :=
  ps.flatMap fun p => .op p.1 :: .val p.2.1 :: chainTail p.2.2

theorem tailOK_flatM (ps : List (Op × V × List V)) (h : ∀ p ∈ ps, p.1 ≠ .pow) : TailOK (flatM ps) := by
  cases ps with
  | nil => left; rfl
  | cons p ps => right; exact ⟨p.1, .val p.2.1 :: (chainTail p.2.2 ++ flatM ps), by simp [flatM], h p (by simp)⟩

end parser

/-- a way of relating two partial computations that is compatible with sequencing. Two instances:
    `Lift.both` (if both succeed the results are related) and `Lift.fwd` (if the first succeeds so
    does the second, with a related result). -/
structure Lift where
  rel : ∀ {A B : Type}, (A → B → Prop) → Option A → Option B → Prop
  pure : ∀ {A B : Type} {R : A → B → Prop} {a : A} {b : B}, R a b → rel R (some a) (some b)
  none : ∀ {A B : Type} {R : A → B → Prop}, rel R (none : Option A) (none : Option B)
  bind : ∀ {A B A' B' : Type} {R : A → B → Prop} {S : A' → B' → Prop} {o1 : Option A} {o2 : Option B}
    {f : A → Option A'} {g : B → Option B'},
    rel R o1 o2 → (∀ a b, R a b → rel S (f a) (g b)) → rel S (o1.bind f) (o2.bind g)

def Lift.both : Lift where
  rel R o1 o2 := ∀ a b, o1 = some a → o2 = some b → R a b
  pure h := by intro a b h1 h2; cases h1; cases h2; exact h
  none := by intro _ _ _ a b h; cases h
  bind := by
    intro A B A' B' R S o1 o2 f g h hf a' b' h1 h2
    obtain ⟨a, rfl, h1⟩ := Option.bind_eq_some_iff.mp h1
    obtain ⟨b, rfl, h2⟩ := Option.bind_eq_some_iff.mp h2
    exact hf a b (h a b rfl rfl) a' b' h1 h2

def Lift.fwd : Lift where
  rel R o1 o2 := ∀ a, o1 = some a → ∃ b, o2 = some b ∧ R a b
  pure h := by intro a h1; cases h1; exact ⟨_, rfl, h⟩
  none := by intro _ _ _ a h; cases h
  bind := by
    intro A B A' B' R S o1 o2 f g h hf a' h1
    obtain ⟨a, rfl, h1⟩ := Option.bind_eq_some_iff.mp h1
    obtain ⟨b, rfl, hr⟩ := h a rfl
    exact hf a b hr a' h1

variable {V W : Type} (L : Lift) (R : V → W → Prop) (alg1 : Alg V) (alg2 : Alg W)

theorem Lift.map {A B A' B' : Type} {R : A → B → Prop} {S : A' → B' → Prop} {o1 : Option A} {o2 : Option B}
    {f : A → A'} {g : B → B'} (h : L.rel R o1 o2) (hf : ∀ a b, R a b → S (f a) (g b)) :
    L.rel S (o1.map f) (o2.map g) := by
  rw [Option.map_eq_bind, Option.map_eq_bind]
  exact L.bind h fun a b hab => L.pure (hf a b hab)

theorem Lift.map_same {E A B : Type} {S : A → B → Prop} (o : Option E) {f : E → A} {g : E → B}
    (h : ∀ e, S (f e) (g e)) : L.rel S (o.map f) (o.map g) := by
  cases o with
  | none => exact L.none
  | some e => exact L.pure (h e)

structure AlgRel : Prop where
  mul : ∀ a a' b b', R a b → R a' b' → L.rel R (alg1.mul a a') (alg2.mul b b')
  div : ∀ a a' b b', R a b → R a' b' → L.rel R (alg1.div a a') (alg2.div b b')
  pow : ∀ a a' b b', R a b → R a' b' → L.rel R (alg1.pow a a') (alg2.pow b b')
  num : ∀ m e, L.rel R (alg1.num m e) (alg2.num m e)

inductive ItemRel : Item V → Item W → Prop
  | val {a b} : R a b → ItemRel (.val a) (.val b)
  | op (o : Op) : ItemRel (.op o) (.op o)

def OptR : Option V → Option W → Prop
  | none, none => True
  | some a, some b => R a b
  | _, _ => False

variable {L R alg1 alg2}

theorem optR_inv {acc1 : Option V} {acc2 : Option W} (h : OptR R acc1 acc2) :
    (acc1 = none ∧ acc2 = none) ∨ ∃ a b, acc1 = some a ∧ acc2 = some b ∧ R a b := by
  cases acc1 <;> cases acc2 <;> simp_all [OptR]

theorem powGo_rel (h : AlgRel L R alg1 alg2) (acc1 : Option V) (l1 : List (Item V)) :
    ∀ (acc2 : Option W) (l2 : List (Item W)), OptR R acc1 acc2 → List.Forall₂ (ItemRel R) l1 l2 →
      L.rel (List.Forall₂ (ItemRel R)) (powGo alg1 acc1 l1) (powGo alg2 acc2 l2) := by
  -- in every case the shape of the first list and accumulator fixes that of the second
  fun_induction powGo alg1 acc1 l1 with
  | case1 =>
    rintro (_ | _) _ ha ⟨⟩ <;> simp only [OptR] at ha
    exact L.pure .nil
  | case2 a =>
    rintro (_ | _) _ ha ⟨⟩ <;> simp only [OptR] at ha
    exact L.pure (.cons (.val ha) .nil)
  | case3 b rest ih =>
    rintro (_ | _) _ ha (_ | ⟨⟨hab⟩, hl⟩) <;> simp only [OptR] at ha
    exact ih (some _) _ hab hl
  | case4 rest =>
    rintro (_ | _) _ ha (_ | ⟨⟨⟩, hl⟩) <;> simp only [OptR] at ha
    simp only [powGo, if_true]; exact L.none
  | case5 o rest ho ih =>
    rintro (_ | _) _ ha (_ | ⟨⟨⟩, hl⟩) <;> simp only [OptR] at ha
    simp only [powGo, if_neg ho]
    exact L.map (ih _ _ trivial hl) (fun _ _ h => .cons (.op o) h)
  | case6 a b rest ih =>
    rintro (_ | _) _ ha (_ | ⟨⟨hab⟩, hl⟩) <;> simp only [OptR] at ha
    exact L.map (ih (some _) _ hab hl) (fun _ _ h => .cons (.val ha) h)
  | case7 a b rest ih =>
    rintro (_ | _) _ ha (_ | ⟨⟨⟩, _ | ⟨⟨hab⟩, hl⟩⟩) <;> simp only [OptR] at ha
    exact L.bind (h.pow _ _ _ _ ha hab) (fun v w hvw => ih v _ _ hvw hl)
  | case8 a tail hne =>
    rintro (_ | _) _ ha (_ | ⟨⟨⟩, _ | ⟨⟨⟩, hl⟩⟩) <;> simp only [OptR] at ha
    · exact L.none
    · exact absurd rfl (hne _ _)
    · exact L.none
  | case9 a o rest hne ho ih =>
    rintro (_ | _) _ ha (_ | ⟨⟨⟩, hl⟩) <;> simp only [OptR] at ha
    cases o with
    | pow => exact absurd rfl ho
    | mul | div => exact L.map (ih _ _ trivial hl) (fun _ _ h => .cons (.val ha) (.cons (.op _) h))

theorem mulDiv_none {U : Type} (alg : Alg U) (x : U) (t : List (Item U)) (h1 : t ≠ [])
    (h2 : ∀ b rest, t ≠ .op .mul :: .val b :: rest) (h3 : ∀ b rest, t ≠ .op .div :: .val b :: rest) :
    mulDiv alg x t = none := by
  rw [mulDiv.eq_def]
  split
  · exact absurd rfl h1
  · exact absurd rfl (h2 _ _)
  · exact absurd rfl (h3 _ _)
  · rfl

theorem mulDiv_rel (h : AlgRel L R alg1 alg2) (a1 : V) (l1 : List (Item V)) :
    ∀ (a2 : W) (l2 : List (Item W)), R a1 a2 → List.Forall₂ (ItemRel R) l1 l2 →
      L.rel R (mulDiv alg1 a1 l1) (mulDiv alg2 a2 l2) := by
  fun_induction mulDiv alg1 a1 l1 with
  | case1 acc =>
    rintro a2 _ ha ⟨⟩
    exact L.pure ha
  | case2 acc b rest ih =>
    rintro a2 _ ha (_ | ⟨⟨⟩, _ | ⟨⟨hab⟩, hl⟩⟩)
    exact L.bind (h.mul _ _ _ _ ha hab) (fun v w hvw => ih v _ _ hvw hl)
  | case3 acc b rest ih =>
    rintro a2 _ ha (_ | ⟨⟨⟩, _ | ⟨⟨hab⟩, hl⟩⟩)
    exact L.bind (h.div _ _ _ _ ha hab) (fun v w hvw => ih v _ _ hvw hl)
  | case4 acc l hn1 hn2 hn3 =>
    intro a2 l2 ha hl
    rw [mulDiv_none alg2 a2 l2]
    · exact L.none
    · rintro rfl; cases hl; exact hn1 rfl
    · rintro b rest rfl
      obtain _ | ⟨⟨⟩, _ | ⟨⟨⟩, _⟩⟩ := hl
      exact hn2 _ _ rfl
    · rintro b rest rfl
      obtain _ | ⟨⟨⟩, _ | ⟨⟨⟩, _⟩⟩ := hl
      exact hn3 _ _ rfl

theorem reduce_rel (h : AlgRel L R alg1 alg2) {l1 : List (Item V)} {l2 : List (Item W)}
    (hl : List.Forall₂ (ItemRel R) l1 l2) : L.rel R (reduce alg1 l1) (reduce alg2 l2) := by
  unfold reduce
  refine L.bind (powGo_rel h none l1 none l2 trivial hl) ?_
  intro m1 m2 hm
  cases hm with
  | nil => simp only [mulDivPass]; exact L.none
  | cons hxy hm =>
    cases hxy with
    | val hab => simp only [mulDivPass]; exact mulDiv_rel h _ _ _ _ hab hm
    | op o => simp only [mulDivPass]; exact L.none

theorem scan_rel (h : AlgRel L R alg1 alg2) {env1 : List Char → Option V} {env2 : List Char → Option W}
    (henv : ∀ n, L.rel R (env1 n) (env2 n)) (f : Nat) (cs : List Char) :
    L.rel (List.Forall₂ (ItemRel R)) (scan alg1 env1 f cs) (scan alg2 env2 f cs) := by
  induction f generalizing cs with
  | zero => cases cs <;> simp only [scan]; exact L.pure .nil; exact L.none
  | succ f ih =>
    cases cs with
    | nil => simp only [scan]; exact L.pure .nil
    | cons c cs =>
      have tok : ∀ {x : Item V} {y : Item W}, ItemRel R x y → ∀ cs', L.rel (List.Forall₂ (ItemRel R))
          ((scan alg1 env1 f cs').map (x :: ·)) ((scan alg2 env2 f cs').map (y :: ·)) :=
        fun hxy cs' => L.map (ih cs') fun _ _ hr => .cons hxy hr
      simp only [scan]
      refine ite_rel (L.rel _) ?paren <| ite_rel (L.rel _) ?name <| ite_rel (L.rel _) ?num <|
        ite_rel (L.rel _) (tok (.op _) _) <| ite_rel (L.rel _) (tok (.op _) _) <|
        ite_rel (L.rel _) (tok (.op _) _) <| ite_rel (L.rel _) (ih _) L.none
      case paren =>
        cases splitParen cs 0 with
        | none => exact L.none
        | some p =>
          exact L.bind (ih p.1) fun i1 i2 hi => L.bind (reduce_rel h hi) fun v w hvw => tok (.val hvw) _
      case name => exact L.bind (henv _) fun v w hvw => tok (.val hvw) _
      case num =>
        cases numLit (c :: List.takeWhile (fun x => !isStop x) cs) with
        | none => exact L.none
        | some me =>
          simp only [Option.bind_some]
          exact L.bind (h.num _ _) fun v w hvw => tok (.val hvw) _

/-- **parametricity of the parser**: related algebras and environments give related results, for
    every string (well-formed or not). -/
theorem parse_rel (h : AlgRel L R alg1 alg2) {env1 : List Char → Option V} {env2 : List Char → Option W}
    (henv : ∀ n, L.rel R (env1 n) (env2 n)) (cs : List Char) :
    L.rel R (parse alg1 env1 cs) (parse alg2 env2 cs) := by
  unfold parse
  exact L.bind (scan_rel h henv _ _) fun _ _ hi => reduce_rel h hi

theorem bind2_eq_some {A B C : Type} {f : A → B → Option C} {o1 : Option A} {o2 : Option B} {c : C}
    (h : bind2 f o1 o2 = some c) : ∃ a b, o1 = some a ∧ o2 = some b ∧ f a b = some c := by
  cases o1 <;> cases o2
  · cases h
  · cases h
  · cases h
  · exact ⟨_, _, rfl, rfl, h⟩

theorem bind2_eq_bind {A B C : Type} (f : A → B → Option C) (o1 : Option A) (o2 : Option B) :
    bind2 f o1 o2 = o1.bind fun a => o2.bind fun b => f a b := by
  cases o1 <;> cases o2 <;> rfl

theorem bind2_rel {f : V → V → Option V} {g : W → W → Option W}
    (hfg : ∀ a a' b b', R a b → R a' b' → L.rel R (f a a') (g b b'))
    {o1 o1' : Option V} {o2 o2' : Option W} (h1 : L.rel R o1 o2) (h2 : L.rel R o1' o2') :
    L.rel R (bind2 f o1 o1') (bind2 g o2 o2') := by
  rw [bind2_eq_bind, bind2_eq_bind]
  exact L.bind h1 fun a b hab => L.bind h2 fun a' b' hab' => hfg a a' b b' hab hab'

theorem evalAst_rel (h : AlgRel L R alg1 alg2) {env1 : List Char → Option V} {env2 : List Char → Option W}
    (henv : ∀ n, L.rel R (env1 n) (env2 n)) (e : Expr) :
    L.rel R (evalAst alg1 env1 e) (evalAst alg2 env2 e) := by
  induction e with
  | num l =>
    simp only [evalAst]
    cases numLit l with
    | none => exact L.none
    | some me => exact h.num _ _
  | name n => exact henv n
  | mul a b iha ihb => exact bind2_rel h.mul iha ihb
  | div a b iha ihb => exact bind2_rel h.div iha ihb
  | pow a b iha ihb => exact bind2_rel h.pow iha ihb

end Atomman.C09
