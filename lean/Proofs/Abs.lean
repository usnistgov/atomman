/-
  The models' `if` spelling of the absolute value (`absK`, `ratAbs'`, `absF`: `if x < 0 then -x else x`) is Mathlib's `|x|`.
-/
import Mathlib.Algebra.Order.Group.Unbundled.Abs

namespace Atomman

variable {K : Type} [LinearOrder K]

theorem ite_neg_eq_abs [AddGroup K] [AddLeftMono K] (x : K) : (if x < 0 then -x else x) = |x| := by
  split_ifs with h
  · exact (abs_of_neg h).symm
  · exact (abs_of_nonneg (not_lt.mp h)).symm

end Atomman
