/-
  C01_Inside — the two coordinate maps, reciprocal vectors, inside / outside, volume, arrays of points.
  The six face tests of `Box.inside` are, for a right-handed cell, the six bounds `0 ≤ sᵢ ≤ 1` on the relative coordinates:
  the inner product of a face normal with `p − point` is `−sᵢ·det` on the face through the origin and `(sᵢ − 1)·det` on
  the opposite one (`below_pair`, one pair of faces per axis), whatever positive number the normal was divided by.
  An `example` directly after a theorem meets the hypotheses of that theorem on a tilted cell over ℚ with non-zero origin.
-/
import Proofs.C01_Cell
import Proofs.C01_Scale

namespace Atomman.C01
open Atomman
set_option linter.unusedSectionVars false

variable {K : Type} [Field K] [LinearOrder K] [IsStrictOrderedRing K]

/-- `position_cartesian_to_relative` and `position_relative_to_cartesian` are mutual inverses for
    every non-degenerate cell and every origin. -/
theorem rel_cart_inverse (b : Box K) (h : b.vects.det ≠ 0) (s p : V3 K) :
    b.cartToRel (b.relToCart s) = s ∧ b.relToCart (b.cartToRel p) = p :=
  ⟨b.cartToRel_relToCart h s, b.relToCart_cartToRel h p⟩

example : ∃ b : Box ℚ, b.vects.det ≠ 0 ∧ b.origin ≠ ⟨0, 0, 0⟩ :=
  ⟨⟨⟨⟨2, 0, 1⟩, ⟨1/2, 3, 0⟩, ⟨-1, 1/4, 5⟩⟩, ⟨1, -2, 3⟩⟩, by decide +kernel, by decide +kernel⟩

/-- `reciprocal_vects[i] · vects[j] = δᵢⱼ`. -/
theorem reciprocal_dual (b : Box K) (h : b.vects.det ≠ 0) :
    b.recip.mul b.vects.transpose = M3.one ∧ b.vects.mul b.recip.transpose = M3.one :=
  Box.recip_dual b h

theorem reciprocal_dual_dots (b : Box K) (h : b.vects.det ≠ 0) :
    V3.dot b.recip.r0 b.vects.r0 = 1 ∧ V3.dot b.recip.r0 b.vects.r1 = 0 ∧ V3.dot b.recip.r0 b.vects.r2 = 0 ∧
    V3.dot b.recip.r1 b.vects.r0 = 0 ∧ V3.dot b.recip.r1 b.vects.r1 = 1 ∧ V3.dot b.recip.r1 b.vects.r2 = 0 ∧
    V3.dot b.recip.r2 b.vects.r0 = 0 ∧ V3.dot b.recip.r2 b.vects.r1 = 0 ∧ V3.dot b.recip.r2 b.vects.r2 = 1 :=
  (M3.mul_transpose_eq_one_iff _ _).mp (Box.recip_dual b h).1

/-- the reciprocal vectors are a function of the current vectors only (no state): two boxes with the
    same vectors have the same reciprocal vectors whatever their history. -/
theorem recip_depends_on_vects_only (b b' : Box K) (h : b.vects = b'.vects) : b.recip = b'.recip := by
  simp only [Box.recip, h]

theorem cartToRel_eq_cross (b : Box K) (p : V3 K) : b.cartToRel p =
    ⟨V3.dot (p - b.origin) (V3.cross b.vects.r1 b.vects.r2) / b.vects.det,
     V3.dot (p - b.origin) (V3.cross b.vects.r2 b.vects.r0) / b.vects.det,
     V3.dot (p - b.origin) (V3.cross b.vects.r0 b.vects.r1) / b.vects.det⟩ := by
  rw [Box.cartToRel_eq, M3.vecMul_inv]

def within (incl : Bool) (x y : K) : Prop := if incl then x ≤ y else x < y

theorem within_true (x y : K) : within true x y ↔ x ≤ y := Iff.rfl
theorem within_false (x y : K) : within false x y ↔ x < y := Iff.rfl

theorem below_iff (n pt p : V3 K) (lam : K) (hl : 0 < lam) (incl : Bool) :
    below ⟨n, pt⟩ lam p incl = true ↔ within incl (V3.dot (p - pt) n) 0 := by
  have e : ∀ q : V3 K, V3.dot (vdiv n lam) q = V3.dot q n / lam := fun q => by simp only [vdiv, V3.dot]; ring
  have d := V3.sub_dot p pt n
  cases incl
  · simp only [below, within_false, Bool.false_eq_true, if_false, decide_eq_true_eq, e, d, div_lt_div_iff_of_pos_right hl, sub_neg]
  · simp only [below, within_true, if_true, decide_eq_true_eq, e, d, div_le_div_iff_of_pos_right hl, sub_nonpos]

/-- one pair of opposite faces of the cell: the face through `o` with outward normal `m = -n` and the face through `o + w` with
    outward normal `n`, where `w · n = d > 0`.  Together they say that `(p − o) · n / d` lies between 0 and 1. -/
theorem below_pair {n m w : V3 K} {d : K} (o p : V3 K) (hm : m = -n) (hwn : V3.dot w n = d) (hd : 0 < d)
    {l l' : K} (hl : 0 < l) (hl' : 0 < l') (incl : Bool) :
    below ⟨m, o⟩ l p incl = true ∧ below ⟨n, o + w⟩ l' p incl = true ↔
      within incl 0 (V3.dot (p - o) n / d) ∧ within incl (V3.dot (p - o) n / d) 1 := by
  have near : V3.dot (p - o) m = -V3.dot (p - o) n := by rw [hm, V3.dot_neg_right]
  have far : V3.dot (p - (o + w)) n = V3.dot (p - o) n - d := by
    rw [← hwn]; simp only [V3.dot, V3.sub_def, V3.add_def]; ring
  rw [below_iff _ _ _ _ hl, below_iff _ _ _ _ hl', near, far]
  -- with `N` the numerator of the relative coordinate `N / d`: `−N ≤ 0` and `N − d ≤ 0` say `0 ≤ N / d ≤ 1` (likewise strictly)
  cases incl
  · simp only [within_false, lt_div_iff₀ hd, div_lt_iff₀ hd, zero_mul, one_mul, neg_neg_iff_pos, sub_neg]
  · simp only [within_true, le_div_iff₀ hd, div_le_iff₀ hd, zero_mul, one_mul, neg_nonpos, sub_nonpos]

/-- the six norms the plane normals are divided by (`np.linalg.norm(normal)`, in the order of `planes`) are positive; this is
    all the `inside_*` theorems need of them. -/
structure Lams.Pos (l : Lams K) : Prop where
  h0 : 0 < l.l0
  h1 : 0 < l.l1
  h2 : 0 < l.l2
  h3 : 0 < l.l3
  h4 : 0 < l.l4
  h5 : 0 < l.l5

theorem inside_iff_within (b : Box K) (hd : 0 < b.vects.det) (lam : Lams K) (hl : lam.Pos) (p : V3 K) (incl : Bool) :
    inside b lam p incl = true ↔
      within incl 0 (b.cartToRel p).x ∧ within incl (b.cartToRel p).x 1 ∧ within incl 0 (b.cartToRel p).y ∧
      within incl (b.cartToRel p).y 1 ∧ within incl 0 (b.cartToRel p).z ∧ within incl (b.cartToRel p).z 1 := by
  -- each cell vector against the cross product of the other two is the determinant
  have hy : V3.dot b.vects.r1 (V3.cross b.vects.r2 b.vects.r0) = b.vects.det := V3.dot_cross_rotate _ _ _
  have hz : V3.dot b.vects.r2 (V3.cross b.vects.r0 b.vects.r1) = b.vects.det := (V3.dot_cross_rotate _ _ _).trans hy
  have px := below_pair (d := b.vects.det) b.origin p (V3.cross_anticomm b.vects.r2 b.vects.r1) rfl hd hl.h0 hl.h3 incl
  have py := below_pair b.origin p (V3.cross_anticomm b.vects.r0 b.vects.r2) hy hd hl.h1 hl.h4 incl
  have pz := below_pair b.origin p (V3.cross_anticomm b.vects.r1 b.vects.r0) hz hd hl.h2 hl.h5 incl
  refine Iff.trans ?_ ((and_congr px (and_congr py pz)).trans ?_)
  · -- the tests stand in the order of `inside` (= `planes`, = the Python `Box.planes`): the faces through the origin for x, y, z, then the three opposite ones
    simp only [inside, Bool.and_eq_true]
    exact ⟨fun ⟨⟨⟨⟨⟨a0, a1⟩, a2⟩, a3⟩, a4⟩, a5⟩ => ⟨⟨a0, a3⟩, ⟨a1, a4⟩, a2, a5⟩,
      fun ⟨⟨a0, a3⟩, ⟨a1, a4⟩, a2, a5⟩ => ⟨⟨⟨⟨⟨a0, a1⟩, a2⟩, a3⟩, a4⟩, a5⟩⟩
  · simp only [cartToRel_eq_cross, and_assoc]

/-- **inside ⇔ relative coordinates in the unit cube**, for every right-handed cell, every origin and
    whatever positive numbers the six plane normals were divided by: boundary included
    (`inclusive=True`, closed cube) or excluded (`inclusive=False`, open cube). -/
theorem inside_iff_rel (b : Box K) (hd : 0 < b.vects.det) (lam : Lams K) (hl : lam.Pos) (p : V3 K) :
    (inside b lam p true = true ↔ RelIn (b.cartToRel p)) ∧
    (inside b lam p false = true ↔ RelInStrict (b.cartToRel p)) :=
  -- `within true x y` is `x ≤ y` and `within false x y` is `x < y` by definition, so the six bounds are `RelIn` resp. `RelInStrict` as they stand
  ⟨inside_iff_within b hd lam hl p true, inside_iff_within b hd lam hl p false⟩

/-- in particular the answer does not depend on the normalisation of the plane normals. -/
theorem inside_indep_of_norms (b : Box K) (hd : 0 < b.vects.det) (lam lam' : Lams K) (hl : lam.Pos)
    (hl' : lam'.Pos) (p : V3 K) (incl : Bool) : inside b lam p incl = inside b lam' p incl :=
  Bool.eq_iff_iff.mpr ((inside_iff_within b hd lam hl p incl).trans (inside_iff_within b hd lam' hl' p incl).symm)

example : ∃ (b : Box ℚ) (lam : Lams ℚ) (p q : V3 ℚ), 0 < b.vects.det ∧ lam.Pos ∧ b.origin ≠ ⟨0, 0, 0⟩ ∧
    inside b lam p true = true ∧ inside b lam p false = false ∧ inside b lam q true = false :=
  ⟨⟨⟨⟨2, 0, 0⟩, ⟨1/2, 3, 0⟩, ⟨-1, 1/4, 5⟩⟩, ⟨1, -2, 3⟩⟩, ⟨1, 2, 3, 1/2, 5, 7⟩, ⟨1, -2, 3⟩, ⟨0, 0, 0⟩,
    by decide +kernel, ⟨by decide +kernel, by decide +kernel, by decide +kernel, by decide +kernel,
      by decide +kernel, by decide +kernel⟩, by decide +kernel, by decide +kernel, by decide +kernel,
    by decide +kernel⟩

/-- `Shape.outside(pos, inclusive)` is the complement of `inside(pos, not inclusive)`. -/
theorem outside_eq_not_inside (b : Box K) (lam : Lams K) (p : V3 K) (incl : Bool) :
    outside b lam p incl = !(inside b lam p (!incl)) := rfl

/-- `Shape.outside` in relative coordinates: outside (boundary excluded) ⇔ not in the closed unit cube; outside (boundary included) ⇔
    not in the open unit cube. -/
theorem outside_iff_rel (b : Box K) (hd : 0 < b.vects.det) (lam : Lams K) (hl : lam.Pos) (p : V3 K) :
    (outside b lam p false = true ↔ ¬ RelIn (b.cartToRel p)) ∧
    (outside b lam p true = true ↔ ¬ RelInStrict (b.cartToRel p)) := by
  obtain ⟨h1, h2⟩ := inside_iff_rel b hd lam hl p
  rw [← h1, ← h2]
  simp only [outside_eq_not_inside, Bool.not_false, Bool.not_true, Bool.not_eq_true', Bool.not_eq_true, and_self]

/-- inside / outside do not depend on the unit of length. -/
theorem scale_inside (s : K) (hs : 0 < s) (b : Box K) (hd : 0 < b.vects.det) (lam lam' : Lams K) (hl : lam.Pos)
    (hl' : lam'.Pos) (p : V3 K) (incl : Bool) :
    inside (scaleBox s b) lam' (scaleV s p) incl = inside b lam p incl := by
  have hds : 0 < (scaleBox s b).vects.det := by
    rw [scaleBox, scale_det]; exact mul_pos (mul_pos (mul_pos hs hs) hs) hd
  have h1 := inside_iff_within (scaleBox s b) hds lam' hl' (scaleV s p) incl
  rw [scale_cartToRel s hs.ne' b hd.ne' p] at h1
  exact Bool.eq_iff_iff.mpr (h1.trans (inside_iff_within b hd lam hl p incl).symm)

example : ∃ (s : ℚ) (b : Box ℚ) (p : V3 ℚ), 0 < s ∧ s ≠ 1 ∧ 0 < b.vects.det ∧
    inside b Lams.ones p true = true ∧ inside b Lams.ones p false = false :=
  ⟨1024, ⟨⟨⟨2, 0, 0⟩, ⟨1/2, 3, 0⟩, ⟨-1, 1/4, 5⟩⟩, ⟨1, -2, 3⟩⟩, ⟨1, -2, 3⟩, by decide +kernel, by decide +kernel,
    by decide +kernel, by decide +kernel, by decide +kernel⟩

/-- the exemption "points closer than the bound to a face" granted by the comparison with the real code is
    exactly that: the margin the driver reports for a point is at most `ε` iff one of its relative coordinates is within `ε` of
    `0` or of `1` — no other point is exempted from the inside / outside clause. -/
theorem faceMargin_le_iff (s : V3 K) (ε : K) :
    faceMargin s ≤ ε ↔ (|s.x| ≤ ε ∨ |1 - s.x| ≤ ε ∨ |s.y| ≤ ε ∨ |1 - s.y| ≤ ε ∨ |s.z| ≤ ε ∨ |1 - s.z| ≤ ε) := by
  simp only [faceMargin, minK_eq_min, absK_eq_abs, min_le_iff, or_assoc]

/-- a point with positive margin is strictly inside or strictly outside: boundary included / excluded give the same answer. -/
theorem faceMargin_pos_decides (s : V3 K) (h : 0 < faceMargin s) : RelIn s ↔ RelInStrict s := by
  have h' : ¬ faceMargin s ≤ 0 := not_le.mpr h
  rw [faceMargin_le_iff] at h'
  simp only [abs_sub_comm (1 : K), abs_nonpos_iff, not_or, sub_eq_zero] at h'
  obtain ⟨h1, h2, h3, h4, h5, h6⟩ := h'
  -- no coordinate is 0 or 1, so `≤` and `<` agree on all six bounds
  simp only [RelIn, RelInStrict, le_iff_lt_or_eq, eq_comm (a := (0 : K)), h1, h2, h3, h4, h5, h6, or_false]

example : faceMargin (⟨1/4, 9/10, 1/2⟩ : V3 ℚ) = 1/10 ∧ faceMargin (⟨1/4, 1, 1/2⟩ : V3 ℚ) = 0 ∧ faceMargin (⟨-1/8, 3, 1/2⟩ : V3 ℚ) = 1/8 := by
  decide +kernel
example : RelIn (⟨1/4, 9/10, 1/2⟩ : V3 ℚ) ↔ RelInStrict (⟨1/4, 9/10, 1/2⟩ : V3 ℚ) := faceMargin_pos_decides _ (by decide +kernel)

theorem volume_nonneg (b : Box K) : 0 ≤ volume b := by
  rw [volume_eq_absdet]; exact abs_nonneg _

/-- the volume of a non-degenerate cell is positive, whatever the handedness (`|det|`, not `det`). -/
theorem volume_pos_of_det_ne_zero (b : Box K) (h : b.vects.det ≠ 0) : 0 < volume b := by
  rw [volume_eq_absdet]; exact abs_pos.mpr h

example : ∃ b : Box ℚ, b.vects.det < 0 ∧ 0 < volume b :=
  ⟨⟨⟨⟨-2, 0, 0⟩, ⟨0, 2, 0⟩, ⟨0, 0, 2⟩⟩, ⟨0, 0, 0⟩⟩, by decide +kernel, by decide +kernel⟩

theorem volume_normal (b : Box K) (h : b.isLammpsNorm = true) :
    volume b = b.vects.r0.x * b.vects.r1.y * b.vects.r2.z := by
  have hd := Box.det_pos_of_normal b h
  obtain ⟨lx, ly, lz, xy, xz, yz, o, hx, hy, hz, rfl⟩ := normal_cases b h
  rw [volume_eq_absdet, abs_of_pos hd, M3.det_lower]

theorem volume_sq_eq_gram_det (b : Box K) : volume b * volume b = (gram b.vects).det := by
  rw [volume_eq_absdet, abs_mul_abs_self, gram_det]

/-- an array of points is converted row by row: the result has as many rows and row `i` depends on row `i` only. -/
theorem conv_rows (b : Box K) (pts : List (V3 K)) (i : Nat) :
    (r2cAll b pts).length = pts.length ∧ (c2rAll b pts).length = pts.length ∧
    (r2cAll b pts)[i]? = pts[i]?.map b.relToCart ∧ (c2rAll b pts)[i]? = pts[i]?.map b.cartToRel := by
  simp only [r2cAll, c2rAll, List.length_map, List.getElem?_map, and_self]

theorem conv_rows_inverse (b : Box K) (h : b.vects.det ≠ 0) (pts : List (V3 K)) :
    c2rAll b (r2cAll b pts) = pts ∧ r2cAll b (c2rAll b pts) = pts := by
  simp only [r2cAll, c2rAll, List.map_map]
  exact ⟨List.map_id'' (fun p => (rel_cart_inverse b h p p).1) pts, List.map_id'' (fun p => (rel_cart_inverse b h p p).2) pts⟩

/-- `inside` of an array: one flag per point, each decided by that point's relative coordinates alone. -/
theorem insideAll_iff_rel (b : Box K) (hd : 0 < b.vects.det) (lam : Lams K) (hl : lam.Pos) (pts : List (V3 K)) (i : Nat)
    (p : V3 K) (hp : pts[i]? = some p) :
    (insideAll b lam pts true).length = pts.length ∧
    ((insideAll b lam pts true)[i]? = some true ↔ RelIn (b.cartToRel p)) ∧
    ((insideAll b lam pts false)[i]? = some true ↔ RelInStrict (b.cartToRel p)) ∧
    (outsideAll b lam pts true)[i]? = ((insideAll b lam pts false)[i]?).map (!·) := by
  simp only [insideAll, outsideAll, List.length_map, List.getElem?_map, hp, Option.map_some, Option.some.injEq, true_and,
    outside_eq_not_inside, Bool.not_true]
  exact ⟨(inside_iff_rel b hd lam hl p).1, (inside_iff_rel b hd lam hl p).2, trivial⟩

/-- shapes: the conversions accept exactly arrays whose trailing dimension is 3 and return the shape they were given (hence the
    same number of points); `inside` / `outside` return the leading shape. -/
theorem convShape_ok_iff (sh : List Nat) :
    ((∃ r, convShape sh = .ok r) ↔ sh.getLast? = some 3) ∧ (∀ r, convShape sh = .ok r → r = sh ∧ rowsOf r = rowsOf sh) ∧
    (sh.getLast? = some 3 → insideShape sh = .ok sh.dropLast) ∧ (convShape sh = .errIndex ↔ sh = []) := by
  unfold convShape insideShape
  cases h : sh.getLast? with
  | none => simp [List.getLast?_eq_none_iff.mp h]
  | some d =>
    have hne : sh ≠ [] := fun e => by simp [e] at h
    by_cases hd : d = 3 <;> simp [hd, hne]

end Atomman.C01
