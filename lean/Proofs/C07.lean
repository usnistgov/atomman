/-
  C07 — property theorems: written LAMMPS data / dump / table and POSCAR files are well-formed and describe the system;
  also the checks of the column and unit tables against the LAMMPS manual, the whole calls (`*_call_end_to_end`,
  `deliver_spec`), the last link of the source tie (`gen_files_are_model_files`), and at the end the non-vacuity examples
  for theorems of the helper modules.  Model: Atomman/C07.lean; tables: Atomman/Generated/AtomStyles.lean (regenerated).
-/
import Proofs.C07_Inside
import Proofs.C07_Poscar
import Proofs.C07_Bounds
import Proofs.C07_Index
import Proofs.C07_Source
namespace Atomman.C07
open Atomman
set_option linter.unusedSimpArgs false

/-- what an independent reader gets from the printed text differs from the exact value by at
    most half a unit of the last printed place. -/
theorem fmtFixed_error (q : ℚ) (n : Nat) :
    ∃ v, parseNum? (fmtFixed q n) = some v ∧ |v - q| ≤ 1 / (2 * 10 ^ n) :=
  ⟨fixedVal q n, parseNum_fmtFixed q n, fixedVal_error q n⟩

example : parseNum? (fmtFixed (5 / 2) 0) = some 2 := by decide +kernel
example : fmtFixed (-1 / 8) 2 = cs!"-0.12" := by decide +kernel


/-- what an independent reader gets from the text of `'%.ne' % q` differs from `q` by at most half a
    unit of the last printed digit (`expOf |q|` is the decimal exponent of `|q|`: `expOf_spec`). -/
theorem fmtExp_error (q : ℚ) (n : Nat) (hq : q ≠ 0) :
    ∃ v, parseNum? (fmtExp q n) = some v ∧ |v - q| ≤ 1 / 2 * pow10 (expOf |q| - (n : Int)) ∧
      pow10 (expOf |q|) ≤ |q| ∧ |q| < pow10 (expOf |q| + 1) :=
  ⟨expVal q n, parseNum_fmtExp q n, expVal_error q n hq, expOf_spec |q| (abs_pos.mpr hq)⟩

example : parseNum? (fmtExp (-1234567 / 1000) 3) = some (-1235) := by
  rw [parseNum_fmtExp]; decide +kernel
example : fmtExp (1 / 8) 2 = cs!"1.25e-01" := by decide +kernel
example := fmtExp_error (-1234567 / 1000) 3 (by norm_num)

def isOk {α : Type} (r : Res α) : Bool := match r with | .ok _ => true | .error _ => false

theorem isOk_map {α β : Type} (g : α → β) (r : Res α) : isOk (r.map g) = isOk r := by cases r <;> rfl

/-- a small triclinic system with one atom outside the cell (used for the non-vacuity examples). -/
def exSys : Sys :=
  { box := ⟨⟨⟨4, 0, 0⟩, ⟨1, 3, 0⟩, ⟨0, 0, 5⟩⟩, ⟨-1, 0, 0⟩⟩, pbc := ⟨true, true, false⟩, natypes := 2,
    atype := [1, 2], pos := [⟨0, 0, 0⟩, ⟨9/2, 1, 6⟩], props := [] }
def exUnits : Units := [("length", some 1)]
def exCols : List ColSpec := [⟨"a_id", ["id"], .none⟩, ⟨"atype", ["type"], .none⟩, ⟨"pos", ["x", "y", "z"], .kind "length"⟩]
def exProps : List (String × List Nat) := [("atom_id", []), ("atype", []), ("pos", [3])]

/-- for every system and column list, a reader that splits the written table at blanks and
    reads every field as a decimal number gets one row per atom holding exactly the written cells (each number at
    its printed precision, `Cell.val`), the header line naming the columns, and every row has as many fields as
    there are column names.  Hypotheses: the column names are single words and the id/type columns have one name. -/
theorem table_parse_write (s : Sys) (cols : List ColSpec) (u : Units) (f : Fmt) (header : Bool)
    (text : List Char) (h : writeTable s cols u f header = .ok text) (hn : NamesOk cols) (hid : IdNamesOk cols) :
    ∃ rows, tableRows s u (seqIds s.natoms) s.pos cols [] = .ok rows ∧ rows.length = s.natoms ∧
      (∀ r ∈ rows, r.length = (nameLine cols).length) ∧
      parseTable text header = some { columns := if header then some (nameLine cols) else none,
                                      rows := rows.map (·.map (Cell.val f)) } := by
  obtain ⟨doc, hd, rfl⟩ := map_ok h
  obtain ⟨rows, hr, hdoc⟩ := bind_ok hd
  cases hdoc
  have hrl := row_length s u _ _ cols hid rows hr
  refine ⟨rows, hr, (tableRows_spec _ _ _ _ _ _ _ hr).1, hrl, ?_⟩
  unfold parseTable
  cases header with
  | true =>
    rw [lexDoc_renderLines]
    · simp only [if_true, List.cons_append, List.nil_append]
      rw [← nameLine, mapM_rows_checked f rows _ hrl]
      rfl
    · intro l hl t ht
      rcases List.mem_cons.mp hl with rfl | hl
      · exact okTok_nameLine cols hn t ht
      · exact okTok_rowsDoc f rows l hl t ht
  | false =>
    simp only [Bool.false_eq_true, if_false, List.nil_append]
    rw [lexDoc_renderLines _ (okTok_rowsDoc f rows), mapM_rows]
    rfl

example : isOk (writeTable exSys exCols exUnits (.fixed 3) true) = true ∧ NamesOk exCols ∧ IdNamesOk exCols := by
  unfold NamesOk IdNamesOk
  decide +kernel

/-- for every system, the independent `dump custom` reader applied to the written text returns
    the time step, the atom count of the header = the number of atoms = the number of rows, the `pp`/`fm` flags of
    the three directions in order, the LAMMPS bounding box `lo + MIN(0, xy, xz, xy+xz)` … (`dump_bbox_corners`) and
    the tilts at printed precision, from which `hiLoOfBBox` rebuilds `xlo … zhi` (`dump_bbox`), the `xy xz yz`
    keyword exactly for a tilted cell, the column names, and per atom exactly the written cells; ids are unique. -/
theorem dump_parse_write (s : Sys) (props : List (String × List Nat)) (u : Units) (f : Fmt) (ts : Int)
    (text : List Char) (h : writeDump s props u f ts = .ok text)
    (hn : NamesOk (props.map fun p => dumpCol p.1 p.2)) (hid : IdNamesOk (props.map fun p => dumpCol p.1 p.2)) :
    ∃ lf rows, s.box.isLammpsNorm = true ∧ lengthFactor u = .ok lf ∧ hasDup (dumpIds s) = false ∧
      tableRows s u (dumpIds s) s.pos (props.map fun p => dumpCol p.1 p.2) [] = .ok rows ∧
      rows.length = s.natoms ∧
      parseDump text =
        some { timestep := ts, natoms := s.natoms,
               triclinic := !decide (orthoH ((hiLoOf s.box).map (divBy lf))),
               boundary := [bflagD s.pbc.x, bflagD s.pbc.y, bflagD s.pbc.z],
               bbox := (bboxOf ((hiLoOf s.box).map (divBy lf))).map (fmtVal f),
               hilo := hiLoOfBBox ((bboxOf ((hiLoOf s.box).map (divBy lf))).map (fmtVal f))
                 (fmtVal f ((hiLoOf s.box).map (divBy lf)).xy) (fmtVal f ((hiLoOf s.box).map (divBy lf)).xz)
                 (fmtVal f ((hiLoOf s.box).map (divBy lf)).yz),
               columns := nameLine (props.map fun p => dumpCol p.1 p.2),
               rows := rows.map (·.map (Cell.val f)) } := by
  obtain ⟨doc, hd, rfl⟩ := map_ok h
  obtain ⟨lf, rows, hnorm, hlf, hdup, hrows, rfl⟩ := writeDumpDoc_ok s props u f ts doc hd
  have hlen := (tableRows_spec _ _ _ _ _ _ _ hrows).1
  refine ⟨lf, rows, hnorm, hlf, hdup, hrows, hlen, ?_⟩
  unfold parseDump
  rw [lexDoc_renderLines _ (okTok_dumpDoc f ts _ _ _ _ rows hn)]
  exact parseDumpLines_dumpDoc f ts _ _ _ _ rows hlen (row_length _ _ _ _ _ hid rows hrows)

example : isOk (writeDump ({ exSys with pos := [⟨0, 0, 0⟩, ⟨1, 1, 1⟩] }) exProps exUnits (.exp 5) 7) = true := by
  decide +kernel

-- the name hypotheses (also of `dump_timestep_line`, `dump_call_end_to_end`) for the columns of `exProps`.
example : NamesOk (exProps.map fun p => dumpCol p.1 p.2) ∧ IdNamesOk (exProps.map fun p => dumpCol p.1 p.2) := by
  unfold NamesOk IdNamesOk
  decide +kernel

/-- a whole number is the step it is, whatever carries it — an integer
    type or a real number (`50.0 / 0.002`, a numpy float, a 0-d array); a system without a time step is at step 0. -/
theorem step_of_whole_number (i : Int) :
    (StepVal.int i).step = i ∧ (StepVal.real (i : Rat)).step = i ∧ StepVal.absent.step = 0 ∧ StepVal.none.step = 0 := by
  refine ⟨rfl, ?_, rfl, rfl⟩
  simp only [StepVal.step, truncRat]
  split
  · exact Rat.floor_intCast i
  · have h : (-(i : Rat)) = ((-i : Int) : Rat) := by push_cast; rfl
    rw [h, Rat.floor_intCast]; omega

/-- the `ITEM: TIMESTEP` value the independent reader finds in the file written for a system
    holding `sv` is `sv.step` — with `step_of_whole_number`: 25000 for 25000, 25000.0, `np.float64(25000)`. -/
theorem dump_timestep_line (s : Sys) (props : List (String × List Nat)) (u : Units) (f : Fmt) (sv : StepVal)
    (text : List Char) (h : writeDumpStep s props u f sv = .ok text)
    (hn : NamesOk (props.map fun p => dumpCol p.1 p.2)) (hid : IdNamesOk (props.map fun p => dumpCol p.1 p.2)) :
    (parseDump text).map (·.timestep) = some sv.step := by
  obtain ⟨lf, rows, _, _, _, _, _, h5⟩ := dump_parse_write s props u f sv.step text h hn hid
  rw [h5]; rfl

example : isOk (writeDumpStep ({ exSys with pos := [⟨0, 0, 0⟩, ⟨1, 1, 1⟩] }) exProps exUnits (.exp 5) (.real 25000)) = true ∧
    (StepVal.real 25000).step = 25000 ∧ (StepVal.real (5 / 2)).step = 2 ∧ (StepVal.real (-5 / 2)).step = -2 := by
  decide +kernel

/-- for every system with valid atom types, the independent POSCAR reader applied to the
    written text returns the comment line, the scale factor, the lattice rows multiplied by it, the symbols line,
    the per-type counts, the coordinate mode and the coordinate rows grouped by type, every number at its printed
    precision; the positions it reconstructs are `scale · row` in Cartesian mode and `row · lattice` in direct
    mode (with `poscar_scale`: the cell and the positions of the system).  A file is written only for a positive
    scale factor (a negative one is, by the format's rules, the cell volume and not a multiplier).  Hypotheses on
    the strings: see `PoscarStringsOk`; the printed scale factor is positive. -/
theorem poscar_parse_write (s : Sys) (header : List String) (symbols : Option (List String)) (coordstyle : String)
    (scale : ℚ) (f : Fmt) (text : List Char) (h : writePoscar s header symbols coordstyle scale f = .ok text)
    (hs : PoscarStringsOk header symbols coordstyle) (hscale : 0 < fmtVal f scale)
    (hlen : s.atype.length = s.pos.length) (hty : ∀ t ∈ s.atype, 1 ≤ t ∧ t ≤ (s.natypes : Int)) :
    let p := poscarNums s (isCartTok (strTok coordstyle)) scale
    0 < scale ∧ s.natoms ≠ 0 ∧ (∀ l, symbols = some l → l.length = s.natypes) ∧
    p.coords.length = s.natoms ∧ p.counts.foldl (· + ·) 0 = s.natoms ∧
    parsePoscar text = some (poscarExpected f header symbols coordstyle scale p) := by
  intro p
  obtain ⟨h1, h2, h3, h4⟩ := parsePoscar_writePoscar s header symbols coordstyle scale f text h hs hscale hlen hty
  obtain ⟨_, c2, c3⟩ := poscarNums_counts s (isCartTok (strTok coordstyle)) scale h2 hlen hty
  exact ⟨h1, h2, h3, c3, by rw [c2, c3], h4⟩

example : isOk (writePoscar exSys ["test"] (some ["Al", "Cu"]) "Cartesian" 2 (.exp 5)) = true ∧
    PoscarStringsOk ["test"] (some ["Al", "Cu"]) "Cartesian" ∧ 0 < fmtVal (.exp 5) 2 ∧
    exSys.atype.length = exSys.pos.length ∧ (∀ t ∈ exSys.atype, 1 ≤ t ∧ t ≤ (exSys.natypes : Int)) := by
  refine ⟨by decide +kernel, ⟨by decide, by decide, ?_, ?_⟩, by decide +kernel, rfl, by decide⟩
  · intro c r hcr
    have : ("Cartesian" : String).toList = 'C' :: "artesian".toList := rfl
    rw [this] at hcr; injection hcr with h1 _; subst h1; decide
  · intro l hl; injection hl with hl; subst hl
    exact ⟨by decide, "Al", ["Cu"], rfl, by decide⟩

/-- the file an independent POSCAR reader gets back has one per-type count for
    every atom type of the system, and whenever a symbols line is written it names exactly as many species as
    the counts line has entries (a type no atom has is counted with `0`, in the middle or at the end). -/
theorem poscar_symbols_match_counts (s : Sys) (header : List String) (symbols : Option (List String))
    (coordstyle : String) (scale : ℚ) (f : Fmt) (text : List Char)
    (h : writePoscar s header symbols coordstyle scale f = .ok text)
    (hs : PoscarStringsOk header symbols coordstyle) (hscale : 0 < fmtVal f scale)
    (hlen : s.atype.length = s.pos.length) (hty : ∀ t ∈ s.atype, 1 ≤ t ∧ t ≤ (s.natypes : Int)) :
    ∃ p, parsePoscar text = some p ∧ p.counts.length = s.natypes ∧
      (∀ i, i < s.natypes → p.counts[i]? = some (countType s.atype ((i : Int) + 1))) ∧
      (∀ l, p.symbols = some l → l.length = p.counts.length) := by
  obtain ⟨_, _, h3, h4⟩ := parsePoscar_writePoscar s header symbols coordstyle scale f text h hs hscale hlen hty
  refine ⟨_, h4, ?_, ?_, ?_⟩
  · exact poscarNums_counts_length s (isCartTok (strTok coordstyle)) scale
  · intro i hi
    simp [poscarExpected, poscarNums, hi]
  · intro l hl
    simp only [poscarExpected, Option.map_eq_some_iff] at hl
    obtain ⟨l0, hl0, rfl⟩ := hl
    simp only [poscarExpected, List.length_map, h3 l0 hl0, poscarNums_counts_length]

theorem styleWords_atomic : styleWords "atomic" = ["atomic"] := by
  -- `String.splitOn` runs a well-founded loop (`String.splitOnAux`) that neither `decide` nor `rfl` evaluates: it is
  -- unfolded step by step here; any proof of `"atomic".splitOn " " = ["atomic"]` will do in its place
  simp [styleWords, String.splitOn]
  repeat (rw [String.splitOnAux]; simp (config := {decide := true}))

theorem exSys_writeData_ok : isOk (writeData exSys "atomic" exUnits (.fixed 3)) = true := by
  unfold writeData writeDataDoc dataParts atomCols velCols styleCols dataDocOf
  simp only [styleWords_atomic]
  decide +kernel

theorem exSys_intTyped : IntTyped exSys := by
  intro col hcol; simp [exSys] at hcol

example : isOk (writeData exSys "atomic" exUnits (.fixed 3)) = true ∧ IntTyped exSys :=
  ⟨exSys_writeData_ok, exSys_intTyped⟩

/-- for every written data file, as read by the independent reader:
    the header counts match the sections; the ids of the `Atoms` (and `Velocities`) lines are exactly `1..N` in
    order, hence unique; every type is the atom's type; the exact bounds satisfy `lo < hi` and the printed ones do
    for `%.nf` whenever the extent exceeds one unit of the last printed place; every written atom position lies
    inside the box a LAMMPS run builds from the written bounds (C05's `wrap_inside`; stated for the numbers the file
    prints before rounding — each printed number is within half a unit of the last place of them); and a line with the
    `xy xz yz` keywords is present iff a tilt is non-zero.  `hu`: the length unit is positive. -/
theorem data_wellformed (s : Sys) (style : String) (u : Units) (f : Fmt) (text : List Char)
    (h : writeData s style u f = .ok text) (hs : IntTyped s)
    (hu : ∀ c, u.factor? "length" = some (some c) → 0 < c) :
    ∃ p w lf pd, dataParts s style u = .ok (p, w) ∧ lengthFactor u = .ok lf ∧ w = wrap s.box s.pbc s.pos ∧
      text = renderLines (dataDocOf f style p) ∧ parseData text style = some pd ∧
      -- counts
      pd.natoms = s.natoms ∧ pd.atoms.length = pd.natoms ∧ (∀ v, pd.velocities = some v → v.length = pd.natoms) ∧
      -- ids 1..N, types
      (∀ k (hk : k < pd.atoms.length), pd.atoms[k].id = (k : Int) + 1 ∧ s.atype[k]? = some pd.atoms[k].type) ∧
      (∀ v, pd.velocities = some v → ∀ k (hk : k < v.length), v[k].id = (k : Int) + 1) ∧
      hasDup (pd.atoms.map (·.id)) = false ∧
      -- bounds
      (let hx := (hiLoOf w.box).map (divBy lf)
       p.hilo = hx ∧ pd.hilo = hx.map (fmtVal f) ∧ hx.xlo < hx.xhi ∧ hx.ylo < hx.yhi ∧ hx.zlo < hx.zhi ∧
       (∀ n, f = .fixed n →
          (1 / 10 ^ n < hx.xhi - hx.xlo → pd.hilo.xlo < pd.hilo.xhi) ∧
          (1 / 10 ^ n < hx.yhi - hx.ylo → pd.hilo.ylo < pd.hilo.yhi) ∧
          (1 / 10 ^ n < hx.zhi - hx.zlo → pd.hilo.zlo < pd.hilo.zhi)) ∧
       -- every atom inside the written bounds
       (∀ q ∈ w.pos, C05.insideRel ((boxOfHiLo hx).cartToRel (v3map (divBy lf) q))) ∧
       (∀ k (hk : k < pd.atoms.length), ∃ q, w.pos[k]? = some q ∧
          pd.atoms[k].pos = v3map (fmtVal f) (v3map (divBy lf) q))) ∧
      -- tilt line
      ((∃ l ∈ dataDocOf f style p, l.getLast? = some (cs!"yz")) ↔ tilted p.hilo) := by
  obtain ⟨p, w, lf, cols, L, pd, hd, hw, hnorm, hlf, hcols, hL, hcL, htext, hparse, hna, hnt, hhilo, hhint, halen,
    hatoms, hvel⟩ := data_parse_write s style u f text h hs
  have hlfpos : ∀ c, lf = some c → 0 < c := fun c hc => hu c (hc ▸ lengthFactor_ok hlf)
  -- `data_parse_write` gives the header as read (`pd.hilo`); the header as written (`p.hilo`) is the writer's own fact
  obtain ⟨_, _, lf', _, hlf', _, _, _, hphilo, _, _⟩ := dataParts_ok s style u p w hd
  have hlfe : lf' = lf := by rw [hlf] at hlf'; injection hlf' with e; exact e.symm
  rw [hlfe] at hphilo
  have hids : ∀ k (hk : k < pd.atoms.length), pd.atoms[k].id = (k : Int) + 1 := fun k hk => (hatoms k hk).id
  have hv : ∀ v, pd.velocities = some v → v.length = s.natoms ∧ ∀ k (hk : k < v.length), v[k].id = (k : Int) + 1 := by
    intro v hv
    rcases hvel with ⟨_, h0⟩ | ⟨_, vc, vrecs, _, h1, h2, h3⟩
    · rw [h0] at hv; cases hv
    · obtain rfl := Option.some.inj (h1.symm.trans hv)
      exact ⟨h2, fun k hk => (h3 k hk).id⟩
  refine ⟨p, w, lf, pd, hd, hlf, hw, htext, hparse, hna, by rw [halen, hna], fun v h => (hv v h).1.trans hna.symm,
    fun k hk => ⟨(hatoms k hk).id, (hatoms k hk).type⟩, fun v h => (hv v h).2, ?_, ?_, ?_⟩
  · have hmap : pd.atoms.map (·.id) = seqIds pd.atoms.length :=
      List.ext_getElem (by simp [seqIds]) fun k h1 _ => by
        simp only [List.getElem_map, seqIds, List.getElem_range]
        exact hids k (by simpa using h1)
    rw [hmap]
    exact hasDup_seqIds _
  · have hll := hilo_lo_lt_hi w.box hnorm lf hlfpos
    simp only at hll ⊢
    refine ⟨hphilo, hhilo, hll.1, hll.2.1, hll.2.2, ?_, ?_, ?_⟩
    · intro n hn
      subst hn
      rw [hhilo]
      exact ⟨fun hx => fixedVal_lt _ _ n hx, fun hx => fixedVal_lt _ _ n hx, fun hx => fixedVal_lt _ _ n hx⟩
    · intro q hq
      subst hw
      exact data_atoms_inside s lf (fun c hc => ne_of_gt (hlfpos c hc)) hnorm q hq
    · intro k hk
      exact (hatoms k hk).pos
  · exact tilt_line_iff f style cols hcols p

/-- for every written data file, applying the written image flags with the cell vectors a
    LAMMPS run builds from the written header (`x + ix·a + iy·b + iz·c`) to the written position gives the atom's
    original position in the length unit of the unit style — stated for the exact numbers the file prints (each printed
    number is within half a unit of its last place of them, `data_parse_write`). -/
theorem data_unwrap_positions (s : Sys) (style : String) (u : Units) (f : Fmt) (text : List Char)
    (h : writeData s style u f = .ok text) (hu : ∀ c, u.factor? "length" = some (some c) → c ≠ 0) :
    ∃ lf, lengthFactor u = .ok lf ∧ ∀ k (hk : k < s.pos.length),
      ∃ q fl, (wrap s.box s.pbc s.pos).pos[k]? = some q ∧ (wrap s.box s.pbc s.pos).flags[k]? = some fl ∧
        unwrapPos ((hiLoOf (wrap s.box s.pbc s.pos).box).map (divBy lf)) (v3map (divBy lf) q) fl
          = v3map (divBy lf) s.pos[k] := by
  obtain ⟨o, ho, -⟩ := map_ok h
  obtain ⟨⟨p, w⟩, hd, -⟩ := map_ok ho
  obtain ⟨hw, hnorm, lf, _, hlf, _⟩ := dataParts_ok s style u p w hd
  subst hw
  exact ⟨lf, hlf, fun k hk => data_unwrap s lf hnorm k hk⟩

theorem exUnits_length_pos : ∀ c, exUnits.factor? "length" = some (some c) → 0 < c := by
  intro c hc
  have : exUnits.factor? "length" = some (some 1) := by decide +kernel
  rw [this] at hc; injection hc with hc; injection hc with hc; subst hc; norm_num

example : ∀ c, exUnits.factor? "length" = some (some c) → c ≠ 0 := fun c hc => (exUnits_length_pos c hc).ne'

-- `data_wellformed`: its hypothesis `hu` at `exUnits` (the fact above, as an audit example).
example : ∀ c, exUnits.factor? "length" = some (some c) → 0 < c := exUnits_length_pos

/-- the inverse of the bounding-box map: removing the tilt extents from the written bounding box gives back `xlo … zhi`. -/
theorem dump_bbox (h : HiLo) : hiLoOfBBox (bboxOf h) h.xy h.xz h.yz = h := by
  cases h
  simp only [hiLoOfBBox, bboxOf, HiLo.mk.injEq]
  refine ⟨?_, ?_, ?_, ?_, ?_⟩ <;> simp

/-- the written bounds are the LAMMPS formulas `xlo + MIN(0,xy,xz,xy+xz)` …: they bound the x (resp. y)
    coordinate of every corner `origin + a·A + b·B + c·C`, `a,b,c ∈ {0,1}` (that a corner attains each bound is not stated). -/
theorem dump_bbox_corners (h : HiLo) (b c : ℚ) (hb : b = 0 ∨ b = 1) (hc : c = 0 ∨ c = 1) :
    (bboxOf h).xlo ≤ h.xlo + b * h.xy + c * h.xz ∧ h.xhi + b * h.xy + c * h.xz ≤ (bboxOf h).xhi ∧
    (bboxOf h).ylo ≤ h.ylo + c * h.yz ∧ h.yhi + c * h.yz ≤ (bboxOf h).yhi := by
  obtain ⟨x0, x1, x2, x3⟩ := min4_le 0 h.xy h.xz (h.xy + h.xz)
  obtain ⟨X0, X1, X2, X3⟩ := le_max4 0 h.xy h.xz (h.xy + h.xz)
  obtain ⟨y0, y1, -, -⟩ := min4_le 0 h.yz 0 0
  obtain ⟨Y0, Y1, -, -⟩ := le_max4 0 h.yz 0 0
  simp only [bboxOf]
  rcases hb with rfl | rfl <;> rcases hc with rfl | rfl
  · exact ⟨by linarith, by linarith, by linarith, by linarith⟩
  · exact ⟨by linarith, by linarith, by linarith, by linarith⟩
  · exact ⟨by linarith, by linarith, by linarith, by linarith⟩
  · exact ⟨by linarith, by linarith, by linarith, by linarith⟩

/-- `lo < hi` in x and y survives the bounding-box map. -/
theorem dump_bbox_lo_lt_hi (h : HiLo) (hx : h.xlo < h.xhi) (hy : h.ylo < h.yhi) :
    (bboxOf h).xlo < (bboxOf h).xhi ∧ (bboxOf h).ylo < (bboxOf h).yhi := by
  have x0 := (min4_le 0 h.xy h.xz (h.xy + h.xz)).1
  have X0 := (le_max4 0 h.xy h.xz (h.xy + h.xz)).1
  have y0 := (min4_le 0 h.yz 0 0).1
  have Y0 := (le_max4 0 h.yz 0 0).1
  simp only [bboxOf]
  exact ⟨by linarith, by linarith⟩

example : bboxOf ⟨0, 4, 0, 8, 0, 2, 3/2, -1/2, 1/4⟩ = ⟨-1/2, 11/2, 0, 33/4, 0, 2⟩ := by decide +kernel
example :=
  dump_bbox_lo_lt_hi ⟨0, 4, 0, 8, 0, 2, 3/2, -1/2, 1/4⟩ (by norm_num) (by norm_num)
example := dump_bbox_corners ⟨0, 4, 0, 8, 0, 2, 3/2, -1/2, 1/4⟩ 1 1 (Or.inr rfl) (Or.inr rfl)

/-- `dump_bounds_error` for `%.nf`: the cell bounds rebuilt from a written dump file are within 3, 2, 1 half-units of
    the last printed place of the cell's (x, y, z): one rounding error per printed number involved, the
    bound itself and, subtracted from it, for x the extent rebuilt from `xy` and `xz`, for y the one from `yz`. -/
theorem dump_bounds_error_fixed (h : HiLo) (n : Nat) :
    let r := hiLoOfBBox ((bboxOf h).map (fmtVal (.fixed n))) (fmtVal (.fixed n) h.xy) (fmtVal (.fixed n) h.xz)
      (fmtVal (.fixed n) h.yz)
    |r.xlo - h.xlo| ≤ 3 * (1 / (2 * 10 ^ n)) ∧ |r.xhi - h.xhi| ≤ 3 * (1 / (2 * 10 ^ n)) ∧
    |r.ylo - h.ylo| ≤ 2 * (1 / (2 * 10 ^ n)) ∧ |r.yhi - h.yhi| ≤ 2 * (1 / (2 * 10 ^ n)) ∧
    |r.zlo - h.zlo| ≤ 1 / (2 * 10 ^ n) ∧ |r.zhi - h.zhi| ≤ 1 / (2 * 10 ^ n) := by
  obtain ⟨h1, h2, h3, h4, h5, h6, _⟩ := dump_bounds_error h (fmtVal (.fixed n)) (1 / (2 * 10 ^ n))
    (fun q => fixedVal_error q n)
  exact ⟨h1, h2, h3, h4, h5, h6⟩

/-- a reader that multiplies the three lattice rows and (in Cartesian mode) every coordinate
    row by the scale factor recovers the cell vectors and the positions grouped by type. -/
theorem poscar_scale (s : Sys) (sc : ℚ) (hsc : sc ≠ 0) (cart : Bool) :
    let p := poscarNums s cart sc
    V3.smul sc p.lattice.r0 = s.box.vects.r0 ∧ V3.smul sc p.lattice.r1 = s.box.vects.r1 ∧
    V3.smul sc p.lattice.r2 = s.box.vects.r2 ∧
    (cart = true → p.coords.map (V3.smul sc) = groupByType s.atype s.pos s.natypes) := by
  refine ⟨v3_smul_div _ _ hsc, v3_smul_div _ _ hsc, v3_smul_div _ _ hsc, ?_⟩
  intro hc
  subst hc
  simp only [poscarNums, if_true]
  rw [← groupByType_map, List.map_map]
  congr 1
  conv_rhs => rw [← List.map_id s.pos]
  apply List.map_congr_left
  intro v _
  exact v3_smul_div v sc hsc

example := poscar_scale exSys 2 (by norm_num) true

def bflag (p : Bool) : Tok := if p then cs!"p" else cs!"m"

theorem read_data_mem_infoDoc (pbc : V3 Bool) (style units : String) (fname : Option String) (t : Tok) :
    [cs!"read_data", t] ∈ infoDoc pbc style units fname ↔ ∃ m, fname = some m ∧ t = strTok m := by
  cases fname <;> simp [infoDoc]

/-- whenever `dumpData` succeeds, the snippet has a `units` line naming the unit style, an
    `atom_style` line naming the atom style — the same words the `Atoms # …` line of the content carries — and a
    `boundary` line with `p` exactly for the periodic directions; `read_data` names the file when one was given. -/
theorem info_names_used (s : Sys) (style unitsName : String) (u : Units) (f : Fmt) (fname : Option String)
    (content info : List Char) (h : dumpData s style unitsName u f fname = .ok (content, info)) :
    info = renderLines (infoDoc s.pbc style unitsName fname) ∧
    [cs!"units", strTok unitsName] ∈ infoDoc s.pbc style unitsName fname ∧
    (cs!"atom_style" :: (styleWords style).map strTok) ∈ infoDoc s.pbc style unitsName fname ∧
    [cs!"boundary", bflag s.pbc.x, bflag s.pbc.y, bflag s.pbc.z] ∈ infoDoc s.pbc style unitsName fname ∧
    (∀ n, fname = some n → [cs!"read_data", strTok n] ∈ infoDoc s.pbc style unitsName fname) ∧
    (∃ o, writeDataDoc s style u f = .ok o ∧ content = renderLines o.doc ∧
      ([cs!"Atoms", cs!"#"] ++ (styleWords style).map strTok) ∈ o.doc) := by
  obtain ⟨c, hc, hci⟩ := map_ok h
  obtain ⟨o, hw, rfl⟩ := map_ok hc
  obtain ⟨h1, h2⟩ := Prod.mk.inj hci
  refine ⟨h2.symm, ?_, ?_, ?_, ?_, o, hw, h1.symm, ?_⟩
  · simp only [infoDoc, List.mem_append, List.mem_cons, true_or, or_true]
  · simp only [infoDoc, List.mem_append, List.mem_cons, true_or, or_true]
  · simp only [infoDoc, bflag, List.mem_append, List.mem_cons, true_or, or_true]
  · exact fun n hn => (read_data_mem_infoDoc ..).mpr ⟨n, hn, rfl⟩
  · obtain ⟨pw, -, rfl⟩ := map_ok hw
    simp [dataDocOf]

/-- `System.dump('atom_data', units=, atom_style=, natypes=, potential=)` — an argument
    the caller gives is the one used, whatever the potential says; one left out comes from the potential when
    there is one, else it is `metal` / `atomic` / the system's number of types; the file and the snippet are the
    ones `dumpData` produces for the resolved names (so, with `info_names_used`, the snippet names them and the
    numbers are converted with the factors of the resolved unit style). -/
theorem requested_args_used (s : Sys) (ua sa : Option String) (na : Option Nat) (pot : Option PotArgs)
    (unitsOf : String → Units) (f : Fmt) (fname : Option String) :
    let r := resolveArgs ua sa na pot s.natypes
    (∀ u, ua = some u → r.1 = u) ∧ (∀ st, sa = some st → r.2.1 = st) ∧ (∀ n, na = some n → r.2.2 = n) ∧
    (∀ p, pot = some p → (ua = none → r.1 = p.units) ∧ (sa = none → r.2.1 = p.atomStyle) ∧
      (na = none → r.2.2 = p.natypes)) ∧
    (pot = none → (ua = none → r.1 = "metal") ∧ (sa = none → r.2.1 = "atomic") ∧ (na = none → r.2.2 = s.natypes)) ∧
    dumpDataWith s ua sa na pot unitsOf f fname
      = dumpData { s with natypes := r.2.2 } r.2.1 r.1 (unitsOf r.1) f fname := by
  intro r
  refine ⟨?_, ?_, ?_, ?_, ?_, rfl⟩
  · intro u hu; subst hu; cases pot <;> rfl
  · intro st hst; subst hst; cases pot <;> rfl
  · intro n hn; subst hn; cases pot <;> rfl
  · intro p hp; subst hp
    exact ⟨fun h => by subst h; rfl, fun h => by subst h; rfl, fun h => by subst h; rfl⟩
  · intro hp; subst hp
    exact ⟨fun h => by subst h; rfl, fun h => by subst h; rfl, fun h => by subst h; rfl⟩

/-- with explicit `units=` and `atom_style=` the snippet names them — also when a potential with other values
    is passed along. -/
theorem requested_units_in_snippet (s : Sys) (un st : String) (na : Option Nat) (pot : Option PotArgs)
    (unitsOf : String → Units) (f : Fmt) (fname : Option String) (content info : List Char)
    (h : dumpDataWith s (some un) (some st) na pot unitsOf f fname = .ok (content, info)) :
    ∃ n, info = renderLines (infoDoc s.pbc st un fname) ∧
      [cs!"units", strTok un] ∈ infoDoc s.pbc st un fname ∧
      (cs!"atom_style" :: (styleWords st).map strTok) ∈ infoDoc s.pbc st un fname ∧
      dumpData { s with natypes := n } st un (unitsOf un) f fname = .ok (content, info) := by
  have hr : resolveArgs (some un) (some st) na pot s.natypes
      = (un, st, (resolveArgs (some un) (some st) na pot s.natypes).2.2) := by
    cases pot <;> rfl
  unfold dumpDataWith at h
  rw [hr] at h
  simp only at h
  obtain ⟨h1, h2, h3, _⟩ := info_names_used _ st un (unitsOf un) f fname content info h
  exact ⟨_, h1, h2, h3, h⟩

example : resolveArgs (some "si") none none (some ⟨"metal", "charge", 2⟩) 3 = ("si", "charge", 2) := by decide

-- `info_names_used`, `requested_units_in_snippet`: the call they speak about succeeds for `exSys`.
example : isOk (dumpData exSys "atomic" "metal" exUnits (.fixed 3) (some "a.dat")) = true ∧
    isOk (dumpDataWith exSys (some "metal") (some "atomic") none (some ⟨"si", "charge", 5⟩) (fun _ => exUnits) (.fixed 3)
      none) = true := by
  constructor
  · rw [dumpData, isOk_map]; exact exSys_writeData_ok
  · unfold dumpDataWith dumpData writeData writeDataDoc dataParts atomCols velCols styleCols dataDocOf
    simp only [resolveArgs, Option.getD, styleWords_atomic]
    decide +kernel

/-- a two-atom system with a non-square, non-symmetric per-atom tensor `g` of shape (2, 3). -/
def exTensorSys : Sys :=
  { exSys with props := [{ name := "g", isInt := false, ncomp := 6,
                           vals := [[1, 2, 3, 4, 5, 6], [7, 8, 9, 10, 11, 12]] }] }

example : dumpStdCol "g" = none ∧ isPosLike "g" = false ∧ (exTensorSys.prop? "g").isSome = true ∧
    propCells exTensorSys exUnits [1, 2] exTensorSys.pos (dumpCol "g" [2, 3]) 1
      = .ok [.num 7, .num 8, .num 9, .num 10, .num 11, .num 12] ∧
    (indexNames "g" [2, 3])[1 * 3 + 2]? = some "g[1][2]" := by
  decide +kernel

/-- every standard column of the dump writer is a `dump custom` attribute with the manual's kind of unit. -/
theorem dump_columns_match_lammps :
    ∀ c ∈ genDumpColumns Gen.AtomStyles.dumpStandard, c ∈ lammpsDumpColumns := by
  decide +kernel

/-- the unit expressions of the unit styles, for the kinds per-atom columns use, are those of the `units` page;
    every table forwards the unit style it was asked for (hybrid composition included). -/
theorem unit_styles_match_lammps :
    (∀ e ∈ lammpsUnitKinds, ∀ kv ∈ e.2,
      ((Gen.AtomStyles.unitStyles.find? (·.1 = e.1)).bind fun g => (g.2.find? (·.1 = kv.1)).map (·.2)) = some kv.2) ∧
    Gen.AtomStyles.forwardsUnits = true := by
  decide +kernel

/-- in every regenerated `style.unit` table the units of angular
    momentum, angular velocity and volume — the kinds of the `angmom*` / `l*`, `omega*` / `w*`, `volume` columns —
    are composed of that style's own distance, velocity, mass and time entries as the quantities are defined
    (distance × velocity × mass, 1 / time, distance³); `lj` has none. -/
theorem derived_units_composed :
    ∀ e ∈ Gen.AtomStyles.unitStyles, derivedUnitsComposed e = true := by
  decide +kernel

/-- the composition matters: with the electron style's entries, distance × velocity × mass and
    mass × distance² / time are different strings (and different units: velocity ≠ distance / time there). -/
example : derivedUnitsComposed ("electron", [("mass", some "amu"), ("length", some "aBohr"), ("time", some "fs"),
      ("velocity", some "2*Ry*aBohr/hbar"), ("ang-mom", some "amu*aBohr^2/fs"), ("ang-vel", some "1/fs"),
      ("volume", some "aBohr^3")]) = false := by decide +kernel

/-- for every ordered pair of sub-styles, every single sub-style and a fixed set of longer
    hybrids, the list the real `atoms_prop_info('hybrid …')` / `velocities_prop_info('hybrid …')` returns
    (regenerated from the source on every run, duplicates and all) is exactly what the model's `hybridCols` composes
    from the base tables. -/
theorem hybrid_samples_agree :
    (∀ e ∈ Gen.AtomStyles.atomHybrids, hybridCols Gen.AtomStyles.atomStyles e.1 = some (e.2.map ofGenCol)) ∧
    (∀ e ∈ Gen.AtomStyles.velHybrids, hybridCols Gen.AtomStyles.velStyles e.1 = some (e.2.map ofGenCol)) ∧
    300 ≤ Gen.AtomStyles.atomHybrids.length ∧ 30 ≤ Gen.AtomStyles.velHybrids.length := by
  decide +kernel

example : hybridCols Gen.AtomStyles.atomStyles ["sphere", "peri", "charge", "dipole"] =
    some ((["a_id", "atype", "pos", "diameter", "density", "volume", "charge", "mu"].zip
      [["id"], ["type"], ["x", "y", "z"], ["diameter"], ["density"], ["volume"], ["q"], ["mux", "muy", "muz"]]).zip
      [.none, .none, .kind "length", .kind "length", .kind "density", .kind "volume", .kind "charge", .kind "dipole"]
      |>.map fun x => ⟨x.1.1, x.1.2, x.2⟩) := by
  decide +kernel

/-- the cells the writers put into a scaled position column (`spos` → `xs ys zs`, `supos` →
    `xsu ysu zsu`) of atom `k` are the relative coordinates of its position in the system's cell. -/
theorem dump_scaled_cells (s : Sys) (u : Units) (ids : List Int) (pos : List (V3 Rat)) (prop : String)
    (hp : prop = "spos" ∨ prop = "supos") (n1 n2 n3 : String) (us : UnitSpec) (k : Nat) (p : V3 Rat)
    (hk : pos[k]? = some p) :
    propCells s u ids pos ⟨prop, [n1, n2, n3], us⟩ k =
      .ok [.num (s.box.cartToRel p).x, .num (s.box.cartToRel p).y, .num (s.box.cartToRel p).z] := by
  rcases hp with rfl | rfl <;> simp [propCells, isPosLike, hk] <;> rfl

/-- those relative coordinates, unscaled with the cell an independent reader rebuilds from
    the written header (`boxOfHiLo` of the `xlo … yz` the inverse bounding-box map `dump_bbox` recovers, in the
    requested length unit), are the atom's position in the requested length unit — for every LAMMPS-normal cell,
    tilted or not, any origin. -/
theorem dump_scaled_unscale (b : Box ℚ) (hn : b.isLammpsNorm = true) (lf : Option ℚ) (hlf : ∀ c, lf = some c → c ≠ 0)
    (p : V3 ℚ) :
    (boxOfHiLo ((hiLoOf b).map (divBy lf))).relToCart (b.cartToRel p) = v3map (divBy lf) p := by
  rw [relToCart_header b hn lf, Box.relToCart_cartToRel b (det_ne_zero_of_norm b hn)]

example : (boxOfHiLo ((hiLoOf ⟨⟨⟨4, 0, 0⟩, ⟨2, 4, 0⟩, ⟨0, 1, 4⟩⟩, ⟨1, 0, -1⟩⟩).map (divBy (some 10)))).relToCart
    ((⟨⟨⟨4, 0, 0⟩, ⟨2, 4, 0⟩, ⟨0, 1, 4⟩⟩, ⟨1, 0, -1⟩⟩ : Box ℚ).cartToRel ⟨3, 2, 1⟩) = ⟨3 / 10, 2 / 10, 1 / 10⟩ := by
  decide +kernel

-- the theorem applied to the same cell (tilted, origin ≠ 0, length unit 10), and `dump_scaled_cells` on `exSys`.
example : (boxOfHiLo ((hiLoOf ⟨⟨⟨4, 0, 0⟩, ⟨2, 4, 0⟩, ⟨0, 1, 4⟩⟩, ⟨1, 0, -1⟩⟩).map (divBy (some 10)))).relToCart
    ((⟨⟨⟨4, 0, 0⟩, ⟨2, 4, 0⟩, ⟨0, 1, 4⟩⟩, ⟨1, 0, -1⟩⟩ : Box ℚ).cartToRel ⟨3, 2, 1⟩) = v3map (divBy (some 10)) ⟨3, 2, 1⟩ :=
  dump_scaled_unscale _ (by decide +kernel) (some 10) (fun c hc => by injection hc with hc; subst hc; norm_num) _
example : propCells exSys exUnits [1, 2] exSys.pos ⟨"spos", ["xs", "ys", "zs"], .scaled⟩ 1 =
    .ok [.num (exSys.box.cartToRel ⟨9/2, 1, 6⟩).x, .num (exSys.box.cartToRel ⟨9/2, 1, 6⟩).y,
         .num (exSys.box.cartToRel ⟨9/2, 1, 6⟩).z] :=
  dump_scaled_cells exSys exUnits [1, 2] exSys.pos "spos" (Or.inl rfl) "xs" "ys" "zs" .scaled 1 ⟨9/2, 1, 6⟩ rfl

open Atomman.Gen.WriterSource in
/-- the text is among the returned values exactly when no target is given, and is written to the
    target exactly when one is given (never both, never neither); the optional second value is returned exactly when
    asked for; only a file NAME can be named by the command snippet.  Holds for the tail of all four writers as the
    source has it (`genDataDeliver`, `genDumpDeliver`, `genTableDeliver`, `genPoscarDeliver`). -/
theorem deliver_spec (t : Target) (w : Bool) :
    ((deliver t w).returnsContent = true ↔ t = .none) ∧ ((deliver t w).writes = true ↔ t ≠ .none) ∧
    (deliver t w).returnsExtra = w ∧
    (deliver t w).count = (if t = .none then 1 else 0) + (if w then 1 else 0) ∧
    (∀ n, t.fname = some n ↔ t = .path n) ∧
    genDataDeliver t w = deliver t w ∧ genDumpDeliver t w = deliver t w ∧ genTableDeliver t w = deliver t w ∧
    genPoscarDeliver t w = deliver t false := by
  refine ⟨?_, ?_, rfl, ?_, ?_, by rw [gen_dataDeliver_eq_model], by rw [gen_dumpDeliver_eq_model],
    by rw [gen_tableDeliver_eq_model], gen_poscarDeliver_eq_model t w⟩
  · simp [deliver]
  · simp [deliver]
  · cases t <;> cases w <;> rfl
  · intro n; cases t <;> simp [Target.fname]

example : deliver (.path "a.dat") true = ⟨false, true, true⟩ ∧ deliver .none false = ⟨true, false, false⟩ := by decide

open Atomman.Gen.WriterSource in
/-- whenever a writer succeeds, its text is `renderLines` / `renderJoin` of the document
    REGENERATED FROM THE PYTHON SOURCE (`genDataDoc` ∘ `genDataBoxLines` ∘ `genAtomsSection`, `genDumpDoc`, `genPoscarDoc`)
    filled with the numbers the model computes; so `data_parse_write`, `data_wellformed`, `dump_parse_write`,
    `poscar_parse_write` are statements about the line layout the source has on this run. -/
theorem gen_files_are_model_files :
    (∀ (s : Sys) (style : String) (u : Units) (f : Fmt) (text : List Char), writeData s style u f = .ok text →
      ∃ p w lf, dataParts s style u = .ok (p, w) ∧ lengthFactor u = .ok lf ∧
        text = renderLines (genDataDoc s.natoms s.natypes (genDataBoxLines f lf (hiLoOf w.box))
          (genAtomsSection style (rowsDoc f p.rows)) (p.vel.map (rowsDoc f)))) ∧
    (∀ (s : Sys) (props : List (String × List Nat)) (u : Units) (f : Fmt) (ts : Int) (text : List Char),
      writeDump s props u f ts = .ok text →
      ∃ lf rows, lengthFactor u = .ok lf ∧
        tableRows s u (dumpIds s) s.pos (props.map fun p => dumpCol p.1 p.2) [] = .ok rows ∧
        text = renderLines (genDumpDoc f lf (hiLoOf s.box) s.pbc ts s.natoms
          (nameLine (props.map fun p => dumpCol p.1 p.2)) (rowsDoc f rows))) ∧
    (∀ (s : Sys) (header : List String) (symbols : Option (List String)) (coordstyle : String) (scale : ℚ) (f : Fmt)
      (text : List Char), writePoscar s header symbols coordstyle scale f = .ok text →
      ¬ genPoscarRefuses scale ∧
      text = renderJoin (genPoscarDoc f header scale s.box.vects symbols
        (poscarNums s (isCartTok (strTok coordstyle)) scale).counts coordstyle
        (poscarNums s (isCartTok (strTok coordstyle)) scale).coords)) := by
  refine ⟨?_, ?_, ?_⟩
  · intro s style u f text h
    obtain ⟨o, ho, rfl⟩ := map_ok h
    obtain ⟨⟨p, w⟩, hp, rfl⟩ := map_ok ho
    obtain ⟨_, _, lf, cols, hlf, _, hn, hnt, hh, _⟩ := dataParts_ok s style u p w hp
    exact ⟨p, w, lf, hp, hlf, by rw [← gen_dataDoc_eq_model, gen_dataBoxLines_eq_model, hh, hn, hnt]⟩
  · intro s props u f ts text h
    obtain ⟨d, hd, rfl⟩ := map_ok h
    obtain ⟨lf, rows, _, hlf, _, hr, rfl⟩ := writeDumpDoc_ok s props u f ts d hd
    exact ⟨lf, rows, hlf, hr, by rw [gen_dumpDoc_eq_model]⟩
  · intro s header symbols coordstyle scale f text h
    obtain ⟨d, hd, rfl⟩ := map_ok h
    obtain ⟨hsc, _, _, _, rfl⟩ := writePoscarDoc_ok s header symbols coordstyle scale f d hd
    exact ⟨fun hr => absurd ((gen_poscarRefuses_eq_model scale).mp hr) (not_le.mpr hsc),
      by rw [gen_poscarDoc_eq_model]⟩

/-- the refusals of `poscar.dump` the model carries: the writer refuses exactly when the
    factor is not positive, the system has no atom, the mode line is empty, or a symbols list has another length than
    the system has atom types. -/
theorem poscar_refusal_iff (s : Sys) (header : List String) (symbols : Option (List String)) (coordstyle : String)
    (scale : ℚ) (f : Fmt) :
    isOk (writePoscar s header symbols coordstyle scale f) = false ↔
      (scale ≤ 0 ∨ s.natoms = 0 ∨ coordstyle.toList = [] ∨ ∃ l, symbols = some l ∧ l.length ≠ s.natypes) := by
  unfold writePoscar
  rcases writePoscarDoc_cases s header symbols coordstyle scale f with ⟨hc, he⟩ | ⟨⟨h1, h2, h3, h4⟩, ho⟩
  · rw [he]; exact ⟨fun _ => hc, fun _ => rfl⟩
  · rw [ho]
    refine ⟨fun h => Bool.noConfusion (h : true = false), ?_⟩
    rintro (h | h | h | ⟨l, hl, h⟩)
    · exact absurd h1 (not_lt.mpr h)
    · exact absurd h h2
    · exact absurd h h3
    · exact absurd (h4 l hl) h

example : isOk (writePoscar exSys ["t"] none "Direct" (-2) (.exp 5)) = false ∧
    isOk (writePoscar exSys ["t"] (some ["Al"]) "Direct" 1 (.exp 5)) = false := by decide +kernel

theorem callResult_none (w : Bool) (text extra : List Char) :
    callResult (deliver .none w) text extra = ⟨text :: (if w then [extra] else []), none⟩ := by
  cases w <;> rfl

theorem callResult_target {t : Target} (ht : t ≠ .none) (w : Bool) (text extra : List Char) :
    callResult (deliver t w) text extra = ⟨if w then [extra] else [], some text⟩ := by
  cases t with
  | none => exact absurd rfl ht
  | path n => cases w <;> rfl
  | stream => cases w <;> rfl

/-- `System.dump('atom_data', f=, units=, atom_style=, natypes=, potential=, float_format=,
    return_info=)` as a whole, for every accepted call.  With `a` = the resolved (units, atom_style, natypes)
    (`requested_args_used`): the ONE text of the file is returned first when no target is given and is otherwise
    written to the target (and not returned); the snippet is the last returned value exactly when asked for; the number
    of returned values is 0, 1 or 2 accordingly; the text, read by the independent `read_data`, has the system's atom
    count, the resolved number of types, the resolved atom_style in its `Atoms #` line and one record per atom
    (`data_parse_write` gives the rest); the snippet names the resolved unit style and atom style and the boundary
    flags, and has a `read_data` line exactly when the target is a file name — naming that file. -/
theorem data_call_end_to_end (s : Sys) (ua sa : Option String) (na : Option Nat) (pot : Option PotArgs)
    (unitsOf : String → Units) (f : Fmt) (t : Target) (returnInfo : Bool) (r : CallResult)
    (h : dataCall s ua sa na pot unitsOf f t returnInfo = .ok r) (hs : IntTyped s) :
    ∃ content info pd,
      dumpData { s with natypes := (resolveArgs ua sa na pot s.natypes).2.2 } (resolveArgs ua sa na pot s.natypes).2.1
        (resolveArgs ua sa na pot s.natypes).1 (unitsOf (resolveArgs ua sa na pot s.natypes).1) f t.fname
        = .ok (content, info) ∧
      (t = .none → r.returned.head? = some content ∧ r.written = none) ∧
      (t ≠ .none → r.written = some content ∧ content ∉ r.returned.take (r.returned.length - returnInfo.toNat)) ∧
      r.returned.length = (deliver t returnInfo).count ∧
      (returnInfo = true → r.returned.getLast? = some info) ∧
      parseData content (resolveArgs ua sa na pot s.natypes).2.1 = some pd ∧
      pd.natoms = s.natoms ∧ pd.ntypes = (resolveArgs ua sa na pot s.natypes).2.2 ∧
      pd.styleHint = (styleWords (resolveArgs ua sa na pot s.natypes).2.1).map strTok ∧ pd.atoms.length = s.natoms ∧
      info = renderLines (Gen.WriterSource.genInfoDoc s.pbc (resolveArgs ua sa na pot s.natypes).2.1
        (resolveArgs ua sa na pot s.natypes).1 t.fname) ∧
      [cs!"units", strTok (resolveArgs ua sa na pot s.natypes).1] ∈
        infoDoc s.pbc (resolveArgs ua sa na pot s.natypes).2.1 (resolveArgs ua sa na pot s.natypes).1 t.fname ∧
      (cs!"atom_style" :: (styleWords (resolveArgs ua sa na pot s.natypes).2.1).map strTok) ∈
        infoDoc s.pbc (resolveArgs ua sa na pot s.natypes).2.1 (resolveArgs ua sa na pot s.natypes).1 t.fname ∧
      [cs!"boundary", bflag s.pbc.x, bflag s.pbc.y, bflag s.pbc.z] ∈
        infoDoc s.pbc (resolveArgs ua sa na pot s.natypes).2.1 (resolveArgs ua sa na pot s.natypes).1 t.fname ∧
      (∀ n, [cs!"read_data", strTok n] ∈
          infoDoc s.pbc (resolveArgs ua sa na pot s.natypes).2.1 (resolveArgs ua sa na pot s.natypes).1 t.fname
        ↔ t = .path n ∨ (∃ m, t = .path m ∧ strTok m = strTok n)) := by
  unfold dataCall at h
  rw [(requested_args_used s ua sa na pot unitsOf f t.fname).2.2.2.2.2] at h
  generalize resolveArgs ua sa na pot s.natypes = a at *
  obtain ⟨⟨content, info⟩, hd, rfl⟩ := map_ok h
  obtain ⟨hi, hu, hst, hb, hrd, o, ho, hc, _⟩ := info_names_used _ a.2.1 a.1 (unitsOf a.1) f t.fname content info hd
  have hw : writeData { s with natypes := a.2.2 } a.2.1 (unitsOf a.1) f = .ok content := by
    unfold writeData; rw [ho, hc]; rfl
  obtain ⟨p, w, lf, cols, L, pd, _, _, _, _, _, _, _, _, hpd, hna, hnt, _, hsh, hal, _⟩ :=
    data_parse_write { s with natypes := a.2.2 } a.2.1 (unitsOf a.1) f content hw hs
  refine ⟨content, info, pd, hd, ?_, ?_, ?_, ?_, hpd, hna, hnt, hsh, hal, ?_, hu, hst, hb, ?_⟩
  · intro ht; subst ht; rw [callResult_none]; exact ⟨rfl, rfl⟩
  · intro ht; rw [callResult_target ht]; cases returnInfo <;> simp
  · cases t <;> cases returnInfo <;> rfl
  · intro hr; subst hr; cases t <;> rfl
  · rw [gen_infoDoc_eq_model]; exact hi
  · intro n
    rw [read_data_mem_infoDoc]
    cases t with
    | path m => simpa [Target.fname, eq_comm] using fun h : n = m => congrArg strTok h
    | _ => simp [Target.fname]

example : isOk (dataCall exSys none none none none (fun _ => exUnits) (.fixed 3) (.path "a.dat") true) = true ∧
    IntTyped exSys := by
  refine ⟨?_, exSys_intTyped⟩
  rw [dataCall, isOk_map, dumpDataWith, dumpData, isOk_map]
  exact exSys_writeData_ok

/-- `System.dump('atom_dump', f=, lammps_units=, prop_name=, float_format=,
    return_prop_info=)` as a whole, for every accepted call: the one text is returned first when no target is given,
    else written to the target and not returned; as read by the independent `dump custom` reader it names the step the
    system holds (whatever numeric type carries it; 0 when it has none), the system's atom count = the number of rows,
    and the requested columns in order (`dump_parse_write` gives the rest: flags, bounding box, cells). -/
theorem dump_call_end_to_end (s : Sys) (props : List (String × List Nat)) (u : Units) (f : Fmt) (sv : StepVal)
    (t : Target) (w : Bool) (r : CallResult) (h : dumpCall s props u f sv t w = .ok r)
    (hn : NamesOk (props.map fun p => dumpCol p.1 p.2)) (hid : IdNamesOk (props.map fun p => dumpCol p.1 p.2)) :
    ∃ text pd, writeDumpStep s props u f sv = .ok text ∧
      (t = .none → r.returned.head? = some text ∧ r.written = none) ∧
      (t ≠ .none → r.written = some text ∧ r.returned = if w then [[]] else []) ∧
      r.returned.length = (deliver t w).count ∧
      parseDump text = some pd ∧ pd.timestep = sv.step ∧ pd.natoms = s.natoms ∧ pd.rows.length = s.natoms ∧
      pd.columns = nameLine (props.map fun p => dumpCol p.1 p.2) ∧
      pd.boundary = [bflagD s.pbc.x, bflagD s.pbc.y, bflagD s.pbc.z] := by
  obtain ⟨text, hd, rfl⟩ := map_ok h
  obtain ⟨lf, rows, _, _, _, _, hlen, hp⟩ := dump_parse_write s props u f sv.step text hd hn hid
  refine ⟨text, _, hd, ?_, ?_, ?_, hp, rfl, rfl, by simp [hlen], rfl, rfl⟩
  · intro ht; subst ht; rw [callResult_none]; exact ⟨rfl, rfl⟩
  · intro ht; rw [callResult_target ht]; exact ⟨rfl, rfl⟩
  · cases t <;> cases w <;> rfl

/-- `System.dump('table', f=, prop_name=, unit=, header=, float_format=,
    return_prop_info=)` as a whole: the one text is returned or written (never both); a reader that splits at blanks
    gets one row per atom, the header line exactly when asked for, every row as long as the header. -/
theorem table_call_end_to_end (s : Sys) (cols : List ColSpec) (u : Units) (f : Fmt) (header : Bool)
    (t : Target) (w : Bool) (r : CallResult) (h : tableCall s cols u f header t w = .ok r)
    (hn : NamesOk cols) (hid : IdNamesOk cols) :
    ∃ text pt, writeTable s cols u f header = .ok text ∧
      (t = .none → r.returned.head? = some text ∧ r.written = none) ∧
      (t ≠ .none → r.written = some text ∧ r.returned = if w then [[]] else []) ∧
      r.returned.length = (deliver t w).count ∧
      parseTable text header = some pt ∧ pt.rows.length = s.natoms ∧
      pt.columns = (if header then some (nameLine cols) else none) ∧
      (∀ row ∈ pt.rows, row.length = (nameLine cols).length) := by
  obtain ⟨text, hd, rfl⟩ := map_ok h
  obtain ⟨rows, _, hlen, hrow, hp⟩ := table_parse_write s cols u f header text hd hn hid
  refine ⟨text, _, hd, ?_, ?_, ?_, hp, by simp [hlen], rfl, ?_⟩
  · intro ht; subst ht; rw [callResult_none]; exact ⟨rfl, rfl⟩
  · intro ht; rw [callResult_target ht]; exact ⟨rfl, rfl⟩
  · cases t <;> cases w <;> rfl
  intro row hrow'
  obtain ⟨r0, hr0, rfl⟩ := List.mem_map.mp hrow'
  rw [List.length_map, hrow r0 hr0]

/-- `System.dump('poscar', f=, header=, symbols=, coordstyle=, box_scale=, float_format=)`
    as a whole: the text is returned exactly when no target is given (nothing else ever is), else written; the
    independent POSCAR reader gets the file `poscar_parse_write` describes (factor, lattice × factor, symbols, one
    count per type, mode, rows by type). -/
theorem poscar_call_end_to_end (s : Sys) (header : List String) (symbols : Option (List String)) (coordstyle : String)
    (scale : ℚ) (f : Fmt) (t : Target) (r : CallResult) (h : poscarCall s header symbols coordstyle scale f t = .ok r)
    (hs : PoscarStringsOk header symbols coordstyle) (hscale : 0 < fmtVal f scale)
    (hlen : s.atype.length = s.pos.length) (hty : ∀ t ∈ s.atype, 1 ≤ t ∧ t ≤ (s.natypes : Int)) :
    ∃ text, writePoscar s header symbols coordstyle scale f = .ok text ∧
      (t = .none → r.returned = [text] ∧ r.written = none) ∧
      (t ≠ .none → r.written = some text ∧ r.returned = []) ∧
      parsePoscar text = some (poscarExpected f header symbols coordstyle scale
        (poscarNums s (isCartTok (strTok coordstyle)) scale)) := by
  obtain ⟨text, hd, rfl⟩ := map_ok h
  obtain ⟨_, _, _, _, _, hp⟩ := poscar_parse_write s header symbols coordstyle scale f text hd hs hscale hlen hty
  refine ⟨text, hd, ?_, ?_, hp⟩
  · intro ht; subst ht; rw [callResult_none]; exact ⟨rfl, rfl⟩
  · intro ht; rw [callResult_target ht]; exact ⟨rfl, rfl⟩

example : isOk (dumpCall ({ exSys with pos := [⟨0, 0, 0⟩, ⟨1, 1, 1⟩] }) exProps exUnits (.exp 5) (.real 25000) .stream true) = true ∧
    isOk (tableCall exSys exCols exUnits (.fixed 3) true (.path "t.txt") false) = true ∧
    isOk (poscarCall exSys ["test"] (some ["Al", "Cu"]) "Cartesian" 2 (.exp 5) .none) = true := by
  decide +kernel

/-- a dump file written without `prop_name` has the id column first, exactly once, and
    after it every per-atom property of the system exactly once in the system's order (none lost, none added) —
    whether or not the system carries its own `atom_id`, wherever it stands. -/
theorem default_dump_columns (atomsProps : List String) (hnd : atomsProps.Nodup) :
    (defaultDumpNames atomsProps).head? = some "atom_id" ∧ (defaultDumpNames atomsProps).Nodup ∧
    (∀ n, n ∈ defaultDumpNames atomsProps ↔ n = "atom_id" ∨ n ∈ atomsProps) ∧
    (defaultDumpNames atomsProps).tail = atomsProps.filter (· ≠ "atom_id") ∧
    (defaultDumpProps [("atype", []), ("pos", [3])]).map (·.1) = ["atom_id", "atype", "pos"] := by
  refine ⟨rfl, ?_, ?_, ?_, by decide⟩
  · unfold defaultDumpNames
    rw [List.nodup_cons]
    exact ⟨fun hm => (List.Nodup.mem_erase_iff hnd).mp hm |>.1 rfl, hnd.erase _⟩
  · intro n
    unfold defaultDumpNames
    by_cases hn : n = "atom_id"
    · simp only [hn, List.mem_cons, true_or]
    · simp only [List.mem_cons, List.mem_erase_of_ne hn]
  · unfold defaultDumpNames
    simp only [List.tail_cons]
    rw [hnd.erase_eq_filter]
    congr 1
    funext x
    by_cases hx : x = "atom_id" <;> simp [hx]

example : defaultDumpProps [("atype", []), ("pos", [3]), ("atom_id", []), ("stress", [3, 3])] =
    [("atom_id", []), ("atype", []), ("pos", [3]), ("stress", [3, 3])] := by decide
example := default_dump_columns ["atype", "pos", "atom_id", "stress"] (by decide)

/-- `atom_dump.dump` (model) refuses exactly when the cell is not LAMMPS-normal, the unit style
    has no length entry, two atoms carry the same id, or a requested column cannot be built (`tableRows` fails:
    unknown property, wrong number of names, unknown unit kind); otherwise a file is written. -/
theorem dump_refusal_iff (s : Sys) (props : List (String × List Nat)) (u : Units) (f : Fmt) (ts : Int) :
    isOk (writeDump s props u f ts) = false ↔
      (s.box.isLammpsNorm = false ∨ isOk (lengthFactor u) = false ∨ hasDup (dumpIds s) = true ∨
       isOk (tableRows s u (dumpIds s) s.pos (props.map fun p => dumpCol p.1 p.2) []) = false) := by
  rw [writeDump, writeDumpDoc_eq]
  cases s.box.isLammpsNorm <;> cases lengthFactor u <;> cases hasDup (dumpIds s) <;>
    cases tableRows s u (dumpIds s) s.pos (props.map fun p => dumpCol p.1 p.2) [] <;>
    simp [isOk, exceptSimp]

example : isOk (writeDump ({ exSys with props := [⟨"atom_id", true, 1, [[5], [5]]⟩] }) exProps exUnits (.fixed 3) 0) = false := by
  decide +kernel

/-- the `Atoms` columns of atom_style `atomic`, computed from the regenerated tables. -/
theorem atomCols_atomic : atomCols "atomic" = some exCols := by
  unfold atomCols styleCols
  simp only [styleWords_atomic]
  decide +kernel

-- `layoutOf_styleCols`, `tilt_line_iff`, `atom_columns_no_property_twice` at atom_style `atomic`.
example : ∃ L, layoutOf lammpsAtomLayout "atomic" = some L ∧ colsLayout exCols = some L :=
  layoutOf_styleCols atom_tables_agree "atomic" exCols atomCols_atomic
example : (exCols.map (·.prop)).Nodup := atom_columns_no_property_twice "atomic" exCols atomCols_atomic
example (f : Fmt) (p : DataParts) :
    (∃ l ∈ dataDocOf f "atomic" p, l.getLast? = some (cs!"yz")) ↔ tilted p.hilo :=
  tilt_line_iff f "atomic" exCols atomCols_atomic p

-- `data_atoms_inside`: the wrapped cell of `exSys` (one atom outside before wrapping) is LAMMPS-normal.
example : ∀ p ∈ (wrap exSys.box exSys.pbc exSys.pos).pos,
    C05.insideRel ((boxOfHiLo ((hiLoOf (wrap exSys.box exSys.pbc exSys.pos).box).map (divBy (some 2)))).cartToRel
      (v3map (divBy (some 2)) p)) :=
  data_atoms_inside exSys (some 2) (fun c hc => by injection hc with hc; subst hc; norm_num) (by decide +kernel)

-- `lexDoc_renderLines`: a document with an empty line, words, signed numbers (`#` starts a comment for the reader and is excluded by `okTok`).
example : lexDoc (renderLines [[cs!"2", cs!"atom", cs!"types"], [], [cs!"1", cs!"2", cs!"-0.500", cs!"1.25e-01"]]) =
    [[cs!"2", cs!"atom", cs!"types"], [], [cs!"1", cs!"2", cs!"-0.500", cs!"1.25e-01"]] :=
  lexDoc_renderLines _ (by decide)

-- `expOf_spec` (Proofs/C07_Exp.lean), `index_names_rank2` (Proofs/C07_Index.lean): the side conditions on non-trivial values.
example := expOf_spec (1 / 8) (by norm_num)
example := index_names_rank2 "g" 2 3 1 2 (by norm_num) (by norm_num)

-- `atom_row`: the `Atoms` line of the second atom of `exSys` with image flags (1, 0, -1), every hypothesis discharged.
theorem exCols_core : CoreCols exCols :=
  ⟨⟨_, ⟨[], _, rfl, by simp⟩, rfl⟩, ⟨⟨"atype", ["type"], .none⟩, ⟨[⟨"a_id", ["id"], .none⟩], _, rfl, by decide⟩, rfl⟩,
   ⟨⟨"pos", ["x", "y", "z"], .kind "length"⟩, ⟨[⟨"a_id", ["id"], .none⟩, ⟨"atype", ["type"], .none⟩], _, rfl, by decide⟩, rfl, rfl⟩⟩

example : ∃ L i t p lf, colsLayout exCols = some L ∧ ([1, 2] : List Int)[1]? = some i ∧ exSys.atype[1]? = some t ∧
    exSys.pos[1]? = some p ∧ exUnits.factor? "length" = some lf ∧
    readAtomLine L (([[Cell.int 2], [Cell.int 2], [Cell.num (9/2), Cell.num 1, Cell.num 6]].flatten ++
        flagToks (some ⟨1, 0, -1⟩)).map (Cell.tok (.fixed 3))) =
      some { id := i, type := t, pos := v3map (fmtVal (.fixed 3)) (v3map (divBy lf) p), image := ⟨1, 0, -1⟩,
             fields := [Cell.int 2, Cell.int 2, Cell.num (9/2), Cell.num 1, Cell.num 6].map (Cell.val (.fixed 3)) } := by
  obtain ⟨L, _, hL⟩ := layoutOf_styleCols atom_tables_agree "atomic" exCols atomCols_atomic
  obtain ⟨i, t, p, lf, h1, h2, h3, h4, h5⟩ := atom_row exSys exUnits [1, 2] exSys.pos 1 (.fixed 3)
    exSys_intTyped exCols L hL (by decide) exCols_core
    [[Cell.int 2], [Cell.int 2], [Cell.num (9/2), Cell.num 1, Cell.num 6]]
    (.cons (by decide +kernel) (.cons (by decide +kernel) (.cons (by decide +kernel) .nil))) (some ⟨1, 0, -1⟩)
  exact ⟨L, i, t, p, lf, hL, h1, h2, h3, h4, h5⟩

/-- `exSys` with per-atom velocities. -/
def exVelSys : Sys := { exSys with props := [⟨"velocity", false, 3, [[1, 2, 3], [-4, 5/2, 0]]⟩] }
def exVelCols : List ColSpec := [⟨"a_id", ["id"], .none⟩, ⟨"velocity", ["vx", "vy", "vz"], .kind "velocity"⟩]
theorem velCols_atomic : velCols "atomic" = some exVelCols := by
  unfold velCols styleCols
  simp only [styleWords_atomic]
  decide +kernel

example : (exVelCols.map (·.prop)).Nodup := vel_columns_no_property_twice "atomic" exVelCols velCols_atomic

-- `vel_row`: second atom of `exVelSys`, velocity unit 1/2 (so the cells are the stored values times two).
example : ∃ VL i, colsLayout exVelCols = some VL ∧ ([1, 2] : List Int)[1]? = some i ∧
    readVelLine VL ([[Cell.int 2], [Cell.num (-8), Cell.num 5, Cell.num 0]].flatten.map (Cell.tok (.fixed 3))) =
      some { id := i, fields := [Cell.int 2, Cell.num (-8), Cell.num 5, Cell.num 0].map (Cell.val (.fixed 3)) } := by
  obtain ⟨VL, _, hL⟩ := layoutOf_styleCols vel_tables_agree "atomic" exVelCols velCols_atomic
  obtain ⟨i, h1, h2⟩ := vel_row exVelSys [("length", some 1), ("velocity", some (1/2))] [1, 2] exVelSys.pos 1 (.fixed 3)
    (by intro col hcol; simp [exVelSys] at hcol; subst hcol; decide) exVelCols VL hL (by decide) ⟨_, _, rfl, rfl⟩
    [[Cell.int 2], [Cell.num (-8), Cell.num 5, Cell.num 0]]
    (.cons (by decide +kernel) (.cons (by decide +kernel) .nil))
  exact ⟨VL, i, hL, h1, h2⟩

-- `readDataFile_dataDoc`: a two-atom document with a `Velocities` section, all four hypotheses.
example : readDataFile (renderLines (dataDocOf (.fixed 3) "atomic"
      ⟨2, 2, ⟨-1, 3, 0, 3, 0, 5, 1, 0, 0⟩, [[.int 1, .int 1, .num 0, .num 0, .num 0], [.int 2, .int 2, .num (1/2), .num 1, .num 6]],
        some [[.int 1, .num 1, .num 2, .num 3], [.int 2, .num (-4), .num (5/2), .num 0]]⟩)) =
    some { natoms := 2, ntypes := 2, hilo := (⟨-1, 3, 0, 3, 0, 5, 1, 0, 0⟩ : HiLo).map (fmtVal (.fixed 3)),
           styleHint := (styleWords "atomic").map strTok,
           atoms := rowsDoc (.fixed 3) [[.int 1, .int 1, .num 0, .num 0, .num 0], [.int 2, .int 2, .num (1/2), .num 1, .num 6]],
           velocities := some (rowsDoc (.fixed 3) [[.int 1, .num 1, .num 2, .num 3], [.int 2, .num (-4), .num (5/2), .num 0]]) } :=
  readDataFile_dataDoc (.fixed 3) "atomic" _ (by intro w hw; rw [styleWords_atomic] at hw; simp at hw; subst hw; decide)
    rfl (by decide) (by intro vr h; cases h; exact ⟨rfl, by decide⟩)

end Atomman.C07
