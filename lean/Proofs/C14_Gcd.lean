/-
  C14, exact integer divisions: on a divisor the truncating quotient (`dtype=int`) is the flooring one
  (`ediv_eq_tdiv`, `neg_ediv_eq_tdiv`); the gcd reduction of an integer vector is exact and leaves a primitive vector
  (`reduceGcd_smul`, `reduceGcd_coprime`).  Rests on the model file only.
-/
import Atomman.C14
import Mathlib.Algebra.Order.Ring.Abs

namespace Atomman.C14
open Atomman

theorem neg_ediv_eq_tdiv (m h : ℤ) (hd : h ∣ m) : -(m / h) = Int.tdiv (-m) h := by
  rw [Int.neg_tdiv, Int.tdiv_eq_ediv_of_dvd hd]

theorem ediv_eq_tdiv (m h : ℤ) (hd : h ∣ m) : m / h = Int.tdiv m h := by
  rw [Int.tdiv_eq_ediv_of_dvd hd]

theorem gcd3_pos (v : IV) (hv : v ≠ ⟨0, 0, 0⟩) : 0 < gcd3 v := by
  obtain ⟨x, y, z⟩ := v
  simp only [gcd3]
  have : Int.gcd ((Int.gcd x y : ℕ) : ℤ) z ≠ 0 := by
    intro h
    rw [Int.gcd_eq_zero_iff] at h
    obtain ⟨h1, rfl⟩ := h
    have h1' : Int.gcd x y = 0 := by exact_mod_cast h1
    rw [Int.gcd_eq_zero_iff] at h1'
    obtain ⟨rfl, rfl⟩ := h1'
    exact hv rfl
  omega

theorem gcd3_dvd (v : IV) : gcd3 v ∣ v.x ∧ gcd3 v ∣ v.y ∧ gcd3 v ∣ v.z := by
  obtain ⟨x, y, z⟩ := v
  simp only [gcd3]
  have h1 : ((Int.gcd ((Int.gcd x y : ℕ) : ℤ) z : ℕ) : ℤ) ∣ ((Int.gcd x y : ℕ) : ℤ) := Int.gcd_dvd_left _ _
  exact ⟨dvd_trans h1 (Int.gcd_dvd_left _ _), dvd_trans h1 (Int.gcd_dvd_right _ _), Int.gcd_dvd_right _ _⟩

/-- the division by the gcd is exact: `gcd · (v / gcd) = v`. -/
theorem reduceGcd_smul (v : IV) : V3.smul (gcd3 v) (reduceGcd v) = v := by
  obtain ⟨d1, d2, d3⟩ := gcd3_dvd v
  simp only [reduceGcd, V3.smul]
  ext
  · exact Int.mul_ediv_cancel' d1
  · exact Int.mul_ediv_cancel' d2
  · exact Int.mul_ediv_cancel' d3

theorem gcd3_smul (g : ℤ) (hg : 0 ≤ g) (c : IV) : gcd3 (V3.smul g c) = g * gcd3 c := by
  obtain ⟨x, y, z⟩ := c
  simp only [gcd3, V3.smul]
  rw [Int.gcd_mul_left]
  push_cast
  rw [abs_of_nonneg hg, Int.gcd_mul_left]
  push_cast
  rw [abs_of_nonneg hg]

theorem reduceGcd_coprime (v : IV) (hv : v ≠ ⟨0, 0, 0⟩) : gcd3 (reduceGcd v) = 1 := by
  have hg := gcd3_pos v hv
  have h := gcd3_smul (gcd3 v) hg.le (reduceGcd v)
  rw [reduceGcd_smul] at h
  have : gcd3 v * 1 = gcd3 v * gcd3 (reduceGcd v) := by rw [mul_one]; exact h
  exact (Int.eq_of_mul_eq_mul_left hg.ne' this).symm

end Atomman.C14
