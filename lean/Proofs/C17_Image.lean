/-
  C17 — the periodic images behind `Cell.dv`: the candidates of the loops of `dvect_c`, and what follows where one of them
  is the strict minimum (`UniqueImage`): stability under small relative displacements (`image_stable`, the hypothesis under
  which the recovery clauses are exact), `displacement` = the imposed displacement, homogeneous deformations and isometries
  of positions and box, independence of the order in which the box vectors are listed.
-/
import Proofs.C17_Lemmas
import Mathlib.Tactic.Linarith
import Mathlib.Algebra.Order.Ring.Abs

namespace Atomman.C17
open Atomman
set_option linter.unusedSectionVars false


abbrev Shift := Int × Int × Int

/-- the candidates the loops of `dvect_c` visit: the direct separation first, then the image shifts. -/
def cands (px py pz : Bool) : List Shift := (0, 0, 0) :: imageShifts px py pz

theorem mem_cands {px py pz : Bool} {t : Shift} :
    t ∈ cands px py pz ↔ t.1 ∈ pbcRange px ∧ t.2.1 ∈ pbcRange py ∧ t.2.2 ∈ pbcRange pz := mem_allShifts

variable {K : Type} [Field K] [LinearOrder K] [IsStrictOrderedRing K]

/-- the separation of `a`, `b` under cell `c` is decided: one candidate image is the strict minimum. -/
def UniqueImage (c : Cell K) (a b : V3 K) : Prop :=
  ∃ s ∈ cands c.px c.py c.pz, ∀ t ∈ cands c.px c.py c.pz,
    shiftBy c.vects (b - a) t = shiftBy c.vects (b - a) s ∨
      V3.normSq (shiftBy c.vects (b - a) s) < V3.normSq (shiftBy c.vects (b - a) t)

theorem dv_translate (c : Cell K) (a b t : V3 K) : c.dv (a + t) (b + t) = c.dv a b := by
  simp only [Cell.dv, dvect_add_right]

theorem shiftBy_deformed (F V : M3 K) (p0 p1 : V3 K) (t : Shift) :
    shiftBy (M3.mul V F.transpose) (M3.mulVec F p1 - M3.mulVec F p0) t = M3.mulVec F (shiftBy V (p1 - p0) t) := by
  simp only [shiftBy_eq, M3.mulVec_eq_vecMul, M3.vecMul_add, M3.vecMul_sub, M3.vecMul_vecMul]

/-- Let candidate `s` of the loops of `dvect_c` be the strict minimum for the pair `(p₀, p₁)` with
    a gap that dominates the imposed relative displacement `w = u₁ - u₀`:
    `2 |w · (c_t - c_s)| < |c_t|² - |c_s|²` for every other candidate `t`.  Then the periodic separation of the
    displaced pair is the old one plus `w` — no image flips. -/
theorem image_stable (V : M3 K) (px py pz : Bool) (p0 p1 u0 u1 : V3 K) (s : Shift)
    (hs : s ∈ cands px py pz)
    (hgap : ∀ t ∈ cands px py pz, t = s ∨
      2 * |V3.dot (u1 - u0) (shiftBy V (p1 - p0) t - shiftBy V (p1 - p0) s)|
        < V3.normSq (shiftBy V (p1 - p0) t) - V3.normSq (shiftBy V (p1 - p0) s)) :
    dvect V px py pz (p0 + u0) (p1 + u1) = dvect V px py pz p0 p1 + (u1 - u0) := by
  have e := V3.add_sub_add_comm p1 u1 p0 u0
  have h0 : dvect V px py pz p0 p1 = shiftBy V (p1 - p0) s := by
    apply dvect_eq_of_strict_min V px py pz p0 p1 s hs
    intro t ht
    rcases hgap t ht with h | h
    · left; rw [h]
    · right
      have := abs_nonneg (V3.dot (u1 - u0) (shiftBy V (p1 - p0) t - shiftBy V (p1 - p0) s))
      linarith
  have h1 : dvect V px py pz (p0 + u0) (p1 + u1) = shiftBy V ((p1 + u1) - (p0 + u0)) s := by
    apply dvect_eq_of_strict_min V px py pz _ _ s hs
    intro t ht
    rcases hgap t ht with h | h
    · left; rw [h]
    · right
      -- `|c_t + w|² - |c_s + w|² = (|c_t|² - |c_s|²) + 2 w·(c_t - c_s)`: the gap absorbs the cross term
      rw [e, shiftBy_add, shiftBy_add, V3.normSq_add, V3.normSq_add]
      rw [V3.dot_sub] at h
      have := neg_abs_le (V3.dot (u1 - u0) (shiftBy V (p1 - p0) t) - V3.dot (u1 - u0) (shiftBy V (p1 - p0) s))
      linarith
  rw [h1, h0, e, shiftBy_add]

/-- the same with a margin `δ` and a bound on the size of the relative displacement (Cauchy–Schwarz):
    every other candidate is longer by `δ` in squared length and `4 |w|² |c_t - c_s|² < δ²`. -/
theorem image_stable_margin (V : M3 K) (px py pz : Bool) (p0 p1 u0 u1 : V3 K) (s : Shift) (δ : K)
    (hs : s ∈ cands px py pz) (hδ : 0 < δ)
    (hgap : ∀ t ∈ cands px py pz, t = s ∨
      (δ ≤ V3.normSq (shiftBy V (p1 - p0) t) - V3.normSq (shiftBy V (p1 - p0) s) ∧
       4 * V3.normSq (u1 - u0) * V3.normSq (shiftBy V (p1 - p0) t - shiftBy V (p1 - p0) s) < δ ^ 2)) :
    dvect V px py pz (p0 + u0) (p1 + u1) = dvect V px py pz p0 p1 + (u1 - u0) := by
  apply image_stable V px py pz p0 p1 u0 u1 s hs
  intro t ht
  rcases hgap t ht with h | ⟨h1, h2⟩
  · exact Or.inl h
  · right
    have cs := V3.cauchy_schwarz (u1 - u0) (shiftBy V (p1 - p0) t - shiftBy V (p1 - p0) s)
    set x := V3.dot (u1 - u0) (shiftBy V (p1 - p0) t - shiftBy V (p1 - p0) s)
    have hx : (2 * |x|) ^ 2 < δ ^ 2 := by
      have : (2 * |x|) ^ 2 = 4 * (x * x) := by rw [mul_pow, sq_abs]; ring
      rw [this]; linarith
    have hpos : 0 ≤ 2 * |x| := by positivity
    have : 2 * |x| < δ := lt_of_pow_lt_pow_left₀ 2 hδ.le hx
    linarith

/-- **the per-atom displacement is the imposed displacement taken through the periodic boundaries**: if the
    final position is the initial one plus `u` plus any lattice translation the loops can undo (`shiftBy … s = u`)
    and `u` is strictly shorter than its other candidate images, `displacement` returns `u`. -/
theorem displacement_is_imposed (c : Cell K) (pos0 pos1 : Nat → V3 K) (i : Nat) (u : V3 K) (s : Shift)
    (hs : s ∈ cands c.px c.py c.pz)
    (hu : shiftBy c.vects (pos1 i - pos0 i) s = u)
    (hmin : ∀ t ∈ cands c.px c.py c.pz, shiftBy c.vects (pos1 i - pos0 i) t = u ∨
      V3.normSq u < V3.normSq (shiftBy c.vects (pos1 i - pos0 i) t)) :
    displacement c pos0 pos1 i = u := by
  unfold displacement Cell.dv
  rw [dvect_eq_of_strict_min c.vects c.px c.py c.pz _ _ s hs, hu]
  intro t ht
  rw [hu]
  exact hmin t ht

/-- Whatever the size of the displacement: `displacement` returns the difference of the
    two positions moved by whole box vectors along periodic directions (one of the candidates of the loops), and no
    candidate is shorter — "the imposed displacement taken through the periodic boundaries".  (Rounding the
    box-relative coordinates instead selects a longer candidate in tilted cells.) -/
theorem displacement_minimal (c : Cell K) (pos0 pos1 : Nat → V3 K) (i : Nat) :
    (∃ s ∈ cands c.px c.py c.pz, displacement c pos0 pos1 i = shiftBy c.vects (pos1 i - pos0 i) s) ∧
    ∀ t ∈ cands c.px c.py c.pz,
      V3.normSq (displacement c pos0 pos1 i) ≤ V3.normSq (shiftBy c.vects (pos1 i - pos0 i) t) := by
  refine ⟨dvect_mem c.vects c.px c.py c.pz (pos0 i) (pos1 i), fun t ht => ?_⟩
  obtain ⟨hx, hy, hz⟩ := mem_cands.mp ht
  exact dvect_le_image c.vects c.px c.py c.pz (pos0 i) (pos1 i) t.1 t.2.1 t.2.2 hx hy hz

def exV : M3 ℚ := ⟨⟨4, 0, 0⟩, ⟨0, 4, 0⟩, ⟨0, 0, 4⟩⟩

def exCell : Cell ℚ := ⟨exV, true, true, true⟩

/-- hypotheses of `image_stable` (and of `dd_is_difference`, Proofs/C17_Slip.lean) (a pair through the periodic boundary, `s = (-1,0,0)`) and the
    conclusion evaluated. -/
example :
    let p0 : V3 ℚ := ⟨0, 0, 0⟩; let p1 : V3 ℚ := ⟨7/2, 0, 0⟩
    let u0 : V3 ℚ := ⟨0, 1/8, 0⟩; let u1 : V3 ℚ := ⟨1/4, 0, -1/8⟩
    let s : Shift := (-1, 0, 0)
    s ∈ cands true true true ∧
    (∀ t ∈ cands true true true, t = s ∨
      2 * |V3.dot (u1 - u0) (shiftBy exV (p1 - p0) t - shiftBy exV (p1 - p0) s)|
        < V3.normSq (shiftBy exV (p1 - p0) t) - V3.normSq (shiftBy exV (p1 - p0) s)) ∧
    dvect exV true true true p0 p1 = ⟨-1/2, 0, 0⟩ ∧
    dvect exV true true true (p0 + u0) (p1 + u1) = ⟨-1/4, -1/8, -1/8⟩ := by
  decide +kernel

/-- hypotheses of `image_stable_margin` with `δ = 8`. -/
example :
    let p0 : V3 ℚ := ⟨0, 0, 0⟩; let p1 : V3 ℚ := ⟨7/2, 0, 0⟩
    let u0 : V3 ℚ := ⟨0, 1/8, 0⟩; let u1 : V3 ℚ := ⟨1/4, 0, -1/8⟩
    let s : Shift := (-1, 0, 0)
    ∀ t ∈ cands true true true, t = s ∨
      ((8 : ℚ) ≤ V3.normSq (shiftBy exV (p1 - p0) t) - V3.normSq (shiftBy exV (p1 - p0) s) ∧
       4 * V3.normSq (u1 - u0) * V3.normSq (shiftBy exV (p1 - p0) t - shiftBy exV (p1 - p0) s) < (8 : ℚ) ^ 2) := by
  decide +kernel

/-- hypotheses of `displacement_is_imposed`: the atom is moved by `u` and then by a box vector. -/
example :
    let pos0 : Nat → V3 ℚ := fun _ => ⟨1/2, 1, 1⟩
    let pos1 : Nat → V3 ℚ := fun _ => ⟨1/2 - 1 + 4, 1 + 1/4, 1⟩
    let u : V3 ℚ := ⟨-1, 1/4, 0⟩
    let s : Shift := (-1, 0, 0)
    s ∈ cands exCell.px exCell.py exCell.pz ∧ shiftBy exCell.vects (pos1 0 - pos0 0) s = u ∧
    (∀ t ∈ cands exCell.px exCell.py exCell.pz, shiftBy exCell.vects (pos1 0 - pos0 0) t = u ∨
      V3.normSq u < V3.normSq (shiftBy exCell.vects (pos1 0 - pos0 0) t)) ∧
    displacement exCell pos0 pos1 0 = u := by
  decide +kernel

def exTilt : Cell ℚ := ⟨⟨⟨4, 0, 0⟩, ⟨-2, 4, 0⟩, ⟨0, 0, 4⟩⟩, true, true, true⟩

/-- a tilted cell (tilt factor -1/2) and a displacement outside the rhombus |frac| < 1/2 but inside the
    Wigner-Seitz cell: box-relative coordinates (11/40, 11/20); `displacement` returns it unchanged, while subtracting
    the rounded relative coordinates (0, 1) would give the longer image `u - b`. -/
example : displacement exTilt (fun _ => ⟨0, 0, 0⟩) (fun _ => ⟨0, 11/5, 0⟩) 0 = ⟨0, 11/5, 0⟩ ∧
    V3.normSq (⟨0, 11/5, 0⟩ : V3 ℚ) < V3.normSq (shiftBy exTilt.vects ⟨0, 11/5, 0⟩ (0, -1, 0)) := by decide +kernel

/-- Positions and box deformed by the same `F` (`x ↦ F x`, box vectors `v ↦ F v`): if the image `s`
    that `dvect` selects in the reference is still the strict minimum among the deformed candidates, the periodic
    separation of the deformed pair is `F` times the reference separation — the `q = F p` hypothesis of
    `strainG_homogeneous`, the displacement `(F - I) d` and the differential displacement `(F - I) d_ij`. -/
theorem dv_homogeneous (F V : M3 K) (px py pz : Bool) (p0 p1 : V3 K) (s : Shift)
    (hs : s ∈ cands px py pz)
    (hmin0 : ∀ t ∈ cands px py pz, shiftBy V (p1 - p0) t = shiftBy V (p1 - p0) s ∨
      V3.normSq (shiftBy V (p1 - p0) s) < V3.normSq (shiftBy V (p1 - p0) t))
    (hmin1 : ∀ t ∈ cands px py pz,
      M3.mulVec F (shiftBy V (p1 - p0) t) = M3.mulVec F (shiftBy V (p1 - p0) s) ∨
      V3.normSq (M3.mulVec F (shiftBy V (p1 - p0) s)) < V3.normSq (M3.mulVec F (shiftBy V (p1 - p0) t))) :
    dvect (M3.mul V F.transpose) px py pz (M3.mulVec F p0) (M3.mulVec F p1)
      = M3.mulVec F (dvect V px py pz p0 p1) := by
  rw [dvect_eq_of_strict_min V px py pz p0 p1 s hs hmin0,
    dvect_eq_of_strict_min (M3.mul V F.transpose) px py pz _ _ s hs, shiftBy_deformed]
  intro t ht
  rw [shiftBy_deformed, shiftBy_deformed]
  exact hmin1 t ht

/-- hypotheses of `dv_homogeneous` (and of `dd_homogeneous`, Proofs/C17_Slip.lean) (shear + stretch of the 4-periodic cell, a pair through the boundary)
    and the conclusion evaluated. -/
example :
    let F : M3 ℚ := ⟨⟨1, 1/10, 0⟩, ⟨0, 21/20, 0⟩, ⟨1/50, 0, 1⟩⟩
    let p0 : V3 ℚ := ⟨1/4, 1, 1⟩; let p1 : V3 ℚ := ⟨15/4, 3/2, 1⟩
    let s : Shift := (-1, 0, 0)
    s ∈ cands true true true ∧
    (∀ t ∈ cands true true true, shiftBy exV (p1 - p0) t = shiftBy exV (p1 - p0) s ∨
      V3.normSq (shiftBy exV (p1 - p0) s) < V3.normSq (shiftBy exV (p1 - p0) t)) ∧
    (∀ t ∈ cands true true true,
      M3.mulVec F (shiftBy exV (p1 - p0) t) = M3.mulVec F (shiftBy exV (p1 - p0) s) ∨
      V3.normSq (M3.mulVec F (shiftBy exV (p1 - p0) s)) < V3.normSq (M3.mulVec F (shiftBy exV (p1 - p0) t))) ∧
    dvect exV true true true p0 p1 = ⟨-1/2, 1/2, 0⟩ ∧
    dvect (M3.mul exV F.transpose) true true true (M3.mulVec F p0) (M3.mulVec F p1) = M3.mulVec F ⟨-1/2, 1/2, 0⟩ := by
  decide +kernel

/-! `dv_homogeneous` needs the deformed candidates to keep their order; for an isometry that is automatic. -/

theorem normSq_isometry (F : M3 K) (hR : M3.mul F.transpose F = M3.one) (v : V3 K) :
    V3.normSq (M3.mulVec F v) = V3.normSq v :=
  M3.normSq_mulVec_of_orth hR v

/-- The `dvect` loops commute with an isometry of positions and box vectors whenever the image they
    select in the original frame is the strict minimum (the hypothesis `hmin1` of `dv_homogeneous` follows from `hmin0`). -/
theorem dv_isometry (F V : M3 K) (hR : M3.mul F.transpose F = M3.one) (px py pz : Bool) (p0 p1 : V3 K) (s : Shift)
    (hs : s ∈ cands px py pz)
    (hmin0 : ∀ t ∈ cands px py pz, shiftBy V (p1 - p0) t = shiftBy V (p1 - p0) s ∨
      V3.normSq (shiftBy V (p1 - p0) s) < V3.normSq (shiftBy V (p1 - p0) t)) :
    dvect (M3.mul V F.transpose) px py pz (M3.mulVec F p0) (M3.mulVec F p1)
      = M3.mulVec F (dvect V px py pz p0 p1) := by
  apply dv_homogeneous F V px py pz p0 p1 s hs hmin0
  intro t ht
  rcases hmin0 t ht with h | h
  · left; rw [h]
  · right; rw [normSq_isometry F hR, normSq_isometry F hR]; exact h

/-- the cell seen in the frame `F`: every box vector mapped by `F` (`vects.dot(F.T)`), same periodicity. -/
def Cell.frame (F : M3 K) (c : Cell K) : Cell K := ⟨M3.mul c.vects F.transpose, c.px, c.py, c.pz⟩

theorem dvCell_isometry (F : M3 K) (hR : M3.mul F.transpose F = M3.one) (c : Cell K) (a b : V3 K)
    (h : UniqueImage c a b) :
    (c.frame F).dv (M3.mulVec F a) (M3.mulVec F b) = M3.mulVec F (c.dv a b) := by
  obtain ⟨s, hs, hmin⟩ := h
  exact dv_isometry F c.vects hR c.px c.py c.pz a b s hs hmin

/-- non-vacuity: the reversal x <-> z with a reflection of y is an isometry (improper); a pair through the periodic
    boundary of a tilted cell has a unique image; in the new frame the cell's tilt entries lie above the diagonal. -/
example : M3.mul (M3.transpose (⟨⟨0, 0, 1⟩, ⟨0, -1, 0⟩, ⟨1, 0, 0⟩⟩ : M3 ℚ)) ⟨⟨0, 0, 1⟩, ⟨0, -1, 0⟩, ⟨1, 0, 0⟩⟩ = M3.one := by
  decide +kernel

example : UniqueImage (⟨⟨⟨4, 0, 0⟩, ⟨2, 4, 0⟩, ⟨0, 0, 4⟩⟩, true, true, true⟩ : Cell ℚ) ⟨1/2, 1/2, 0⟩ ⟨3, 7/2, 0⟩ :=
  ⟨(0, -1, 0), by decide +kernel, by decide +kernel⟩

example : ((⟨⟨⟨4, 0, 0⟩, ⟨2, 4, 0⟩, ⟨0, 0, 4⟩⟩, true, true, true⟩ : Cell ℚ).frame ⟨⟨0, 0, 1⟩, ⟨0, -1, 0⟩, ⟨1, 0, 0⟩⟩).vects
    = ⟨⟨0, 0, 4⟩, ⟨0, -4, 2⟩, ⟨4, 0, 0⟩⟩ := by decide +kernel

def Cell.swap01 (c : Cell K) : Cell K := ⟨⟨c.vects.r1, c.vects.r0, c.vects.r2⟩, c.py, c.px, c.pz⟩

def Cell.swap12 (c : Cell K) : Cell K := ⟨⟨c.vects.r0, c.vects.r2, c.vects.r1⟩, c.px, c.pz, c.py⟩

def sw01 (s : Shift) : Shift := (s.2.1, s.1, s.2.2)

def sw12 (s : Shift) : Shift := (s.1, s.2.2, s.2.1)

theorem mem_cands_sw01 (px py pz : Bool) : ∀ t ∈ cands px py pz, sw01 t ∈ cands py px pz := fun _ h =>
  have ⟨h1, h2, h3⟩ := mem_cands.mp h
  mem_cands.mpr ⟨h2, h1, h3⟩

theorem mem_cands_sw12 (px py pz : Bool) : ∀ t ∈ cands px py pz, sw12 t ∈ cands px pz py := fun _ h =>
  have ⟨h1, h2, h3⟩ := mem_cands.mp h
  mem_cands.mpr ⟨h1, h3, h2⟩

theorem shiftBy_sw01 (V : M3 K) (d : V3 K) (t : Shift) :
    shiftBy (⟨V.r1, V.r0, V.r2⟩ : M3 K) d (sw01 t) = shiftBy V d t := by
  ext <;> simp only [shiftBy, sw01] <;> ring

theorem shiftBy_sw12 (V : M3 K) (d : V3 K) (t : Shift) :
    shiftBy (⟨V.r0, V.r2, V.r1⟩ : M3 K) d (sw12 t) = shiftBy V d t := by
  ext <;> simp only [shiftBy, sw12] <;> ring

/-- two cells whose candidate images correspond under an involution `σ` of the shifts (same vectors, visited in
    another order) decide the same pairs, with the same separation. -/
theorem uniqueImage_relabel {c c' : Cell K} (σ : Shift → Shift) (hinv : ∀ t, σ (σ t) = t)
    (hmem : ∀ t ∈ cands c.px c.py c.pz, σ t ∈ cands c'.px c'.py c'.pz)
    (hmem' : ∀ t ∈ cands c'.px c'.py c'.pz, σ t ∈ cands c.px c.py c.pz)
    (hshift : ∀ d t, shiftBy c'.vects d (σ t) = shiftBy c.vects d t) (a b : V3 K) (h : UniqueImage c a b) :
    UniqueImage c' a b ∧ c'.dv a b = c.dv a b := by
  obtain ⟨s, hs, hmin⟩ := h
  have hmin' : ∀ t ∈ cands c'.px c'.py c'.pz, shiftBy c'.vects (b - a) t = shiftBy c'.vects (b - a) (σ s) ∨
      V3.normSq (shiftBy c'.vects (b - a) (σ s)) < V3.normSq (shiftBy c'.vects (b - a) t) := by
    intro t ht
    rw [← hinv t, hshift, hshift]
    exact hmin _ (hmem' t ht)
  refine ⟨⟨σ s, hmem s hs, hmin'⟩, ?_⟩
  rw [Cell.dv, Cell.dv, dvect_eq_of_strict_min c.vects c.px c.py c.pz a b s hs hmin,
    dvect_eq_of_strict_min c'.vects c'.px c'.py c'.pz a b (σ s) (hmem s hs) hmin', hshift]

theorem swap01_relabel (c : Cell K) (a b : V3 K) (h : UniqueImage c a b) :
    UniqueImage c.swap01 a b ∧ c.swap01.dv a b = c.dv a b :=
  uniqueImage_relabel (c' := c.swap01) sw01 (fun _ => rfl) (mem_cands_sw01 c.px c.py c.pz)
    (mem_cands_sw01 c.py c.px c.pz) (fun d t => shiftBy_sw01 c.vects d t) a b h

theorem swap12_relabel (c : Cell K) (a b : V3 K) (h : UniqueImage c a b) :
    UniqueImage c.swap12 a b ∧ c.swap12.dv a b = c.dv a b :=
  uniqueImage_relabel (c' := c.swap12) sw12 (fun _ => rfl) (mem_cands_sw12 c.px c.py c.pz)
    (mem_cands_sw12 c.px c.pz c.py) (fun d t => shiftBy_sw12 c.vects d t) a b h

/-- Listing the box vectors in another order changes the order in which the loops
    of `dvect_c` visit the candidate images, not the result — wherever the image is decided. -/
theorem dvCell_swap01 (c : Cell K) (a b : V3 K) (h : UniqueImage c a b) : c.swap01.dv a b = c.dv a b :=
  (swap01_relabel c a b h).2

theorem dvCell_swap12 (c : Cell K) (a b : V3 K) (h : UniqueImage c a b) : c.swap12.dv a b = c.dv a b :=
  (swap12_relabel c a b h).2

/-- the reversal `a, b, c ↦ c, b, a` (with the Cartesian reversal of `frame_equivariant` it turns a LAMMPS-style
    lower-triangular cell into an upper-triangular one). -/
theorem dvCell_reversed (c : Cell K) (a b : V3 K) (h : UniqueImage c a b) :
    c.swap01.swap12.swap01.dv a b = c.dv a b := by
  have h1 := (swap01_relabel c a b h).1
  have h2 := (swap12_relabel _ a b h1).1
  rw [dvCell_swap01 _ a b h2, dvCell_swap12 _ a b h1, dvCell_swap01 c a b h]

/-- non-vacuity / sharpness: with a TIE between two images the order of the box vectors does decide which one the loops
    keep (so the hypothesis `UniqueImage` cannot be dropped). -/
example : (⟨⟨⟨4, 0, 0⟩, ⟨2, 4, 0⟩, ⟨0, 0, 4⟩⟩, true, true, false⟩ : Cell ℚ).dv ⟨0, 0, 0⟩ ⟨3, 2, 0⟩ = ⟨-1, 2, 0⟩ ∧
    (⟨⟨⟨4, 0, 0⟩, ⟨2, 4, 0⟩, ⟨0, 0, 4⟩⟩, true, true, false⟩ : Cell ℚ).swap01.dv ⟨0, 0, 0⟩ ⟨3, 2, 0⟩ = ⟨1, -2, 0⟩ := by
  decide +kernel

/-- ... and a decided pair through the boundary of the same tilted cell satisfies the hypothesis. -/
example : UniqueImage (⟨⟨⟨4, 0, 0⟩, ⟨2, 4, 0⟩, ⟨0, 0, 4⟩⟩, true, true, false⟩ : Cell ℚ) ⟨0, 0, 0⟩ ⟨3, 3, 0⟩ :=
  ⟨(0, -1, 0), by decide +kernel, by decide +kernel⟩

end Atomman.C17
