/-
  C03 — source tie: the definitions regenerated from the syntax tree of nlist.pyx / NeighborList.py
  (`Atomman/Generated/NlistSource.lean`, namespace `Src`) equal the hand-written model, one obligation per expression /
  loop / test.  A source edit either still proves the obligation (an equivalent way of writing it) or breaks it by name.
  The obligations about `Generated/NlistStorage.lean` (`Gen`) and `src_defaults_valid` are in Proofs/C03.lean, except
  `header_eq_lines` (Proofs/C03_Text.lean) and the tactic `bin_sound` (Proofs/C03_Bins.lean).
-/
import Atomman.C03
import Mathlib.Tactic.Ring

namespace Atomman.C03
open List

/-- the corner expression of the source is `cornerAt`, component by component. -/
theorem gen_corner_eq_model (S : Sys) (c : ℚ × ℚ × ℚ) :
    cornerAt S c =
      ⟨Src.cornerOf S.origin.x S.vects.r0.x S.vects.r1.x S.vects.r2.x c.1 c.2.1 c.2.2,
       Src.cornerOf S.origin.y S.vects.r0.y S.vects.r1.y S.vects.r2.y c.1 c.2.1 c.2.2,
       Src.cornerOf S.origin.z S.vects.r0.z S.vects.r1.z S.vects.r2.z c.1 c.2.1 c.2.2⟩ := by
  refine V3.ext ?_ ?_ ?_ <;> simp only [cornerAt, Src.cornerOf] <;> ring

/-- the three coefficient loops of the source visit the 8 corners the model visits, in the same order. -/
theorem gen_cornerLoop_eq_model : Src.cornerLoop = cornerCoeffs := by decide +kernel

/-- `if corner < supermin[j]` / `if corner > supermax[j]` are `minStep` / `maxStep`. -/
theorem gen_superTests_eq_model (m c : ℚ) :
    minStep m c = (if Src.superMinTest c m then c else m) ∧ maxStep m c = (if Src.superMaxTest c m then c else m) := by
  constructor
  · simp only [minStep, Src.superMinTest, decide_eq_true_eq, gt_iff_lt]
  · simp only [maxStep, Src.superMaxTest, decide_eq_true_eq, gt_iff_lt]

/-- the padding of the superbox standing in the source is the one of `mkGrid`. -/
theorem gen_superbox_eq_model (S : Sys) (cutoff : ℚ) :
    (mkGrid S cutoff).lo = ⟨Src.superLo (cornerMin S (·.x)) cutoff, Src.superLo (cornerMin S (·.y)) cutoff,
                             Src.superLo (cornerMin S (·.z)) cutoff⟩ ∧
    (mkGrid S cutoff).hi = ⟨Src.superHi (cornerMax S (·.x)) cutoff, Src.superHi (cornerMax S (·.y)) cutoff,
                             Src.superHi (cornerMax S (·.z)) cutoff⟩ := by
  constructor <;> simp only [mkGrid, pad, Src.superLo, Src.superHi, V3.mk.injEq] <;> refine ⟨?_, ?_, ?_⟩ <;> ring

/-- `len(np.arange(supermin[k], <stop>, binsize))` with the stop expression of the source is `numBins`, and
    `np.digitize(…) - <offset>` with the offset of the source is `binIdx`. -/
theorem gen_bins_eq_model (lo hi c x : ℚ) (n : Nat) :
    numBins lo hi c = ((Src.arangeStop hi c - lo) / c).ceil.toNat ∧
    binIdx lo c n x = (digitize x (edges lo c n) : Int) - Src.digitizeOffset := by
  constructor
  · have : Src.arangeStop hi c = hi + c := by simp only [Src.arangeStop] <;> ring
    rw [this]; rfl
  · simp only [binIdx, Src.digitizeOffset]

/-- the shift loops of the ghost construction (ranges per periodic flag, nesting order, skipped shift) visit the
    shifts of `imageShifts` — the ones `dmag2_c` compares — in the same order. -/
theorem gen_ghostShifts_eq_model (pa pb pc : Bool) : Src.ghostShifts pa pb pc = imageShifts pa pb pc := by
  cases pa <;> cases pb <;> cases pc <;> decide +kernel

/-- the image coordinate of the source is `ghostPos`. -/
theorem gen_ghostPos_eq_model (S : Sys) (s : Int × Int × Int) (i : Nat) :
    ghostPos S s i =
      ⟨Src.ghostCoord s.1 s.2.1 s.2.2 S.vects.r0.x S.vects.r1.x S.vects.r2.x (S.posOf i).x,
       Src.ghostCoord s.1 s.2.1 s.2.2 S.vects.r0.y S.vects.r1.y S.vects.r2.y (S.posOf i).y,
       Src.ghostCoord s.1 s.2.1 s.2.2 S.vects.r0.z S.vects.r1.z S.vects.r2.z (S.posOf i).z⟩ := by
  refine V3.ext ?_ ?_ ?_ <;> simp only [ghostPos, Src.ghostCoord] <;> ring

/-- the test that keeps an image is the strict superbox test `inSuper`. -/
theorem gen_inSuper_eq_model (G : Grid) (q : V3 ℚ) :
    inSuper G q = Src.inSuperTest q.x q.y q.z G.lo.x G.lo.y G.lo.z G.hi.x G.hi.y G.hi.z := by
  rw [Bool.eq_iff_iff]
  simp only [inSuper, Src.inSuperTest, Bool.and_eq_true, decide_eq_true_eq, gt_iff_lt] <;> tauto

/-- the three offset loops of the source, cut at the centre test, are `halfStencil` (13 offsets, same order). -/
theorem gen_stencil_eq_model :
    Src.stencilLoop = stencilAll ∧
    halfStencil = Src.stencilLoop.takeWhile (fun d => !(Src.centreTest d.1 d.2.1 d.2.2)) := by
  constructor <;> decide +kernel

/-- "Skip non-existant neighbor bins": the test of the source is `skipBin` of the shifted bin. -/
theorem gen_skipBin_eq_model (G : Grid) (b d : Idx) :
    skipBin G (addIdx b d) = Src.skipTest b.1 b.2.1 b.2.2 d.1 d.2.1 d.2.2 G.nx G.ny G.nz := by
  have e : ∀ a b : Int, (a == b) = decide (a = b) := fun a b => rfl
  simp only [skipBin, addIdx, Src.skipTest, e]
  by_cases h1 : b.1 + d.1 < 0 <;> by_cases h2 : b.2.1 + d.2.1 < 0 <;> by_cases h3 : b.2.2 + d.2.2 < 0 <;>
    simp [h1, h2, h3]

/-- the pair loops of the sweep written with the indices of the source (`for u in range(len(shortlist)): for v in
    range(<vStart u>, len(longlist))`, pairs `(shortlist[u], longlist[v])`) give `pairsOf`, for lists of any length. -/
theorem pairsOf_eq_loops (short rest : List Nat) : pairLoops short rest = pairsOf short rest := by
  unfold pairLoops
  induction short with
  | nil => simp [pairsOf]
  | cons a s ih =>
    have h0 : Src.vStart 0 = 1 := by simp only [Src.vStart] <;> omega
    have hS : ∀ u, Src.vStart (u + 1) = Src.vStart u + 1 := by intro u; simp only [Src.vStart] <;> omega
    rw [pairsOf, List.length_cons, List.range_succ_eq_map, List.flatMap_cons, List.flatMap_map]
    refine congrArg₂ (· ++ ·) ?_ ?_
    · simp [h0]
    · rw [← ih]
      refine congrArg (fun f => List.flatMap f (List.range s.length)) ?_
      funext u
      simp only [Nat.succ_eq_add_one, hS]
      simp

/-- the scan of row `uindex` (`for j in range(1, count + 1)`: found → not new; first larger entry → `uj = j`; otherwise
    `uj = count + 1`) and of row `vindex` as they stand in the source are `scanLoopA` / `posLoopA` as `insertPairA` calls
    them. -/
theorem gen_scans_eq_model (row : List Nat) (w count f j : Nat) :
    Src.uScanStart = 1 ∧ Src.uScanStop count - Src.uScanStart = count ∧ Src.ujDefault count = Src.uScanStart + count ∧
    Src.vScanStart = 1 ∧ Src.vScanStop count - Src.vScanStart = count ∧ Src.vjDefault count = Src.vScanStart + count ∧
    scanLoopA row w (f + 1) j =
      (if Src.uFound (row.getD j 0) w then (false, j) else if Src.uPast (row.getD j 0) w then (true, j)
       else scanLoopA row w f (j + 1)) ∧
    posLoopA row w (f + 1) j = (if Src.vPast (row.getD j 0) w then j else posLoopA row w f (j + 1)) := by
  refine ⟨?_, ?_, ?_, ?_, ?_, ?_, ?_, ?_⟩
  · simp only [Src.uScanStart]
  · simp only [Src.uScanStop, Src.uScanStart] <;> omega
  · simp only [Src.ujDefault, Src.uScanStart] <;> omega
  · simp only [Src.vScanStart]
  · simp only [Src.vScanStop, Src.vScanStart] <;> omega
  · simp only [Src.vjDefault, Src.vScanStart] <;> omega
  · simp only [scanLoopA, Src.uFound, Src.uPast, decide_eq_true_eq, gt_iff_lt]
  · simp only [posLoopA, Src.vPast, decide_eq_true_eq, gt_iff_lt]

/-- an exhausted scan ends at `start + count` — the `uj == -1` / `vj == -1` default of the source. -/
theorem scan_exhausted (row : List Nat) (w : Nat) :
    ∀ f j, (∀ k, j ≤ k → k < j + f → row.getD k 0 ≠ w ∧ ¬ w < row.getD k 0) → scanLoopA row w f j = (true, j + f) := by
  intro f
  induction f with
  | zero => intro j _; simp [scanLoopA]
  | succ f ih =>
    intro j h
    have h0 := h j (le_refl j) (by omega)
    rw [scanLoopA]
    simp only [h0.1, h0.2, if_false]
    rw [ih (j + 1) (fun k hk hk' => h k (by omega) (by omega))]
    congr 1; omega

end Atomman.C03
