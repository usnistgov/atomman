/-
  C20 — the generated integrators, gradient and climbing rate (`Atomman/Generated/Integrators.lean`,
  regenerated from /repo on every run): Taylor polynomials on linear rate laws, homogeneity, the central
  difference on cubics, the climbing rate.
-/
import Atomman.Generated.Integrators
import Atomman.C20
import Mathlib.Tactic.Module
import Mathlib.Data.Real.Basic

namespace Atomman.C20
open Atomman.Gen
set_option linter.unusedSectionVars false

variable {K V : Type} [Field K] [CharZero K] [AddCommGroup V] [Module K V]

theorem euler_linear (A : V →ₗ[K] V) (y : V) (h : K) :
    euler (fun v => A v) y h = y + h • A y := by
  simp only [euler]

/-- an Euler step on a linear rate law is the degree-1 Taylor polynomial of `exp (hA)` applied to `y`. -/
theorem euler_taylor1 (A : Module.End K V) (y : V) (h : K) :
    euler (fun v => A v) y h = ((1 : Module.End K V) + h • A) y := by
  simp only [euler, LinearMap.add_apply, LinearMap.smul_apply, Module.End.one_apply]

/-- Runge–Kutta step on a linear rate law: the degree-4 Taylor polynomial of `exp (hA)`. -/
theorem rk4_linear (A : V →ₗ[K] V) (y : V) (h : K) :
    rungekutta (fun v => A v) y h
      = y + h • A y + (h^2/2) • A (A y) + (h^3/6) • A (A (A y)) + (h^4/24) • A (A (A (A y))) := by
  simp only [rungekutta, map_add, map_smul, Nat.cast_ofNat, Nat.cast_one]
  module

theorem rk4_taylor4_scalar (a y h : K) :
    rungekutta (fun v => a * v) y h
      = (1 + h*a + (h*a)^2/2 + (h*a)^3/6 + (h*a)^4/24) * y := by
  simp only [rungekutta, smul_eq_mul, Nat.cast_ofNat, Nat.cast_one]
  ring

/-- a step commutes with a change of the unit of `y`: no absolute scale of the state enters.  Every linear law
    satisfies `hf` (`rk4_linear_homogeneous`). -/
theorem euler_homogeneous (f : V → V) (hf : ∀ (c : K) y, f (c • y) = c • f y) (c : K) (y : V) (h : K) :
    euler f (c • y) h = c • euler f y h := by
  simp only [euler, hf]
  module

/-- the same for all four stages of Runge–Kutta (a shortcut that looks at the absolute size of a stage breaks it). -/
theorem rk4_homogeneous (f : V → V) (hf : ∀ (c : K) y, f (c • y) = c • f y) (c : K) (y : V) (h : K) :
    rungekutta f (c • y) h = c • rungekutta f y h := by
  -- the factor moves out of every stage: `f (c • u) = c • f u`, `a • c • u = c • a • u`, `c • u + c • w = c • (u + w)`
  simp only [rungekutta, hf, smul_comm _ c, ← smul_add]

theorem rk4_linear_homogeneous (A : V →ₗ[K] V) (c : K) (y : V) (h : K) :
    rungekutta (fun v => A v) (c • y) h = c • rungekutta (fun v => A v) y h :=
  rk4_homogeneous _ (fun c y => map_smul A c y) c y h

/-- change of the unit of time. -/
theorem rk4_time_rescale (f : V → V) (c h : K) (hc : c ≠ 0) (y : V) :
    rungekutta (fun v => c • f v) y (h / c) = rungekutta f y h := by
  simp only [rungekutta, smul_smul, div_mul_cancel₀ _ hc]

theorem euler_time_rescale (f : V → V) (c h : K) (hc : c ≠ 0) (y : V) :
    euler (fun v => c • f v) y (h / c) = euler f y h := by
  simp only [euler, smul_smul, div_mul_cancel₀ _ hc]

/-- central difference along `e` of a function that is a cubic along that line:
    the result is the exact derivative `c1` plus `c3 * shift²`. -/
theorem cd_cubic (f : V → K) (x e : V) (c0 c1 c2 c3 s : K) (hs : s ≠ 0)
    (hf : ∀ t : K, f (x + t • e) = c0 + c1 * t + c2 * t^2 + c3 * t^3) :
    cdComponent f x (s • e) s = c1 + c3 * s^2 := by
  have hm : x - s • e = x + (-s) • e := by rw [neg_smul, sub_eq_add_neg]
  simp only [cdComponent, hm, hf, Nat.cast_ofNat]
  rw [div_eq_iff (mul_ne_zero two_ne_zero hs)]
  ring

theorem cd_exact_quadratic (f : V → K) (x e : V) (c0 c1 c2 s : K) (hs : s ≠ 0)
    (hf : ∀ t : K, f (x + t • e) = c0 + c1 * t + c2 * t^2) :
    cdComponent f x (s • e) s = c1 := by
  have := cd_cubic f x e c0 c1 c2 0 s hs (by intro t; rw [hf t]; ring)
  simpa using this

/-- second order in the step: the error is exactly `c3 * s²` (`c3 = f‴/6`). -/
theorem cd_error_second_order {V : Type} [AddCommGroup V] [Module ℝ V] (f : V → ℝ) (x e : V) (c0 c1 c2 c3 s : ℝ) (hs : s ≠ 0)
    (hf : ∀ t : ℝ, f (x + t • e) = c0 + c1 * t + c2 * t^2 + c3 * t^3) :
    |cdComponent f x (s • e) s - c1| = |c3| * s^2 := by
  rw [cd_cubic f x e c0 c1 c2 c3 s hs hf]
  simp [abs_mul]

/-- a stationary ordinary image sits at a critical point. -/
theorem rate_zero_iff (gradE : V → V) (x : V) : rate gradE x = 0 ↔ gradE x = 0 := by
  simp only [rate, neg_eq_zero]

theorem euler_fixed_iff (f : V → V) (y : V) (h : K) (hh : h ≠ 0) : euler f y h = y ↔ f y = 0 := by
  simp only [euler, add_eq_left, smul_eq_zero, hh, false_or]

/-- both integrators leave a zero of the rate law in place (the converse is proved for Euler only, `euler_fixed_iff`). -/
theorem integrator_fixed (I : (V → V) → V → K → V)
    (hI : I = (fun r x h => euler r x h) ∨ I = (fun r x h => rungekutta r x h))
    (f : V → V) (x : V) (h : K) (hf : f x = 0) : I f x h = x := by
  rcases hI with hI | hI
  · simp only [hI, euler, hf, smul_zero, add_zero]
  · simp only [hI, rungekutta, hf, smul_zero, add_zero]

section climb
variable (dot : V → V → K)
  (hadd : ∀ a b c, dot (a + b) c = dot a c + dot b c)
  (hsmul : ∀ (k : K) a c, dot (k • a) c = k * dot a c)
  (hneg : ∀ a c, dot (-a) c = - dot a c)
include hadd hsmul hneg

/-- the climbing rate reverses the tangential component of `-grad E`. -/
theorem climb_reverses_tangential (gradE : V → V) (x τ : V) (hτ : dot τ τ = 1) :
    dot (climbrate gradE dot x τ) τ = dot (gradE x) τ := by
  simp only [climbrate, hadd, hsmul, hneg, hτ, Nat.cast_ofNat]
  ring

/-- a stationary climbing image (unit tangent) sits at a critical point, the saddle. -/
theorem climb_fixed_point (gradE : V → V) (x τ : V) (hτ : dot τ τ = 1)
    (hz : climbrate gradE dot x τ = 0) (hdot0 : ∀ c, dot 0 c = 0) : gradE x = 0 := by
  have h1 := climb_reverses_tangential dot hadd hsmul hneg gradE x τ hτ
  rw [hz, hdot0] at h1
  have h2 : climbrate gradE dot x τ = -gradE x := by
    simp only [climbrate, ← h1, zero_smul, smul_zero, add_zero]
  rw [hz] at h2
  exact neg_eq_zero.mp h2.symm

end climb

/-! non-vacuity: concrete instances of the hypotheses -/
example : (∀ t : ℚ, (fun v : ℚ => 1 + 2 * v + 3 * v^2 + 4 * v^3) (0 + t • (1:ℚ)) = 1 + 2 * t + 3 * t^2 + 4 * t^3) := by
  intro t; simp
example : rungekutta (K := ℚ) (fun v : ℚ => 1 * v) 1 (1/2 : ℚ) = 211/128 :=
  (rk4_taylor4_scalar (K := ℚ) 1 1 (1/2)).trans (by norm_num)

section cdarray
variable {K V : Type} [Field K] [CharZero K] [AddCommGroup V] [Module K V]

/-- the gradient array has one row per point, whatever the leading shape was. -/
theorem cdArray_length (mk : List K → V) (delta : Nat → K → V) (dim : Nat) (f : V → K) (pts : List V) (s : K) :
    (cdArray mk delta dim f pts s).length = pts.length := by
  simp only [cdArray, List.length_map]

/-- row `k` of the gradient array is the gradient at point `k` (no mixing of points). -/
theorem cdArray_getElem (mk : List K → V) (delta : Nat → K → V) (dim : Nat) (f : V → K) (pts : List V) (s : K)
    (k : Nat) (hk : k < pts.length) :
    (cdArray mk delta dim f pts s)[k]'(by simpa [cdArray] using hk) = cdPoint mk delta dim f pts[k] s := by
  simp only [cdArray, List.getElem_map]

/-- component `i` of the gradient at a point where `f` is a cubic along `eᵢ`: the derivative plus `c₃ s²`.
    The left side is the argument of `mk` in `cdPoint mk delta dim f x s` with `delta i s = s • e i`, kept
    unreduced so that it matches `cdPoint` after `unfold`. -/
theorem cdPoint_components_cubic (e : Nat → V) (dim : Nat) (f : V → K) (x : V) (s : K) (hs : s ≠ 0)
    (c0 c1 c2 c3 : Nat → K)
    (hf : ∀ i < dim, ∀ t : K, f (x + t • e i) = c0 i + c1 i * t + c2 i * t ^ 2 + c3 i * t ^ 3) :
    (List.range dim).map (fun i => cdComponent f x ((fun i (s : K) => s • e i) i s) s)
      = (List.range dim).map (fun i => c1 i + c3 i * s ^ 2) := by
  apply List.map_congr_left
  intro i hi
  exact cd_cubic f x (e i) (c0 i) (c1 i) (c2 i) (c3 i) s hs (hf i (List.mem_range.mp hi))

end cdarray

section textbook
variable {K V : Type} [Field K] [CharZero K] [AddCommGroup V] [Module K V]

/-- the textbook form of the Runge-Kutta step (stages NOT scaled by the step, `y + h (k1 + 2 k2 + 2 k3 + k4) / 6`) is the same
    function of `(f, y, h)` as the coded one (stages scaled when they are formed) -- for EVERY rate function, linear or not:
    the two differ only in which intermediate objects they keep alive. -/
theorem rk4_textbook_form (f : V → V) (y : V) (h : K) :
    rungekutta f y h =
      (let k1 := f y
       let k2 := f (y + ((1 : K) / 2 * h) • k1)
       let k3 := f (y + ((1 : K) / 2 * h) • k2)
       let k4 := f (y + h • k3)
       y + (h / 6) • (k1 + (2 : K) • k2 + (2 : K) • k3 + k4)) := by
  simp only [rungekutta, Nat.cast_ofNat, Nat.cast_one, smul_smul]
  module
end textbook

end Atomman.C20
