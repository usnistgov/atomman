/-
  C16 — the checked source tie for the function BODIES: every definition of `Atomman/Generated/MillerSource.lean`
  (regenerated by `translate()` of harness/props/c16.py from /repo's CURRENT atomman/tools/miller.py, atomman/core/Box.py,
  atomman/tools/crystalsystem.py on every run, with `ast`) is proved equal to the hand model of `Atomman/C16.lean`
  (`gen_…_eq_model`), or — for sequencing of numpy calls that is no formula — to the literal statements the model was written
  from (`gen_pin_…`: `ast.unparse` text, docstrings and exception messages dropped, indentation kept).
  A source edit that changes a formula, a branch condition or the order of a chain, the index a quotient divides by, the
  arguments of a call, a default value, or adds / removes a statement breaks the obligation of that name (or the translator
  refuses the source: TranslationError).
-/
import Atomman.C16
import Atomman.Generated.MillerSource

namespace Atomman.C16
set_option linter.unusedSectionVars false

section core
variable {K : Type} [Zero K] [Add K] [Sub K] [Mul K] [Div K] [Neg K] [NatCast K] [IntCast K] [LT K] [DecidableLT K]
  [LE K] [DecidableLE K]

theorem gen_plane3to4_eq_model (p : V3 K) : Src.plane3to4 p = plane3to4 p := rfl
theorem gen_plane4to3_eq_model (atol : K) (q : V4 K) : Src.plane4to3 atol q = plane4to3 atol q := rfl
theorem gen_vector3to4_eq_model (p : V3 K) : Src.vector3to4 p = vector3to4 p := rfl
theorem gen_vector4to3_eq_model (atol : K) (q : V4 K) : Src.vector4to3 atol q = vector4to3 atol q := rfl

/-! ### plane_cryst_2_cart: the seven-branch tree (conditions and their order, lcm / sign arguments, which index each
    quotient divides by, the constant rows), the cross product, the final division -/
theorem gen_planeInPlane_eq_model (h k l : Int) : Src.planeInPlane h k l = planeInPlane h k l := rfl
theorem gen_normalOf_eq_model (V : M3 K) (a b : V3 Int) (s : Int) : Src.normalOf V a b s = normalOf V a b s := rfl
theorem gen_planeNormalUnnorm_eq_model (V : M3 K) (h k l : Int) :
    Src.planeNormalUnnorm V h k l = planeNormalUnnorm V h k l := rfl
theorem gen_planeResult_eq_model (norm : V3 K → K) (n : V3 K) : Src.planeResult norm n = normalise n (norm n) := rfl

/-! ### vector_crystal_to_cartesian: `indices.dot(box.vects)` is the three-index branch of the model -/
theorem gen_vectorResult_eq_model (atol : K) (isHex : Bool) (V : M3 K) (u v w : K) :
    vectorCrystalToCartesian atol isHex V [u, v, w] = .ok (Src.vectorResult ⟨u, v, w⟩ V) := rfl
/-- … and of the four-index branch after `vector4to3` (the generated one). -/
theorem gen_vectorResult4_eq_model (atol : K) (V : M3 K) (u v t w : K) :
    vectorCrystalToCartesian atol true V [u, v, t, w]
      = (match Src.vector4to3 atol ⟨u, v, t, w⟩ with
         | .ok p => .ok (Src.vectorResult p V)
         | .error e => .error e) := rfl

theorem gen_reduceIndices_eq_model (l : List Int) : Src.reduceIndices l = reduceIndices l := rfl
theorem gen_bracketPairs_eq_model : Src.bracketPairs = bracketPairs := rfl
theorem gen_allIndicesDefaults_eq_model : Src.allIndicesDefaults = (10, false) := rfl

/-! ### the family predicates: Box methods and the stand-alone functions of crystalsystem.py, term by term -/
theorem gen_box_isCubic_eq_model (rtol atol : K) (p : CellParams K) : Src.box_isCubic rtol atol p = isCubic rtol atol p := rfl
theorem gen_box_isHexagonal_eq_model (rtol atol : K) (p : CellParams K) : Src.box_isHexagonal rtol atol p = isHexagonal rtol atol p := rfl
theorem gen_box_isTetragonal_eq_model (rtol atol : K) (p : CellParams K) : Src.box_isTetragonal rtol atol p = isTetragonal rtol atol p := rfl
theorem gen_box_isRhombohedral_eq_model (rtol atol : K) (p : CellParams K) : Src.box_isRhombohedral rtol atol p = isRhombohedral rtol atol p := rfl
theorem gen_box_isOrthorhombic_eq_model (rtol atol : K) (p : CellParams K) : Src.box_isOrthorhombic rtol atol p = isOrthorhombic rtol atol p := rfl
theorem gen_box_isMonoclinic_eq_model (rtol atol : K) (p : CellParams K) : Src.box_isMonoclinic rtol atol p = isMonoclinic rtol atol p := rfl
theorem gen_box_isTriclinic_eq_model (rtol atol : K) (p : CellParams K) : Src.box_isTriclinic rtol atol p = isTriclinic rtol atol p := rfl
/-- the if / elif chain of box.identifyfamily: order of the predicates and the name each returns. -/
theorem gen_box_identifyFamily_eq_model (rtol atol : K) (p : CellParams K) :
    Src.box_identifyFamily rtol atol p = identifyFamily rtol atol p := rfl
theorem gen_box_defaults_eq_model :
    (Src.box_defaultRtol : K) = BoxObj.defaultRtol ∧ (Src.box_defaultAtol : K) = BoxObj.defaultAtol := ⟨rfl, rfl⟩

theorem gen_cs_isCubic_eq_model (rtol atol : K) (p : CellParams K) : Src.cs_isCubic rtol atol p = isCubic rtol atol p := rfl
theorem gen_cs_isHexagonal_eq_model (rtol atol : K) (p : CellParams K) : Src.cs_isHexagonal rtol atol p = isHexagonal rtol atol p := rfl
theorem gen_cs_isTetragonal_eq_model (rtol atol : K) (p : CellParams K) : Src.cs_isTetragonal rtol atol p = isTetragonal rtol atol p := rfl
theorem gen_cs_isRhombohedral_eq_model (rtol atol : K) (p : CellParams K) : Src.cs_isRhombohedral rtol atol p = isRhombohedral rtol atol p := rfl
theorem gen_cs_isOrthorhombic_eq_model (rtol atol : K) (p : CellParams K) : Src.cs_isOrthorhombic rtol atol p = isOrthorhombic rtol atol p := rfl
theorem gen_cs_isMonoclinic_eq_model (rtol atol : K) (p : CellParams K) : Src.cs_isMonoclinic rtol atol p = isMonoclinic rtol atol p := rfl
theorem gen_cs_isTriclinic_eq_model (rtol atol : K) (p : CellParams K) : Src.cs_isTriclinic rtol atol p = isTriclinic rtol atol p := rfl
/-- the if / elif chain of cs.identifyfamily: order of the predicates and the name each returns. -/
theorem gen_cs_identifyFamily_eq_model (rtol atol : K) (p : CellParams K) :
    Src.cs_identifyFamily rtol atol p = identifyFamily rtol atol p := rfl
theorem gen_cs_defaults_eq_model :
    (Src.cs_defaultRtol : K) = BoxObj.defaultRtol ∧ (Src.cs_defaultAtol : K) = BoxObj.defaultAtol := ⟨rfl, rfl⟩

end core

theorem gen_pin_plane_crystal_to_cartesian : Src.pin_plane_crystal_to_cartesian =
  ["indices = np.asarray(indices)",
   "if indices.shape[-1] == 4:\n    if box.ishexagonal():\n        indices = plane4to3(indices)\n    else:\n        raise ValueError()",
   "if indices.shape[-1] != 3:\n    raise ValueError()",
   "if np.allclose(indices, np.asarray(indices, dtype=int)):\n    indices = np.asarray(indices, dtype=int)\nelse:\n    raise ValueError()",
   "<def plane_cryst_2_cart>",
   "return np.apply_along_axis(plane_cryst_2_cart, -1, indices, box)"] := rfl

theorem gen_pin_vector_crystal_to_cartesian : Src.pin_vector_crystal_to_cartesian =
  ["indices = np.array(indices)",
   "if indices.shape[-1] == 4:\n    if not box.ishexagonal():\n        raise ValueError()\n    indices = vector4to3(indices)",
   "if indices.shape[-1] != 3:\n    raise ValueError()",
   "return indices.dot(box.vects)"] := rfl

theorem gen_pin_all_indices : Src.pin_all_indices =
  ["i = np.arange(-maxindex, maxindex + 1)",
   "u, v, w = np.meshgrid(i, i, i)",
   "indices = np.vstack([u.flat, v.flat, w.flat]).T",
   "indices = indices[np.abs(indices).sum(axis=1) != 0]",
   "if reduce:\n    indices = reduce_indices(indices)\n    indices = np.unique(indices, axis=0)",
   "return indices"] := rfl

theorem gen_pin_fromstring_rest : Src.pin_fromstring_rest =
  ["if openindex > 0:\n    fraction = value[:openindex]\n    terms = fraction.split('/')\n    assert len(terms) == 2\n    fraction = float(terms[0]) / float(terms[1])\nelse:\n    fraction = 1",
   "if openindex == -1:\n    array = np.fromstring(value, dtype=float, sep=' ')\nelse:\n    array = np.fromstring(value[openindex + 1:closeindex], dtype=float, sep=' ')",
   "assert array.shape in [(3,), (4,)]",
   "return fraction * array"] := rfl

theorem gen_pin_Box_vector_crystal_to_cartesian : Src.pin_Box_vector_crystal_to_cartesian =
  ["return miller.vector_crystal_to_cartesian(indices, self)"] := rfl

theorem gen_pin_Box_plane_crystal_to_cartesian : Src.pin_Box_plane_crystal_to_cartesian =
  ["return miller.plane_crystal_to_cartesian(indices, self)"] := rfl

end Atomman.C16
