/-
  C20 — the path object (`BasePath` / `ISMPath`) and its reads: what a history of assignments leaves, unit tangents,
  arc coordinates and forces, how they change with the unit of length, the default time step and tolerance.
-/
import Atomman.C20
import Mathlib.Algebra.Module.Defs
import Mathlib.Tactic.FieldSimp
import Mathlib.Tactic.Ring
import Mathlib.Algebra.Order.Field.Rat
import Mathlib.Data.List.Chain

namespace Atomman.C20
open Atomman.Gen
set_option linter.unusedSectionVars false

section history
variable {V K : Type}

/-- the value of each field after one operation; `run_eq_fields` folds them over a history. -/
def Op.coordAfter (c : List V) : Op V K → List V
  | .setCoord c' => c'
  | .setRow i v => c.set i v
  | _ => c
def Op.gfAfter (g : (V → K) → V → Option K → V) : Op V K → ((V → K) → V → Option K → V)
  | .setGradientfxn g' => g'
  | _ => g
def Op.kwAfter (k : Option K) : Op V K → Option K
  | .setKwargs k' => k'
  | _ => k
def Op.igAfter (f : (V → V) → V → K → V) : Op V K → ((V → V) → V → K → V)
  | .setIntegratorfxn f' => f'
  | _ => f

/-- after any history of assignments the object is the object built from the last value of each
    field: nothing else is remembered. -/
theorem run_eq_fields (p : Path V K) (ops : List (Op V K)) :
    p.run ops = ⟨ops.foldl Op.coordAfter p.coord, p.energyfxn, ops.foldl Op.gfAfter p.gradientfxn,
                 ops.foldl Op.kwAfter p.gradientkwargs, ops.foldl Op.igAfter p.integratorfxn⟩ := by
  induction ops generalizing p with
  | nil => rfl
  | cons o os ih =>
    simp only [Path.run, List.foldl_cons] at ih ⊢
    rw [ih]
    cases o <;> rfl

theorem run_energyfxn (p : Path V K) (ops : List (Op V K)) : (p.run ops).energyfxn = p.energyfxn := by
  rw [run_eq_fields]

/-- `grad_energy()` right after `coord = c`, whatever was read or assigned before: the gradient
    function of the moment applied to the rows of `c`. -/
theorem gradEnergy_after_setCoord (p : Path V K) (ops : List (Op V K)) (c : List V) :
    ((p.run ops).apply (.setCoord c)).gradEnergy
      = c.map (fun x => (p.run ops).gradientfxn p.energyfxn x (p.run ops).gradientkwargs) := by
  simp only [Path.gradEnergy, Path.gradAt, Path.apply, run_energyfxn]
  rfl

theorem energy_after_setCoord (p : Path V K) (ops : List (Op V K)) (c : List V) :
    ((p.run ops).apply (.setCoord c)).energy = c.map p.energyfxn := by
  simp only [Path.energy, Path.energyAt, Path.apply, run_energyfxn]

/-- changing the settings or the gradient function is seen by the next read. -/
theorem gradEnergy_after_setKwargs (p : Path V K) (k : Option K) :
    (p.apply (.setKwargs k)).gradEnergy = p.coord.map (fun x => p.gradientfxn p.energyfxn x k) := rfl

theorem gradEnergy_after_setGradientfxn (p : Path V K) (g : (V → K) → V → Option K → V) :
    (p.apply (.setGradientfxn g)).gradEnergy = p.coord.map (fun x => g p.energyfxn x p.gradientkwargs) := rfl

end history

section geometry
variable {K V : Type} [Field K] [LinearOrder K] [IsStrictOrderedRing K] [AddCommGroup V] [Module K V]
variable (dot : V → V → K) (sqrt : K → K)

theorem unitOf_unit (hl : ∀ (k : K) a c, dot (k • a) c = k * dot a c) (hr : ∀ (k : K) a c, dot a (k • c) = k * dot a c)
    (v : V) (hpos : 0 < dot v v) (hs : sqrt (dot v v) * sqrt (dot v v) = dot v v) :
    dot (Path.unitOf dot sqrt v) (Path.unitOf dot sqrt v) = 1 := by
  have hne : sqrt (dot v v) ≠ 0 := by
    intro h0; rw [h0, mul_zero] at hs; exact (ne_of_gt hpos) hs.symm
  simp only [Path.unitOf, hl, hr, Nat.cast_one]
  generalize sqrt (dot v v) = s at hs hne ⊢
  rw [← hs]
  field_simp

/-- supplies the hypothesis `hτ` of `climb_fixed_point` for every row of `unittangent`, provided no un-normalised
    tangent vanishes. -/
theorem unitTangent_unit (hl : ∀ (k : K) a c, dot (k • a) c = k * dot a c) (hr : ∀ (k : K) a c, dot a (k • c) = k * dot a c)
    (hs : ∀ x : K, 0 ≤ x → sqrt x * sqrt x = x) (c : List V)
    (hpos : ∀ r ∈ Path.rawTangent ((Path.diffs c).map (Path.unitOf dot sqrt)), 0 < dot r r) :
    ∀ τ ∈ Path.unitTangentOf dot sqrt c, dot τ τ = 1 := by
  intro τ hτ
  simp only [Path.unitTangentOf, List.mem_map] at hτ
  obtain ⟨r, hr', rfl⟩ := hτ
  exact unitOf_unit dot sqrt hl hr r (hpos r hr') (hs _ (le_of_lt (hpos r hr')))

theorem diffs_length (c : List V) : (Path.diffs c).length = c.length - 1 := by
  induction c with
  | nil => rfl
  | cons a t ih =>
    cases t with
    | nil => rfl
    | cons b t' => exact congrArg (· + 1) ih

theorem cumsum_length (acc : K) (l : List K) : (Path.cumsum acc l).length = l.length + 1 := by
  induction l generalizing acc with
  | nil => rfl
  | cons x t ih => simp only [Path.cumsum, List.length_cons, ih]

theorem cumsum_head? (acc : K) (l : List K) : (Path.cumsum acc l).head? = some acc := by
  cases l <;> rfl

theorem arccoord_length (c : List V) (hc : c ≠ []) : (Path.arccoordOf dot sqrt c).length = c.length := by
  rw [Path.arccoordOf, cumsum_length, List.length_map, diffs_length]
  exact Nat.sub_add_cancel (List.length_pos_iff.mpr hc)

theorem arccoord_head (c : List V) : (Path.arccoordOf dot sqrt c).head? = some 0 := by
  rw [Path.arccoordOf, cumsum_head?, Nat.cast_zero]

theorem cumsum_chain (acc : K) (l : List K) (hl : ∀ x ∈ l, 0 ≤ x) :
    List.IsChain (· ≤ ·) (Path.cumsum acc l) := by
  induction l generalizing acc with
  | nil => exact List.isChain_singleton acc
  | cons x t ih =>
    obtain ⟨hx, ht⟩ := List.forall_mem_cons.mp hl
    refine (ih (acc + x) ht).cons fun y hy => ?_
    rw [cumsum_head?, Option.mem_def, Option.some.injEq] at hy
    exact hy ▸ le_add_of_nonneg_right hx

theorem arccoord_mono (hs : ∀ x, 0 ≤ sqrt x) (c : List V) :
    List.IsChain (· ≤ ·) (Path.arccoordOf dot sqrt c) := by
  apply cumsum_chain
  intro x hx
  simp only [List.mem_map] at hx
  obtain ⟨v, _, rfl⟩ := hx
  exact hs _

theorem force_zero_of_critical (p : Path V K) (h0 : ∀ t, dot 0 t = 0) (hc : ∀ x ∈ p.coord, p.gradPoint x = 0) :
    ∀ f ∈ p.force dot sqrt, f = 0 := by
  intro f hf
  simp only [Path.force, Path.gradEnergy, Path.gradAt] at hf
  rw [List.zipWith_map_left] at hf
  obtain ⟨i, hi, rfl⟩ := List.mem_iff_getElem.mp hf
  simp only [List.getElem_zipWith]
  rw [hc _ (List.getElem_mem _), h0]

end geometry

section tangentlength
variable {K V : Type} [Field K] [AddCommGroup V] [Module K V]
variable (dot : V → V → K) (sqrt : K → K)

theorem tangentGo_length (prev : V) (l : List V) : (Path.tangentGo prev l).length = l.length + 1 := by
  induction l generalizing prev with
  | nil => rfl
  | cons u t ih => simp only [Path.tangentGo, List.length_cons, ih]

theorem rawTangent_length (l : List V) (hl : l ≠ []) : (Path.rawTangent l).length = l.length + 1 := by
  cases l with
  | nil => exact absurd rfl hl
  | cons u t => simp only [Path.rawTangent, List.length_cons, tangentGo_length]

theorem unitTangentOf_length (c : List V) (hc : 2 ≤ c.length) : (Path.unitTangentOf dot sqrt c).length = c.length := by
  have hne : (Path.diffs c).map (Path.unitOf dot sqrt) ≠ [] :=
    List.ne_nil_of_length_pos (by rw [List.length_map, diffs_length]; exact Nat.sub_pos_of_lt hc)
  rw [Path.unitTangentOf, List.length_map, rawTangent_length _ hne, List.length_map, diffs_length]
  exact Nat.sub_add_cancel (Nat.zero_lt_of_lt hc)

end tangentlength

/-! a change of the unit of length; on the implementation: the two-unit runs of the search -/
section units
variable {K V : Type} [Field K] [LinearOrder K] [IsStrictOrderedRing K] [AddCommGroup V] [Module K V]
variable (dot : V → V → K) (sqrt : K → K)

/-- the length `sqrt (dot v v)` of a vector scales with a positive factor. -/
theorem sqrt_dot_smul (hl : ∀ (k : K) a c, dot (k • a) c = k * dot a c) (hr : ∀ (k : K) a c, dot a (k • c) = k * dot a c)
    (hsq : ∀ (c x : K), 0 < c → sqrt (c * c * x) = c * sqrt x) (c : K) (hc : 0 < c) (v : V) :
    sqrt (dot (c • v) (c • v)) = c * sqrt (dot v v) := by
  rw [hl, hr, ← mul_assoc, hsq c _ hc]

theorem unitOf_scale_invariant (hl : ∀ (k : K) a c, dot (k • a) c = k * dot a c) (hr : ∀ (k : K) a c, dot a (k • c) = k * dot a c)
    (hsq : ∀ (c x : K), 0 < c → sqrt (c * c * x) = c * sqrt x)
    (c : K) (hc : 0 < c) (v : V) :
    Path.unitOf dot sqrt (c • v) = Path.unitOf dot sqrt v := by
  rw [Path.unitOf, Path.unitOf, sqrt_dot_smul dot sqrt hl hr hsq c hc, smul_smul, Nat.cast_one, one_div, one_div, mul_inv, mul_comm c⁻¹,
    mul_assoc, inv_mul_cancel₀ hc.ne', mul_one]

theorem diffs_smul (c : K) (l : List V) : Path.diffs (l.map (c • ·)) = (Path.diffs l).map (c • ·) := by
  induction l with
  | nil => rfl
  | cons a t ih =>
    cases t with
    | nil => rfl
    | cons b t' =>
      simp only [List.map_cons, Path.diffs] at ih ⊢
      rw [ih, smul_sub]

theorem unitTangent_scale_invariant (hl : ∀ (k : K) a c, dot (k • a) c = k * dot a c) (hr : ∀ (k : K) a c, dot a (k • c) = k * dot a c)
    (hsq : ∀ (c x : K), 0 < c → sqrt (c * c * x) = c * sqrt x)
    (c : K) (hc : 0 < c) (l : List V) :
    Path.unitTangentOf dot sqrt (l.map (c • ·)) = Path.unitTangentOf dot sqrt l := by
  have e : Path.unitOf dot sqrt ∘ (c • ·) = Path.unitOf dot sqrt := funext (unitOf_scale_invariant dot sqrt hl hr hsq c hc)
  simp only [Path.unitTangentOf, diffs_smul, List.map_map, e]

theorem arccoord_scale (hl : ∀ (k : K) a c, dot (k • a) c = k * dot a c) (hr : ∀ (k : K) a c, dot a (k • c) = k * dot a c)
    (hsq : ∀ (c x : K), 0 < c → sqrt (c * c * x) = c * sqrt x)
    (c : K) (hc : 0 < c) (l : List V) :
    Path.arccoordOf dot sqrt (l.map (c • ·)) = (Path.arccoordOf dot sqrt l).map (c * ·) := by
  have hcs : ∀ (acc : K) (xs : List K), Path.cumsum (c * acc) (xs.map (c * ·)) = (Path.cumsum acc xs).map (c * ·) := by
    intro acc xs
    induction xs generalizing acc with
    | nil => simp [Path.cumsum]
    | cons x t ih => simp only [List.map_cons, Path.cumsum, ← mul_add, ih]
  simp only [Path.arccoordOf, diffs_smul, List.map_map]
  have e : ((fun v => sqrt (dot v v)) ∘ fun x : V => c • x) = (fun x => c * x) ∘ fun v => sqrt (dot v v) :=
    funext (sqrt_dot_smul dot sqrt hl hr hsq c hc)
  rw [e, ← List.map_map, ← hcs]
  simp
end units

section defaults
variable {K : Type} [Field K] [LinearOrder K] [IsStrictOrderedRing K]

theorem natCast_div_pos (a b : Nat) (ha : 0 < a) (hb : 0 < b) : (0 : K) < (a : K) / (b : K) :=
  div_pos (Nat.cast_pos.mpr ha) (Nat.cast_pos.mpr hb)

theorem defaultTimestep_pos (n : Nat) (hn : 0 < n) : 0 < Path.defaultTimestep (K := K) n := by
  refine mul_pos (natCast_div_pos 1 20 Nat.one_pos (by decide)) ?_
  split
  · exact natCast_div_pos 1 n Nat.one_pos hn
  · exact natCast_div_pos 1 5 Nat.one_pos (by decide)

theorem defaultTimestep_le (n : Nat) : Path.defaultTimestep (K := K) n ≤ 1 / 100 := by
  have h20 : (0 : K) ≤ ((1 : Nat) : K) / ((20 : Nat) : K) := (natCast_div_pos 1 20 Nat.one_pos (by decide)).le
  rw [Path.defaultTimestep]
  split
  · next h => exact (mul_le_mul_of_nonneg_left h.le h20).trans (by norm_num)
  · norm_num

theorem defaultTolerance_pos (n : Nat) : 0 < Path.defaultTolerance (K := K) n := by
  have hb : (0 : K) < ((1 : Nat) : K) / ((10000000000 : Nat) : K) := natCast_div_pos 1 10000000000 Nat.one_pos (by decide)
  rw [Path.defaultTolerance]
  split
  · exact hb
  · next h => exact lt_of_lt_of_le hb (not_lt.mp h)

end defaults

section examples
/-- a one-dimensional path over `ℚ` with energy `x²`, exact gradient, Euler. -/
def exPath : Path ℚ ℚ := ⟨[-1, 0, 2], fun x => x * x, fun _ x _ => 2 * x, none, fun r x h => euler r x h⟩
example : exPath.integratorfxn = fun r x h => euler r x h := rfl
example : (exPath.apply (.setCoord [3])).gradEnergy = [2 * 3] := by
  have := gradEnergy_after_setCoord exPath [] [3]
  simpa [Path.run, exPath] using this
-- `unitOf_unit`: `dot = (·*·)`, `v = 2`, `sqrt 4 = 2`
example : (fun a b : ℚ => a * b) (Path.unitOf (fun a b : ℚ => a * b) (fun _ => 2) (2 : ℚ))
    (Path.unitOf (fun a b : ℚ => a * b) (fun _ => 2) (2 : ℚ)) = 1 :=
  unitOf_unit (fun a b : ℚ => a * b) (fun _ => 2) (by intros; simp [mul_assoc]) (by intros; simp; ring) 2 (by norm_num) (by norm_num)
end examples

end Atomman.C20
