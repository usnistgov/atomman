/-
  C19 — the single pass of `Log.read` and what is read with it.  The loop body is the product of three folds that share the
  counter `i` of non-blank lines: the thermo bookkeeping (`TS`, `tsStep`, `step_ts`; here in closed form over a well-formed
  layout, with the tables cut out by it: `window_at`, `thermoTables_layout`), the version banner (`step_version`,
  `scan_version`) and the timing bookkeeping (`PS`, `pstStep`: C19_Perf; its `nh` is the number of thermo headers).  `readLog`
  as its three parts, each reading one of them: `versionPart`, `thermoTables`, `perfPart` (`readLog_parts`, `readLog_ok_iff`).
-/
import Proofs.C19_Lemmas
import Mathlib.Data.List.Basic

set_option linter.unusedSimpArgs false

namespace Atomman.C19
open List

/-- the fields of `Scan` the thermo bookkeeping reads and writes; `i` counts the NON-BLANK lines, which is also how pandas
    numbers them (`skip_blank_lines=True`). -/
structure TS where
  i : Nat
  hs : List Int
  fs : List Int

def Scan.ts (s : Scan) : TS := ⟨s.i, s.thermoHeaders, s.thermoFooters⟩

def tsStep (s : TS) (line : Str) : TS :=
  if isBlank line then s
  else if hasAny thermoStart line then ⟨s.i + 1, s.hs ++ [(s.i : Int) + Gen.Log.thermoHeaderOffset], s.fs⟩
  else if hasAny thermoEnd line then ⟨s.i + 1, s.hs, s.fs ++ [(s.i : Int) + Gen.Log.thermoFooterOffset]⟩
  else ⟨s.i + 1, s.hs, s.fs⟩

/-- The projections are pushed into the branches of the loop body first (`apply_ite`), so that only the conditions that
    touch the thermo fields are left to split on: splitting the whole body is slow to check. -/
theorem step_ts (s : Scan) (l : Str) : (Scan.step s l).ts = tsStep s.ts l := by
  cases s
  unfold Scan.step tsStep Scan.ts
  by_cases hb : isBlank l = true
  · simp only [hb, if_true]
  · simp only [hb, Bool.false_eq_true, if_false, apply_ite Scan.i, apply_ite Scan.thermoHeaders,
      apply_ite Scan.thermoFooters, ite_self]
    split_ifs <;> rfl

theorem scan_append (s : Scan) (a b : List Str) : scan s (a ++ b) = scan (scan s a) b := by
  simp [scan, foldl_append]

theorem scan_cons (s : Scan) (l : Str) (ls : List Str) : scan s (l :: ls) = scan (Scan.step s l) ls := rfl

theorem scan_ts (s : Scan) (ls : List Str) : (scan s ls).ts = ls.foldl tsStep s.ts := by
  induction ls generalizing s with
  | nil => rfl
  | cons l ls ih => rw [scan_cons, ih, step_ts, foldl_cons]

theorem foldl_tsStep_quiet (s : TS) (ls : List Str) (h : ∀ l ∈ ls, Quiet l) :
    ls.foldl tsStep s = ⟨s.i + (nonBlank ls).length, s.hs, s.fs⟩ := by
  induction ls generalizing s with
  | nil => simp [nonBlank]
  | cons l ls ih =>
    rw [foldl_cons, ih _ (fun l' hl' => h l' (mem_cons_of_mem _ hl'))]
    by_cases hb : isBlank l = true
    · simp [tsStep, hb, nonBlank_cons_blank]
    · have hq := h l mem_cons_self
      rcases hq with hq | ⟨h1, h2⟩
      · exact absurd hq hb
      · simp only [Bool.not_eq_true] at hb
        simp only [tsStep, hb, h1, h2, Bool.false_eq_true, if_false, nonBlank_cons_nb _ _ hb,
          length_cons, TS.mk.injEq, and_true]
        omega

/-- the counted (non-blank) lines of a well-formed run. -/
def Run.nb (r : Run) : List Str :=
  r.banner :: r.header :: (nonBlank r.body ++
    (match r.tail with | none => [] | some (loop, post) => loop :: nonBlank post))

theorem nonBlank_run_lines (r : Run) (last : Bool) (h : r.WF last) : nonBlank r.lines = r.nb := by
  unfold Run.lines Run.nb
  simp only [nonBlank_append, singleton_append, nonBlank_cons_nb _ _ h.banner_nb,
    nonBlank_of_blank _ h.gap_blank, nil_append, nonBlank_cons_nb _ _ h.header_nb, cons_append]
  congr 3
  have ht := h.tail_ok
  cases hr : r.tail with
  | none => simp [nonBlank]
  | some x =>
    obtain ⟨loop, post⟩ := x
    rw [hr] at ht
    simp only at ht
    simp [nonBlank_cons_nb _ _ ht.1]

/-- footers appended by a run: none if it is cut short. -/
def Run.footers (r : Run) (p : Nat) : List Int :=
  match r.tail with
  | none => []
  | some _ => [(p : Int) + 1 + (nonBlank r.body).length]

theorem foldl_tsStep_run (s : TS) (r : Run) (last : Bool) (h : r.WF last) :
    r.lines.foldl tsStep s = ⟨s.i + r.nb.length, s.hs ++ [(s.i : Int) + 1], s.fs ++ r.footers s.i⟩ := by
  have hgap : ∀ l ∈ r.gap, Quiet l := fun l hl => Or.inl (h.gap_blank l hl)
  have hcg : (nonBlank r.gap).length = 0 := by simp [nonBlank_of_blank _ h.gap_blank]
  unfold Run.lines
  simp only [foldl_append, foldl_cons, foldl_nil]
  have h1 : tsStep s r.banner = ⟨s.i + 1, s.hs ++ [(s.i : Int) + 1], s.fs⟩ := by
    simp [tsStep, h.banner_nb, h.banner_start, Gen.Log.thermoHeaderOffset]
  rw [h1, foldl_tsStep_quiet _ _ hgap, hcg]
  have h2 : tsStep ⟨s.i + 1 + 0, s.hs ++ [(s.i : Int) + 1], s.fs⟩ r.header
      = ⟨s.i + 2, s.hs ++ [(s.i : Int) + 1], s.fs⟩ := by
    simp [tsStep, h.header_nb, h.header_quiet.1, h.header_quiet.2]
  rw [h2, foldl_tsStep_quiet _ _ h.body_quiet]
  have ht := h.tail_ok
  unfold Run.nb Run.footers
  cases hr : r.tail with
  | none =>
    simp only [foldl_nil, append_nil, length_cons, length_append, length_nil, TS.mk.injEq, and_true]
    omega
  | some x =>
    obtain ⟨loop, post⟩ := x
    rw [hr] at ht
    simp only at ht
    obtain ⟨hnb, hst, hen, hpost⟩ := ht
    simp only [foldl_cons]
    have h3 : tsStep ⟨s.i + 2 + (nonBlank r.body).length, s.hs ++ [(s.i : Int) + 1], s.fs⟩ loop
        = ⟨s.i + 2 + (nonBlank r.body).length + 1, s.hs ++ [(s.i : Int) + 1],
            s.fs ++ [(s.i : Int) + 1 + (nonBlank r.body).length]⟩ := by
      simp only [tsStep, hnb, hst, hen, Bool.false_eq_true, if_false, if_true, Gen.Log.thermoFooterOffset,
        TS.mk.injEq, true_and, append_cancel_left_eq, cons.injEq, and_true]
      push_cast
      omega
    rw [h3, foldl_tsStep_quiet _ _ hpost]
    simp only [length_cons, length_append, TS.mk.injEq, and_true]
    omega

theorem runsWF_cons (r : Run) (rs : List Run) (h : runsWF (r :: rs)) :
    r.WF (rs.isEmpty) ∧ runsWF rs := by
  cases rs with
  | nil => exact ⟨h, trivial⟩
  | cons r' rs => exact ⟨h.1, h.2⟩

theorem tail_none_last (r : Run) (rs : List Run) (h : r.WF rs.isEmpty) (ht : r.tail = none) : rs = [] := by
  have := h.tail_ok
  rw [ht] at this
  simpa using this

/-- header line numbers recorded for runs starting at counted line `p`. -/
def hdrs (p : Nat) : List Run → List Int
  | [] => []
  | r :: rs => ((p : Int) + 1) :: hdrs (p + r.nb.length) rs

/-- footer line numbers recorded for runs starting at counted line `p`. -/
def ftrs (p : Nat) : List Run → List Int
  | [] => []
  | r :: rs => r.footers p ++ ftrs (p + r.nb.length) rs

theorem foldl_tsStep_runs (s : TS) (rs : List Run) (h : runsWF rs) :
    (rs.flatMap Run.lines).foldl tsStep s
      = ⟨s.i + (rs.flatMap Run.nb).length, s.hs ++ hdrs s.i rs, s.fs ++ ftrs s.i rs⟩ := by
  induction rs generalizing s with
  | nil => simp [hdrs, ftrs]
  | cons r rs ih =>
    obtain ⟨hr, hrs⟩ := runsWF_cons r rs h
    rw [flatMap_cons, foldl_append, foldl_tsStep_run s r _ hr, ih _ hrs]
    simp only [hdrs, ftrs, flatMap_cons, length_append, append_assoc, singleton_append, TS.mk.injEq,
      and_self, and_true]
    omega

theorem nonBlank_runs (rs : List Run) (h : runsWF rs) :
    nonBlank (rs.flatMap Run.lines) = rs.flatMap Run.nb := by
  induction rs with
  | nil => rfl
  | cons r rs ih =>
    obtain ⟨hr, hrs⟩ := runsWF_cons r rs h
    rw [flatMap_cons, nonBlank_append, nonBlank_run_lines r _ hr, ih hrs, flatMap_cons]

theorem readBlocks_nil_left (nb : List Str) (fs : List Int) : readBlocks nb [] fs = .ok [] := by
  cases fs <;> rfl

/-- What every table reader (`readThermo`, `readPerfNew`, `readPerfOld`) does with its `header` / `footer` before it looks
    at a cell: both guards pass, the header line is `hd`, and the `footer - header` lines after it are `win` — for a
    header recorded where `hd` stands after `pre`, and `win` either of exactly that length or cut short by the end of
    the log. -/
theorem window_at (nb pre win rest : List Str) (hd : Str) (header footer : Int) (k : Nat)
    (hnb : nb = pre ++ hd :: (win ++ rest)) (hh : header = pre.length) (hf : footer - header = k)
    (hk : k = win.length ∨ (rest = [] ∧ win.length ≤ k)) :
    ¬ (footer - header < 0) ∧ ¬ (header < 0) ∧ nb[header.toNat]? = some hd ∧
      (nb.drop (header.toNat + 1)).take (footer - header).toNat = win ∧
      (nb.drop header.toNat).take ((footer - header).toNat + 1) = hd :: win := by
  have hw : (win ++ rest).take k = win := by
    rcases hk with rfl | ⟨rfl, hk⟩
    · simp
    · rw [append_nil]; exact take_of_length_le hk
  subst hh hnb
  rw [hf, Int.toNat_natCast, Int.toNat_natCast]
  refine ⟨by omega, by omega, by simp, ?_, ?_⟩
  · rw [drop_length_add_append]; exact hw
  · rw [drop_left, take_succ_cons, hw]

theorem readThermo_run (nb pre rest : List Str) (r : Run) (k : Nat)
    (hnb : nb = pre ++ (r.banner :: r.header :: (nonBlank r.body ++ rest)))
    (hk : k = (nonBlank r.body).length ∨ (rest = [] ∧ (nonBlank r.body).length ≤ k))
    (hw : ∀ l ∈ r.body, (splitWs l).length ≤ (splitWs r.header).length) :
    readThermo nb ((pre.length : Int) + 1) ((pre.length : Int) + 1 + k) = .ok r.table := by
  obtain ⟨g1, g2, g3, g4, -⟩ := window_at nb (pre ++ [r.banner]) _ rest r.header ((pre.length : Int) + 1)
    ((pre.length : Int) + 1 + k) k (by rw [hnb]; simp) (by simp) (by omega) hk
  unfold readThermo
  rw [if_neg g1, if_neg g2, g3]
  simp only [g4]
  rw [if_neg]
  · rfl
  · simp only [any_eq_true, mem_map, decide_eq_true_eq, not_exists, not_and, Nat.not_lt]
    rintro _ ⟨l, hl, rfl⟩
    exact hw l (mem_filter.1 hl).1

theorem readBlocks_runs (nb : List Str) (rs : List Run) (pre : List Str) (h : runsWF rs)
    (hnb : nb = pre ++ rs.flatMap Run.nb) :
    readBlocks nb (hdrs pre.length rs) (ftrs pre.length rs ++ [(nb.length : Int)]) = .ok (rs.map Run.table) := by
  induction rs generalizing pre with
  | nil => simp [hdrs, readBlocks_nil_left]
  | cons r rs ih =>
    obtain ⟨hr, hrs⟩ := runsWF_cons r rs h
    simp only [hdrs, ftrs, map_cons]
    cases ht : r.tail with
    | none =>
      have hrs' := tail_none_last r rs hr ht
      subst hrs'
      have hnb' : nb = pre ++ (r.banner :: r.header :: (nonBlank r.body ++ [])) := by
        rw [hnb]; simp [Run.nb, ht]
      have hlen : (nb.length : Int) = (pre.length : Int) + 1 + ((nonBlank r.body).length + 1 : Nat) := by
        rw [hnb']; simp; omega
      simp only [Run.footers, ht, ftrs, hdrs, nil_append, readBlocks, map_nil]
      rw [hlen, readThermo_run nb pre [] r _ hnb' (Or.inr ⟨rfl, by omega⟩) hr.body_width]
    | some x =>
      obtain ⟨loop, post⟩ := x
      have hnb' : nb = pre ++ (r.banner :: r.header :: (nonBlank r.body
          ++ (loop :: nonBlank post ++ rs.flatMap Run.nb))) := by
        rw [hnb]; simp [Run.nb, ht]
      simp only [Run.footers, ht, singleton_append, cons_append, readBlocks]
      have := readThermo_run nb pre _ r (nonBlank r.body).length hnb' (Or.inl rfl) hr.body_width
      rw [this]
      have hih := ih (pre ++ r.nb) hrs (by rw [hnb]; simp)
      simp only [length_append] at hih
      simp only [nil_append, hih]

theorem thermoTables_eq (sc : Scan) (lines : List Str) :
    thermoTables sc lines = readBlocks (nonBlank lines) sc.ts.hs
      (sc.ts.fs ++ [(sc.ts.i : Int) + Gen.Log.thermoFinalFooterOffset]) := rfl

/-- the thermo bookkeeping after the pass over a well-formed layout: the counter, the header and the footer line numbers
    of the runs, which start after the counted lines of the preamble. -/
theorem foldl_tsStep_layout (L : Layout) (h : L.WF) :
    L.lines.foldl tsStep ⟨0, [], []⟩ = ⟨(nonBlank L.head).length + (L.runs.flatMap Run.nb).length,
      hdrs (nonBlank L.head).length L.runs, ftrs (nonBlank L.head).length L.runs⟩ := by
  unfold Layout.lines
  rw [foldl_append, foldl_tsStep_quiet _ _ h.head_quiet, foldl_tsStep_runs _ _ h.runs_ok]
  simp only [Nat.zero_add, nil_append]

theorem thermoTables_layout (L : Layout) (h : L.WF) (s : Scan) (hs : s.ts = ⟨0, [], []⟩) :
    thermoTables (scan s L.lines) L.lines = .ok (L.runs.map Run.table) := by
  rw [thermoTables_eq, scan_ts, hs, foldl_tsStep_layout L h]
  unfold Layout.lines
  rw [nonBlank_append, nonBlank_runs _ h.runs_ok]
  simp only [Gen.Log.thermoFinalFooterOffset, Int.add_zero]
  have := readBlocks_runs (nonBlank L.head ++ L.runs.flatMap Run.nb) L.runs (nonBlank L.head) h.runs_ok rfl
  simp only [length_append] at this
  exact this

theorem step_version (s : Scan) (l : Str) :
    ((Scan.step s l).haveVersion, (Scan.step s l).versionLine) =
      if isBlank l then (s.haveVersion, s.versionLine)
      else if isVersionLine l && !s.haveVersion then (true, some l)
      else (s.haveVersion, s.versionLine) := by
  cases s
  unfold Scan.step
  by_cases hb : isBlank l = true
  · simp only [hb, if_true]
  · simp only [hb, Bool.false_eq_true, if_false, apply_ite Scan.haveVersion, apply_ite Scan.versionLine, ite_self,
      Gen.Log.versionOnlyIfUnset, Bool.not_true, Bool.or_false]
    split_ifs <;> rfl

/-- the banner bookkeeping of the pass in closed form: once a version is known (`self.lammps_version is not None`) banners
    are ignored; otherwise the line handed to `__read_lammps_version` is the first counted line that starts with
    `LAMMPS (`. -/
theorem scan_version (s : Scan) (ls : List Str) :
    ((scan s ls).haveVersion, (scan s ls).versionLine) =
      if s.haveVersion then (true, s.versionLine) else
      match firstVersionLine ls with
      | none => (false, s.versionLine)
      | some l => (true, some l) := by
  induction ls generalizing s with
  | nil => cases h : s.haveVersion <;> simp [scan, firstVersionLine, nonBlank, h]
  | cons l ls ih =>
    have hv := step_version s l
    rw [Prod.mk.injEq] at hv
    rw [scan_cons, ih, hv.1, hv.2, firstVersionLine_cons]
    cases isBlank l <;> cases isVersionLine l <;> cases s.haveVersion <;> rfl

/-- the state `read` starts from. -/
def startState (st : LogState) (append : Bool) : LogState := if append then st else st.reset

theorem reset_eq (st : LogState) : st.reset = LogState.empty := rfl

theorem startState_true (st : LogState) : startState st true = st := rfl

theorem startState_false (st : LogState) : startState st false = LogState.empty := rfl

/-- the single pass of `read` on a log. -/
def passOf (st : LogState) (append : Bool) (lines : List Str) : Scan :=
  scan { haveVersion := (startState st append).version.isSome } lines

theorem passOf_ts (st : LogState) (append : Bool) (lines : List Str) :
    (passOf st append lines).ts = lines.foldl tsStep ⟨0, [], []⟩ := by
  unfold passOf; rw [scan_ts]; rfl

theorem hdrs_length (p : Nat) (rs : List Run) : (hdrs p rs).length = rs.length := by
  induction rs generalizing p with
  | nil => rfl
  | cons r rs ih => simp [hdrs, ih]

/-- one header is recorded per run (`len(thermo_headers)`, which the timing bookkeeping reads). -/
theorem passOf_nh (L : Layout) (h : L.WF) (st : LogState) (app : Bool) :
    (passOf st app L.lines).thermoHeaders.length = L.runs.length := by
  have e := congrArg TS.hs ((passOf_ts st app L.lines).trans (foldl_tsStep_layout L h))
  exact (congrArg length e).trans (hdrs_length _ _)

/-- the thermo tables of a log read into a new `Log`. -/
def tablesOf (lines : List Str) : Except Err (List Table) := thermoTables (scan {} lines) lines

/-- the tables found in a log are the same whatever was read before. -/
theorem thermoTables_passOf (st : LogState) (append : Bool) (lines : List Str) :
    thermoTables (passOf st append lines) lines = tablesOf lines := by
  unfold tablesOf
  rw [thermoTables_eq, thermoTables_eq, passOf_ts, scan_ts]; rfl

theorem passOf_version (st : LogState) (append : Bool) (lines : List Str) :
    (passOf st append lines).versionLine =
      if (startState st append).version.isSome then none else firstVersionLine lines := by
  refine (congrArg Prod.snd (scan_version { haveVersion := (startState st append).version.isSome } lines)).trans ?_
  cases (startState st append).version.isSome
  · cases firstVersionLine lines <;> rfl
  · rfl

/-- the version string and date a `read` ends with. -/
def versionPart (st : LogState) (append : Bool) (lines : List Str) : Except Err (Option Str × Option Date) :=
  match (passOf st append lines).versionLine with
  | none => .ok ((startState st append).version, (startState st append).date)
  | some l => match dateOf (extractVersion l) with
    | .error e => .error e
    | .ok d => .ok (some (extractVersion l), some d)

/-- the timing tables of a `read`, assigned to the list of records: those there were before, followed by one new record per
    thermo table. -/
def perfPart (st : LogState) (append : Bool) (lines : List Str) (tables : List Table) : Except Err (List Sim) :=
  assignPerf (nonBlank lines) (passOf st append lines).isOld (startState st append).sims.length
    (passOf st append lines).perfHeaders (passOf st append lines).perfSims (passOf st append lines).perfFooters
    ((startState st append).sims ++ tables.map (fun t => ({ thermo := t } : Sim)))

/-- `Log.read` is its three parts, one after the other; the first that raises ends it. -/
theorem readLog_parts (st : LogState) (append : Bool) (lines : List Str) :
    readLog st append lines =
      match versionPart st append lines with
      | .error e => .error e
      | .ok (version, date) =>
        match thermoTables (passOf st append lines) lines with
        | .error e => .error e
        | .ok tables =>
          match perfPart st append lines tables with
          | .error e => .error e
          | .ok sims => .ok { sims := sims, version := version, date := date } := rfl

theorem readLog_ok_iff (st st' : LogState) (append : Bool) (lines : List Str) :
    readLog st append lines = .ok st' ↔ ∃ version date tables sims,
      versionPart st append lines = .ok (version, date) ∧ thermoTables (passOf st append lines) lines = .ok tables ∧
        perfPart st append lines tables = .ok sims ∧ st' = ⟨sims, version, date⟩ := by
  rw [readLog_parts]
  constructor
  · intro h
    -- an `.ok` comes out of the innermost branch only: every other branch of the three `match`es is an `.error`
    repeat' split at h
    all_goals cases h
    exact ⟨_, _, _, _, ‹_›, ‹_›, ‹_›, rfl⟩
  · rintro ⟨_, _, _, _, hv, ht, hp, rfl⟩
    simp only [hv, ht, hp]

theorem versionPart_eq (st : LogState) (append : Bool) (lines : List Str) :
    versionPart st append lines =
      if (startState st append).version.isSome then .ok ((startState st append).version, (startState st append).date)
      else match firstVersionLine lines with
        | none => .ok ((startState st append).version, (startState st append).date)
        | some l => match dateOf (extractVersion l) with
          | .error e => .error e
          | .ok d => .ok (some (extractVersion l), some d) := by
  unfold versionPart
  rw [passOf_version]
  by_cases hv : (startState st append).version.isSome = true
  · rw [if_pos hv, if_pos hv]
  · rw [if_neg hv, if_neg hv]

/-- the version part of `read` does not raise: a version is known, or there is no banner line, or its date parses. -/
theorem versionPart_ok_iff (st : LogState) (append : Bool) (lines : List Str) :
    (∃ vd, versionPart st append lines = .ok vd) ↔
      (startState st append).version.isSome = true ∨ firstVersionLine lines = none ∨
        ∃ l d, firstVersionLine lines = some l ∧ dateOf (extractVersion l) = .ok d := by
  rw [versionPart_eq]
  by_cases hv : (startState st append).version.isSome = true
  · simp [hv]
  · cases firstVersionLine lines with
    | none => simp [hv]
    | some l => cases hd : dateOf (extractVersion l) <;> simp [hv, hd]

end Atomman.C19
