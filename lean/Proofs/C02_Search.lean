/-
  C02 — what the 27-candidate search of `Atomman.dvect` / `Atomman.dmag2` returns: an admissible image of the direct
  separation, not longer than any candidate, the first shortest in loop order; `dmag2` is its squared length; both see the
  two points through their difference only, and no absolute length enters.
  `K` is any linearly ordered field.
-/
import Proofs.C02_Lemmas

namespace Atomman.C02
open Atomman

variable {K : Type} [Field K] [LinearOrder K] [IsStrictOrderedRing K]

omit [IsStrictOrderedRing K] in
/-- the strong form of `dvect_first_shortest`: it also says that no candidate visited later is shorter. -/
theorem dvect_first_min (vects : M3 K) (px py pz : Bool) (p0 p1 : V3 K) :
    ∃ pre s post, candidates px py pz = pre ++ s :: post ∧
      dvect vects px py pz p0 p1 = shiftBy vects (p1 - p0) s ∧
      (∀ t ∈ pre, V3.normSq (shiftBy vects (p1 - p0) s) < V3.normSq (shiftBy vects (p1 - p0) t)) ∧
      ∀ t ∈ post, V3.normSq (shiftBy vects (p1 - p0) s) ≤ V3.normSq (shiftBy vects (p1 - p0) t) := by
  have h := foldl_dvectStep_first vects (p1 - p0) (imageShifts px py pz) (0, 0, 0)
  rwa [shiftBy_zero] at h

set_option linter.unusedSectionVars false in
/-- the first shortest candidate wins: every candidate the loops visit *before* the returned one
    is strictly longer (this is what `<` rather than `<=` decides). -/
theorem dvect_first_shortest (vects : M3 K) (px py pz : Bool) (p0 p1 : V3 K) :
    ∃ pre s post, candidates px py pz = pre ++ s :: post ∧
      dvect vects px py pz p0 p1 = shiftBy vects (p1 - p0) s ∧
      ∀ t ∈ pre, V3.normSq (shiftBy vects (p1 - p0) s) < V3.normSq (shiftBy vects (p1 - p0) t) := by
  obtain ⟨pre, s, post, hc, hs, hpre, _⟩ := dvect_first_min vects px py pz p0 p1
  exact ⟨pre, s, post, hc, hs, hpre⟩

set_option linter.unusedSectionVars false in
/-- the separation returned is the direct one shifted by `n·vects` with every `nᵢ ∈ {-1,0,1}` and
    `nᵢ = 0` on non-periodic axes. -/
theorem dvect_is_image (vects : M3 K) (px py pz : Bool) (p0 p1 : V3 K) :
    ∃ n : Shift, n.admissible px py pz ∧
      dvect vects px py pz p0 p1 = (p1 - p0) + latticeVec vects n := by
  obtain ⟨s, hs, h⟩ := dvect_mem vects px py pz p0 p1
  exact ⟨s, (mem_candidates px py pz s).mp hs, by rw [h, shiftBy_latticeVec]⟩

set_option linter.unusedSectionVars false in
/-- the returned separation is not longer than any of the (at most 27) admissible candidates. -/
theorem dvect_min27 (vects : M3 K) (px py pz : Bool) (p0 p1 : V3 K) (n : Shift)
    (hn : n.admissible px py pz) :
    V3.normSq (dvect vects px py pz p0 p1) ≤ V3.normSq ((p1 - p0) + latticeVec vects n) := by
  obtain ⟨hx, hy, hz⟩ := (admissible_iff px py pz n).mp hn
  rw [← shiftBy_latticeVec]
  exact dvect_le_image vects px py pz p0 p1 n.1 n.2.1 n.2.2 hx hy hz

set_option linter.unusedSectionVars false in
/-- the scalar periodic distance (squared, before the wrapper's `** 0.5`) is the squared length of
    the periodic separation vector. -/
theorem dmag2_eq_normsq_dvect (vects : M3 K) (px py pz : Bool) (p0 p1 : V3 K) :
    dmag2 vects px py pz p0 p1 = V3.normSq (dvect vects px py pz p0 p1) :=
  dmag2_eq_normSq_dvect vects px py pz p0 p1

/-- the squared periodic distance is never negative (so its square root, the distance, always exists). -/
theorem dmag2_nonneg (vects : M3 K) (px py pz : Bool) (p0 p1 : V3 K) : 0 ≤ dmag2 vects px py pz p0 p1 :=
  Atomman.dmag2_nonneg vects px py pz p0 p1

set_option linter.unusedSectionVars false in
/-- a common translation of both points does not change the separation (the model only ever sees `p1 − p0`).  Other
    properties (C17, C03) use the shared forms `dvect_add_right` / `dmag2_add_right` of `Proofs/Images`, not these. -/
theorem dvect_translate (vects : M3 K) (px py pz : Bool) (p0 p1 t : V3 K) :
    dvect vects px py pz (p0 + t) (p1 + t) = dvect vects px py pz p0 p1 :=
  dvect_add_right vects px py pz p0 p1 t

set_option linter.unusedSectionVars false in
theorem dmag2_translate (vects : M3 K) (px py pz : Bool) (p0 p1 t : V3 K) :
    dmag2 vects px py pz (p0 + t) (p1 + t) = dmag2 vects px py pz p0 p1 :=
  dmag2_add_right vects px py pz p0 p1 t

omit [LinearOrder K] [IsStrictOrderedRing K] in
theorem latticeVec_zero (V : M3 K) (d : V3 K) : d + latticeVec V (0, 0, 0) = d := by
  rw [← shiftBy_latticeVec, shiftBy_zero]

/-- **periodic copies**: if `p1` is `p0` seen through the boundary by one of the candidate shifts, the periodic separation
    is the zero vector and the periodic distance exactly `0`, whatever the cell (any tilt, any handedness, `det` may even
    vanish). -/
theorem dvect_periodic_copy (vects : M3 K) (px py pz : Bool) (p0 : V3 K) (n : Shift) (hn : n.admissible px py pz) :
    dvect vects px py pz p0 (p0 + latticeVec vects n) = ⟨0, 0, 0⟩ ∧
    dmag2 vects px py pz p0 (p0 + latticeVec vects n) = 0 := by
  have hmin := dvect_min27 vects px py pz p0 (p0 + latticeVec vects n) _ (admissible_neg hn)
  have hz : (p0 + latticeVec vects n - p0) + latticeVec vects (-n.1, -n.2.1, -n.2.2) = ⟨0, 0, 0⟩ := by
    ext <;> simp only [latticeVec, M3.vecMul, add_x, add_y, add_z, sub_x, sub_y, sub_z, Int.cast_neg] <;> ring
  have h00 : V3.normSq (⟨0, 0, 0⟩ : V3 K) = 0 := by simp only [V3.normSq, V3.dot, mul_zero, add_zero]
  rw [hz, h00] at hmin
  have h0 : V3.normSq (dvect vects px py pz p0 (p0 + latticeVec vects n)) = 0 :=
    le_antisymm hmin (V3.normSq_nonneg _)
  exact ⟨V3.normSq_eq_zero _ h0, by rw [dmag2_eq_normsq_dvect]; exact h0⟩

-- `scaleV c` is `V3.smul c` written out (same bodies as `C01.scaleV` / `C01.scaleM`); the proofs below are
-- `dvect_smul` / `dmag2_smul` of `Proofs/Images.lean`, stated there with `V3.smul`.
def scaleV (c : K) (a : V3 K) : V3 K := ⟨c * a.x, c * a.y, c * a.z⟩
def scaleM (c : K) (m : M3 K) : M3 K := ⟨scaleV c m.r0, scaleV c m.r1, scaleV c m.r2⟩

/-- no absolute length enters: an ångström cell written in metres gives the same separation, in metres. -/
theorem dvect_scale (c : K) (hc : c ≠ 0) (vects : M3 K) (px py pz : Bool) (p0 p1 : V3 K) :
    dvect (scaleM c vects) px py pz (scaleV c p0) (scaleV c p1) = scaleV c (dvect vects px py pz p0 p1) :=
  dvect_smul c hc vects px py pz p0 p1

theorem dmag2_scale (c : K) (hc : c ≠ 0) (vects : M3 K) (px py pz : Bool) (p0 p1 : V3 K) :
    dmag2 (scaleM c vects) px py pz (scaleV c p0) (scaleV c p1) = c ^ 2 * dmag2 vects px py pz p0 p1 := by
  rw [sq]; exact dmag2_smul c hc vects px py pz p0 p1

/-- a decimal (4.05-type) tilted cell: the copy through `(1,-1,0)` is at separation exactly zero. -/
example : dvect (⟨⟨81/20, 0, 0⟩, ⟨81/200, 81/20, 0⟩, ⟨0, -81/100, 81/20⟩⟩ : M3 ℚ) true true false ⟨1/10, 1/5, 3/10⟩
    ((⟨1/10, 1/5, 3/10⟩ : V3 ℚ) + latticeVec (⟨⟨81/20, 0, 0⟩, ⟨81/200, 81/20, 0⟩, ⟨0, -81/100, 81/20⟩⟩ : M3 ℚ) (1, -1, 0)) = ⟨0, 0, 0⟩ := by
  decide +kernel

/-- tie-break: two candidates of equal length, the first in loop order is returned. -/
example : dvect (⟨⟨2, 0, 0⟩, ⟨0, 2, 0⟩, ⟨0, 0, 2⟩⟩ : M3 ℚ) true true true ⟨0, 0, 0⟩ ⟨1, 1, 1⟩ = ⟨1, 1, 1⟩ ∧
    dvect (⟨⟨2, 0, 0⟩, ⟨0, 2, 0⟩, ⟨0, 0, 2⟩⟩ : M3 ℚ) true true true ⟨1, 1, 1⟩ ⟨0, 0, 0⟩ = ⟨-1, -1, -1⟩ := by
  decide +kernel

end Atomman.C02
