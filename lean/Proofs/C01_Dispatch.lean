/-
  C01_Dispatch — re-defining an existing Box: a cell-defining call must not keep anything of the cell the object had before (e.g.
  `set_abc` without `origin` must not keep the old origin), so it yields what a new `Box()` given the same definition is.  And the
  keyword dispatch of `Box.set`: `setOutcome` (the `if / elif` chain together with Python's keyword-call rule) accepts exactly the
  documented parameter sets.
-/
import Proofs.C01_Lemmas
import Mathlib.Algebra.Order.Field.Basic
import Mathlib.Tactic.NormNum

namespace Atomman.C01
open Atomman
set_option linter.unusedSectionVars false

section redefinition
variable {K : Type} [Field K] [LinearOrder K] [IsStrictOrderedRing K]

/-- the calls that define a whole cell: everything except the two attribute setters. -/
def SetOp.definesCell : SetOp K → Bool
  | .attrVects _ => false
  | .attrOrigin _ => false
  | _ => true

/-- a cell-defining call does not look at the cell the object had: vectors *and origin* (the documented
    default `(0,0,0)` where `origin` is omitted) are those of the definition alone. -/
theorem redefine_forgets_previous_cell (thr : K) (s : SetOp K) (h : s.definesCell = true) (b b' : Box K) :
    s.apply? thr b = s.apply? thr b' := by
  cases s <;> first | rfl | cases h

/-- re-defining an existing object (any cell, any origin, reciprocal vectors cached or not) gives the object a new `Box()` given the
    same definition is, and is refused exactly when that is refused. -/
theorem obj_redefine_eq_fresh (thr : K) (s : SetOp K) (h : s.definesCell = true) (c : CBox K) :
    (c.set thr s).2 = ((CBox.fresh : CBox K).set thr s).2 ∧
    ((c.set thr s).2 = .ok → (c.set thr s).1 = ((CBox.fresh : CBox K).set thr s).1) := by
  have e := redefine_forgets_previous_cell thr s h c.box (CBox.fresh : CBox K).box
  have w : s.writesVects = true := by cases s <;> first | rfl | cases h
  unfold CBox.set
  rw [e]
  cases s.apply? thr (CBox.fresh : CBox K).box <;> simp [w]

/-- a refused call (`AssertionError` / `ValueError` before anything is written) leaves the object as it was. -/
theorem obj_rejected_unchanged (thr : K) (c : CBox K) (s : SetOp K) (h : (c.set thr s).2 = .rejected) :
    (c.set thr s).1 = c := by
  unfold CBox.set at h ⊢
  cases hs : s.apply? thr c.box <;> simp_all

/-- `box.origin = o` / `set(origin=o)`: the vectors (and what is cached for them) stay. -/
theorem origin_only_keeps_vects (thr : K) (c : CBox K) (o : V3 K) :
    (c.set thr (.attrOrigin o)).1.box.vects = c.box.vects ∧ (c.set thr (.attrOrigin o)).1.box.origin = o ∧
    (c.set thr (.attrOrigin o)).1.cache = c.cache := by
  simp [CBox.set, SetOp.apply?, setOriginAttr, SetOp.writesVects]

/-- `box.vects = v`: the origin stays. -/
theorem vects_only_keeps_origin (thr : K) (c : CBox K) (v : M3 K) :
    (c.set thr (.attrVects v)).1.box.origin = c.box.origin := by
  simp [CBox.set, SetOp.apply?, setVectsAttr, SetOp.writesVects]

/-- `set()` without arguments: the unit cell at the origin, whatever the object was (threshold below 1). -/
theorem reset_is_unit_cell (thr : K) (h0 : 0 ≤ thr) (h1 : thr < 1) (c : CBox K) :
    (c.set thr .reset).1 = ⟨⟨M3.one, ⟨0, 0, 0⟩⟩, none⟩ ∧ (c.set thr .reset).2 = .ok := by
  have hm : maxAbs (⟨⟨1, 0, 0⟩, ⟨0, 1, 0⟩, ⟨0, 0, 1⟩⟩ : M3 K) = 1 := by
    simp [maxAbs, absK_eq_abs, maxK_eq_max]
  have hc : cleanVects thr (M3.one : M3 K) = M3.one := by
    simp only [cleanVects, M3.one, hm, cleanV, cleanEntry, absK_eq_abs, abs_zero, abs_one, mul_one]
    simp [h0, not_le.mpr h1]
  simp [CBox.set, SetOp.apply?, setVects, hc, SetOp.writesVects]

example : ∃ thr : ℚ, 0 ≤ thr ∧ thr < 1 := ⟨1 / 1000000000, by norm_num, by norm_num⟩

/-- non-vacuity / necessity: the attribute setters *do* depend on the previous cell. -/
example : ∃ (b b' : Box ℚ), (SetOp.attrOrigin ⟨1, 2, 3⟩ : SetOp ℚ).apply? 0 b ≠ (SetOp.attrOrigin ⟨1, 2, 3⟩).apply? 0 b' :=
  ⟨⟨M3.one, ⟨0, 0, 0⟩⟩, ⟨⟨⟨2, 0, 0⟩, ⟨0, 2, 0⟩, ⟨0, 0, 2⟩⟩, ⟨0, 0, 0⟩⟩, by decide +kernel⟩

end redefinition

theorem sigAccepts_iff (sig : Sig) (kws : List String) :
    sigAccepts sig kws = true ↔ (∀ k ∈ kws, k ∈ sig.names) ∧ (∀ r ∈ sig.required, r ∈ kws) := by
  simp [sigAccepts, List.all_eq_true]

theorem set_dispatch_unit_iff (kws : List String) : setOutcome kws = .ok .unit ↔ kws = [] := by
  refine ⟨fun h => ?_, fun h => h ▸ rfl⟩
  -- no branch of the chain stands for the unit cell, so `.ok .unit` can only come from the test for no keywords
  have hu : ∀ p ∈ setChain, p.2 ≠ SetFamily.unit := by decide
  by_contra hne
  rw [setOutcome, List.isEmpty_eq_false_iff.mpr hne] at h
  simp only [Bool.false_eq_true, if_false] at h
  split at h
  · cases h
  · rename_i k f hfind
    split at h
    · cases h; exact hu _ (List.mem_of_find?_eq_some hfind) rfl
    · cases f <;> cases h

/-- soundness: whatever `Box.set` accepts as parameter set `f` consists of keywords of `f` only and
    contains all of its mandatory ones — nothing is silently ignored, no second family is mixed in. -/
theorem set_dispatch_sound (kws : List String) (f : SetFamily) (hf : f ≠ .unit)
    (h : setOutcome kws = .ok f) : (∀ k ∈ kws, k ∈ f.sig.names) ∧ (∀ r ∈ f.sig.required, r ∈ kws) := by
  unfold setOutcome at h
  split at h
  · cases h; exact absurd rfl hf
  · split at h
    · cases h
    · rename_i k g hfind
      split at h
      · rename_i hacc
        cases h
        exact (sigAccepts_iff _ _).mp hacc
      · cases g <;> simp at h

theorem find?_of_imp {α : Type} {p q : α → Bool} {l : List α} {e : α} (hq : l.find? q = some e)
    (hpq : ∀ x, p x = true → q x = true) (hpe : p e = true) : l.find? p = some e := by
  induction l with
  | nil => cases hq
  | cons a l ih =>
    rw [List.find?_cons] at hq ⊢
    cases hqa : q a with
    | true =>
      rw [hqa] at hq
      cases hq
      rw [hpe]
    | false =>
      rw [hqa] at hq
      rw [Bool.eq_false_iff.mpr fun hpa => Bool.eq_false_iff.mp hqa (hpq a hpa)]
      exact ih hq

/-- completeness: every documented parameter set — all mandatory keywords of `f`, any of its optional
    ones (`origin`, the tilts, the angles), nothing else — is dispatched to `f`. -/
theorem set_dispatch_complete (kws : List String) (f : SetFamily) (hf : f ≠ .unit)
    (hsub : ∀ k ∈ kws, k ∈ f.sig.names) (hreq : ∀ r ∈ f.sig.required, r ∈ kws) :
    setOutcome kws = .ok f := by
  have hacc : sigAccepts f.sig kws = true := (sigAccepts_iff _ _).mpr ⟨hsub, hreq⟩
  -- a fact about the table `setChain`: the first key it tests that is a parameter of `f` at all is the key of `f`'s own
  -- entry, and is mandatory for `f`; so it is also the first key found among `kws`
  obtain ⟨e, hfind, hef, hereq⟩ : ∃ e, setChain.find? (fun p => f.sig.names.contains p.1) = some e ∧ e.2 = f ∧
      e.1 ∈ f.sig.required := by
    cases f with
    | unit => exact absurd rfl hf
    | _ => exact ⟨_, rfl, rfl, by decide⟩
  have hmem : e.1 ∈ kws := hreq _ hereq
  have hkws : setChain.find? (fun p => kws.contains p.1) = some e :=
    find?_of_imp hfind (fun x hx => List.contains_iff_mem.mpr (hsub _ (List.contains_iff_mem.mp hx)))
      (List.contains_iff_mem.mpr hmem)
  obtain ⟨k, g⟩ := e
  obtain rfl : g = f := hef
  simp only [setOutcome, List.isEmpty_eq_false_iff.mpr (List.ne_nil_of_mem hmem), hkws, hacc, Bool.false_eq_true, if_false,
    if_true]

example : setOutcome ["a", "b", "c", "gamma"] = .ok .abc ∧ setOutcome ["origin", "lz", "ly", "lx", "yz"] = .ok .lengths ∧
    setOutcome ["vects", "lx"] = .errAssert ∧ setOutcome ["a", "b", "c", "lx"] = .errType ∧
    setOutcome ["lx", "ly", "xy"] = .errType ∧ setOutcome ["foo"] = .errType ∧ setOutcome ["origin", "foo"] = .errAssert := by
  decide

/-- a positional call binds the parameters in the documented order (what `set_abc(a, b, c, 80, 95, 100)` means). -/
theorem positional_order :
    sigAbc.positional 6 = ["a", "b", "c", "alpha", "beta", "gamma"] ∧
    sigLengths.positional 7 = ["lx", "ly", "lz", "xy", "xz", "yz", "origin"] ∧
    sigHiLos.positional 9 = ["xlo", "xhi", "ylo", "yhi", "zlo", "zhi", "xy", "xz", "yz"] ∧
    sigVectors.positional 4 = ["avect", "bvect", "cvect", "origin"] := by decide

end Atomman.C01
