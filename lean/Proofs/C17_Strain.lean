/-
  C17 — the tensor `G` of `Strain.pyx`: `lstsq` as the normal equations returns every exact fit (`G_exact_fit`; `F⁻ᵀ` for a
  homogeneous deformation, `0` for zero right-hand sides), and through the real pairing loop `solve_G` returns `F⁻ᵀ` under
  the pairing hypothesis (`solveG_homogeneous`), with competing vectors (`solveG_homogeneous_competing`), and `1` for the
  undeformed crystal, where the pairing hypotheses are proved from geometry.
-/
import Proofs.C17_Pairing
import Proofs.Lists
import Mathlib.Algebra.Order.Field.Basic

namespace Atomman.C17
open Atomman


variable {K : Type} [Field K] [LinearOrder K] [IsStrictOrderedRing K]

/-- `QᵀP = (QᵀQ) G` when every row obeys `p = q G`: multiplication by `G` commutes with the accumulation. -/
theorem qtp_of_linear (G : M3 K) (pairs : List (V3 K × V3 K)) (hp : ∀ e ∈ pairs, e.1 = M3.vecMul e.2 G) :
    qtp pairs = M3.mul (qtq pairs) G := by
  have := foldl_hom_mem (fun m => M3.mul m G) (fun m (e : V3 K × V3 K) => addM m (outer e.2 e.2))
    (fun m e => addM m (outer e.2 e.1)) pairs zeroM fun m e he => by
      simp only [addM_mul, ← outer_vecMul, ← hp e he]
  rwa [zeroM_mul] at this

/-- `QᵀQ` depends on the matched `q` rows only. -/
def qtqV (qs : List (V3 K)) : M3 K := qs.foldl (fun m q => addM m (outer q q)) zeroM

omit [LinearOrder K] [IsStrictOrderedRing K] in
theorem qtq_eq_qtqV (pairs : List (V3 K × V3 K)) : qtq pairs = qtqV (pairs.map (·.2)) := by
  unfold qtq qtqV
  rw [List.foldl_map]

/-- zero right-hand sides are fitted exactly by `G = 0`, whatever the rank. -/
theorem solveNormal_zero (pairs : List (V3 K × V3 K)) (h : ∀ e ∈ pairs, e.1 = zero3) :
    solveNormal pairs = zeroM := by
  rw [solveNormal, qtp_of_linear zeroM pairs fun e he => (h e he).trans (vecMul_zeroM _).symm, mul_zeroM, mul_zeroM]

/-- the least-squares `G` of a matched set does not depend on the order of the pairs. -/
theorem solveNormal_perm (l l' : List (V3 K × V3 K)) (h : l.Perm l') : solveNormal l = solveNormal l' := by
  unfold solveNormal qtq qtp
  rw [h.foldl_eq' (fun x _ y _ z => addM_right_comm _ _ _) zeroM,
    h.foldl_eq' (fun x _ y _ z => addM_right_comm _ _ _) zeroM]

/-- Whenever some `G` maps every matched `q` row onto its `p` row, `lstsq` (normal equations, full
    rank) returns that `G`. -/
theorem G_exact_fit (G : M3 K) (pairs : List (V3 K × V3 K))
    (hp : ∀ e ∈ pairs, e.1 = M3.vecMul e.2 G) (hrank : M3.det (qtq pairs) ≠ 0) :
    solveNormal pairs = G :=
  (M3.eq_inv_mul_of_mul_eq hrank (qtp_of_linear G pairs hp).symm).symm

/-- If every matched pair satisfies `q = F p` (`F` invertible) and the matched `q` rows have full
    column rank (`det QᵀQ ≠ 0`), the least-squares solution of `Q G = P` is `F⁻ᵀ`: rows obey `p = q F⁻ᵀ`, the
    convention of `Strain.pyx` (`lstsq(Q, P)`). -/
theorem G_homogeneous (F : M3 K) (hF : M3.det F ≠ 0) (pairs : List (V3 K × V3 K))
    (hq : ∀ e ∈ pairs, e.2 = M3.mulVec F e.1) (hrank : M3.det (qtq pairs) ≠ 0) :
    solveNormal pairs = M3.inv F.transpose := by
  have hFt : M3.det F.transpose ≠ 0 := by rw [M3.det_transpose]; exact hF
  have hp : ∀ e ∈ pairs, e.1 = M3.vecMul e.2 (M3.inv F.transpose) := by
    intro e he
    rw [hq e he, M3.mulVec_eq_vecMul, M3.vecMul_vecMul, M3.mul_inv_cancel _ hFt, M3.vecMul_one]
  exact G_exact_fit _ pairs hp hrank

set_option linter.unusedSectionVars false in
set_option linter.unusedVariables false in
/-- for a pure rotation (`Fᵀ F = I`) the inverse transpose is `F` itself: `G = F`.  (`hF` is not needed: `Fᵀ F = I` makes
    `F` invertible.) -/
theorem invT_of_rotation (F : M3 K) (hR : M3.mul F.transpose F = M3.one) (hF : M3.det F ≠ 0) :
    M3.inv F.transpose = F :=
  M3.inv_eq_transpose_of_orth (r := F.transpose) hR

/-- hypotheses of `G_homogeneous`: a simple shear plus stretch, four matched neighbour vectors. -/
example :
    let F : M3 ℚ := ⟨⟨1, 1/10, 0⟩, ⟨0, 21/20, 0⟩, ⟨1/50, 0, 1⟩⟩
    let ps : List (V3 ℚ) := [⟨1, 0, 0⟩, ⟨0, 1, 0⟩, ⟨0, 0, 1⟩, ⟨1, 1, 0⟩]
    let pairs := ps.map fun p => (p, M3.mulVec F p)
    M3.det F ≠ 0 ∧ M3.det (qtq pairs) ≠ 0 ∧ (∀ e ∈ pairs, e.2 = M3.mulVec F e.1) ∧
    solveNormal pairs = M3.inv F.transpose ∧ M3.inv F.transpose ≠ M3.one ∧
    M3.mul F.transpose (solveNormal pairs) = M3.one := by
  decide +kernel

/-- hypothesis of `invT_of_rotation`: the 3-4-5 rotation about z. -/
example :
    let R : M3 ℚ := ⟨⟨3/5, -4/5, 0⟩, ⟨4/5, 3/5, 0⟩, ⟨0, 0, 1⟩⟩
    M3.mul R.transpose R = M3.one ∧ M3.det R ≠ 0 ∧ M3.inv R.transpose = R := by
  decide +kernel

omit [IsStrictOrderedRing K] in
theorem solveG_of_ne (mag : V3 K → K) (cosMax big : K) (ps qs : List (V3 K)) (h : matchPQ mag cosMax big ps qs ≠ []) :
    solveG mag cosMax big ps qs = solveNormal (matchPQ mag cosMax big ps qs) := by
  rw [solveG, if_neg (by simpa using h)]

/-- The whole per-atom computation `match_pq` + `lstsq`: reference vectors `ps`, current
    vectors `qs` with `qs[j] = F ps[ks[j]]`, pairing hypothesis of `matchPQ_pairing_partial`, at least one neighbour
    and full rank of the `q` rows ⇒ `G = F⁻ᵀ`. -/
theorem solveG_homogeneous (mag : V3 K → K) (cosMax big : K) (ps qs : List (V3 K)) (ks : List Nat)
    (F : M3 K) (hF : M3.det F ≠ 0)
    (hlen : qs.length = ks.length)
    (hbest : ∀ e ∈ qs.zip ks, IsBest mag cosMax ps e.1 e.2)
    (hnd : ks.Nodup)
    (hq : ∀ e ∈ qs.zip ks, ∀ p, ps[e.2]? = some p → e.1 = M3.mulVec F p)
    (hne : qs ≠ [])
    (hrank : M3.det (qtqV qs) ≠ 0) :
    solveG mag cosMax big ps qs = M3.inv F.transpose := by
  obtain ⟨h1, _, h3⟩ := matchPQ_pairing_partial mag cosMax big ps qs ks hlen hbest hnd
  rw [solveG_of_ne mag cosMax big ps qs fun hm => hne (by rw [← h3, hm]; rfl)]
  apply G_homogeneous F hF
  · intro pr hpr
    obtain ⟨e, he, a, p, ha, hp, rfl⟩ := mem_matchPQ hpr
    rw [h1] at he
    obtain ⟨e', he', rfl⟩ := List.mem_map.mp he
    exact hq e' he' p (Option.some.inj ha ▸ hp)
  · rw [qtq_eq_qtqV, h3]; exact hrank

/-- the same for `Strain(system, neighbors, basesystem, baseneighbors).G[i]`. -/
theorem strainG_homogeneous (mag : V3 K → K) (cosMax big : K) (c0 c1 : Cell K) (pos0 pos1 : Nat → V3 K)
    (nbrs0 nbrs1 : List Nat) (i : Nat) (ks : List Nat) (F : M3 K) (hF : M3.det F ≠ 0)
    (hlen : nbrs1.length = ks.length)
    (hbest : ∀ e ∈ (nbrVectors c1 pos1 nbrs1 i).zip ks, IsBest mag cosMax (nbrVectors c0 pos0 nbrs0 i) e.1 e.2)
    (hnd : ks.Nodup)
    (hq : ∀ e ∈ (nbrVectors c1 pos1 nbrs1 i).zip ks, ∀ p, (nbrVectors c0 pos0 nbrs0 i)[e.2]? = some p →
      e.1 = M3.mulVec F p)
    (hne : nbrs1 ≠ [])
    (hrank : M3.det (qtqV (nbrVectors c1 pos1 nbrs1 i)) ≠ 0) :
    strainG mag cosMax big c0 c1 pos0 pos1 nbrs0 nbrs1 i = M3.inv F.transpose := by
  unfold strainG
  apply solveG_homogeneous mag cosMax big _ _ ks F hF _ hbest hnd hq _ hrank
  · simpa [nbrVectors] using hlen
  · simpa [nbrVectors] using hne

/-- `G = F⁻ᵀ` through the real pairing loop WITHOUT the hypothesis that distinct
    `q` pick distinct `p`: call a current vector *true* (`good`) when it is the image `F p` of its best reference
    vector.  If every other current vector that finds a reference vector inside `θ_max` competes for it with a true
    vector strictly closer to the first-shell radius, then all surviving pairs are true pairs and `lstsq` (full rank)
    returns `F⁻ᵀ` — whatever the number of competitors per reference vector. -/
theorem solveG_homogeneous_competing (mag : V3 K → K) (cosMax big : K) (ps qs : List (V3 K))
    (F : M3 K) (hF : M3.det F ≠ 0) (good : V3 K → Prop)
    (hgood : ∀ q ∈ qs, good q → ∀ a p, bestP mag cosMax q ps = some a → ps[a]? = some p → q = M3.mulVec F p)
    (hextra : ∀ q ∈ qs, ¬ good q → ∀ a, bestP mag cosMax q ps = some a →
      ∃ t ∈ qs, good t ∧ bestP mag cosMax t ps = some a ∧
        rad mag (shortest mag big ps) t < rad mag (shortest mag big ps) q)
    (hne : matchPQ mag cosMax big ps qs ≠ [])
    (hrank : M3.det (qtq (matchPQ mag cosMax big ps qs)) ≠ 0) :
    solveG mag cosMax big ps qs = M3.inv F.transpose := by
  have hinv := qpPairs_inv mag cosMax big ps qs
  rw [solveG_of_ne mag cosMax big ps qs hne]
  apply G_homogeneous F hF _ _ hrank
  intro pr hpr
  obtain ⟨e, he, a, p, ha, hp, rfl⟩ := mem_matchPQ hpr
  obtain ⟨hb, hw⟩ := matchPQ_winner_closest mag cosMax big ps qs e he a ha
  have heq : e.1 ∈ qs := by
    have := hinv.keys
    rw [← this]
    exact List.mem_map_of_mem he
  by_cases hg : good e.1
  · exact hgood e.1 heq hg a p hb hp
  · obtain ⟨t, ht, _, htb, hlt⟩ := hextra e.1 heq hg a hb
    exact absurd (hw t ht htb) (not_le.mpr hlt)

-- reference neighbour vectors (all of length 5), the 7-24-25 rotation about z (16.3° < θ_max = 27°), and the rotated
-- vectors listed in another order
def exPs : List (V3 ℚ) := [⟨3, 4, 0⟩, ⟨-4, 3, 0⟩, ⟨0, 0, 5⟩]

def exR : M3 ℚ := ⟨⟨24/25, -7/25, 0⟩, ⟨7/25, 24/25, 0⟩, ⟨0, 0, 1⟩⟩

def exQs : List (V3 ℚ) := [M3.mulVec exR ⟨0, 0, 5⟩, M3.mulVec exR ⟨3, 4, 0⟩, M3.mulVec exR ⟨-4, 3, 0⟩]

def exKs : List Nat := [2, 0, 1]

def exMag : V3 ℚ → ℚ := fun _ => 5

/-- hypotheses of `matchPQ_pairing_partial` and `solveG_homogeneous`, and their conclusions evaluated. -/
example :
    (∀ e ∈ exQs.zip exKs, IsBest exMag (891/1000) exPs e.1 e.2) ∧ exKs.Nodup ∧ exQs.length = exKs.length ∧
    (∀ v ∈ exPs ++ exQs, exMag v * exMag v = V3.normSq v) ∧
    M3.det exR ≠ 0 ∧ exQs ≠ [] ∧ M3.det (qtqV exQs) ≠ 0 ∧
    (∀ e ∈ exQs.zip exKs, ∀ p, exPs[e.2]? = some p → e.1 = M3.mulVec exR p) ∧
    (qpPairs exMag (891/1000) 10000000000000000 exPs exQs).map (·.2) = [some 2, some 0, some 1] ∧
    solveG exMag (891/1000) 10000000000000000 exPs exQs = M3.inv exR.transpose ∧
    solveG exMag (891/1000) 10000000000000000 exPs exQs = exR := by
  have hG : solveG exMag (891/1000) 10000000000000000 exPs exQs = exR := by decide +kernel
  refine ⟨?_, by decide +kernel, by decide +kernel, by decide +kernel, by decide +kernel, by decide +kernel,
    by decide +kernel, by decide +kernel, by decide +kernel, hG.trans (by decide +kernel), hG⟩
  have h : ∀ e ∈ exQs.zip exKs, ∃ hk : e.2 < exPs.length, 891/1000 < cosTheta exMag e.1 exPs[e.2] ∧
      ∀ k' (hk' : k' < exPs.length), k' ≠ e.2 → cosTheta exMag e.1 exPs[k'] < cosTheta exMag e.1 exPs[e.2] := by
    decide +kernel
  intro e he
  obtain ⟨hk, hc, hlt⟩ := h e he
  exact isBest_of_strict exMag _ exPs e.1 e.2 hk hc hlt

def exMag1 : V3 ℚ → ℚ := fun v => absK v.x + absK v.y + absK v.z

def exPs3 : List (V3 ℚ) := [⟨5, 0, 0⟩, ⟨0, 5, 0⟩, ⟨0, 0, 5⟩]

def exF3 : M3 ℚ := ⟨⟨11/10, 0, 0⟩, ⟨0, 1, 0⟩, ⟨0, 0, 1⟩⟩

def exQs3 : List (V3 ℚ) := [⟨33/2, 0, 0⟩, ⟨11, 0, 0⟩, ⟨0, 5, 0⟩, ⟨11/2, 0, 0⟩, ⟨0, 0, 5⟩, ⟨0, 0, 10⟩, ⟨22, 0, 0⟩]

def exImg3 : List (V3 ℚ) := exPs3.map (M3.mulVec exF3)

def exGood3 (q : V3 ℚ) : Bool := exImg3.contains q

/-- three (and four) current vectors competing for ONE reference vector, listed so that each later one wins: the
    pairing ends with a single pair (the vector closest to `r1 = 5`), the hypotheses of
    `solveG_homogeneous_competing` hold for the stretch `F = diag(11/10, 1, 1)` (true images `F p`, foreign vectors
    of 2x / 3x the length along the same direction), and `G = F⁻ᵀ`. -/
example :
    (qpPairs exMag1 (891/1000) 10000000000000000 exPs3 exQs3).map (·.2)
      = [none, none, some 1, some 0, some 2, none, none] ∧
    solveG exMag1 (891/1000) 10000000000000000 exPs3 exQs3 = M3.inv exF3.transpose := by
  refine ⟨by decide +kernel, ?_⟩
  have h1 : ∀ q ∈ exQs3, exGood3 q = true → ∀ a ∈ List.range 3, ∀ p ∈ exPs3,
      bestP exMag1 (891/1000) q exPs3 = some a → exPs3[a]? = some p → q = M3.mulVec exF3 p := by decide +kernel
  have h2 : ∀ q ∈ exQs3, ¬ exGood3 q = true → ∀ a ∈ List.range 3, bestP exMag1 (891/1000) q exPs3 = some a →
      ∃ t ∈ exQs3, exGood3 t = true ∧ bestP exMag1 (891/1000) t exPs3 = some a ∧
        rad exMag1 (shortest exMag1 10000000000000000 exPs3) t < rad exMag1 (shortest exMag1 10000000000000000 exPs3) q := by
    decide +kernel
  have h3 : ∀ q ∈ exQs3, ∀ a, bestP exMag1 (891/1000) q exPs3 = some a → a ∈ List.range 3 :=
    fun q _ a hb => List.mem_range.mpr (bestP_lt exMag1 _ q exPs3 a hb)
  apply solveG_homogeneous_competing exMag1 _ _ exPs3 exQs3 exF3 (by decide +kernel) (fun q => exGood3 q = true)
  · intro q hq hg a p hb hp
    exact h1 q hq hg a (h3 q hq a hb) p (List.mem_of_getElem? hp) hb hp
  · intro q hq hg a hb
    exact h2 q hq hg a (h3 q hq a hb) hb
  · decide +kernel
  · decide +kernel

theorem cosTheta_self (mag : V3 K → K) (p : V3 K) (h0 : 0 < mag p) (h1 : mag p * mag p = V3.normSq p) :
    cosTheta mag p p = 1 := by
  unfold cosTheta
  rw [h1]
  have : V3.normSq p ≠ 0 := by rw [← h1]; positivity
  exact div_self this

theorem cosTheta_lt_one (mag : V3 K → K) (q p : V3 K) (hq : 0 < mag q) (hp : 0 < mag p)
    (h : V3.dot q p < mag q * mag p) : cosTheta mag q p < 1 := by
  unfold cosTheta
  rw [div_lt_one (by positivity)]
  exact h

/-- a reference vector (positive length, no other reference vector parallel to it) is its own best match. -/
theorem isBest_self (mag : V3 K → K) (cosMax : K) (pre post : List (V3 K)) (p : V3 K) (hc : cosMax < 1)
    (hmag : ∀ x ∈ pre ++ p :: post, 0 < mag x ∧ mag x * mag x = V3.normSq x)
    (hsep : (pre ++ p :: post).Pairwise (fun a b => V3.dot a b < mag a * mag b)) :
    IsBest mag cosMax (pre ++ p :: post) p pre.length := by
  have hm := hmag p (by simp)
  have hs := List.pairwise_append.mp hsep
  have h1 : cosTheta mag p p = 1 := cosTheta_self mag p hm.1 hm.2
  have key : ∀ x ∈ pre ++ p :: post, V3.dot p x < mag p * mag x → cosTheta mag p x < cosTheta mag p p :=
    fun x hx h => by rw [h1]; exact cosTheta_lt_one mag p x hm.1 (hmag x hx).1 h
  refine ⟨pre, p, post, rfl, rfl, by rw [h1]; exact hc, fun x hx => key x (by simp [hx]) ?_,
    fun x hx => le_of_lt (key x (by simp [hx]) ((List.pairwise_cons.mp hs.2.1).1 x hx))⟩
  rw [V3.dot_comm, mul_comm]
  exact hs.2.2 x hx p List.mem_cons_self

theorem isBest_self_idx (mag : V3 K → K) (cosMax : K) (ps : List (V3 K)) (hc : cosMax < 1)
    (hmag : ∀ x ∈ ps, 0 < mag x ∧ mag x * mag x = V3.normSq x)
    (hsep : ps.Pairwise (fun a b => V3.dot a b < mag a * mag b)) (k : Nat) (hk : k < ps.length) :
    IsBest mag cosMax ps ps[k] k := by
  have hdec : ps = ps.take k ++ ps[k] :: ps.drop (k + 1) := by
    rw [List.getElem_cons_drop, List.take_append_drop]
  have := isBest_self mag cosMax (ps.take k) (ps.drop (k + 1)) ps[k] hc (by rw [← hdec]; exact hmag)
    (by rw [← hdec]; exact hsep)
  rwa [← hdec, List.length_take, Nat.min_eq_left hk.le] at this

/-- No deformation (`q = p`, the identity is a homogeneous deformation) — here the pairing
    hypothesis is *proved*, from geometry alone: `mag` is a positive square root of the squared length, `cos θ_max < 1`
    and no two reference neighbour vectors point in the same direction (`p_j · p_k < |p_j| |p_k|`, strict
    Cauchy–Schwarz).  Then every `q` picks its own `p`, nothing is discarded and `G = I`. -/
theorem solveG_undeformed (mag : V3 K → K) (cosMax big : K) (ps : List (V3 K))
    (hc : cosMax < 1)
    (hmag : ∀ p ∈ ps, 0 < mag p ∧ mag p * mag p = V3.normSq p)
    (hsep : ps.Pairwise (fun a b => V3.dot a b < mag a * mag b))
    (hne : ps ≠ [])
    (hrank : M3.det (qtqV ps) ≠ 0) :
    solveG mag cosMax big ps ps = M3.one := by
  rw [← M3.inv_transpose_one]
  apply solveG_homogeneous mag cosMax big ps ps (List.range ps.length) M3.one M3.det_one_ne_zero (by simp) ?_ List.nodup_range ?_ hne hrank
  · intro e he
    obtain ⟨i, hi, rfl⟩ := List.mem_iff_getElem.mp he
    simp only [List.length_zip, List.length_range, Nat.min_self] at hi
    simp only [List.getElem_zip, List.getElem_range]
    exact isBest_self_idx mag cosMax ps hc hmag hsep i hi
  · intro e he p hp
    obtain ⟨i, hi, rfl⟩ := List.mem_iff_getElem.mp he
    simp only [List.length_zip, List.length_range, Nat.min_self] at hi
    simp only [List.getElem_zip, List.getElem_range, List.getElem?_eq_getElem hi, Option.some.injEq] at hp ⊢
    rw [← hp, M3.one_mulVec]

/-- The undeformed crystal analysed with a current neighbour list that holds MORE
    than the reference set (further shells): every reference vector occurs among the current ones, every other current
    vector is longer than every reference vector.  Here the hypotheses of `solveG_homogeneous_competing` are *proved*
    from geometry (`cos θ_max < 1`, positive square root, no two reference vectors parallel): each reference vector is
    its own best match, and a farther-shell vector that finds a reference vector inside `θ_max` — however many of them
    do — loses it to that vector itself, which is closer to `r1`.  Hence `G = I` for every `θ_max`. -/
theorem solveG_undeformed_extra_shells (mag : V3 K → K) (cosMax big : K) (ps qs : List (V3 K))
    (hc : cosMax < 1)
    (hmag : ∀ p ∈ ps, 0 < mag p ∧ mag p * mag p = V3.normSq p)
    (hsep : ps.Pairwise (fun a b => V3.dot a b < mag a * mag b))
    (hsub : ∀ p ∈ ps, p ∈ qs)
    (hext : ∀ q ∈ qs, q ∉ ps → ∀ p ∈ ps, mag p < mag q)
    (hne : matchPQ mag cosMax big ps qs ≠ [])
    (hrank : M3.det (qtq (matchPQ mag cosMax big ps qs)) ≠ 0) :
    solveG mag cosMax big ps qs = M3.one := by
  rw [← M3.inv_transpose_one]
  have hself : ∀ a (ha : a < ps.length), bestP mag cosMax ps[a] ps = some a := fun a ha =>
    bestP_of_isBest mag cosMax ps _ a (isBest_self_idx mag cosMax ps hc hmag hsep a ha)
  apply solveG_homogeneous_competing mag cosMax big ps qs M3.one M3.det_one_ne_zero (fun q => q ∈ ps) ?_ ?_ hne hrank
  · intro q _ hg a p hb hp
    rw [M3.one_mulVec]
    obtain ⟨k, hk, rfl⟩ := List.getElem_of_mem hg
    have := hself k hk
    rw [this] at hb
    have hka : k = a := Option.some.inj hb
    subst hka
    rw [List.getElem?_eq_getElem hk] at hp
    exact Option.some.inj hp
  · intro q hq hg a hb
    have ha := bestP_lt mag cosMax q ps a hb
    refine ⟨ps[a], hsub _ (List.getElem_mem ha), List.getElem_mem ha, hself a ha, ?_⟩
    apply rad_lt_of_longer
    · exact (shortest_le mag big ps).2 _ (List.getElem_mem ha)
    · exact hext q hq hg _ (List.getElem_mem ha)

def exQs4 : List (V3 ℚ) := [⟨10, 0, 0⟩, ⟨0, 5, 0⟩, ⟨15, 0, 0⟩, ⟨5, 0, 0⟩, ⟨0, 0, 10⟩, ⟨0, 0, 5⟩]

/-- hypotheses of `solveG_undeformed_extra_shells`: three orthogonal reference vectors of length 5, a current list that
    also holds the doubled and tripled vectors (several of them inside `θ_max` of one reference vector), `G = I`. -/
example :
    (qpPairs exMag1 (891/1000) 10000000000000000 exPs3 exQs4).map (·.2) = [none, some 1, none, some 0, none, some 2] ∧
    solveG exMag1 (891/1000) 10000000000000000 exPs3 exQs4 = M3.one := by
  refine ⟨by decide +kernel, ?_⟩
  apply solveG_undeformed_extra_shells exMag1 _ _ exPs3 exQs4 (by decide +kernel) (by decide +kernel) (by decide +kernel)
  · intro p hp
    simp only [exPs3, List.mem_cons, List.mem_nil_iff, or_false] at hp
    rcases hp with rfl | rfl | rfl <;> simp [exQs4]
  · intro q hq hn p hp
    simp only [exQs4, List.mem_cons, List.mem_nil_iff, or_false] at hq
    simp only [exPs3, List.mem_cons, List.mem_nil_iff, or_false] at hp
    rcases hq with rfl | rfl | rfl | rfl | rfl | rfl
    · rcases hp with rfl | rfl | rfl <;> decide +kernel
    · exact absurd (by simp [exPs3]) hn
    · rcases hp with rfl | rfl | rfl <;> decide +kernel
    · exact absurd (by simp [exPs3]) hn
    · rcases hp with rfl | rfl | rfl <;> decide +kernel
    · exact absurd (by simp [exPs3]) hn
  · decide +kernel
  · decide +kernel

/-- hypotheses of `solveG_undeformed` (three mutually orthogonal reference vectors of length 5) and its conclusion. -/
example :
    (891/1000 : ℚ) < 1 ∧ (∀ p ∈ exPs, 0 < exMag p ∧ exMag p * exMag p = V3.normSq p) ∧
    exPs.Pairwise (fun a b => V3.dot a b < exMag a * exMag b) ∧ exPs ≠ [] ∧ M3.det (qtqV exPs) ≠ 0 ∧
    solveG exMag (891/1000) 10000000000000000 exPs exPs = M3.one := by
  decide +kernel

end Atomman.C17
