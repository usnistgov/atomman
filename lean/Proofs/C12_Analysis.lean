/-
  The Stroh clauses as derivatives and limits over ℂ: `dispField` is the coded displacement with `np.log` read as the principal
  `Complex.log` (and `π`, `i` the real things).  Building blocks first (`hasDerivAt_modeSum`, `tendsto_log_line`), then the
  theorems, which instantiate the algebraic core of `Proofs/C12_Stroh`.
-/
import Proofs.C12_Stroh
import Mathlib.Analysis.SpecialFunctions.Complex.LogDeriv
set_option linter.unusedSectionVars false
set_option linter.unusedSimpArgs false

namespace Atomman.C12
open Complex

theorem hasDerivAt_eta (s : Setup ℂ) (μ : Mode ℂ) (x e : Vec ℂ) (t : ℂ) :
    HasDerivAt (fun t => eta s μ (fun i => x i + t * e i)) (dot e (mpn s μ)) t := by
  have : (fun t : ℂ => eta s μ (fun i => x i + t * e i)) = fun t => eta s μ x + t * dot e (mpn s μ) := by
    funext t; exact eta_dir_deriv s μ x e t
  rw [this]
  simpa using ((hasDerivAt_id t).mul_const (dot e (mpn s μ))).const_add (eta s μ x)

def basisVec (j : Fin 3) : Vec ℂ := fun i => if i = j then 1 else 0

theorem dot_basisVec (j : Fin 3) (v : Vec ℂ) : dot (basisVec j) v = v j := by
  fin_cases j <;> simp [dot, sum3, basisVec]

theorem hasDerivAt_modeSum (c : Fin 6 → ℂ) (f : ℂ → ℂ) (f' : Fin 6 → ℂ) (s : Setup ℂ) (μ : Fin 6 → Mode ℂ) (x : Vec ℂ)
    (j : Fin 3) (hf : ∀ a, HasDerivAt f (f' a) (eta s (μ a) x)) :
    HasDerivAt (fun t : ℂ => sum6 fun a => c a * f (eta s (μ a) (fun i => x i + t * basisVec j i)))
      (sum6 fun a => c a * mpn s (μ a) j * f' a) 0 := by
  simp only [sum6_eq_finset, mul_assoc]
  refine HasDerivAt.fun_sum fun a _ => HasDerivAt.const_mul (c a) ?_
  have h := hasDerivAt_eta s (μ a) x (basisVec j) 0
  rw [dot_basisVec] at h
  exact (HasDerivAt.comp (0 : ℂ) (by simpa using hf a) h).congr_deriv (mul_comm _ _)

/-- the displacement as a function of the field point: `np.log` is the principal complex logarithm. -/
noncomputable def dispField (pi I : ℂ) (s : Setup ℂ) (μ : Fin 6 → Mode ℂ) (k : Fin 6 → ℂ) (x : Vec ℂ) : Vec ℂ :=
  dispAt pi I s μ k (fun a => Complex.log (eta s (μ a) x))

open Filter Topology in
theorem tendsto_log_line (x0 : ℝ) (hx : x0 < 0) (p : ℂ) :
    (0 < p.im → Tendsto (fun y : ℝ => Complex.log (x0 + p * y)) (𝓝[>] 0) (𝓝 (Real.log ‖(x0 : ℂ)‖ + Real.pi * I))
      ∧ Tendsto (fun y : ℝ => Complex.log (x0 + p * y)) (𝓝[<] 0) (𝓝 (Real.log ‖(x0 : ℂ)‖ - Real.pi * I)))
    ∧ (p.im < 0 → Tendsto (fun y : ℝ => Complex.log (x0 + p * y)) (𝓝[>] 0) (𝓝 (Real.log ‖(x0 : ℂ)‖ - Real.pi * I))
      ∧ Tendsto (fun y : ℝ => Complex.log (x0 + p * y)) (𝓝[<] 0) (𝓝 (Real.log ‖(x0 : ℂ)‖ + Real.pi * I))) := by
  have hre : ((x0 : ℂ)).re < 0 := by simpa using hx
  have him : ((x0 : ℂ)).im = 0 := by simp
  have hto : Tendsto (fun y : ℝ => (x0 : ℂ) + p * y) (𝓝 0) (𝓝 (x0 : ℂ)) := by
    have : Continuous fun y : ℝ => (x0 : ℂ) + p * y := by fun_prop
    simpa using this.tendsto 0
  -- on a filter at `0` the limit is decided by the sign of `Im (x₀ + p y) = Im p · y`
  have side : ∀ l : Filter ℝ, l ≤ 𝓝 0 →
      ((∀ᶠ y in l, 0 ≤ p.im * y) →
        Tendsto (fun y : ℝ => Complex.log (x0 + p * y)) l (𝓝 (Real.log ‖(x0 : ℂ)‖ + Real.pi * I)))
      ∧ ((∀ᶠ y in l, p.im * y < 0) →
        Tendsto (fun y : ℝ => Complex.log (x0 + p * y)) l (𝓝 (Real.log ‖(x0 : ℂ)‖ - Real.pi * I))) := fun l hl =>
    ⟨fun h => (tendsto_log_nhdsWithin_im_nonneg_of_re_neg_of_im_zero hre him).comp
        (tendsto_nhdsWithin_of_tendsto_nhds_of_eventually_within _ (hto.mono_left hl) (h.mono fun y hy => by simpa using hy)),
      fun h => (tendsto_log_nhdsWithin_im_neg_of_re_neg_of_im_zero hre him).comp
        (tendsto_nhdsWithin_of_tendsto_nhds_of_eventually_within _ (hto.mono_left hl) (h.mono fun y hy => by simpa using hy))⟩
  have pos : ∀ᶠ y : ℝ in 𝓝[>] 0, 0 < y := self_mem_nhdsWithin
  have neg : ∀ᶠ y : ℝ in 𝓝[<] 0, y < 0 := self_mem_nhdsWithin
  exact ⟨fun hp => ⟨(side _ nhdsWithin_le_nhds).1 (pos.mono fun y hy => (mul_pos hp hy).le),
      (side _ nhdsWithin_le_nhds).2 (neg.mono fun y hy => mul_neg_of_pos_of_neg hp hy)⟩,
    fun hp => ⟨(side _ nhdsWithin_le_nhds).2 (pos.mono fun y hy => mul_neg_of_neg_of_pos hp hy),
      (side _ nhdsWithin_le_nhds).1 (neg.mono fun y hy => (mul_pos_of_neg_of_neg hp hy).le)⟩⟩

open Filter Topology in
theorem tendsto_sum6 {l : Filter ℝ} (c : Fin 6 → ℂ) (f : Fin 6 → ℝ → ℂ) (L : Fin 6 → ℂ)
    (h : ∀ a, Tendsto (f a) l (𝓝 (L a))) :
    Tendsto (fun y => sum6 fun a => c a * f a y) l (𝓝 (sum6 fun a => c a * L a)) := by
  simp only [sum6_eq_finset]
  exact tendsto_finsetSum _ fun a _ => (h a).const_mul (c a)


section analysis
open Complex

/-- **strain = symmetric gradient of the displacement, as a derivative**: off the cuts of the six logarithms
    (`ηₐ(x) ∈ slitPlane`) the coded displacement is differentiable along every coordinate axis, with partial
    derivatives `G i j = ∂ⱼ uᵢ`, and the coded strain is `(G i j + G j i)/2`. -/
theorem strain_is_symgrad_deriv (pi I : ℂ) (s : Setup ℂ) (μ : Fin 6 → Mode ℂ) (k : Fin 6 → ℂ) (x : Vec ℂ)
    (hx : ∀ a, eta s (μ a) x ∈ slitPlane) :
    ∃ G : Mat ℂ,
      (∀ i j, HasDerivAt (fun t : ℂ => dispField pi I s μ k (fun c => x c + t * basisVec j c) i) (G i j) 0)
      ∧ ∀ i j, strainAt pi I s μ k x i j = (G i j + G j i) / 2 := by
  refine ⟨fun i j => sum6 fun a => dispCoef pi I s μ k a i * mpn s (μ a) j * (eta s (μ a) x)⁻¹, fun i j => ?_, fun i j => ?_⟩
  · unfold dispField dispAt
    exact hasDerivAt_modeSum _ Complex.log _ s μ x j fun a => Complex.hasDerivAt_log (hx a)
  · simp only [strainAt, strain_is_symgrad, sum6]
    ring

/-- **div σ = 0 as a derivative**: away from the line (`ηₐ(x) ≠ 0`) the coded stress is differentiable along every
    coordinate axis, `D i j = ∂ⱼ σᵢⱼ`, and `Σⱼ D i j = 0` when every mode solves the sextic equation. -/
theorem stress_div_free_deriv (pi I : ℂ) (s : Setup ℂ) (μ : Fin 6 → Mode ℂ) (k : Fin 6 → ℂ) (x : Vec ℂ)
    (hC : ∀ i j k l, s.C i j k l = s.C j i k l) (hx : ∀ a, eta s (μ a) x ≠ 0)
    (hsext : ∀ a i, matVec (sextic s (μ a).p) (μ a).A i = 0) :
    ∃ D : Mat ℂ,
      (∀ i j, HasDerivAt (fun t : ℂ => stressAt pi I s μ k (fun c => x c + t * basisVec j c) i j) (D i j) 0)
      ∧ ∀ i, (sum3 fun j => D i j) = 0 := by
  refine ⟨fun i j => sum6 fun a => stressCoef pi I s μ k a i j * mpn s (μ a) j * -(eta s (μ a) x ^ 2)⁻¹,
    fun i j => ?_, fun i => ?_⟩
  · unfold stressAt
    exact hasDerivAt_modeSum _ (fun z => ((1 : ℕ) : ℂ) / z) _ s μ x j fun a => by
      simpa [one_div] using hasDerivAt_inv (hx a)
  · -- `Σⱼ` and `Σₐ` exchanged: mode `a` contributes `-(Σⱼ stressCoef a i j (m+pₐn)ⱼ) / ηₐ²`, zero by `stress_div_free`
    rw [← sum6_sum3_mul]
    simp only [fun a => stress_div_free pi I s μ k hC a (hsext a) i, zero_mul]
    simp only [sum6, add_zero]

/-- **continuous elsewhere**: the coded displacement is continuous at every point where no `ηₐ` lies on the cut of
    the logarithm. -/
theorem disp_continuous_off_cut_analytic (pi I : ℂ) (s : Setup ℂ) (μ : Fin 6 → Mode ℂ) (k : Fin 6 → ℂ) (x : Vec ℂ)
    (hx : ∀ a, eta s (μ a) x ∈ slitPlane) (i : Fin 3) :
    ContinuousAt (fun x' : Vec ℂ => dispField pi I s μ k x' i) x := by
  have he : ∀ a, ContinuousAt (fun x' : Vec ℂ => eta s (μ a) x') x := by
    intro a
    simp only [eta, dot, sum3]
    fun_prop
  have hl : ∀ a, ContinuousAt (fun x' : Vec ℂ => Complex.log (eta s (μ a) x')) x := fun a => (he a).clog (hx a)
  unfold dispField dispAt
  simp only [sum6]
  fun_prop

open Filter Topology in
/-- **the displacement jumps by exactly the Burgers vector across the cut half-plane**: along the path
    `X(y) = x₀ m + y n` (`x₀ < 0`, orthonormal `m, n`) the coded displacement — with `np.log` the principal complex
    logarithm and `π`, `i` the real things — has one-sided limits at `y = 0`, and `lim_{y→0⁺} − lim_{y→0⁻} = b`,
    provided the modes are ordered as the `updn` pattern presupposes (`Im pₐ > 0` for even, `< 0` for odd `a`) and
    the completeness relation `Σ kₐAₐ⊗Lₐ = 1` holds. -/
theorem burgers_jump_limit (s : Setup ℂ) (μ : Fin 6 → Mode ℂ) (k : Fin 6 → ℂ) (x0 : ℝ) (hx0 : x0 < 0)
    (hm : dot s.m s.m = 1) (hn : dot s.n s.n = 1) (hmn : dot s.m s.n = 0)
    (hIm : ∀ a : Fin 6, (a.val % 2 = 0 → 0 < ((μ a).p).im) ∧ (a.val % 2 = 1 → ((μ a).p).im < 0))
    (hcomp : ∀ i j, chkAL μ k i j = kron i j) :
    ∃ Up Dn : Vec ℂ,
      (∀ i, Tendsto (fun y : ℝ => dispField Real.pi I s μ k (fun c => x0 * s.m c + y * s.n c) i) (𝓝[>] 0) (𝓝 (Up i)))
      ∧ (∀ i, Tendsto (fun y : ℝ => dispField Real.pi I s μ k (fun c => x0 * s.m c + y * s.n c) i) (𝓝[<] 0) (𝓝 (Dn i)))
      ∧ ∀ i, Up i - Dn i = s.b i := by
  have hpath : ∀ (a : Fin 6) (y : ℝ), eta s (μ a) (fun c => x0 * s.m c + y * s.n c) = x0 + (μ a).p * y := by
    intro a y
    simp only [dot, sum3] at hm hn hmn
    simp only [eta, dot, sum3]
    linear_combination (x0 : ℂ) * hm + ((μ a).p * y) * hn + ((y : ℂ) + (μ a).p * x0) * hmn
  set L : ℂ := ((Real.log ‖(x0 : ℂ)‖ : ℝ) : ℂ) with hL
  let lnUp : Fin 6 → ℂ := fun a => L + updn a * (Real.pi * I)
  let lnDn : Fin 6 → ℂ := fun a => L - updn a * (Real.pi * I)
  -- even modes approach the cut from above as `y → 0⁺`, odd ones from below; `updn` records exactly that
  have hlim : ∀ a,
      Tendsto (fun y : ℝ => Complex.log (eta s (μ a) (fun c => x0 * s.m c + y * s.n c))) (𝓝[>] 0) (𝓝 (lnUp a))
      ∧ Tendsto (fun y : ℝ => Complex.log (eta s (μ a) (fun c => x0 * s.m c + y * s.n c))) (𝓝[<] 0) (𝓝 (lnDn a)) := by
    intro a
    simp only [hpath]
    have t := tendsto_log_line x0 hx0 (μ a).p
    rcases Nat.mod_two_eq_zero_or_one a.val with h | h
    · simpa [lnUp, lnDn, updn, h, hL] using t.1 ((hIm a).1 h)
    · simpa [lnUp, lnDn, updn, h, hL, sub_eq_add_neg] using t.2 ((hIm a).2 h)
  refine ⟨dispAt Real.pi I s μ k lnUp, dispAt Real.pi I s μ k lnDn, fun i => ?_, fun i => ?_, fun i => ?_⟩
  · have := tendsto_sum6 (fun a => dispCoef Real.pi I s μ k a i) _ lnUp fun a => (hlim a).1
    unfold dispField dispAt
    exact this
  · have := tendsto_sum6 (fun a => dispCoef Real.pi I s μ k a i) _ lnDn fun a => (hlim a).2
    unfold dispField dispAt
    exact this
  · have hpi : (Real.pi : ℂ) ≠ 0 := by exact_mod_cast Real.pi_ne_zero
    have hj := burgers_closure (Real.pi : ℂ) I s μ k hpi I_ne_zero hcomp i
    -- the two one-sided values of `ln ηₐ` differ by `updnₐ·2πi`, which is the jump `burgers_closure` is about
    rw [← hj, (disp_continuous_off_cut _ _ s μ k lnUp lnDn i).1]
    simp only [dispJump, dispAt, lnUp, lnDn, Nat.cast_ofNat]
    congr 1; funext a; ring
end analysis

/-- six modes meeting the hypotheses of `burgers_jump_limit` (`pₐ = ±i`, `Aₐ = Lₐ = e_{⌊a/2⌋}`, `kₐ = ½`),
    with `m = x`, `n = y` (the orthonormality example below). -/
noncomputable def exModesC : Fin 6 → Mode ℂ := fun a =>
  ⟨if a.val % 2 = 0 then Complex.I else -Complex.I, fun i => if i.val = a.val / 2 then 1 else 0,
    fun i => if i.val = a.val / 2 then 1 else 0⟩
example : ∀ i j, chkAL exModesC (fun _ => (1 / 2 : ℂ)) i j = kron i j := by
  intro i j; fin_cases i <;> fin_cases j <;> simp [chkAL, sum6, exModesC, kron] <;> norm_num
example : ∀ a : Fin 6, (a.val % 2 = 0 → 0 < ((exModesC a).p).im) ∧ (a.val % 2 = 1 → ((exModesC a).p).im < 0) := by
  intro a; fin_cases a <;> simp [exModesC]
example : dot (F := ℂ) (fun i => if i = 0 then 1 else 0) (fun i => if i = 0 then 1 else 0) = 1
    ∧ dot (F := ℂ) (fun i => if i = 1 then 1 else 0) (fun i => if i = 1 then 1 else 0) = 1
    ∧ dot (F := ℂ) (fun i => if i = 0 then 1 else 0) (fun i => if i = 1 then 1 else 0) = 0 := by
  simp [dot, sum3]
/-- a point off every cut for a mode with `p = i`: `η = 1 + i`. -/
example : (1 : ℂ) + Complex.I * 1 ∈ Complex.slitPlane := by
  rw [Complex.mem_slitPlane_iff]; left; simp

end Atomman.C12
