/-
  C04 — the order of the rows `supersize` returns, said three ways: by index (`encode` / `decode`, with `supersize_get` in
  C04_Lemmas), as the list of replica triples with the atoms inside (`triples`, `supersizeAtoms_eq_triples`: the form the
  count of `rotate` works with), and as the numpy bookkeeping of the source builds it (`replicaOrder`, `offsets_spec`,
  `supersizeAtoms_eq_order`, derived from the triples).  Model definitions and the proof-side `triples`; no source tie.
-/
import Proofs.C04_Lemmas
import Proofs.Lists
import Mathlib.Data.List.Nodup

namespace Atomman.C04
open Atomman

theorem mul_add_divmod {m r : Nat} (q : Nat) (h : r < m) : (q * m + r) / m = q ∧ (q * m + r) % m = r := by
  have hm : 0 < m := by omega
  constructor
  · rw [Nat.add_comm, Nat.add_mul_div_right _ _ hm, Nat.div_eq_of_lt h, Nat.zero_add]
  · rw [Nat.add_comm, Nat.add_mul_mod_self_right, Nat.mod_eq_of_lt h]

theorem decode_encode (N m0 m1 i r0 r1 r2 : Nat) (hi : i < N) (h0 : r0 < m0) (h1 : r1 < m1) :
    decode N m0 m1 (encode N m0 m1 i r0 r1 r2) = (i, r0, r1, r2) := by
  obtain ⟨d0, e0⟩ := mul_add_divmod ((r2 * m1 + r1) * m0 + r0) hi
  obtain ⟨d1, e1⟩ := mul_add_divmod (r2 * m1 + r1) h0
  obtain ⟨d2, e2⟩ := mul_add_divmod r2 h1
  simp only [decode, encode, d0, e0, d1, e1, d2, e2]

theorem encode_decode (N m0 m1 k : Nat) :
    let d := decode N m0 m1 k
    encode N m0 m1 d.1 d.2.1 d.2.2.1 d.2.2.2 = k := by
  simp only [decode, encode, Nat.div_add_mod']

/-- replica triples `(r0, r1, r2)` in the implementation's order (`r0` fastest). -/
def triples (m0 m1 m2 : Nat) : List (Nat × Nat × Nat) :=
  (List.range m2).flatMap fun r2 => (List.range m1).flatMap fun r1 => (List.range m0).map fun r0 => (r0, r1, r2)

theorem mem_triples (m0 m1 m2 : Nat) (r : Nat × Nat × Nat) :
    r ∈ triples m0 m1 m2 ↔ r.1 < m0 ∧ r.2.1 < m1 ∧ r.2.2 < m2 := by
  obtain ⟨a, b, c⟩ := r
  simp only [triples, List.mem_flatMap, List.mem_map, List.mem_range, Prod.mk.injEq]
  constructor
  · rintro ⟨r2, h2, r1, h1, r0, h0, rfl, rfl, rfl⟩; exact ⟨h0, h1, h2⟩
  · rintro ⟨h0, h1, h2⟩; exact ⟨c, h2, b, h1, a, h0, rfl, rfl, rfl⟩

theorem triples_nodup (m0 m1 m2 : Nat) : (triples m0 m1 m2).Nodup := by
  unfold triples
  rw [List.nodup_flatMap]
  refine ⟨fun r2 _ => ?_, ?_⟩
  · rw [List.nodup_flatMap]
    refine ⟨fun r1 _ => ?_, ?_⟩
    · exact List.Nodup.map (fun a b h => by simpa using h) List.nodup_range
    · refine (List.pairwise_lt_range (n := m1)).imp ?_
      intro a b hab
      simp only [Function.onFun, List.disjoint_left, List.mem_map, List.mem_range]
      rintro x ⟨r0, _, rfl⟩ ⟨r0', _, h⟩
      simp only [Prod.mk.injEq] at h; omega
  · refine (List.pairwise_lt_range (n := m2)).imp ?_
    intro a b hab
    simp only [Function.onFun, List.disjoint_left, List.mem_flatMap, List.mem_map, List.mem_range]
    rintro x ⟨r1, _, r0, _, rfl⟩ ⟨r1', _, r0', _, h⟩
    simp only [Prod.mk.injEq] at h; omega

theorem supersizeAtoms_eq_triples {K : Type} [Add K] [Sub K] [Mul K] [Div K] [IntCast K]
    (b : Box K) (sa sb sc : Size) (atoms : List (Atom K)) :
    supersizeAtoms b sa sb sc atoms = (triples sa.mult.toNat sb.mult.toNat sc.mult.toNat).flatMap fun r =>
      atoms.map fun a => { a with pos := replicaPos b sa sb sc a.pos r.1 r.2.1 r.2.2 } := by
  simp only [supersizeAtoms, triples, List.flatMap_assoc, List.flatMap_map]

theorem flatMap_const_replicate {α : Type} (k n : Nat) (c : α) :
    ((List.range k).flatMap fun _ => List.replicate n c) = List.replicate (k * n) c := by
  induction k with
  | zero => simp
  | succ k ih =>
    rw [List.range_succ, List.flatMap_append, ih, Nat.succ_mul, List.replicate_add]
    simp

theorem tileList_eq_flatten {α : Type} (k : Nat) (l : List α) : tileList k l = (List.replicate k l).flatten := by
  unfold tileList
  induction k with
  | zero => simp
  | succ k ih => rw [List.range_succ, List.flatMap_append, ih]; simp [List.replicate_succ', List.flatten_append]

theorem tileList_mul {α : Type} (a b : Nat) (l : List α) : tileList a (tileList b l) = tileList (a * b) l := by
  rw [tileList_eq_flatten, tileList_eq_flatten, tileList_eq_flatten]
  induction a with
  | zero => simp
  | succ a ih => rw [List.replicate_succ, List.flatten_cons, ih, Nat.succ_mul, Nat.add_comm, List.replicate_add, List.flatten_append]

theorem offsets_spec (N m0 m1 m2 : Nat) :
    copyIndex N m0 m1 m2 = (replicaOrder N m0 m1 m2).map (·.1) ∧
    offsetsX N m0 m1 m2 = (replicaOrder N m0 m1 m2).map (·.2.1) ∧
    offsetsY N m0 m1 m2 = (replicaOrder N m0 m1 m2).map (·.2.2.1) ∧
    offsetsZ N m0 m1 m2 = (replicaOrder N m0 m1 m2).map (·.2.2.2) := by
  refine ⟨?_, ?_, ?_, ?_⟩
  · simp only [copyIndex, replicaOrder, List.map_flatMap, List.map_map, Function.comp_def, List.map_id']
    have : m0 * m1 * m2 = m2 * (m1 * m0) := by ring
    rw [this, ← tileList_mul, ← tileList_mul]
    rfl
  · simp only [offsetsX, replicaOrder, List.map_flatMap, List.map_map, Function.comp_def, List.map_const', List.length_range]
    rfl
  · simp only [offsetsY, replicaOrder, List.map_flatMap, List.map_map, Function.comp_def, List.map_const', List.length_range,
      flatMap_const_replicate]
    rfl
  · simp only [offsetsZ, replicaOrder, List.map_flatMap, List.map_map, Function.comp_def, List.map_const', List.length_range,
      flatMap_const_replicate]
    rfl

theorem map_eq_range_filterMap {α β : Type} (l : List α) (f : α → β) :
    l.map f = (List.range l.length).filterMap (fun i => l[i]?.map f) := (filterMap_range_getElem? l f).symm

/-- the model's order of the rows is the order of the replica triples, the atom index running fastest. -/
theorem replicaOrder_eq_triples (N m0 m1 m2 : Nat) :
    replicaOrder N m0 m1 m2 = (triples m0 m1 m2).flatMap fun r => (List.range N).map fun i => (i, r.1, r.2.1, r.2.2) := by
  simp only [replicaOrder, triples, List.flatMap_assoc, List.flatMap_map]

/-- **the rows of the result in terms of the broadcasting bookkeeping**: row `k` of the system `supersize` returns is the
    atom `copyIndex[k]` of the input at replica `(offsetsX[k], offsetsY[k], offsetsZ[k])` (with `offsets_spec`). -/
theorem supersizeAtoms_eq_order {K : Type} [Add K] [Sub K] [Mul K] [Div K] [IntCast K]
    (b : Box K) (sa sb sc : Size) (atoms : List (Atom K)) :
    supersizeAtoms b sa sb sc atoms =
      (replicaOrder atoms.length sa.mult.toNat sb.mult.toNat sc.mult.toNat).filterMap fun t =>
        atoms[t.1]?.map fun a => { a with pos := replicaPos b sa sb sc a.pos t.2.1 t.2.2.1 t.2.2.2 } := by
  rw [supersizeAtoms_eq_triples, replicaOrder_eq_triples, List.filterMap_flatMap]
  congr 1; funext r
  rw [List.filterMap_map]
  exact map_eq_range_filterMap atoms _

example : decode 2 3 2 (encode 2 3 2 1 2 1 4) = (1, 2, 1, 4) := by decide

end Atomman.C04
