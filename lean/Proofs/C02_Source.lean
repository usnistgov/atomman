/-
  C02 — the source tie: every definition of `Atomman/Generated/DvectSource.lean` (regenerated on each check from
  dvect.pyx, dmag.pyx, displacement.py, System.py) equals the hand-written model of `Atomman/Dvect.lean` /
  `Atomman/C02.lean`, for every scalar field; a source edit that changes a loop, a formula, a test, a call, a refusal or
  a default breaks the obligation named after it.
-/
import Proofs.C02_Broadcast
import Proofs.Lists
import Atomman.Generated.DvectSource


namespace Atomman.C02
open Atomman
namespace Source
open Atomman.Generated

variable {K : Type} [Field K] [LinearOrder K] [IsStrictOrderedRing K]

theorem foldl_skip {α β : Type} (p : β → Prop) [DecidablePred p] (f : α → β → α) (L : List β) (init : α) :
    L.foldl (fun a s => if p s then a else f a s) init = (L.filter fun s => !decide (p s)).foldl f init := by
  induction L generalizing init with
  | nil => rfl
  | cons s L ih =>
    by_cases h : p s <;> simp [List.filter, h, ih]

/-- `dvect_c`: loop bounds, nesting order and the skipped triple give exactly `imageShifts`. -/
theorem gen_dvect_loop_eq_model (px py pz : Bool) :
    (DvectSource.dvectCLoop px py pz).filter (fun s => !decide (s.1 = 0 ∧ s.2.1 = 0 ∧ s.2.2 = 0)) = imageShifts px py pz := by
  cases px <;> cases py <;> cases pz <;> decide

theorem gen_dmag2_loop_eq_model (px py pz : Bool) :
    (DvectSource.dmag2CLoop px py pz).filter (fun s => !decide (s.1 = 0 ∧ s.2.1 = 0 ∧ s.2.2 = 0)) = imageShifts px py pz := by
  cases px <;> cases py <;> cases pz <;> decide

set_option linter.unusedSectionVars false in
/-- `dvect_c`: the row before the loops is `pos_1 - pos_0`. -/
theorem gen_dvect_init_eq_model (p0 p1 : V3 K) (v : M3 K) (px py pz : Bool) :
    DvectSource.dvectCInit p0 p1 v px py pz = p1 - p0 := rfl

set_option linter.unusedSectionVars false in
/-- `dvect_c`: candidate formula, both squared lengths, strict `<`, replacement of the whole row = `dvectStep`. -/
theorem gen_dvect_body_eq_model (p0 p1 : V3 K) (v : M3 K) (px py pz : Bool) (acc : V3 K) (s : Shift) :
    DvectSource.dvectCBody p0 p1 v px py pz acc s.1 s.2.1 s.2.2 =
      if s.1 = 0 ∧ s.2.1 = 0 ∧ s.2.2 = 0 then acc else dvectStep v (p1 - p0) acc s := rfl

/-- the compiled kernel `dvect_c`, as it stands in the source now, is the model `Atomman.dvect`. -/
theorem gen_dvectC_eq_model (p0 p1 : V3 K) (v : M3 K) (px py pz : Bool) :
    DvectSource.dvectC p0 p1 v px py pz = dvect v px py pz p0 p1 := by
  unfold DvectSource.dvectC dvect
  rw [← gen_dvect_loop_eq_model, gen_dvect_init_eq_model]
  rw [← foldl_skip (fun s : Shift => s.1 = 0 ∧ s.2.1 = 0 ∧ s.2.2 = 0) (dvectStep v (p1 - p0))]
  rfl

set_option linter.unusedSectionVars false in
theorem gen_dmag2_init_eq_model (p0 p1 : V3 K) (v : M3 K) (px py pz : Bool) :
    DvectSource.dmag2CInit p0 p1 v px py pz = V3.normSq (p1 - p0) := rfl

set_option linter.unusedSectionVars false in
theorem gen_dmag2_body_eq_model (p0 p1 : V3 K) (v : M3 K) (px py pz : Bool) (acc : K) (s : Shift) :
    DvectSource.dmag2CBody p0 p1 v px py pz acc s.1 s.2.1 s.2.2 =
      if s.1 = 0 ∧ s.2.1 = 0 ∧ s.2.2 = 0 then acc else
        (let t := V3.normSq (shiftBy v (p1 - p0) s); if t < acc then t else acc) := rfl

/-- the compiled kernel `dmag2_c` is the model `Atomman.dmag2`. -/
theorem gen_dmag2C_eq_model (p0 p1 : V3 K) (v : M3 K) (px py pz : Bool) :
    DvectSource.dmag2C p0 p1 v px py pz = dmag2 v px py pz p0 p1 := by
  unfold DvectSource.dmag2C dmag2
  rw [← gen_dmag2_loop_eq_model, gen_dmag2_init_eq_model]
  rw [← foldl_skip (fun s : Shift => s.1 = 0 ∧ s.2.1 = 0 ∧ s.2.2 = 0)
    (fun m s => let t := V3.normSq (shiftBy v (p1 - p0) s); if t < m then t else m)]
  rfl

/-- every real-valued variable of the two kernels is declared `double` (nothing is accumulated in single precision). -/
theorem gen_real_types_double :
    (DvectSource.realTypes_dvect_c ++ DvectSource.realTypes_dmag2_c).all
      (fun nt => nt.2 ∈ ["double", "double[:]", "double [:]", "double[:,:]", "const double[:,:]"]) = true := by decide

theorem flagAt_cons3 (a b c : Int) (rest : List Int) :
    flagAt (a :: b :: c :: rest) 0 = some (a != 0) ∧ flagAt (a :: b :: c :: rest) 1 = some (b != 0) ∧
    flagAt (a :: b :: c :: rest) 2 = some (c != 0) := ⟨rfl, rfl, rfl⟩

/-! ### the two wrappers are one text around two kernels

  `dvect()` and `dmag()` differ in the kernel they call and in nothing else, in the source as in the model: `wrapSrc` is the
  generated text with the kernel left open (`dvectWrap` and `dmagWrap` are instances by `rfl`), `wrapModel` the same for
  `dvectApi` / `dmag2Api`.  `wrapSrc` is written by hand: when the wrappers in the source change and that `rfl` (inside
  `gen_dvectWrap_eq_model` / `gen_dmagWrap_eq_model`) breaks, the new generated text has to be copied into `wrapSrc`. -/

/-- the broadcasting chain followed by the kernel call, for any row kernel.  `wrapSrc` on a three-entry flag list and
    arguments of rank ≥ 2 unfolds to `chain (kernel …)`; the `exact chain_…` steps of `wrapSrc_eq_model` rely on this
    definitional unfolding. -/
def chain {α : Type} (f : V3 K → V3 K → α) (A B : PosArg K) : Except String (List α) :=
  (if A.len = 1 then (A.bcast B).map fun t => (t, B)
   else if B.len = 1 then (B.bcast A).map fun t => (A, t)
   else if A.len ≠ B.len then Except.error "value"
   else Except.ok (A, B)) >>= fun pp => kernelCall f pp.1 pp.2

def wrapSrc {α : Type} (kernel : Bool → Bool → Bool → V3 K → V3 K → α) (pbc : List Int) (pos_0 pos_1 : PosArg K) :
    Except String (List α) :=
  if pos_0.ndim = 0 then Except.error "type" else
  let pos_0 := if pos_0.ndim = 1 then pos_0.newaxis else pos_0
  if pos_1.ndim = 0 then Except.error "type" else
  let pos_1 := if pos_1.ndim = 1 then pos_1.newaxis else pos_1
  (
    if pos_0.len = 1 then (pos_0.bcast pos_1).map fun t => (t, pos_1)
    else if pos_1.len = 1 then (pos_1.bcast pos_0).map fun t => (pos_0, t)
    else if pos_0.len ≠ pos_1.len then Except.error "value"
    else Except.ok (pos_0, pos_1)) >>= fun pp =>
  match flagAt pbc 0, flagAt pbc 1, flagAt pbc 2 with
  | some f0, some f1, some f2 => kernelCall (kernel f0 f1 f2) pp.1 pp.2
  | _, _, _ => Except.error "undefined"

def wrapModel {α : Type} (kernel : Bool → Bool → Bool → V3 K → V3 K → α) (pbc : List Int) (a0 a1 : PosArg K) :
    Except String (List α) :=
  match apiPairs a0 a1 with
  | .error e => .error e
  | .ok l => match apiFlags pbc with
    | none => .error "undefined"
    | some (px, py, pz) => .ok (l.map fun pq => kernel px py pz pq.1 pq.2)

omit [Field K] [LinearOrder K] [IsStrictOrderedRing K] in
theorem chain_rows {α : Type} (f : V3 K → V3 K → α) (l0 l1 : List (V3 K)) :
    chain f (.rows l0) (.rows l1) =
    match broadcast l0 l1 with
    | some r => Except.ok (r.map fun pq => f pq.1 pq.2)
    | none => Except.error "value" := by
  have kc : ∀ a b : List (V3 K), a.length = b.length →
      kernelCall f (.rows a) (.rows b) = .ok (List.zipWith f a b) := fun a b h => by
    rw [kernelCall, if_neg (by omega)]
  -- the kernel pairs row `i` with row `i`; against a broadcast (constant) list that is a `map` over the other list
  rcases broadcast_cases l0 l1 with ⟨x, rfl, e⟩ | ⟨n0, y, rfl, e⟩ | ⟨n0, n1, e⟩ <;> rw [e]
  · refine (kc _ l1 (List.length_map _)).trans ?_
    rw [List.zipWith_map_left, List.zipWith_self]
    show _ = Except.ok (List.map _ (List.map _ _))
    rw [List.map_map]; rfl
  · simp only [chain, PosArg.len, n0, ↓reduceIte, List.length_singleton]
    refine (kc l0 _ (List.length_map _).symm).trans ?_
    rw [List.zipWith_map_right, List.zipWith_self]
    show _ = Except.ok (List.map _ (List.map _ _))
    rw [List.map_map]; rfl
  · by_cases h : l0.length = l1.length <;>
      simp only [chain, PosArg.len, n0, n1, h, ne_eq, not_true_eq_false, not_false_eq_true, ↓reduceIte]
    · exact (kc l0 l1 h).trans (by rw [List.zip_eq_zipWith, List.map_zipWith])
    · rfl

omit [Field K] [LinearOrder K] [IsStrictOrderedRing K] in
/-- a rank-3 argument is refused in every arm of the chain: rank 3 cannot be broadcast to rows (ValueError of
    `np.broadcast_to`), one row broadcast to rank 3 is rank 3, and the kernel's memoryview coercion refuses rank 3. -/
theorem chain_rank3_left {α : Type} (f : V3 K → V3 K → α) (n : Nat) (B : PosArg K) (hB : 2 ≤ B.ndim) :
    chain f (.rank3 n) B = .error "value" := by
  cases B with
  | scalar => exact absurd hB (by simp [PosArg.ndim])
  | flat q => exact absurd hB (by simp [PosArg.ndim])
  | rows l =>
    simp only [chain, PosArg.len]
    by_cases h1 : n = 1
    · subst h1; rfl
    · simp only [h1, ↓reduceIte]
      by_cases h2 : l.length = 1
      · obtain ⟨y, rfl⟩ := List.length_eq_one_iff.mp h2; rfl
      · simp only [h2, ↓reduceIte]
        by_cases h3 : n = l.length <;> simp only [h3, ne_eq, not_true_eq_false, not_false_eq_true, ↓reduceIte] <;> rfl
  | rank3 m =>
    simp only [chain, PosArg.len]
    by_cases h1 : n = 1
    · subst h1; rfl
    · simp only [h1, ↓reduceIte]
      by_cases h2 : m = 1
      · subst h2; rfl
      · simp only [h2, ↓reduceIte]
        by_cases h3 : n = m <;> simp only [h3, ne_eq, not_true_eq_false, not_false_eq_true, ↓reduceIte] <;> rfl

omit [Field K] [LinearOrder K] [IsStrictOrderedRing K] in
theorem chain_rank3_right {α : Type} (f : V3 K → V3 K → α) (n : Nat) (A : PosArg K) (hA : 2 ≤ A.ndim) :
    chain f A (.rank3 n) = .error "value" := by
  cases A with
  | scalar => exact absurd hA (by simp [PosArg.ndim])
  | flat q => exact absurd hA (by simp [PosArg.ndim])
  | rows l =>
    simp only [chain, PosArg.len]
    by_cases h1 : l.length = 1
    · obtain ⟨x, rfl⟩ := List.length_eq_one_iff.mp h1; rfl
    · simp only [h1, ↓reduceIte]
      by_cases h2 : n = 1
      · subst h2; rfl
      · simp only [h2, ↓reduceIte]
        by_cases h3 : l.length = n <;> simp only [h3, ne_eq, not_true_eq_false, not_false_eq_true, ↓reduceIte] <;> rfl
  | rank3 m => exact chain_rank3_left f m (.rank3 n) (by simp [PosArg.ndim])

omit [Field K] [LinearOrder K] [IsStrictOrderedRing K] in
theorem wrapSrc_eq_model {α : Type} (kernel : Bool → Bool → Bool → V3 K → V3 K → α) (a b c : Int) (rest : List Int)
    (a0 a1 : PosArg K) : wrapSrc kernel (a :: b :: c :: rest) a0 a1 = wrapModel kernel (a :: b :: c :: rest) a0 a1 := by
  cases a0 with
  | scalar => cases a1 <;> rfl
  | rank3 n =>
    cases a1 with
    | scalar => rfl
    | flat q => exact chain_rank3_left _ n (.rows [q]) (by simp [PosArg.ndim])
    | rows l => exact chain_rank3_left _ n (.rows l) (by simp [PosArg.ndim])
    | rank3 m => exact chain_rank3_left _ n (.rank3 m) (by simp [PosArg.ndim])
  | flat p =>
    cases a1 with
    | scalar => rfl
    | rank3 n => exact chain_rank3_right _ n (.rows [p]) (by simp [PosArg.ndim])
    | flat q => exact chain_rows _ [p] [q]
    | rows l => exact chain_rows _ [p] l
  | rows l0 =>
    cases a1 with
    | scalar => rfl
    | rank3 n => exact chain_rank3_right _ n (.rows l0) (by simp [PosArg.ndim])
    | flat q => exact (chain_rows _ l0 [q]).trans (by cases h : broadcast l0 [q] <;> simp [wrapModel, apiPairs, apiFlags, h])
    | rows l1 => exact (chain_rows _ l0 l1).trans (by cases h : broadcast l0 l1 <;> simp [wrapModel, apiPairs, apiFlags, h])

theorem gen_dvectWrap_eq_model (v : M3 K) (a b c : Int) (rest : List Int) (a0 a1 : PosArg K) :
    DvectSource.dvectWrap v (a :: b :: c :: rest) a0 a1 = dvectApi v (a :: b :: c :: rest) a0 a1 := by
  rw [show DvectSource.dvectWrap v = wrapSrc (fun f0 f1 f2 r0 r1 => DvectSource.dvectC r0 r1 v f0 f1 f2) from rfl,
    wrapSrc_eq_model]
  simp only [wrapModel, gen_dvectC_eq_model]
  rfl

/-- the wrapper `dmag` (before its `** 0.5`), as it stands in the source now, is the hand model `dmag2Api`. -/
theorem gen_dmagWrap_eq_model (v : M3 K) (a b c : Int) (rest : List Int) (a0 a1 : PosArg K) :
    DvectSource.dmagWrap v (a :: b :: c :: rest) a0 a1 = dmag2Api v (a :: b :: c :: rest) a0 a1 := by
  rw [show DvectSource.dmagWrap v = wrapSrc (fun f0 f1 f2 r0 r1 => DvectSource.dmag2C r0 r1 v f0 f1 f2) from rfl,
    wrapSrc_eq_model]
  simp only [wrapModel, gen_dmag2C_eq_model]
  rfl

theorem flag_roundtrip (p : Bool) : ((if p then (1 : Int) else 0) != 0) = p := by
  cases p <;> rfl

/-- the wrappers as `System.dvect/dmag` and `displacement` call them — two `(n,3)` arrays, the System's own flag array — are
    the array-level models. -/
theorem dvectWrap_sys (v : M3 K) (px py pz : Bool) (atoms l0 l1 : List (V3 K)) :
    DvectSource.dvectWrap v (Sys.flags ⟨v, px, py, pz, atoms⟩) (.rows l0) (.rows l1) =
      match dvectArr v px py pz l0 l1 with
      | some r => .ok r
      | none => .error "value" := by
  rw [show Sys.flags (⟨v, px, py, pz, atoms⟩ : Sys K) = [if px then 1 else 0, if py then 1 else 0, if pz then 1 else 0]
    from rfl, gen_dvectWrap_eq_model]
  simp only [dvectApi, apiPairs, apiFlags, flag_roundtrip, dvectArr]
  cases broadcast l0 l1 <;> rfl

theorem dmagWrap_sys (v : M3 K) (px py pz : Bool) (atoms l0 l1 : List (V3 K)) :
    DvectSource.dmagWrap v (Sys.flags ⟨v, px, py, pz, atoms⟩) (.rows l0) (.rows l1) =
      match dmag2Arr v px py pz l0 l1 with
      | some r => .ok r
      | none => .error "value" := by
  rw [show Sys.flags (⟨v, px, py, pz, atoms⟩ : Sys K) = [if px then 1 else 0, if py then 1 else 0, if pz then 1 else 0]
    from rfl, gen_dmagWrap_eq_model]
  simp only [dmag2Api, apiPairs, apiFlags, flag_roundtrip, dmag2Arr]
  cases broadcast l0 l1 <;> rfl

/-- `System.dvect` as it stands in the source now (dispatch of both arguments, the wrapper with `self.box`, `self.pbc`,
    the `len == 1` squeeze) is the hand model `sysDvect`. -/
theorem gen_sysDvect_eq_model (atoms : List (V3 K)) (v : M3 K) (px py pz : Bool) (s0 s1 : Sel K) :
    DvectSource.sysDvect atoms v px py pz s0 s1 = sysDvect atoms v px py pz s0 s1 := by
  unfold DvectSource.sysDvect sysDvect
  cases hs : selectBoth atoms s0 s1 with
  | error e => rfl
  | ok ab =>
    obtain ⟨l0, l1⟩ := ab
    simp only [exceptSimp, dvectWrap_sys]
    cases dvectArr v px py pz l0 l1 <;> simp [exceptSimp, squeeze, beq_eq_decide]

theorem gen_sysDmag_eq_model (atoms : List (V3 K)) (v : M3 K) (px py pz : Bool) (s0 s1 : Sel K) :
    DvectSource.sysDmag atoms v px py pz s0 s1 = sysDmag2 atoms v px py pz s0 s1 := by
  unfold DvectSource.sysDmag sysDmag2
  cases hs : selectBoth atoms s0 s1 with
  | error e => rfl
  | ok ab =>
    obtain ⟨l0, l1⟩ := ab
    simp only [exceptSimp, dmagWrap_sys]
    cases dmag2Arr v px py pz l0 l1 <;> simp [exceptSimp, squeeze, beq_eq_decide]

/-- the `System.pbc` setter (truth values, exactly three entries) is the hand model. -/
theorem gen_pbcSetter_eq_model (value : List Int) : DvectSource.pbcSetter value = pbcSetterArg value := by
  rcases value with _ | ⟨a, _ | ⟨b, _ | ⟨c, _ | ⟨d, t⟩⟩⟩⟩ <;> simp [DvectSource.pbcSetter, pbcSetterArg]

set_option linter.unusedSectionVars false in
/-- `System.box_set` as it stands in the source — `scale` popped, then in the `scale is True` branch: relative positions
    read under the OLD cell, `self.box.set(...)` on the Box object the System holds, positions written back under the NEW
    cell; otherwise only `self.box.set(...)` — is the `sysBoxSet` step of the `World` model (refusals for a missing System
    / Box included).  Swapping two of the three statements, dropping one, or setting the box in only one branch breaks
    this obligation. -/
theorem gen_sysBoxSet_eq_model (w : World K) (s : Nat) (v : M3 K) (o : V3 K) (scale : Bool) :
    DvectSource.sysBoxSet w s v o scale = w.step (.sysBoxSet s v o scale) := by
  unfold DvectSource.sysBoxSet World.step World.sposOf World.boxSetOf World.setSpos
  cases hs : w.systems[s]? with
  | none => cases scale <;> simp [hs]
  | some st =>
    cases hb : w.boxes[st.box]? with
    | none =>
      have hlt : ¬ st.box < w.boxes.length := by
        intro h; rw [List.getElem?_eq_getElem h] at hb; cases hb
      cases scale <;> simp [hs, setAt, hlt]
    | some old =>
      have hlt : st.box < w.boxes.length := by
        by_contra h; rw [List.getElem?_eq_none (by omega)] at hb; cases hb
      cases scale <;> simp [hs, setAt, hlt, List.map_map, Function.comp_def]

/-- `scale` defaults to `False` (absolute positions unchanged). -/
theorem gen_box_set_scale_default : DvectSource.boxSetScaleDefault = false := rfl

/-- the part of the argument space the model leaves UNDEFINED (`pbc` with fewer than three entries, arrays whose rows are
    not three long) is exactly where the source reads without a bounds check: both wrappers carry
    `@cython.boundscheck(False)` / `@cython.wraparound(False)` and nothing else.  If a check is switched on (those inputs
    would then raise IndexError instead of reading past the end) this obligation breaks and the refusal has to be modelled. -/
theorem gen_unchecked_reads :
    DvectSource.dvectDecorators = ["cython.boundscheck(False)", "cython.wraparound(False)"] ∧
    DvectSource.dmagDecorators = ["cython.boundscheck(False)", "cython.wraparound(False)"] := ⟨rfl, rfl⟩

/-- the getters `System.pbc`, `System.box`, `System.atoms`, `System.natoms` hand out the stored objects.  The translator
    emits the constant `true` only after checking that each getter body is `return self.__x` and raises `TranslationError`
    otherwise: the theorem records that the check ran, it has no content of its own (likewise `gen_exports_direct`). -/
theorem gen_getters_live : DvectSource.systemGettersLive = true := rfl

/-- the three modules consist of imports and exactly the translated functions, and `atomman/core/__init__.py` exports these
    very functions (no wrapper, no rebinding); guarded by the translator's refusal, as `gen_getters_live`. -/
theorem gen_exports_direct : DvectSource.exportsDirect = true := rfl

theorem gen_box_reference_default : DvectSource.boxReferenceDefault = "final" := rfl

/-- `displacement` as it stands in the source now — the atom-count check first, the chain over `box_reference`, each branch
    calling the WRAPPER `dvect` (broadcasting rule included) with the named system's box and flags, the plain difference
    for `None`, ValueError otherwise — is the hand model (atom-by-atom `zipWith`). -/
theorem gen_displacement_eq_model (s0 s1 : Sys K) (ref : String) :
    DvectSource.displacement s0 s1 ref = displacement s0 s1 ref := by
  unfold DvectSource.displacement displacement
  by_cases hn : s0.pos.length = s1.pos.length
  · have key : ∀ (s : Sys K), DvectSource.dvectWrap s.vects s.flags (.rows s0.pos) (.rows s1.pos) =
        .ok (List.zipWith (dispWith (some (s.vects, s.px, s.py, s.pz))) s0.pos s1.pos) := by
      intro s
      refine (dvectWrap_sys s.vects s.px s.py s.pz s.pos s0.pos s1.pos).trans ?_
      rw [dvectArr_many_to_many _ _ _ _ _ _ hn]
      rfl
    simp only [Sys.natoms, hn, ne_eq, not_true_eq_false, if_false, refBox]
    by_cases h1 : ref = "final"
    · simp [h1, key]
    · by_cases h2 : ref = "initial"
      · simp [h2, key]
      · by_cases h3 : ref = "None"
        · subst h3
          simp only [show ¬ ("None" = "final") by decide, show ¬ ("None" = "initial") by decide, if_false, if_true]
          rw [List.zipWith_comm]
          rfl
        · simp [h1, h2, h3]
  · simp [Sys.natoms, hn]

end Source
end Atomman.C02
