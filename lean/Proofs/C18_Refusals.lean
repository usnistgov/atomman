/-
  C18 — which inputs the `x` and `disregistry` setters and `solve` refuse, at which stage, and what is stored then.
-/
import Proofs.C18_Object
import Mathlib.Tactic.Linarith

namespace Atomman.C18
open Atomman
set_option linter.unusedSectionVars false

variable {K : Type} [Field K] [LinearOrder K] [IsStrictOrderedRing K]

def uniformGrid (x0 h : K) (n : Nat) : List K := (List.range n).map (fun (i : Nat) => x0 + (i : K) * h)

theorem xDiffs_uniform (x0 h : K) (n : Nat) : xDiffs (uniformGrid x0 h (n + 1)) = List.replicate n h := by
  unfold xDiffs uniformGrid
  apply List.ext_getElem
  · simp
  · intro i h1 h2
    simp only [List.getElem_zipWith, List.getElem_drop, List.getElem_map, List.getElem_range, List.getElem_replicate]
    push_cast; ring

/-- **never a spurious refusal**: every exactly uniform increasing grid with at least two points is accepted by the `x` setter,
    whatever the origin, the spacing `h > 0` and the number of points. -/
theorem xSetter_accepts_uniform (x0 h : K) (hh : 0 < h) (n : Nat) : xSetter? (uniformGrid x0 h (n + 2)) = none := by
  unfold xSetter?
  rw [xDiffs_uniform, List.replicate_succ]
  simp only [List.all_cons, List.all_replicate, sub_self, absK_eq, abs_zero]
  have : (0 : K) ≤ tolR * |h| := mul_nonneg (le_of_lt tolR_pos) (abs_nonneg h)
  simp [this, hh]

/-- what acceptance means, exactly: at least two points, first step positive, every step within `1e-5` (relative) of the first. -/
theorem xSetter_accepts_iff (x : List K) :
    xSetter? x = none ↔ ∃ d0 ds, xDiffs x = d0 :: ds ∧ 0 < d0 ∧ ∀ t ∈ d0 :: ds, |t - d0| ≤ tolR * d0 := by
  unfold xSetter?
  cases xDiffs x with
  | nil => simp
  | cons d0 ds =>
    simp only [ite_eq_left_iff, reduceCtorEq, imp_false, not_not, Bool.and_eq_true, List.all_eq_true, decide_eq_true_eq,
      absK_eq, List.cons.injEq]
    constructor
    · rintro ⟨hall, hpos⟩
      exact ⟨d0, ds, ⟨rfl, rfl⟩, hpos, by rwa [abs_of_pos hpos] at hall⟩
    · rintro ⟨_, _, ⟨rfl, rfl⟩, hpos, hall⟩
      exact ⟨by rwa [abs_of_pos hpos], hpos⟩

/-- fewer than two points: `diff[0]` raises `IndexError` (not an assertion). -/
theorem xSetter_short (x : List K) (h : x.length < 2) : xSetter? x = some .xIndex := by
  unfold xSetter? xDiffs
  match x, h with
  | [], _ => rfl
  | [a], _ => rfl

/-- a grid whose first step is not positive (decreasing, or two equal points) is refused. -/
theorem xSetter_refuses_nonincreasing (a b : K) (l : List K) (h : b ≤ a) : xSetter? (a :: b :: l) ≠ none := by
  intro hacc
  obtain ⟨d0, ds, hd, hpos, _⟩ := (xSetter_accepts_iff _).mp hacc
  simp only [xDiffs, List.drop_succ_cons, List.drop_zero, List.zipWith_cons_cons, List.cons.injEq] at hd
  linarith [hd.1]

theorem xDiffs_map_mul (s : K) (x : List K) : xDiffs (x.map (s * ·)) = (xDiffs x).map (s * ·) := by
  unfold xDiffs
  rw [← List.map_drop, List.zipWith_map, List.map_zipWith]
  congr 1; funext a b; ring

theorem xDiffs_map_add (c : K) (x : List K) : xDiffs (x.map (· + c)) = xDiffs x := by
  unfold xDiffs
  rw [← List.map_drop, List.zipWith_map]
  congr 1; funext a b; ring

/-- the `x` setter is free of the unit of length and of the origin: scaling the grid by any `s > 0` (another unit of length) or
    translating it changes nothing about what is accepted or how it is refused. -/
theorem xSetter_scale_shift (s c : K) (hs : 0 < s) (x : List K) :
    xSetter? (x.map (s * ·)) = xSetter? x ∧ xSetter? (x.map (· + c)) = xSetter? x := by
  refine ⟨?_, by unfold xSetter?; rw [xDiffs_map_add]⟩
  unfold xSetter?
  rw [xDiffs_map_mul]
  cases xDiffs x with
  | nil => rfl
  | cons d0 ds =>
    have e : ∀ t : K, decide (absK (s * t - s * d0) ≤ tolR * absK (s * d0)) = decide (absK (t - d0) ≤ tolR * absK d0) := by
      intro t
      rw [absK_eq, absK_eq, absK_eq, absK_eq, ← mul_sub, abs_mul, abs_mul, abs_of_pos hs, mul_left_comm]
      exact decide_eq_decide.mpr (mul_le_mul_iff_right₀ hs)
    have e0 : decide (0 < s * d0) = decide (0 < d0) := decide_eq_decide.mpr (mul_pos_iff_of_pos_left hs)
    simp only [List.map_cons, List.all_cons, List.all_map, Function.comp_def, e, e0]
    rfl

theorem maxAbs3_nonneg (v : V3 K) : 0 ≤ maxAbs3 v := by
  have h : (0 : K) ≤ absK v.x := by rw [absK_eq]; exact abs_nonneg _
  exact h.trans (le_maxK_left _ _)

/-- **never a spurious refusal**: a non-empty disregistry with no out-of-plane component is accepted, at every scale. -/
theorem dSetter_accepts_planar (d : List (V3 K)) (hd : d ≠ []) (hy : ∀ v ∈ d, v.y = 0) : dSetter? d = none := by
  unfold dSetter?
  cases hm : maxOf (d.map maxAbs3) with
  | none => exact absurd (maxOf_eq_none _ hm) (by simpa using hd)
  | some m =>
    obtain ⟨v, _, rfl⟩ := List.mem_map.mp (maxOf_spec _ _ hm).1
    have : d.all (fun u => decide (absK u.y ≤ tolA * maxAbs3 v)) = true := by
      simp only [List.all_eq_true, decide_eq_true_eq]
      intro u hu
      rw [hy u hu, absK_eq, abs_zero]
      exact mul_nonneg tolA_pos.le (maxAbs3_nonneg v)
    simp [this]

/-- an empty array: `.max()` raises `ValueError`. -/
theorem dSetter_empty : dSetter? ([] : List (V3 K)) = some .dValue := rfl

/-- what `solve` stores always passes the `disregistry` setter when the end rows of the guess lie in the plane (interior `y` is
    exactly 0): the final `self.disregistry = recompose(…)` cannot raise then, for ANY optimiser output. -/
theorem solve_result_accepted (res : List K) (d : List (V3 K)) (h0 : (d.headD v3zero).y = 0) (h1 : (d.getLastD v3zero).y = 0) :
    dSetter? (solveResult res d) = none := by
  apply dSetter_accepts_planar
  · simp [solveResult, recompose]
  · intro v hv
    simp only [solveResult, recompose, List.cons_append, List.mem_cons, List.mem_append, List.not_mem_nil, or_false] at hv
    rcases hv with rfl | hv | rfl
    exacts [h0, zipWith_xz_y _ _ v hv, h1]

/-- **the model refuses exactly when …**: `solve` runs through iff the `x` keyword (if given) passes its setter, the `disregistry`
    keyword (if given) passes its setter, the effective grid and guess have the same length and the embedded result passes the
    setter; for a guess whose end rows lie in the plane the last condition always holds. -/
theorem solve_accepts_iff (o : Obj K) (kw : SolveKw K) (res : List K) :
    (o.solve? kw res).2 = none ↔
      kw.x.bind xSetter? = none ∧ kw.d.bind dSetter? = none ∧ (o.applyKw kw).x.length = (o.applyKw kw).d.length ∧
        dSetter? (solveResult res (o.applyKw kw).d) = none := by
  unfold Obj.solve?
  rcases kw.x.bind xSetter? with _ | r
  · rcases kw.d.bind dSetter? with _ | r
    · by_cases hl : (o.applyKw kw).x.length = (o.applyKw kw).d.length
      · cases hf : dSetter? (solveResult res (o.applyKw kw).d) <;> simp [hl, hf]
      · simp [hl]
    · simp
  · simp

/-- `solve(**kwargs)` with its refusals, stage by stage: (1) accepted ⇒ exactly the unguarded model `Obj.apply (.solve kw res)`;
    (2) `x` refused ⇒ nothing changed; (3) `disregistry` refused ⇒ ONLY the new `x` is stored; (4) lengths differ ⇒ every keyword
    is stored, the profile is not touched by the minimiser. -/
theorem solve_refusal_stages (o : Obj K) (kw : SolveKw K) (res : List K) :
    ((o.solve? kw res).2 = none → (o.solve? kw res).1 = o.apply (.solve kw res)) ∧
    (∀ r, kw.x.bind xSetter? = some r → o.solve? kw res = (o, some r)) ∧
    (∀ r, kw.x.bind xSetter? = none → kw.d.bind dSetter? = some r →
        o.solve? kw res = ({ o with x := kw.x.getD o.x }, some r)) ∧
    (kw.x.bind xSetter? = none → kw.d.bind dSetter? = none → (o.applyKw kw).x.length ≠ (o.applyKw kw).d.length →
        o.solve? kw res = (o.applyKw kw, some .lengths)) := by
  refine ⟨fun h => ?_, fun r hx => ?_, fun r hx hd => ?_, fun hx hd hl => ?_⟩
  · obtain ⟨hx, hd, hl, hr⟩ := (solve_accepts_iff o kw res).mp h
    simp only [Obj.solve?, hx, hd, hl, hr, ne_eq, not_true_eq_false, if_false, Obj.apply]
  · simp only [Obj.solve?, hx]
  · simp only [Obj.solve?, hx, hd]
  · simp only [Obj.solve?, hx, hd, hl, ne_eq, not_false_eq_true, if_true]

/-- the profile setters: accepted ⇒ the unguarded model's setter; refused ⇒ the object is unchanged. -/
theorem setters_refusal (o : Obj K) (x : List K) (d : List (V3 K)) :
    ((o.setX? x).2 = none → (o.setX? x).1 = o.apply (.setX x)) ∧ ((o.setX? x).2 ≠ none → (o.setX? x).1 = o) ∧
    ((o.setD? d).2 = none → (o.setD? d).1 = o.apply (.setD d)) ∧ ((o.setD? d).2 ≠ none → (o.setD? d).1 = o) := by
  unfold Obj.setX? Obj.setD?
  cases xSetter? x <;> cases dSetter? d <;> simp [Obj.apply]

end Atomman.C18
