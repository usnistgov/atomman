/-
  C04 — what the call is made ON: the names of the per-atom properties a copy carries (`copiedKeys`), the periodicity flags
  of a re-oriented cell (`rotatePbc`), and the object behind the call (`SysObj`: cell, cached reciprocal vectors, atoms,
  flags) — after ANY history the cache is coherent with the visible cell, so `supersize` / `rotate` on the object are those
  of its visible state.
-/
import Atomman.C04
import Proofs.Lists
import Mathlib.Tactic.Tauto
import Mathlib.Data.Rat.Defs

namespace Atomman.C04
open Atomman

theorem copiedKeys_eq (keys : List String) :
    copiedKeys keys = (keys.filter (fun k => k != "pos")).foldl addKey ["atype", "pos"] := rfl

theorem mem_foldl_addKey (l : List String) : ∀ (acc : List String) (x : String),
    x ∈ l.foldl addKey acc ↔ x ∈ acc ∨ x ∈ l := by
  induction l with
  | nil => intro acc x; simp
  | cons k rest ih =>
    intro acc x
    rw [List.foldl_cons, ih, mem_addKey, List.mem_cons]
    tauto

/-- **every per-atom property of the input is carried by the copy**, whatever it is called. -/
theorem copiedKeys_complete (keys : List String) (k : String) (h : k ∈ keys) : k ∈ copiedKeys keys := by
  rw [copiedKeys_eq, mem_foldl_addKey]
  by_cases hp : k = "pos"
  · left; simp [hp]
  · right
    exact List.mem_filter.mpr ⟨h, by simpa using hp⟩

/-- the copy carries nothing but the per-atom properties of the input (`atype` and `pos` exist in every `Atoms`). -/
theorem copiedKeys_sound (keys : List String) (k : String) (h : k ∈ copiedKeys keys) :
    k ∈ keys ∨ k = "atype" ∨ k = "pos" := by
  rw [copiedKeys_eq, mem_foldl_addKey] at h
  rcases h with h | h
  · simp at h; tauto
  · exact Or.inl (List.mem_filter.mp h).1

theorem foldl_addKey_append (l : List String) : ∀ (acc : List String), l.Nodup → (∀ x ∈ l, x ∉ acc) →
    l.foldl addKey acc = acc ++ l :=
  fun acc hl hd => foldl_append_of_fresh addKey id (fun acc k hk => if_neg (by simpa using hk)) l acc
    (by rwa [List.map_id]) (by simpa using hd)

/-- for the key list every `Atoms` object has (`atype`, `pos`, then distinct further names) the copy carries exactly
    the input's names in the input's order. -/
theorem copiedKeys_std (rest : List String) (hnd : rest.Nodup) (ha : "atype" ∉ rest) (hp : "pos" ∉ rest) :
    copiedKeys ("atype" :: "pos" :: rest) = "atype" :: "pos" :: rest := by
  rw [copiedKeys_eq]
  have hf : (("atype" :: "pos" :: rest).filter (fun k => k != "pos")) = "atype" :: rest := by
    rw [List.filter_cons_of_pos (by decide), List.filter_cons_of_neg (by decide)]
    congr 1
    apply List.filter_eq_self.mpr
    intro x hx
    have : x ≠ "pos" := by rintro rfl; exact hp hx
    simpa using this
  rw [hf, List.foldl_cons]
  have h0 : addKey ["atype", "pos"] "atype" = ["atype", "pos"] := by decide
  rw [h0, foldl_addKey_append rest _ hnd]
  · rfl
  · intro x hx
    simp only [List.mem_cons, List.not_mem_nil, or_false, not_or]
    exact ⟨by rintro rfl; exact ha hx, by rintro rfl; exact hp hx⟩

/-- non-vacuity / the seeded case: properties called `p`, `o`, `s`, `po`, `os`, `pos2`, `atyp`, `σ` travel. -/
example : copiedKeys ["atype", "pos", "p", "o", "s", "po", "os", "pos2", "atyp", "σ"]
    = ["atype", "pos", "p", "o", "s", "po", "os", "pos2", "atyp", "σ"] := by decide

/-- **a re-oriented cell is fully periodic whatever the flags of the input** (so that `normalize`'s wrap moves atoms by
    whole cell vectors and never stretches the cell: C05 `wrap_periodic_axes_fixed`), on the shortcut as well. -/
theorem rotatePbc_periodic (U : M3 Int) (pbc : Pbc) : rotatePbc U pbc = ⟨true, true, true⟩ := by
  unfold rotatePbc
  split <;> rfl

section Obj
variable {K : Type} [Add K] [Sub K] [Mul K] [Div K] [IntCast K]

set_option linter.unusedSectionVars false in
/-- an object whose cache is empty is coherent (every freshly built `Box`). -/
theorem coherent_fresh (o : BoxObj K) (h : o.cache = none) : o.Coherent := memo_of_none _ h

set_option linter.unusedSectionVars false in
/-- reading the reciprocal vectors of a coherent object returns those of the cell it shows, leaves the cell alone and
    keeps the object coherent. -/
theorem recipC_spec (o : BoxObj K) (h : o.Coherent) :
    o.recipC.1 = o.visible.recip ∧ o.recipC.2.visible = o.visible ∧ o.recipC.2.Coherent := by
  unfold BoxObj.recipC
  rcases memo_cases h with hc | hc <;> rw [hc]
  · exact ⟨rfl, rfl, memo_some _⟩
  · exact ⟨rfl, rfl, h⟩

theorem setVects_coherent (o : BoxObj K) (v : M3 K) : (o.setVects v).Coherent :=
  coherent_fresh _ rfl

omit [IntCast K] in
theorem setOrigin_coherent (o : BoxObj K) (p : V3 K) (h : o.Coherent) : (o.setOrigin p).Coherent := by
  intro r hr
  have := h r hr
  rw [this]
  rfl

/-- scaled positions read from a coherent object are those of its visible state; nothing visible changes. -/
theorem sposC_spec (s : SysObj K) (h : s.box.Coherent) :
    s.sposC.1 = s.atoms.map (fun a => s.box.visible.cartToRel a.pos) ∧ s.sposC.2.box.visible = s.box.visible ∧
      s.sposC.2.atoms = s.atoms ∧ s.sposC.2.pbc = s.pbc ∧ s.sposC.2.box.Coherent := by
  obtain ⟨h1, h2, h3⟩ := recipC_spec s.box h
  unfold SysObj.sposC
  refine ⟨?_, h2, rfl, rfl, h3⟩
  simp only
  rw [h1]
  rfl

omit [Sub K] [Div K] [IntCast K] in
theorem setSpos_box (s : SysObj K) (sp : List (V3 K)) : (s.setSpos sp).box = s.box := rfl

/-- **coherence is an invariant of every operation of a history.** -/
theorem step_coherent (s : SysObj K) (op : HOp K) (h : s.box.Coherent) : (s.step op).box.Coherent := by
  cases op with
  | read => exact (sposC_spec s h).2.2.2.2
  | setBox v o scale =>
    cases scale with
    | true =>
      simp only [SysObj.step]
      rw [setSpos_box]
      exact setOrigin_coherent _ _ (setVects_coherent _ _)
    | false => exact setOrigin_coherent _ _ (setVects_coherent _ _)
  | setVects v => exact setVects_coherent _ _
  | setOrigin o => exact setOrigin_coherent _ _ h
  | rewrite =>
    simp only [SysObj.step]
    rw [setSpos_box]
    exact (sposC_spec s h).2.2.2.2
  | setPbc p => exact h

theorem run_coherent (ops : List (HOp K)) : ∀ (s : SysObj K), s.box.Coherent → (s.run ops).box.Coherent := by
  induction ops with
  | nil => intro s h; exact h
  | cons op rest ih =>
    intro s h
    exact ih (s.step op) (step_coherent s op h)

/-- `supersize` called on a coherent object is `supersize` of the state the object shows. -/
theorem supersizeC_eq (s : SysObj K) (h : s.box.Coherent) (sa sb sc : Size) :
    s.supersizeC sa sb sc = supersize s.box.visible sa sb sc s.atoms := by
  obtain ⟨h1, h2, h3, _, _⟩ := sposC_spec s h
  unfold SysObj.supersizeC supersize supersizeAtoms
  simp only
  rw [h1, h2, h3]
  simp only [List.zipWith_map_right, List.zipWith_self]
  rfl

/-- **after any history on the one object, `supersize` returns the supercell of the state the object shows** - what
    was read, strained by a few ppm, moved or rewritten before leaves no trace other than the visible state. -/
theorem hist_supersize (s0 : SysObj K) (h0 : s0.box.Coherent) (ops : List (HOp K)) (sa sb sc : Size) :
    (s0.run ops).supersizeC sa sb sc = supersize (s0.run ops).box.visible sa sb sc (s0.run ops).atoms :=
  supersizeC_eq _ (run_coherent ops s0 h0) sa sb sc

end Obj

section ObjRotate
variable {K : Type} [Add K] [Sub K] [Mul K] [Div K] [IntCast K] [Zero K] [One K] [LT K] [LE K]
  [DecidableLT K] [DecidableLE K]

theorem rotateRawC_eq (fl : K → Int) (s : SysObj K) (h : s.box.Coherent) (U : M3 Int) :
    s.rotateRawC fl U = rotateRaw fl s.box.visible U s.atoms := by
  unfold SysObj.rotateRawC rotateRaw
  simp only [supersizeC_eq s h, supersize]

/-- `rotate` called on a coherent object is `rotate` of the state the object shows, and fully periodic. -/
theorem rotateC_eq (fl : K → Int) (s : SysObj K) (h : s.box.Coherent) (U : M3 Int) :
    s.rotateC fl U = (rotate fl s.box.visible U s.atoms, ⟨true, true, true⟩) := by
  unfold SysObj.rotateC rotate rotateChecked
  rw [rotateRawC_eq fl s h, rotatePbc_periodic]

/-- **after any history on the one object (flag changes included), `rotate` returns the re-oriented cell of the state
    the object shows, fully periodic.** -/
theorem hist_rotate (fl : K → Int) (s0 : SysObj K) (h0 : s0.box.Coherent) (ops : List (HOp K)) (U : M3 Int) :
    (s0.run ops).rotateC fl U = (rotate fl (s0.run ops).box.visible U (s0.run ops).atoms, ⟨true, true, true⟩) :=
  rotateC_eq fl _ (run_coherent ops s0 h0) U

end ObjRotate

/-- why coherence matters (the seeded stale cache): an object showing the cell `2·1` whose cache still holds the
    reciprocal vectors of the unit cell puts the replica of the atom at `(1,1,1)` somewhere else. -/
example :
    (SysObj.supersizeC (K := ℚ) ⟨⟨⟨⟨2, 0, 0⟩, ⟨0, 2, 0⟩, ⟨0, 0, 2⟩⟩, ⟨0, 0, 0⟩, some M3.one⟩, [⟨1, ⟨1, 1, 1⟩, []⟩], ⟨true, true, true⟩⟩
        ⟨0, 1⟩ ⟨0, 1⟩ ⟨0, 1⟩).2
      ≠ (supersize (K := ℚ) ⟨⟨⟨2, 0, 0⟩, ⟨0, 2, 0⟩, ⟨0, 0, 2⟩⟩, ⟨0, 0, 0⟩⟩ ⟨0, 1⟩ ⟨0, 1⟩ ⟨0, 1⟩ [⟨1, ⟨1, 1, 1⟩, []⟩]).2 := by
  decide +kernel

end Atomman.C04
