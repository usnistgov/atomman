/-
  C05 — the cached reciprocal vectors never show: the object `CSys` (lean/Atomman/C05_Hist.lean) and the functional `Sys`
  agree on every history, because every write of the cell vectors goes through `CSys.setVects`, which drops the cache.
  Each operation first gets its closed form whatever the cache holds (`CSys.seen`: what the box hands out); coherence says
  that this is `box.recip`.  Then `Clean`: every cell an object holds is a fixed point of the setter's clean-up (`clean_runC`);
  last, what a stale cache does.
-/
import Proofs.C05_Clean
import Proofs.Lists

namespace Atomman.C05
open Atomman
-- the `variable` lines give every theorem of a section the same instances, needed or not
set_option linter.unusedSectionVars false

section core
variable {K : Type} [Add K] [Sub K] [Mul K] [Div K] [Neg K] [Zero K] [One K] [IntCast K]
  [LT K] [LE K] [DecidableLT K] [DecidableLE K]

theorem wrapWith_recip (fl : K → Int) (pad : K) (b : Box K) (pbc : V3 Bool) (pos : List (V3 K)) :
    wrapWith fl pad b.recip b pbc pos = wrap fl pad b pbc pos := by
  simp only [wrapWith, wrap, List.map_map]
  rfl

theorem coherent_fresh (b : Box K) (pbc : V3 Bool) (pos : List (V3 K)) : Coherent (⟨b, none, pbc, pos⟩ : CSys K) :=
  memo_of_none _ rfl

/-- the matrix the box hands out as its reciprocal vectors: the cache if filled, else computed from the cell. -/
def CSys.seen (c : CSys K) : M3 K := c.cache.getD c.box.recip

theorem seen_of_coherent {c : CSys K} (h : Coherent c) : c.seen = c.box.recip := memo_getD h

theorem coherent_seen {c : CSys K} (h : Coherent c) : Coherent { c with cache := some c.seen } :=
  fun _ hr => (Option.some.inj hr).symm.trans (seen_of_coherent h)

theorem recip_eq (c : CSys K) : c.recip = (c.seen, { c with cache := some c.seen }) := by
  obtain ⟨b, _ | r, p, q⟩ := c <;> rfl

theorem getSpos_eq (c : CSys K) :
    c.getSpos = (c.pos.map (relWith c.seen c.box.origin), { c with cache := some c.seen }) := by
  rw [CSys.getSpos, recip_eq]

theorem setBox_eq (tiny : K) (c : CSys K) (v : M3 K) (o : V3 K) :
    c.setBox tiny v o = ⟨⟨zeroSmall tiny v, o⟩, none, c.pbc, c.pos⟩ := rfl

theorem putSpos_eq (c : CSys K) (sp : List (V3 K)) : c.putSpos sp = { c with pos := sp.map c.box.relToCart } := rfl

theorem boxSet_eq (tiny : K) (c : CSys K) (scale : Bool) (v : M3 K) (o : V3 K) :
    c.boxSet tiny scale v o = ⟨⟨zeroSmall tiny v, o⟩, none, c.pbc,
      if scale then (c.pos.map (relWith c.seen c.box.origin)).map (Box.relToCart ⟨zeroSmall tiny v, o⟩) else c.pos⟩ := by
  cases scale
  · rfl
  · rw [CSys.boxSet, if_pos rfl, getSpos_eq]; rfl

theorem wrapC_eq (P : Params K) (c : CSys K) :
    c.wrapC P =
      (let w := wrapWith P.fl P.pad c.seen c.box c.pbc c.pos
       (w.flags, ⟨⟨zeroSmall P.tiny w.box.vects, w.box.origin⟩, none, c.pbc, w.pos⟩)) := by
  rw [CSys.wrapC, getSpos_eq]
  simp only [wrapWith, putSpos_eq, setBox_eq, List.map_map]
  rfl

theorem rebuild_eq (P : Params K) (c : CSys K) :
    c.rebuild P = (abcBox? P.sqrt c.box.vects).map fun b2 => c.boxSet P.tiny true b2.vects b2.origin := by
  have e : c.getSpos.2.box = c.box := by rw [getSpos_eq]
  rw [CSys.rebuild, e]
  cases abcBox? P.sqrt c.box.vects <;> rfl

theorem Sys.rebuild_eq (P : Params K) (s : Sys K) :
    s.rebuild P = (abcBox? P.sqrt s.box.vects).map fun b2 => s.boxSet P.tiny true b2.vects b2.origin := by
  rw [Sys.rebuild]
  cases abcBox? P.sqrt s.box.vects <;> rfl

/-- reading the reciprocal vectors of a coherent object returns the true ones, changes nothing visible and
    leaves the object coherent. -/
theorem recip_spec (c : CSys K) (h : Coherent c) :
    c.recip.1 = c.box.recip ∧ c.recip.2.erase = c.erase ∧ c.recip.2.box = c.box ∧ c.recip.2.pbc = c.pbc ∧
    c.recip.2.pos = c.pos ∧ Coherent c.recip.2 := by
  rw [recip_eq]
  exact ⟨seen_of_coherent h, rfl, rfl, rfl, rfl, coherent_seen h⟩

/-- reading scaled positions of a coherent object: the functional value, nothing visible changes. -/
theorem getSpos_spec (c : CSys K) (h : Coherent c) :
    c.getSpos.1 = c.erase.spos ∧ c.getSpos.2.box = c.box ∧ c.getSpos.2.pbc = c.pbc ∧
    c.getSpos.2.pos = c.pos ∧ Coherent c.getSpos.2 := by
  rw [getSpos_eq]
  exact ⟨by rw [seen_of_coherent h]; rfl, rfl, rfl, rfl, coherent_seen h⟩

theorem boxSet_spec (tiny : K) (c : CSys K) (h : Coherent c) (scale : Bool) (v : M3 K) (o : V3 K) :
    (c.boxSet tiny scale v o).erase = c.erase.boxSet tiny scale v o ∧ Coherent (c.boxSet tiny scale v o) := by
  rw [boxSet_eq, seen_of_coherent h]
  exact ⟨by cases scale <;> rfl, coherent_fresh _ _ _⟩

theorem wrapC_spec (P : Params K) (c : CSys K) (h : Coherent c) :
    (c.wrapC P).1 = (c.erase.wrapS P).1 ∧ (c.wrapC P).2.erase = (c.erase.wrapS P).2 ∧ Coherent (c.wrapC P).2 := by
  rw [wrapC_eq, seen_of_coherent h, wrapWith_recip]
  exact ⟨rfl, rfl, coherent_fresh _ _ _⟩

theorem wrapC_visible (P : Params K) (c : CSys K) (h : Coherent c) :
    (c.wrapC P).1 = (wrap P.fl P.pad c.box c.pbc c.pos).flags ∧
    (c.wrapC P).2.pos = (wrap P.fl P.pad c.box c.pbc c.pos).pos ∧
    (c.wrapC P).2.box = ⟨zeroSmall P.tiny (wrap P.fl P.pad c.box c.pbc c.pos).box.vects,
      (wrap P.fl P.pad c.box c.pbc c.pos).box.origin⟩ := by
  -- `Sys.wrapS` is `wrap` of the visible state followed by the clean-up
  obtain ⟨w1, w2, _⟩ := wrapC_spec P c h
  exact ⟨w1, congrArg Sys.pos w2, congrArg Sys.box w2⟩

theorem rebuild_spec (P : Params K) (c : CSys K) (h : Coherent c) :
    (c.rebuild P).map CSys.erase = c.erase.rebuild P ∧ ∀ c', c.rebuild P = some c' → Coherent c' := by
  rw [rebuild_eq, Sys.rebuild_eq, Option.map_map]
  refine ⟨Option.map_congr fun b2 _ => (boxSet_spec P.tiny c h true b2.vects b2.origin).1, fun c' hc' => ?_⟩
  obtain ⟨b2, _, rfl⟩ := Option.map_eq_some_iff.mp hc'
  exact (boxSet_spec P.tiny c h true b2.vects b2.origin).2

theorem wrapC_pbc (P : Params K) (c : CSys K) : (c.wrapC P).2.pbc = c.pbc := by
  rw [wrapC_eq]

theorem wrapC_pos_length (P : Params K) (c : CSys K) : (c.wrapC P).2.pos.length = c.pos.length := by
  rw [wrapC_eq]
  exact (List.length_map _).trans (List.length_map _)

theorem normalizeC_pos_length (P : Params K) (c : CSys K) (z : Normalized K) (hz : c.normalizeC P = some z) :
    z.pos.length = c.pos.length := by
  -- neither the optional reversal nor the rebuild nor the wrap changes the number of positions
  have hf : ∀ c : CSys K, (if triple c.box.vects < 0 then c.setBox P.tiny (flipC c.box).vects (flipC c.box).origin else c).pos
      = c.pos := fun c => by split_ifs <;> rfl
  rw [CSys.normalizeC, rebuild_eq] at hz
  cases hb : abcBox? P.sqrt _ with
  | none => rw [hb] at hz; cases hz
  | some b2 =>
    rw [hb] at hz
    obtain rfl := Option.some.inj hz
    show (CSys.wrapC P (CSys.boxSet _ _ _ _ _)).2.pos.length = _
    rw [wrapC_pos_length, boxSet_eq, if_pos rfl]
    simp only [List.length_map, hf]

theorem normalizeC_spec (P : Params K) (c : CSys K) (h : Coherent c) :
    c.normalizeC P = c.erase.normalizeS P := by
  -- the copy after the (optional) flip
  have key : ∀ c1 : CSys K, Coherent c1 →
      (match c1.rebuild P with
        | none => none
        | some c2 =>
          let w := c2.wrapC P
          some (⟨w.2.box, w.2.pos, w.1, (M3.mul (M3.inv c1.box.vects) w.2.box.vects).transpose⟩ : Normalized K)) =
      (match c1.erase.rebuild P with
        | none => none
        | some s2 =>
          let w := s2.wrapS P
          some ⟨w.2.box, w.2.pos, w.1, (M3.mul (M3.inv c1.erase.box.vects) w.2.box.vects).transpose⟩) := by
    intro c1 h1
    obtain ⟨r1, r2⟩ := rebuild_spec P c1 h1
    rw [← r1]
    cases hr : c1.rebuild P with
    | none => rfl
    | some c2 =>
      obtain ⟨w1, w2, _⟩ := wrapC_spec P c2 (r2 c2 hr)
      simp only [Option.map_some, ← w1, ← w2]
      rfl
  unfold CSys.normalizeC Sys.normalizeS
  have hb : c.erase.box = c.box := rfl
  by_cases ht : triple c.box.vects < 0
  · simp only [hb, ht, if_true]
    exact key (c.setBox P.tiny (flipC c.box).vects (flipC c.box).origin) (coherent_fresh _ _ _)
  · simp only [hb, ht, if_false]
    exact key c h

/-- **stepC_erase**: one operation on a coherent object does what the functional model says (visible state
    and observation), and leaves the object coherent. -/
theorem stepC_erase (P : Params K) (c : CSys K) (h : Coherent c) (op : Op K) :
    (stepC P c op).1.erase = (step P c.erase op).1 ∧ (stepC P c op).2 = (step P c.erase op).2 ∧
    Coherent (stepC P c op).1 := by
  cases op with
  | spos =>
    obtain ⟨g1, _, _, _, g5⟩ := getSpos_spec c h
    exact ⟨(recip_spec c h).2.1, congrArg Obs.spos g1, g5⟩
  | wrap =>
    obtain ⟨w1, w2, w3⟩ := wrapC_spec P c h
    exact ⟨w2, congrArg Obs.flags w1, w3⟩
  | rebuild =>
    obtain ⟨r1, r2⟩ := rebuild_spec P c h
    simp only [stepC, step, ← r1]
    cases hr : c.rebuild P with
    | none => exact ⟨(recip_spec c h).2.1, rfl, (getSpos_spec c h).2.2.2.2⟩
    | some c' => exact ⟨rfl, rfl, r2 c' hr⟩
  | normalize =>
    simp only [stepC, step, ← normalizeC_spec P c h]
    cases c.normalizeC P <;> exact ⟨rfl, rfl, h⟩
  | boxSet scale v o =>
    obtain ⟨b1, b2⟩ := boxSet_spec P.tiny c h scale v o
    exact ⟨b1, rfl, b2⟩
  | setVects v => exact ⟨rfl, rfl, coherent_fresh _ _ _⟩
  -- the remaining four touch neither the cell vectors nor the cache
  | setOrigin o => exact ⟨rfl, rfl, h⟩
  | setPbc p => exact ⟨rfl, rfl, h⟩
  | editPbc k v => exact ⟨rfl, rfl, h⟩
  | setPos p => exact ⟨rfl, rfl, h⟩

/-- **runC_erase** (history independence): on a coherent object every history of operations yields the
    visible state and the observations of the functional model; whether and when scaled positions were
    looked at before (i.e. what the cache holds) cannot be seen. -/
theorem runC_erase (P : Params K) (ops : List (Op K)) (c : CSys K) (h : Coherent c) :
    (runC P c ops).1.erase = (run P c.erase ops).1 ∧ (runC P c ops).2 = (run P c.erase ops).2 ∧
    Coherent (runC P c ops).1 := by
  induction ops generalizing c with
  | nil => exact ⟨rfl, rfl, h⟩
  | cons op ops ih =>
    obtain ⟨s1, s2, s3⟩ := stepC_erase P c h op
    obtain ⟨i1, i2, i3⟩ := ih (stepC P c op).1 s3
    simp only [runC, run]
    rw [← s1, ← s2]
    exact ⟨i1, by rw [i2], i3⟩

theorem runC_snoc (P : Params K) (ops : List (Op K)) (c : CSys K) (op : Op K) :
    (runC P c (ops ++ [op])).1 = (stepC P (runC P c ops).1 op).1 := by
  induction ops generalizing c with
  | nil => rfl
  | cons o os ih => simp only [List.cons_append, runC]; exact ih _

theorem stepC_normalize_fst (P : Params K) (c : CSys K) : (stepC P c .normalize).1 = c := by
  unfold stepC
  cases c.normalizeC P <;> rfl

theorem setAxis_false (p : V3 Bool) (k : Nat) :
    (k = 0 → (setAxis p k false).x = false) ∧ (k = 1 → (setAxis p k false).y = false) ∧
    (k = 2 → (setAxis p k false).z = false) :=
  ⟨fun h => by subst h; rfl, fun h => by subst h; rfl, fun h => by subst h; rfl⟩

/-- two coherent objects with the same visible state are indistinguishable by any history. -/
theorem runC_cache_irrelevant (P : Params K) (ops : List (Op K)) (c c' : CSys K) (h : Coherent c)
    (h' : Coherent c') (e : c.erase = c'.erase) :
    (runC P c ops).1.erase = (runC P c' ops).1.erase ∧ (runC P c ops).2 = (runC P c' ops).2 := by
  obtain ⟨a1, a2, _⟩ := runC_erase P ops c h
  obtain ⟨b1, b2, _⟩ := runC_erase P ops c' h'
  rw [a1, a2, b1, b2, e]
  exact ⟨rfl, rfl⟩

end core

section field
variable {K : Type} [Field K] [LinearOrder K] [IsStrictOrderedRing K]

/-- a cell is *clean* when the setter would not change it (every cell held by a `Box` is: it went through the setter). -/
def Clean (tiny : K) (c : CSys K) : Prop := zeroSmall tiny c.box.vects = c.box.vects

theorem Clean.eq {tiny : K} {c : CSys K} (h : Clean tiny c) : zeroSmall tiny c.box.vects = c.box.vects := h

/-- the setter would not alter the cell `wrap` installs on `c` (`hclean_iff` says when; `wrap_clean_of_margin`,
    `wrapClean_of_full` give it). -/
def WrapClean (P : Params K) (c : CSys K) : Prop :=
  zeroSmall P.tiny (wrap P.fl P.pad c.box c.pbc c.pos).box.vects = (wrap P.fl P.pad c.box c.pbc c.pos).box.vects

theorem WrapClean.eq {P : Params K} {c : CSys K} (h : WrapClean P c) :
    zeroSmall P.tiny (wrap P.fl P.pad c.box c.pbc c.pos).box.vects = (wrap P.fl P.pad c.box c.pbc c.pos).box.vects := h

/-- the setter would not alter the cell `normalize` rebuilds from `s` (`hc2_iff` says when; it can fail on the real code,
    see docs/C05.md). -/
def RebuildClean (P : Params K) (s : Sys K) : Prop :=
  ∀ b2, abcBox? P.sqrt (flip s.box).vects = some b2 → zeroSmall P.tiny b2.vects = b2.vects

/-- **hclean_iff**: the equation that `WrapClean P c` abbreviates, written out, holds exactly when every component of the cell
    `wrap` installs (the old cell with its non-periodic vectors lengthened) is zero or exceeds `tiny` times the largest one. -/
theorem hclean_iff (P : Params K) (c : CSys K) :
    zeroSmall P.tiny (wrap P.fl P.pad c.box c.pbc c.pos).box.vects = (wrap P.fl P.pad c.box c.pbc c.pos).box.vects ↔
    ∀ x ∈ (wrap P.fl P.pad c.box c.pbc c.pos).box.vects.toList,
      x = 0 ∨ P.tiny * maxAbs (wrap P.fl P.pad c.box c.pbc c.pos).box.vects < |x| :=
  zeroSmall_eq_self_iff _ _

/-- **wrap_clean_of_margin**: the equation of `WrapClean` from the cell BEFORE the wrap: if no direction is lengthened by more than
    the factor `kmax` (`maxs[i] - mins[i] ≤ kmax`, e.g. the atoms stick out by at most `kmax - 1` cells) and every
    non-zero component of the old cell exceeds `tiny · kmax` times its largest component, the clean-up of the setter does
    not alter the lengthened cell (with `tiny = 1e-9`: components above `1e-6` of the largest and `kmax ≤ 1000`). -/
theorem wrap_clean_of_margin (fl : K → Int) (pad tiny : K) (hpad : 0 < pad) (ht : 0 ≤ tiny) (b : Box K) (pbc : V3 Bool)
    (pos : List (V3 K)) (kmax : K)
    (hk : let bd := bounds pad pbc (pos.map b.cartToRel)
      bd.x.2 - bd.x.1 ≤ kmax ∧ bd.y.2 - bd.y.1 ≤ kmax ∧ bd.z.2 - bd.z.1 ≤ kmax)
    (hmargin : ∀ x ∈ b.vects.toList, x = 0 ∨ tiny * kmax * maxAbs b.vects < |x|) :
    zeroSmall tiny (wrap fl pad b pbc pos).box.vects = (wrap fl pad b pbc pos).box.vects := by
  obtain ⟨wx, wy, wz⟩ := bounds_width pad hpad pbc (pos.map b.cartToRel)
  obtain ⟨kx, ky, kz⟩ := hk
  exact zeroSmall_stretched tiny ht b.vects _ _ _ kmax wx wy wz kx ky kz hmargin

/-- a fully periodic `wrap` returns the cell it was given, and a clean object holds a cell the setter does not alter. -/
theorem wrapClean_of_full (P : Params K) (c : CSys K) (hcl : Clean P.tiny c) (hp : c.pbc = ⟨true, true, true⟩) :
    WrapClean P c := by
  unfold WrapClean
  rw [hp, wrap_box_full]
  exact hcl.eq

/-- **hc2_iff**: the statement that `RebuildClean P s` abbreviates, written out, holds exactly when every component of the rebuilt LAMMPS cell (three edge lengths along the axes, three tilt factors, three structural zeros)
    is zero or exceeds `tiny` times the largest one (`clean_lammps_iff` gives the same in the six parameters). -/
theorem hc2_iff (P : Params K) (s : Sys K) :
    (∀ b2, abcBox? P.sqrt (flip s.box).vects = some b2 → zeroSmall P.tiny b2.vects = b2.vects) ↔
    (∀ b2, abcBox? P.sqrt (flip s.box).vects = some b2 →
      ∀ x ∈ b2.vects.toList, x = 0 ∨ P.tiny * maxAbs b2.vects < |x|) :=
  forall₂_congr fun _ _ => zeroSmall_eq_self_iff _ _

/-- **clean_stepC**: every operation keeps the cell of the object clean. -/
theorem clean_stepC (P : Params K) (h0 : 0 ≤ P.tiny) (h1 : P.tiny < 1) (c : CSys K) (hc : Clean P.tiny c) (op : Op K) :
    Clean P.tiny (stepC P c op).1 := by
  -- an operation either leaves the cell vectors alone or writes them through the setter
  have hg : Clean P.tiny c.getSpos.2 := by rw [getSpos_eq]; exact hc
  have hs : ∀ (sc : Bool) (v : M3 K) (o : V3 K), Clean P.tiny (c.boxSet P.tiny sc v o) := by
    intro sc v o; rw [boxSet_eq]; exact zeroSmall_idem P.tiny h0 h1 v
  cases op with
  | spos => exact hg
  | wrap =>
    show Clean P.tiny (c.wrapC P).2
    rw [wrapC_eq]; exact zeroSmall_idem P.tiny h0 h1 _
  | rebuild =>
    unfold stepC
    rw [rebuild_eq]
    cases abcBox? P.sqrt c.box.vects with
    | none => exact hg
    | some b2 => exact hs _ _ _
  | normalize =>
    unfold stepC
    cases c.normalizeC P <;> exact hc
  | boxSet scale v o => exact hs _ _ _
  | setVects v => exact zeroSmall_idem P.tiny h0 h1 v
  | setOrigin o => exact hc
  | setPbc p => exact hc
  | editPbc k v => exact hc
  | setPos p => exact hc

theorem clean_runC (P : Params K) (h0 : 0 ≤ P.tiny) (h1 : P.tiny < 1) (ops : List (Op K)) (c : CSys K)
    (hc : Clean P.tiny c) : Clean P.tiny (runC P c ops).1 := by
  induction ops generalizing c with
  | nil => exact hc
  | cons op ops ih => exact ih _ (clean_stepC P h0 h1 c hc op)

end field

section stale

/-- cell `4·1`, one atom 100 cells out; the cache still holds the reciprocal vectors of the cell before a
    strain of `1/1000`. -/
def staleSys : CSys ℚ :=
  ⟨⟨⟨⟨4, 0, 0⟩, ⟨0, 4, 0⟩, ⟨0, 0, 4⟩⟩, ⟨0, 0, 0⟩⟩,
   some ⟨⟨1000/4004, 0, 0⟩, ⟨0, 1000/4004, 0⟩, ⟨0, 0, 1000/4004⟩⟩,
   ⟨true, true, true⟩, [⟨401, 1, 1⟩]⟩

-- `sqrt` is not consulted by `wrapC`
def stalePar : Params ℚ := ⟨Rat.floor, 1/1000, 1/1000000000, fun x => x⟩

/-- the cache is not coherent … -/
example : ¬ Coherent staleSys := by
  intro h
  have := h _ rfl
  revert this
  decide +kernel

/-- … and `wrap` then moves the atom by something that is not a lattice vector: the image flags do not
    reconstruct the old position (they do for the same visible state with a coherent cache). -/
example : let w := staleSys.wrapC stalePar
    List.zipWith (fun p' f => p' + latticeVec staleSys.box.vects f) w.2.pos w.1 ≠ staleSys.pos := by
  decide +kernel

example : let c : CSys ℚ := { staleSys with cache := none }
    let w := c.wrapC stalePar
    List.zipWith (fun p' f => p' + latticeVec c.box.vects f) w.2.pos w.1 = c.pos := by
  decide +kernel

end stale

end Atomman.C05
