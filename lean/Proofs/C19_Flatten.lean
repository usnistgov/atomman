/-
  C19 — `Log.flatten` on rows: the fold over the runs written out as an explicit selection of rows (`specFirst`, `specLast`),
  what both merges have in common (`Splits`), and the property theorems `flatten_first…`, `flatten_last…`, `flatten_all`.
-/
import Atomman.C19
import Mathlib.Data.List.Basic
import Mathlib.Order.MinMax

set_option linter.unusedSimpArgs false

namespace Atomman.C19
open List

section Flatten
variable {α : Type} (step : α → Int)

/-- the row filter of style `first`, regenerated from Log.py (`Generated/LogTriggers.lean`): `firstKeep a m` is
    `m < a`. -/
theorem firstKeep_iff (a m : Int) : Gen.Log.firstKeep a m = true ↔ m < a := by
  simp [Gen.Log.firstKeep]

/-- the row filter of style `last`, regenerated likewise: `lastKeep a m` is `a < m`. -/
theorem lastKeep_iff (a m : Int) : Gen.Log.lastKeep a m = true ↔ a < m := by
  simp [Gen.Log.lastKeep]

theorem maxStep?_nil_iff (l : List α) : maxStep? step l = none ↔ l = [] := by
  cases l <;> simp [maxStep?]

theorem minStep?_nil_iff (l : List α) : minStep? step l = none ↔ l = [] := by
  cases l <;> simp [minStep?]

theorem maxStep?_lt (l : List α) (m s : Int) (h : maxStep? step l = some m) :
    m < s ↔ ∀ x ∈ l, step x < s := by
  induction l generalizing m with
  | nil => simp [maxStep?] at h
  | cons r rs ih =>
    simp only [maxStep?, Option.some.injEq] at h
    cases hrs : maxStep? step rs with
    | none =>
      rw [hrs] at h
      have : rs = [] := (maxStep?_nil_iff step rs).1 hrs
      subst this; subst h; simp
    | some m' =>
      rw [hrs] at h
      have := ih m' hrs
      subst h
      simp only [mem_cons, forall_eq_or_imp, max_lt_iff, this]

theorem lt_minStep? (l : List α) (m s : Int) (h : minStep? step l = some m) :
    s < m ↔ ∀ x ∈ l, s < step x := by
  induction l generalizing m with
  | nil => simp [minStep?] at h
  | cons r rs ih =>
    simp only [minStep?, Option.some.injEq] at h
    cases hrs : minStep? step rs with
    | none =>
      rw [hrs] at h
      have : rs = [] := (minStep?_nil_iff step rs).1 hrs
      subst this; subst h; simp
    | some m' =>
      rw [hrs] at h
      have := ih m' hrs
      subst h
      simp only [mem_cons, forall_eq_or_imp, lt_min_iff, this]

/-- style `first`: a row of a later run is kept iff its step exceeds every step printed by the runs before it. -/
def specFirst (seen : List α) : List (List α) → List α
  | [] => []
  | run :: rest =>
    run.filter (fun r => seen.all (fun x => decide (step x < step r))) ++ specFirst (seen ++ run) rest

/-- style `last`: a row is kept iff its step is below every step printed by the runs after it. -/
def specLast : List (List α) → List α
  | [] => []
  | run :: rest =>
    run.filter (fun r => rest.all (fun run' => run'.all (fun x => decide (step r < step x)))) ++ specLast rest

theorem foldl_mergeAll (acc : List α) (ts : List (List α)) :
    ts.foldl mergeAll acc = acc ++ ts.flatten := by
  induction ts generalizing acc with
  | nil => simp
  | cons t ts ih => simp [ih, mergeAll]

/-- The table merged so far (`acc`) holds only part of the rows printed so far (`seen`), but `mergeFirst` looks only
    at its maximum step, and `hdom` says the two have the same strict upper bounds (the same maximum): filtering the
    next run against `acc` is filtering it against everything seen.  `hdom` is re-established for `acc ++ kept`,
    `seen ++ t` because a row of `t` that was dropped is beaten by a seen one. -/
theorem foldl_mergeFirst (acc seen : List α) (ts : List (List α)) (hne : acc ≠ [])
    (hdom : ∀ s : Int, (∀ x ∈ acc, step x < s) ↔ (∀ x ∈ seen, step x < s)) :
    ts.foldl (mergeFirst step) acc = acc ++ specFirst step seen ts := by
  induction ts generalizing acc seen with
  | nil => simp [specFirst]
  | cons t ts ih =>
    obtain ⟨m, hm⟩ : ∃ m, maxStep? step acc = some m := by
      cases h : maxStep? step acc with
      | none => exact absurd ((maxStep?_nil_iff step acc).1 h) hne
      | some m => exact ⟨m, rfl⟩
    have hacc' : mergeFirst step acc t = acc ++ t.filter (fun r => seen.all (fun x => decide (step x < step r))) := by
      unfold mergeFirst
      congr 1
      apply filter_congr
      intro r _
      rw [hm, Bool.eq_iff_iff]
      simp only [decide_eq_true_eq, all_eq_true]
      rw [firstKeep_iff, maxStep?_lt step acc m (step r) hm, hdom]
    simp only [foldl_cons, specFirst]
    rw [hacc', ih _ (seen ++ t) (by simp [hne]), append_assoc]
    intro s
    constructor
    · intro h x hx
      rcases mem_append.1 hx with hx | hx
      · exact (hdom s).1 (fun y hy => h y (mem_append_left _ hy)) x hx
      · by_cases hk : seen.all (fun y => decide (step y < step x)) = true
        · exact h x (mem_append_right _ (mem_filter.2 ⟨hx, hk⟩))
        · simp only [all_eq_true, decide_eq_true_eq, not_forall] at hk
          obtain ⟨y, hy, hlt⟩ := hk
          have := (hdom s).1 (fun y hy => h y (mem_append_left _ hy)) y hy
          omega
    · intro h x hx
      rcases mem_append.1 hx with hx | hx
      · exact (hdom s).2 (fun y hy => h y (mem_append_left _ hy)) x hx
      · exact h x (mem_append_right _ (mem_filter.1 hx).1)

/-- `mergeLast` filters the table so far against the minimum of the new run, so after the fold a row of `acc`
    survives iff it is below every row of every later run. -/
theorem foldl_mergeLast (acc : List α) (ts : List (List α)) (hne : ∀ t ∈ ts, t ≠ []) :
    ts.foldl (mergeLast step) acc
      = acc.filter (fun r => ts.all (fun run' => run'.all (fun x => decide (step r < step x))))
        ++ specLast step ts := by
  induction ts generalizing acc with
  | nil => simp [specLast]
  | cons t ts ih =>
    obtain ⟨m, hm⟩ : ∃ m, minStep? step t = some m := by
      cases h : minStep? step t with
      | none => exact absurd ((minStep?_nil_iff step t).1 h) (hne t mem_cons_self)
      | some m => exact ⟨m, rfl⟩
    have hacc' : mergeLast step acc t
        = acc.filter (fun r => t.all (fun x => decide (step r < step x))) ++ t := by
      unfold mergeLast
      congr 1
      apply filter_congr
      intro r _
      rw [hm, Bool.eq_iff_iff]
      simp only [decide_eq_true_eq, all_eq_true]
      rw [lastKeep_iff]
      exact lt_minStep? step t m (step r) hm
    simp only [foldl_cons, specLast]
    rw [hacc', ih _ (fun t' ht' => hne t' (mem_cons_of_mem _ ht')), filter_append, filter_filter,
      append_assoc]
    congr 1
    apply filter_congr
    intro r _
    simp only [all_cons, Bool.and_comm]

theorem specFirst_gt (seen : List α) (ts : List (List α)) :
    ∀ r ∈ specFirst step seen ts, ∀ x ∈ seen, step x < step r := by
  induction ts generalizing seen with
  | nil => simp [specFirst]
  | cons t ts ih =>
    intro r hr x hx
    simp only [specFirst, mem_append, mem_filter, all_eq_true, decide_eq_true_eq] at hr
    rcases hr with ⟨_, h⟩ | h
    · exact h x hx
    · exact ih (seen ++ t) r h x (mem_append_left _ hx)

theorem specFirst_sublist (seen : List α) (ts : List (List α)) :
    (specFirst step seen ts).Sublist ts.flatten := by
  induction ts generalizing seen with
  | nil => simp [specFirst]
  | cons t ts ih =>
    simp only [specFirst, flatten_cons]
    exact Sublist.append filter_sublist (ih _)

theorem specLast_sublist (ts : List (List α)) : (specLast step ts).Sublist ts.flatten := by
  induction ts with
  | nil => simp [specLast]
  | cons t ts ih =>
    simp only [specLast, flatten_cons]
    exact Sublist.append filter_sublist ih

theorem specFirst_pairwise (R : Int → Int → Prop) (hR : ∀ a b, a < b → R a b) (seen : List α)
    (ts : List (List α)) (h : ∀ run ∈ ts, (run.map step).Pairwise R) :
    ((specFirst step seen ts).map step).Pairwise R := by
  induction ts generalizing seen with
  | nil => simp [specFirst]
  | cons t ts ih =>
    simp only [specFirst, map_append]
    rw [pairwise_append]
    refine ⟨?_, ih _ (fun run hr => h run (mem_cons_of_mem _ hr)), ?_⟩
    · exact (h t mem_cons_self).sublist (filter_sublist.map step)
    · intro a ha b hb
      obtain ⟨x, hx, rfl⟩ := mem_map.1 ha
      obtain ⟨y, hy, rfl⟩ := mem_map.1 hb
      exact hR _ _ (specFirst_gt step _ _ y hy x (mem_append_right _ (mem_filter.1 hx).1))

theorem specLast_pairwise (R : Int → Int → Prop) (hR : ∀ a b, a < b → R a b)
    (ts : List (List α)) (h : ∀ run ∈ ts, (run.map step).Pairwise R) :
    ((specLast step ts).map step).Pairwise R := by
  induction ts with
  | nil => simp [specLast]
  | cons t ts ih =>
    simp only [specLast, map_append]
    rw [pairwise_append]
    refine ⟨?_, ih (fun run hr => h run (mem_cons_of_mem _ hr)), ?_⟩
    · exact (h t mem_cons_self).sublist (filter_sublist.map step)
    · intro a ha b hb
      obtain ⟨x, hx, rfl⟩ := mem_map.1 ha
      obtain ⟨y, hy, rfl⟩ := mem_map.1 hb
      have hx2 := (mem_filter.1 hx).2
      simp only [all_eq_true, decide_eq_true_eq] at hx2
      obtain ⟨run, hrun, hyrun⟩ := mem_flatten.1 ((specLast_sublist step ts).subset hy)
      exact hR _ _ (hx2 run hrun y hyrun)

theorem mem_specFirst (seen : List α) (ts : List (List α)) (r : α) :
    r ∈ specFirst step seen ts ↔
      ∃ i run, ts[i]? = some run ∧ r ∈ run ∧ (∀ x ∈ seen, step x < step r) ∧
        ∀ (j : Nat) (run' : List α), j < i → ts[j]? = some run' → ∀ x ∈ run', step x < step r := by
  induction ts generalizing seen with
  | nil => simp [specFirst]
  | cons t ts ih =>
    simp only [specFirst, mem_append, mem_filter, all_eq_true, decide_eq_true_eq]
    constructor
    · rintro (⟨hr, hs⟩ | h)
      · exact ⟨0, t, by simp, hr, hs, by intro j run' hj; omega⟩
      · obtain ⟨i, run, hi, hr, hs, hj⟩ := (ih _ ).1 h
        refine ⟨i + 1, run, by simpa using hi, hr, fun x hx => hs x (mem_append_left _ hx), ?_⟩
        intro j run' hjlt hjrun x hx
        cases j with
        | zero =>
          simp only [getElem?_cons_zero, Option.some.injEq] at hjrun
          subst hjrun
          exact hs x (mem_append_right _ hx)
        | succ j =>
          simp only [getElem?_cons_succ] at hjrun
          exact hj j run' (by omega) hjrun x hx
    · rintro ⟨i, run, hi, hr, hs, hj⟩
      cases i with
      | zero =>
        simp only [getElem?_cons_zero, Option.some.injEq] at hi
        subst hi
        exact Or.inl ⟨hr, hs⟩
      | succ i =>
        simp only [getElem?_cons_succ] at hi
        refine Or.inr ((ih _).2 ⟨i, run, hi, hr, ?_, ?_⟩)
        · intro x hx
          rcases mem_append.1 hx with hx | hx
          · exact hs x hx
          · exact hj 0 t (by omega) (by simp) x hx
        · intro j run' hjlt hjrun x hx
          exact hj (j + 1) run' (by omega) (by simpa using hjrun) x hx

theorem mem_specLast (ts : List (List α)) (r : α) :
    r ∈ specLast step ts ↔
      ∃ i run, ts[i]? = some run ∧ r ∈ run ∧
        ∀ (j : Nat) (run' : List α), i < j → ts[j]? = some run' → ∀ x ∈ run', step r < step x := by
  induction ts with
  | nil => simp [specLast]
  | cons t ts ih =>
    simp only [specLast, mem_append, mem_filter, all_eq_true, decide_eq_true_eq]
    constructor
    · rintro (⟨hr, hs⟩ | h)
      · refine ⟨0, t, by simp, hr, ?_⟩
        intro j run' hj hjrun x hx
        cases j with
        | zero => omega
        | succ j =>
          simp only [getElem?_cons_succ] at hjrun
          exact hs run' (mem_of_getElem? hjrun) x hx
      · obtain ⟨i, run, hi, hr, hj⟩ := ih.1 h
        refine ⟨i + 1, run, by simpa using hi, hr, ?_⟩
        intro j run' hjlt hjrun x hx
        cases j with
        | zero => omega
        | succ j =>
          simp only [getElem?_cons_succ] at hjrun
          exact hj j run' (by omega) hjrun x hx
    · rintro ⟨i, run, hi, hr, hj⟩
      cases i with
      | zero =>
        simp only [getElem?_cons_zero, Option.some.injEq] at hi
        subst hi
        refine Or.inl ⟨hr, ?_⟩
        intro run' hrun' x hx
        obtain ⟨j, hjlt, hjeq⟩ := getElem_of_mem hrun'
        exact hj (j + 1) run' (by omega) (by simp [getElem?_eq_getElem hjlt, hjeq]) x hx
      | succ i =>
        simp only [getElem?_cons_succ] at hi
        refine Or.inr (ih.2 ⟨i, run, hi, hr, ?_⟩)
        intro j run' hjlt hjrun x hx
        exact hj (j + 1) run' (by omega) (by simpa using hjrun) x hx

theorem specFirst_nil_cons (t : List α) (ts : List (List α)) :
    specFirst step [] (t :: ts) = t ++ specFirst step t ts := by
  simp [specFirst]

theorem flattenFirst_eq (t : List α) (ts : List (List α)) (ht : t ≠ []) :
    flattenFirst step (t :: ts) = some (specFirst step [] (t :: ts)) := by
  simp only [flattenFirst, flattenWith]
  rw [foldl_mergeFirst step t t ts ht (fun _ => Iff.rfl), specFirst_nil_cons]

/-- pandas: every comparison with the NaN maximum of an empty table is False, nothing is ever added. -/
theorem foldl_mergeFirst_nil (ts : List (List α)) : ts.foldl (mergeFirst step) [] = [] := by
  induction ts with
  | nil => rfl
  | cons t ts ih => simpa [mergeFirst, maxStep?] using ih

/-- **flatten_first_empty_first**: an empty first run (a header without rows) makes style `first` keep nothing
    (every comparison with the NaN maximum of an empty table is false).  With `flatten_first` (first run non-empty,
    later runs arbitrary) style `first` is characterised for every input. -/
theorem flatten_first_empty_first (ts : List (List α)) : flattenFirst step ([] :: ts) = some [] := by
  simp only [flattenFirst, flattenWith]
  rw [foldl_mergeFirst_nil]

theorem flattenLast_eq (t : List α) (ts : List (List α)) (hne : ∀ t' ∈ ts, t' ≠ []) :
    flattenLast step (t :: ts) = some (specLast step (t :: ts)) := by
  simp only [flattenLast, flattenWith]
  rw [foldl_mergeLast step t ts hne]
  simp [specLast]

/-- Both merges keep part of the table merged so far, then part of the new run, and every kept old step is below every
    kept new one (`first` filters the new run against the maximum so far, `last` the table so far against the minimum of
    the new run). -/
def Splits (merge : List α → List α → List α) : Prop :=
  ∀ acc t, ∃ a b, merge acc t = a ++ b ∧ a.Sublist acc ∧ b.Sublist t ∧ ∀ x ∈ a, ∀ y ∈ b, step x < step y

theorem mergeFirst_splits : Splits step (mergeFirst step) := by
  intro acc t
  refine ⟨acc, _, rfl, Sublist.refl _, filter_sublist, fun x hx y hy => ?_⟩
  have hy2 := (mem_filter.1 hy).2
  cases hm : maxStep? step acc with
  | none => rw [hm] at hy2; simp at hy2
  | some m =>
    rw [hm, firstKeep_iff] at hy2
    exact (maxStep?_lt step acc m (step y) hm).1 hy2 x hx

theorem mergeLast_splits : Splits step (mergeLast step) := by
  intro acc t
  refine ⟨_, t, rfl, filter_sublist, Sublist.refl _, fun x hx y hy => ?_⟩
  have hx2 := (mem_filter.1 hx).2
  cases hm : minStep? step t with
  | none => rw [hm] at hx2; simp at hx2
  | some m =>
    rw [hm, lastKeep_iff] at hx2
    exact (lt_minStep? step t m (step x) hm).1 hx2 y hy

variable {step} {merge : List α → List α → List α} (hm : Splits step merge)
include hm

theorem foldl_merge_sublist (acc : List α) (ts : List (List α)) :
    (ts.foldl merge acc).Sublist (acc ++ ts.flatten) := by
  induction ts generalizing acc with
  | nil => simp
  | cons t ts ih =>
    obtain ⟨a, b, e, ha, hb, _⟩ := hm acc t
    rw [foldl_cons, flatten_cons, ← append_assoc, e]
    exact (ih _).trans (Sublist.append (Sublist.append ha hb) (Sublist.refl _))

/-- `R` is `<` (the result is sorted) or `≠` (no step twice). -/
theorem foldl_merge_pairwise (R : Int → Int → Prop) (hR : ∀ a b, a < b → R a b) (acc : List α)
    (ts : List (List α)) (hacc : (acc.map step).Pairwise R) (h : ∀ run ∈ ts, (run.map step).Pairwise R) :
    ((ts.foldl merge acc).map step).Pairwise R := by
  induction ts generalizing acc with
  | nil => simpa using hacc
  | cons t ts ih =>
    rw [foldl_cons]
    apply ih _ _ (fun run hr => h run (mem_cons_of_mem _ hr))
    obtain ⟨a, b, e, ha, hb, hab⟩ := hm acc t
    rw [e, map_append, pairwise_append]
    refine ⟨hacc.sublist (ha.map step), (h t mem_cons_self).sublist (hb.map step), ?_⟩
    intro p hp q hq
    obtain ⟨x, hx, rfl⟩ := mem_map.1 hp
    obtain ⟨y, hy, rfl⟩ := mem_map.1 hq
    exact hR _ _ (hab x hx y hy)

theorem flattenWith_sublist (runs : List (List α)) (res : List α) (h : flattenWith merge runs = some res) :
    res.Sublist runs.flatten := by
  cases runs with
  | nil => cases h
  | cons t ts => cases h; simpa using foldl_merge_sublist hm t ts

theorem flattenWith_pairwise (R : Int → Int → Prop) (hR : ∀ a b, a < b → R a b) (runs : List (List α)) (res : List α)
    (h : flattenWith merge runs = some res) (hruns : ∀ run ∈ runs, (run.map step).Pairwise R) :
    (res.map step).Pairwise R := by
  cases runs with
  | nil => cases h
  | cons t ts =>
    cases h
    exact foldl_merge_pairwise hm R hR t ts (hruns t mem_cons_self) (fun run hr => hruns run (mem_cons_of_mem _ hr))

end Flatten

section FlattenTheorems
variable {α : Type} (step : α → Int)

/-- **flatten_all**: style `all` keeps every printed row of every run, in order. -/
theorem flatten_all (runs : List (List α)) (h : runs ≠ []) : flattenAll runs = some runs.flatten := by
  cases runs with
  | nil => exact absurd rfl h
  | cons t ts => simp [flattenAll, flattenWith, foldl_mergeAll]

/-- `flatten` of no simulations is Python's `IndexError` (`simulations[0]`), for every style. -/
theorem flatten_nil : flattenFirst step [] = none ∧ flattenLast step [] = none ∧ flattenAll ([] : List (List α)) = none :=
  ⟨rfl, rfl, rfl⟩

/-- **flatten_first**: style `first` keeps exactly the rows whose step exceeds every step printed by an earlier run
    (rows of the first run are all kept), in printed order. -/
theorem flatten_first (t : List α) (ts : List (List α)) (ht : t ≠ []) :
    ∃ res, flattenFirst step (t :: ts) = some res ∧ res.Sublist (t :: ts).flatten ∧
      ∀ r, r ∈ res ↔ ∃ i run, (t :: ts)[i]? = some run ∧ r ∈ run ∧
        ∀ (j : Nat) (run' : List α), j < i → (t :: ts)[j]? = some run' → ∀ x ∈ run', step x < step r := by
  refine ⟨_, flattenFirst_eq step t ts ht, specFirst_sublist step [] _, fun r => ?_⟩
  rw [mem_specFirst]
  -- nothing is seen before the first run: the conjunct of `mem_specFirst` about `seen` is empty
  simp

example : flattenFirst (fun r : Int × Nat => r.1) [[(0, 0), (10, 1), (20, 2)], [(20, 3), (30, 4)], [(10, 5), (40, 6)]]
    = some [(0, 0), (10, 1), (20, 2), (30, 4), (40, 6)] := by decide

/-- **flatten_last**: style `last` keeps exactly the rows whose step is below every step printed by a later run
    (rows of the last run are all kept), in printed order. -/
theorem flatten_last (t : List α) (ts : List (List α)) (hne : ∀ t' ∈ ts, t' ≠ []) :
    ∃ res, flattenLast step (t :: ts) = some res ∧ res.Sublist (t :: ts).flatten ∧
      ∀ r, r ∈ res ↔ ∃ i run, (t :: ts)[i]? = some run ∧ r ∈ run ∧
        ∀ (j : Nat) (run' : List α), i < j → (t :: ts)[j]? = some run' → ∀ x ∈ run', step r < step x :=
  ⟨_, flattenLast_eq step t ts hne, specLast_sublist step _, fun r => mem_specLast step _ r⟩

example : flattenLast (fun r : Int × Nat => r.1) [[(0, 0), (10, 1), (20, 2)], [(20, 3), (30, 4)], [(25, 5), (40, 6)]]
    = some [(0, 0), (10, 1), (20, 3), (25, 5), (40, 6)] := by decide

/-- the result of `first` is always made of rows of the runs in printed order (no hypothesis). -/
theorem flatten_first_sublist (runs : List (List α)) (res : List α) (h : flattenFirst step runs = some res) :
    res.Sublist runs.flatten :=
  flattenWith_sublist (mergeFirst_splits step) runs res h

theorem flatten_last_sublist (runs : List (List α)) (res : List α) (h : flattenLast step runs = some res) :
    res.Sublist runs.flatten :=
  flattenWith_sublist (mergeLast_splits step) runs res h

/-- **flatten_first_once**: when no run prints a step twice, every timestep appears once in the `first` table. -/
theorem flatten_first_once (runs : List (List α)) (res : List α) (h : flattenFirst step runs = some res)
    (hnd : ∀ run ∈ runs, (run.map step).Nodup) : (res.map step).Nodup :=
  flattenWith_pairwise (mergeFirst_splits step) (· ≠ ·) (fun a b hab => by omega) runs res h hnd

/-- **flatten_last_once**: when no run prints a step twice, every timestep appears once in the `last` table. -/
theorem flatten_last_once (runs : List (List α)) (res : List α) (h : flattenLast step runs = some res)
    (hnd : ∀ run ∈ runs, (run.map step).Nodup) : (res.map step).Nodup :=
  flattenWith_pairwise (mergeLast_splits step) (· ≠ ·) (fun a b hab => by omega) runs res h hnd

/-- when steps increase within each run, the `first` table has strictly increasing steps. -/
theorem flatten_first_sorted (runs : List (List α)) (res : List α) (h : flattenFirst step runs = some res)
    (hs : ∀ run ∈ runs, (run.map step).Pairwise (· < ·)) : (res.map step).Pairwise (· < ·) :=
  flattenWith_pairwise (mergeFirst_splits step) (· < ·) (fun _ _ hab => hab) runs res h hs

/-- when steps increase within each run, the `last` table has strictly increasing steps. -/
theorem flatten_last_sorted (runs : List (List α)) (res : List α) (h : flattenLast step runs = some res)
    (hs : ∀ run ∈ runs, (run.map step).Pairwise (· < ·)) : (res.map step).Pairwise (· < ·) :=
  flattenWith_pairwise (mergeLast_splits step) (· < ·) (fun _ _ hab => hab) runs res h hs

/-- **flatten_first_earliest**: a row of the `first` table is a row of the earliest run that prints its step. -/
theorem flatten_first_earliest (runs : List (List α)) (res : List α) (h : flattenFirst step runs = some res)
    (r : α) (hr : r ∈ res) (i : Nat) (run : List α) (hi : runs[i]? = some run)
    (hhas : ∃ x ∈ run, step x = step r)
    (hearliest : ∀ (j : Nat) (run' : List α), j < i → runs[j]? = some run' → ∀ x ∈ run', step x ≠ step r) :
    r ∈ run := by
  cases runs with
  | nil => simp [flattenFirst, flattenWith] at h
  | cons t ts =>
    by_cases ht : t = []
    · subst ht
      rw [flatten_first_empty_first] at h
      simp only [Option.some.injEq] at h
      subst h; simp at hr
    · rw [flattenFirst_eq step t ts ht, Option.some.injEq] at h
      subst h
      obtain ⟨i', run', hi', hr', _, hlt⟩ := (mem_specFirst step [] _ r).1 hr
      rcases Nat.lt_trichotomy i i' with hlt' | heq | hgt
      · obtain ⟨x, hx, hxe⟩ := hhas
        have := hlt i run hlt' hi x hx
        omega
      · subst heq; rw [hi] at hi'; simp only [Option.some.injEq] at hi'; subst hi'; exact hr'
      · exact absurd rfl (hearliest i' run' hgt hi' r hr')

/-- **flatten_last_latest**: a row of the `last` table is a row of the latest run that prints its step. -/
theorem flatten_last_latest (t : List α) (ts : List (List α)) (hne : ∀ t' ∈ ts, t' ≠ []) (res : List α)
    (h : flattenLast step (t :: ts) = some res)
    (r : α) (hr : r ∈ res) (i : Nat) (run : List α) (hi : (t :: ts)[i]? = some run)
    (hhas : ∃ x ∈ run, step x = step r)
    (hlatest : ∀ (j : Nat) (run' : List α), i < j → (t :: ts)[j]? = some run' → ∀ x ∈ run', step x ≠ step r) :
    r ∈ run := by
  rw [flattenLast_eq step t ts hne, Option.some.injEq] at h
  subst h
  obtain ⟨i', run', hi', hr', hlt⟩ := (mem_specLast step _ r).1 hr
  rcases Nat.lt_trichotomy i i' with hlt' | heq | hgt
  · exact absurd rfl (hlatest i' run' hlt' hi' r hr')
  · subst heq; rw [hi] at hi'; simp only [Option.some.injEq] at hi'; subst hi'; exact hr'
  · obtain ⟨x, hx, hxe⟩ := hhas
    have := hlt i run hgt hi x hx
    omega

/-- What `flatten_first_complete` and `flatten_last_complete` share: if the kept rows are those that no row of a run
    `before` theirs beats, and the step of a beaten row is always printed by a run before, every printed step is kept.
    Induction on `rank`, which `before` decreases. -/
theorem complete_of_aligned (runs : List (List α)) (res : List α) (before : Nat → Nat → Prop)
    (beats : Int → Int → Prop) (rank : Nat → Nat) (hrank : ∀ j i, before j i → j < runs.length → rank j < rank i)
    (hres : ∀ r, r ∈ res ↔ ∃ i run, runs[i]? = some run ∧ r ∈ run ∧
      ∀ (j : Nat) (run' : List α), before j i → runs[j]? = some run' → ∀ x ∈ run', ¬ beats (step x) (step r))
    (haligned : ∀ (i : Nat) (run : List α), runs[i]? = some run → ∀ r ∈ run,
      (∃ (j : Nat) (run' : List α), before j i ∧ runs[j]? = some run' ∧ ∃ x ∈ run', beats (step x) (step r)) →
      ∃ (j : Nat) (run' : List α), before j i ∧ runs[j]? = some run' ∧ ∃ x ∈ run', step x = step r) :
    ∀ (i : Nat) (run : List α), runs[i]? = some run → ∀ r ∈ run, ∃ r' ∈ res, step r' = step r := by
  intro i
  induction hn : rank i using Nat.strong_induction_on generalizing i with
  | _ n ih =>
    intro run hi r hr
    by_cases hall : ∀ (j : Nat) (run' : List α), before j i → runs[j]? = some run' →
        ∀ x ∈ run', ¬ beats (step x) (step r)
    · exact ⟨r, (hres r).2 ⟨i, run, hi, hr, hall⟩, rfl⟩
    · simp only [not_forall, not_not] at hall
      obtain ⟨j, run', hj, hjrun, x, hx, hb⟩ := hall
      obtain ⟨j', run'', hj', hjrun', y, hy, hye⟩ := haligned i run hi r hr ⟨j, run', hj, hjrun, x, hx, hb⟩
      obtain ⟨r', hr', he⟩ := ih (rank j') (hn ▸ hrank j' i hj' (List.getElem?_eq_some_iff.1 hjrun').1) j' rfl
        run'' hjrun' y hy
      exact ⟨r', hr', he.trans hye⟩

/-- **flatten_first_complete**: if every step of a run that does not exceed the steps printed before it was itself
    printed by an earlier run (restarts continue on the same thermo grid), every timestep of every run appears. -/
theorem flatten_first_complete (t : List α) (ts : List (List α)) (ht : t ≠ []) (res : List α)
    (h : flattenFirst step (t :: ts) = some res)
    (haligned : ∀ (i : Nat) (run : List α), (t :: ts)[i]? = some run → ∀ r ∈ run,
      (∃ (j : Nat) (run' : List α), j < i ∧ (t :: ts)[j]? = some run' ∧ ∃ x ∈ run', step r ≤ step x) →
      ∃ (j : Nat) (run' : List α), j < i ∧ (t :: ts)[j]? = some run' ∧ ∃ x ∈ run', step x = step r) :
    ∀ (i : Nat) (run : List α), (t :: ts)[i]? = some run → ∀ r ∈ run, ∃ r' ∈ res, step r' = step r := by
  obtain ⟨res', h', _, hm⟩ := flatten_first step t ts ht
  rw [h] at h'
  cases h'
  exact complete_of_aligned step _ res (· < ·) (fun a b => b ≤ a) id (fun _ _ hji _ => hji)
    (by simpa only [not_le] using hm) haligned

/-- **flatten_last_complete**: mirror image for `last`. -/
theorem flatten_last_complete (t : List α) (ts : List (List α)) (hne : ∀ t' ∈ ts, t' ≠ []) (res : List α)
    (h : flattenLast step (t :: ts) = some res)
    (haligned : ∀ (i : Nat) (run : List α), (t :: ts)[i]? = some run → ∀ r ∈ run,
      (∃ (j : Nat) (run' : List α), i < j ∧ (t :: ts)[j]? = some run' ∧ ∃ x ∈ run', step x ≤ step r) →
      ∃ (j : Nat) (run' : List α), i < j ∧ (t :: ts)[j]? = some run' ∧ ∃ x ∈ run', step x = step r) :
    ∀ (i : Nat) (run : List α), (t :: ts)[i]? = some run → ∀ r ∈ run, ∃ r' ∈ res, step r' = step r := by
  obtain ⟨res', h', _, hm⟩ := flatten_last step t ts hne
  rw [h] at h'
  cases h'
  exact complete_of_aligned step _ res (fun j i => i < j) (· ≤ ·) (fun j => (t :: ts).length - j)
    (fun j i hij hj => by omega) (by simpa only [not_le] using hm) haligned

theorem mergeLast_nil_right (m : List α) : mergeLast step m [] = [] := by
  simp [mergeLast, minStep?]

theorem mergeLast_nil_left (t : List α) : mergeLast step [] t = t := by
  simp [mergeLast]

theorem mergeFirst_nil_right (m : List α) : mergeFirst step m [] = m := by
  simp [mergeFirst]

/-- an empty run other than the first changes nothing for style `first`. -/
theorem flatten_first_empty_later (t : List α) (pre post : List (List α)) :
    flattenFirst step (t :: (pre ++ [] :: post)) = flattenFirst step (t :: (pre ++ post)) := by
  simp only [flattenFirst, flattenWith, foldl_append, foldl_cons, mergeFirst_nil_right]

/-- **flatten_last_empty_run**: style `last` forgets everything printed before an empty run (every comparison with
    the NaN minimum of an empty table is false): the result is that of the runs from the empty one on … -/
theorem flatten_last_empty_run (pre post : List (List α)) :
    flattenLast step (pre ++ [] :: post) = flattenLast step ([] :: post) := by
  cases pre with
  | nil => rfl
  | cons p ps =>
    simp only [flattenLast, flattenWith, cons_append, foldl_append, foldl_cons, mergeLast_nil_right]

/-- … and an empty run that comes first is skipped.  With `flatten_last` (later runs non-empty) the three together
    characterise style `last` for every input: cut at the last empty run, drop it, apply `flatten_last`. -/
theorem flatten_last_empty_first (t : List α) (ts : List (List α)) :
    flattenLast step ([] :: t :: ts) = flattenLast step (t :: ts) := by
  simp only [flattenLast, flattenWith, foldl_cons, mergeLast_nil_left]

example : flattenLast (fun r : Int × Nat => r.1) [[(0, 0), (10, 1)], [], [(5, 2)], [(20, 3)]] = some [(5, 2), (20, 3)] := by
  decide

example : flattenFirst (fun r : Int × Nat => r.1) [[(0, 0), (10, 1)], [], [(5, 2), (20, 3)]] = some [(0, 0), (10, 1), (20, 3)] := by
  decide

end FlattenTheorems

end Atomman.C19
