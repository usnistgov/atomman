/-
  C11 — helper lemmas: what the generated tables say (closed by `decide`), the getters/setters in closed form,
  the 9x9-matrix picture of a rank-4 tensor (`toMat`), in which the generated `einsum`s of `transform` are
  `(T ⊗ₖ T) * C * (T ⊗ₖ T)ᵀ`, and the bridge between 6x6 Voigt products and double contractions.
-/
import Atomman.C11
import Mathlib.LinearAlgebra.Matrix.NonsingularInverse
import Mathlib.Algebra.BigOperators.Field

namespace Atomman.C11
open Atomman.Gen Matrix Kronecker

/-- a 3x3 list literal as rows of vectors, whose entries `simp` reads off without index arithmetic. -/
theorem m33_lit {K : Type} [NatCast K] (a0 a1 a2 a3 a4 a5 a6 a7 a8 : K) :
    m33 [a0, a1, a2, a3, a4, a5, a6, a7, a8] = fun i j => ![![a0, a1, a2], ![a3, a4, a5], ![a6, a7, a8]] i j := by
  funext i j
  fin_cases i <;> fin_cases j <;> rfl

theorem fin3_val (a : Fin 3) : fin3 a.val = a := by
  ext; simp [fin3, Nat.mod_eq_of_lt a.isLt]
theorem fin6_val (a : Fin 6) : fin6 a.val = a := by
  ext; simp [fin6, Nat.mod_eq_of_lt a.isLt]
theorem fin9_val (a : Fin 9) : fin9 a.val = a := by
  ext; simp [fin9, Nat.mod_eq_of_lt a.isLt]

theorem voigt_symm : ∀ i j : Fin 3, voigt i j = voigt j i := by decide
theorem voigt_pairOf : ∀ a : Fin 6, voigt (pairOf a).1 (pairOf a).2 = a := by decide
theorem pairOf_voigt : ∀ i j : Fin 3, pairOf (voigt i j) = (i, j) ∨ pairOf (voigt i j) = (j, i) := by decide
theorem voigt_eq_iff : ∀ i j k l : Fin 3, voigt i j = voigt k l ↔ (i = k ∧ j = l) ∨ (i = l ∧ j = k) := by decide
theorem mult_voigt : ∀ i j : Fin 3, mult (voigt i j) = if i = j then 1 else 2 := by decide
theorem mult_pos (a : Fin 6) : 0 < mult a := by unfold mult; split <;> decide

theorem pairOf_vals : pairOf 0 = (0, 0) ∧ pairOf 1 = (1, 1) ∧ pairOf 2 = (2, 2) ∧ pairOf 3 = (1, 2) ∧
    pairOf 4 = (0, 2) ∧ pairOf 5 = (0, 1) := by decide
theorem voigt_vals : voigt 0 0 = 0 ∧ voigt 0 1 = 5 ∧ voigt 0 2 = 4 ∧ voigt 1 0 = 5 ∧ voigt 1 1 = 1 ∧ voigt 1 2 = 3 ∧
    voigt 2 0 = 4 ∧ voigt 2 1 = 3 ∧ voigt 2 2 = 2 := by decide
theorem mult_vals : mult 0 = 1 ∧ mult 1 = 1 ∧ mult 2 = 1 ∧ mult 3 = 2 ∧ mult 4 = 2 ∧ mult 5 = 2 := by decide

/-- `δ` over Voigt indices against the symmetric identity over index pairs: `2·[voigt ij = voigt mn] =
    mult(mn)·(δ_im δ_jn + δ_in δ_jm)` (a shear index stands for two pairs). -/
theorem delta_nat : ∀ i j m n : Fin 3, (if voigt i j = voigt m n then 2 else 0 : ℕ)
    = mult (voigt m n) * ((if i = m ∧ j = n then 1 else 0) + (if i = n ∧ j = m then 1 else 0)) := by decide

theorem cijkl_get_table : ∀ i j k l : Fin 3,
    cijklGetTab.getD (27 * i.val + 9 * j.val + 3 * k.val + l.val) (0, 0)
      = ((voigt i j).val, (voigt k l).val) := by decide

theorem cij9_get_table : ∀ p q : Fin 9,
    cij9GetTab.getD (9 * p.val + q.val) (0, 0)
      = ((voigt (pair9 p).1 (pair9 p).2).val, (voigt (pair9 q).1 (pair9 q).2).val) := by decide

theorem sijklGetTab_eq : sijklGetTab = cijklGetTab := by decide

theorem sijkl_get_table : ∀ i j k l : Fin 3,
    sijklGetTab.getD (27 * i.val + 9 * j.val + 3 * k.val + l.val) (0, 0)
      = ((voigt i j).val, (voigt k l).val) := sijklGetTab_eq ▸ cijkl_get_table

theorem sijkl_get_weights : ∀ a b : Fin 6, scaleWeight a.val b.val = (1, mult a * mult b) := by decide

theorem cijkl_set_table : ∀ a b : Fin 6,
    cijklSetTab.getD (6 * a.val + b.val) ((1, 1), (0, 0, 0, 0))
      = ((1, 1), ((pairOf a).1.val, (pairOf a).2.val, (pairOf b).1.val, (pairOf b).2.val)) := by decide

theorem sijkl_set_table : ∀ a b : Fin 6,
    sijklSetTab.getD (6 * a.val + b.val) ((1, 1), (0, 0, 0, 0))
      = ((mult a * mult b, 1), ((pairOf a).1.val, (pairOf a).2.val, (pairOf b).1.val, (pairOf b).2.val)) := by
  decide

/-- two index quadruples of one symmetry class: equal Voigt pairs, in the same or in swapped order. -/
def SameClass (pq : Idx4 × Idx4) : Prop :=
  (voigt (fin3 pq.1.1) (fin3 pq.1.2.1) = voigt (fin3 pq.2.1) (fin3 pq.2.2.1) ∧
    voigt (fin3 pq.1.2.2.1) (fin3 pq.1.2.2.2) = voigt (fin3 pq.2.2.2.1) (fin3 pq.2.2.2.2)) ∨
  (voigt (fin3 pq.1.1) (fin3 pq.1.2.1) = voigt (fin3 pq.2.2.2.1) (fin3 pq.2.2.2.2) ∧
    voigt (fin3 pq.1.2.2.1) (fin3 pq.1.2.2.2) = voigt (fin3 pq.2.1) (fin3 pq.2.2.1))

instance (pq : Idx4 × Idx4) : Decidable (SameClass pq) := by unfold SameClass; infer_instance

theorem cijkl_set_checks_sound : ∀ pq ∈ cijklSetChecks, SameClass pq := by decide +kernel

theorem sijkl_set_checks_sound : ∀ pq ∈ sijklSetChecks, SameClass pq := by decide +kernel

/-- every assertion of the `Cij` setter compares `value[i,j]` with `value[j,i]`. -/
theorem cij_set_checks_sound : ∀ pq ∈ cijSetChecks, pq.2 = (pq.1.2, pq.1.1) := by decide

/-- ... and every off-diagonal pair is covered. -/
theorem cij_set_checks_complete : ∀ a b : Fin 6, b < a → ((a.val, b.val), (b.val, a.val)) ∈ cijSetChecks := by
  decide

/-- the assertions of the `Cij9` setter: rows/columns 6..8 repeat rows/columns 3..5. -/
theorem cij9_set_checks_sound : ∀ pq ∈ cij9SetChecks,
    (pair9 (fin9 pq.1.1) = ((pair9 (fin9 pq.2.1)).2, (pair9 (fin9 pq.2.1)).1) ∧ pq.1.2 = pq.2.2) ∨
    (pair9 (fin9 pq.1.2) = ((pair9 (fin9 pq.2.2)).2, (pair9 (fin9 pq.2.2)).1) ∧ pq.1.1 = pq.2.1) := by decide

theorem cij9_set_slice : cij9SetSlice = (6, 6) := by decide
theorem cijkl_set_max_assert : cijklSetMaxAssert = true := by decide

section field
variable {K : Type} [Field K]

theorem sum3_eq (f : Fin 3 → K) : sum3 f = ∑ i, f i := by
  simp [sum3, Fin.sum_univ_three]

omit [Field K] in
theorem cijklGet_eq (c : M6 K) (i j k l : Fin 3) : cijklGet c i j k l = c (voigt i j) (voigt k l) := by
  simp only [cijklGet, cijkl_get_table, fin6_val]

omit [Field K] in
theorem cij9Get_eq (c : M6 K) (p q : Fin 9) :
    cij9Get c p q = cijklGet c (pair9 p).1 (pair9 p).2 (pair9 q).1 (pair9 q).2 := by
  simp only [cij9Get, cij9_get_table, fin6_val, cijklGet_eq]

theorem sijklGet_eq (s : M6 K) (i j k l : Fin 3) :
    sijklGet s i j k l = s (voigt i j) (voigt k l) / ((mult (voigt i j) * mult (voigt k l) : ℕ) : K) := by
  simp only [sijklGet, sijScaled, sijkl_get_table, fin6_val, sijkl_get_weights, Nat.cast_one, mul_one]

theorem cijklSetRaw_eq (C : T4 K) (a b : Fin 6) :
    cijklSetRaw C a b = C (pairOf a).1 (pairOf a).2 (pairOf b).1 (pairOf b).2 := by
  simp only [cijklSetRaw, set4Raw, cijkl_set_table, at4, fin3_val, Nat.cast_one, div_one, one_mul]

theorem sijklSetRaw_eq (S : T4 K) (a b : Fin 6) :
    sijklSetRaw S a b = ((mult a * mult b : ℕ) : K) * S (pairOf a).1 (pairOf a).2 (pairOf b).1 (pairOf b).2 := by
  simp only [sijklSetRaw, set4Raw, sijkl_set_table, at4, fin3_val, Nat.cast_one, div_one]

def Symm6 (c : M6 K) : Prop := ∀ a b, c a b = c b a
def MinorSymm (C : T4 K) : Prop := ∀ i j k l, C i j k l = C j i k l ∧ C i j k l = C i j l k
def MajorSymm (C : T4 K) : Prop := ∀ i j k l, C i j k l = C k l i j

omit [Field K] in
theorem MinorSymm.swap {C : T4 K} (h : MinorSymm C) (i j : Fin 3) : C j i j i = C i j i j := by
  rw [(h j i j i).1, (h i j j i).2]

omit [Field K] in
theorem minor_of_voigt (C : T4 K) (h : MinorSymm C) (i j k l : Fin 3) :
    C (pairOf (voigt i j)).1 (pairOf (voigt i j)).2 (pairOf (voigt k l)).1 (pairOf (voigt k l)).2 = C i j k l := by
  rcases pairOf_voigt i j with h1 | h1 <;> rcases pairOf_voigt k l with h2 | h2 <;> rw [h1, h2]
  · exact ((h i j k l).2).symm
  · exact ((h i j k l).1).symm
  · show C j i l k = C i j k l
    rw [← (h j i k l).2]; exact ((h i j k l).1).symm

theorem tab6_eq (v : M6 K) : (Tab.of6 v).get6 = v := by
  funext a b
  have h : 6 * a.val + b.val < 36 := by omega
  simp only [Tab.get6, Tab.of6, Array.getD_eq_getD_getElem?, Array.getElem?_ofFn, h, dite_true, Option.getD_some]
  congr 1 <;> (ext; simp [fin6] <;> omega)

theorem tab4_eq (C : T4 K) : (Tab.of4 C).get4 = C := by
  funext i j k l
  have h : 27 * i.val + 9 * j.val + 3 * k.val + l.val < 81 := by omega
  simp only [Tab.get4, Tab.of4, Array.getD_eq_getD_getElem?, Array.getElem?_ofFn, h, dite_true, Option.getD_some]
  congr 1 <;> (ext; simp [fin3]; omega)

theorem mult_ne_zero [CharZero K] (a : Fin 6) : ((mult a : ℕ) : K) ≠ 0 := by
  exact_mod_cast (mult_pos a).ne'

theorem cijklGet_setRaw (C : T4 K) (h : MinorSymm C) : cijklGet (cijklSetRaw C) = C := by
  funext i j k l
  rw [cijklGet_eq, cijklSetRaw_eq]; exact minor_of_voigt C h i j k l

omit [Field K] in
theorem cijklGet_minor (c : M6 K) : MinorSymm (cijklGet c) := by
  intro i j k l
  simp only [cijklGet_eq]
  exact ⟨by rw [voigt_symm i j], by rw [voigt_symm k l]⟩

omit [Field K] in
theorem cijklGet_major (c : M6 K) (h : Symm6 c) : MajorSymm (cijklGet c) := by
  intro i j k l
  simp only [cijklGet_eq]; exact h _ _

theorem sijklGet_minor (s : M6 K) : MinorSymm (sijklGet s) := by
  intro i j k l
  simp only [sijklGet_eq]
  exact ⟨by rw [voigt_symm i j], by rw [voigt_symm k l]⟩

theorem sijklGet_major (s : M6 K) (h : Symm6 s) : MajorSymm (sijklGet s) := by
  intro i j k l
  simp only [sijklGet_eq]
  rw [h (voigt i j) (voigt k l), Nat.mul_comm]

theorem cijklSetRaw_get (c : M6 K) : cijklSetRaw (cijklGet c) = c := by
  funext a b
  rw [cijklSetRaw_eq, cijklGet_eq, voigt_pairOf, voigt_pairOf]

theorem sijklSetRaw_get [CharZero K] (s : M6 K) : sijklSetRaw (sijklGet s) = s := by
  funext a b
  rw [sijklSetRaw_eq, sijklGet_eq, voigt_pairOf, voigt_pairOf]
  have := mult_ne_zero (K := K) a
  have := mult_ne_zero (K := K) b
  push_cast; field_simp

def toMat (C : T4 K) : Matrix (Fin 3 × Fin 3) (Fin 3 × Fin 3) K := fun p q => C p.1 p.2 q.1 q.2

omit [Field K] in
theorem toMat_inj {C D : T4 K} (h : toMat C = toMat D) : C = D := by
  funext i j k l
  exact congrFun (congrFun h (i, j)) (k, l)

/-- what the two generated `einsum`s compute. -/
theorem rot_apply (T : M33 K) (C : T4 K) (i j k l : Fin 3) :
    rot T C i j k l = ∑ g, ∑ h, ∑ m, ∑ n, T i g * T j h * C g h m n * (T k m * T l n) := by
  simp only [rot, transC, transQ, sum3_eq]

theorem sum4_swap (f : Fin 3 → Fin 3 → Fin 3 → Fin 3 → K) :
    ∑ g, ∑ h, ∑ m, ∑ n, f g h m n = ∑ m, ∑ n, ∑ g, ∑ h, f g h m n := by
  calc ∑ g, ∑ h, ∑ m, ∑ n, f g h m n = ∑ g, ∑ m, ∑ h, ∑ n, f g h m n :=
        Finset.sum_congr rfl fun g _ => Finset.sum_comm
    _ = ∑ m, ∑ g, ∑ h, ∑ n, f g h m n := Finset.sum_comm
    _ = ∑ m, ∑ g, ∑ n, ∑ h, f g h m n :=
        Finset.sum_congr rfl fun m _ => Finset.sum_congr rfl fun g _ => Finset.sum_comm
    _ = ∑ m, ∑ n, ∑ g, ∑ h, f g h m n := Finset.sum_congr rfl fun m _ => Finset.sum_comm

/-- `Q = T ⊗ T`. -/
abbrev kron (T : M33 K) : Matrix (Fin 3 × Fin 3) (Fin 3 × Fin 3) K := Matrix.of T ⊗ₖ Matrix.of T

theorem rot_toMat (T : M33 K) (C : T4 K) : toMat (rot T C) = kron T * toMat C * (kron T)ᵀ := by
  ext ⟨i, j⟩ ⟨k, l⟩
  simp only [toMat, rot_apply, Matrix.mul_apply, Fintype.sum_prod_type, kroneckerMap_apply, transpose_apply,
    of_apply, Finset.sum_mul]
  exact sum4_swap _

/-- 3x3 matrix product and identity in components (the statements of the theorems use these): plain functions on
    `M33 K = Fin 3 → Fin 3 → K` with `sum3`, the form the generated `transQ` / `transC` use; `mmul_of` / `mone_of` /
    `mtr_of` move to `Matrix` for the proofs. -/
def mmul (A B : M33 K) : M33 K := fun i j => sum3 fun k => A i k * B k j
def mone : M33 K := fun i j => if i = j then 1 else 0
def mtr (A : M33 K) : M33 K := fun i j => A j i

theorem mmul_of (A B : M33 K) : Matrix.of (mmul A B) = Matrix.of A * Matrix.of B := by
  ext i j; simp [mmul, sum3_eq, Matrix.mul_apply]
theorem mone_of : Matrix.of (mone : M33 K) = 1 := by
  ext i j; simp [mone, Matrix.one_apply]
omit [Field K] in
theorem mtr_of (A : M33 K) : Matrix.of (mtr A) = (Matrix.of A)ᵀ := by
  ext i j; simp [mtr]

theorem kron_mmul (A B : M33 K) : kron (mmul A B) = kron A * kron B := by
  simp only [kron, mmul_of, mul_kronecker_mul]
theorem kron_mone : kron (mone : M33 K) = 1 := by
  simp only [kron, mone_of, one_kronecker_one]
theorem kron_mtr (A : M33 K) : kron (mtr A) = (kron A)ᵀ := by
  simp only [kron, mtr_of, kroneckerMap_transpose]

/-- orthogonality: rows orthonormal (what `axes_check` tests). -/
def Orthogonal (T : M33 K) : Prop := mmul T (mtr T) = mone

theorem orthogonal_iff (T : M33 K) :
    Orthogonal T ↔ ∀ i j, (sum3 fun k => T i k * T j k) = if i = j then 1 else 0 := by
  simp only [Orthogonal, funext_iff, mmul, mtr, mone]

theorem Orthogonal.matrix_mul_transpose {T : M33 K} (h : Orthogonal T) : Matrix.of T * (Matrix.of T)ᵀ = 1 := by
  have := congrArg Matrix.of h
  rwa [mmul_of, mtr_of, mone_of] at this

theorem Orthogonal.tr_mul {T : M33 K} (h : Orthogonal T) : mmul (mtr T) T = mone := by
  have h1 : (Matrix.of T)ᵀ * Matrix.of T = 1 := mul_eq_one_comm.mp h.matrix_mul_transpose
  have : Matrix.of (mmul (mtr T) T) = Matrix.of (mone : M33 K) := by rw [mmul_of, mtr_of, mone_of, h1]
  exact Matrix.of.injective this

theorem Orthogonal.mtr {T : M33 K} (h : Orthogonal T) : Orthogonal (mtr T) := by
  unfold Orthogonal
  have : C11.mtr (C11.mtr T) = T := rfl
  rw [this]; exact h.tr_mul

theorem Orthogonal.kron_mul {T : M33 K} (h : Orthogonal T) : kron T * (kron T)ᵀ = 1 := by
  rw [← kron_mtr, ← kron_mmul, h, kron_mone]

theorem Orthogonal.kron_tr_mul {T : M33 K} (h : Orthogonal T) : (kron T)ᵀ * kron T = 1 := by
  rw [← kron_mtr, ← kron_mmul, h.tr_mul, kron_mone]

theorem rot_one (C : T4 K) : rot mone C = C := by
  apply toMat_inj; rw [rot_toMat, kron_mone]; simp

theorem rot_comp (A B : M33 K) (C : T4 K) : rot A (rot B C) = rot (mmul A B) C := by
  apply toMat_inj
  rw [rot_toMat, rot_toMat, rot_toMat, kron_mmul, transpose_mul]
  simp only [Matrix.mul_assoc]

theorem rot_inv {T : M33 K} (h : Orthogonal T) (C : T4 K) : rot (mtr T) (rot T C) = C := by
  rw [rot_comp, h.tr_mul, rot_one]

theorem rot_add (T : M33 K) (C D : T4 K) : rot T (C + D) = rot T C + rot T D := by
  apply toMat_inj
  show toMat (rot T (C + D)) = toMat (rot T C) + toMat (rot T D)
  rw [rot_toMat, rot_toMat, rot_toMat, ← Matrix.add_mul, ← Matrix.mul_add]
  rfl

theorem rot_smul (T : M33 K) (a : K) (C : T4 K) : rot T (a • C) = a • rot T C := by
  apply toMat_inj
  show toMat (rot T (a • C)) = a • toMat (rot T C)
  rw [rot_toMat, rot_toMat, ← Matrix.smul_mul, ← Matrix.mul_smul]
  rfl

theorem rot_swap34 (T : M33 K) (C : T4 K) : rot T (fun i j k l => C i j l k) = fun i j k l => rot T C i j l k := by
  funext i j k l
  simp only [rot_apply]
  refine Finset.sum_congr rfl fun g _ => Finset.sum_congr rfl fun h _ => ?_
  rw [Finset.sum_comm]
  refine Finset.sum_congr rfl fun m _ => Finset.sum_congr rfl fun n _ => ?_
  ring

theorem rot_major (T : M33 K) {C : T4 K} (h : MajorSymm C) : MajorSymm (rot T C) := by
  have hC : (toMat C)ᵀ = toMat C := Matrix.ext fun p q => h q.1 q.2 p.1 p.2
  intro i j k l
  have e := congrFun (congrFun (congrArg Matrix.transpose (rot_toMat T C)) (k, l)) (i, j)
  rw [Matrix.transpose_mul, Matrix.transpose_mul, Matrix.transpose_transpose, hC, ← Matrix.mul_assoc, ← rot_toMat] at e
  exact e

theorem rot_minor (T : M33 K) {C : T4 K} (h : MinorSymm C) : MinorSymm (rot T C) := by
  intro i j k l
  constructor
  · rw [rot_apply, rot_apply, Finset.sum_comm]
    refine Finset.sum_congr rfl fun g _ => Finset.sum_congr rfl fun h' _ => Finset.sum_congr rfl fun m _ =>
      Finset.sum_congr rfl fun n _ => ?_
    rw [(h h' g m n).1]; ring
  · have e := congrFun (congrFun (congrFun (congrFun (rot_swap34 T C) i) j) k) l
    rwa [← show C = fun i j k l => C i j l k from funext fun i => funext fun j => funext fun k => funext fun l =>
      (h i j k l).2] at e

theorem invariant_of_entries (T : M33 K) (c : M6 K)
    (h : ∀ a b, cijklSetRaw (rot T (cijklGet c)) a b = c a b) : rot T (cijklGet c) = cijklGet c := by
  rw [← cijklGet_setRaw _ (rot_minor T (cijklGet_minor c)), funext₂ h]

/-- `ε : C : ε` (twice the strain-energy density). -/
def energy (C : T4 K) (e : M33 K) : K :=
  sum3 fun i => sum3 fun j => sum3 fun k => sum3 fun l => e i j * C i j k l * e k l

/-- `T ε Tᵀ`: a rank-2 tensor in the rotated axes. -/
def conj (T e : M33 K) : M33 K := mmul (mmul T e) (mtr T)

def vec (e : M33 K) : Fin 3 × Fin 3 → K := fun p => e p.1 p.2

theorem energy_eq (C : T4 K) (e : M33 K) : energy C e = vec e ⬝ᵥ (toMat C *ᵥ vec e) := by
  simp only [energy, sum3_eq, dotProduct, mulVec, Fintype.sum_prod_type, vec, toMat, Finset.mul_sum]
  refine Finset.sum_congr rfl fun i _ => Finset.sum_congr rfl fun j _ => Finset.sum_congr rfl fun k _ =>
    Finset.sum_congr rfl fun l _ => ?_
  ring

theorem vec_conj (T e : M33 K) : vec (conj T e) = kron T *ᵥ vec e := by
  funext ⟨i, j⟩
  simp only [vec, conj, mmul, mtr, sum3_eq, mulVec, dotProduct, Fintype.sum_prod_type, kroneckerMap_apply, of_apply,
    Finset.sum_mul]
  rw [Finset.sum_comm]
  refine Finset.sum_congr rfl fun a _ => Finset.sum_congr rfl fun b _ => ?_
  ring

theorem conj_of (T e : M33 K) : Matrix.of (conj T e) = Matrix.of T * Matrix.of e * (Matrix.of T)ᵀ := by
  rw [conj, mmul_of, mmul_of, mtr_of]

theorem energy_rot (T : M33 K) (h : Orthogonal T) (C : T4 K) (e : M33 K) :
    energy (rot T C) (conj T e) = energy C e := by
  rw [energy_eq, energy_eq, vec_conj, rot_toMat]
  have h1 : (kron T * toMat C * (kron T)ᵀ) *ᵥ (kron T *ᵥ vec e) = kron T *ᵥ (toMat C *ᵥ vec e) := by
    rw [mulVec_mulVec, Matrix.mul_assoc, Matrix.mul_assoc, h.kron_tr_mul, Matrix.mul_one, ← mulVec_mulVec]
  rw [h1, dotProduct_mulVec, vecMul_mulVec, h.kron_tr_mul, vecMul_one]

/-- the two isotropic traces `C_iijj` and `C_ijij`. -/
def tr1 (C : T4 K) : K := sum3 fun i => sum3 fun j => C i i j j
def tr2 (C : T4 K) : K := sum3 fun i => sum3 fun j => C i j i j

theorem tr1_eq_energy (C : T4 K) : tr1 C = energy C mone := by
  simp [tr1, energy, sum3, mone]

theorem conj_add (T A B : M33 K) : conj T (A + B) = conj T A + conj T B := by
  apply Matrix.of.injective
  show Matrix.of (conj T (A + B)) = Matrix.of (conj T A) + Matrix.of (conj T B)
  rw [conj_of, conj_of, conj_of, ← Matrix.add_mul, ← Matrix.mul_add]; rfl

theorem conj_smul (T : M33 K) (a : K) (A : M33 K) : conj T (a • A) = a • conj T A := by
  apply Matrix.of.injective
  show Matrix.of (conj T (a • A)) = a • Matrix.of (conj T A)
  rw [conj_of, conj_of, ← Matrix.smul_mul, ← Matrix.mul_smul]; rfl

theorem mmul_mone (T : M33 K) : mmul T mone = T :=
  Matrix.of.injective (by rw [mmul_of, mone_of, Matrix.mul_one])

theorem orthogonal_iff_conj (T : M33 K) : Orthogonal T ↔ conj T mone = mone := by
  rw [conj, mmul_mone, Orthogonal]

theorem conj_mone (T : M33 K) (h : Orthogonal T) : conj T mone = mone := (orthogonal_iff_conj T).mp h

theorem tr1_rot (T : M33 K) (h : Orthogonal T) (C : T4 K) : tr1 (rot T C) = tr1 C := by
  rw [tr1_eq_energy, tr1_eq_energy]
  conv_lhs => rw [← conj_mone T h]
  exact energy_rot T h C mone

theorem tr2_eq_trace (C : T4 K) : tr2 C = Matrix.trace (toMat C) := by
  simp only [tr2, sum3_eq, Matrix.trace, Matrix.diag, Fintype.sum_prod_type, toMat]

theorem tr2_rot (T : M33 K) (h : Orthogonal T) (C : T4 K) : tr2 (rot T C) = tr2 C := by
  rw [tr2_eq_trace, tr2_eq_trace, rot_toMat, Matrix.trace_mul_cycle, h.kron_tr_mul, Matrix.one_mul]

theorem bulkVoigt_eq_tr (C : T4 K) (hM : MajorSymm C) : bulkVoigt (cijklSetRaw C) = tr1 C / 9 := by
  obtain ⟨p0, p1, p2, p3, p4, p5⟩ := pairOf_vals
  simp only [bulkVoigt, cijklSetRaw_eq, tr1, sum3, p0, p1, p2, Nat.cast_ofNat]
  rw [hM 1 1 0 0, hM 2 2 0 0, hM 2 2 1 1]
  ring

theorem shearVoigt_eq_tr [CharZero K] (C : T4 K) (hm : MinorSymm C) (hM : MajorSymm C) :
    shearVoigt (cijklSetRaw C) = (3 * tr2 C - tr1 C) / 30 := by
  obtain ⟨p0, p1, p2, p3, p4, p5⟩ := pairOf_vals
  simp only [shearVoigt, cijklSetRaw_eq, tr1, tr2, sum3, p0, p1, p2, p3, p4, p5, Nat.cast_ofNat]
  rw [hM 1 1 0 0, hM 2 2 0 0, hM 2 2 1 1, hm.swap 0 1, hm.swap 0 2, hm.swap 1 2]
  ring

theorem sum_pairs (F : Fin 6 → K) : ∑ k : Fin 3, ∑ l : Fin 3, F (voigt k l) = ∑ b : Fin 6, (mult b : K) * F b := by
  obtain ⟨v00, v01, v02, v10, v11, v12, v20, v21, v22⟩ := voigt_vals
  obtain ⟨m0, m1, m2, m3, m4, m5⟩ := mult_vals
  simp only [Fin.sum_univ_three, Fin.sum_univ_six, v00, v01, v02, v10, v11, v12, v20, v21, v22, m0, m1, m2, m3, m4, m5,
    Nat.cast_one, Nat.cast_ofNat]
  ring

theorem sum_pairs_symm (G : Fin 3 → Fin 3 → K) (hG : ∀ k l, G k l = G l k) :
    ∑ k, ∑ l, G k l = ∑ b : Fin 6, (mult b : K) * G (pairOf b).1 (pairOf b).2 := by
  have h : ∀ k l, G k l = (fun b : Fin 6 => G (pairOf b).1 (pairOf b).2) (voigt k l) := by
    intro k l
    show _ = G _ _
    rcases pairOf_voigt k l with h | h <;> rw [h]
    exact hG k l
  rw [Finset.sum_congr rfl fun k _ => Finset.sum_congr rfl fun l _ => h k l]
  exact sum_pairs fun b => G (pairOf b).1 (pairOf b).2

theorem delta_field [CharZero K] (i j m n : Fin 3) :
    (if voigt i j = voigt m n then (1 : K) else 0)
      = (mult (voigt m n) : K) * (((if i = m ∧ j = n then 1 else 0) + (if i = n ∧ j = m then 1 else 0)) / 2) := by
  have := congrArg (Nat.cast : ℕ → K) (delta_nat i j m n)
  push_cast at this
  rw [← mul_div_assoc, ← this]
  split_ifs <;> norm_num

/-- `C : S` is the symmetric identity.  The sum over the nine pairs `(k, l)` is a sum over the six Voigt indices with weight
    `mult` (`sum_pairs`); that weight cancels against the `1/(mult·mult)` of the `Sijkl` getter; `C·S = 1` leaves `δ` over
    Voigt indices, which `delta_field` rewrites as `mult ×` the symmetric identity. -/
theorem contraction_of_inverse [CharZero K] (c s : M6 K)
    (hcs : ∀ a d : Fin 6, ∑ b, c a b * s b d = if a = d then 1 else 0) (i j m n : Fin 3) :
    (sum3 fun k => sum3 fun l => cijklGet c i j k l * sijklGet s k l m n)
      = ((if i = m ∧ j = n then 1 else 0) + (if i = n ∧ j = m then 1 else 0)) / 2 := by
  simp only [sum3_eq, cijklGet_eq, sijklGet_eq]
  rw [sum_pairs (fun b => c (voigt i j) b * (s b (voigt m n) / ((mult b * mult (voigt m n) : ℕ) : K)))]
  have hd := mult_ne_zero (K := K) (voigt m n)
  have h1 : ∀ b : Fin 6, (mult b : K) * (c (voigt i j) b * (s b (voigt m n) / ((mult b * mult (voigt m n) : ℕ) : K)))
      = (c (voigt i j) b * s b (voigt m n)) / (mult (voigt m n) : K) := by
    intro b
    have hb := mult_ne_zero (K := K) b
    push_cast; field_simp
  simp only [h1]
  rw [← Finset.sum_div, hcs, delta_field, mul_div_cancel_left₀ _ hd]

def p12 (A B : M33 K) : T4 K := fun i j k l => A i j * B k l
def p13 (A B : M33 K) : T4 K := fun i j k l => A i k * B j l
def p14 (A B : M33 K) : T4 K := fun i j k l => A i l * B j k

theorem rot_p12 (T A B : M33 K) : rot T (p12 A B) = p12 (conj T A) (conj T B) := by
  apply toMat_inj
  have h : ∀ A B : M33 K, toMat (p12 A B) = vecMulVec (vec A) (vec B) := by
    intro A B; ext ⟨i, j⟩ ⟨k, l⟩; simp [toMat, p12, vecMulVec_apply, vec]
  rw [rot_toMat, h, h, mul_vecMulVec, vecMulVec_mul, vecMul_transpose, vec_conj, vec_conj]

theorem rot_p13 (T A B : M33 K) : rot T (p13 A B) = p13 (conj T A) (conj T B) := by
  apply toMat_inj
  have h : ∀ A B : M33 K, toMat (p13 A B) = Matrix.of A ⊗ₖ Matrix.of B := by
    intro A B; ext ⟨i, j⟩ ⟨k, l⟩; simp [toMat, p13, kroneckerMap_apply]
  rw [rot_toMat, h, h, conj_of, conj_of, kron, ← kroneckerMap_transpose, ← mul_kronecker_mul, ← mul_kronecker_mul]

theorem rot_p14 (T A B : M33 K) : rot T (p14 A B) = p14 (conj T A) (conj T B) := by
  have : p14 A B = fun i j k l => p13 A B i j l k := rfl
  rw [this, rot_swap34, rot_p13]; rfl

/-! the 6x6 condition `c·s = 1` as the fixed statements spell it, and as a matrix equation -/

theorem mul_eq_one_iff_matrix (c s : M6 K) :
    (∀ a d, ∑ b, c a b * s b d = if a = d then 1 else 0) ↔ Matrix.of c * Matrix.of s = 1 := by
  simp only [← Matrix.ext_iff, Matrix.mul_apply, Matrix.one_apply, Matrix.of_apply]

theorem mul_eq_one_swap (c s : M6 K) (h : ∀ a d, ∑ b, c a b * s b d = if a = d then 1 else 0) :
    ∀ a d, ∑ b, s a b * c b d = if a = d then 1 else 0 :=
  (mul_eq_one_iff_matrix s c).mpr (mul_eq_one_comm.mp ((mul_eq_one_iff_matrix c s).mp h))

theorem inverse_unique (c s t : M6 K) (hsc : ∀ a d, ∑ b, s a b * c b d = if a = d then 1 else 0)
    (hct : ∀ a d, ∑ b, c a b * t b d = if a = d then 1 else 0) : s = t :=
  Matrix.of.injective (left_inv_eq_right_inv ((mul_eq_one_iff_matrix s c).mp hsc) ((mul_eq_one_iff_matrix c t).mp hct))

end field

end Atomman.C11
