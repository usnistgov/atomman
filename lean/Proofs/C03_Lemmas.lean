/-
  C03 — the neighbor table as growing lists: one sorted symmetric insertion keeps the table invariant `Inv`; what a run
  over any sequence of compared pairs lists (`runLW_spec`, `mem_rowOf_runL`).
-/
import Proofs.C03_Dist
import Mathlib.Data.List.Induction

namespace Atomman.C03
open List

theorem mem_insBefore {v x : Nat} {l : List Nat} : x ∈ insBefore v l ↔ x = v ∨ x ∈ l := by
  induction l with
  | nil => exact mem_cons
  | cons a l ih =>
    unfold insBefore
    split
    · exact mem_cons
    · rw [mem_cons, ih, mem_cons]
      exact or_left_comm

theorem length_insBefore {v : Nat} {l : List Nat} : (insBefore v l).length = l.length + 1 := by
  induction l with
  | nil => simp [insBefore]
  | cons a l ih =>
    unfold insBefore
    split <;> simp [ih]

theorem pairwise_insBefore {v : Nat} {l : List Nat} (h : l.Pairwise (· < ·)) (hv : v ∉ l) :
    (insBefore v l).Pairwise (· < ·) := by
  induction l with
  | nil => simp [insBefore]
  | cons a l ih =>
    unfold insBefore
    rw [pairwise_cons] at h
    split
    · rename_i hva
      refine pairwise_cons.2 ⟨?_, pairwise_cons.2 h⟩
      intro x hx
      rcases mem_cons.1 hx with rfl | hx
      · exact hva
      · exact lt_trans hva (h.1 x hx)
    · rename_i hva
      have hne : v ≠ a := fun e => hv (e ▸ mem_cons_self)
      have hav : a < v := by omega
      refine pairwise_cons.2 ⟨?_, ih h.2 (fun hm => hv (mem_cons_of_mem _ hm))⟩
      intro x hx
      rcases mem_insBefore.1 hx with rfl | hx
      · exact hav
      · exact h.1 x hx

theorem scanL_iff {v : Nat} {l : List Nat} (h : l.Pairwise (· < ·)) : scanL v l = true ↔ v ∉ l := by
  induction l with
  | nil => simp [scanL]
  | cons a l ih =>
    rw [pairwise_cons] at h
    unfold scanL
    split
    · rename_i e; subst e; simp
    · rename_i hne
      split
      · rename_i hva
        simp only [mem_cons, not_or, true_iff]
        refine ⟨fun e => hne e.symm, fun hm => ?_⟩
        have := h.1 v hm
        omega
      · rw [ih h.2]; simp only [mem_cons, not_or]
        constructor
        · intro hm; exact ⟨fun e => hne e.symm, hm⟩
        · intro hm; exact hm.2

/-- row `i` of a table, `[]` beyond its end. -/
abbrev rowOf (rows : Rows) (i : Nat) : List Nat := rows.getD i []

theorem rowOf_modify {rows : Rows} {u i : Nat} {f : List Nat → List Nat} (hu : u < rows.length) :
    rowOf (rows.modify u f) i = if i = u then f (rowOf rows i) else rowOf rows i := by
  unfold rowOf
  simp only [List.getD_eq_getElem?_getD, List.getElem?_modify]
  split
  · rename_i e; subst e
    simp [List.getElem?_eq_getElem hu]
  · rename_i e
    rw [if_neg (fun h => e h.symm)]
    simp

/-- the invariant of the neighbor table: `n` rows; each strictly ascending; entries `< n`, not the row's own index, mirrored
    in the other row. -/
def Inv (n : Nat) (rows : Rows) : Prop :=
  rows.length = n ∧ ∀ i, i < n →
    (rowOf rows i).Pairwise (· < ·) ∧ ∀ j ∈ rowOf rows i, j < n ∧ j ≠ i ∧ i ∈ rowOf rows j

theorem length_insertPairL {rows : Rows} {u v : Nat} : (insertPairL rows u v).length = rows.length := by
  unfold insertPairL; split <;> simp

theorem rowOf_insertPairL_mem {n : Nat} {rows : Rows} {u v : Nat} (h : Inv n rows) (hu : u < n) (hv : v < n)
    (huv : u ≠ v) (i j : Nat) :
    j ∈ rowOf (insertPairL rows u v) i ↔ j ∈ rowOf rows i ∨ (u = i ∧ v = j) ∨ (u = j ∧ v = i) := by
  obtain ⟨hl, hI⟩ := h
  unfold insertPairL
  split
  · rw [rowOf_modify (by simp; omega), rowOf_modify (by omega)]
    by_cases hiv : i = v
    · subst hiv
      rw [if_pos rfl, if_neg (Ne.symm huv), mem_insBefore, or_comm]
      exact or_congr_right (by simp only [huv, false_and, false_or, and_true, eq_comm])
    · by_cases hiu : i = u
      · subst hiu
        rw [if_neg hiv, if_pos rfl, mem_insBefore, or_comm]
        exact or_congr_right (by simp only [Ne.symm hiv, true_and, and_false, or_false, eq_comm])
      · rw [if_neg hiv, if_neg hiu]
        simp only [Ne.symm hiu, Ne.symm hiv, false_and, and_false, or_false]
  · -- the pair is there already, in both rows (the table is symmetric)
    rename_i hs
    have hvu : v ∈ rowOf rows u := by
      by_contra hc
      exact hs ((scanL_iff (hI u hu).1).2 hc)
    have huv' : u ∈ rowOf rows v := ((hI u hu).2 v hvu).2.2
    constructor
    · exact Or.inl
    · rintro (h | ⟨rfl, rfl⟩ | ⟨rfl, rfl⟩)
      · exact h
      · exact hvu
      · exact huv'

theorem rowOf_insertPairL_pairwise {n : Nat} {rows : Rows} {u v : Nat} (h : Inv n rows) (hu : u < n) (hv : v < n)
    (huv : u ≠ v) (i : Nat) (hi : i < n) : (rowOf (insertPairL rows u v) i).Pairwise (· < ·) := by
  obtain ⟨hl, hI⟩ := h
  unfold insertPairL
  split
  · rename_i hs
    have hvu : v ∉ rowOf rows u := (scanL_iff (hI u hu).1).1 hs
    have huv' : u ∉ rowOf rows v := fun hm => hvu ((hI v hv).2 u hm).2.2
    rw [rowOf_modify (by simp; omega), rowOf_modify (by omega)]
    by_cases hiv : i = v
    · subst hiv
      rw [if_pos rfl, if_neg (fun e => huv e.symm)]
      exact pairwise_insBefore (hI i hi).1 huv'
    · rw [if_neg hiv]
      by_cases hiu : i = u
      · subst hiu
        rw [if_pos rfl]
        exact pairwise_insBefore (hI i hi).1 hvu
      · rw [if_neg hiu]; exact (hI i hi).1
  · exact (hI i hi).1

theorem insert_inv {n : Nat} {rows : Rows} {u v : Nat} (h : Inv n rows) (hu : u < n) (hv : v < n)
    (huv : u ≠ v) : Inv n (insertPairL rows u v) := by
  refine ⟨by rw [length_insertPairL]; exact h.1, fun i hi => ⟨rowOf_insertPairL_pairwise h hu hv huv i hi, ?_⟩⟩
  intro j hj
  rw [rowOf_insertPairL_mem h hu hv huv] at hj
  rw [rowOf_insertPairL_mem h hu hv huv]
  rcases hj with hj | ⟨rfl, rfl⟩ | ⟨rfl, rfl⟩
  · obtain ⟨a, b, c⟩ := (h.2 i hi).2 j hj
    exact ⟨a, b, Or.inl c⟩
  · exact ⟨hv, fun e => huv e.symm, Or.inr (Or.inr ⟨rfl, rfl⟩)⟩
  · exact ⟨hu, huv, Or.inr (Or.inl ⟨rfl, rfl⟩)⟩

theorem rowOf_replicate (n i : Nat) : rowOf (List.replicate n ([] : List Nat)) i = [] := by
  unfold rowOf
  simp only [List.getD_eq_getElem?_getD, List.getElem?_replicate]
  split <;> rfl

theorem inv_replicate (n : Nat) : Inv n (List.replicate n []) := by
  refine ⟨by simp, fun i hi => ?_⟩
  rw [rowOf_replicate]; simp

theorem runLW_spec (acc : Nat × Nat → Bool) (n : Nat) (hacc : ∀ uv, acc uv = true → uv.1 ≠ uv.2)
    (cs : List (Nat × Nat)) (hcs : ∀ uv ∈ cs, uv.1 < n ∧ uv.2 < n) :
    Inv n (runLW acc n cs) ∧ ∀ i j, (j ∈ rowOf (runLW acc n cs) i ↔
      ∃ uv ∈ cs, acc uv = true ∧ (uv = (i, j) ∨ uv = (j, i))) := by
  -- from the right: the run over `cs ++ [uv]` is one more step on the run over `cs`
  induction cs using List.reverseRecOn with
  | nil => exact ⟨inv_replicate n, fun i j => by rw [runLW, foldl_nil, rowOf_replicate]; simp⟩
  | append_singleton cs uv ih =>
    obtain ⟨hI, h2⟩ := ih fun x hx => hcs x (mem_append_left _ hx)
    have huvn := hcs uv (mem_append_right _ mem_cons_self)
    rw [runLW, foldl_append, foldl_cons, foldl_nil, ← runLW]
    unfold stepLW
    split
    · rename_i ha
      refine ⟨insert_inv hI huvn.1 huvn.2 (hacc uv ha), fun i j => ?_⟩
      rw [rowOf_insertPairL_mem hI huvn.1 huvn.2 (hacc uv ha), h2]
      simp only [mem_append, mem_singleton, or_and_right, exists_or, exists_eq_left, ha, true_and]
      simp only [Prod.ext_iff]
    · rename_i ha
      refine ⟨hI, fun i j => ?_⟩
      rw [h2]
      simp only [mem_append, mem_singleton, or_and_right, exists_or, exists_eq_left, ha, Bool.false_eq_true, false_and,
        or_false]

theorem accept_iff {S : Sys} {c2 : ℚ} {uv : Nat × Nat} :
    accept S c2 uv = true ↔ dist2 S uv.1 uv.2 < c2 ∧ uv.1 ≠ uv.2 := by
  simp only [accept, Bool.and_eq_true, decide_eq_true_eq, bne_iff_ne, ne_eq]

theorem accept_ne (S : Sys) (c2 : ℚ) (uv : Nat × Nat) (h : accept S c2 uv = true) : uv.1 ≠ uv.2 :=
  (accept_iff.1 h).2

theorem runL_spec (S : Sys) (c2 : ℚ) (cs : List (Nat × Nat)) (hcs : ∀ uv ∈ cs, uv.1 < S.natoms ∧ uv.2 < S.natoms) :
    Inv S.natoms (runL S c2 cs) ∧ ∀ i j, (j ∈ rowOf (runL S c2 cs) i ↔
      ∃ uv ∈ cs, accept S c2 uv = true ∧ (uv = (i, j) ∨ uv = (j, i))) :=
  runLW_spec (accept S c2) S.natoms (accept_ne S c2) cs hcs

/-- the content of every row is a function of the set of compared pairs. -/
theorem mem_rowOf_runL {S : Sys} {c2 : ℚ} {cs : List (Nat × Nat)}
    (hcs : ∀ uv ∈ cs, uv.1 < S.natoms ∧ uv.2 < S.natoms) (i j : Nat) :
    j ∈ rowOf (runL S c2 cs) i ↔ (j ≠ i ∧ dist2 S i j < c2) ∧ ((i, j) ∈ cs ∨ (j, i) ∈ cs) := by
  rw [(runL_spec S c2 cs hcs).2 i j]
  constructor
  · rintro ⟨uv, huv, hacc, rfl | rfl⟩
    · exact ⟨⟨(accept_iff.1 hacc).2.symm, (accept_iff.1 hacc).1⟩, Or.inl huv⟩
    · exact ⟨⟨(accept_iff.1 hacc).2, dist2_symm S j i ▸ (accept_iff.1 hacc).1⟩, Or.inr huv⟩
  · rintro ⟨⟨hne, hd⟩, h | h⟩
    · exact ⟨(i, j), h, accept_iff.2 ⟨hd, hne.symm⟩, Or.inl rfl⟩
    · exact ⟨(j, i), h, accept_iff.2 ⟨dist2_symm S i j ▸ hd, hne⟩, Or.inr rfl⟩

theorem rows_eq_map_rowOf (rows : Rows) : rows = (List.range rows.length).map (rowOf rows) := by
  refine List.ext_getElem (by simp) fun k h1 _ => ?_
  simp [rowOf, List.getD_eq_getElem?_getD, List.getElem?_eq_getElem h1]

end Atomman.C03
