/-
  C15 — point-defect insertion changes only the defect site and records the mapping (model `Atomman/C15.lean`; point.py as
  written is tied to it by `Proofs/C15_Source.lean`, regenerated source = model, and by the correspondence run of
  harness/props/c15.py).  Here: the entry points that take the tolerance argument as the caller passes it and the dispatcher; the
  same clauses for the functions as written (`source_*`); the `example` blocks on `exSys : Sys Rat`.
-/
import Proofs.C15_Site
import Proofs.C15_Insert
import Proofs.C15_Source
import Mathlib.Algebra.Order.Ring.Rat

namespace Atomman.C15

section any
variable {K : Type} [Add K] [Sub K] [Mul K] [Zero K] [IntCast K] [LT K] [DecidableLT K] [DecidableEq K]

/-- the dispatcher routes to the four generators and asserts on arguments a defect type does not take. -/
theorem point_dispatch (s : Sys K) (pos : Option (V3 K)) (ptd : Option Int) (p d : V3 K) (scale : Bool)
    (atol : K) (kw : Kw K) :
    point s "v" pos ptd none scale atol {} = vacancy s pos ptd scale atol ∧
    point s "i" (some p) none none scale atol kw = interstitial s p scale atol kw ∧
    point s "s" pos ptd none scale atol kw = substitutional s pos ptd scale atol kw ∧
    point s "db" pos ptd (some d) scale atol kw = dumbbell s pos ptd d scale atol kw ∧
    point s "v" pos ptd (some d) scale atol kw = .error .assert ∧
    (kw.isEmpty = false → point s "v" pos ptd none scale atol kw = .error .assert) ∧
    point s "i" pos (some 0) none scale atol kw = .error .assert ∧
    point s "i" pos none (some d) scale atol kw = .error .assert ∧
    point s "s" pos ptd (some d) scale atol kw = .error .assert ∧
    (∀ t, t ≠ "v" → t ≠ "i" → t ≠ "s" → t ≠ "db" → point s t pos ptd none scale atol kw = .error .value) := by
  refine ⟨?_, ?_, ?_, ?_, ?_, ?_, ?_, ?_, ?_, ?_⟩
  · simp [point, Kw.isEmpty]
  · simp [point]
  · simp [point]
  · simp [point]
  · simp [point]
  · intro hk; simp [point, hk]
  · simp [point]
  · simp [point]
  · simp [point]
  · intro t h1 h2 h3 h4; simp [point, h1, h2, h3, h4]

set_option linter.unusedSectionVars false in
theorem guardAtype_ok (kw : Kw K) (r : Except Err (Sys K)) (h : kw.atypeOk = true) : guardAtype kw r = r := by
  cases r <;> simp [guardAtype, h]

set_option linter.unusedSectionVars false in
theorem guardAtype_ok_iff (kw : Kw K) (r : Except Err (Sys K)) (s' : Sys K) :
    guardAtype kw r = .ok s' ↔ r = .ok s' ∧ kw.atypeOk = true := by
  cases r with
  | error e => simp [guardAtype]
  | ok x =>
    cases hk : kw.atypeOk <;> simp [guardAtype, hk]

theorem guardAtype_exists_ok (kw : Kw K) (r : Except Err (Sys K)) :
    (∃ s', guardAtype kw r = .ok s') ↔ (∃ s', r = .ok s') ∧ kw.atypeOk = true := by
  simp only [guardAtype_ok_iff, exists_and_right]

/-- **the dispatcher as coded is the model's dispatcher under the closing type guard, with the tolerance resolved** — for
    every input: the dispatcher's own refusals pass through the guard, and `'v'` takes no keywords, hence no type to refuse. -/
theorem pointC_eq (d : K) (s : Sys K) (t : String) (pos : Option (V3 K)) (ptd : Option Int) (db : Option (V3 K))
    (scale : Bool) (atol : Option K) (kw : Kw K) :
    pointC d s t pos ptd db scale atol kw = guardAtype kw (point s t pos ptd db scale (effAtol d atol) kw) := by
  unfold pointC point vacancyC interstitialC substitutionalC dumbbellC
  cases hk : kw.atypeOk with
  | true => simp only [guardAtype_ok _ _ hk]
  | false =>
    -- a type to refuse is a keyword: `'v'` asserts on both sides; elsewhere the guard moves into the branch taken
    have he : kw.isEmpty = false := by
      cases kw with
      | mk a o e => cases a <;> simp_all [Kw.isEmpty, Kw.atypeOk]
    simp only [he, apply_ite (guardAtype kw)]
    cases pos <;> cases db <;> rfl

/-- the table of `point_dispatch` one level up (`atol : Option K`, closing type guard included). -/
theorem pointC_dispatch (d : K) (s : Sys K) (pos : Option (V3 K)) (ptd : Option Int) (p v : V3 K) (scale : Bool)
    (atol : Option K) (kw : Kw K) :
    pointC d s "v" pos ptd none scale atol {} = vacancyC d s pos ptd scale atol ∧
    pointC d s "i" (some p) none none scale atol kw = interstitialC d s p scale atol kw ∧
    pointC d s "s" pos ptd none scale atol kw = substitutionalC d s pos ptd scale atol kw ∧
    pointC d s "db" pos ptd (some v) scale atol kw = dumbbellC d s pos ptd v scale atol kw ∧
    pointC d s "v" pos ptd (some v) scale atol kw = .error .assert ∧
    (kw.isEmpty = false → pointC d s "v" pos ptd none scale atol kw = .error .assert) ∧
    pointC d s "i" pos (some 0) none scale atol kw = .error .assert ∧
    pointC d s "i" pos none (some v) scale atol kw = .error .assert ∧
    pointC d s "s" pos ptd (some v) scale atol kw = .error .assert ∧
    (∀ t, t ≠ "v" → t ≠ "i" → t ≠ "s" → t ≠ "db" → pointC d s t pos ptd none scale atol kw = .error .value) := by
  obtain ⟨h1, h2, h3, h4, h5, h6, h7, h8, h9, h10⟩ := point_dispatch s pos ptd p v scale (effAtol d atol) kw
  -- the rows of `point_dispatch` under the guard: a generator's row is its `…C` entry point by definition, a refusal passes
  simp only [pointC_eq, h1, h2, h3, h4, h5, h7, h8, h9]
  exact ⟨guardAtype_ok _ _ rfl, rfl, rfl, rfl, rfl, fun hk => by rw [h6 hk]; rfl, rfl, rfl, rfl,
    fun t a b c e => by rw [h10 t a b c e]; rfl⟩

/-- **`atol=None` and only `None` means the default.**  An explicit tolerance — `0`, negative, tiny —
    is used as given by every generator (for every request whose defect-atom type is a valid one;
    `refuse_bad_atype` covers the others). -/
theorem atol_resolution (d a : K) (s : Sys K) (pos : Option (V3 K)) (ptd : Option Int) (p db : V3 K) (scale : Bool)
    (kw : Kw K) (hk : kw.atypeOk = true) :
    vacancyC d s pos ptd scale none = vacancy s pos ptd scale d ∧
    vacancyC d s pos ptd scale (some a) = vacancy s pos ptd scale a ∧
    interstitialC d s p scale none kw = interstitial s p scale d kw ∧
    interstitialC d s p scale (some a) kw = interstitial s p scale a kw ∧
    substitutionalC d s pos ptd scale none kw = substitutional s pos ptd scale d kw ∧
    substitutionalC d s pos ptd scale (some a) kw = substitutional s pos ptd scale a kw ∧
    dumbbellC d s pos ptd db scale none kw = dumbbell s pos ptd db scale d kw ∧
    dumbbellC d s pos ptd db scale (some a) kw = dumbbell s pos ptd db scale a kw := by
  refine ⟨rfl, rfl, ?_, ?_, ?_, ?_, ?_, ?_⟩ <;>
    simp only [interstitialC, substitutionalC, dumbbellC, effAtol, guardAtype_ok _ _ hk]

/-- the default is resolved in ONE place: a call with `atol=None` is the call with the default given
    explicitly — for every generator and through the dispatcher, whatever the keywords. -/
theorem atol_none_is_default (d : K) (s : Sys K) (t : String) (pos : Option (V3 K)) (ptd : Option Int)
    (p dbv : V3 K) (db : Option (V3 K)) (scale : Bool) (kw : Kw K) :
    vacancyC d s pos ptd scale none = vacancyC d s pos ptd scale (some d) ∧
    interstitialC d s p scale none kw = interstitialC d s p scale (some d) kw ∧
    substitutionalC d s pos ptd scale none kw = substitutionalC d s pos ptd scale (some d) kw ∧
    dumbbellC d s pos ptd dbv scale none kw = dumbbellC d s pos ptd dbv scale (some d) kw ∧
    pointC d s t pos ptd db scale none kw = pointC d s t pos ptd db scale (some d) kw :=
  ⟨rfl, rfl, rfl, rfl, rfl⟩

/-- the dispatcher hands the tolerance on unchanged: through `point` the same default rule holds for
    every defect type. -/
theorem point_atol_passthrough (d : K) (s : Sys K) (t : String) (pos : Option (V3 K)) (ptd : Option Int)
    (db : Option (V3 K)) (scale : Bool) (atol : Option K) (kw : Kw K) (hk : kw.atypeOk = true) :
    pointC d s t pos ptd db scale atol kw = point s t pos ptd db scale (effAtol d atol) kw :=
  (pointC_eq ..).trans (guardAtype_ok kw _ hk)

/-- **a defect-atom type below 1 is refused** (`atype=0`, negative): by the three generators that take
    one and through the dispatcher — never a system that carries the invalid type, never a silent
    replacement by the default. -/
theorem refuse_bad_atype (d : K) (s : Sys K) (pos : Option (V3 K)) (ptd : Option Int) (p dbv : V3 K)
    (scale : Bool) (atol : Option K) (kw : Kw K) (t : Int) (ht : kw.atype = some t) (hlt : t < 1) :
    (interstitialC d s p scale atol kw).isOk = false ∧
    (substitutionalC d s pos ptd scale atol kw).isOk = false ∧
    (dumbbellC d s pos ptd dbv scale atol kw).isOk = false ∧
    (pointC d s "i" (some p) none none scale atol kw).isOk = false ∧
    (pointC d s "s" pos ptd none scale atol kw).isOk = false ∧
    (pointC d s "db" pos ptd (some dbv) scale atol kw).isOk = false := by
  have hk : kw.atypeOk = false := by simp [Kw.atypeOk, ht]; omega
  have hg : ∀ r : Except Err (Sys K), (guardAtype kw r).isOk = false := by
    intro r; cases r <;> simp [guardAtype, hk, Except.isOk, Except.toBool]
  simp only [pointC_eq]
  exact ⟨hg _, hg _, hg _, hg _, hg _, hg _⟩

end any

section field
variable {K : Type} [Field K] [LinearOrder K] [IsStrictOrderedRing K]

/-- **zero tolerance refuses every position that is not exactly an atom** (the absent-site clause at
    the boundary value of the tolerance), for a direct call and through the dispatcher; and an
    interstitial there is not "occupied". -/
theorem zero_tol_offsite (d : K) (s : Sys K) (p : V3 K) (scale : Bool) (kw : Kw K) (db : V3 K)
    (h : ∀ (j : Nat) b, s.atoms[j]? = some b → dist2 s (toCart s scale p) b ≠ 0) :
    vacancyC d s (some p) none scale (some 0) = .error .value ∧
    substitutionalC d s (some p) none scale (some 0) kw = .error .value ∧
    dumbbellC d s (some p) none db scale (some 0) kw = .error .value ∧
    pointC d s "v" (some p) none none scale (some 0) {} = .error .value ∧
    interstitialC d s p scale (some 0) kw = guardAtype kw (interstitialAt s (toCart s scale p) kw) := by
  have hm : siteMatches s (toCart s scale p) 0 = [] :=
    (siteMatches_eq_nil_iff s _ 0).mpr fun j b hb =>
      Bool.eq_false_iff.mpr fun hc => h j b hb ((within_zero_tol s _ 0 b (le_refl _)).mp hc)
  obtain ⟨h1, h2, h3⟩ := refusals_propagate s (some p) none scale 0 .value
    (by simp only [resolveSite, hm]) kw db
  refine ⟨h1, ?_, ?_, ?_, ?_⟩
  · simp only [substitutionalC, effAtol, h2, guardAtype]
  · simp only [dumbbellC, effAtol, h3, guardAtype]
  · exact h1
  · simp only [interstitialC, effAtol, interstitial, hm]

end field

/-- cubic cell of edge 4 at origin (1,0,0), periodic along x and y only, two atoms, one extra property. -/
def exSys : Sys Rat :=
  { box := ⟨⟨⟨4, 0, 0⟩, ⟨0, 4, 0⟩, ⟨0, 0, 4⟩⟩, ⟨1, 0, 0⟩⟩, pbc := (true, true, false), nsym := 2,
    masses := [some 27, none], keys := ["charge"],
    atoms := [{ atype := 1, pos := ⟨1, 0, 0⟩, props := [[1/2]] }, { atype := 2, pos := ⟨3, 2, 2⟩, props := [[3/2]] }],
    old := none }

-- the two atoms of `exSys`
private def audA0 : Atom Rat := { atype := 1, pos := ⟨1, 0, 0⟩, props := [[1/2]] }
private def audA1 : Atom Rat := { atype := 2, pos := ⟨3, 2, 2⟩, props := [[3/2]] }

private theorem exSys_all (P : Nat → Atom Rat → Prop) (h0 : P 0 audA0) (h1 : P 1 audA1) :
    ∀ (j : Nat) b, exSys.atoms[j]? = some b → P j b := by
  intro j b hb
  match j, hb with
  | 0, hb => exact Option.some.inj (hb : some audA0 = some b) ▸ h0
  | 1, hb => exact Option.some.inj (hb : some audA1 = some b) ▸ h1
  | _ + 2, hb => exact nomatch (hb : none = some b)

example : vacancy exSys none (some 0) false (1/100) =
    .ok { exSys with atoms := [{ atype := 2, pos := ⟨3, 2, 2⟩, props := [[3/2]] }], old := some [1] } := by decide +kernel
-- by position, through the periodic image one cell along -x, and box-relative through +y
example : vacancy exSys (some ⟨-3, 0, 0⟩) none false (1/100) = vacancy exSys none (some 0) false (1/100) := by decide +kernel
example : vacancy exSys (some ⟨0, 1, 0⟩) none true (1/100) = vacancy exSys none (some (-2)) false (1/100) := by decide +kernel
-- z is not periodic; two cells away is outside dvect's candidate set: refused
example : vacancy exSys (some ⟨1, 0, 4⟩) none false (1/100) = .error .value := by decide +kernel
example : vacancy exSys (some ⟨9, 0, 0⟩) none false (1/100) = .error .value := by decide +kernel
-- ambiguous (tolerance 3 reaches both atoms), out of range, occupied, same type
example : vacancy exSys (some ⟨2, 1, 1⟩) none false 3 = .error .value := by decide +kernel
example : vacancy exSys none (some 2) false (1/100) = .error .value := by decide +kernel
example : vacancy exSys none (some (-3)) false (1/100) = .error .value := by decide +kernel
example : interstitial exSys ⟨1, 0, 1/200⟩ false (1/100) {} = .error .value := by decide +kernel
example : substitutional exSys none (some 0) false (1/100) {} = .error .value := by decide +kernel
example : interstitial exSys ⟨1/4, 1/2, 1/2⟩ true (1/100) { atype := some 3 } =
    .ok { exSys with
          atoms := exSys.atoms ++ [{ atype := 3, pos := ⟨2, 2, 2⟩, props := [[0]] }],
          old := some [0, 1, 2], nsym := 3, masses := [some 27, none, none] } := by decide +kernel
example : dumbbell exSys none (some 0) ⟨1/8, 0, 0⟩ true (1/100) { extra := [("charge", [7])] } =
    .ok { exSys with
          atoms := [{ atype := 2, pos := ⟨3, 2, 2⟩, props := [[3/2]] },
                    { atype := 1, pos := ⟨1/2, 0, 0⟩, props := [[1/2]] },
                    { atype := 1, pos := ⟨3/2, 0, 0⟩, props := [[7]] }],
          old := some [1, 0, 2] } := by decide +kernel
-- a history: vacancy of atom 0, then an interstitial: the survivor still records index 1
example : (run exSys (idProv exSys) [.vac none (some 0) false (1/100), .int ⟨1/4, 1/4, 1/4⟩ true (1/100) {}]).2
    = [some 1, none] := by decide +kernel
example : (run exSys (idProv exSys) [.vac none (some 0) false (1/100), .int ⟨1/4, 1/4, 1/4⟩ true (1/100) {}]).1.old
    = some [1, 2] := by decide +kernel

-- the tolerance argument: atom 0 is at (1,0,0); the position 1/128 off it is found with the default
-- (None), refused with an explicit 0 and with 1/256, found with exactly 1/128 (tie) — directly and
-- through the dispatcher, also through the periodic image one cell along -x
example : vacancyC (1/100) exSys (some ⟨1 + 1/128, 0, 0⟩) none false none = vacancy exSys none (some 0) false 0 := by decide +kernel
example : vacancyC (1/100) exSys (some ⟨1 + 1/128, 0, 0⟩) none false (some 0) = .error .value := by decide +kernel
example : vacancyC (1/100) exSys (some ⟨1 + 1/128, 0, 0⟩) none false (some (1/256)) = .error .value := by decide +kernel
example : vacancyC (1/100) exSys (some ⟨1 + 1/128, 0, 0⟩) none false (some (1/128)) = vacancy exSys none (some 0) false 0 := by decide +kernel
example : pointC (1/100) exSys "v" (some ⟨-3 + 1/128, 0, 0⟩) none none false (some 0) {} = .error .value := by decide +kernel
example : pointC (1/100) exSys "v" (some ⟨-3 + 1/128, 0, 0⟩) none none false none {} = vacancy exSys none (some 0) false 0 := by decide +kernel
example : pointC (1/100) exSys "v" (some ⟨-3, 0, 0⟩) none none false (some 0) {} = vacancy exSys none (some 0) false 0 := by decide +kernel
example : interstitialC (1/100) exSys ⟨1 + 1/128, 0, 0⟩ false none {} = .error .value := by decide +kernel
example : (interstitialC (1/100) exSys ⟨1 + 1/128, 0, 0⟩ false (some 0) {}).isOk = true := by decide +kernel
-- a requested type below 1 is refused, whatever else is asked; a valid one goes through
example : interstitialC (1/100) exSys ⟨1/4, 1/2, 1/2⟩ true none { atype := some 0 } = .error .value := by decide +kernel
example : substitutionalC (1/100) exSys none (some 0) false none { atype := some (-1) } = .error .value := by decide +kernel
example : pointC (1/100) exSys "db" none (some 0) (some ⟨1/8, 0, 0⟩) true none { atype := some 0 } = .error .value := by decide +kernel
example : (interstitialC (1/100) exSys ⟨1/4, 1/2, 1/2⟩ true none { atype := some 3 }).isOk = true := by decide +kernel
example : ({ atype := some 3 } : Kw Rat).atypeOk = true ∧ ({} : Kw Rat).atypeOk = true := by decide
-- masses are handed on
example : (vacancy exSys none (some 0) false (1/100)).toOption.map (·.masses) = some [some 27, none] := by decide +kernel

/-- the hypotheses of `pos_eq_index_selection` are met by a concrete system: atom 0 of `exSys` seen
    through the image one cell along -x. -/
example : resolveSite exSys (some ⟨-3, 0, 0⟩) none false (1/100) = .ok 0 :=
  (pos_eq_index_selection exSys 0 audA0 ⟨-3, 0, 0⟩ false (1/100) (-1) 0 0 (by decide +kernel) (by decide +kernel)
    (by decide +kernel) (by decide +kernel) (by decide +kernel)
    (fun j b hne hb => exSys_all (fun j b => j ≠ 0 → within exSys (toCart exSys false ⟨-3, 0, 0⟩) (1/100) b = false)
      (fun h => absurd rfl h) (fun _ => by decide +kernel) j b hb hne)).1

-- non-vacuity: `exSys` in units 1024 times smaller; 1/128 off atom 0, tolerance tie / just below
example : resolveSite (exSys.scaled (1/1024)) (some (V3.smul (1/1024) ⟨1 + 1/128, 0, 0⟩)) none false ((1/1024) * (1/128)) = .ok 0 := by
  decide +kernel
example : resolveSite (exSys.scaled (1/1024)) (some (V3.smul (1/1024) ⟨1 + 1/128, 0, 0⟩)) none false ((1/1024) * (1/256)) = .error .value := by
  decide +kernel

open Atomman.Generated

section any
variable {K : Type} [Add K] [Sub K] [Mul K] [Zero K] [IntCast K] [LT K] [DecidableLT K] [DecidableEq K]

/-- an accepted call of `vacancy` as written is the model insertion `.vac` with the resolved tolerance. -/
theorem source_vacancy_is_op (d : K) (s s' : Sys K) (pos : Option (V3 K)) (ptd : Option Int) (scale : Bool)
    (atol : Option K) (h : PointSource.vacancy d s pos ptd scale atol = .ok s') :
    (Op.vac pos ptd scale (effAtol d atol)).apply s = .ok s' := by
  rw [gen_vacancy_eq_model] at h; exact h

theorem source_interstitial_is_op (d : K) (s s' : Sys K) (pos : V3 K) (scale : Bool) (atol : Option K) (kw : Kw K)
    (h : PointSource.interstitial d s pos scale atol kw = .ok s') :
    (Op.int pos scale (effAtol d atol) kw).apply s = .ok s' ∧ kw.atypeOk = true := by
  rw [gen_interstitial_eq_model] at h; exact (guardAtype_ok_iff kw _ s').mp h

/-- `atype` is a named parameter of `substitutional` (default 1), every other keyword arrives in `**kwargs`. -/
theorem source_substitutional_is_op (d : K) (s s' : Sys K) (pos : Option (V3 K)) (ptd : Option Int) (scale : Bool)
    (atol : Option K) (kw : Kw K)
    (h : PointSource.substitutional d s pos ptd (kw.atype.getD 1) scale atol { kw with atype := none } = .ok s') :
    (Op.sub pos ptd scale (effAtol d atol) kw).apply s = .ok s' ∧ kw.atypeOk = true := by
  rw [gen_substitutional_eq_model] at h; exact (guardAtype_ok_iff kw _ s').mp h

theorem source_dumbbell_is_op (d : K) (s s' : Sys K) (hv : ValidTypes s) (pos : Option (V3 K)) (ptd : Option Int)
    (db : V3 K) (scale : Bool) (atol : Option K) (kw : Kw K)
    (h : PointSource.dumbbell d s pos ptd db scale atol kw = .ok s') :
    (Op.db pos ptd db scale (effAtol d atol) kw).apply s = .ok s' ∧ kw.atypeOk = true := by
  rw [gen_dumbbell_eq_model d s hv] at h; exact (guardAtype_ok_iff kw _ s').mp h

/-- **every accepted call of the dispatcher as written is one of the four model insertions**, with the tolerance
    resolved (`None` ↦ default) and every keyword handed on. -/
theorem source_point_is_op (d : K) (s s' : Sys K) (hv : ValidTypes s) (t : String) (pos : Option (V3 K))
    (ptd : Option Int) (db : Option (V3 K)) (scale : Bool) (atol : Option K) (kw : Kw K)
    (h : PointSource.point d s t pos ptd db scale atol kw = .ok s') :
    ∃ op : Op K, op.apply s = .ok s' ∧ kw.atypeOk = true ∧
      ((t = "v" ∧ op = .vac pos ptd scale (effAtol d atol) ∧ db = none ∧ kw.isEmpty = true) ∨
       (t = "i" ∧ ∃ p, pos = some p ∧ op = .int p scale (effAtol d atol) kw ∧ ptd = none ∧ db = none) ∨
       (t = "s" ∧ op = .sub pos ptd scale (effAtol d atol) kw ∧ db = none) ∨
       (t = "db" ∧ ∃ v, db = some v ∧ op = .db pos ptd v scale (effAtol d atol) kw)) := by
  -- the closing guard is taken off once (`pointC_eq`); what is left is an accepted call of the model's dispatcher
  rw [gen_point_eq_model d s hv, pointC_eq, guardAtype_ok_iff] at h
  obtain ⟨h, hk⟩ := h
  unfold point at h
  -- a failed assertion has a class of its own: each defect type is left with the branch that calls its generator
  by_cases h1 : t = "v"
  · rw [if_pos h1] at h
    split_ifs at h with hd he
    exact ⟨.vac pos ptd scale (effAtol d atol), h, hk, .inl ⟨h1, rfl, Option.not_isSome_iff_eq_none.mp hd, by simpa using he⟩⟩
  rw [if_neg h1] at h
  by_cases h2 : t = "i"
  · rw [if_pos h2] at h
    split_ifs at h with hp hd
    cases pos with
    | none => cases h
    | some p =>
      exact ⟨.int p scale (effAtol d atol) kw, h, hk, .inr (.inl ⟨h2, p, rfl, rfl,
        Option.not_isSome_iff_eq_none.mp hp, Option.not_isSome_iff_eq_none.mp hd⟩)⟩
  rw [if_neg h2] at h
  by_cases h3 : t = "s"
  · rw [if_pos h3] at h
    split_ifs at h with hd
    exact ⟨.sub pos ptd scale (effAtol d atol) kw, h, hk, .inr (.inr (.inl ⟨h3, rfl,
      Option.not_isSome_iff_eq_none.mp hd⟩))⟩
  rw [if_neg h3] at h
  by_cases h4 : t = "db"
  · rw [if_pos h4] at h
    cases db with
    | none => cases h
    | some v => exact ⟨.db pos ptd v scale (effAtol d atol) kw, h, hk, .inr (.inr (.inr ⟨h4, v, rfl, rfl⟩))⟩
  rw [if_neg h4] at h
  cases h

/-- refusal, end to end: `vacancy` AS WRITTEN accepts exactly when the site resolves (with `None` ↦ default
    tolerance) and the atom is not the only one. -/
theorem source_vacancy_ok_iff (d : K) (s : Sys K) (pos : Option (V3 K)) (ptd : Option Int) (scale : Bool)
    (atol : Option K) :
    (∃ s', PointSource.vacancy d s pos ptd scale atol = .ok s') ↔
      (∃ i, resolveSite s pos ptd scale (effAtol d atol) = .ok i) ∧ 2 ≤ s.atoms.length := by
  rw [gen_vacancy_eq_model]; exact vacancy_ok_iff s pos ptd scale (effAtol d atol)

/-- `interstitial` AS WRITTEN accepts exactly when no atom is within the tolerance and the requested type is ≥ 1. -/
theorem source_interstitial_ok_iff (d : K) (s : Sys K) (hne : s.atoms ≠ []) (p : V3 K) (scale : Bool)
    (atol : Option K) (kw : Kw K) :
    (∃ s', PointSource.interstitial d s p scale atol kw = .ok s') ↔
      (∀ (j : Nat) b, s.atoms[j]? = some b → within s (toCart s scale p) (effAtol d atol) b = false) ∧
      kw.atypeOk = true := by
  rw [gen_interstitial_eq_model, interstitialC, guardAtype_exists_ok,
    interstitial_ok_iff_free s p scale (effAtol d atol) kw hne]

/-- `substitutional` AS WRITTEN accepts exactly when the site resolves, the atom has another type and the
    requested type is ≥ 1. -/
theorem source_substitutional_ok_iff (d : K) (s : Sys K) (pos : Option (V3 K)) (ptd : Option Int) (scale : Bool)
    (atol : Option K) (kw : Kw K) :
    (∃ s', PointSource.substitutional d s pos ptd (kw.atype.getD 1) scale atol { kw with atype := none } = .ok s') ↔
      (∃ i a, resolveSite s pos ptd scale (effAtol d atol) = .ok i ∧ s.atoms[i]? = some a ∧
        a.atype ≠ kw.atype.getD 1) ∧ kw.atypeOk = true := by
  rw [gen_substitutional_eq_model, substitutionalC, guardAtype_exists_ok, substitutional_ok_iff]

/-- `dumbbell` AS WRITTEN accepts exactly when the site resolves and the requested type is ≥ 1. -/
theorem source_dumbbell_ok_iff (d : K) (s : Sys K) (hv : ValidTypes s) (pos : Option (V3 K)) (ptd : Option Int)
    (db : V3 K) (scale : Bool) (atol : Option K) (kw : Kw K) :
    (∃ s', PointSource.dumbbell d s pos ptd db scale atol kw = .ok s') ↔
      (∃ i, resolveSite s pos ptd scale (effAtol d atol) = .ok i) ∧ kw.atypeOk = true := by
  rw [gen_dumbbell_eq_model d s hv, dumbbellC, guardAtype_exists_ok, dumbbell_ok_iff]

/-- every clause of the property about ONE accepted insertion, collected. -/
theorem op_clauses (s s' : Sys K) (op : Op K) (hwf : WF s) (h : op.apply s = .ok s') :
    s'.box = s.box ∧ s'.pbc = s.pbc ∧ s'.keys = s.keys ∧
    (s'.atoms.length : Int) = (s.atoms.length : Int) + op.delta ∧
    WF s' ∧ s'.old.isSome ∧ (op.prov s).length = s'.atoms.length ∧
    (∀ j k, (op.prov s)[j]? = some (some k) → k < s.atoms.length ∧ oldAt s' j = oldAt s k) ∧
    s.nsym ≤ s'.nsym ∧ (∀ i, i < s.masses.length → s'.masses[i]? = s.masses[i]?) := by
  obtain ⟨h1, h2, h3⟩ := same_cell s s' op h
  obtain ⟨g1, g2, g3, g4⟩ := old_id_correct s s' op hwf h
  obtain ⟨m1, _, _, m4⟩ := symbols_masses_kept s s' op h
  exact ⟨h1, h2, h3, count_change s s' op h, g1, g2, g3, g4, m1, m4⟩

/-- **END TO END.**  For every call `point(system, ptd_type, pos, ptd_id, db_vect, scale, atol, **kwargs)` of the
    dispatcher AS WRITTEN in point.py that returns a system: same cell and property keys, the documented change
    in atom count, an `old_id` entry for every atom, the input's old index recorded for every surviving atom,
    symbols and masses kept. -/
theorem source_point_clauses (d : K) (s s' : Sys K) (hv : ValidTypes s) (hwf : WF s) (t : String)
    (pos : Option (V3 K)) (ptd : Option Int) (db : Option (V3 K)) (scale : Bool) (atol : Option K) (kw : Kw K)
    (h : PointSource.point d s t pos ptd db scale atol kw = .ok s') :
    ∃ op : Op K, op.apply s = .ok s' ∧
      s'.box = s.box ∧ s'.pbc = s.pbc ∧ s'.keys = s.keys ∧
      (s'.atoms.length : Int) = (s.atoms.length : Int) + op.delta ∧
      (t = "v" → op.delta = -1) ∧ (t = "i" → op.delta = 1) ∧ (t = "s" → op.delta = 0) ∧ (t = "db" → op.delta = 1) ∧
      WF s' ∧ s'.old.isSome ∧
      (∀ j k, (op.prov s)[j]? = some (some k) → k < s.atoms.length ∧ oldAt s' j = oldAt s k) ∧
      s.nsym ≤ s'.nsym ∧ (∀ i, i < s.masses.length → s'.masses[i]? = s.masses[i]?) := by
  obtain ⟨op, hop, _, hkind⟩ := source_point_is_op d s s' hv t pos ptd db scale atol kw h
  obtain ⟨c1, c2, c3, c4, c5, c6, _, c8, c9, c10⟩ := op_clauses s s' op hwf hop
  refine ⟨op, hop, c1, c2, c3, c4, ?_, ?_, ?_, ?_, c5, c6, c8, c9, c10⟩
  -- for each type string: the disjunct of `hkind` that names it gives `op`, hence its change of count;
  -- the other three name another string
  all_goals
    intro ht
    rcases hkind with ⟨h0, ho, _⟩ | ⟨h0, p, _, ho, _⟩ | ⟨h0, ho, _⟩ | ⟨h0, v, _, ho⟩ <;>
      first
      | (subst ho; rfl)
      | (rw [h0] at ht; exact absurd ht (by decide))

end any

example : ValidTypes exSys := by
  intro a ha
  simp [exSys] at ha
  rcases ha with rfl | rfl <;> decide
example : WF exSys := by simp [WF, exSys]
-- an accepted call of the dispatcher as written (hypothesis of `source_point_clauses` / `source_point_is_op`)
example : (PointSource.point (1/100) exSys "db" none (some 0) (some ⟨1/8, 0, 0⟩) true none {}).isOk = true := by
  decide +kernel
example : (PointSource.point (1/100) exSys "v" (some ⟨-3, 0, 0⟩) none none false none {}).isOk = true := by
  decide +kernel
example : (PointSource.point (1/100) exSys "i" (some ⟨1/4, 1/2, 1/2⟩) none none true (some 0) { atype := some 3 }).isOk = true := by
  decide +kernel
example : (PointSource.point (1/100) exSys "s" none (some (-1)) none false none { atype := some 1 }).isOk = true := by
  decide +kernel
-- the generated functions agree with the model on concrete refusals too
example : PointSource.point (1/100) exSys "v" none (some 0) (some ⟨1/8, 0, 0⟩) false none {} = .error .assert := by
  decide +kernel
example : PointSource.vacancy (1/100) exSys (some ⟨1 + 1/128, 0, 0⟩) none false (some (1/256)) = .error .value := by
  decide +kernel
-- `within_iff_isclose`: the exact distance of the position 1/128 off atom 0 is r = 1/128
example : (1/128 : Rat) * (1/128) = dist2 exSys ⟨1 + 1/128, 0, 0⟩ { atype := 1, pos := ⟨1, 0, 0⟩, props := [[1/2]] } := by
  decide +kernel
-- `interstitial_vacancy_roundtrip`: both steps are accepted on `exSys`
example : ((interstitial exSys ⟨1/4, 1/2, 1/2⟩ true (1/100) {}).toOption.bind
    fun s1 => (vacancy s1 none (some (-1)) false (1/100)).toOption).map (·.atoms) = some exSys.atoms := by decide +kernel
-- `keyword_order_irrelevant` / `unknown_keyword_ignored`
example : overrideProps ["charge", "tag"] [[(1 : Rat)], [2]] [("tag", [7]), ("charge", [9])] id
    = overrideProps ["charge", "tag"] [[(1 : Rat)], [2]] [("charge", [9]), ("tag", [7])] id := by decide +kernel
example : overrideProps ["charge"] [[(1 : Rat)]] [("nosuch", [7]), ("charge", [9])] id = [[9]] := by decide +kernel
-- `run_count`: vacancy (-1), interstitial (+1), a refused step, dumbbell (+1) on a 2-atom system: 3 atoms
example : (run exSys (idProv exSys) [.vac none (some 0) false (1/100), .int ⟨1/4, 1/4, 1/4⟩ true (1/100) {},
    .vac none (some 7) false (1/100), .db none (some 0) ⟨1/8, 0, 0⟩ false (1/100) {}]).1.atoms.length = 3 := by decide +kernel

-- float index objects on `exSys` (2 atoms): whole numbers and fractions in range fail at their first use,
-- out of range is 'invalid ptd_id', with `pos` too it is the both-given refusal
example : vacancyF exSys none (1 : Rat) = .type ∧ substitutionalF exSys none (-1/2 : Rat) = .index ∧
    dumbbellF exSys none (-2 : Rat) = .type ∧ vacancyF exSys none (2 : Rat) = .value ∧
    dumbbellF exSys none (-9/4 : Rat) = .value ∧ substitutionalF exSys (some ⟨1, 0, 0⟩) (0 : Rat) = .value ∧
    pointF exSys "v" none (3/2 : Rat) false true = .type ∧ pointF exSys "i" none (0 : Rat) false true = .assert := by
  decide +kernel

/-! ### every hypothesis of a theorem instantiated on `exSys`
  A statement may repeat a run of the blocks above: here it is obtained THROUGH the theorem named in the comment, whose
  hypotheses are thereby seen to be satisfiable.  A new theorem with hypotheses gets its example here; a new run of the model, above. -/

-- `old_id_composes` (WF, a provenance entry `some (some k)` after two accepted insertions)
example : oldAt (run exSys (idProv exSys) [.vac none (some 0) false (1/100), .int ⟨1/4, 1/4, 1/4⟩ true (1/100) {}]).1 0
    = oldAt exSys 1 :=
  (old_id_composes exSys (by simp [WF, exSys])
    [.vac none (some 0) false (1/100), .int ⟨1/4, 1/4, 1/4⟩ true (1/100) {}] 0 1 (by decide +kernel)).2
-- `old_id_composes_fresh`: its hypothesis
example : exSys.old = none := rfl
-- `site_of_image`: atom 0 seen one cell along -x and +y (both periodic), negative tolerance
example : within exSys ⟨-3, 4, 0⟩ (-1) audA0 = true :=
  site_of_image exSys audA0 ⟨-3, 4, 0⟩ (-1) (-1) 1 0 (by decide +kernel) (by decide +kernel) (by decide +kernel) (by decide +kernel)
-- `pos_eq_index_cartesian`
example : resolveSite exSys (some audA0.pos) none false (1/100) = resolveSite exSys none (some 0) false (1/100) :=
  pos_eq_index_cartesian exSys 0 audA0 (1/100) (by decide +kernel)
    (fun j b hne hb => exSys_all (fun j b => j ≠ 0 → within exSys audA0.pos (1/100) b = false)
      (fun h => absurd rfl h) (fun _ => by decide +kernel) j b hb hne)
-- `pos_eq_index_relative`: atom 1 (box-relative (1/2,1/2,1/2)) through the image one cell along +y
example : resolveSite exSys (some ⟨1/2 + (0 : Int), 1/2 + (1 : Int), 1/2 + (0 : Int)⟩) none true (1/100) =
    resolveSite exSys none (some ((1 : Nat) : Int)) true (1/100) :=
  pos_eq_index_relative exSys 1 audA1 ⟨1/2, 1/2, 1/2⟩ (1/100) 0 1 0 (by decide +kernel) (by decide +kernel)
    (by decide +kernel) (by decide +kernel) (by decide +kernel)
    (fun j b hne hb => exSys_all (fun j b => j ≠ 1 →
        within exSys (exSys.box.relToCart ⟨1/2 + (0 : Int), 1/2 + (1 : Int), 1/2 + (0 : Int)⟩) (1/100) b = false)
      (fun _ => by decide +kernel) (fun h => absurd rfl h) j b hb hne)
-- `refuse_absent_site`: a position 1/8 from atom 0, tolerance 1/100
example : resolveSite exSys (some ⟨1 + 1/8, 0, 0⟩) none false (1/100) = .error .value :=
  refuse_absent_site exSys ⟨1 + 1/8, 0, 0⟩ false (1/100)
    (exSys_all (fun _ b => within exSys (toCart exSys false ⟨1 + 1/8, 0, 0⟩) (1/100) b = false)
      (by decide +kernel) (by decide +kernel))
-- `refuse_ambiguous_site`: the midpoint of the two atoms with a tolerance reaching both
example : resolveSite exSys (some ⟨2, 1, 1⟩) none false 3 = .error .value :=
  refuse_ambiguous_site exSys ⟨2, 1, 1⟩ false 3 0 1 audA0 audA1 (by decide +kernel) (by decide +kernel) (by decide +kernel)
    (by decide +kernel) (by decide +kernel)
-- `refuse_occupied_interstitial`: 1/200 from atom 0
example : interstitial exSys ⟨1, 0, 1/200⟩ false (1/100) { atype := some 2 } = .error .value :=
  refuse_occupied_interstitial exSys ⟨1, 0, 1/200⟩ false (1/100) { atype := some 2 } 0 audA0 (by decide +kernel)
    (by decide +kernel)
-- `refuse_same_type`: atom 1 has type 2
example : substitutional exSys none (some (-1)) false (1/100) { atype := some 2 } = .error .value :=
  refuse_same_type exSys none (some (-1)) false (1/100) { atype := some 2 } 1 audA1 (by decide +kernel)
    (by decide +kernel) (by decide +kernel)
-- `refusals_propagate`
example : dumbbell exSys none (some 2) ⟨1/8, 0, 0⟩ false (1/100) {} = .error .value :=
  (refusals_propagate exSys none (some 2) false (1/100) .value (by decide +kernel) {} ⟨1/8, 0, 0⟩).2.2
-- `within_tie` / `within_mono` / `within_iff_isclose`: 1/128 off atom 0
example : within exSys ⟨1 + 1/128, 0, 0⟩ (1/128) audA0 = true :=
  within_tie exSys ⟨1 + 1/128, 0, 0⟩ (1/128) audA0 (by decide +kernel) (by decide +kernel)
example : within exSys ⟨1 + 1/128, 0, 0⟩ (1/64) audA0 = true :=
  within_mono exSys ⟨1 + 1/128, 0, 0⟩ (1/128) (1/64) audA0 (by decide +kernel) (by decide +kernel) (by decide +kernel)
example : within exSys ⟨1 + 1/128, 0, 0⟩ (1/256) audA0 = false := by
  have h := within_iff_isclose exSys ⟨1 + 1/128, 0, 0⟩ (1/256) audA0 (1/128) 7 (by decide +kernel) (by decide +kernel)
  cases hw : within exSys ⟨1 + 1/128, 0, 0⟩ (1/256) audA0
  · rfl
  · exact absurd (h.mp hw) (by decide +kernel)
-- `zero_tol_offsite`: no atom of `exSys` is exactly at (1 + 1/128, 0, 0)
example : vacancyC (1/100) exSys (some ⟨1 + 1/128, 0, 0⟩) none false (some 0) = .error .value :=
  (zero_tol_offsite (1/100) exSys ⟨1 + 1/128, 0, 0⟩ false {} ⟨0, 0, 0⟩
    (exSys_all (fun _ b => dist2 exSys (toCart exSys false ⟨1 + 1/128, 0, 0⟩) b ≠ 0)
      (by decide +kernel) (by decide +kernel))).1
-- `interstitial_ok_iff_free`, `source_interstitial_ok_iff`: `exSys` is not empty
example : exSys.atoms ≠ [] := by decide
-- `refuse_bad_atype`
example : (dumbbellC (1/100) exSys none (some 0) ⟨1/8, 0, 0⟩ false none { atype := some 0 }).isOk = false :=
  (refuse_bad_atype (1/100) exSys none (some 0) ⟨0, 0, 0⟩ ⟨1/8, 0, 0⟩ false none { atype := some 0 } 0 rfl
    (by decide +kernel)).2.2.1
-- `atol_resolution`, `point_atol_passthrough`, `guardAtype_ok`: a keyword set with an admissible type
example : ({ atype := some 3, extra := [("charge", [7])] } : Kw Rat).atypeOk = true := by decide
-- `unknown_keyword_ignored` / `keyword_order_irrelevant`: their side conditions
example : "nosuch" ∉ ["charge", "tag"] := by decide
example : overrideProps ["charge", "tag"] [[(1 : Rat)], [2]] [("tag", [7]), ("charge", [9])] id
    = overrideProps ["charge", "tag"] [[(1 : Rat)], [2]] [("charge", [9]), ("tag", [7])] id :=
  keyword_order_irrelevant _ _ _ _ id (List.Perm.swap _ _ _) (by decide +kernel)
-- `float_index_range_agrees` (after ≠ .value), `float_index_refused` (in range)
example : floatIndex exSys.atoms.length (((2 : Int) : Int) : Rat) .type = .value :=
  (float_index_range_agrees exSys 2 false (1/100) .type (by decide +kernel)).mpr (by decide +kernel)
example : substitutionalF exSys none (-1/2 : Rat) = .index :=
  (float_index_refused exSys (-1/2) (by decide +kernel)).2.1
-- `dvect_scale` / `within_scale` / `search_scale_invariant`: a scale that is not a power of two
example : resolveSite (exSys.scaled (3/7)) (some (V3.smul (3/7) ⟨1 + 1/128, 0, 0⟩)) none false ((3/7) * (1/128))
    = resolveSite exSys (some ⟨1 + 1/128, 0, 0⟩) none false (1/128) :=
  (search_scale_invariant (3/7) (by decide +kernel) exSys ⟨1 + 1/128, 0, 0⟩ none (1/128)).1

end Atomman.C15
