/-
  C09 — the value algebras side by side: what `trackAlg` / `trackAlgR` compute where they succeed, and the relations between
  the algebras (`AlgRel`) with which the property theorems instantiate `parse_rel`: tracked → numeric under a rescaling
  (`track_num_rel`, `track_num_rel_r`), symbolic dimension → tracked (`dim_track_rel`, `qdim_track_rel`), integer → rational
  exponents (`numAlgR_extends`, `trackAlgR_extends`); each with the relation between the two environments.
-/
import Proofs.C09_Lemmas
import Proofs.C09_Units
import Proofs.C09_Rpow
import Mathlib.Tactic.FieldSimp

namespace Atomman.C09

section integer
variable {K : Type} [Field K] [DecidableEq K]

def ScaledBy (sc : Scales K) (vd : K × D5) (w : K) : Prop := w = vd.1 * factor sc vd.2

theorem trackAlg_div_some {toInt? : K → Option Int} {a b r : K × D5} (h : (trackAlg toInt?).div a b = some r) :
    b.1 ≠ 0 ∧ r = (a.1 / b.1, D5.sub a.2 b.2) := by
  simp only [trackAlg] at h
  split at h
  · cases h
  · exact ⟨‹_›, (Option.some.inj h).symm⟩

theorem trackAlg_pow_some {toInt? : K → Option Int} {a b r : K × D5} (h : (trackAlg toInt?).pow a b = some r) :
    ∃ n, toInt? b.1 = some n ∧ b.2 = D5.zero ∧ ¬ (a.1 = 0 ∧ n < 0) ∧ r = (powInt a.1 n, D5.smul n a.2) := by
  simp only [trackAlg] at h
  split at h
  · rename_i n hn
    split at h
    · split at h
      · cases h
      · exact ⟨n, hn, ‹_›, ‹_›, (Option.some.inj h).symm⟩
    · cases h
  · cases h

theorem track_num_rel (toInt? : K → Option Int) {sc : Scales K} (h : sc.Nonzero) :
    AlgRel Lift.fwd (ScaledBy sc) (trackAlg toInt?) (numAlg toInt?) where
  mul := by
    rintro ⟨a, da⟩ ⟨a', da'⟩ b b' hab hab'
    simp only [ScaledBy] at hab hab'
    exact Lift.fwd.pure (by simp only [ScaledBy, hab, hab', factor_add h]; ring)
  div := by
    rintro ⟨a, da⟩ ⟨a', da'⟩ b b' hab hab' r hr
    simp only [ScaledBy] at hab hab'
    obtain ⟨hne, rfl⟩ := trackAlg_div_some hr
    have hb' : b' ≠ 0 := by rw [hab']; exact mul_ne_zero hne (factor_ne_zero h da')
    refine ⟨b / b', by simp [numAlg, hb'], ?_⟩
    simp only [ScaledBy, hab, hab', factor_sub h, mul_div_mul_comm]
  pow := by
    rintro ⟨a, da⟩ ⟨a', da'⟩ b b' hab hab' r hr
    simp only [ScaledBy] at hab hab'
    obtain ⟨n, hn, hz, hne, rfl⟩ := trackAlg_pow_some hr
    simp only at hn hz hne
    -- the exponent is dimensionless, so rescaling leaves it alone; the base is zero only if it was
    have hb' : b' = a' := by rw [hab', hz, factor_zero, mul_one]
    have hb0 : ¬ (b = 0 ∧ n < 0) := fun ⟨h0, hn0⟩ =>
      hne ⟨(mul_eq_zero.mp (hab ▸ h0)).resolve_right (factor_ne_zero h da), hn0⟩
    refine ⟨powInt b n, by simp [numAlg, hb', hn, hb0], ?_⟩
    simp only [ScaledBy, hab, powInt_eq, factor_smul, mul_zpow]
  num := fun m e => Lift.fwd.pure (by simp [ScaledBy, factor_zero])

omit [DecidableEq K] in
theorem env_track_rel (tab : List UnitEntry) (sc : Scales K) (n : List Char) :
    Lift.fwd.rel (ScaledBy sc) (envTracked tab n) (envOf tab sc n) :=
  Lift.fwd.map_same _ fun _ => rfl

def DimSound (dv : DimVal) (vd : K × D5) : Prop :=
  dv.dim = vd.2 ∧ ∀ n, dv.ival = some n → vd.1 = (n : K)

omit [DecidableEq K] in
theorem litInt_sound [CharZero K] (m e n : Int) (h : litInt? m e = some n) : (litVal m e : K) = (n : K) := by
  unfold litInt? at h
  simp only [litVal, powInt_eq]
  split at h
  · rename_i he
    obtain ⟨k, rfl⟩ := Int.eq_ofNat_of_zero_le he
    simp only [Option.some.injEq, Int.toNat_natCast] at h
    subst h
    rw [zpow_natCast]
    push_cast
    rfl
  · rename_i he
    have hk : ∃ k : Nat, e = -(k : Int) := ⟨(-e).toNat, by omega⟩
    obtain ⟨k, rfl⟩ := hk
    simp only [neg_neg, Int.toNat_natCast] at h
    split at h
    · rename_i hm
      simp only [Option.some.injEq] at h
      obtain ⟨q, hq⟩ := Int.dvd_of_emod_eq_zero hm
      have h10 : ((10 : Int) ^ k) ≠ 0 := by positivity
      have : n = q := by rw [← h, hq, Int.mul_ediv_cancel_left _ h10]
      subst this
      rw [hq, zpow_neg, zpow_natCast]
      push_cast
      have : ((10 : K) ^ k) ≠ 0 := pow_ne_zero _ (by norm_num)
      field_simp
    · cases h

theorem dim_track_rel [CharZero K] (toInt? : K → Option Int) (hI : ∀ x n, toInt? x = some n → x = (n : K)) :
    AlgRel Lift.both (DimSound (K := K)) dimAlg (trackAlg toInt?) where
  mul := by
    rintro a a' ⟨b, db⟩ ⟨b', db'⟩ ⟨h1, h2⟩ ⟨h1', h2'⟩
    refine Lift.both.pure ⟨by simp only at h1 h1'; simp [h1, h1'], fun n hn => ?_⟩
    obtain ⟨x, y, hx, hy, hxy⟩ := bind2_eq_some hn
    cases hxy
    simp only at h2 h2' ⊢
    rw [h2 x hx, h2' y hy]; push_cast; rfl
  div := by
    rintro a a' ⟨b, db⟩ ⟨b', db'⟩ ⟨h1, h2⟩ ⟨h1', h2'⟩ r r' hr hr'
    obtain ⟨-, rfl⟩ := trackAlg_div_some hr'
    simp only [dimAlg, Option.some.injEq] at hr
    subst hr
    exact ⟨by simp only at h1 h1'; simp [h1, h1'], by intro n hn; simp at hn⟩
  pow := by
    rintro a a' ⟨b, db⟩ ⟨b', db'⟩ ⟨h1, h2⟩ ⟨h1', h2'⟩ r r' hr hr'
    obtain ⟨n', hn', -, -, rfl⟩ := trackAlg_pow_some hr'
    simp only [dimAlg] at hr
    cases hx : a'.ival with
    | none => simp [hx] at hr
    | some n =>
      simp only [hx] at hr
      split at hr
      · cases hr
        -- both analyses read the same integer off the exponent
        have : n = n' := Int.cast_injective (α := K) ((h2' n hx).symm.trans (hI b' n' hn'))
        subst this
        exact ⟨by simp only at h1; simp [h1], by intro k hk; simp at hk⟩
      · cases hr
  num := fun m e => Lift.both.pure ⟨rfl, fun n hn => litInt_sound m e n hn⟩

omit [DecidableEq K] in
theorem env_dim_rel (tab : List UnitEntry) (n : List Char) :
    Lift.both.rel (DimSound (K := K)) (envDim tab n) (envTracked tab n) :=
  Lift.both.map_same _ fun _ => ⟨rfl, nofun⟩

end integer

section rational
variable {F : Type} [Field F] [LinearOrder F] [IsStrictOrderedRing F]
variable {rpow : F → Rat → F}

def ScaledByR (rpow : F → Rat → F) (sc : Scales F) (vd : F × Q5) (w : F) : Prop := w = vd.1 * factorR rpow sc vd.2

theorem powR_scale (L : RpowLaws rpow) {sc : Scales F} (h : sc.Pos) (v : F) (d : Q5) (q : Rat) (r : F)
    (hr : powR rpow v q = some r) :
    powR rpow (v * factorR rpow sc d) q = some (r * factorR rpow sc (Q5.smul q d)) := by
  have hf := factorR_pos L h d
  have hf0 : factorR rpow sc d ≠ 0 := ne_of_gt hf
  unfold powR at hr ⊢
  by_cases hden : q.den = 1
  · simp only [hden, if_true] at hr ⊢
    split at hr
    · cases hr
    · rename_i hne
      simp only [Option.some.injEq] at hr
      subst hr
      have : ¬ (v * factorR rpow sc d = 0 ∧ q.num < 0) := by
        rintro ⟨h0, hn⟩
        exact hne ⟨(mul_eq_zero.mp h0).resolve_right hf0, hn⟩
      rw [if_neg this]
      congr 1
      rw [powInt_eq, powInt_eq, mul_zpow, factorR_zpow L h]
      congr 2
      rw [(Rat.den_eq_one_iff q).mp hden]
  · simp only [hden, if_false] at hr ⊢
    by_cases hv : 0 < v
    · simp only [hv, if_true, Option.some.injEq] at hr
      subst hr
      rw [if_pos (mul_pos hv hf), L.mul _ _ hv hf, factorR_rpow L h]
    · simp only [hv, if_false] at hr
      split at hr
      · rename_i hz
        simp only [Option.some.injEq] at hr
        subst hr
        have hvf : v * factorR rpow sc d = 0 := by rw [hz.1, zero_mul]
        rw [hvf, if_neg (lt_irrefl 0), if_pos ⟨rfl, hz.2⟩, zero_mul]
      · cases hr

omit [IsStrictOrderedRing F] in
theorem trackAlgR_div_some {toRat? : F → Option Rat} {a b r : F × Q5} (h : (trackAlgR toRat? rpow).div a b = some r) :
    b.1 ≠ 0 ∧ r = (a.1 / b.1, Q5.sub a.2 b.2) := by
  simp only [trackAlgR] at h
  split at h
  · cases h
  · exact ⟨‹_›, (Option.some.inj h).symm⟩

omit [IsStrictOrderedRing F] in
theorem trackAlgR_pow_some {toRat? : F → Option Rat} {a b r : F × Q5} (h : (trackAlgR toRat? rpow).pow a b = some r) :
    ∃ q v, toRat? b.1 = some q ∧ b.2 = Q5.zero ∧ powR rpow a.1 q = some v ∧ r = (v, Q5.smul q a.2) := by
  simp only [trackAlgR] at h
  split at h
  · rename_i q hq
    split at h
    · obtain ⟨v, hv, rfl⟩ := Option.map_eq_some_iff.mp h
      exact ⟨q, v, hq, ‹_›, hv, rfl⟩
    · cases h
  · cases h

theorem track_num_rel_r (toRat? : F → Option Rat) (L : RpowLaws rpow) {sc : Scales F} (h : sc.Pos) :
    AlgRel Lift.fwd (ScaledByR rpow sc) (trackAlgR toRat? rpow) (numAlgR toRat? rpow) where
  mul := by
    rintro ⟨a, da⟩ ⟨a', da'⟩ b b' hab hab'
    simp only [ScaledByR] at hab hab'
    exact Lift.fwd.pure (by simp only [ScaledByR, hab, hab', factorR_add L h]; ring)
  div := by
    rintro ⟨a, da⟩ ⟨a', da'⟩ b b' hab hab' r hr
    simp only [ScaledByR] at hab hab'
    obtain ⟨hne, rfl⟩ := trackAlgR_div_some hr
    have hb' : b' ≠ 0 := by rw [hab']; exact mul_ne_zero hne (factorR_pos L h da').ne'
    refine ⟨b / b', by simp [numAlgR, hb'], ?_⟩
    simp only [ScaledByR, hab, hab', factorR_sub L h, mul_div_mul_comm]
  pow := by
    rintro ⟨a, da⟩ ⟨a', da'⟩ b b' hab hab' r hr
    simp only [ScaledByR] at hab hab'
    obtain ⟨q, v, hn, hz, hp, rfl⟩ := trackAlgR_pow_some hr
    simp only at hn hz hp
    have hb' : b' = a' := by rw [hab', hz, factorR_zero L h, mul_one]
    refine ⟨v * factorR rpow sc (Q5.smul q da), ?_, rfl⟩
    simp only [numAlgR, hb', hn, hab]
    exact powR_scale L h a da q v hp
  num := fun m e => Lift.fwd.pure (by simp [ScaledByR, factorR_zero L h])

theorem env_track_rel_r (L : RpowLaws rpow) (tab : List UnitEntry) {sc : Scales F} (h : sc.Pos) (n : List Char) :
    Lift.fwd.rel (ScaledByR rpow sc) (envTrackedQ tab n) (envOf tab sc n) :=
  Lift.fwd.map_same _ fun e => by simp only [ScaledByR, factorR_toQ L h]

omit [IsStrictOrderedRing F] in
theorem powR_intCast (a : F) (n : Int) :
    powR rpow a (n : Rat) = (if a = 0 ∧ n < 0 then none else some (powInt a n)) := by
  unfold powR
  rw [if_pos (Rat.den_intCast n)]
  by_cases h : a = 0 ∧ n < 0
  · rw [if_pos h, if_pos (by simpa using h)]
  · rw [if_neg h, if_neg (by simpa using h), Rat.num_intCast]

omit [IsStrictOrderedRing F] in
theorem numAlgR_extends (toInt? : F → Option Int) (toRat? : F → Option Rat)
    (hc : ∀ x n, toInt? x = some n → toRat? x = some (n : Rat)) :
    AlgRel Lift.fwd (fun a b : F => a = b) (numAlg toInt?) (numAlgR toRat? rpow) where
  -- products, quotients and literals are the same terms in both algebras
  mul := by rintro a a' _ _ rfl rfl r hr; exact ⟨r, hr, rfl⟩
  div := by rintro a a' _ _ rfl rfl r hr; exact ⟨r, hr, rfl⟩
  pow := by
    rintro a a' _ _ rfl rfl r hr
    simp only [numAlg] at hr
    cases hn : toInt? a' with
    | none => simp [hn] at hr
    | some n =>
      simp only [hn] at hr
      refine ⟨r, ?_, rfl⟩
      simp only [numAlgR, hc _ _ hn, powR_intCast]
      exact hr
  num := fun m e r hr => ⟨r, hr, rfl⟩

def QDimSound (dv : QDimVal) (vd : F × Q5) : Prop :=
  dv.dim = vd.2 ∧ ∀ q, dv.qval = some q → vd.1 = (q : F)

theorem litVal_cast (m e : Int) : ((litVal m e : Rat) : F) = litVal m e := by
  simp only [litVal, powInt_eq]
  push_cast
  rfl

theorem qdim_track_rel (toRat? : F → Option Rat) (hR : ∀ x q, toRat? x = some q → x = (q : F)) :
    AlgRel Lift.both (QDimSound (F := F)) qdimAlg (trackAlgR toRat? rpow) where
  mul := by
    rintro a a' ⟨b, db⟩ ⟨b', db'⟩ ⟨h1, h2⟩ ⟨h1', h2'⟩
    refine Lift.both.pure ⟨by simp only at h1 h1'; simp [h1, h1'], fun n hn => ?_⟩
    obtain ⟨x, y, hx, hy, hxy⟩ := bind2_eq_some hn
    cases hxy
    simp only at h2 h2' ⊢
    rw [h2 x hx, h2' y hy]; push_cast; rfl
  div := by
    rintro a a' ⟨b, db⟩ ⟨b', db'⟩ ⟨h1, h2⟩ ⟨h1', h2'⟩ r r' hr hr'
    obtain ⟨-, rfl⟩ := trackAlgR_div_some hr'
    simp only [qdimAlg, Option.some.injEq] at hr
    subst hr
    refine ⟨by simp only at h1 h1'; simp [h1, h1'], fun n hn => ?_⟩
    obtain ⟨x, y, hx, hy, hxy⟩ := bind2_eq_some hn
    split at hxy
    · cases hxy
    · cases hxy
      simp only at h2 h2' ⊢
      rw [h2 x hx, h2' y hy]; push_cast; rfl
  pow := by
    rintro a a' ⟨b, db⟩ ⟨b', db'⟩ ⟨h1, h2⟩ ⟨h1', h2'⟩ r r' hr hr'
    obtain ⟨q', v, hn', -, hp, rfl⟩ := trackAlgR_pow_some hr'
    simp only at hn' hp
    simp only [qdimAlg] at hr
    cases hx : a'.qval with
    | none => simp [hx] at hr
    | some q =>
      simp only [hx] at hr
      split at hr
      · cases hr
        -- both analyses read the same rational off the exponent
        have : q = q' := Rat.cast_injective (α := F) ((h2' q hx).symm.trans (hR b' q' hn'))
        subst this
        refine ⟨by simp only at h1; simp [h1], fun k hk => ?_⟩
        simp only at hk
        split at hk
        · rename_i hden
          obtain ⟨x, hxa, hk⟩ := Option.bind_eq_some_iff.mp hk
          split at hk
          · cases hk
          · cases hk
            -- a known rational to an integer power: `powR` takes its integer branch as well
            simp only [powR, hden, if_true] at hp
            split at hp
            · cases hp
            · cases hp
              have hb : b = (x : F) := h2 x hxa
              simp only [hb, powInt_eq]; push_cast; rfl
        · cases hk
      · cases hr
  num := fun m e => Lift.both.pure ⟨rfl, fun n hn => by cases hn; exact (litVal_cast m e).symm⟩

omit [LinearOrder F] [IsStrictOrderedRing F] in
theorem env_qdim_rel (tab : List UnitEntry) (n : List Char) :
    Lift.both.rel (QDimSound (F := F)) (envQDim tab n) (envTrackedQ tab n) :=
  Lift.both.map_same _ fun _ => ⟨rfl, nofun⟩

omit [IsStrictOrderedRing F] in
theorem trackAlgR_extends (toInt? : F → Option Int) (toRat? : F → Option Rat)
    (hc : ∀ x n, toInt? x = some n → toRat? x = some (n : Rat)) :
    AlgRel Lift.fwd (fun (a : F × D5) (b : F × Q5) => b = (a.1, a.2.toQ)) (trackAlg toInt?) (trackAlgR toRat? rpow) where
  mul := by
    rintro ⟨a, da⟩ ⟨a', da'⟩ _ _ rfl rfl
    exact Lift.fwd.pure (by simp [Q5.add, D5.add, D5.toQ])
  div := by
    rintro ⟨a, da⟩ ⟨a', da'⟩ _ _ rfl rfl r hr
    obtain ⟨hne, rfl⟩ := trackAlg_div_some hr
    refine ⟨(a / a', Q5.sub da.toQ da'.toQ), by simp only [trackAlgR, hne, if_false], ?_⟩
    simp [Q5.sub, D5.sub, D5.toQ]
  pow := by
    rintro ⟨a, da⟩ ⟨a', da'⟩ _ _ rfl rfl r hr
    obtain ⟨n, hn, hz, hne, rfl⟩ := trackAlg_pow_some hr
    simp only at hn hz hne
    have hz' : da'.toQ = Q5.zero := by rw [hz]; simp [D5.toQ, D5.zero, Q5.zero]
    refine ⟨_, ?_, rfl⟩
    simp only [trackAlgR, hc _ _ hn, hz', if_true, powR_intCast, if_neg hne, Option.map_some]
    simp [Q5.smul, D5.smul, D5.toQ]
  num := fun m e => Lift.fwd.pure (by simp [D5.toQ, D5.zero, Q5.zero])

end rational

end Atomman.C09
