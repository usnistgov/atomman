/-
  C11 — `axes_check` / `transform` for axis vectors of ANY length: the axes are directions.  `transform` rotates with
  the NORMALISED rows, whatever lengths are handed in, refuses left-handed triples at every `tol < 1/2`, and is unchanged
  when the rows are rescaled.
-/
import Proofs.C11_Setters
import Proofs.C11_Source
import Mathlib.Tactic.Positivity

namespace Atomman.C11
open Atomman.Gen

variable {K : Type} [Field K] [LinearOrder K] [IsStrictOrderedRing K]

/-- `axes_check` sees its argument only through the rows divided by their lengths. -/
theorem axesCheckT_congr (tol : K) (axes axes' : M33 K) (norms norms' : Fin 3 → K)
    (h : ∀ i j, axes i j / norms i = axes' i j / norms' i) :
    axesCheckT tol axes norms = axesCheckT tol axes' norms' := by
  rw [gen_axesCheck_eq_model, gen_axesCheck_eq_model]
  simp only [axesCheckRef, h]

/-- **axes are directions**: multiplying each axis vector by its own non-zero factor (its length is multiplied by the
    same factor) changes nothing in what `axes_check` returns or refuses. -/
theorem axesCheck_scale_invariant (tol : K) (axes : M33 K) (norms a : Fin 3 → K) (ha : ∀ i, a i ≠ 0) :
    axesCheckT tol (fun i j => a i * axes i j) (fun i => a i * norms i) = axesCheckT tol axes norms :=
  axesCheckT_congr tol _ _ _ _ fun i _ => mul_div_mul_left _ _ (ha i)

/-- `transform` does not depend on the lengths of the axis vectors. -/
theorem transform_axes_scale_invariant (tol : K) (axes : M33 K) (norms a : Fin 3 → K) (ha : ∀ i, a i ≠ 0) (c : M6 K) :
    transform tol (fun i j => a i * axes i j) (fun i => a i * norms i) c = transform tol axes norms c := by
  simp only [transform, axesCheck, axesCheck_scale_invariant axesCheckTol axes norms a ha]

theorem axesCheckT_of_orthonormal (tol : K) (tol0 : 0 ≤ tol) (axes : M33 K) (norms : Fin 3 → K) (hn : ∀ i, norms i = 1)
    (ho : Orthogonal axes)
    (hr : axes 0 1 * axes 1 2 - axes 0 2 * axes 1 1 = axes 2 0 ∧ axes 0 2 * axes 1 0 - axes 0 0 * axes 1 2 = axes 2 1 ∧
      axes 0 0 * axes 1 1 - axes 0 1 * axes 1 0 = axes 2 2) :
    axesCheckT tol axes norms = .ok axes := by
  have hu : (fun i j => axes i j / norms i) = axes := by funext i j; rw [hn i, div_one]
  have horth := (orthogonal_iff axes).mp ho
  rw [gen_axesCheck_eq_model]
  simp only [axesCheckRef, hn, div_one]
  rw [if_neg, if_neg]
  · rw [not_not, List.all_eq_true]
    intro j _
    have : (if j.val = 0 then axes 0 1 * axes 1 2 - axes 0 2 * axes 1 1
        else if j.val = 1 then axes 0 2 * axes 1 0 - axes 0 0 * axes 1 2
        else axes 0 0 * axes 1 1 - axes 0 1 * axes 1 0) = axes 2 j := by
      fin_cases j <;> simp [hr.1, hr.2.1, hr.2.2]
    rw [this]; exact isclose_self _ _ _ npRtol_nonneg tol0
  · rw [not_not, List.all_eq_true]
    intro p _
    rw [horth p.1 p.2]
    simp only [Nat.cast_one, Nat.cast_zero]
    exact isclose_self _ _ _ npRtol_nonneg tol0

def unitRows (axes : M33 K) (norms : Fin 3 → K) : M33 K := fun i j => axes i j / norms i

section normalised
variable (axes : M33 K) (norms : Fin 3 → K)
  (hn : ∀ i, 0 < norms i)
  (hsq : ∀ i, norms i * norms i = sum3 fun k => axes i k * axes i k)
  (ho : ∀ i j, i ≠ j → (sum3 fun k => axes i k * axes j k) = 0)
  (hr : (axes 0 1 * axes 1 2 - axes 0 2 * axes 1 1) * norms 2 = axes 2 0 * (norms 0 * norms 1) ∧
        (axes 0 2 * axes 1 0 - axes 0 0 * axes 1 2) * norms 2 = axes 2 1 * (norms 0 * norms 1) ∧
        (axes 0 0 * axes 1 1 - axes 0 1 * axes 1 0) * norms 2 = axes 2 2 * (norms 0 * norms 1))
include hn hsq ho

theorem unitRows_orthogonal : Orthogonal (unitRows axes norms) := by
  rw [orthogonal_iff]
  intro i j
  have hi := ne_of_gt (hn i); have hj := ne_of_gt (hn j)
  simp only [unitRows]
  by_cases h : i = j
  · subst h
    have := hsq i
    simp only [sum3] at this ⊢
    simp only [if_true]
    field_simp
    linarith
  · have := ho i j h
    simp only [sum3] at this ⊢
    simp only [if_neg h]
    field_simp
    linarith

include hr

/-- orthogonal right-handed axis vectors of any lengths pass `axes_check` at every `tol ≥ 0`, and what it returns are
    their unit vectors. -/
theorem axesCheck_normalises (tol : K) (ht : 0 ≤ tol) :
    axesCheckT tol axes norms = .ok (unitRows axes norms) := by
  have h0 := ne_of_gt (hn 0); have h1 := ne_of_gt (hn 1); have h2 := ne_of_gt (hn 2)
  obtain ⟨r0, r1, r2⟩ := hr
  rw [axesCheckT_congr tol axes (unitRows axes norms) norms (fun _ => 1) fun i j => by rw [div_one]; rfl]
  refine axesCheckT_of_orthonormal tol ht _ _ (fun _ => rfl) (unitRows_orthogonal axes norms hn hsq ho) ⟨?_, ?_, ?_⟩ <;>
    (simp only [unitRows]; field_simp; linarith)

/-- **rotation = tensor rotation by the normalised axes**: for orthogonal right-handed axis vectors of any lengths
    `transform` is the tensor rotation `rot` by their unit vectors (an orthogonal matrix: all the group-action, energy
    and moduli theorems apply to it), the relative clean-up and the `Cijkl` setter. -/
theorem transform_rotates_by_unit_axes (tol : K) (c : M6 K) :
    Orthogonal (unitRows axes norms) ∧
    transform tol axes norms c
      = setCijkl (cleanT4 tol (max4 (rot (unitRows axes norms) (cijklGet c))) (rot (unitRows axes norms) (cijklGet c))) :=
  ⟨unitRows_orthogonal axes norms hn hsq ho,
   transform_spec tol axes norms c _ (axesCheck_normalises axes norms hn hsq ho hr axesCheckTol
     (by unfold axesCheckTol; positivity))⟩

end normalised

/-- exactly orthonormal right-handed axes pass `axes_check` unchanged, and `transform` is then the tensor rotation
    `rot`, the relative clean-up and the `Cijkl` setter. -/
theorem transform_is_rot (tol : K) (axes : M33 K) (norms : Fin 3 → K) (c : M6 K) (hn : ∀ i, norms i = 1)
    (ho : Orthogonal axes)
    (hr : axes 0 1 * axes 1 2 - axes 0 2 * axes 1 1 = axes 2 0 ∧ axes 0 2 * axes 1 0 - axes 0 0 * axes 1 2 = axes 2 1 ∧
      axes 0 0 * axes 1 1 - axes 0 1 * axes 1 0 = axes 2 2) :
    transform tol axes norms c
      = setCijkl (cleanT4 tol (max4 (rot axes (cijklGet c))) (rot axes (cijklGet c))) :=
  transform_spec tol axes norms c axes
    (axesCheckT_of_orthonormal _ (by unfold axesCheckTol; positivity) axes norms hn ho hr)

/-- non-vacuity of the section hypotheses: the integer directions `[2,1,2], [-2,2,1], [-1,-2,2]` (rows of length 3); of the
    three handedness equations of `hr` the first is shown. -/
example : let axes : M33 ℚ := m33 [2, 1, 2, -2, 2, 1, -1, -2, 2]
    (∀ i, (0 : ℚ) < (fun _ => 3 : Fin 3 → ℚ) i) ∧ (∀ i : Fin 3, (3 : ℚ) * 3 = sum3 fun k => axes i k * axes i k) ∧
    (∀ i j : Fin 3, i ≠ j → (sum3 fun k => axes i k * axes j k) = 0) ∧
    (axes 0 1 * axes 1 2 - axes 0 2 * axes 1 1) * 3 = axes 2 0 * (3 * 3) := by
  refine ⟨fun _ => by norm_num, by decide +kernel, by decide +kernel, by decide +kernel⟩

theorem isclose_neg_false (tol x : K) (ht : tol < 1 / 2) (hx : 1 / 2 ≤ |x|) : isclose npRtol tol (-x) x = false := by
  simp only [isclose, decide_eq_false_iff_not, absK_eq_abs, not_le]
  have h1 : |(-x) - x| = 2 * |x| := by
    rw [show -x - x = -(2 * x) by ring, abs_neg, abs_mul]; norm_num
  rw [h1]
  have := npRtol_le_one (K := K)
  have h0 := abs_nonneg x
  nlinarith

/-- **left-handed axes are refused**: an orthonormal triple whose third vector is MINUS the cross product of the
    first two is refused by `axes_check` with `ValueError` at every `tol < 1/2` (whatever the lengths of the vectors
    handed in: `axesCheckT_congr`). -/
theorem axesCheck_refuses_left_handed (tol : K) (ht : tol < 1 / 2) (u : M33 K) (hO : Orthogonal u)
    (hl : u 0 1 * u 1 2 - u 0 2 * u 1 1 = -u 2 0 ∧ u 0 2 * u 1 0 - u 0 0 * u 1 2 = -u 2 1 ∧
      u 0 0 * u 1 1 - u 0 1 * u 1 0 = -u 2 2) :
    axesCheckT tol u (fun _ => 1) = .error "value" := by
  rw [gen_axesCheck_eq_model]
  simp only [axesCheckRef, div_one]
  split
  · rfl
  · rw [if_pos]
    rw [List.all_eq_true]
    push Not
    have h22 : u 2 0 * u 2 0 + u 2 1 * u 2 1 + u 2 2 * u 2 2 = 1 := (orthogonal_iff u).mp hO 2 2
    have hex : ∃ j : Fin 3, 1 / 2 ≤ |u 2 j| := by
      by_contra hc
      push Not at hc
      have sq : ∀ j, u 2 j * u 2 j < 1 / 2 * (1 / 2) := fun j => by
        rw [← abs_mul_abs_self]; exact mul_self_lt_mul_self (abs_nonneg _) (hc j)
      linarith [sq 0, sq 1, sq 2]
    obtain ⟨j, hj⟩ := hex
    refine ⟨j, List.mem_finRange j, ?_⟩
    have : (if j.val = 0 then u 0 1 * u 1 2 - u 0 2 * u 1 1
        else if j.val = 1 then u 0 2 * u 1 0 - u 0 0 * u 1 2
        else u 0 0 * u 1 1 - u 0 1 * u 1 0) = -u 2 j := by
      fin_cases j <;> simp [hl.1, hl.2.1, hl.2.2]
    rw [this, isclose_neg_false tol _ ht hj]
    simp

/-- non-vacuity of `axesCheck_refuses_left_handed`: the identity with its third vector reversed; of the three equations of
    `hl` the third is shown. -/
example : let u : M33 ℚ := m33 [1, 0, 0, 0, 1, 0, 0, 0, -1]
    Orthogonal u ∧ u 0 0 * u 1 1 - u 0 1 * u 1 0 = -u 2 2 := by
  refine ⟨(orthogonal_iff _).mpr (by decide +kernel), by decide +kernel⟩

end Atomman.C11
