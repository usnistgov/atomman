/-
  C03 — capacity rows `[count, a_1, …, a_count, spare cells…]`, the layout of both `neighbors[i, :]` and
  `xyzbins[x, y, z, :]`: `Holds w r l` says that the row `r` of width `w` holds the list `l`.  With the row written
  `l.length :: l ++ t` the loops of the source that write into it are list equations: appending an entry (bin table),
  shifting up from the insertion column and writing there (sorted insertion), growing the row behind its cells.
-/
import Atomman.C03
import Mathlib.Data.List.Induction


namespace Atomman.C03
open List

/-- the capacity row `r` of width `w` holds the list `l`: `[l.length, l…, spare cells…]`. -/
def Holds (w : Nat) (r l : List Nat) : Prop := r.length = w ∧ ∃ t, r = l.length :: (l ++ t)

/-- what `NeighborList[i]` / `coord[i]` (and the sweep, from a bin) read off such a row. -/
theorem Holds.read {w : Nat} {r l : List Nat} (h : Holds w r l) : absRow r = l ∧ coordOf r = l.length := by
  obtain ⟨_, t, rfl⟩ := h
  exact ⟨List.take_left' rfl, rfl⟩

theorem Holds.lt {w : Nat} {r l : List Nat} (h : Holds w r l) : l.length < w := by
  obtain ⟨rfl, t, rfl⟩ := h
  simp; omega

theorem Holds.of_take {w w' : Nat} {r r' l : List Nat} (h : Holds w r l) (hw : r'.length = w')
    (ht : r'.take (l.length + 1) = r.take (l.length + 1)) : Holds w' r' l := by
  obtain ⟨_, t, rfl⟩ := h
  refine ⟨hw, r'.drop (l.length + 1), ?_⟩
  rw [← List.take_append_drop (l.length + 1) r', ht]
  simp

theorem Holds.append {w : Nat} {r l : List Nat} (h : Holds w r l) (e : List Nat) :
    Holds (w + e.length) (r ++ e) l :=
  h.of_take (by rw [List.length_append, h.1]) (List.take_append_of_le_length (by have := h.lt; have := h.1; omega))

/-- the two writes `row[0] = c; row[c] = a` of the bin fill append `a` to what the row holds. -/
theorem Holds.push {w : Nat} {r l : List Nat} (h : Holds w r l) (a : Nat) (hw : l.length + 2 ≤ w) :
    Holds w ((r.set 0 (l.length + 1)).set (l.length + 1) a) (l ++ [a]) := by
  obtain ⟨rfl, t, rfl⟩ := h
  obtain ⟨y, t', rfl⟩ := List.exists_cons_of_length_pos (l := t) (by simp at hw; omega)
  refine ⟨by simp, t', ?_⟩
  simp

/-- position at which `insBefore` inserts. -/
def insPos (v : Nat) : List Nat → Nat
  | [] => 0
  | a :: l => if v < a then 0 else insPos v l + 1

theorem insBefore_split (x : Nat) (l : List Nat) :
    ∃ a b, l = a ++ b ∧ insBefore x l = a ++ x :: b ∧ insPos x l = a.length := by
  induction l with
  | nil => exact ⟨[], [], rfl, rfl, rfl⟩
  | cons c l ih =>
    unfold insBefore insPos
    split
    · exact ⟨[], c :: l, rfl, rfl, rfl⟩
    · obtain ⟨a, b, rfl, h2, h3⟩ := ih
      exact ⟨c :: a, b, rfl, by rw [h2]; rfl, by rw [h3]; rfl⟩

theorem shiftLoop_of_lt (uj j : Nat) (r : List Nat) (h : j < uj) : shiftLoop uj j r = r := by
  cases j with
  | zero => rfl
  | succ j => rw [shiftLoop, if_pos h]

theorem set_getD_append (p : List Nat) (z y : Nat) (t : List Nat) :
    (p ++ z :: y :: t).set (p.length + 1) ((p ++ z :: y :: t).getD p.length 0) = p ++ z :: z :: t := by
  induction p with
  | nil => rfl
  | cons q p ih => simp

/-- `for j in range(count, uj - 1, -1): row[j] = row[j - 1]` followed by `row[uj] = x`, on a row split at the insertion
    column `uj = a.length + 1`: the cells `b` move up by one, the last of them into the spare cell `y`, and `x` takes the
    place in front of them.  Induction on `b` from the right, as the loop runs. -/
theorem shiftLoop_set (h : Nat) (a b t : List Nat) (y x : Nat) :
    (shiftLoop (a.length + 1) (a.length + 1 + b.length) (h :: a ++ b ++ y :: t)).set (a.length + 1) x
      = h :: a ++ x :: b ++ t := by
  induction b using List.reverseRecOn generalizing y t with
  | nil =>
    rw [List.length_nil, Nat.add_zero, shiftLoop, if_neg (Nat.lt_irrefl _), shiftLoop_of_lt _ _ _ (Nat.lt_succ_self _),
      List.set_set]
    simp
  | append_singleton b z ih =>
    have e : a.length + 1 + (b ++ [z]).length = (h :: a ++ b).length + 1 := by simp; omega
    have e' : a.length + 1 + b.length = (h :: a ++ b).length := by simp; omega
    have hrow : h :: a ++ (b ++ [z]) ++ y :: t = (h :: a ++ b) ++ z :: y :: t := by simp
    rw [e, shiftLoop, if_neg (by simp; omega), hrow, set_getD_append, ← e', ih]
    simp

/-- the row that receives the new neighbour `x`: `r2` is the row after `row[0] += 1` and the possible growth to width
    `w'`; shifting from the insertion column `1 + insPos x l` and writing `x` there gives a row that holds
    `insBefore x l`. -/
theorem Holds.insert {w w' : Nat} {r r2 l : List Nat} (x : Nat) (h : Holds w r l) (h2 : r2.length = w')
    (he : ∃ e, r2 = r.set 0 (l.length + 1) ++ e) (hw : l.length + 2 ≤ w') :
    Holds w' ((shiftLoop (1 + insPos x l) (l.length + 1) r2).set (1 + insPos x l) x) (insBefore x l) := by
  obtain ⟨_, t, rfl⟩ := h
  obtain ⟨e, rfl⟩ := he
  obtain ⟨a, b, rfl, hins, hpos⟩ := insBefore_split x l
  -- the spare cell the last entry moves into
  obtain ⟨y, t', hy⟩ := List.exists_cons_of_length_pos (l := t ++ e) (by simp at h2 hw ⊢; omega)
  have hrow : ((a ++ b).length :: (a ++ b ++ t)).set 0 ((a ++ b).length + 1) ++ e
      = ((a ++ b).length + 1) :: a ++ b ++ y :: t' := by simp [← hy]
  rw [hrow] at h2 ⊢
  rw [hins, hpos, Nat.add_comm 1, show (a ++ b).length + 1 = a.length + 1 + b.length by simp; omega, shiftLoop_set]
  exact ⟨by simp at h2 ⊢; omega, t', by simp; omega⟩

end Atomman.C03
