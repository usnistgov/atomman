/-
  C03 — `mapSys g`: every vector of the system (cell, origin, positions) through `g`; `Similarity`: the maps for which distances
  scale and atoms stay inside the cell, hence the specification is kept (`spec_mapSys`); scaling here, mirrors and axis renamings
  in Proofs/C03_Mirror.lean.  Rigid translation: `dist2_translate`, `insideCell_translate`.
-/
import Proofs.C03_Geometry
import Proofs.Lists


namespace Atomman.C03
open List

def mapSys (g : V3 ℚ → V3 ℚ) (S : Sys) : Sys :=
  { S with vects := ⟨g S.vects.r0, g S.vects.r1, g S.vects.r2⟩, origin := g S.origin, pos := S.pos.map g }

theorem mapSys_natoms (g : V3 ℚ → V3 ℚ) (S : Sys) : (mapSys g S).natoms = S.natoms := by
  simp [mapSys, Sys.natoms]

theorem mapSys_posOf (g : V3 ℚ → V3 ℚ) (hg : g ⟨0, 0, 0⟩ = ⟨0, 0, 0⟩) (S : Sys) (i : Nat) :
    (mapSys g S).posOf i = g (S.posOf i) := getD_map_of_eq g S.pos i hg

/-- two systems in which atom `i` has the same atoms below the (respective) cutoff have the same specification for `i`. -/
theorem spec_congr {S T : Sys} {cS cT : ℚ} (hn : T.natoms = S.natoms) (i : Nat)
    (hd : ∀ j, j < S.natoms → (dist2 T i j < cT * cT ↔ dist2 S i j < cS * cS)) :
    nlistSpec T cT i = nlistSpec S cS i := by
  unfold nlistSpec
  rw [hn]
  refine List.filter_congr fun j hj => ?_
  simp only [hd j (mem_range.1 hj)]

/-- `g` is a similarity of Cartesian space with factor `k` on squared lengths.  `comb`: it commutes with the combinations
    `o + x a + y b + z c` (`cornerAt`) from which the model builds corners, positions from relative coordinates
    (`InsideCell`) and, with the separation as `o`, image candidates (`shiftBy`).  `g` acts on points and on vectors alike,
    so a translation is not one (`dist2_translate`, `insideCell_translate`). -/
structure Similarity (g : V3 ℚ → V3 ℚ) (k : ℚ) : Prop where
  comb : ∀ (S : Sys) (c : ℚ × ℚ × ℚ), g (cornerAt S c) = cornerAt (mapSys g S) c
  sub : ∀ a b : V3 ℚ, g (a - b) = g a - g b
  zero : g ⟨0, 0, 0⟩ = ⟨0, 0, 0⟩
  normSq : ∀ w, V3.normSq (g w) = k * V3.normSq w
  pos : 0 < k

theorem insideCell_mapSys {g : V3 ℚ → V3 ℚ} {k : ℚ} (hg : Similarity g k) (S : Sys) (p : V3 ℚ) (h : InsideCell S p) :
    InsideCell (mapSys g S) (g p) := by
  obtain ⟨r, h0, h1, h2, h3, h4, h5, rfl⟩ := h
  exact ⟨r, h0, h1, h2, h3, h4, h5, hg.comb S (r.x, r.y, r.z)⟩

/-- every candidate separation goes through `g`, so the periodic distances pick up the factor `k`. -/
theorem dist2_mapSys {g : V3 ℚ → V3 ℚ} {k : ℚ} (hg : Similarity g k) (S : Sys) (u v : Nat) :
    dist2 (mapSys g S) u v = k * dist2 S u v := by
  unfold dist2
  rw [mapSys_posOf g hg.zero, mapSys_posOf g hg.zero]
  have hc : ∀ s, cand2 (mapSys g S).vects (g (S.posOf u)) (g (S.posOf v)) s = k * cand2 S.vects (S.posOf u) (S.posOf v) s :=
    fun s => by
      unfold cand2
      rw [← hg.normSq, ← hg.sub]
      -- a candidate is `cornerAt` of the system whose origin is the separation
      exact congrArg V3.normSq
        (hg.comb ⟨S.vects, S.posOf v - S.posOf u, S.px, S.py, S.pz, []⟩ ((s.1 : ℚ), (s.2.1 : ℚ), (s.2.2 : ℚ))).symm
  exact dmag2_transfer k hg.pos id id (fun s hs => ⟨hs, hc s⟩) (fun s hs => ⟨hs, (hc s).symm⟩)

/-- the specification is that of the system seen through a similarity, with the cutoff scaled accordingly. -/
theorem spec_mapSys {g : V3 ℚ → V3 ℚ} {k : ℚ} (hg : Similarity g k) (S : Sys) {cS cT : ℚ} (hc : cT * cT = k * (cS * cS))
    (i : Nat) : nlistSpec (mapSys g S) cT i = nlistSpec S cS i :=
  spec_congr (mapSys_natoms g S) i fun j _ => by rw [dist2_mapSys hg, hc, mul_lt_mul_iff_right₀ hg.pos]

def smulV (s : ℚ) (p : V3 ℚ) : V3 ℚ := ⟨s * p.x, s * p.y, s * p.z⟩

/-- the cutoff is scaled by the caller. -/
def scaleSys (s : ℚ) (S : Sys) : Sys :=
  { S with vects := ⟨smulV s S.vects.r0, smulV s S.vects.r1, smulV s S.vects.r2⟩,
           origin := smulV s S.origin, pos := S.pos.map (smulV s) }

def translateSys (t : V3 ℚ) (S : Sys) : Sys :=
  { S with origin := S.origin + t, pos := S.pos.map (· + t) }

theorem scaleSys_eq (s : ℚ) (S : Sys) : scaleSys s S = mapSys (smulV s) S := rfl

theorem translateSys_natoms (t : V3 ℚ) (S : Sys) : (translateSys t S).natoms = S.natoms := by
  simp [translateSys, Sys.natoms]

theorem translateSys_posOf (t : V3 ℚ) (S : Sys) (i : Nat) (hi : i < S.natoms) :
    (translateSys t S).posOf i = S.posOf i + t := by
  unfold translateSys Sys.posOf
  have hi' : i < S.pos.length := hi
  simp only [List.getD_eq_getElem?_getD, List.getElem?_map, List.getElem?_eq_getElem hi']
  simp

theorem similarity_smulV (s : ℚ) (hs : s ≠ 0) : Similarity (smulV s) (s * s) where
  comb _ _ := by simp only [cornerAt, mapSys, smulV, V3.mk.injEq]; exact ⟨by ring, by ring, by ring⟩
  sub a b := (V3.smul_sub s a b).symm
  zero := by simp [smulV]
  normSq := V3.normSq_smul s
  pos := mul_self_pos.2 hs

theorem dist2_translate (t : V3 ℚ) (S : Sys) (u v : Nat) (hu : u < S.natoms) (hv : v < S.natoms) :
    dist2 (translateSys t S) u v = dist2 S u v := by
  unfold dist2
  rw [translateSys_posOf t S u hu, translateSys_posOf t S v hv]
  exact dmag2_add_right S.vects S.px S.py S.pz _ _ t

theorem insideCell_translate (t : V3 ℚ) (S : Sys) (p : V3 ℚ) (h : InsideCell S p) :
    InsideCell (translateSys t S) (p + t) := by
  obtain ⟨r, h0, h1, h2, h3, h4, h5, rfl⟩ := h
  refine ⟨r, h0, h1, h2, h3, h4, h5, ?_⟩
  ext <;> simp only [translateSys, V3.add_x, V3.add_y, V3.add_z] <;> ring

end Atomman.C03
