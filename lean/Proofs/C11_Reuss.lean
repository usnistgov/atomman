/-
  C11 — the compliance of the rotated stiffness is the rotated compliance tensor, hence the Reuss (and Hill)
  estimates are rotation invariant.  `C·S = 1` (6x6) is carried to the 9x9 picture, where the rotated pair contracts to
  the same symmetric identity because that is isotropic, and back; uniqueness of the inverse then identifies whatever
  the model's parameter `inv` returns.
-/
import Proofs.C11_Lemmas

namespace Atomman.C11
open Atomman.Gen Matrix Kronecker

variable {K : Type} [Field K] [CharZero K]

/-- the symmetric identity `½(δ_ik δ_jl + δ_il δ_jk)`. -/
def isymT : T4 K := (1 / 2 : K) • (p13 mone mone + p14 mone mone)

theorem isymT_apply (i j m n : Fin 3) :
    (isymT : T4 K) i j m n = ((if i = m ∧ j = n then 1 else 0) + (if i = n ∧ j = m then 1 else 0)) / 2 := by
  have e : ∀ (p q : Prop) [Decidable p] [Decidable q],
      (if p then (1 : K) else 0) * (if q then 1 else 0) = if p ∧ q then 1 else 0 := by
    intro p q _ _; by_cases hp : p <;> by_cases hq : q <;> simp [hp, hq]
  simp only [isymT, Pi.smul_apply, Pi.add_apply, smul_eq_mul, p13, p14, mone, e]
  ring

omit [CharZero K] in
theorem rot_isymT (T : M33 K) (h : Orthogonal T) : rot T (isymT : T4 K) = isymT := by
  simp only [isymT, rot_add, rot_smul, rot_p13, rot_p14, conj_mone T h]

omit [CharZero K] in
theorem toMat_mul (A B : T4 K) (i j m n : Fin 3) :
    (toMat A * toMat B) (i, j) (m, n) = ∑ k, ∑ l, A i j k l * B k l m n := by
  simp only [Matrix.mul_apply, Fintype.sum_prod_type, toMat]

theorem toMat_contraction (c s : M6 K) (hcs : ∀ a d : Fin 6, ∑ b, c a b * s b d = if a = d then 1 else 0) :
    toMat (cijklGet c) * toMat (sijklGet s) = toMat (isymT : T4 K) := by
  ext ⟨i, j⟩ ⟨m, n⟩
  rw [toMat_mul]
  have := contraction_of_inverse c s hcs i j m n
  simp only [sum3_eq] at this
  rw [this]
  simp only [toMat, isymT_apply]

omit [CharZero K] in
theorem rot_contraction (T : M33 K) (h : Orthogonal T) (C S : T4 K) (hCS : toMat C * toMat S = toMat (isymT : T4 K)) :
    toMat (rot T C) * toMat (rot T S) = toMat (isymT : T4 K) := by
  have e : toMat (rot T C) * toMat (rot T S) = kron T * (toMat C * toMat S) * (kron T)ᵀ := by
    rw [rot_toMat, rot_toMat]
    calc kron T * toMat C * (kron T)ᵀ * (kron T * toMat S * (kron T)ᵀ)
        = kron T * toMat C * ((kron T)ᵀ * kron T) * toMat S * (kron T)ᵀ := by simp only [Matrix.mul_assoc]
      _ = kron T * (toMat C * toMat S) * (kron T)ᵀ := by rw [h.kron_tr_mul, Matrix.mul_one]; simp only [Matrix.mul_assoc]
  rw [e, hCS, ← rot_toMat, rot_isymT T h]

omit [CharZero K] in
theorem setRaw_mul (A B : T4 K) (hA : MinorSymm A) (hB : MinorSymm B) (a d : Fin 6) :
    ∑ b, cijklSetRaw A a b * sijklSetRaw B b d
      = (mult d : K) * (toMat A * toMat B) ((pairOf a).1, (pairOf a).2) ((pairOf d).1, (pairOf d).2) := by
  rw [toMat_mul, sum_pairs_symm (fun k l => A (pairOf a).1 (pairOf a).2 k l * B k l (pairOf d).1 (pairOf d).2)
    (fun k l => by rw [(hA _ _ k l).2, (hB k l _ _).1]), Finset.mul_sum]
  refine Finset.sum_congr rfl fun b _ => ?_
  rw [cijklSetRaw_eq, sijklSetRaw_eq]
  push_cast; ring

theorem rotated_inverse (c s : M6 K) (hcs : ∀ a d : Fin 6, ∑ b, c a b * s b d = if a = d then 1 else 0)
    (T : M33 K) (h : Orthogonal T) (a d : Fin 6) :
    ∑ b, cijklSetRaw (rot T (cijklGet c)) a b * sijklSetRaw (rot T (sijklGet s)) b d = if a = d then 1 else 0 := by
  rw [setRaw_mul _ _ (rot_minor T (cijklGet_minor c)) (rot_minor T (sijklGet_minor s)),
    rot_contraction T h _ _ (toMat_contraction c s hcs)]
  simp only [toMat, isymT_apply]
  have := delta_field (K := K) (pairOf a).1 (pairOf a).2 (pairOf d).1 (pairOf d).2
  rw [voigt_pairOf, voigt_pairOf] at this
  exact this.symm

omit [CharZero K] in
theorem inverse_symm (c s : M6 K) (hc : Symm6 c)
    (hcs : ∀ a d : Fin 6, ∑ b, c a b * s b d = if a = d then 1 else 0) : Symm6 s := by
  have h1 := (mul_eq_one_iff_matrix c s).mp hcs
  have hct : (Matrix.of c)ᵀ = Matrix.of c := Matrix.ext fun a d => hc d a
  have h3 : (Matrix.of s)ᵀ * Matrix.of c = 1 := by rw [← hct, ← Matrix.transpose_mul, h1, Matrix.transpose_one]
  intro a b
  exact Matrix.ext_iff.mpr (left_inv_eq_right_inv h3 h1) b a

omit [CharZero K] in
theorem bulkReuss_eq_tr (S : T4 K) (hM : MajorSymm S) : bulkReuss (sijklSetRaw S) = 1 / tr1 S := by
  obtain ⟨p0, p1, p2, p3, p4, p5⟩ := pairOf_vals
  obtain ⟨m0, m1, m2, m3, m4, m5⟩ := mult_vals
  simp only [bulkReuss, sijklSetRaw_eq, tr1, sum3, p0, p1, p2, m0, m1, m2, Nat.cast_ofNat, Nat.cast_one, mul_one,
    one_mul]
  rw [hM 1 1 0 0, hM 2 2 0 0, hM 2 2 1 1]
  congr 1; ring

omit [CharZero K] in
theorem shearReuss_eq_tr (S : T4 K) (hm : MinorSymm S) (hM : MajorSymm S) :
    shearReuss (sijklSetRaw S) = 15 / (6 * tr2 S - 2 * tr1 S) := by
  obtain ⟨p0, p1, p2, p3, p4, p5⟩ := pairOf_vals
  obtain ⟨m0, m1, m2, m3, m4, m5⟩ := mult_vals
  simp only [shearReuss, sijklSetRaw_eq, tr1, tr2, sum3, p0, p1, p2, p3, p4, p5, m0, m1, m2, m3, m4, m5,
    Nat.cast_ofNat, Nat.cast_one, mul_one, one_mul]
  rw [hM 1 1 0 0, hM 2 2 0 0, hM 2 2 1 1, hm.swap 0 1, hm.swap 0 2, hm.swap 1 2]
  congr 1; ring

theorem reuss_rot (c s s' : M6 K) (hc : Symm6 c)
    (hcs : ∀ a d : Fin 6, ∑ b, c a b * s b d = if a = d then 1 else 0)
    (T : M33 K) (h : Orthogonal T)
    (hs' : ∀ a d : Fin 6, ∑ b, s' a b * cijklSetRaw (rot T (cijklGet c)) b d = if a = d then 1 else 0) :
    bulkReuss s' = bulkReuss s ∧ shearReuss s' = shearReuss s := by
  have hX : s' = sijklSetRaw (rot T (sijklGet s)) := inverse_unique _ _ _ hs' (rotated_inverse c s hcs T h)
  have hSm := sijklGet_minor s
  have hSM := sijklGet_major s (inverse_symm c s hc hcs)
  have hrt := sijklSetRaw_get s
  rw [hX]
  constructor
  · rw [bulkReuss_eq_tr _ (rot_major T hSM), tr1_rot T h, ← bulkReuss_eq_tr _ hSM, hrt]
  · rw [shearReuss_eq_tr _ (rot_minor T hSm) (rot_major T hSM), tr1_rot T h, tr2_rot T h,
      ← shearReuss_eq_tr _ hSm hSM, hrt]

end Atomman.C11
