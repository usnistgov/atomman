/-
  C03 — the bin table `xyzbins` with fixed capacity (rows `[count, a_1, …]`, growth as coded) refines the bins as
  lists, for every growth block `P` that is `Sound`; the tactic `bin_sound` decides `srcBinParams.Sound s` for the block
  that stands in nlist.pyx.
-/
import Proofs.C03_Rows


namespace Atomman.C03
open List

/-- what the growth block has to guarantee (`s` = number of spare slots the trigger leaves unused: the row
    `[count, a_1, …, a_m]` may hold `count ≤ m - 1 + s` atoms):
    * without growth the new count still fits and the write `row[c]` is inside the row;
    * with growth every column that can be in use (`< m + s`) is copied, no column outside the old array is read,
      the new array is one wider than the new `maxatomsperbin`, which does not shrink and leaves room for `c`. -/
structure BinParams.Sound (P : BinParams) (s : Nat) : Prop where
  init_room : 1 ≤ P.init + s
  init_width : P.initWidth P.init = P.init + 1
  no_grow : ∀ c m, c ≤ m + s → P.trigger c m = false → c + 1 ≤ m + s ∧ c ≤ m
  on_grow : ∀ c m, c ≤ m + s → P.trigger c m = true →
    m + s ≤ P.copyCols m ∧ P.copyCols m ≤ m + 1 ∧ P.newWidth m = P.grow m + 1 ∧
      c + 1 ≤ P.grow m + s ∧ c ≤ P.grow m ∧ m ≤ P.grow m

theorem BinTab.get_cons (m w : Nat) (b0 : Idx) (r : List Nat) (t : List (Idx × List Nat)) (b : Idx) :
    (BinTab.mk m w ((b0, r) :: t)).get b = if b = b0 then r else (BinTab.mk m w t).get b := by
  unfold BinTab.get
  simp only [List.lookup_cons]
  by_cases h : b = b0
  · subst h; simp
  · have : (b == b0) = false := by simpa using h
    simp [this, h]

theorem BinTab.get_map (m w m' w' : Nat) (f : List Nat → List Nat) (t : List (Idx × List Nat))
    (hf : f (List.replicate w 0) = List.replicate w' 0) (b : Idx) :
    (BinTab.mk m' w' (t.map fun kv => (kv.1, f kv.2))).get b = f ((BinTab.mk m w t).get b) := by
  induction t with
  | nil => simp [BinTab.get, hf]
  | cons kv t ih =>
    obtain ⟨k, v⟩ := kv
    rw [List.map_cons, BinTab.get_cons, BinTab.get_cons]
    by_cases h : b = k
    · simp [h]
    · simp only [h, if_false]; exact ih

theorem growBinRow_length (P : BinParams) (m : Nat) (row : List Nat) :
    (growBinRow P m row).length = P.newWidth m := by
  simp [growBinRow]

theorem growBinRow_getElem? (P : BinParams) (m : Nat) (row : List Nat) (l : Nat) (h1 : l < P.copyCols m)
    (h2 : l < P.newWidth m) (h3 : l < row.length) : (growBinRow P m row)[l]? = row[l]? := by
  simp [growBinRow, h1, h2, List.getD_eq_getElem?_getD, List.getElem?_eq_getElem h3]

theorem growBinRow_zeros (P : BinParams) (m w : Nat) :
    growBinRow P m (List.replicate w 0) = List.replicate (P.newWidth m) 0 := by
  have hf : (fun l => if l < P.copyCols m then (List.replicate w 0).getD l 0 else 0) = fun _ => 0 := by
    funext l
    split
    · rw [List.getD_eq_getElem?_getD, List.getElem?_replicate]; split <;> rfl
    · rfl
  unfold growBinRow
  rw [hf, List.map_const', List.length_range]

theorem growBinRow_holds (P : BinParams) (m : Nat) {w : Nat} {r l : List Nat} (h : Holds w r l)
    (h1 : l.length + 1 ≤ P.copyCols m) (h2 : l.length + 1 ≤ P.newWidth m) :
    Holds (P.newWidth m) (growBinRow P m r) l := by
  have hl : l.length + 1 ≤ r.length := by have := h.lt; have := h.1; omega
  refine h.of_take (growBinRow_length P m r) (List.ext_getElem? fun i => ?_)
  rw [List.getElem?_take, List.getElem?_take]
  split
  · exact growBinRow_getElem? P m r i (by omega) (by omega) (by omega)
  · rfl

theorem members_append (es : List (Nat × Idx)) (e : Nat × Idx) (b : Idx) :
    members (es ++ [e]) b = members es b ++ (if e.2 = b then [e.1] else []) := by
  unfold members
  rw [List.filter_append, List.map_append]
  by_cases h : e.2 = b
  · simp [h]
  · have : (e.2 == b) = false := by simpa using h
    simp [this, h]

/-- the invariant of the bin fill: every row has the array width and holds the list bin, with room as granted by `s`. -/
def BinInv (s : Nat) (es : List (Nat × Idx)) (st : BinTab) : Prop :=
  st.width = st.maxapb + 1 ∧
  ∀ b, Holds st.width (st.get b) (members es b) ∧ (members es b).length + 1 ≤ st.maxapb + s

theorem binInv_init (P : BinParams) (s : Nat) (h : P.Sound s) : BinInv s [] (initBins P) := by
  refine ⟨h.init_width, fun b => ?_⟩
  have : (initBins P).get b = List.replicate (P.initWidth P.init) 0 := by simp [initBins, BinTab.get]
  rw [this, h.init_width]
  exact ⟨⟨by simp [initBins, h.init_width], List.replicate P.init 0, rfl⟩, h.init_room⟩

theorem binFill_inv (P : BinParams) (s : Nat) (h : P.Sound s) (es : List (Nat × Idx)) (st : BinTab)
    (hinv : BinInv s es st) (e : Nat × Idx) : BinInv s (es ++ [e]) (binFill P st e) := by
  obtain ⟨hw, hrows⟩ := hinv
  obtain ⟨a, b0⟩ := e
  obtain ⟨hh0, hroom0⟩ := hrows b0
  have hc0 : (st.get b0).getD 0 0 = (members es b0).length := hh0.read.2
  generalize hk : (members es b0).length = k at hc0 hroom0
  -- the table after the (possible) growth still satisfies the invariant for `es`, with room for the new count `k + 1`
  have key : ∃ st1 : BinTab, binFill P st (a, b0) =
        ⟨st1.maxapb, st1.width, (b0, ((st1.get b0).set 0 (k + 1)).set (k + 1) a) :: st1.tab⟩ ∧
      BinInv s es st1 ∧ k + 2 ≤ st1.maxapb + s ∧ k + 1 ≤ st1.maxapb := by
    by_cases ht : P.trigger (k + 1) st.maxapb = true
    · obtain ⟨g1, g2, g3, g4, g5, g6⟩ := h.on_grow (k + 1) st.maxapb (by omega) ht
      refine ⟨⟨P.grow st.maxapb, P.newWidth st.maxapb,
        st.tab.map fun kv => (kv.1, growBinRow P st.maxapb kv.2)⟩, ?_, ⟨g3, fun b => ?_⟩, by omega, g5⟩
      · simp only [binFill, hc0, ht, if_true]
      · obtain ⟨hh, hroom⟩ := hrows b
        rw [BinTab.get_map st.maxapb st.width _ _ (growBinRow P st.maxapb) st.tab (growBinRow_zeros P _ _) b]
        exact ⟨growBinRow_holds P _ hh (by omega) (by omega), by show _ ≤ P.grow st.maxapb + s; omega⟩
    · have ht' : P.trigger (k + 1) st.maxapb = false := by simpa using ht
      obtain ⟨g1, g2⟩ := h.no_grow (k + 1) st.maxapb (by omega) ht'
      exact ⟨st, by simp only [binFill, hc0, ht', Bool.false_eq_true, if_false], ⟨hw, hrows⟩, by omega, g2⟩
  obtain ⟨st1, hfill, ⟨hw1, hrows1⟩, hroom1, hroom2⟩ := key
  rw [hfill]
  refine ⟨hw1, fun b => ?_⟩
  rw [BinTab.get_cons, members_append]
  by_cases hb : b = b0
  · subst hb
    have := (hrows1 b).1.push a (by rw [hk, hw1]; omega)
    rw [hk] at this
    simp only [if_true, List.length_append, List.length_singleton, hk]
    exact ⟨this, hroom1⟩
  · have hb' : ¬ b0 = b := fun h => hb h.symm
    simp only [hb, hb', if_false, List.append_nil]
    exact hrows1 b

theorem fillBins_inv (P : BinParams) (s : Nat) (h : P.Sound s) (es : List (Nat × Idx)) :
    BinInv s es (fillBins P es) := by
  unfold fillBins
  have gen : ∀ (rest done : List (Nat × Idx)) (st : BinTab), BinInv s done st →
      BinInv s (done ++ rest) (rest.foldl (binFill P) st) := by
    intro rest
    induction rest with
    | nil => intro done st hst; simpa using hst
    | cons e rest ih =>
      intro done st hst
      rw [List.foldl_cons]
      have := ih (done ++ [e]) _ (binFill_inv P s h done st hst e)
      simpa using this
  simpa using gen es [] _ (binInv_init P s h)

/-- the sweep reads a bin as `NeighborList` reads a row. -/
theorem membersA_eq_absRow (st : BinTab) (b : Idx) : membersA st b = absRow (st.get b) := rfl

/-- for every growth block that is `Sound` (the trigger fires before a row is full beyond its
    spare slots, every column in use is copied, the new array is wide enough), the bin read by the sweep from the
    capacity table `xyzbins` — `xyzbins[b, 1 .. xyzbins[b, 0]]` after filling all real atoms and ghosts in order,
    with any number of growths — is the list of the entries that fall in `b`, in fill order. -/
theorem bins_refine (P : BinParams) (s : Nat) (h : P.Sound s) (es : List (Nat × Idx)) (b : Idx) :
    membersA (fillBins P es) b = members es b :=
  (membersA_eq_absRow _ b).trans ((fillBins_inv P s h es).2 b).1.read.1

theorem candsOfA_eq (P : BinParams) (s : Nat) (h : P.Sound s) (G : Grid) (es : List (Nat × Idx)) :
    candsOfA P G es = candsOf G es := by
  have hb : binPairsA G (fillBins P es) = binPairs G es := by
    funext b
    unfold binPairsA binPairs stencilMembersA stencilMembers
    simp only [bins_refine P s h]
  show (occupied es).flatMap (binPairsA G (fillBins P es)) = _
  rw [hb]; rfl

/-- decides `srcBinParams.Sound s` for a concrete `s` by unfolding the generated definitions. -/
macro "bin_sound" : tactic => `(tactic|
  (refine ⟨by decide, by decide, ?_, ?_⟩
   · intro c m hc ht
     simp only [srcBinParams, Gen.binTrigger, decide_eq_false_iff_not, decide_eq_true_eq, Bool.or_eq_false_iff,
       Bool.and_eq_false_iff, Bool.not_eq_false', Bool.not_eq_true'] at ht
     constructor <;> omega
   · intro c m hc ht
     simp only [srcBinParams, Gen.binTrigger, decide_eq_false_iff_not, decide_eq_true_eq, Bool.or_eq_true,
       Bool.and_eq_true, Bool.not_eq_false', Bool.not_eq_true'] at ht
     refine ⟨?_, ?_, ?_, ?_, ?_, ?_⟩ <;>
       simp only [srcBinParams, Gen.binCopyCols, Gen.binNewWidth, Gen.binGrow] <;> omega))

end Atomman.C03
