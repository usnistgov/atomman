/-
  C01_Lemmas — the core-class helpers `absK`, `maxK`, `minK` as the lattice operations, and what `maxAbs`, one entry of the setter
  clean-up (`cleanEntry`), `volume` and `gram` compute in those terms.  The algebra of `V3` / `M3` is that of `Proofs.Linear3`.
-/
import Atomman.C01
import Proofs.Linear3
import Proofs.Abs

namespace Atomman
set_option linter.unusedSectionVars false

namespace C01
variable {K : Type} [Field K] [LinearOrder K] [IsStrictOrderedRing K]

theorem absK_eq_abs (x : K) : absK x = |x| := ite_neg_eq_abs x

theorem maxK_eq_max (a b : K) : maxK a b = max a b := (max_def_lt a b).symm

-- `minK a b` tests `b < a`
theorem minK_eq_min (a b : K) : minK a b = min a b := (min_def_lt b a).symm.trans (min_comm b a)

theorem cleanEntry_eq (thr M x : K) : cleanEntry thr M x = if |x| ≤ thr * M then 0 else x := by
  simp only [cleanEntry, absK_eq_abs]

theorem cleanEntry_zero (thr M : K) : cleanEntry thr M 0 = 0 := by
  rw [cleanEntry_eq, ite_self]

theorem cleanEntry_eq_zero_or (thr M x : K) : cleanEntry thr M x = 0 ∨ cleanEntry thr M x = x := by
  rw [cleanEntry_eq]; exact ite_eq_or_eq _ _ _

theorem abs_cleanEntry_le (thr M x : K) : |cleanEntry thr M x| ≤ |x| := by
  rcases cleanEntry_eq_zero_or thr M x with h | h <;> rw [h]
  rw [abs_zero]; exact abs_nonneg x

theorem cleanEntry_cleanEntry (thr M M' x : K) (h0 : 0 ≤ thr * M') (hle : thr * M' ≤ thr * M) :
    cleanEntry thr M' (cleanEntry thr M x) = cleanEntry thr M x := by
  simp only [cleanEntry_eq]
  by_cases h : |x| ≤ thr * M
  · simp only [h, if_true, abs_zero, h0]
  · have h' : ¬ |x| ≤ thr * M' := fun hh => h (le_trans hh hle)
    simp only [h, if_false, h']

theorem cleanEntry_of_large (thr M x : K) (h : x = 0 ∨ thr * M < |x|) : cleanEntry thr M x = x := by
  rw [cleanEntry_eq]
  rcases h with rfl | h
  · exact ite_self _
  · exact if_neg (not_le.mpr h)

theorem maxAbs_eq (m : M3 K) : maxAbs m =
    max (max (max |m.r0.x| |m.r0.y|) |m.r0.z|)
      (max (max (max |m.r1.x| |m.r1.y|) |m.r1.z|) (max (max |m.r2.x| |m.r2.y|) |m.r2.z|)) := by
  simp only [maxAbs, maxK_eq_max, absK_eq_abs]

theorem maxAbs_le_iff (m : M3 K) (c : K) : maxAbs m ≤ c ↔
    |m.r0.x| ≤ c ∧ |m.r0.y| ≤ c ∧ |m.r0.z| ≤ c ∧ |m.r1.x| ≤ c ∧ |m.r1.y| ≤ c ∧ |m.r1.z| ≤ c ∧
    |m.r2.x| ≤ c ∧ |m.r2.y| ≤ c ∧ |m.r2.z| ≤ c := by
  rw [maxAbs_eq]; simp only [max_le_iff, and_assoc]

theorem maxAbs_nonneg (m : M3 K) : 0 ≤ maxAbs m :=
  le_trans (abs_nonneg m.r0.x) ((maxAbs_le_iff m _).mp le_rfl).1

theorem volume_eq_absdet (b : Box K) : volume b = |b.vects.det| := by
  simp only [volume, absK_eq_abs, M3.det]

theorem gram_def (v : M3 K) : gram v =
    ⟨⟨V3.dot v.r0 v.r0, V3.dot v.r0 v.r1, V3.dot v.r0 v.r2⟩, ⟨V3.dot v.r1 v.r0, V3.dot v.r1 v.r1, V3.dot v.r1 v.r2⟩,
     ⟨V3.dot v.r2 v.r0, V3.dot v.r2 v.r1, V3.dot v.r2 v.r2⟩⟩ := rfl

end C01
end Atomman
