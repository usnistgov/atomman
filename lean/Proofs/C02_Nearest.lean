/-
  C02 — the last clause of the property: when what the search returns is the nearest image over ALL integer shifts (short
  image, orthogonal cell, cover bound, one periodic direction), with counter-examples where not; the proven search radius;
  the same about the generated `dvectC` / `dmag2C`.
  `K` is any linearly ordered field; integer shifts are unbounded (`Int`) wherever a statement says "every image".
-/
import Proofs.C02_Search
import Proofs.C02_Source

namespace Atomman.C02
open Atomman

variable {K : Type} [Field K] [LinearOrder K] [IsStrictOrderedRing K]

/-- **proven finite search radius**: an image `d + n·vects` that is not longer than `d` itself has
    `nᵢ² ≤ 4 |d|² |recipᵢ|²` on every axis (`d` arbitrary: applied by the oracle with `d` := the
    separation the code returned, so that the box to enumerate is small). -/
theorem search_radius_sound (b : Box K) (hdet : M3.det b.vects ≠ 0) (d : V3 K) (n : Shift)
    (hle : V3.normSq (d + latticeVec b.vects n) ≤ V3.normSq d) :
    ((n.1 : K))^2 ≤ 4 * V3.normSq d * V3.normSq b.recip.r0 ∧
    ((n.2.1 : K))^2 ≤ 4 * V3.normSq d * V3.normSq b.recip.r1 ∧
    ((n.2.2 : K))^2 ≤ 4 * V3.normSq d * V3.normSq b.recip.r2 := by
  obtain ⟨h0, h1, h2⟩ := image_comp b hdet d n
  exact ⟨comp_radius _ _ _ _ h0 hle, comp_radius _ _ _ _ h1 hle, comp_radius _ _ _ _ h2 hle⟩

/-- the radius relative to any reference image `m` (the form the Python oracle uses). -/
theorem search_radius_images (b : Box K) (hdet : M3.det b.vects ≠ 0) (d : V3 K) (m n : Shift)
    (hle : V3.normSq (d + latticeVec b.vects n) ≤ V3.normSq (d + latticeVec b.vects m)) :
    (((n.1 - m.1 : Int) : K))^2 ≤ 4 * V3.normSq (d + latticeVec b.vects m) * V3.normSq b.recip.r0 ∧
    (((n.2.1 - m.2.1 : Int) : K))^2 ≤ 4 * V3.normSq (d + latticeVec b.vects m) * V3.normSq b.recip.r1 ∧
    (((n.2.2 - m.2.2 : Int) : K))^2 ≤ 4 * V3.normSq (d + latticeVec b.vects m) * V3.normSq b.recip.r2 := by
  have e : d + latticeVec b.vects n
      = (d + latticeVec b.vects m) + latticeVec b.vects (n.1 - m.1, n.2.1 - m.2.1, n.2.2 - m.2.2) := by
    rw [← shiftBy_latticeVec, ← shiftBy_latticeVec, ← shiftBy_latticeVec, shiftBy_shiftBy]
    congr 1
    ext <;> simp
  rw [e] at hle
  exact search_radius_sound b hdet _ _ hle

theorem image_admissible (b : Box K) (hdet : M3.det b.vects ≠ 0) (px py pz : Bool) (p0 p1 : V3 K)
    (h0 : InCell b p0) (h1 : InCell b p1) (n : Shift) (hn : n.respects px py pz)
    (hx : px = true → V3.normSq ((p1 - p0) + latticeVec b.vects n) * V3.normSq b.recip.r0 < 1)
    (hy : py = true → V3.normSq ((p1 - p0) + latticeVec b.vects n) * V3.normSq b.recip.r1 < 1)
    (hz : pz = true → V3.normSq ((p1 - p0) + latticeVec b.vects n) * V3.normSq b.recip.r2 < 1) : n.admissible px py pz := by
  obtain ⟨n0, n1, n2⟩ := image_comp b hdet (p1 - p0) n
  obtain ⟨d0, d1, d2⟩ := incell_delta b p0 p1 h0 h1
  exact ⟨comp_small px _ _ _ _ n0 d0 hn.1 hx, comp_small py _ _ _ _ n1 d1 hn.2.1 hy,
    comp_small pz _ _ _ _ n2 d2 hn.2.2 hz, hn⟩

/-- two images shorter than half the smallest perpendicular width (over the periodic axes) are
    the same image: the short image is unique. `w2` is any lower bound of the squared widths
    `1/|recipᵢ|²` of the periodic axes. -/
theorem short_image_unique (b : Box K) (hdet : M3.det b.vects ≠ 0) (px py pz : Bool) (d : V3 K) (w2 : K)
    (hwx : px = true → w2 * V3.normSq b.recip.r0 ≤ 1)
    (hwy : py = true → w2 * V3.normSq b.recip.r1 ≤ 1)
    (hwz : pz = true → w2 * V3.normSq b.recip.r2 ≤ 1)
    (n m : Shift) (hn : n.respects px py pz) (hm : m.respects px py pz)
    (sn : 4 * V3.normSq (d + latticeVec b.vects n) < w2)
    (sm : 4 * V3.normSq (d + latticeVec b.vects m) < w2) : n = m := by
  obtain ⟨n0, n1, n2⟩ := image_comp b hdet d n
  obtain ⟨m0, m1, m2⟩ := image_comp b hdet d m
  have hs : 2 * (V3.normSq (d + latticeVec b.vects n) + V3.normSq (d + latticeVec b.vects m)) < w2 := by linarith
  have small : ∀ ρ : V3 K, w2 * V3.normSq ρ ≤ 1 →
      2 * (V3.normSq (d + latticeVec b.vects n) + V3.normSq (d + latticeVec b.vects m)) * V3.normSq ρ < 1 :=
    fun ρ h => mul_lt_one (V3.normSq_nonneg ρ) hs h
  exact Prod.ext (comp_unique px n0 m0 hn.1 hm.1 fun h => small _ (hwx h))
    (Prod.ext (comp_unique py n1 m1 hn.2.1 hm.2.1 fun h => small _ (hwy h))
      (comp_unique pz n2 m2 hn.2.2 hm.2.2 fun h => small _ (hwz h)))

/-- a short image of the separation of two points *in the cell* is one of the 27 candidates. -/
theorem short_image_admissible (b : Box K) (hdet : M3.det b.vects ≠ 0) (px py pz : Bool) (p0 p1 : V3 K)
    (h0 : InCell b p0) (h1 : InCell b p1) (w2 : K)
    (hwx : px = true → w2 * V3.normSq b.recip.r0 ≤ 1)
    (hwy : py = true → w2 * V3.normSq b.recip.r1 ≤ 1)
    (hwz : pz = true → w2 * V3.normSq b.recip.r2 ≤ 1)
    (n : Shift) (hn : n.respects px py pz)
    (sn : 4 * V3.normSq ((p1 - p0) + latticeVec b.vects n) < w2) : n.admissible px py pz := by
  have hs : V3.normSq ((p1 - p0) + latticeVec b.vects n) < w2 := by
    linarith [V3.normSq_nonneg ((p1 - p0) + latticeVec b.vects n)]
  exact image_admissible b hdet px py pz p0 p1 h0 h1 n hn (fun h => mul_lt_one (V3.normSq_nonneg _) hs (hwx h))
    (fun h => mul_lt_one (V3.normSq_nonneg _) hs (hwy h)) (fun h => mul_lt_one (V3.normSq_nonneg _) hs (hwz h))

theorem dvect_eq_short_image (b : Box K) (hdet : M3.det b.vects ≠ 0) (px py pz : Bool) (p0 p1 : V3 K) (w2 : K)
    (hwx : px = true → w2 * V3.normSq b.recip.r0 ≤ 1)
    (hwy : py = true → w2 * V3.normSq b.recip.r1 ≤ 1)
    (hwz : pz = true → w2 * V3.normSq b.recip.r2 ≤ 1)
    (n : Shift) (hn : n.admissible px py pz)
    (sn : 4 * V3.normSq ((p1 - p0) + latticeVec b.vects n) < w2) :
    dvect b.vects px py pz p0 p1 = (p1 - p0) + latticeVec b.vects n := by
  obtain ⟨k, hk, hkeq⟩ := dvect_is_image b.vects px py pz p0 p1
  have hmin := dvect_min27 b.vects px py pz p0 p1 n hn
  rw [hkeq] at hmin ⊢
  rw [short_image_unique b hdet px py pz (p1 - p0) w2 hwx hwy hwz k n hk.respects hn.respects (by linarith) sn]

/-- **tilted cells**: `det ≠ 0`, both points in the cell.  If *some* image `d + n·vects`
    (`n : ℤ³` unbounded, vanishing on non-periodic axes) is shorter than half the smallest
    perpendicular width `w` of the periodic axes (`4|·|² < w²`, `w² ≤ 1/|recipᵢ|²`), then that
    image is one of the 27 candidates, it *is* what `dvect` returns, and it is the true nearest
    image: no image for any `m : ℤ³` is shorter. -/
theorem tilted_true_nearest (b : Box K) (hdet : M3.det b.vects ≠ 0) (px py pz : Bool) (p0 p1 : V3 K)
    (h0 : InCell b p0) (h1 : InCell b p1) (w2 : K)
    (hwx : px = true → w2 * V3.normSq b.recip.r0 ≤ 1)
    (hwy : py = true → w2 * V3.normSq b.recip.r1 ≤ 1)
    (hwz : pz = true → w2 * V3.normSq b.recip.r2 ≤ 1)
    (n : Shift) (hn : n.respects px py pz)
    (sn : 4 * V3.normSq ((p1 - p0) + latticeVec b.vects n) < w2) :
    n.admissible px py pz ∧
    dvect b.vects px py pz p0 p1 = (p1 - p0) + latticeVec b.vects n ∧
    ∀ m : Shift, m.respects px py pz →
      V3.normSq (dvect b.vects px py pz p0 p1) ≤ V3.normSq ((p1 - p0) + latticeVec b.vects m) := by
  have hadm := short_image_admissible b hdet px py pz p0 p1 h0 h1 w2 hwx hwy hwz n hn sn
  have heq := dvect_eq_short_image b hdet px py pz p0 p1 w2 hwx hwy hwz n hadm sn
  refine ⟨hadm, heq, fun m hm => ?_⟩
  -- a strictly shorter image would be short as well, hence the same image (this part needs no `InCell`)
  rw [heq]
  by_contra hlt
  have hmn := short_image_unique b hdet px py pz (p1 - p0) w2 hwx hwy hwz m n hm hn (by linarith [not_le.mp hlt]) sn
  rw [hmn] at hlt
  exact hlt le_rfl

/-- **when the straight difference is already the answer**: `det ≠ 0`; if the direct separation itself is shorter
    than half the smallest perpendicular width `w` of the periodic axes (`4|p1−p0|² < w²`, `w² ≤ 1/|recipᵢ|²`), then
    `dvect` returns it unchanged (no hypothesis on where the points are).  The bound is the perpendicular WIDTH, not
    the length of the cell edges: in a sheared cell a lattice combination such as `a+b` can be shorter than every
    edge, see the example after `exBox` below (cell `a = (10,0,0)`, `b = (−8,6,0)`). -/
theorem dvect_direct_of_short (b : Box K) (hdet : M3.det b.vects ≠ 0) (px py pz : Bool) (p0 p1 : V3 K) (w2 : K)
    (hwx : px = true → w2 * V3.normSq b.recip.r0 ≤ 1)
    (hwy : py = true → w2 * V3.normSq b.recip.r1 ≤ 1)
    (hwz : pz = true → w2 * V3.normSq b.recip.r2 ≤ 1)
    (hs : 4 * V3.normSq (p1 - p0) < w2) :
    dvect b.vects px py pz p0 p1 = p1 - p0 := by
  have h := dvect_eq_short_image b hdet px py pz p0 p1 w2 hwx hwy hwz (0, 0, 0) (admissible_zero px py pz)
    (by rw [latticeVec_zero]; exact hs)
  rw [h, latticeVec_zero]

/-- `displacement` of an atom that moved less than half the smallest perpendicular width of the reference cell is the
    plain difference of its two positions — and only the width gives that guarantee. -/
theorem dispWith_direct_of_short (b : Box K) (hdet : M3.det b.vects ≠ 0) (px py pz : Bool) (p0 p1 : V3 K) (w2 : K)
    (hwx : px = true → w2 * V3.normSq b.recip.r0 ≤ 1)
    (hwy : py = true → w2 * V3.normSq b.recip.r1 ≤ 1)
    (hwz : pz = true → w2 * V3.normSq b.recip.r2 ≤ 1)
    (hs : 4 * V3.normSq (p1 - p0) < w2) :
    dispWith (some (b.vects, px, py, pz)) p0 p1 = dispWith none p0 p1 :=
  dvect_direct_of_short b hdet px py pz p0 p1 w2 hwx hwy hwz hs

/-- **orthogonal cells, any orientation**: the three cell vectors are mutually orthogonal
    (`det ≠ 0`; not necessarily axis-aligned, right-handed or LAMMPS-normal), both points in the
    closed cell.  The returned separation is not longer than the image for **any** `n : ℤ³`
    (unbounded) vanishing on the non-periodic axes. -/
theorem ortho_true_nearest (b : Box K) (hdet : M3.det b.vects ≠ 0)
    (h01 : V3.dot b.vects.r0 b.vects.r1 = 0) (h02 : V3.dot b.vects.r0 b.vects.r2 = 0)
    (h12 : V3.dot b.vects.r1 b.vects.r2 = 0) (px py pz : Bool) (p0 p1 : V3 K)
    (h0 : InCell b p0) (h1 : InCell b p1) (n : Shift) (hn : n.respects px py pz) :
    V3.normSq (dvect b.vects px py pz p0 p1) ≤ V3.normSq ((p1 - p0) + latticeVec b.vects n) := by
  obtain ⟨m, hm, hx, hy, hz⟩ := exists_reduced b px py pz p0 p1 h0 h1
  refine le_trans (dvect_min27 b.vects px py pz p0 p1 m hm) ?_
  -- orthogonal vectors: the squared length is a sum over the axes, and each reduced component is nearest on its axis
  rw [image_decompose b hdet, image_decompose b hdet,
    normSq_ortho_comb _ h01 h02 h12, normSq_ortho_comb _ h01 h02 h12]
  have ex := reduced_le px _ m.1 n.1 hx fun h => by rw [hn.1 h, hm.respects.1 h]
  have ey := reduced_le py _ m.2.1 n.2.1 hy fun h => by rw [hn.2.1 h, hm.respects.2.1 h]
  have ez := reduced_le pz _ m.2.2 n.2.2 hz fun h => by rw [hn.2.2 h, hm.respects.2.2 h]
  exact add_le_add (add_le_add (mul_le_mul_of_nonneg_right ex (V3.normSq_nonneg _))
    (mul_le_mul_of_nonneg_right ey (V3.normSq_nonneg _))) (mul_le_mul_of_nonneg_right ez (V3.normSq_nonneg _))

/-- **orthogonal cells, axis-aligned form** (LAMMPS-normal orthorhombic box: diagonal positive cell): the special case of
    `ortho_true_nearest`. -/
theorem ortho_diag_true_nearest (b : Box K) (a bb c : K) (ha : 0 < a) (hb : 0 < bb) (hc : 0 < c)
    (hv : b.vects = ⟨⟨a, 0, 0⟩, ⟨0, bb, 0⟩, ⟨0, 0, c⟩⟩) (px py pz : Bool) (p0 p1 : V3 K)
    (h0 : InCell b p0) (h1 : InCell b p1) (n : Shift) (hn : n.respects px py pz) :
    V3.normSq (dvect b.vects px py pz p0 p1) ≤ V3.normSq ((p1 - p0) + latticeVec b.vects n) := by
  have hdet : M3.det b.vects = a * bb * c := by rw [hv]; simp only [M3.det, V3.dot, V3.cross]; ring
  have hortho : V3.dot b.vects.r0 b.vects.r1 = 0 ∧ V3.dot b.vects.r0 b.vects.r2 = 0 ∧ V3.dot b.vects.r1 b.vects.r2 = 0 := by
    simp only [hv, V3.dot, mul_zero, zero_mul, add_zero, and_self]
  exact ortho_true_nearest b (hdet ▸ (mul_pos (mul_pos ha hb) hc).ne') hortho.1 hortho.2.1 hortho.2.2
    px py pz p0 p1 h0 h1 n hn

open Atomman.Generated in
/-- LAST CLAUSE of the property, about the kernel AS THE SOURCE READS NOW (generated `dvectC`): for both points in the closed
    cell of a cell with mutually orthogonal vectors (any orientation / handedness), what `dvect_c` computes is not longer
    than the image through ANY integer shift along the periodic directions. -/
theorem source_true_nearest_ortho (b : Box K) (hdet : M3.det b.vects ≠ 0)
    (h01 : V3.dot b.vects.r0 b.vects.r1 = 0) (h02 : V3.dot b.vects.r0 b.vects.r2 = 0)
    (h12 : V3.dot b.vects.r1 b.vects.r2 = 0) (px py pz : Bool) (p0 p1 : V3 K)
    (h0 : InCell b p0) (h1 : InCell b p1) (n : Shift) (hn : n.respects px py pz) :
    V3.normSq (DvectSource.dvectC p0 p1 b.vects px py pz) ≤ V3.normSq ((p1 - p0) + latticeVec b.vects n) ∧
    DvectSource.dmag2C p0 p1 b.vects px py pz = V3.normSq (DvectSource.dvectC p0 p1 b.vects px py pz) := by
  rw [Source.gen_dvectC_eq_model, Source.gen_dmag2C_eq_model]
  exact ⟨ortho_true_nearest b hdet h01 h02 h12 px py pz p0 p1 h0 h1 n hn, dmag2_eq_normsq_dvect _ _ _ _ _ _⟩

open Atomman.Generated in
/-- for ANY cell with `det ≠ 0`: if some image (any integer shift along the periodic directions) is shorter than half
    the smallest perpendicular width of the periodic axes, the generated `dvectC` returns exactly that image, and it is the
    shortest over all integer shifts. -/
theorem source_true_nearest_tilted (b : Box K) (hdet : M3.det b.vects ≠ 0) (px py pz : Bool) (p0 p1 : V3 K)
    (h0 : InCell b p0) (h1 : InCell b p1) (w2 : K)
    (hwx : px = true → w2 * V3.normSq b.recip.r0 ≤ 1)
    (hwy : py = true → w2 * V3.normSq b.recip.r1 ≤ 1)
    (hwz : pz = true → w2 * V3.normSq b.recip.r2 ≤ 1)
    (n : Shift) (hn : n.respects px py pz)
    (sn : 4 * V3.normSq ((p1 - p0) + latticeVec b.vects n) < w2) :
    DvectSource.dvectC p0 p1 b.vects px py pz = (p1 - p0) + latticeVec b.vects n ∧
    ∀ m : Shift, m.respects px py pz →
      V3.normSq (DvectSource.dvectC p0 p1 b.vects px py pz) ≤ V3.normSq ((p1 - p0) + latticeVec b.vects m) := by
  rw [Source.gen_dvectC_eq_model]
  exact (tilted_true_nearest b hdet px py pz p0 p1 h0 h1 w2 hwx hwy hwz n hn sn).2

/-- non-vacuity: the generated kernels on the tilted example cell (boundary-crossing pair) and on the tie example. -/
example : Atomman.Generated.DvectSource.dvectC (⟨11/5, 1/2, 5⟩ : V3 ℚ) ⟨29/5, 1/2, 5⟩ ⟨⟨4, 0, 0⟩, ⟨1, 4, 0⟩, ⟨1, 1, 4⟩⟩ true true true
      = ⟨-2/5, 0, 0⟩ ∧
    Atomman.Generated.DvectSource.dmag2C (⟨11/5, 1/2, 5⟩ : V3 ℚ) ⟨29/5, 1/2, 5⟩ ⟨⟨4, 0, 0⟩, ⟨1, 4, 0⟩, ⟨1, 1, 4⟩⟩ true true true = 4/25 ∧
    Atomman.Generated.DvectSource.dvectC (⟨0, 0, 0⟩ : V3 ℚ) ⟨1, 1, 1⟩ ⟨⟨2, 0, 0⟩, ⟨0, 2, 0⟩, ⟨0, 0, 2⟩⟩ true true true = ⟨1, 1, 1⟩ ∧
    Atomman.Generated.DvectSource.dvectC (⟨11/5, 1/2, 5⟩ : V3 ℚ) ⟨29/5, 1/2, 5⟩ ⟨⟨4, 0, 0⟩, ⟨1, 4, 0⟩, ⟨1, 1, 4⟩⟩ false true true
      = ⟨18/5, 0, 0⟩ := by
  decide +kernel

def exBox : Box ℚ := ⟨⟨⟨4, 0, 0⟩, ⟨1, 4, 0⟩, ⟨1, 1, 4⟩⟩, ⟨1, -2, 3⟩⟩
def exP0 : V3 ℚ := ⟨11/5, 1/2, 5⟩     -- s = (1/20, 1/2, 1/2)
def exP1 : V3 ℚ := ⟨29/5, 1/2, 5⟩     -- s = (19/20, 1/2, 1/2)

instance (b : Box ℚ) (p : V3 ℚ) : Decidable (InCell b p) := by unfold InCell; infer_instance

/-- the hypotheses of `tilted_true_nearest` are met by a pair whose nearest image crosses the cell
    boundary (`n = (-1,0,0)`), with `w² = 1`. -/
example : M3.det exBox.vects ≠ 0 ∧ InCell exBox exP0 ∧ InCell exBox exP1 ∧
    (1 : ℚ) * V3.normSq exBox.recip.r0 ≤ 1 ∧ (1 : ℚ) * V3.normSq exBox.recip.r1 ≤ 1 ∧
    (1 : ℚ) * V3.normSq exBox.recip.r2 ≤ 1 ∧
    4 * V3.normSq ((exP1 - exP0) + latticeVec exBox.vects (-1, 0, 0)) < 1 ∧
    dvect exBox.vects true true true exP0 exP1 = ⟨-2/5, 0, 0⟩ := by decide +kernel

/-- hypotheses of `ortho_true_nearest` / `ortho_diag_true_nearest`: points on opposite faces included. -/
example : InCell (⟨⟨⟨2, 0, 0⟩, ⟨0, 3, 0⟩, ⟨0, 0, 5⟩⟩, ⟨1, 1, 1⟩⟩ : Box ℚ) ⟨1, 5/2, 6⟩ ∧
    InCell (⟨⟨⟨2, 0, 0⟩, ⟨0, 3, 0⟩, ⟨0, 0, 5⟩⟩, ⟨1, 1, 1⟩⟩ : Box ℚ) ⟨3, 1, 1⟩ := by decide +kernel

/-- hypotheses of `ortho_true_nearest` for a rotated, left-handed orthogonal cell with a point on a face. -/
example :
    let b : Box ℚ := ⟨⟨⟨3, 4, 0⟩, ⟨4, -3, 0⟩, ⟨0, 0, 2⟩⟩, ⟨1, 0, -1⟩⟩
    M3.det b.vects ≠ 0 ∧ V3.dot b.vects.r0 b.vects.r1 = 0 ∧ V3.dot b.vects.r0 b.vects.r2 = 0 ∧
    V3.dot b.vects.r1 b.vects.r2 = 0 ∧ InCell b ⟨1, 0, -1⟩ ∧ InCell b ⟨8, 1, 1⟩ ∧ InCell b ⟨9/2, 1/2, 0⟩ := by
  decide +kernel

/-- sharpness: without the width hypothesis the claim is false.  In this strongly tilted cell both
    points are inside, yet the image with `n = (-2,0,0)` (not among the 27 candidates) is shorter
    than what the 27-candidate search returns. -/
example :
    let b : Box ℚ := ⟨⟨⟨1, 0, 0⟩, ⟨5/2, 1, 0⟩, ⟨0, 0, 1⟩⟩, ⟨0, 0, 0⟩⟩
    let p0 : V3 ℚ := ⟨0, 0, 0⟩
    let p1 : V3 ℚ := ⟨43/20, 1/2, 0⟩
    InCell b p0 ∧ InCell b p1 ∧
    V3.normSq ((p1 - p0) + latticeVec b.vects (-2, 0, 0)) < V3.normSq (dvect b.vects true true true p0 p1) := by
  decide +kernel

/-- the hypotheses of `dvect_direct_of_short` can be met (`w² = 36`, `|d|² = 6 < 9`), and they cannot be replaced by
    "shorter than half the shortest cell EDGE": in the sheared cell `a = (10,0,0)`, `b = (−8,6,0)`, `c = (0,0,10)` every
    edge has length 10, the move `d = (3/2, 4, 0)` has `|d|² = 73/4 < 25`, both positions are inside the cell, and yet
    the periodic separation is `d − a − b = (−1/2, −2, 0)` (squared length `17/4`), not `d`. -/
example :
    let b : Box ℚ := ⟨⟨⟨10, 0, 0⟩, ⟨-8, 6, 0⟩, ⟨0, 0, 10⟩⟩, ⟨1, -2, 1/2⟩⟩
    let p0 : V3 ℚ := ⟨6/5, -7/5, 11/2⟩
    let p1 : V3 ℚ := ⟨27/10, 13/5, 11/2⟩
    let q1 : V3 ℚ := ⟨16/5, -2/5, 13/2⟩
    M3.det b.vects ≠ 0 ∧ InCell b p0 ∧ InCell b p1 ∧
    (36 : ℚ) * V3.normSq b.recip.r0 ≤ 1 ∧ (36 : ℚ) * V3.normSq b.recip.r1 ≤ 1 ∧ (36 : ℚ) * V3.normSq b.recip.r2 ≤ 1 ∧
    4 * V3.normSq (q1 - p0) < 36 ∧ dvect b.vects true true true p0 q1 = q1 - p0 ∧
    V3.normSq b.vects.r0 = 100 ∧ V3.normSq b.vects.r1 = 100 ∧ V3.normSq b.vects.r2 = 100 ∧
    4 * V3.normSq (p1 - p0) < 100 ∧
    dvect b.vects true true true p0 p1 = ⟨-1/2, -2, 0⟩ ∧ dvect b.vects true true true p0 p1 ≠ p1 - p0 ∧
    dvect b.vects true true false p0 p1 = ⟨-1/2, -2, 0⟩ := by
  decide +kernel

/-- hypotheses of `search_radius_sound` / `search_radius_images` with a NON-zero shift: in the tilted example cell the
    image through `(-1,0,0)` is shorter than the direct separation (and than the image through `(1,0,0)`), and the
    conclusions hold with room to spare. -/
example :
    let d : V3 ℚ := exP1 - exP0
    M3.det exBox.vects ≠ 0 ∧
    V3.normSq (d + latticeVec exBox.vects (-1, 0, 0)) ≤ V3.normSq d ∧
    V3.normSq (d + latticeVec exBox.vects (-1, 0, 0)) ≤ V3.normSq (d + latticeVec exBox.vects (1, 0, 0)) ∧
    ((-1 : ℚ))^2 ≤ 4 * V3.normSq d * V3.normSq exBox.recip.r0 ∧
    ((-2 : ℚ))^2 ≤ 4 * V3.normSq (d + latticeVec exBox.vects (1, 0, 0)) * V3.normSq exBox.recip.r0 := by
  decide +kernel

/-- hypotheses of `short_image_unique` / `short_image_admissible` (mixed periodicity `x, z` periodic, `y` free; `w² = 1`):
    the shift `(-1,0,0)` respects the flags and its image is short; the shift `(-1,1,0)` does not respect them. -/
example :
    (1 : ℚ) * V3.normSq exBox.recip.r0 ≤ 1 ∧ (1 : ℚ) * V3.normSq exBox.recip.r2 ≤ 1 ∧
    Shift.respects (-1, 0, 0) true false true ∧ ¬ Shift.respects (-1, 1, 0) true false true ∧
    4 * V3.normSq ((exP1 - exP0) + latticeVec exBox.vects (-1, 0, 0)) < 1 ∧
    dvect exBox.vects true false true exP0 exP1 = (exP1 - exP0) + latticeVec exBox.vects (-1, 0, 0) := by
  refine ⟨by decide +kernel, by decide +kernel, ?_, ?_, by decide +kernel, by decide +kernel⟩
  · simp [Shift.respects]
  · simp [Shift.respects]

/-- the **cover bound** of a cell: an upper bound, from the Gram matrix of the cell vectors alone, of the squared
    length of `t·vects` for every `t` with `|tᵢ| ≤ halfw pᵢ` — hence of the shortest of the 27 candidates for any
    two points of the cell.  All-periodic: `¼ (|a|² + |b|² + |c|² + 2|a·b| + 2|a·c| + 2|b·c|)`. -/
def coverBound (V : M3 K) (px py pz : Bool) : K :=
  halfw px * halfw px * V3.normSq V.r0 + halfw py * halfw py * V3.normSq V.r1 + halfw pz * halfw pz * V3.normSq V.r2
    + 2 * (halfw px * halfw py * |V3.dot V.r0 V.r1|) + 2 * (halfw px * halfw pz * |V3.dot V.r0 V.r2|)
    + 2 * (halfw py * halfw pz * |V3.dot V.r1 V.r2|)

theorem prod_le_abs (u v P hu hv : K) (h1 : |u| ≤ hu) (h2 : |v| ≤ hv) : u * v * P ≤ hu * hv * |P| := by
  have hu0 : 0 ≤ hu := le_trans (abs_nonneg u) h1
  calc u * v * P ≤ |u * v * P| := le_abs_self _
    _ = |u| * |v| * |P| := by rw [abs_mul, abs_mul]
    _ ≤ hu * hv * |P| :=
        mul_le_mul_of_nonneg_right (mul_le_mul h1 h2 (abs_nonneg _) hu0) (abs_nonneg _)

theorem sq_le_of_abs (u hu : K) (h1 : |u| ≤ hu) : u ^ 2 ≤ hu * hu := by
  rw [← pow_two]; exact sq_le_sq' (abs_le.mp h1).1 (abs_le.mp h1).2

/-- the Gram bound: `|tᵢ| ≤ hᵢ` ⇒ `|t·V|² ≤ Σᵢⱼ hᵢ hⱼ |vᵢ·vⱼ|`. -/
theorem normSq_vecMul_le (V : M3 K) (t : V3 K) (hx hy hz : K)
    (h1 : |t.x| ≤ hx) (h2 : |t.y| ≤ hy) (h3 : |t.z| ≤ hz) :
    V3.normSq (M3.vecMul t V) ≤
      hx * hx * V3.normSq V.r0 + hy * hy * V3.normSq V.r1 + hz * hz * V3.normSq V.r2
        + 2 * (hx * hy * |V3.dot V.r0 V.r1|) + 2 * (hx * hz * |V3.dot V.r0 V.r2|)
        + 2 * (hy * hz * |V3.dot V.r1 V.r2|) := by
  rw [M3.normSq_vecMul]
  have a1 := mul_le_mul_of_nonneg_right (sq_le_of_abs _ _ h1) (V3.normSq_nonneg V.r0)
  have a2 := mul_le_mul_of_nonneg_right (sq_le_of_abs _ _ h2) (V3.normSq_nonneg V.r1)
  have a3 := mul_le_mul_of_nonneg_right (sq_le_of_abs _ _ h3) (V3.normSq_nonneg V.r2)
  have b1 := prod_le_abs t.x t.y (V3.dot V.r0 V.r1) hx hy h1 h2
  have b2 := prod_le_abs t.x t.z (V3.dot V.r0 V.r2) hx hz h1 h3
  have b3 := prod_le_abs t.y t.z (V3.dot V.r1 V.r2) hy hz h2 h3
  linarith

/-- **the cell condition, general form**: `det ≠ 0`, both points in the closed cell.  Let `R2` bound the squared
    length of every combination `t·vects` with `|tᵢ| ≤ 1/2` on the periodic axes and `|tᵢ| ≤ 1` on the others.  If
    `R2 < wᵢ²` (`wᵢ` the perpendicular width, `wᵢ² = 1/|recipᵢ|²`) on every periodic axis, then what the 27-candidate
    search returns is the shortest image over ALL integer shifts `n : ℤ³` along the periodic directions — whatever the
    two points, near or far. -/
theorem cover_true_nearest (b : Box K) (hdet : M3.det b.vects ≠ 0) (px py pz : Bool) (R2 : K)
    (hcov : ∀ t : V3 K, |t.x| ≤ halfw px → |t.y| ≤ halfw py → |t.z| ≤ halfw pz →
      V3.normSq (M3.vecMul t b.vects) ≤ R2)
    (hwx : px = true → R2 * V3.normSq b.recip.r0 < 1)
    (hwy : py = true → R2 * V3.normSq b.recip.r1 < 1)
    (hwz : pz = true → R2 * V3.normSq b.recip.r2 < 1)
    (p0 p1 : V3 K) (h0 : InCell b p0) (h1 : InCell b p1) (n : Shift) (hn : n.respects px py pz) :
    V3.normSq (dvect b.vects px py pz p0 p1) ≤ V3.normSq ((p1 - p0) + latticeVec b.vects n) := by
  obtain ⟨m, hm, hx, hy, hz⟩ := exists_reduced b px py pz p0 p1 h0 h1
  -- the reduced candidate is within `R2`, hence so is the result …
  have hR : V3.normSq (dvect b.vects px py pz p0 p1) ≤ R2 :=
    (dvect_min27 b.vects px py pz p0 p1 m hm).trans
      (by rw [image_decompose b hdet]; exact hcov _ hx hy hz)
  -- … and a strictly shorter image would be within `R2` too, hence one of the candidates
  by_contra hlt
  have he : V3.normSq ((p1 - p0) + latticeVec b.vects n) ≤ R2 := (lt_of_lt_of_le (not_le.mp hlt) hR).le
  have small : ∀ ρ : V3 K, R2 * V3.normSq ρ < 1 → V3.normSq ((p1 - p0) + latticeVec b.vects n) * V3.normSq ρ < 1 :=
    fun ρ h => lt_of_le_of_lt (mul_le_mul_of_nonneg_right he (V3.normSq_nonneg ρ)) h
  exact hlt (dvect_min27 b.vects px py pz p0 p1 n (image_admissible b hdet px py pz p0 p1 h0 h1 n hn
    (fun h => small _ (hwx h)) (fun h => small _ (hwy h)) (fun h => small _ (hwz h))))

/-- **the cell condition, closed form** (LAST CLAUSE for general tilted cells, no hypothesis on the pair): if the
    cover bound of the cell — computed from the Gram matrix of its vectors, see `coverBound` — is below the squared
    perpendicular width of every periodic axis, the periodic separation of ANY two points of the closed cell is a true
    nearest image: not longer than the image through any `n : ℤ³` along the periodic directions. -/
theorem gram_true_nearest (b : Box K) (hdet : M3.det b.vects ≠ 0) (px py pz : Bool)
    (hwx : px = true → coverBound b.vects px py pz * V3.normSq b.recip.r0 < 1)
    (hwy : py = true → coverBound b.vects px py pz * V3.normSq b.recip.r1 < 1)
    (hwz : pz = true → coverBound b.vects px py pz * V3.normSq b.recip.r2 < 1)
    (p0 p1 : V3 K) (h0 : InCell b p0) (h1 : InCell b p1) (n : Shift) (hn : n.respects px py pz) :
    V3.normSq (dvect b.vects px py pz p0 p1) ≤ V3.normSq ((p1 - p0) + latticeVec b.vects n) ∧
    dmag2 b.vects px py pz p0 p1 ≤ V3.normSq ((p1 - p0) + latticeVec b.vects n) := by
  have h := cover_true_nearest b hdet px py pz (coverBound b.vects px py pz)
    (fun t h1 h2 h3 => normSq_vecMul_le b.vects t _ _ _ h1 h2 h3) hwx hwy hwz p0 p1 h0 h1 n hn
  exact ⟨h, by rw [dmag2_eq_normsq_dvect]; exact h⟩

open Atomman.Generated in
/-- the same about the kernels AS THE SOURCE READS NOW (generated `dvectC` / `dmag2C`). -/
theorem source_true_nearest_gram (b : Box K) (hdet : M3.det b.vects ≠ 0) (px py pz : Bool)
    (hwx : px = true → coverBound b.vects px py pz * V3.normSq b.recip.r0 < 1)
    (hwy : py = true → coverBound b.vects px py pz * V3.normSq b.recip.r1 < 1)
    (hwz : pz = true → coverBound b.vects px py pz * V3.normSq b.recip.r2 < 1)
    (p0 p1 : V3 K) (h0 : InCell b p0) (h1 : InCell b p1) (n : Shift) (hn : n.respects px py pz) :
    V3.normSq (DvectSource.dvectC p0 p1 b.vects px py pz) ≤ V3.normSq ((p1 - p0) + latticeVec b.vects n) ∧
    DvectSource.dmag2C p0 p1 b.vects px py pz ≤ V3.normSq ((p1 - p0) + latticeVec b.vects n) := by
  rw [Source.gen_dvectC_eq_model, Source.gen_dmag2C_eq_model]
  exact gram_true_nearest b hdet px py pz hwx hwy hwz p0 p1 h0 h1 n hn

/-- LAMMPS-normal cell whose tilt factors are within the LAMMPS limits (`|xy|, |xz| ≤ lx/2`, `|yz| ≤ ly/2`). -/
def withinTiltLimits (b : Box K) : Prop :=
  b.vects.r0.y = 0 ∧ b.vects.r0.z = 0 ∧ b.vects.r1.z = 0 ∧
  0 < b.vects.r0.x ∧ 0 < b.vects.r1.y ∧ 0 < b.vects.r2.z ∧
  2 * |b.vects.r1.x| ≤ b.vects.r0.x ∧ 2 * |b.vects.r2.x| ≤ b.vects.r0.x ∧ 2 * |b.vects.r2.y| ≤ b.vects.r1.y

instance (b : Box ℚ) : Decidable (withinTiltLimits b) := by unfold withinTiltLimits; infer_instance
instance (n : Shift) (px py pz : Bool) : Decidable (n.respects px py pz) := by unfold Shift.respects; infer_instance

/-- **the condition cannot be dropped, not even within the LAMMPS tilt limits**: the flat cell `a = (5,0,0)`,
    `b = (-1,1,0)`, `c = (0,0,1)` is LAMMPS-normal with `|xy| = 1 ≤ lx/2`; both points are strictly inside it
    (relative coordinates `(3/4,1/8,1/2)` and `(1/4,7/8,1/2)`); the 27-candidate search returns a separation of squared
    length `29/8`, while the image through `n = (0,-2,0)` — outside the search — has `25/8`.  (The cover bound of this
    cell is `17/2`, far above its squared width `25/26` along `b`.)  So a cell being "within the tilt limits" does NOT
    make the last clause of the property hold for every pair: a hypothesis such as that of `gram_true_nearest` (on the
    cell) or of `tilted_true_nearest` (on the pair) is needed. -/
theorem cell_condition_needed :
    let b : Box ℚ := ⟨⟨⟨5, 0, 0⟩, ⟨-1, 1, 0⟩, ⟨0, 0, 1⟩⟩, ⟨0, 0, 0⟩⟩
    let p0 : V3 ℚ := ⟨29/8, 1/8, 1/2⟩
    let p1 : V3 ℚ := ⟨3/8, 7/8, 1/2⟩
    withinTiltLimits b ∧ M3.det b.vects ≠ 0 ∧ InCell b p0 ∧ InCell b p1 ∧
    Shift.respects (0, -2, 0) true true true ∧
    V3.normSq (dvect b.vects true true true p0 p1) = 29/8 ∧
    V3.normSq ((p1 - p0) + latticeVec b.vects (0, -2, 0)) = 25/8 ∧
    V3.normSq ((p1 - p0) + latticeVec b.vects (0, -2, 0)) < V3.normSq (dvect b.vects true true true p0 p1) ∧
    ¬ (coverBound b.vects true true true * V3.normSq b.recip.r1 < 1) := by
  decide +kernel

/-- the cover-bound condition is needed also outside the tilt limits (strongly sheared, `xy = 5/2·lx`): `n = (-2,0,0)` beats the search. -/
theorem sheared_condition_needed :
    let b : Box ℚ := ⟨⟨⟨1, 0, 0⟩, ⟨5/2, 1, 0⟩, ⟨0, 0, 1⟩⟩, ⟨0, 0, 0⟩⟩
    let p0 : V3 ℚ := ⟨0, 0, 0⟩
    let p1 : V3 ℚ := ⟨43/20, 1/2, 0⟩
    M3.det b.vects ≠ 0 ∧ InCell b p0 ∧ InCell b p1 ∧ Shift.respects (-2, 0, 0) true true true ∧
    V3.normSq ((p1 - p0) + latticeVec b.vects (-2, 0, 0)) < V3.normSq (dvect b.vects true true true p0 p1) := by
  decide +kernel

/-- non-vacuity of `gram_true_nearest`: a tilted LAMMPS cell (`xy = lx/4`), all axes periodic, cover bound `57/4`
    below the squared widths `256/17`, `16`, `16`; a pair in the cell whose nearest image (`|·|² = 41/4`) is NOT
    shorter than half the smallest width (so `tilted_true_nearest` says nothing about it); and with the third axis
    non-periodic. -/
example :
    let b : Box ℚ := ⟨⟨⟨4, 0, 0⟩, ⟨1, 4, 0⟩, ⟨0, 0, 4⟩⟩, ⟨1, -2, 3⟩⟩
    M3.det b.vects ≠ 0 ∧ withinTiltLimits b ∧ coverBound b.vects true true true = 57/4 ∧
    coverBound b.vects true true true * V3.normSq b.recip.r0 < 1 ∧
    coverBound b.vects true true true * V3.normSq b.recip.r1 < 1 ∧
    coverBound b.vects true true true * V3.normSq b.recip.r2 < 1 ∧
    InCell b ⟨1, -2, 3⟩ ∧ InCell b ⟨7/2, 0, 5⟩ ∧
    V3.normSq (dvect b.vects true true true ⟨1, -2, 3⟩ ⟨7/2, 0, 5⟩) = 41/4 ∧
    ¬ (4 * V3.normSq (dvect b.vects true true true ⟨1, -2, 3⟩ ⟨7/2, 0, 5⟩) < 256/17) := by
  decide +kernel

open Atomman.Generated in
/-- **the LAST CLAUSE of the property as one statement about the kernels AS THE SOURCE READS NOW**: both points in the closed
    cell (`det ≠ 0`), and EITHER the cell vectors are mutually orthogonal, OR the true nearest-image distance is below half
    the smallest perpendicular width of the periodic axes (some image `k : ℤ³` with `4|·|² < w²`, `w² ≤ 1/|recipᵢ|²`), OR —
    beyond the text — the cell meets the cover-bound condition.  Then what `dvect_c` returns is not longer than the image
    through ANY `n : ℤ³` along the periodic directions, it is itself such an image with `nᵢ ∈ {−1,0,1}`, and `dmag2_c` is its
    squared length. -/
theorem last_clause_end_to_end (b : Box K) (hdet : M3.det b.vects ≠ 0) (px py pz : Bool) (p0 p1 : V3 K)
    (h0 : InCell b p0) (h1 : InCell b p1)
    (hcase :
      (V3.dot b.vects.r0 b.vects.r1 = 0 ∧ V3.dot b.vects.r0 b.vects.r2 = 0 ∧ V3.dot b.vects.r1 b.vects.r2 = 0) ∨
      (∃ (w2 : K) (k : Shift), (px = true → w2 * V3.normSq b.recip.r0 ≤ 1) ∧ (py = true → w2 * V3.normSq b.recip.r1 ≤ 1) ∧
        (pz = true → w2 * V3.normSq b.recip.r2 ≤ 1) ∧ k.respects px py pz ∧
        4 * V3.normSq ((p1 - p0) + latticeVec b.vects k) < w2) ∨
      ((px = true → coverBound b.vects px py pz * V3.normSq b.recip.r0 < 1) ∧
       (py = true → coverBound b.vects px py pz * V3.normSq b.recip.r1 < 1) ∧
       (pz = true → coverBound b.vects px py pz * V3.normSq b.recip.r2 < 1))) :
    (∀ n : Shift, n.respects px py pz →
      V3.normSq (DvectSource.dvectC p0 p1 b.vects px py pz) ≤ V3.normSq ((p1 - p0) + latticeVec b.vects n)) ∧
    (∃ m : Shift, m.admissible px py pz ∧ DvectSource.dvectC p0 p1 b.vects px py pz = (p1 - p0) + latticeVec b.vects m) ∧
    DvectSource.dmag2C p0 p1 b.vects px py pz = V3.normSq (DvectSource.dvectC p0 p1 b.vects px py pz) := by
  rw [Source.gen_dvectC_eq_model, Source.gen_dmag2C_eq_model]
  refine ⟨?_, dvect_is_image b.vects px py pz p0 p1, dmag2_eq_normsq_dvect _ _ _ _ _ _⟩
  intro n hn
  rcases hcase with ⟨h01, h02, h12⟩ | ⟨w2, k, hwx, hwy, hwz, hk, hs⟩ | ⟨hwx, hwy, hwz⟩
  · exact ortho_true_nearest b hdet h01 h02 h12 px py pz p0 p1 h0 h1 n hn
  · exact (tilted_true_nearest b hdet px py pz p0 p1 h0 h1 w2 hwx hwy hwz k hk hs).2.2 n hn
  · exact (gram_true_nearest b hdet px py pz hwx hwy hwz p0 p1 h0 h1 n hn).1

/-- shifts to the positive side: with `-2D ≤ 3U` none of them beats the shift by one.  For `f(k) = 2kD + k²U`,
    `f(n) - f(1) = (n - 1) ((2D + 3U) + (n - 2) U)`, and an integer `n ≥ 1` is `1` or at least `2`. -/
theorem one_dim_proj_pos (D U : K) (hU : 0 ≤ U) (hσ : -(2 * D) ≤ 3 * U) (n : Int) (hn : 0 < n) :
    2 * D + U ≤ 2 * (n : K) * D + (n : K)^2 * U := by
  rcases (show n = 1 ∨ 2 ≤ n by omega) with rfl | h2
  · rw [Int.cast_one]; linarith
  · have hc : (2 : K) ≤ (n : K) := by exact_mod_cast h2
    have e : 2 * (n : K) * D + (n : K)^2 * U - (2 * D + U)
        = ((n : K) - 1) * ((2 * D + 3 * U) + ((n : K) - 2) * U) := by ring
    exact sub_nonneg.mp (e ▸ mul_nonneg (by linarith) (add_nonneg (by linarith) (mul_nonneg (by linarith) hU)))

/-- 1-D along a lattice vector `u` (`A = |d|²`, `D = d·u`, `U = |u|²`): if the projection of `d` on `u` is at most `3/2` of
    `|u|²` in absolute value, every integer shift along `u` is matched or beaten by one of -1, 0, 1. -/
theorem one_dim_proj (A D U : K) (hU : 0 ≤ U) (hσ : 2 * |D| ≤ 3 * U) (n : Int) :
    ∃ m : Int, (m = -1 ∨ m = 0 ∨ m = 1) ∧ (n = 0 → m = 0) ∧
      A + 2 * (m : K) * D + (m : K)^2 * U ≤ A + 2 * (n : K) * D + (n : K)^2 * U := by
  rcases lt_trichotomy n 0 with h | h | h
  · -- the mirror image: `D ↦ -D`, `n ↦ -n`
    have hle := one_dim_proj_pos (-D) U hU (by linarith [le_abs_self D]) (-n) (by omega)
    refine ⟨-1, Or.inl rfl, by omega, ?_⟩
    push_cast at hle ⊢
    linarith
  · exact ⟨0, Or.inr (Or.inl rfl), fun _ => rfl, by rw [h]⟩
  · have hle := one_dim_proj_pos D U hU (by linarith [neg_le_abs D]) n h
    refine ⟨1, Or.inr (Or.inr rfl), by omega, ?_⟩
    rw [Int.cast_one]
    linarith

theorem abs_dot_vecMul_le (u t : V3 K) (V : M3 K) (hx : |t.x| ≤ 1) (hy : |t.y| ≤ 1) (hz : |t.z| ≤ 1) :
    |V3.dot u (M3.vecMul t V)| ≤ |V3.dot u V.r0| + |V3.dot u V.r1| + |V3.dot u V.r2| := by
  rw [M3.dot_vecMul_rows]
  refine (abs_add_three _ _ _).trans ?_
  rw [abs_mul, abs_mul, abs_mul]
  exact add_le_add (add_le_add (mul_le_of_le_one_left (abs_nonneg _) hx) (mul_le_of_le_one_left (abs_nonneg _) hy))
    (mul_le_of_le_one_left (abs_nonneg _) hz)

omit [LinearOrder K] [IsStrictOrderedRing K] in
theorem normSq_add_smul (d u : V3 K) (c : K) :
    V3.normSq (d + V3.smul c u) = V3.normSq d + 2 * c * V3.dot u d + c^2 * V3.normSq u := by
  rw [V3.normSq_add, V3.normSq_smul, V3.dot_smul_left]; ring

omit [LinearOrder K] [IsStrictOrderedRing K] in
theorem latticeVec_x (V : M3 K) (k : Int) : latticeVec V (k, 0, 0) = V3.smul (k : K) V.r0 := by
  ext <;> simp only [latticeVec, M3.vecMul, V3.smul, Int.cast_zero, zero_mul, add_zero]
omit [LinearOrder K] [IsStrictOrderedRing K] in
theorem latticeVec_y (V : M3 K) (k : Int) : latticeVec V (0, k, 0) = V3.smul (k : K) V.r1 := by
  ext <;> simp only [latticeVec, M3.vecMul, V3.smul, Int.cast_zero, zero_mul, add_zero, zero_add]
omit [LinearOrder K] [IsStrictOrderedRing K] in
theorem latticeVec_z (V : M3 K) (k : Int) : latticeVec V (0, 0, k) = V3.smul (k : K) V.r2 := by
  ext <;> simp only [latticeVec, M3.vecMul, V3.smul, Int.cast_zero, zero_mul, zero_add]

/-- shifts `sh k` that add `k u`, admissible for `k ∈ {-1,0,1}`: if the projection of the separation on `u` is at most
    `3/2 |u|²`, the result is not longer than the image through any `sh k`. -/
theorem axis_true_nearest (V : M3 K) (px py pz : Bool) (p0 p1 u : V3 K)
    (hu : 2 * |V3.dot u (p1 - p0)| ≤ 3 * V3.normSq u) (sh : Int → Shift)
    (hsh : ∀ k, latticeVec V (sh k) = V3.smul (k : K) u)
    (hadm : ∀ m : Int, m = -1 ∨ m = 0 ∨ m = 1 → (sh m).admissible px py pz) (k : Int) :
    V3.normSq (dvect V px py pz p0 p1) ≤ V3.normSq ((p1 - p0) + latticeVec V (sh k)) := by
  obtain ⟨m, hm, _, hle⟩ := one_dim_proj (V3.normSq (p1 - p0)) (V3.dot u (p1 - p0)) (V3.normSq u) (V3.normSq_nonneg u) hu k
  refine (dvect_min27 V px py pz p0 p1 (sh m) (hadm m hm)).trans ?_
  rw [hsh, hsh, normSq_add_smul, normSq_add_smul]
  exact hle

/-- **ONE periodic direction: the cell condition in closed form** (`det ≠ 0`, both points in the closed cell, exactly one
    flag set).  If the periodic cell vector `u` and the two others `v`, `w` satisfy `2(|u·v| + |u·w|) ≤ |u|²`, the result of
    the (three-candidate) search is the shortest image over ALL `n : ℤ` along `u`.  In LAMMPS terms for a periodic `a`:
    `|xy| + |xz| ≤ lx/2` — the SUM of the tilt factors, not each of them, has to stay within half the edge. -/
theorem one_axis_true_nearest (b : Box K) (hdet : M3.det b.vects ≠ 0) (px py pz : Bool) (p0 p1 : V3 K)
    (h0 : InCell b p0) (h1 : InCell b p1)
    (hone : (px = true ∧ py = false ∧ pz = false ∧
              2 * (|V3.dot b.vects.r0 b.vects.r1| + |V3.dot b.vects.r0 b.vects.r2|) ≤ V3.normSq b.vects.r0) ∨
            (px = false ∧ py = true ∧ pz = false ∧
              2 * (|V3.dot b.vects.r1 b.vects.r0| + |V3.dot b.vects.r1 b.vects.r2|) ≤ V3.normSq b.vects.r1) ∨
            (px = false ∧ py = false ∧ pz = true ∧
              2 * (|V3.dot b.vects.r2 b.vects.r0| + |V3.dot b.vects.r2 b.vects.r1|) ≤ V3.normSq b.vects.r2))
    (n : Shift) (hn : n.respects px py pz) :
    V3.normSq (dvect b.vects px py pz p0 p1) ≤ V3.normSq ((p1 - p0) + latticeVec b.vects n) := by
  obtain ⟨d0, d1, d2⟩ := incell_delta b p0 p1 h0 h1
  -- `p1 - p0 = Σ sᵢ vᵢ` with `|sᵢ| ≤ 1`, so its projection on a cell vector `u` is at most `Σ |u·vᵢ| ≤ 3/2 |u|²`
  have hproj : ∀ u : V3 K, |V3.dot u (p1 - p0)| ≤ |V3.dot u b.vects.r0| + |V3.dot u b.vects.r1| + |V3.dot u b.vects.r2| := by
    intro u
    have h := abs_dot_vecMul_le u ⟨V3.dot (p1 - p0) b.recip.r0, V3.dot (p1 - p0) b.recip.r1, V3.dot (p1 - p0) b.recip.r2⟩
      b.vects (abs_le.mpr d0) (abs_le.mpr d1) (abs_le.mpr d2)
    rwa [← decompose b hdet (p1 - p0)] at h
  have hself : ∀ u : V3 K, |V3.dot u u| = V3.normSq u := fun u => abs_of_nonneg (V3.normSq_nonneg u)
  obtain ⟨n1, n2, n3⟩ := n
  rcases hone with ⟨rfl, rfl, rfl, hc⟩ | ⟨rfl, rfl, rfl, hc⟩ | ⟨rfl, rfl, rfl, hc⟩
  · obtain rfl : n2 = 0 := hn.2.1 rfl
    obtain rfl : n3 = 0 := hn.2.2 rfl
    exact axis_true_nearest b.vects true false false p0 p1 b.vects.r0 (by linarith only [hproj b.vects.r0, hself b.vects.r0, hc])
      (fun k => (k, 0, 0)) (latticeVec_x _)
      (fun m hm => ⟨hm, Or.inr (Or.inl rfl), Or.inr (Or.inl rfl), nofun, fun _ => rfl, fun _ => rfl⟩) n1
  · obtain rfl : n1 = 0 := hn.1 rfl
    obtain rfl : n3 = 0 := hn.2.2 rfl
    exact axis_true_nearest b.vects false true false p0 p1 b.vects.r1 (by linarith only [hproj b.vects.r1, hself b.vects.r1, hc])
      (fun k => (0, k, 0)) (latticeVec_y _)
      (fun m hm => ⟨Or.inr (Or.inl rfl), hm, Or.inr (Or.inl rfl), fun _ => rfl, nofun, fun _ => rfl⟩) n2
  · obtain rfl : n1 = 0 := hn.1 rfl
    obtain rfl : n2 = 0 := hn.2.1 rfl
    exact axis_true_nearest b.vects false false true p0 p1 b.vects.r2 (by linarith only [hproj b.vects.r2, hself b.vects.r2, hc])
      (fun k => (0, 0, k)) (latticeVec_z _)
      (fun m hm => ⟨Or.inr (Or.inl rfl), Or.inr (Or.inl rfl), hm, fun _ => rfl, fun _ => rfl, nofun⟩) n3

/-- the bound of `one_axis_true_nearest` cannot be replaced by the axis-by-axis tilt limits: `a = (4,0,0)`, `b = (1,4,0)`, `c = (3/2,0,4)` is within the LAMMPS tilt limits axis by axis
    (`|xy| = 1`, `|xz| = 3/2 ≤ 2`) but `|xy| + |xz| = 5/2 > lx/2`; only `a` periodic; both points in the cell; the search
    returns the image through `n = (-1,0,0)` (`|·|² = 153/4`), the one through `n = (-2,0,0)` has `137/4`. -/
theorem one_axis_condition_needed :
    let b : Box ℚ := ⟨⟨⟨4, 0, 0⟩, ⟨1, 4, 0⟩, ⟨3/2, 0, 4⟩⟩, ⟨0, 0, 0⟩⟩
    let p0 : V3 ℚ := ⟨0, 0, 0⟩
    let p1 : V3 ℚ := ⟨13/2, 4, 4⟩
    withinTiltLimits b ∧ M3.det b.vects ≠ 0 ∧ InCell b p0 ∧ InCell b p1 ∧
    ¬ (2 * (|V3.dot b.vects.r0 b.vects.r1| + |V3.dot b.vects.r0 b.vects.r2|) ≤ V3.normSq b.vects.r0) ∧
    Shift.respects (-2, 0, 0) true false false ∧
    V3.normSq ((p1 - p0) + latticeVec b.vects (-2, 0, 0)) < V3.normSq (dvect b.vects true false false p0 p1) := by
  decide +kernel

end Atomman.C02
