/-
  C14, plane and vector indices at the entry of `free_surface_basis` and in `FreeSurface.uvws`, on the model and `C14_Cart`: the form
  of `hkl` (`hklForm_refuses_iff`, `hklForm_default`), `planeOf` / `plane4to3`, the centring matrices (`c2p_det`), the
  vectors re-expressed in the conventional cell (`zone_conventional`, `p2c_c2p`), the Miller-Bravais output (`vector3to4_spec`).
-/
import Proofs.C14_Cart
import Mathlib.Tactic.FieldSimp

namespace Atomman.C14
open Atomman

/-- `hklForm` refuses exactly: four indices with a non-hexagonal box, Miller-Bravais output requested for a
    non-hexagonal box, or a number of indices other than 3 or 4; the refusal is a ValueError. -/
theorem hklForm_refuses_iff (len : ℕ) (hex : Bool) (rh : Option Bool) (e : String) :
    hklForm len hex rh = .error e ↔
      e = "value" ∧ ((len = 4 ∧ hex = false) ∨ (len = 3 ∧ rh = some true ∧ hex = false) ∨ (len ≠ 3 ∧ len ≠ 4)) := by
  unfold hklForm
  rcases rh with _ | _ | _ <;> cases hex <;> by_cases h4 : len = 4 <;> by_cases h3 : len = 3 <;>
    simp_all <;> exact eq_comm

/-- without `return_hexagonal` the output form follows the input form; an explicit value wins on a hexagonal box. -/
theorem hklForm_default (hex : Bool) (rh : Option Bool) :
    hklForm 3 hex none = .ok (false, false) ∧ hklForm 4 true none = .ok (true, true) ∧
    hklForm 4 true rh = .ok (rh.getD true, true) ∧ hklForm 3 true rh = .ok (rh.getD false, false) := by
  rcases rh with _ | _ | _ <;> cases hex <;> simp [hklForm]

/-- what `planeOf` accepts: three indices as they are, or four indices with `h + k + i = 0` (then `(h, k, l)`). -/
theorem planeOf_spec (idx : List ℤ) (conv : Bool) (hkl : IV) :
    planeOf idx conv = .ok hkl ↔
      (conv = false ∧ idx = [hkl.x, hkl.y, hkl.z]) ∨
      (conv = true ∧ ∃ i, idx = [hkl.x, hkl.y, i, hkl.z] ∧ hkl.x + hkl.y + i = 0) := by
  obtain ⟨x, y, z⟩ := hkl
  unfold planeOf plane4to3
  constructor
  · intro h
    split at h
    · split at h
      · rename_i v hv
        split at hv
        · simp only [Option.some.injEq] at hv; subst hv
          simp only [Except.ok.injEq, V3.mk.injEq] at h
          obtain ⟨rfl, rfl, rfl⟩ := h
          exact Or.inr ⟨rfl, _, rfl, by assumption⟩
        · cases hv
      · cases h
    · simp only [Except.ok.injEq, V3.mk.injEq] at h
      obtain ⟨rfl, rfl, rfl⟩ := h
      exact Or.inl ⟨rfl, rfl⟩
    · cases h
  · rintro (⟨rfl, rfl⟩ | ⟨rfl, i, rfl, hi⟩)
    · rfl
    · simp only [hi, if_true]

/-- `plane4to3` accepts exactly `h + k + i = 0` and drops `i`. -/
theorem plane4to3_spec (h k i l : ℤ) :
    (h + k + i = 0 → plane4to3 h k i l = some ⟨h, k, l⟩) ∧ (h + k + i ≠ 0 → plane4to3 h k i l = none) := by
  unfold plane4to3
  constructor <;> intro h0 <;> simp [h0]

/-- the four-index output `[u v t w]` of a three-index vector has `u + v + t = 0` and converts back
    (`vector4to3`: `[2u+v, 2v+u, w]`) to the three-index vector it came from. -/
theorem vector3to4_spec (v : IV) :
    ∃ U W T Z : ℚ, vector3to4 v = [U, W, T, Z] ∧ U + W + T = 0 ∧
      2 * U + W = v.x ∧ 2 * W + U = v.y ∧ Z = v.z := by
  refine ⟨_, _, _, _, rfl, ?_, ?_, ?_, rfl⟩
  · ring
  · push_cast; ring
  · push_cast; ring

/-- every centring matrix of `miller.vector_conventional_to_primitive` has a positive determinant (the values are the
    numbers of lattice points of the conventional cell, 1, 2, 2, 2, 2, 4, 3, 3; the statement is positivity only). -/
theorem c2p_det (s : String) (L : M3 Int) (h : c2p s = some L) : 0 < M3.det L := by
  unfold c2p at h
  split at h <;> first | (cases h; decide) | cases h

theorem adj_one : adj (⟨⟨1, 0, 0⟩, ⟨0, 1, 0⟩, ⟨0, 0, 1⟩⟩ : M3 Int) = ⟨⟨1, 0, 0⟩, ⟨0, 1, 0⟩, ⟨0, 0, 1⟩⟩ := by decide

/-- `FreeSurface.uvws` (the vectors re-expressed in the conventional cell, `vector_primitive_to_conventional`):
    the zone-law expression in those — possibly fractional — indices is the integer one divided by `det L`. -/
theorem zone_conventional (hkl : IV) (L : M3 Int) (hL : M3.det L ≠ 0) (u : IV) :
    (hkl.x : ℚ) * (p2cRat L u).x + (hkl.y : ℚ) * (p2cRat L u).y + (hkl.z : ℚ) * (p2cRat L u).z
      = ((V3.dot hkl (M3.vecMul u (adj L)) : ℤ) : ℚ) / ((M3.det L : ℤ) : ℚ) ∧
    ((hkl.x : ℚ) * (p2cRat L u).x + (hkl.y : ℚ) * (p2cRat L u).y + (hkl.z : ℚ) * (p2cRat L u).z = 0
      ↔ V3.dot hkl (M3.vecMul u (adj L)) = 0) := by
  have hd : ((M3.det L : ℤ) : ℚ) ≠ 0 := by exact_mod_cast hL
  have e : (hkl.x : ℚ) * (p2cRat L u).x + (hkl.y : ℚ) * (p2cRat L u).y + (hkl.z : ℚ) * (p2cRat L u).z
      = ((V3.dot hkl (M3.vecMul u (adj L)) : ℤ) : ℚ) / ((M3.det L : ℤ) : ℚ) := by
    simp only [p2cRat, V3.dot]
    push_cast
    field_simp
  refine ⟨e, ?_⟩
  rw [e, div_eq_zero_iff]
  constructor
  · rintro (h | h)
    · exact_mod_cast h
    · exact absurd h hd
  · intro h; left; exact_mod_cast h

/-- the conventional indices times the centring matrix give back the primitive ones: `p2c(u)·L = u`. -/
theorem p2c_c2p (L : M3 Int) (hL : M3.det L ≠ 0) (u : IV) :
    M3.vecMul (p2cRat L u) (⟨⟨L.r0.x, L.r0.y, L.r0.z⟩, ⟨L.r1.x, L.r1.y, L.r1.z⟩, ⟨L.r2.x, L.r2.y, L.r2.z⟩⟩ : M3 ℚ)
      = ⟨(u.x : ℚ), (u.y : ℚ), (u.z : ℚ)⟩ := by
  have hd : ((M3.det L : ℤ) : ℚ) ≠ 0 := by exact_mod_cast hL
  -- `p2c(u) = (u · adj L) / det L`, and `(u · adj L) · L = det L · u` over the integers
  have hp : p2cRat L u = V3.smul (((M3.det L : ℤ) : ℚ))⁻¹ (toK (M3.vecMul u (adj L))) := by
    simp only [p2cRat, V3.smul, toK, div_eq_inv_mul]
  show M3.vecMul (p2cRat L u) (castM L) = toK u
  rw [hp, M3.vecMul_smul, ← toK_vecMul, vecMul_adj, toK_smul]
  rw [V3.smul_smul, inv_mul_cancel₀ hd, V3.one_smul]

end Atomman.C14
