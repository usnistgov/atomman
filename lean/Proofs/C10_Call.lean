/-
  C10 — helper lemmas: the argument handling at the top of `Atoms.model` (`resolveCall`): what each call form
  (prop_unit dictionary, prop_name + unit lists, unit list alone, prop_name alone, nothing) resolves to, and the
  documented refusals.
-/
import Proofs.C10_Lemmas

namespace Atomman.C10
open Atomman
variable {K : Type}

theorem zip_none (l : List String) : l.zip (l.map fun _ => (none : Option String)) = l.map fun n => (n, none) := by
  simpa using List.zip_map' (f := id) (g := fun _ => (none : Option String)) (l := l)

/-- `prop_name=names, unit=units` (distinct names, equal lengths) is the dictionary
    `zip(names, units)`, in the order of `names`. -/
theorem resolveCall_lists (own names : List String) (units : List (Option String)) (hn : names.Nodup)
    (hl : units.length = names.length) :
    resolveCall own (some names) (some units) none = some (names.zip units) := by
  have h := foldl_dictSet ([] : List (String × Option String)) (names.zip units)
    (by simpa [List.map_fst_zip (Nat.le_of_eq hl.symm)] using hn)
  simp only [resolveCall, Option.getD_some, hl, if_true, h, List.nil_append]

/-- the `unit` list given WITHOUT `prop_name` is aligned with the object's own
    properties, in their own order — it is not ignored. -/
theorem resolveCall_unit_alone (own : List String) (units : List (Option String)) (hn : own.Nodup)
    (hl : units.length = own.length) :
    resolveCall own none (some units) none = some (own.zip units) := by
  have h := resolveCall_lists own own units hn hl
  simpa [resolveCall] using h

/-- `prop_name` alone: every named property, no unit (`pos` then gets the default angstrom, `effUnit`). -/
theorem resolveCall_names_alone (own names : List String) (hn : names.Nodup) :
    resolveCall own (some names) none none = some (names.map (fun n => (n, none))) := by
  have h := resolveCall_lists own names (names.map (fun _ => none)) hn (by simp)
  rw [zip_none] at h
  rw [← h]
  simp [resolveCall]

/-- no argument at all: every property of the object, in its own order, no unit. -/
theorem resolveCall_default (own : List String) (hn : own.Nodup) :
    resolveCall own none none none = some (own.map (fun n => (n, none))) := by
  have h := resolveCall_names_alone own own hn
  simpa [resolveCall] using h

/-- the `prop_unit` dictionary alone is taken as it is. -/
theorem resolveCall_dict (own : List String) (pu : List (String × Option String)) :
    resolveCall own none none (some pu) = some pu := rfl

/-- the documented refusals: `prop_unit` together with `prop_name` or `unit` … -/
theorem resolveCall_refuses (own : List String) (pn : Option (List String)) (un : Option (List (Option String)))
    (pu : List (String × Option String)) (h : pn ≠ none ∨ un ≠ none) :
    resolveCall own pn un (some pu) = none := by
  cases pn <;> cases un <;> simp_all [resolveCall]

/-- … and `prop_name` / `unit` lists of different lengths (also the bare `unit` list against the object's own names). -/
theorem resolveCall_refuses_length (own : List String) (pn : Option (List String)) (units : List (Option String))
    (h : units.length ≠ (pn.getD own).length) : resolveCall own pn (some units) none = none := by
  simp [resolveCall, h]

/-- the call forms that name `names` with `units` — the two lists, the dictionary, the bare `unit` list when the names are
    the object's own, and, when no unit is asked for, `prop_name` alone and no argument — resolve alike; stated for an
    arbitrary continuation `W` of the resolved dictionary, so that `Atoms.model` and `System.model` are instances. -/
theorem resolveCall_forms {β : Type} (W : List (String × Option String) → Option β) (own names : List String)
    (units : List (Option String)) (hn : names.Nodup) (hl : units.length = names.length) :
    (resolveCall own (some names) (some units) none).bind W = W (names.zip units) ∧
    (resolveCall own none none (some (names.zip units))).bind W = W (names.zip units) ∧
    (names = own → (resolveCall own none (some units) none).bind W = W (names.zip units)) ∧
    ((∀ u ∈ units, u = none) →
      (resolveCall own (some names) none none).bind W = W (names.zip units) ∧
      (names = own → (resolveCall own none none none).bind W = W (names.zip units))) := by
  refine ⟨by rw [resolveCall_lists own names units hn hl]; rfl, rfl, ?_, fun h => ?_⟩
  · rintro rfl
    rw [resolveCall_unit_alone names units hn hl]; rfl
  · have hu : units = names.map (fun _ => none) :=
      List.ext_getElem (by simpa using hl) fun i h1 _ => by simp [h _ (List.getElem_mem h1)]
    rw [hu, zip_none, resolveCall_names_alone own names hn]
    refine ⟨rfl, ?_⟩
    rintro rfl
    rw [resolveCall_default names hn]; rfl

end Atomman.C10
