/-
  C18 — `GammaSurface`: the selection window of `fit` on the 3 x 3 tiling, the wraps of `E_gsf` / `delta`, the blend;
  periodicity, reproduction of the input at the sampled shifts, energy scale, many points in one call.
-/
import Proofs.C18_Lemmas
import Mathlib.Algebra.Order.Floor.Ring

namespace Atomman.C18
open Atomman
set_option linter.unusedSectionVars false

variable {K : Type} [Field K] [LinearOrder K] [IsStrictOrderedRing K]

theorem cushion?_ne_none (vals : List K) (h : vals ≠ []) : cushion? vals ≠ none := by
  unfold cushion?
  cases hm : maxOf vals with
  | none => exact absurd (maxOf_eq_none vals hm) h
  | some m => simp

-- the two halves of `node_mem`: the window of an accepted fit starts below 0 and reaches every tiled coordinate that is `≤ 1`,
-- so a tiled node with both coordinates in `[0, 1]` lies in it
theorem lowBound_neg (vals : List K) (lo : K) (h : lowBound vals = some lo) : lo < 0 := by
  unfold lowBound at h
  split at h
  · cases h
  · rename_i z0 hz
    split at h
    · cases h
    · rename_i p hp
      obtain rfl := Option.some.inj h
      have hz1 := (List.mem_filter.mp (minOf_spec _ _ hz).1).2
      have hp1 : p < z0 := of_decide_eq_true (List.mem_filter.mp (maxOf_spec _ _ hp).1).2
      rw [isclose_iff, sub_zero, abs_zero, mul_zero, add_zero] at hz1
      linarith [(abs_le.mp hz1).2]

theorem highBound_ge (vals : List K) (hi : K) (h : highBound vals = some hi) (v : K) (hv : v ∈ vals)
    (hv1 : v ≤ 1) : v ≤ hi := by
  unfold highBound at h
  split at h
  · cases h
  · rename_i o1 ho
    split at h
    · cases h
    · rename_i s hs
      obtain rfl := Option.some.inj h
      obtain ⟨ho1, homax⟩ := maxOf_spec _ _ ho
      have hs1 : o1 < s := of_decide_eq_true (List.mem_filter.mp (minOf_spec _ _ hs).1).2
      have hta := tolA_pos (K := K)
      by_cases hc : isclose v 1 = true
      · linarith [homax v (List.mem_filter.mpr ⟨hv, hc⟩)]
      · -- `v` is further than the tolerance below 1, and `o1` is within it
        have hoc := (List.mem_filter.mp ho1).2
        rw [isclose_iff, abs_one, mul_one] at hc hoc
        rw [abs_sub_comm, abs_of_nonneg (sub_nonneg.mpr hv1)] at hc
        linarith [(abs_le.mp hoc).1]

theorem mem_tile (S : List (Node K)) (s : Node K) (hs : s ∈ S) (o : Int × Int) (ho : o ∈ tileOffsets) :
    shiftNode o s ∈ tile S := by
  unfold tile
  exact List.mem_flatMap.mpr ⟨o, ho, List.mem_map.mpr ⟨s, hs, rfl⟩⟩

theorem window?_eq_some (T : List (Node K)) (w : Window K) (h : window? T = some w) :
    lowBound (T.map (·.a1)) = some w.lo1 ∧ highBound (T.map (·.a1)) = some w.hi1 ∧
    lowBound (T.map (·.a2)) = some w.lo2 ∧ highBound (T.map (·.a2)) = some w.hi2 := by
  unfold window? at h
  simp only at h
  split at h
  · obtain rfl := Option.some.inj h
    exact ⟨‹_›, ‹_›, ‹_›, ‹_›⟩
  · cases h

theorem node_mem (D N : List (Node K)) (hN : fitNodes? D = some N) (s : Node K) (hs : s ∈ shortData D)
    (o : Int × Int) (ho : o ∈ tileOffsets)
    (h1 : 0 ≤ s.a1 + (o.1 : K)) (h1' : s.a1 + (o.1 : K) ≤ 1)
    (h2 : 0 ≤ s.a2 + (o.2 : K)) (h2' : s.a2 + (o.2 : K) ≤ 1) : shiftNode o s ∈ N := by
  unfold fitNodes? at hN
  simp only at hN
  split at hN
  · cases hN
  · rename_i w hw
    obtain rfl := Option.some.inj hN
    obtain ⟨l1, u1, l2, u2⟩ := window?_eq_some _ w hw
    have hT := mem_tile (shortData D) s hs o ho
    have a := lowBound_neg _ _ l1
    have b := lowBound_neg _ _ l2
    have c := highBound_ge _ _ u1 (shiftNode o s).a1 (List.mem_map.mpr ⟨_, hT, rfl⟩) h1'
    have d := highBound_ge _ _ u2 (shiftNode o s).a2 (List.mem_map.mpr ⟨_, hT, rfl⟩) h2'
    simp only [List.mem_filter, hT, Window.mem, Bool.and_eq_true, decide_eq_true_eq, true_and]
    exact ⟨⟨⟨a.le.trans h1, c⟩, b.le.trans h2⟩, d⟩

theorem tileOffsets_mem (i j : Int) (hi : i = 0 ∨ i = 1) (hj : j = 0 ∨ j = 1) : (i, j) ∈ tileOffsets := by
  rcases hi with rfl | rfl <;> rcases hj with rfl | rfl <;> decide

theorem wgt_of_le (c a : K) (h : c ≤ a) : wgt c a = 1 := if_neg (not_lt.mpr h)

/-- the blend returns `e` when each coordinate either has weight 1 or satisfies a condition (`P1`, `P2`) under which the
    neighbouring samples are `e` as well: the weights of each coordinate sum to 1. -/
theorem evalE_eq_of_samples (f : K → K → K) (c1 c2 a1 a2 e : K) (P1 P2 : Prop)
    (hx : wgt c1 a1 = 1 ∨ P1) (hy : wgt c2 a2 = 1 ∨ P2) (k00 : f a1 a2 = e) (k01 : P2 → f a1 (a2 + 1) = e)
    (k10 : P1 → f (a1 + 1) a2 = e) (k11 : P1 → P2 → f (a1 + 1) (a2 + 1) = e) : evalE f c1 c2 a1 a2 = e := by
  simp only [evalE]
  rcases hx with hx | h1 <;> rcases hy with hy | h2
  · rw [hx, hy, k00]; ring
  · rw [hx, k00, k01 h2]; ring
  · rw [hy, k00, k10 h1]; ring
  · rw [k00, k01 h2, k10 h1, k11 h1 h2]; ring

/-- the offsets the blend reads at a coordinate `a ∈ [0, 1]`: 0, and 1 when `a = 0`; the shifted coordinate stays in `[0, 1]`. -/
theorem blend_offset (a : K) (i : Int) (h0 : 0 ≤ a) (h1 : a ≤ 1) (hi : i = 0 ∨ (i = 1 ∧ a = 0)) :
    (i = 0 ∨ i = 1) ∧ 0 ≤ a + (i : K) ∧ a + (i : K) ≤ 1 := by
  rcases hi with rfl | ⟨rfl, rfl⟩
  · exact ⟨Or.inl rfl, by simpa using h0, by simpa using h1⟩
  · exact ⟨Or.inr rfl, by simp, by simp⟩

/-- the tiled copy of a sample `s` at an offset the blend reads is a node of the fit, so `f` returns the datum there. -/
theorem fit_reproduces (D N : List (Node K)) (f : K → K → K) (hN : fitNodes? D = some N) (hf : ∀ n ∈ N, f n.a1 n.a2 = n.e)
    (s : Node K) (hs : s ∈ shortData D) (h1 : 0 ≤ s.a1 ∧ s.a1 ≤ 1) (h2 : 0 ≤ s.a2 ∧ s.a2 ≤ 1) (i j : Int)
    (hi : i = 0 ∨ (i = 1 ∧ s.a1 = 0)) (hj : j = 0 ∨ (j = 1 ∧ s.a2 = 0)) : f (s.a1 + (i : K)) (s.a2 + (j : K)) = s.e := by
  obtain ⟨mi, li, ui⟩ := blend_offset s.a1 i h1.1 h1.2 hi
  obtain ⟨mj, lj, uj⟩ := blend_offset s.a2 j h2.1 h2.2 hj
  exact hf _ (node_mem D N hN s hs (i, j) (tileOffsets_mem i j mi mj) li ui lj uj)

section floor
variable [FloorRing K]

theorem wrap_add_int (c a : K) (n : Int) : wrap Int.floor c (a + n) = wrap Int.floor c a := by
  unfold wrap
  have : a + n + c = a + c + n := by ring
  rw [this, Int.floor_add_intCast]; push_cast; ring

theorem wrap_range (c a : K) : -c ≤ wrap Int.floor c a ∧ wrap Int.floor c a < 1 - c := by
  unfold wrap
  have h1 := Int.floor_le (a + c)
  have h2 := Int.lt_floor_add_one (a + c)
  constructor <;> linarith

/-- uniqueness of the wrap: any `r` that differs from the query by an integer and lies in `[-c, 1-c)` is the
    model's `wrap`, so any other way of reducing into the window (a loop of ±1 steps, say) agrees with
    `wrap_cushion`. -/
theorem wrap_loop_spec (c a r : K) (n : Int) (h : r = a - n) (h1 : -c ≤ r) (h2 : r < 1 - c) :
    r = wrap Int.floor c a := by
  unfold wrap
  have : Int.floor (a + c) = n := by
    rw [Int.floor_eq_iff]; constructor <;> linarith
  rw [this, h]

theorem wrap_of_mem (c a : K) (h1 : -c ≤ a) (h2 : a < 1 - c) : wrap Int.floor c a = a :=
  (wrap_loop_spec c a a 0 (by rw [Int.cast_zero, sub_zero]) h1 h2).symm

/-- **periodic in both shift vectors**, for every interpolant `f`, every cushion, every integer period. -/
theorem E_periodic (f : K → K → K) (c1 c2 a1 a2 : K) (n m : Int) :
    E Int.floor f c1 c2 (a1 + n) (a2 + m) = E Int.floor f c1 c2 a1 a2 := by
  unfold E
  rw [wrap_add_int, wrap_add_int]

/-- **reproduces the input at the sampled shifts**: if the interpolant reproduces the tiled data at the
    tiled nodes of the fit (`hf`; what scipy's Rbf with `smooth = 0` does), and the blend strip `[-c, c)`
    holds no sampled coordinate other than 0 (`hgrid`; for a uniform grid `k/n` it holds with the cushion `1/(2n)`, see
    `hgrid_of_uniform`), then `E` at a sampled shift is the datum: in the strip the four blended values
    are equal and the weights sum to 1. -/
theorem E_interpolates (D N : List (Node K)) (f : K → K → K) (c1 c2 : K)
    (hN : fitNodes? D = some N) (hf : ∀ n ∈ N, f n.a1 n.a2 = n.e)
    (hc1 : 0 ≤ c1) (hc2 : 0 ≤ c2)
    (hgrid : ∀ s ∈ shortData D, ((s.a1 = 0 ∨ c1 ≤ s.a1) ∧ s.a1 < 1 - c1) ∧ ((s.a2 = 0 ∨ c2 ≤ s.a2) ∧ s.a2 < 1 - c2))
    (s : Node K) (hs : s ∈ shortData D) :
    E Int.floor f c1 c2 s.a1 s.a2 = s.e := by
  obtain ⟨⟨g1, g1'⟩, ⟨g2, g2'⟩⟩ := hgrid s hs
  have p1 : 0 ≤ s.a1 := g1.elim (fun h => h.ge) hc1.trans
  have p2 : 0 ≤ s.a2 := g2.elim (fun h => h.ge) hc2.trans
  have key := fit_reproduces D N f hN hf s hs ⟨p1, (g1'.trans_le (sub_le_self 1 hc1)).le⟩ ⟨p2, (g2'.trans_le (sub_le_self 1 hc2)).le⟩
  have k00 := key 0 0 (Or.inl rfl) (Or.inl rfl)
  have k01 := fun h => key 0 1 (Or.inl rfl) (Or.inr ⟨rfl, h⟩)
  have k10 := fun h => key 1 0 (Or.inr ⟨rfl, h⟩) (Or.inl rfl)
  have k11 := fun h h' => key 1 1 (Or.inr ⟨rfl, h⟩) (Or.inr ⟨rfl, h'⟩)
  simp only [Int.cast_zero, add_zero, Int.cast_one] at k00 k01 k10 k11
  rw [E, wrap_of_mem c1 s.a1 ((neg_nonpos.mpr hc1).trans p1) g1', wrap_of_mem c2 s.a2 ((neg_nonpos.mpr hc2).trans p2) g2']
  -- off the strip (`c ≤ a`) the weight is 1; in it the coordinate is 0 and the neighbouring copy is a node as well
  exact evalE_eq_of_samples f c1 c2 s.a1 s.a2 s.e (s.a1 = 0) (s.a2 = 0) (g1.symm.imp_left (wgt_of_le c1 s.a1))
    (g2.symm.imp_left (wgt_of_le c2 s.a2)) k00 k01 k10 k11

/-- the duplicated edge `a1 = 1` (dropped from the fit) is reproduced through periodicity. -/
theorem E_interpolates_edge (D N : List (Node K)) (f : K → K → K) (c1 c2 : K)
    (hN : fitNodes? D = some N) (hf : ∀ n ∈ N, f n.a1 n.a2 = n.e)
    (hc1 : 0 ≤ c1) (hc2 : 0 ≤ c2)
    (hgrid : ∀ s ∈ shortData D, ((s.a1 = 0 ∨ c1 ≤ s.a1) ∧ s.a1 < 1 - c1) ∧ ((s.a2 = 0 ∨ c2 ≤ s.a2) ∧ s.a2 < 1 - c2))
    (s : Node K) (hs : s ∈ shortData D) (n m : Int) :
    E Int.floor f c1 c2 (s.a1 + n) (s.a2 + m) = s.e := by
  rw [E_periodic]; exact E_interpolates D N f c1 c2 hN hf hc1 hc2 hgrid s hs

/-- a uniform grid `k/n` satisfies `hgrid` for the cushion `1/(2n)`; that this is the coded cushion `(1 - (n-1)/n)/2` of the grid
    is not part of the statement, whose last clause only says that `cushion?` is defined on it. -/
theorem hgrid_of_uniform (n k : Nat) (hn : 0 < n) (hk : k < n) :
    ((((k : K) / n = 0) ∨ (1 : K) / (2 * n) ≤ (k : K) / n) ∧ (k : K) / n < 1 - 1 / (2 * n))
    ∧ cushion? ((List.range n).map (fun i => ((i : Nat) : K) / n)) ≠ none := by
  have hn' : (0 : K) < n := Nat.cast_pos.mpr hn
  refine ⟨⟨?_, ?_⟩, cushion?_ne_none _ ?_⟩
  · rcases Nat.eq_zero_or_pos k with h | h
    · left; rw [h, Nat.cast_zero, zero_div]
    · right
      have hk1 : (1 : K) ≤ k := Nat.one_le_cast.mpr h
      rw [← div_div, div_le_div_iff_of_pos_right hn']
      exact (half_le_self zero_le_one).trans hk1
  · have hk1 : ((k + 1 : Nat) : K) ≤ n := Nat.cast_le.mpr hk
    rw [lt_sub_iff_add_lt, ← div_div, ← add_div, div_lt_one hn']
    rw [Nat.cast_succ] at hk1
    exact (add_lt_add_right one_half_lt_one _).trans_le hk1
  · simp only [ne_eq, List.map_eq_nil_iff, List.range_eq_nil]
    exact hn.ne'

theorem wrapN_of_mem (a : K) (h0 : 0 ≤ a) (h1 : a ≤ 1) : wrapN Int.floor Int.ceil a = a := by
  unfold wrapN
  rw [if_neg (not_lt.mpr h1), if_neg (not_lt.mpr h0)]

theorem wrapN_eq_fract (a : K) (h : ∀ z : Int, a ≠ z) : wrapN Int.floor Int.ceil a = Int.fract a := by
  have hc : Int.ceil a = Int.floor a + 1 :=
    (Int.ceil_eq_floor_add_one_iff_notMem a).mpr (fun ⟨z, hz⟩ => h z hz.symm)
  unfold wrapN
  split_ifs with h1 h0
  · rw [hc, add_sub_cancel_right]; rfl
  · rfl
  · -- `0 ≤ a ≤ 1` off the lattice: `0 ≤ a < 1`
    have h1' : a < 1 := lt_of_le_of_ne (not_lt.mp h1) (by simpa using h 1)
    exact (Int.fract_eq_self.mpr ⟨not_lt.mp h0, h1'⟩).symm

theorem wrapN_add_int (a : K) (n : Int) (h : ∀ z : Int, a ≠ z) :
    wrapN Int.floor Int.ceil (a + n) = wrapN Int.floor Int.ceil a := by
  have h' : ∀ z : Int, a + n ≠ z := fun z e => h (z - n) (by rw [Int.cast_sub]; exact eq_sub_of_add_eq e)
  rw [wrapN_eq_fract _ h', wrapN_eq_fract _ h, Int.fract_add_intCast]

/-- `delta` is periodic at every query that is not on a lattice line (on the lines `a = n` the
    code evaluates the interpolant at 0 or at 1 depending on the side the query came from, which agree only
    as far as the interpolant is periodic there: not a theorem, see docs/C18.md). -/
theorem delta_periodic_offlattice (f : K → K → K) (a1 a2 : K) (n m : Int)
    (h1 : ∀ z : Int, a1 ≠ z) (h2 : ∀ z : Int, a2 ≠ z) :
    deltaEval Int.floor Int.ceil f (a1 + n) (a2 + m) = deltaEval Int.floor Int.ceil f a1 a2 := by
  rw [deltaEval, wrapN_add_int a1 n h1, wrapN_add_int a2 m h2, deltaEval]

/-- `delta` reproduces its input at the sampled shifts (coordinates in `[0, 1]`). -/
theorem delta_interpolates (D N : List (Node K)) (f : K → K → K)
    (hN : fitNodes? D = some N) (hf : ∀ n ∈ N, f n.a1 n.a2 = n.e)
    (s : Node K) (hs : s ∈ shortData D) (h1 : 0 ≤ s.a1 ∧ s.a1 ≤ 1) (h2 : 0 ≤ s.a2 ∧ s.a2 ≤ 1) :
    deltaEval Int.floor Int.ceil f s.a1 s.a2 = s.e := by
  rw [deltaEval, wrapN_of_mem _ h1.1 h1.2, wrapN_of_mem _ h2.1 h2.2]
  simpa using fit_reproduces D N f hN hf s hs h1 h2 0 0 (Or.inl rfl) (Or.inl rfl)

end floor

/-- the blend is linear in the data: energies multiplied by any factor `s` (another unit of energy) give `s` times
    the value; wrap, cushion and weights do not see the energy scale. -/
theorem E_scale [FloorRing K] (s : K) (f : K → K → K) (c1 c2 a1 a2 : K) :
    E Int.floor (fun a b => s * f a b) c1 c2 a1 a2 = s * E Int.floor f c1 c2 a1 a2 := by
  simp only [E, evalE]; ring

theorem EMany_length (fl : K → Int) (f : K → K → K) (c1 c2 : K) (qs : List (K × K)) :
    (EMany fl f c1 c2 qs).length = qs.length := by
  simp [EMany]

/-- one call with n points is, point by point, the n single-point calls, for every number of points. -/
theorem EMany_pointwise (fl : K → Int) (f : K → K → K) (c1 c2 : K) (qs : List (K × K)) (i : Nat) :
    (EMany fl f c1 c2 qs)[i]? = (qs[i]?).map (fun q => E fl f c1 c2 q.1 q.2) := by
  simp [EMany]

/-- evaluating consecutive blocks of points (of any sizes) and joining the answers is the one call on the joined blocks; a blocked
    evaluation that leaves points over after the last full block is therefore not of this form. -/
theorem EMany_blocks (fl : K → Int) (f : K → K → K) (c1 c2 : K) (blocks : List (List (K × K))) :
    EMany fl f c1 c2 blocks.flatten = (blocks.map (EMany fl f c1 c2)).flatten := by
  unfold EMany
  rw [List.map_flatten]

theorem EMany_single (fl : K → Int) (f : K → K → K) (c1 c2 a1 a2 : K) :
    EMany fl f c1 c2 [(a1, a2)] = [E fl f c1 c2 a1 a2] := rfl

end Atomman.C18
