/-
  C07 — rendering a document and lexing it again: `lexLine ∘ joinSp`, `splitLines ∘ renderLines`,
  `splitLines ∘ renderJoin`, comment stripping, and the character classes of the tokens the writers emit
  (digits, sign, point, exponent letter).
-/
import Proofs.C07_Lemmas

namespace Atomman.C07
open Atomman
set_option linter.unusedSimpArgs false

/-- a character that can be part of a token of a LAMMPS/VASP text file: no blank, no newline, no `#`. -/
def okChar (c : Char) : Prop := isSpace c = false ∧ c ≠ '\n' ∧ c ≠ '#'

instance (c : Char) : Decidable (okChar c) := by unfold okChar; infer_instance

/-- all characters of a token are plain (the token may be empty). -/
def okChars (t : Tok) : Prop := ∀ c ∈ t, okChar c

def okTok (t : Tok) : Prop := t ≠ [] ∧ okChars t

instance (t : Tok) : Decidable (okChars t) := by unfold okChars; infer_instance

instance (t : Tok) : Decidable (okTok t) := by unfold okTok okChars; infer_instance

theorem newline_not_mem_of_okChars {t : Tok} (h : okChars t) : '\n' ∉ t := fun hc => (h _ hc).2.1 rfl

theorem okChars_nil : okChars [] := fun _ hc => absurd hc List.not_mem_nil

theorem okChars_cons {c : Char} {t : Tok} : okChars (c :: t) ↔ okChar c ∧ okChars t := List.forall_mem_cons

theorem okChars_append {a b : Tok} : okChars (a ++ b) ↔ okChars a ∧ okChars b := List.forall_mem_append

theorem okChar_of_isDigit {c : Char} (h : isDigit c = true) : okChar c := by
  have h1 : 48 ≤ c.toNat ∧ c.toNat ≤ 57 := by simpa [isDigit] using h
  have hne : ∀ d : Char, (d.toNat < 48 ∨ 57 < d.toNat) → c ≠ d := by
    intro d hd e; subst e; omega
  refine ⟨?_, hne '\n' (by decide), hne '#' (by decide)⟩
  simp only [isSpace, Bool.or_eq_false_iff, decide_eq_false_iff_not]
  exact ⟨⟨⟨⟨hne ' ' (by decide), hne '\t' (by decide)⟩, hne '\r' (by decide)⟩, hne '\x0c' (by decide)⟩,
    hne '\x0b' (by decide)⟩

theorem okChars_of_all_isDigit {t : Tok} (h : t.all isDigit = true) : okChars t := by
  intro c hc
  exact okChar_of_isDigit (List.all_eq_true.mp h c hc)

theorem okChars_padDigits (w m : Nat) : okChars (padDigits w m) :=
  okChars_of_all_isDigit (all_isDigit_padDigits w m)

theorem okChars_natTok (m : Nat) : okChars (natTok m) := okChars_of_all_isDigit (all_isDigit_natTok m)

theorem okTok_natTok (m : Nat) : okTok (natTok m) := ⟨natTok_ne_nil m, okChars_natTok m⟩

theorem okTok_intTok (i : Int) : okTok (intTok i) := by
  unfold intTok
  split
  · exact ⟨by simp, okChars_cons.mpr ⟨by decide, okChars_natTok _⟩⟩
  · exact okTok_natTok _

theorem okChars_sign (p : Prop) [Decidable p] : okChars (if p then ['-'] else ([] : Tok)) := by
  split
  · exact okChars_cons.mpr ⟨by decide, okChars_nil⟩
  · exact okChars_nil

theorem okChars_frac (n m : Nat) : okChars (if n = 0 then ([] : Tok) else '.' :: padDigits n m) := by
  split
  · exact okChars_nil
  · exact okChars_cons.mpr ⟨by decide, okChars_padDigits _ _⟩

theorem okTok_fmtFixed (q : ℚ) (n : Nat) : okTok (fmtFixed q n) := by
  unfold fmtFixed
  constructor
  · intro h
    simp only [List.append_eq_nil_iff] at h
    exact natTok_ne_nil _ h.1.2
  · exact okChars_append.mpr ⟨okChars_append.mpr ⟨okChars_sign _, okChars_natTok _⟩, okChars_frac _ _⟩

theorem okChars_expTok (e : Int) : okChars (expTok e) := by
  unfold expTok
  refine okChars_cons.mpr ⟨?_, ?_⟩
  · split <;> decide
  · split
    · exact okChars_cons.mpr ⟨by decide, okChars_natTok _⟩
    · exact okChars_natTok _

theorem okTok_fmtExp (q : ℚ) (n : Nat) : okTok (fmtExp q n) := by
  have he : ∀ e : Int, okChars ('e' :: expTok e) := fun e => okChars_cons.mpr ⟨by decide, okChars_expTok e⟩
  unfold fmtExp
  simp only
  split
  · constructor
    · simp
    · exact okChars_append.mpr
        ⟨okChars_append.mpr ⟨okChars_sign _, okChars_cons.mpr ⟨by decide, okChars_frac _ 0⟩⟩, he 0⟩
  · constructor
    · simp
    · exact okChars_append.mpr ⟨okChars_append.mpr
        ⟨okChars_append.mpr ⟨okChars_sign _, okChars_padDigits _ _⟩, okChars_frac _ _⟩, he _⟩

theorem okTok_fmtNum (f : Fmt) (q : ℚ) : okTok (fmtNum f q) := by
  cases f with
  | fixed n => exact okTok_fmtFixed q n
  | exp n => exact okTok_fmtExp q n

theorem okTok_cellTok (f : Fmt) (c : Cell) : okTok (c.tok f) := by
  cases c with
  | int i => exact okTok_intTok i
  | num q => exact okTok_fmtNum f q

theorem joinSp_cons_cons (t u : Tok) (ts : Line) : joinSp (t :: u :: ts) = t ++ ' ' :: joinSp (u :: ts) := rfl

theorem lexLine_space (cs : List Char) : lexLine (' ' :: cs) = lexLine cs := by
  simp [lexLine, isSpace]

theorem lexLine_tok_append (t : Tok) (hne : t ≠ []) (hok : ∀ c ∈ t, isSpace c = false) (rest : List Char)
    (hr : rest = [] ∨ ∃ r, rest = ' ' :: r) : lexLine (t ++ rest) = t :: lexLine rest := by
  induction t with
  | nil => exact absurd rfl hne
  | cons c t ih =>
    have hc : isSpace c = false := hok c (by simp)
    cases t with
    | nil =>
      rcases hr with rfl | ⟨r, rfl⟩
      · simp [lexLine, hc]
      · simp only [List.cons_append, List.nil_append]
        rw [lexLine]
        simp only [hc, Bool.false_eq_true, if_false]
        have : isSpace ' ' = true := by decide
        simp [this]
    | cons d t' =>
      have hd : isSpace d = false := hok d (by simp)
      have ih' := ih (by simp) (fun x hx => hok x (List.mem_cons_of_mem _ hx))
      simp only [List.cons_append] at ih' ⊢
      rw [lexLine]
      simp only [hc, hd, Bool.false_eq_true, if_false, ih']

theorem lexLine_joinSp_noSpace (l : Line) (h : ∀ t ∈ l, ∀ c ∈ t, isSpace c = false) :
    lexLine (joinSp l) = l.filter (· ≠ []) := by
  induction l with
  | nil => simp [joinSp, lexLine]
  | cons t ts ih =>
    have ht : ∀ c ∈ t, isSpace c = false := h t (by simp)
    have ih' := ih (fun u hu => h u (List.mem_cons_of_mem _ hu))
    cases ts with
    | nil =>
      by_cases he : t = []
      · subst he; simp [joinSp, lexLine]
      · have := lexLine_tok_append t he ht [] (Or.inl rfl)
        simp only [List.append_nil] at this
        simp [joinSp, this, he, lexLine]
    | cons u us =>
      rw [joinSp_cons_cons]
      by_cases he : t = []
      · subst he
        simp only [List.nil_append, lexLine_space, ih']
        simp
      · rw [lexLine_tok_append t he ht _ (Or.inr ⟨_, rfl⟩), lexLine_space, ih']
        simp [he]

theorem lexLine_joinSp (l : Line) (h : ∀ t ∈ l, okChars t) : lexLine (joinSp l) = l.filter (· ≠ []) :=
  lexLine_joinSp_noSpace l fun t ht c hc => (h t ht c hc).1

theorem lexLine_joinSp_words (l : Line) (h : ∀ t ∈ l, t ≠ [] ∧ ∀ c ∈ t, isSpace c = false) :
    lexLine (joinSp l) = l := by
  rw [lexLine_joinSp_noSpace l (fun t ht => (h t ht).2)]
  apply List.filter_eq_self.mpr
  intro t ht
  simpa using (h t ht).1

theorem lexLine_joinSp_ok (l : Line) (h : ∀ t ∈ l, okTok t) : lexLine (joinSp l) = l :=
  lexLine_joinSp_words l fun t ht => ⟨(h t ht).1, fun c hc => ((h t ht).2 c hc).1⟩

theorem mem_joinSp {c : Char} {l : Line} (h : c ∈ joinSp l) : c = ' ' ∨ ∃ t ∈ l, c ∈ t := by
  induction l with
  | nil => simp [joinSp] at h
  | cons t ts ih =>
    cases ts with
    | nil => right; exact ⟨t, by simp, by simpa [joinSp] using h⟩
    | cons u us =>
      rw [joinSp_cons_cons] at h
      rcases List.mem_append.mp h with h | h
      · right; exact ⟨t, by simp, h⟩
      · rcases List.mem_cons.mp h with h | h
        · left; exact h
        · rcases ih h with h | ⟨v, hv, hc⟩
          · left; exact h
          · right; exact ⟨v, List.mem_cons_of_mem _ hv, hc⟩

theorem newline_not_mem_joinSp (l : Line) (h : ∀ t ∈ l, ∀ c ∈ t, c ≠ '\n') : '\n' ∉ joinSp l := by
  intro hm
  rcases mem_joinSp hm with h1 | ⟨t, ht, hc⟩
  · exact absurd h1 (by decide)
  · exact h t ht _ hc rfl

theorem hash_not_mem_joinSp (l : Line) (h : ∀ t ∈ l, okChars t) : '#' ∉ joinSp l := by
  intro hm
  rcases mem_joinSp hm with h1 | ⟨t, ht, hc⟩
  · exact absurd h1 (by decide)
  · exact (h t ht _ hc).2.2 rfl

theorem splitLines_line_nl (l : List Char) (hl : '\n' ∉ l) (rest : List Char) :
    splitLines (l ++ '\n' :: rest) = l :: splitLines rest := by
  induction l with
  | nil => simp [splitLines]
  | cons c cs ih =>
    have hc : c ≠ '\n' := fun e => hl (by simp [e])
    have := ih (fun h => hl (List.mem_cons_of_mem _ h))
    simp only [List.cons_append]
    rw [splitLines, if_neg hc, this]

theorem splitLines_renderLines (d : Doc) (h : ∀ l ∈ d, '\n' ∉ joinSp l) :
    splitLines (renderLines d) = d.map joinSp := by
  induction d with
  | nil => rfl
  | cons l ls ih =>
    rw [renderLines, splitLines_line_nl _ (h l (by simp)), ih (fun m hm => h m (List.mem_cons_of_mem _ hm))]
    rfl

theorem splitLines_last (l : List Char) (hl : '\n' ∉ l) (hne : l ≠ []) : splitLines l = [l] := by
  induction l with
  | nil => exact absurd rfl hne
  | cons c cs ih =>
    have hc : c ≠ '\n' := fun e => hl (by simp [e])
    rw [splitLines, if_neg hc]
    cases cs with
    | nil => simp [splitLines]
    | cons d ds =>
      rw [ih (fun h => hl (List.mem_cons_of_mem _ h)) (by simp)]

/-- `'\n'.join(lines)`: the lines come back provided the last one is not empty. -/
theorem splitLines_renderJoin (d : Doc) (h : ∀ l ∈ d, '\n' ∉ joinSp l) (hlast : ∀ l, d.getLast? = some l → joinSp l ≠ []) :
    splitLines (renderJoin d) = d.map joinSp := by
  induction d with
  | nil => rfl
  | cons l ls ih =>
    cases ls with
    | nil =>
      simp only [renderJoin, List.map_cons, List.map_nil]
      exact splitLines_last _ (h l (by simp)) (hlast l (by simp))
    | cons m ms =>
      have e : renderJoin (l :: m :: ms) = joinSp l ++ '\n' :: renderJoin (m :: ms) := rfl
      rw [e, splitLines_line_nl _ (h l (by simp)),
        ih (fun x hx => h x (List.mem_cons_of_mem _ hx)) (fun x hx => hlast x (by simpa using hx))]
      rfl

set_option linter.unusedVariables false in
theorem ne_hash_of_not_mem {a : List Char} (h : '#' ∉ a) : ∀ c ∈ a, decide (c ≠ '#') = true :=
  fun c hc => decide_eq_true fun e => h (e ▸ hc)

theorem stripComment_of_no_hash (l : List Char) (h : '#' ∉ l) : stripComment l = l := by
  have := List.takeWhile_append_of_pos (l₂ := []) (ne_hash_of_not_mem h)
  simpa [stripComment] using this

theorem stripComment_hash (a b : List Char) (h : '#' ∉ a) : stripComment (a ++ '#' :: b) = a := by
  unfold stripComment
  rw [List.takeWhile_append_of_pos (ne_hash_of_not_mem h)]
  simp [List.takeWhile_cons]

theorem commentOf_hash (a b : List Char) (h : '#' ∉ a) : commentOf (a ++ '#' :: b) = b := by
  unfold commentOf
  rw [List.dropWhile_append_of_pos (ne_hash_of_not_mem h)]
  simp [List.dropWhile_cons]

/-- a rendered line without `#`: the comment rule leaves it alone and lexing returns the non-empty tokens. -/
theorem lex_strip_joinSp (l : Line) (h : ∀ t ∈ l, okChars t) :
    lexLine (stripComment (joinSp l)) = l.filter (· ≠ []) := by
  rw [stripComment_of_no_hash _ (hash_not_mem_joinSp l h), lexLine_joinSp l h]

theorem lex_strip_joinSp_ok (l : Line) (h : ∀ t ∈ l, okTok t) : lexLine (stripComment (joinSp l)) = l := by
  rw [stripComment_of_no_hash _ (hash_not_mem_joinSp l (fun t ht => (h t ht).2)), lexLine_joinSp_ok l h]

theorem lexDoc_renderLines (d : Doc) (h : ∀ l ∈ d, ∀ t ∈ l, okTok t) : lexDoc (renderLines d) = d := by
  unfold lexDoc
  rw [splitLines_renderLines d (fun l hl => newline_not_mem_joinSp l (fun t ht c hc => ((h l hl t ht).2 c hc).2.1)),
    List.map_map]
  conv_rhs => rw [← List.map_id d]
  apply List.map_congr_left
  intro l hl
  exact lexLine_joinSp_ok l (h l hl)

end Atomman.C07
