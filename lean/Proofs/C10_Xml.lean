/-
  C10 — the XML text path and, with it, the statements that hold for both paths: the one-element-list collapse `xmlNorm`
  on written trees, `uc.value_unit` after it (a length-1 vector is read as a scalar, `Squeezes`), how `Atoms(model=…)` undoes
  that by broadcasting, and the round trips for a tree handed to the reader as it is or collapsed (`Encoded`, `RoundTrips`).
  The tree / JSON path is the case `Squeezes.refl`.  In names, `_two` = written under `fac1`, read under `fac2`; `_enc` = both
  encodings in one `RoundTrips` statement; `_nz` (in `Proofs/C10`) = companion with all factors non-zero.
-/
import Proofs.C10_System
import Mathlib.Tactic.FieldSimp
namespace Atomman.C10
variable {K : Type}

theorem xmlNormL_eq_map (l : List (DM K)) : xmlNormL l = l.map xmlNorm := by
  induction l with
  | nil => simp [xmlNormL]
  | cons a l ih => simp [xmlNormL, ih]

theorem xmlNormKV_append (a b : List (String × DM K)) : xmlNormKV (a ++ b) = xmlNormKV a ++ xmlNormKV b := by
  induction a with
  | nil => simp [xmlNormKV]
  | cons x a ih => obtain ⟨k, v⟩ := x; simp [xmlNormKV, ih]

theorem xmlNorm_leaves (l : List (Sc K)) : (l.map DM.leaf).map xmlNorm = l.map DM.leaf := by
  induction l with
  | nil => rfl
  | cons a l ih => simp [xmlNorm, ih] at ih ⊢

/-- a list of leaves after the collapse. -/
def collapse1 (l : List (Sc K)) : DM K :=
  match l with
  | [x] => DM.leaf x
  | _ => DM.list (l.map DM.leaf)

theorem xmlNorm_leafList (l : List (Sc K)) : xmlNorm (DM.list (l.map DM.leaf)) = collapse1 l := by
  rw [xmlNorm, xmlNormL_eq_map, xmlNorm_leaves]
  rcases l with _ | ⟨a, _ | ⟨b, r⟩⟩ <;> simp [collapse1]

theorem xmlNormKV_shapeEntry (sh : List Nat) : xmlNormKV (shapeEntry (K := K) sh) = shapeEntry sh := by
  rcases sh with _ | ⟨n, _ | ⟨m, r⟩⟩
  · simp [shapeEntry, xmlNormKV]
  · simp [shapeEntry, xmlNormKV]
  · simp only [shapeEntry, xmlNormKV]
    have := xmlNorm_leafList (K := K) ((n :: m :: r).map (fun (k : Nat) => (Sc.int (Int.ofNat k) : Sc K)))
    simp only [List.map_cons, collapse1] at this ⊢
    rw [this]

theorem xmlNormKV_unitEntry (u : Option String) : xmlNormKV (unitEntry (K := K) u) = unitEntry u := by
  cases u <;> simp [unitEntry, xmlNormKV, xmlNorm]

theorem xmlNorm_ucNode (v : DM K) (sh : List Nat) (u : Option String) :
    xmlNorm (DM.node (("value", v) :: (shapeEntry sh ++ unitEntry u))) =
      DM.node (("value", xmlNorm v) :: (shapeEntry sh ++ unitEntry u)) := by
  simp [xmlNorm, xmlNormKV, xmlNormKV_append, xmlNormKV_shapeEntry, xmlNormKV_unitEntry]


theorem collapse1_of_ne_singleton (l : List (Sc K)) (h : ∀ x, l ≠ [x]) : collapse1 l = DM.list (l.map DM.leaf) := by
  rcases l with _ | ⟨a, _ | ⟨b, r⟩⟩
  · rfl
  · exact absurd rfl (h a)
  · rfl

section field
variable [Field K]

theorem valueUnit_node_xml (fac : String → K) (sh : List Nat) (units : Option String) (d d' : Data K) (v : DM K)
    (hd : d.length = prodNat sh) (hne : d.length ≠ 0 ∨ ∃ l, d = Data.flt l)
    (hv : valueNode sh d.toScs = some v) (hu : applyUnit fac units d = some d') :
    valueUnit fac (xmlNorm (DM.node (("value", v) :: (shapeEntry sh ++ unitEntry units)))) = some ⟨xmlShape sh, d'⟩ := by
  have hscs := ofScs_toScs d hne
  have hlen := applyUnit_length fac units d d' hu
  rw [xmlNorm_ucNode]
  unfold valueUnit
  rw [node_get_value, node_unitOf, node_get_shape]
  rcases sh with _ | ⟨n, _ | ⟨m, r⟩⟩
  · have h1 : d.toScs.length = 1 := by rw [toScs_length, hd]; rfl
    obtain ⟨x, hx⟩ := List.length_eq_one_iff.mp h1
    rw [hx] at hv hscs
    simp only [valueNode, Option.some.injEq] at hv
    subst hv
    simp [xmlNorm, hscs, hu, xmlShape]
  · simp only [valueNode, Option.some.injEq] at hv
    subst hv
    have hn : d.length = n := by simpa [prodNat] using hd
    rw [xmlNorm_leafList]
    by_cases h1 : n = 1
    · subst h1
      have h1' : d.toScs.length = 1 := by rw [toScs_length, hn]
      obtain ⟨x, hx⟩ := List.length_eq_one_iff.mp h1'
      rw [hx] at hscs
      simp [hx, hscs, hu, xmlShape, collapse1]
    · have hnot : ∀ x, d.toScs ≠ [x] := by
        intro x hx
        have := congrArg List.length hx
        rw [toScs_length, hn] at this
        exact h1 (by simpa using this)
      have hsh : xmlShape [n] = [n] := by simp [xmlShape, h1]
      rw [hsh, collapse1_of_ne_singleton _ hnot]
      simp only [leaves?_map_leaf, hscs, Option.map_some, hu, toScs_length, hn]
  · simp only [valueNode, Option.some.injEq] at hv
    subst hv
    have hsh : xmlShape (n :: m :: r) = n :: m :: r := by simp [xmlShape]
    rw [hsh, xmlNorm_leafList]
    by_cases hone : ∃ x, d.toScs = [x]
    · obtain ⟨x, heq⟩ := hone
      rw [heq] at hscs
      simp only [heq, collapse1, hscs, Option.map_some, hu, leaves?_map_leaf, Option.bind_some, natList?_ofNat, hlen, hd, if_true]
    · rw [collapse1_of_ne_singleton _ (fun x hx => hone ⟨x, hx⟩)]
      simp only [leaves?_map_leaf, hscs, Option.map_some, hu, Option.bind_some, natList?_ofNat, hlen, hd, if_true]

/-- An empty array qualifies when it is a float array: numpy types the empty value list as float, which is what was
    written. -/
theorem valueUnit_model_enc (fac1 fac2 : String → K) (units : Option String) (a : Arr K)
    (hw : a.data.length = prodNat a.shape) (hne : prodNat a.shape ≠ 0 ∨ ∃ l, a.data = Data.flt l)
    (hs : ∀ l, a.data = Data.str l → units = none) :
    ∃ t, ucModel fac1 units a = some t ∧
      valueUnit fac2 t = some ⟨a.shape, a.data.rescale fac1 fac2 units⟩ ∧
      valueUnit fac2 (xmlNorm t) = some ⟨xmlShape a.shape, a.data.rescale fac1 fac2 units⟩ := by
  obtain ⟨dw, h1, h2, h5⟩ := writeData_applyUnit fac1 fac2 units a.data hs
  obtain ⟨v, hv⟩ := valueNode_isSome a.shape dw (by rw [h2, hw])
  have hlen : dw.length = prodNat a.shape := by rw [h2, hw]
  have hne' : dw.length ≠ 0 ∨ ∃ l, dw = Data.flt l := by
    rcases hne with hne | ⟨l, hl⟩
    · exact Or.inl (by rw [hlen]; exact hne)
    · rw [hl] at h1
      cases units <;> cases h1 <;> exact Or.inr ⟨_, rfl⟩
  exact ⟨DM.node (("value", v) :: (shapeEntry a.shape ++ unitEntry units)), by simp only [ucModel, h1, hv],
    valueUnit_node fac2 a.shape units dw _ v hlen hne' hv h5,
    valueUnit_node_xml fac2 a.shape units dw _ v hlen hne' hv h5⟩
end field

theorem Squeezes.refl (p : String × Arr K) : Squeezes p p := ⟨rfl, rfl, Or.inl rfl⟩

theorem squeezes_xmlShape (name : String) (sh : List Nat) (d : Data K) :
    Squeezes (name, ⟨xmlShape sh, d⟩) (name, ⟨sh, d⟩) := by
  refine ⟨rfl, rfl, ?_⟩
  by_cases h : sh = [1]
  · exact Or.inr ⟨h, by simp [xmlShape, h]⟩
  · exact Or.inl (by simp [xmlShape, h])

theorem forall2_squeezes_fst (qs l : List (String × Arr K)) (h : List.Forall₂ Squeezes qs l) :
    qs.map Prod.fst = l.map Prod.fst := by
  induction h with
  | nil => rfl
  | cons h1 _ ih => simp [h1.1, ih]

theorem Squeezes.cases {q p : String × Arr K} (h : Squeezes q p) :
    q = p ∨ ∃ d, p.2 = ⟨[1], d⟩ ∧ q = (p.1, ⟨[], d⟩) := by
  obtain ⟨qn, qs, qd⟩ := q
  obtain ⟨pn, ps, pd⟩ := p
  obtain ⟨hn, hd, hs | ⟨hs1, hs2⟩⟩ := h
  · simp only at hn hd hs; rw [hn, hd, hs]; exact Or.inl rfl
  · simp only at hn hd hs1 hs2; rw [hn, hd, hs1, hs2]; exact Or.inr ⟨_, rfl, rfl⟩

theorem bcast_squeezes (n : Nat) {q p : String × Arr K} (h : Squeezes q p) : bcast n q.2 = bcast n p.2 := by
  rcases h.cases with rfl | ⟨d, hp, rfl⟩
  · rfl
  · rw [hp]; rfl

theorem lookupD_squeezes (k : String) (dflt : Arr K) {qs ps : List (String × Arr K)} (h : List.Forall₂ Squeezes qs ps) :
    Squeezes (k, ((qs.lookup k).getD dflt)) (k, ((ps.lookup k).getD dflt)) := by
  induction h with
  | nil => exact .refl _
  | @cons q p _ _ h1 _ ih =>
    rw [List.lookup_cons, List.lookup_cons, h1.1]
    cases k == p.1 with
    | true => exact ⟨rfl, h1.2⟩
    | false => exact ih

/-- `Atoms.__init__` does not see the difference between a property and its squeezed form: a length-1 vector and a
    scalar count as one atom's worth and broadcast alike. -/
theorem atomsOfProps_squeezes [OfNat K 0] (n : Nat) {qs ps : List (String × Arr K)} (h : List.Forall₂ Squeezes qs ps) :
    atomsOfProps n qs = atomsOfProps n ps := by
  have hrest : mapOpt (fun e : String × Arr K => (bcast n e.2).map (fun a => (e.1, a)))
        (qs.filter (fun e => e.1 != "atype" && e.1 != "pos"))
      = mapOpt (fun e : String × Arr K => (bcast n e.2).map (fun a => (e.1, a)))
        (ps.filter (fun e => e.1 != "atype" && e.1 != "pos")) := by
    induction h with
    | nil => rfl
    | @cons q p _ _ h1 _ ih =>
      rw [List.filter_cons, List.filter_cons, h1.1]
      split
      · simp only [mapOpt, bcast_squeezes n h1, h1.1, ih]
      · exact ih
  have hA := (lookupD_squeezes "atype" ⟨[1], .int [1]⟩ h).cases
  have hP := (lookupD_squeezes "pos" ⟨[1, 3], .flt [0, 0, 0]⟩ h).cases
  unfold atomsOfProps
  simp only [hrest]
  generalize (qs.lookup "atype").getD _ = qa, (ps.lookup "atype").getD _ = pa,
    (qs.lookup "pos").getD _ = qp, (ps.lookup "pos").getD _ = pp at hA hP
  simp only [Prod.mk.injEq, true_and] at hA hP
  -- a scalar `atype` counts as one atom like a length-1 vector; a `pos` of shape `(1,)` or `()` is refused alike
  rcases hA with rfl | ⟨d, rfl, rfl⟩ <;> rcases hP with rfl | ⟨e, rfl, rfl⟩ <;> rfl

section field
variable [Field K]

theorem atomsOfProps_wf (n : Nat) (la : List Int) (lp : List K) (rest : List (String × Arr K))
    (hla : ∀ i ∈ la, 1 ≤ i) (hne : la ≠ [])
    (hnd : ((("atype", (⟨[n], .int la⟩ : Arr K)) :: ("pos", ⟨[n, 3], .flt lp⟩) :: rest).map Prod.fst).Nodup)
    (hsh : ∀ p ∈ rest, ∃ t, p.2.shape = n :: t) :
    atomsOfProps n (("atype", ⟨[n], .int la⟩) :: ("pos", ⟨[n, 3], .flt lp⟩) :: rest)
      = some ⟨n, ("atype", ⟨[n], .int la⟩) :: ("pos", ⟨[n, 3], .flt lp⟩) :: rest⟩ := by
  simp only [List.map_cons, List.nodup_cons, List.mem_cons, not_or] at hnd
  have hfilter : rest.filter (fun e => e.1 != "atype" && e.1 != "pos") = rest := by
    rw [List.filter_eq_self]
    intro e he
    have hmem : e.1 ∈ rest.map Prod.fst := List.mem_map_of_mem he
    have h1 : e.1 ≠ "atype" := fun h => hnd.1.2 (by rw [← h]; exact hmem)
    have h2 : e.1 ≠ "pos" := fun h => hnd.2.1 (by rw [← h]; exact hmem)
    simp [h1, h2]
  have hrest : mapOpt (fun e : String × Arr K => (bcast n e.2).map (fun a => (e.1, a))) rest = some rest :=
    (mapOpt_map_some _ id rest fun p hp => by
      obtain ⟨t, ht⟩ := hsh p hp
      rw [bcast_self n p.2 t ht]; rfl).trans (by rw [List.map_id])
  obtain ⟨i, l, rfl⟩ := List.exists_cons_of_ne_nil hne
  have hmin : ¬ (l.foldl min i < 1) := by
    have := foldl_min_ge l i (hla i (by simp)) (fun j hj => hla j (by simp [hj]))
    omega
  have hb1 := bcast_self n (⟨[n], .int (i :: l)⟩ : Arr K) [] rfl
  have hb2 := bcast_self n (⟨[n, 3], .flt lp⟩ : Arr K) [3] rfl
  simp [atomsOfProps, List.lookup, hfilter, hb1, hb2, hrest, Data.minInt?, hmin]

theorem atomsRead_node (fac : String → K) (kv : List (String × DM K)) (n : Nat) (ps : List (DM K))
    (qs : List (String × Arr K))
    (h : kv.lookup "atoms" = some (DM.node (("natoms", DM.leaf (Sc.int n)) :: appendAll "property" ps)))
    (hread : mapOpt (propRead fac) ps = some qs) :
    atomsRead fac (DM.node kv) = atomsOfProps n (qs.foldl (fun d e => dictSet d e.1 e.2) []) := by
  have hl : (DM.node (("natoms", DM.leaf (Sc.int (n : Int))) :: appendAll "property" ps)).aslist "property" = ps :=
    aslist_of_lookup _ _ _ (by simp [List.lookup]) fun x hx => by
      obtain ⟨q, hq⟩ := mapOpt_some_mem _ _ _ hread x hx
      exact propRead_isList fac x q hq
  simp only [atomsRead, DM.get?, h, hl, hread]
  simp [List.lookup]

/-- `Atoms(model=…)` on a dictionary whose `atoms` entry `Atoms.model` wrote, when the property trees read — exactly or
    squeezed — as the properties of a well-formed `a` taken through `F`: any per-property map that keeps names and shapes,
    leaves `atype` alone and keeps `pos` a float array (a change of units, box-relative coordinates). -/
theorem atomsRead_of_sq (fac2 : String → K) (kv : List (String × DM K)) (a : AtomsM K) (hw : a.Wf)
    (F : String × Arr K → String × Arr K) (ps : List (DM K))
    (ht : kv.lookup "atoms" = some (DM.node (("natoms", DM.leaf (Sc.int a.natoms)) :: appendAll "property" ps)))
    (hfa : List.Forall₂ (fun p x => ∃ q, propRead fac2 x = some q ∧ Squeezes q (F p)) a.props ps)
    (hF : ∀ p ∈ a.props, (F p).1 = p.1 ∧ (F p).2.shape = p.2.shape)
    (hat : ∀ la, F ("atype", ⟨[a.natoms], .int la⟩) = ("atype", ⟨[a.natoms], .int la⟩))
    (hpos : ∀ lp, ∃ lp', F ("pos", ⟨[a.natoms, 3], .flt lp⟩) = ("pos", ⟨[a.natoms, 3], .flt lp'⟩)) :
    atomsRead fac2 (DM.node kv) = some ⟨a.natoms, a.props.map F⟩ := by
  obtain ⟨qs, hread, hsq⟩ := mapOpt_exists_right (propRead fac2) Squeezes _ ps (List.forall₂_map_left_iff.mpr hfa)
  have hnd : ((a.props.map F).map Prod.fst).Nodup := by
    rw [List.map_map, List.map_congr_left (f := Prod.fst ∘ F) (g := Prod.fst) fun p hp => (hF p hp).1]
    exact hw.nodup
  rw [atomsRead_node fac2 kv a.natoms ps qs ht hread,
    foldl_dictSet [] qs (by simpa [forall2_squeezes_fst qs _ hsq] using hnd), List.nil_append,
    atomsOfProps_squeezes a.natoms hsq]
  obtain ⟨la, lp, rest, hprops, hla⟩ := hw.head
  obtain ⟨lp', hlp'⟩ := hpos lp
  have hmap : a.props.map F = ("atype", ⟨[a.natoms], .int la⟩) :: ("pos", ⟨[a.natoms, 3], .flt lp'⟩) :: rest.map F := by
    rw [hprops, List.map_cons, List.map_cons, hat, hlp']
  rw [hmap] at hnd ⊢
  refine atomsOfProps_wf a.natoms la lp' _ hla (atype_nonempty a hw la _ hprops) hnd fun p hp => ?_
  obtain ⟨q, hq, rfl⟩ := List.mem_map.mp hp
  have hq' : q ∈ a.props := by rw [hprops]; simp [hq]
  rw [(hF q hq').2]
  exact (hw.ok q hq').1

end field

theorem xmlNormKV_appendAll (k : String) (l : List (DM K)) :
    xmlNormKV (appendAll k l) = appendAll k (l.map xmlNorm) := by
  rcases l with _ | ⟨v, _ | ⟨w, vs⟩⟩
  · simp [appendAll, xmlNormKV]
  · simp [appendAll, xmlNormKV]
  · simp only [appendAll, xmlNormKV, List.map_cons]
    rw [xmlNorm, xmlNormL_eq_map]
    simp

theorem xmlNorm_propNode (nm : String) (d : DM K) :
    xmlNorm (DM.node [("name", DM.leaf (Sc.str nm)), ("data", d)]) =
      DM.node [("name", DM.leaf (Sc.str nm)), ("data", xmlNorm d)] := by
  simp [xmlNorm, xmlNormKV]

/-- what a reader is handed for the written tree `t`: `t` itself (no text, JSON text) or its XML collapse. -/
def Encoded (t t' : DM K) : Prop := t' = t ∨ t' = xmlNorm t

theorem encode_bind {β : Type} (read : DM K → Option β) (t : DM K) (via : String)
    (hvia : via = "tree" ∨ via = "json" ∨ via = "xml") :
    (encode via t).bind read = if via = "xml" then read (xmlNorm t) else read t := by
  rcases hvia with rfl | rfl | rfl <;> rfl

/-- `write` round-trips to `r` through `read`: the writer returns a tree, and the reader returns `r` for that tree handed
    over as it is (no text at all, or JSON text, which DataModelDict restores exactly) and for it handed over as XML text
    (one-element lists collapsed, `xmlNorm`).  `r` may be a refusal: then both encodings are refused alike. -/
def RoundTrips {β : Type} (write : Option (DM K)) (read : DM K → Option β) (r : Option β) : Prop :=
  ∃ t, write = some t ∧ ∀ t', Encoded t t' → read t' = r

namespace RoundTrips
variable {β : Type} {write : Option (DM K)} {read : DM K → Option β} {r r' : Option β}

theorem tree (h : RoundTrips write read r) : ∃ t, write = some t ∧ read t = r :=
  let ⟨t, hw, hr⟩ := h
  ⟨t, hw, hr t (Or.inl rfl)⟩

theorem xml (h : RoundTrips write read r) : ∃ t, write = some t ∧ read (xmlNorm t) = r :=
  let ⟨t, hw, hr⟩ := h
  ⟨t, hw, hr _ (Or.inr rfl)⟩

theorem both (h : RoundTrips write read r) : ∃ t, write = some t ∧ read t = r ∧ read (xmlNorm t) = r :=
  let ⟨t, hw, hr⟩ := h
  ⟨t, hw, hr t (Or.inl rfl), hr _ (Or.inr rfl)⟩

theorem dumpLoad (h : RoundTrips write read r) {via : String} (hvia : via = "tree" ∨ via = "json" ∨ via = "xml") :
    (write.bind (encode via)).bind read = r := by
  obtain ⟨t, rfl, hr⟩ := h
  rw [Option.bind_some, encode_bind _ _ _ hvia, hr t (Or.inl rfl), hr _ (Or.inr rfl), ite_self]

/-- through every accepted encoding the reader returns what it returns for the tree itself. -/
theorem dumpLoad_tree (h : RoundTrips write read r) {via : String} (hvia : via = "tree" ∨ via = "json" ∨ via = "xml")
    {t : DM K} (a : write = some t) : (write.bind (encode via)).bind read = read t := by
  obtain ⟨t₀, a₀, hr⟩ := id h
  obtain rfl := Option.some.inj (a₀.symm.trans a)
  rw [h.dumpLoad hvia, hr t₀ (Or.inl rfl)]

theorem congr (h : RoundTrips write read r) (e : r = r') : RoundTrips write read r' := e ▸ h

end RoundTrips

section field
variable [Field K]

theorem ucModel_unit_xml (fac : String → K) (units : Option String) (a : Arr K) (t : DM K)
    (h : ucModel fac units a = some t) : (xmlNorm t).getStr? "unit" = units := by
  obtain ⟨_, _, _, _, rfl⟩ := ucModel_some h
  rw [xmlNorm_ucNode]
  exact node_getStr_unit _ _ _

/-- the property tree `t` reads as `P`, and from XML text as `P` squeezed; its `name` entry and the `unit` of its
    `data` entry are there in both forms. -/
def ReadsAs (fac : String → K) (t : DM K) (P : String × Arr K) (u : Option String) : Prop :=
  propRead fac t = some P ∧ (∃ q, propRead fac (xmlNorm t) = some q ∧ Squeezes q P) ∧
    ∀ t', Encoded t t' → t'.getStr? "name" = some P.1 ∧ ∃ d, t'.get? "data" = some d ∧ d.getStr? "unit" = u

omit [Field K] in
theorem propRead_node [Mul K] [One K] [IntCast K] (fac : String → K) (nm : String) (d : DM K) :
    propRead fac (DM.node [("name", DM.leaf (Sc.str nm)), ("data", d)]) = (valueUnit fac d).map (fun a => (nm, a)) := by
  simp [propRead, DM.getStr?, DM.get?, List.lookup]

theorem propNode_readsAs (fac1 fac2 : String → K) (nm : String) (u : Option String) (arr : Arr K)
    (hw : arr.data.length = prodNat arr.shape) (hne : prodNat arr.shape ≠ 0)
    (hs : ∀ l, arr.data = Data.str l → u = none) :
    ∃ t, ucModel fac1 u arr = some t ∧
      ReadsAs fac2 (DM.node [("name", DM.leaf (Sc.str nm)), ("data", t)])
        (nm, ⟨arr.shape, arr.data.rescale fac1 fac2 u⟩) u := by
  obtain ⟨tx, ht, hr, hrx⟩ := valueUnit_model_enc fac1 fac2 u arr hw (Or.inl hne) hs
  refine ⟨tx, ht, by rw [propRead_node, hr]; rfl,
    ⟨_, by rw [xmlNorm_propNode, propRead_node, hrx]; rfl, squeezes_xmlShape _ _ _⟩, ?_⟩
  rintro t' (rfl | rfl)
  · exact ⟨by simp [DM.getStr?, DM.get?, List.lookup], tx, by simp [DM.get?, List.lookup], ucModel_unit fac1 u arr tx ht⟩
  · rw [xmlNorm_propNode]
    exact ⟨by simp [DM.getStr?, DM.get?, List.lookup], xmlNorm tx, by simp [DM.get?, List.lookup],
      ucModel_unit_xml fac1 u arr tx ht⟩

theorem prop_two (fac1 fac2 : String → K) (a : AtomsM K) (hw : a.Wf) (un : String → Option String)
    (hu : UnitsOk a un) (p : String × Arr K) (hp : p ∈ a.props) :
    ∃ t, propModel fac1 a (p.1, un p.1) = some t ∧
      ReadsAs fac2 t (propTwo fac1 fac2 un p) (effUnit p.1 (un p.1)) := by
  obtain ⟨_, h2, h3⟩ := hw.ok p hp
  obtain ⟨t, ht, hr⟩ := propNode_readsAs fac1 fac2 p.1 (effUnit p.1 (un p.1)) p.2 h2 h3 (hu.2 p hp)
  exact ⟨_, by simp only [propModel, lookup_of_mem_nodup a.props hw.nodup p hp, ht], hr⟩

/-- property `p` of a `System`: a box-scaled one is stored in box-relative coordinates with the unit `'scaled'`. -/
theorem sys_prop_two (fac1 fac2 : String → K) (s : SystemM K) (hw : s.atoms.Wf) (un : String → Option String)
    (hu : SysUnitsOk s.atoms un) (p : String × Arr K) (hp : p ∈ s.atoms.props) :
    ∃ t, sysPropModel fac1 s (p.1, un p.1) = some t ∧
      ReadsAs fac2 t (sysPropRel fac1 fac2 un s.box p) (effUnit p.1 (un p.1)) := by
  by_cases hsc : effUnit p.1 (un p.1) = some "scaled"
  · obtain ⟨_, h2, hne⟩ := hw.ok p hp
    obtain ⟨hns, h3, hL, -⟩ := scaled_prop s.atoms hw un hu p hp hsc
    -- `System.model` reads back what `Atoms.model` wrote (factor 1) before it converts to box-relative coordinates
    obtain ⟨d, hd, hv, -⟩ := valueUnit_model_enc fac1 fac1 (some "scaled") p.2 h2 (Or.inl hne) (fun l h => absurd h (hns l))
    rw [rescale_scaled fac1 fac1 _ hns] at hv
    obtain ⟨hm1, hm2⟩ := mapPositions_flt s.box.cartToRel p.2.shape p.2.data.fltD h3 hL
    obtain ⟨t', ht'1, ht'2⟩ := propNode_readsAs fac1 fac2 p.1 (some "scaled")
      ⟨p.2.shape, .flt (rowsMap s.box.cartToRel p.2.data.fltD)⟩ (by simpa [Data.length] using hm2) hne (by intro l h; cases h)
    refine ⟨DM.node [("name", DM.leaf (Sc.str p.1)), ("data", t')],
      by simp [sysPropModel, propModel, lookup_of_mem_nodup _ hw.nodup p hp, hsc, hd, DM.get?, List.lookup, hv, hm1, ht'1], ?_⟩
    have hP : sysPropRel fac1 fac2 un s.box p
        = (p.1, ⟨p.2.shape, (Data.flt (rowsMap s.box.cartToRel p.2.data.fltD)).rescale fac1 fac2 (some "scaled")⟩) := by
      simp [sysPropRel, hsc, rescale_scaled fac1 fac2 (Data.flt _) (by intro l h; cases h), Data.fltD, Data.toFlt]
    rw [hP, hsc]
    exact ht'2
  · obtain ⟨t, ht1, ht2⟩ := prop_two fac1 fac2 s.atoms hw un hu.1 p hp
    refine ⟨t, by simp only [sysPropModel, ht1, hsc, if_false], ?_⟩
    simpa only [sysPropRel, hsc, if_false] using ht2

theorem atomsRead_written (fac1 fac2 : String → K) (a : AtomsM K) (hw : a.Wf) (un : String → Option String)
    (hu : UnitsOk a un) (ps : List (DM K))
    (hfa : List.Forall₂ (fun p x => (∃ q, propRead fac2 x = some q ∧ Squeezes q (propTwo fac1 fac2 un p)) ∧
      x.getStr? "name" = some p.1) a.props ps) :
    atomsRead fac2 (DM.node [("atoms", DM.node (("natoms", DM.leaf (Sc.int a.natoms)) :: appendAll "property" ps))])
      = some ⟨a.natoms, a.props.map (propTwo fac1 fac2 un)⟩ := by
  have hat : effUnit "atype" (un "atype") = none := by rw [hu.1]; rfl
  exact atomsRead_of_sq fac2 _ a hw _ ps List.lookup_cons_self (hfa.imp fun _ _ h => h.1) (fun _ _ => ⟨rfl, rfl⟩)
    (fun la => by simp [propTwo, hat, Data.rescale]) fun lp => ⟨_, rfl⟩

theorem atoms_model_two (fac1 fac2 : String → K) (a : AtomsM K) (hw : a.Wf) (un : String → Option String)
    (hu : UnitsOk a un) :
    RoundTrips (atomsModel fac1 (a.props.map (fun p => (p.1, un p.1))) a) (atomsRead fac2)
      (some ⟨a.natoms, a.props.map (propTwo fac1 fac2 un)⟩) := by
  obtain ⟨ps, hps, hfa⟩ := mapOpt_exists (fun p : String × Arr K => propModel fac1 a (p.1, un p.1))
    (fun p t => ReadsAs fac2 t (propTwo fac1 fac2 un p) (effUnit p.1 (un p.1))) a.props
    (fun p hp => prop_two fac1 fac2 a hw un hu p hp)
  refine ⟨DM.node [("atoms", DM.node (("natoms", DM.leaf (Sc.int a.natoms)) :: appendAll "property" ps))],
    by simp only [atomsModel, mapOpt_map, hps], ?_⟩
  rintro t' (rfl | rfl)
  · exact atomsRead_written fac1 fac2 a hw un hu ps
      (hfa.imp fun p t h => ⟨⟨_, h.1, .refl _⟩, (h.2.2 t (Or.inl rfl)).1⟩)
  · have hx : xmlNorm (DM.node [("atoms", DM.node (("natoms", DM.leaf (Sc.int a.natoms)) :: appendAll "property" ps))]) =
        DM.node [("atoms", DM.node (("natoms", DM.leaf (Sc.int a.natoms)) :: appendAll "property" (ps.map xmlNorm)))] := by
      simp [xmlNorm, xmlNormKV, xmlNormKV_appendAll]
    rw [hx]
    exact atomsRead_written fac1 fac2 a hw un hu _
      (List.forall₂_map_right_iff.mpr (hfa.imp fun p t h => ⟨h.2.1, (h.2.2 _ (Or.inr rfl)).1⟩))

/-- the tree `System.model` builds from the box entry `bm` and the property trees `ps`. -/
def sysTree (s : SystemM K) (bm : DM K) (ps : List (DM K)) : DM K :=
  DM.node [("atomic-system", DM.node (
      [("box", bm), ("periodic-boundary-condition", DM.list (s.pbc.map (fun b => DM.leaf (Sc.bool b))))]
      ++ appendAll "atom-type-symbol" (s.symbols.map symLeaf)
      ++ appendAll "atom-type-mass" (if s.masses.any Option.isSome then s.masses.map massLeaf else [])
      ++ [("atoms", DM.node (("natoms", DM.leaf (Sc.int s.atoms.natoms)) :: appendAll "property" ps))]))]

theorem systemRead_of [LT K] [DecidableLT K] (fac1 fac2 : String → K) (eps : K)
    (s : SystemM K) (hw : s.Wf) (un : String → Option String) (hu : SysUnitsOk s.atoms un)
    (bm : DM K) (box' : Box K)
    (hbr : ∀ kv : List (String × DM K), kv.lookup "box" = some bm → boxRead fac2 eps (DM.node kv) = some box')
    (ps : List (DM K))
    (hfa : List.Forall₂ (fun p t => (∃ q, propRead fac2 t = some q ∧ Squeezes q (sysPropRel fac1 fac2 un s.box p)) ∧
      (t.getStr? "name" = some p.1 ∧ ∃ d, t.get? "data" = some d ∧ d.getStr? "unit" = effUnit p.1 (un p.1)))
      s.atoms.props ps) :
    systemRead fac2 eps (sysTree s bm ps) =
      some ⟨box', s.pbc, s.symbols, s.masses,
        ⟨s.atoms.natoms, s.atoms.props.map (sysPropFinal fac1 fac2 un s.box box')⟩⟩ := by
  unfold sysTree
  -- The reader, component by component: the box by `hbr`; the atoms by `atomsRead_of_sq` (what `Atoms(model=)` sees is
  -- `sysPropRel`); `natypes` is that of `s` because `atype` is untouched; symbols and masses come back through `aslist`, and
  -- padding them is a no-op by `hw` (masses were omitted only when all are missing); the names stored `'scaled'` are the
  -- filter of `scaledNames_of`; the final properties are `sys_final_props`.  The closing `simp only` puts these together.
  obtain ⟨la, lp, rest, hprops, -⟩ := hw.atoms.head
  set masses : List (DM K) := if s.masses.any Option.isSome then s.masses.map massLeaf else [] with hmasses
  set am : DM K := DM.node (("natoms", DM.leaf (Sc.int s.atoms.natoms)) :: appendAll "property" ps) with ham
  set pl : DM K := DM.list (s.pbc.map (fun b => DM.leaf (Sc.bool b))) with hpl
  obtain ⟨l1, l2, l3, l4, l5⟩ := sysnode_lookups bm pl (s.symbols.map symLeaf) masses am
  set M := [("box", bm), ("periodic-boundary-condition", pl)] ++ appendAll "atom-type-symbol" (s.symbols.map symLeaf)
      ++ appendAll "atom-type-mass" masses ++ [("atoms", am)] with hM
  have hat : effUnit "atype" (un "atype") = none := by rw [hu.1.1]; rfl
  have hbox := hbr M l1
  have hatoms : atomsRead fac2 (DM.node M) = some ⟨s.atoms.natoms, s.atoms.props.map (sysPropRel fac1 fac2 un s.box)⟩ := by
    refine atomsRead_of_sq fac2 M s.atoms hw.atoms _ ps l5 (hfa.imp fun _ _ h => h.1) (fun p _ => ?_) (fun la => ?_) fun lp => ?_
    · unfold sysPropRel; split <;> exact ⟨rfl, rfl⟩
    · simp [sysPropRel, hat, propTwo, Data.rescale]
    · unfold sysPropRel; split <;> exact ⟨_, rfl⟩
  obtain ⟨nat, hnat, hnle⟩ := hw.ntypes
  have hnat' : (⟨s.atoms.natoms, s.atoms.props.map (sysPropRel fac1 fac2 un s.box)⟩ : AtomsM K).natypes = some nat := by
    rw [← hnat]
    simp [AtomsM.natypes, hprops, sysPropRel, hat, propTwo, Data.rescale]
  have hsyms : (DM.node M).aslist "atom-type-symbol" = s.symbols.map symLeaf :=
    aslist_of_lookup M _ _ l3 (by intro x hx; obtain ⟨o, _, rfl⟩ := List.mem_map.mp hx; exact symLeaf_isList o)
  have hmass : (DM.node M).aslist "atom-type-mass" = masses :=
    aslist_of_lookup M _ _ l4 (by
      intro x hx
      rw [hmasses] at hx
      split at hx
      · obtain ⟨o, _, rfl⟩ := List.mem_map.mp hx; exact massLeaf_isList o
      · simp at hx)
  have hmassR : mapOpt massOf? masses = some (if s.masses.any Option.isSome then s.masses else []) := by
    rw [hmasses]; split
    · exact mapOpt_mass _
    · rfl
  have hsc : scaledNames am = s.atoms.props.filterMap
      (fun p => if effUnit p.1 (un p.1) = some "scaled" then some p.1 else none) :=
    scaledNames_of (DM.leaf (Sc.int s.atoms.natoms)) ps s.atoms.props (fun p => effUnit p.1 (un p.1))
      (hfa.imp (fun _ _ h => h.2))
  have hfinal := sys_final_props fac1 fac2 un s.box box' s.atoms hw.atoms hu
  have hfill : fillNone s.symbols nat = s.symbols := by
    simp [fillNone, Nat.sub_eq_zero_of_le hnle]
  have hnatS : (if nat < s.symbols.length then s.symbols.length else nat) = s.symbols.length := by
    split <;> omega
  have hmfill : fillNone (if s.masses.any Option.isSome then s.masses else []) s.symbols.length = s.masses
      ∧ ¬ (s.symbols.length < (if s.masses.any Option.isSome then s.masses else []).length) := by
    split
    · exact ⟨by simp [fillNone, hw.masses], by rw [hw.masses]; omega⟩
    · rename_i h
      refine ⟨?_, by simp⟩
      have := all_none_of_any s.masses (by simpa using h)
      rw [hw.masses] at this
      simp [fillNone, ← this]
  have hT : (DM.node [("atomic-system", DM.node M)]).get? "atomic-system" = some (DM.node M) := by
    simp [DM.get?, List.lookup]
  have hg1 : (DM.node M).get? "periodic-boundary-condition" = some pl := by simp only [DM.get?, l2]
  have hg2 : (DM.node M).get? "atoms" = some am := by simp only [DM.get?, l5]
  simp only [systemRead, hT, hbox, hatoms, hg1, hg2, hpl, mapOpt_pbc, hsyms, mapOpt_sym, hmass, hmassR, hnat', hw.pbc,
    hfill, hnatS, hmfill.1, hmfill.2, hsc, hfinal, ne_eq, not_true_eq_false, if_false]

end field

theorem xmlNorm_symLeaf (o : Option String) : xmlNorm (symLeaf o : DM K) = symLeaf o := by
  cases o <;> simp [symLeaf, xmlNorm]
theorem xmlNorm_massLeaf (o : Option K) : xmlNorm (massLeaf o : DM K) = massLeaf o := by
  cases o <;> simp [massLeaf, xmlNorm]

theorem xmlNorm_pbc (l : List Bool) (h : l.length ≠ 1) :
    xmlNorm (DM.list (l.map (fun b => (DM.leaf (Sc.bool b) : DM K)))) = DM.list (l.map (fun b => DM.leaf (Sc.bool b))) := by
  have := xmlNorm_leafList (K := K) (l.map Sc.bool)
  rw [List.map_map] at this
  rw [show (fun b => (DM.leaf (Sc.bool b) : DM K)) = DM.leaf ∘ Sc.bool from rfl, this,
    collapse1_of_ne_singleton _ fun x hx => h (by simpa using congrArg List.length hx), List.map_map]

theorem xmlNorm_sysTree (s : SystemM K) (bm : DM K) (ps : List (DM K)) (hpbc : s.pbc.length = 3) :
    xmlNorm (sysTree s bm ps) = sysTree s (xmlNorm bm) (ps.map xmlNorm) := by
  have hsym : (s.symbols.map (symLeaf (K := K))).map xmlNorm = s.symbols.map symLeaf := by
    simp [List.map_map, Function.comp_def, xmlNorm_symLeaf]
  have hmas : (if s.masses.any Option.isSome then s.masses.map (massLeaf (K := K)) else []).map xmlNorm =
      (if s.masses.any Option.isSome then s.masses.map massLeaf else []) := by
    split <;> simp [List.map_map, Function.comp_def, xmlNorm_massLeaf]
  unfold sysTree
  rw [xmlNorm, xmlNormKV, xmlNormKV, xmlNorm, xmlNormKV_append, xmlNormKV_append, xmlNormKV_append,
    xmlNormKV_appendAll, xmlNormKV_appendAll, hsym, hmas]
  simp only [xmlNormKV, xmlNorm_pbc s.pbc (by rw [hpbc]; decide)]
  rw [xmlNorm, xmlNormKV, xmlNormKV_appendAll, xmlNorm]

section field
variable [Field K]

theorem vec_two (fac1 fac2 : String → K) (u : Option String) (v : V3 K) :
    ∃ t, ucModel fac1 u (vecArr v) = some t ∧
      ∀ t', Encoded t t' → (valueUnit fac2 t').bind arrV3? = some (v.map (scaleFn fac1 fac2 u)) := by
  obtain ⟨t, h1, h2, h3⟩ := valueUnit_model_enc fac1 fac2 u (vecArr v) (by rfl) (Or.inr ⟨_, rfl⟩)
    (by intro l h; cases h)
  refine ⟨t, h1, ?_⟩
  rintro t' (rfl | rfl)
  · rw [h2]; simp [vecArr, Data.rescale, V3.toList, arrV3?, Data.toFlt, V3.map]
  · rw [h3]; simp [vecArr, Data.rescale, V3.toList, arrV3?, Data.toFlt, V3.map, xmlShape]

theorem box_model_node (fac1 fac2 : String → K) (eps : K) [LT K] [DecidableLT K] (u : Option String) (b : Box K) :
    ∃ bm, boxModel fac1 u b = some (DM.node [("box", bm)]) ∧
      ∀ bm', Encoded bm bm' → ∀ kv : List (String × DM K), kv.lookup "box" = some bm' →
        boxRead fac2 eps (DM.node kv)
          = some ⟨cleanVects eps (mapM3 (scaleFn fac1 fac2 u) b.vects), b.origin.map (scaleFn fac1 fac2 u)⟩ := by
  obtain ⟨ta, ha1, ha2⟩ := vec_two fac1 fac2 u b.vects.r0
  obtain ⟨tb, hb1, hb2⟩ := vec_two fac1 fac2 u b.vects.r1
  obtain ⟨tc, hc1, hc2⟩ := vec_two fac1 fac2 u b.vects.r2
  obtain ⟨tor, ho1, ho2⟩ := vec_two fac1 fac2 u b.origin
  refine ⟨DM.node [("avect", ta), ("bvect", tb), ("cvect", tc), ("origin", tor)],
    by simp only [boxModel, ha1, hb1, hc1, ho1], ?_⟩
  rintro bm' (rfl | rfl) kv hkv
  · simp [boxRead, DM.get?, hkv, List.lookup, ha2 _ (Or.inl rfl), hb2 _ (Or.inl rfl), hc2 _ (Or.inl rfl),
      ho2 _ (Or.inl rfl), mapM3]
  · have hx : xmlNorm (DM.node [("avect", ta), ("bvect", tb), ("cvect", tc), ("origin", tor)]) =
        DM.node [("avect", xmlNorm ta), ("bvect", xmlNorm tb), ("cvect", xmlNorm tc), ("origin", xmlNorm tor)] := by
      simp [xmlNorm, xmlNormKV]
    rw [hx] at hkv
    simp [boxRead, DM.get?, hkv, List.lookup, ha2 _ (Or.inr rfl), hb2 _ (Or.inr rfl), hc2 _ (Or.inr rfl),
      ho2 _ (Or.inr rfl), mapM3]

theorem system_model_two [LT K] [DecidableLT K] (fac1 fac2 : String → K) (eps : K) (boxUnit : Option String)
    (s : SystemM K) (hw : s.Wf) (un : String → Option String) (hu : SysUnitsOk s.atoms un) :
    RoundTrips (systemModel fac1 boxUnit (s.atoms.props.map (fun p => (p.1, un p.1))) s) (systemRead fac2 eps)
      (let box' : Box K := ⟨cleanVects eps (mapM3 (scaleFn fac1 fac2 boxUnit) s.box.vects),
          s.box.origin.map (scaleFn fac1 fac2 boxUnit)⟩
       some ⟨box', s.pbc, s.symbols, s.masses,
        ⟨s.atoms.natoms, s.atoms.props.map (sysPropFinal fac1 fac2 un s.box box')⟩⟩) := by
  obtain ⟨bm, hbm, hbr⟩ := box_model_node fac1 fac2 eps boxUnit s.box
  obtain ⟨ps, hps, hfa⟩ := mapOpt_exists (fun p : String × Arr K => sysPropModel fac1 s (p.1, un p.1))
    (fun p t => ReadsAs fac2 t (sysPropRel fac1 fac2 un s.box p) (effUnit p.1 (un p.1)))
    s.atoms.props (fun p hp => sys_prop_two fac1 fac2 s hw.atoms un hu p hp)
  refine ⟨sysTree s bm ps, by simp only [systemModel, hbm, mapOpt_map, hps]; rfl, ?_⟩
  rintro t' (rfl | rfl)
  · exact systemRead_of fac1 fac2 eps s hw un hu bm _ (hbr bm (Or.inl rfl)) ps
      (hfa.imp fun p t h => ⟨⟨_, h.1, .refl _⟩, by simpa only [sysPropRel_fst] using h.2.2 t (Or.inl rfl)⟩)
  · rw [xmlNorm_sysTree s bm ps hw.pbc]
    exact systemRead_of fac1 fac2 eps s hw un hu (xmlNorm bm) _ (hbr _ (Or.inr rfl)) (ps.map xmlNorm)
      (List.forall₂_map_right_iff.mpr
        (hfa.imp fun p t h => ⟨h.2.1, by simpa only [sysPropRel_fst] using h.2.2 _ (Or.inr rfl)⟩))

end field

end Atomman.C10
