/-
  C11 — `ElasticConstants.__init__`: keyword routing and refusals, over the chain regenerated from the source
  (`Generated/InitRoute.lean`).  `keys` is the set of keyword names of the call (python keywords are distinct).
-/
import Atomman.C11
import Mathlib.Tactic.IntervalCases

namespace Atomman.C11
open Atomman.Gen

/-- the five matrix keywords, in the order `__init__` tests them. -/
def matrixKeys : List String := ["Cij", "Sij", "Cij9", "Cijkl", "Sijkl"]

/-- no arguments: the zero matrix. -/
theorem init_empty : initRoute [] = .zeros := by decide

/-- a matrix keyword alone goes to its own setter. -/
theorem init_matrix_alone : ∀ k ∈ matrixKeys, initRoute [k] = .set k := by decide

/-- the two readings of `__init__` agree: every keyword set that the symbolic execution (per keyword set, which
    produced the `ctor_*` definitions) follows into a crystal-system / isotropic method is routed to that method by
    the chain. -/
theorem init_routes_agree : ∀ kr ∈ ctorRoutes, initRoute kr.1 = .call kr.2 := by decide

/-- **refusal**: a matrix keyword together with anything else (named constants, a second matrix, `model`) fails the
    `assert len(kwargs) == 1` of the first matrix branch reached. -/
theorem init_matrix_mixed_refused (keys : List String) (h : ∃ k ∈ matrixKeys, keys.contains k = true)
    (hl : keys.length ≠ 1) : initRoute keys = .assertFail := by
  have h0 : keys.length ≠ 0 := by
    obtain ⟨k, _, hk⟩ := h
    intro hz
    have : keys = [] := List.eq_nil_of_length_eq_zero hz
    subst this
    simp at hk
  simp only [initRoute, initChain, List.find?, testHolds, List.contains_cons, List.contains_nil, Bool.or_false]
  have hb : (keys.length == 0) = false := by simp [h0]
  obtain ⟨k, hk, hc⟩ := h
  simp only [matrixKeys, List.mem_cons, List.not_mem_nil, or_false] at hk
  -- the chain is walked in program order: `len == 0` fails (`hb`); the first matrix keyword that is present is reached
  -- because the tests before it are false, and its `assert len(kwargs) == 1` fails (`hl`); all five absent contradicts `h`
  cases h1 : keys.contains "Cij"
  · cases h2 : keys.contains "Sij"
    · cases h3 : keys.contains "Cij9"
      · cases h4 : keys.contains "Cijkl"
        · cases h5 : keys.contains "Sijkl"
          · rcases hk with rfl | rfl | rfl | rfl | rfl <;> simp_all
          · simp [actRun, hl, hb]
        · simp [actRun, hl, hb]
      · simp [actRun, hl, hb]
    · simp [actRun, hl, hb]
  · simp [actRun, hl, hb]

/-- routing of named constants as the documentation states it: by the NUMBER of keywords (and `C14` for six or
    seven). -/
def namedRoute (n : Nat) (hasC14 : Bool) : Route :=
  if n = 0 then .zeros else if n = 2 then .call "isotropic" else if n = 3 then .call "cubic"
  else if n = 5 then .call "hexagonal"
  else if n = 6 ∨ n = 7 then (if hasC14 then .call "rhombohedral" else .call "tetragonal")
  else if n = 8 then .call "rhombohedral" else if n = 9 then .call "orthorhombic"
  else if n = 13 then .call "monoclinic" else if n = 21 then .call "triclinic" else .raise "TypeError"

/-- without a matrix keyword and without `model`, `__init__` routes by the number of keywords alone. -/
theorem init_named_route (keys : List String) (hm : ∀ k ∈ matrixKeys, keys.contains k = false)
    (hmod : keys.contains "model" = false) :
    initRoute keys = namedRoute keys.length (keys.contains "C14") := by
  have e1 := hm "Cij" (by decide); have e2 := hm "Sij" (by decide); have e3 := hm "Cij9" (by decide)
  have e4 := hm "Cijkl" (by decide); have e5 := hm "Sijkl" (by decide)
  simp only [initRoute, initChain, List.find?, testHolds, e1, e2, e3, e4, e5, hmod, List.contains_cons,
    List.contains_nil, Bool.or_false, namedRoute, initElse]
  generalize hc : keys.contains "C14" = c
  generalize keys.length = n
  rcases Nat.lt_or_ge n 22 with h | h
  · interval_cases n <;> simp [actRun] <;> cases c <;> simpa using hc
  · obtain ⟨m, rfl⟩ : ∃ m, n = m + 22 := ⟨n - 22, by omega⟩
    simp

/-- **refusal iff**: named keywords are refused by `__init__` itself (`TypeError`) exactly when their number is none
    of 0, 2, 3, 5, 6, 7, 8, 9, 13, 21. -/
theorem init_type_error_iff (keys : List String) (hm : ∀ k ∈ matrixKeys, keys.contains k = false)
    (hmod : keys.contains "model" = false) :
    initRoute keys = .raise "TypeError" ↔ keys.length ∉ [0, 2, 3, 5, 6, 7, 8, 9, 13, 21] := by
  rw [init_named_route keys hm hmod]
  generalize keys.contains "C14" = c
  generalize keys.length = n
  rcases Nat.lt_or_ge n 22 with h | h
  · interval_cases n <;> cases c <;> decide
  · obtain ⟨m, rfl⟩ : ∃ m, n = m + 22 := ⟨n - 22, by omega⟩
    simp [namedRoute]

/-- non-vacuity: four named constants. -/
example : (∀ k ∈ matrixKeys, ["C11", "C12", "C44", "C66"].contains k = false) ∧
    initRoute ["C11", "C12", "C44", "C66"] = .raise "TypeError" := by decide

end Atomman.C11
