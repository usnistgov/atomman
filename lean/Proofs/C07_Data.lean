/-
  C07 — what `atom_data.dump` writes (`dataParts_ok`: the writer's checks in order) and the independent LAMMPS data-file
  reader on it: header and sections, the document-level reader `readDataFile` on a `dataDoc`.
-/
import Proofs.C07_Files

namespace Atomman.C07
open Atomman
set_option linter.unusedSimpArgs false

/-- the system whose rows a data file carries: wrapped positions in the padded box. -/
def wrappedSys (s : Sys) : Sys :=
  { s with box := (wrap s.box s.pbc s.pos).box, pos := (wrap s.box s.pbc s.pos).pos }

/-- the data writer succeeds exactly through these checks, in this order: the wrapped cell is LAMMPS-normal (else
    `"assert"`), the unit style has a length entry, the atom_style has a column list, the `Atoms` rows can be built, and —
    only for a system with velocities — the style has a `Velocities` column list and its rows can be built (else `"value"`). -/
theorem dataParts_ok (s : Sys) (style : String) (u : Units) (p : DataParts) (w : Wrapped)
    (h : dataParts s style u = .ok (p, w)) :
    w = wrap s.box s.pbc s.pos ∧ w.box.isLammpsNorm = true ∧
    ∃ lf cols, lengthFactor u = .ok lf ∧ atomCols style = some cols ∧ p.natoms = s.natoms ∧ p.natypes = s.natypes ∧
      p.hilo = (hiLoOf w.box).map (divBy lf) ∧
      tableRows (wrappedSys s) u (seqIds s.natoms) w.pos cols (flagCells w.flags) = .ok p.rows ∧
      (((s.prop? "velocity").isSome = true ∧ ∃ vc vr, velCols style = some vc ∧
          tableRows (wrappedSys s) u (seqIds s.natoms) w.pos vc [] = .ok vr ∧ p.vel = some vr) ∨
       ((s.prop? "velocity").isSome = false ∧ p.vel = none)) := by
  unfold dataParts at h
  simp only [bind, Except.bind, pure, Except.pure, throw, throwThe, MonadExceptOf.throw] at h
  -- one `split` per check, in the writer's order; a failed check contradicts `h`
  split at h
  · cases h
  · rename_i hn
    split at h
    · cases h
    · rename_i lf hlf
      split at h
      · rename_i cols hcols
        split at h
        · cases h
        · rename_i rows hrows
          split at h
          · rename_i hvel
            split at h
            · rename_i vc hvc
              split at h
              · cases h
              · rename_i vr hvr
                simp only [Except.ok.injEq, Prod.mk.injEq] at h
                obtain ⟨rfl, rfl⟩ := h
                exact ⟨rfl, by simpa using hn, lf, cols, hlf, hcols, rfl, rfl, rfl, hrows,
                  Or.inl ⟨hvel, vc, vr, hvc, hvr, rfl⟩⟩
            · cases h
          · rename_i hvel
            simp only [Except.ok.injEq, Prod.mk.injEq] at h
            obtain ⟨rfl, rfl⟩ := h
            exact ⟨rfl, by simpa using hn, lf, cols, hlf, hcols, rfl, rfl, rfl, hrows,
              Or.inr ⟨by simpa using hvel, rfl⟩⟩
      · cases h

theorem wrap_lengths (box : Box ℚ) (pbc : V3 Bool) (pos : List (V3 ℚ)) :
    (wrap box pbc pos).pos.length = pos.length ∧ (wrap box pbc pos).flags.length = pos.length := by
  simp [wrap]

theorem readHeader_blank (rest : List (List Char)) (h : DataHeader) : readHeader ([] :: rest) h = readHeader rest h := by
  rw [readHeader]; simp [stripComment, lexLine]

theorem readHeader_step (l : Line) (hl : ∀ t ∈ l, okTok t) (hne : l ≠ []) (h h' : DataHeader)
    (rest : List (List Char)) (hh : headerLine h l = some (some h')) :
    readHeader (joinSp l :: rest) h = readHeader rest h' := by
  rw [readHeader]
  simp only [lex_strip_joinSp_ok l hl, hne, if_false, hh]

theorem readHeader_stop (raw : List Char) (toks : Line) (hlex : lexLine (stripComment raw) = toks) (hne : toks ≠ [])
    (h : DataHeader) (rest : List (List Char)) (hh : headerLine h toks = none) :
    readHeader (raw :: rest) h = some (h, raw :: rest) := by
  rw [readHeader]
  simp only [hlex, hne, if_false, hh]

theorem headerLine_atoms (h : DataHeader) (n : Nat) :
    headerLine h [natTok n, cs!"atoms"] = some (some { h with natoms := some n }) := by
  simp [headerLine, parseNat_natTok]

theorem headerLine_types (h : DataHeader) (n : Nat) :
    headerLine h [natTok n, cs!"atom", cs!"types"] = some (some { h with ntypes := some n }) := by
  simp [headerLine, parseNat_natTok]

theorem headerLine_x (h : DataHeader) (f : Fmt) (a b : ℚ) :
    headerLine h [fmtNum f a, fmtNum f b, cs!"xlo", cs!"xhi"]
      = some (some { h with x := some (fmtVal f a, fmtVal f b) }) := by
  simp [headerLine, parseNum_fmtNum]

theorem headerLine_y (h : DataHeader) (f : Fmt) (a b : ℚ) :
    headerLine h [fmtNum f a, fmtNum f b, cs!"ylo", cs!"yhi"]
      = some (some { h with y := some (fmtVal f a, fmtVal f b) }) := by
  simp [headerLine, parseNum_fmtNum]

theorem headerLine_z (h : DataHeader) (f : Fmt) (a b : ℚ) :
    headerLine h [fmtNum f a, fmtNum f b, cs!"zlo", cs!"zhi"]
      = some (some { h with z := some (fmtVal f a, fmtVal f b) }) := by
  simp [headerLine, parseNum_fmtNum]

theorem headerLine_tilt (h : DataHeader) (f : Fmt) (a b c : ℚ) :
    headerLine h [fmtNum f a, fmtNum f b, fmtNum f c, cs!"xy", cs!"xz", cs!"yz"]
      = some (some { h with tilt := some (fmtVal f a, fmtVal f b, fmtVal f c) }) := by
  simp [headerLine, parseNum_fmtNum]

theorem headerLine_Atoms (h : DataHeader) : headerLine h [cs!"Atoms"] = none := by
  simp [headerLine]

def atomsLine (words : Line) : Line := [cs!"Atoms", cs!"#"] ++ words

theorem atomsLine_split (words : Line) (hw : ∀ t ∈ words, okTok t) :
    lexLine (stripComment (joinSp (atomsLine words))) = [cs!"Atoms"] ∧
    lexLine (commentOf (joinSp (atomsLine words))) = words := by
  have hA : '#' ∉ (cs!"Atoms" ++ [' ']) := by decide
  have hlexA : lexLine (cs!"Atoms" ++ [' ']) = [cs!"Atoms"] := by
    rw [lexLine_tok_append _ (by decide) (by decide) _ (Or.inr ⟨[], rfl⟩)]; simp [lexLine, isSpace]
  cases words with
  | nil =>
    have e : joinSp (atomsLine []) = (cs!"Atoms" ++ [' ']) ++ '#' :: [] := by simp [atomsLine, joinSp]
    rw [e, stripComment_hash _ _ hA, commentOf_hash _ _ hA]
    exact ⟨hlexA, by simp [lexLine]⟩
  | cons w ws =>
    have e : joinSp (atomsLine (w :: ws)) = (cs!"Atoms" ++ [' ']) ++ '#' :: (' ' :: joinSp (w :: ws)) := by
      simp [atomsLine, joinSp]
    rw [e, stripComment_hash _ _ hA, commentOf_hash _ _ hA, lexLine_space]
    exact ⟨hlexA, lexLine_joinSp_ok _ hw⟩

theorem readBody_rows (n : Nat) (rows : List Line) (tail : List (List Char)) (hlen : rows.length = n)
    (hok : ∀ l ∈ rows, l ≠ [] ∧ ∀ t ∈ l, okTok t) :
    readBody n ([] :: (rows.map joinSp ++ tail)) = some (rows, tail) := by
  unfold readBody
  have h0 : lexLine (stripComment []) = [] := by simp [stripComment, lexLine]
  have htake : (rows.map joinSp ++ tail).take n = rows.map joinSp := by
    rw [List.take_append_of_le_length (by simp [hlen])]; apply List.take_of_length_le; simp [hlen]
  have hdrop : (rows.map joinSp ++ tail).drop n = tail := by
    rw [← hlen]
    have : rows.length = (rows.map joinSp).length := by simp
    rw [this, List.drop_left]
  have hbody : (rows.map joinSp).map (fun l => lexLine (stripComment l)) = rows := by
    rw [List.map_map]
    conv_rhs => rw [← List.map_id rows]
    apply List.map_congr_left
    intro l hl
    exact lex_strip_joinSp_ok l (hok l hl).2
  simp only [h0, ne_eq, not_true_eq_false, if_false, htake, hdrop, hbody, hlen]
  have hany : rows.any (· = []) = false := by
    rw [List.any_eq_false]
    intro l hl
    simpa using (hok l hl).1
  simp [hany]

theorem readSections_nil (a b fuel : Nat) (s : Sections) : readSections a b fuel [] s = some s := by
  cases fuel <;> simp [readSections]

/-- raw lines of the optional `Velocities` section, with the blank line `dataDocOf` puts in front of the keyword. -/
def velTail (vel : Option (List Line)) : List (List Char) :=
  match vel with
  | some vr => [] :: joinSp [cs!"Velocities"] :: [] :: vr.map joinSp
  | none => []

theorem readSections_written (natoms ntypes : Nat) (words : Line) (rows : List Line) (vel : Option (List Line))
    (hw : ∀ t ∈ words, okTok t) (hlen : rows.length = natoms) (hok : ∀ l ∈ rows, l ≠ [] ∧ ∀ t ∈ l, okTok t)
    (hv : ∀ vr, vel = some vr → vr.length = natoms ∧ ∀ l ∈ vr, l ≠ [] ∧ ∀ t ∈ l, okTok t)
    (fuel : Nat) (hf : 1 ≤ fuel ∧ (vel.isSome = true → 3 ≤ fuel)) :
    readSections natoms ntypes fuel
      (joinSp (atomsLine words) :: [] :: (rows.map joinSp ++ velTail vel)) {}
      = some { styleHint := words, atoms := some rows, velocities := vel } := by
  obtain ⟨f1, rfl⟩ : ∃ k, fuel = k + 1 := ⟨fuel - 1, by omega⟩
  obtain ⟨hA, hC⟩ := atomsLine_split words hw
  rw [readSections]
  simp only [hA]
  have hne : ([cs!"Atoms"] : Line) ≠ [] := by simp
  simp only [hne, if_false, if_true, readBody_rows natoms rows _ hlen hok]
  simp only [Option.isSome_none, Bool.false_eq_true, if_false, hC]
  cases vel with
  | none => simp only [velTail, readSections_nil]
  | some vr =>
    obtain ⟨hvl, hvok⟩ := hv vr rfl
    have hf3 := hf.2 rfl
    obtain ⟨f2, rfl⟩ : ∃ k, f1 = k + 1 := ⟨f1 - 1, by omega⟩
    obtain ⟨f3, rfl⟩ : ∃ k, f2 = k + 1 := ⟨f2 - 1, by omega⟩
    simp only [velTail]
    rw [readSections]
    have h0 : lexLine (stripComment []) = [] := by simp [stripComment, lexLine]
    simp only [h0, if_true]
    rw [readSections]
    have hV : lexLine (stripComment (joinSp [cs!"Velocities"])) = [cs!"Velocities"] :=
      lex_strip_joinSp_ok _ (by decide)
    have hVA : ¬ ([cs!"Velocities"] : Line) = [cs!"Atoms"] := by decide
    have hVne : ¬ ([cs!"Velocities"] : Line) = [] := by simp
    have := readBody_rows natoms vr [] hvl hvok
    simp only [List.append_nil] at this
    simp only [hV, hVne, hVA, if_false, if_true, this, Option.isSome_none, Bool.false_eq_true, readSections_nil]

/-- the atom_style words are plain tokens (true for every style the writer accepts, see `styleOk_of_atomCols`). -/
def StyleOk (style : String) : Prop := ∀ w ∈ styleWords style, okTok (strTok w)

def tilted (h : HiLo) : Prop := h.xy ≠ 0 ∨ h.xz ≠ 0 ∨ h.yz ≠ 0
instance (h : HiLo) : Decidable (tilted h) := by unfold tilted; infer_instance

theorem not_tilted_iff (h : HiLo) : ¬ tilted h ↔ orthoH h := by
  simp only [tilted, orthoH, not_or, not_not]

/-- every token of the box lines is a bounds keyword or a printed number; the tilt keywords occur only for a tilted cell. -/
theorem allToks_boxLines {P : Tok → Prop} (f : Fmt) (h : HiLo)
    (hkw : ∀ t ∈ [cs!"xlo", cs!"xhi", cs!"ylo", cs!"yhi", cs!"zlo", cs!"zhi"], P t)
    (htilt : tilted h → ∀ t ∈ [cs!"xy", cs!"xz", cs!"yz"], P t) (hnum : ∀ q, P (fmtNum f q)) :
    ∀ l ∈ boxLines f h, ∀ t ∈ l, P t := by
  simp only [List.forall_mem_cons] at hkw
  unfold boxLines
  split
  · rename_i ht
    have hxy := htilt ht
    simp only [List.forall_mem_cons] at hxy
    simp only [List.forall_mem_append, List.forall_mem_cons, List.not_mem_nil, false_imp_iff, implies_true,
      hnum, hkw, hxy, and_self]
  · simp only [List.forall_mem_append, List.forall_mem_cons, List.not_mem_nil, false_imp_iff, implies_true,
      hnum, hkw, and_self]

theorem okTok_boxLines (f : Fmt) (h : HiLo) : ∀ l ∈ boxLines f h, ∀ t ∈ l, okTok t :=
  allToks_boxLines f h (by decide) (fun _ => by decide) (okTok_fmtNum f)

/-- every token of a data file is a keyword, a printed cell, or a word of the atom_style. -/
theorem allToks_dataDoc {P : Tok → Prop} (f : Fmt) (style : String) (p : DataParts)
    (hkw : ∀ t ∈ [cs!"atoms", cs!"atom", cs!"types", cs!"Atoms", cs!"#", cs!"Velocities"], P t)
    (hbox : ∀ t ∈ [cs!"xlo", cs!"xhi", cs!"ylo", cs!"yhi", cs!"zlo", cs!"zhi"], P t)
    (htilt : tilted p.hilo → ∀ t ∈ [cs!"xy", cs!"xz", cs!"yz"], P t)
    (hcell : ∀ c : Cell, P (c.tok f)) (hword : ∀ w ∈ styleWords style, P (strTok w)) :
    ∀ l ∈ dataDocOf f style p, ∀ t ∈ l, P t := by
  simp only [List.forall_mem_cons] at hkw
  have hnat : ∀ n : Nat, P (natTok n) := fun n => by
    have := hcell (.int n)
    rwa [Cell.tok, intTok, if_neg (by omega), Int.natAbs_natCast] at this
  have hrows : ∀ rows, ∀ l ∈ rowsDoc f rows, ∀ t ∈ l, P t := fun rows l hl t ht => by
    obtain ⟨r, -, rfl⟩ := List.mem_map.mp hl
    obtain ⟨c, -, rfl⟩ := List.mem_map.mp ht
    exact hcell c
  have hwords : ∀ t ∈ (styleWords style).map strTok, P t := List.forall_mem_map.mpr hword
  have hbl := allToks_boxLines f p.hilo hbox htilt fun q => hcell (.num q)
  unfold dataDocOf
  cases p.vel <;>
  simp only [List.forall_mem_append, List.forall_mem_cons, List.not_mem_nil, false_imp_iff, implies_true,
    hnat, hkw, and_self, true_and, and_true]
  · exact ⟨⟨hbl, hwords⟩, hrows _⟩
  · exact ⟨⟨⟨hbl, hwords⟩, hrows _⟩, hrows _⟩

theorem noNL_dataDoc (f : Fmt) (style : String) (p : DataParts) (hst : StyleOk style) :
    ∀ l ∈ dataDocOf f style p, '\n' ∉ joinSp l := by
  have h := allToks_dataDoc (P := fun t => '\n' ∉ t) f style p (by decide) (by decide) (fun _ => by decide)
    (fun c => newline_not_mem_of_okChars (okTok_cellTok f c).2) (fun w hw => newline_not_mem_of_okChars (hst w hw).2)
  exact fun l hl => newline_not_mem_joinSp l fun t ht c hc e => h l hl t ht (e ▸ hc)

theorem rowsDoc_ok (f : Fmt) (rows : List (List Cell)) (hne : ∀ r ∈ rows, r ≠ []) :
    ∀ l ∈ rowsDoc f rows, l ≠ [] ∧ ∀ t ∈ l, okTok t := by
  intro l hl
  refine ⟨?_, okTok_rowsDoc f rows l hl⟩
  simp only [rowsDoc, List.mem_map] at hl
  obtain ⟨r, hr, rfl⟩ := hl
  simpa using hne r hr

theorem readDataFile_dataDoc (f : Fmt) (style : String) (p : DataParts) (hst : StyleOk style)
    (hlen : p.rows.length = p.natoms) (hne : ∀ r ∈ p.rows, r ≠ [])
    (hv : ∀ vr, p.vel = some vr → vr.length = p.natoms ∧ ∀ r ∈ vr, r ≠ []) :
    readDataFile (renderLines (dataDocOf f style p)) =
      some { natoms := p.natoms, ntypes := p.natypes, hilo := p.hilo.map (fmtVal f),
             styleHint := (styleWords style).map strTok, atoms := rowsDoc f p.rows,
             velocities := p.vel.map (rowsDoc f) } := by
  obtain ⟨natoms, natypes, h, rows, vel⟩ := p
  simp only at hlen hne hv ⊢
  unfold readDataFile
  rw [splitLines_renderLines _ (noNL_dataDoc f style _ hst)]
  have hwords : ∀ t ∈ (styleWords style).map strTok, okTok t := by
    intro t ht; obtain ⟨w, hw, rfl⟩ := List.mem_map.mp ht; exact hst w hw
  have hdoc : (dataDocOf f style ⟨natoms, natypes, h, rows, vel⟩).map joinSp =
      [] :: joinSp [natTok natoms, cs!"atoms"] :: joinSp [natTok natypes, cs!"atom", cs!"types"] ::
      ((boxLines f h).map joinSp ++ [] :: joinSp (atomsLine ((styleWords style).map strTok)) :: [] ::
        ((rowsDoc f rows).map joinSp ++ velTail (vel.map (rowsDoc f)))) := by
    cases vel <;>
    simp only [dataDocOf, atomsLine, velTail, Option.map, List.map_append, List.map_cons, List.map_nil, List.cons_append,
      List.nil_append, List.append_assoc, List.append_nil] <;> rfl
  rw [hdoc]
  simp only [List.drop_one, List.tail_cons]
  have hlit2 : ∀ t ∈ [natTok natoms, cs!"atoms"], okTok t := by
    intro t ht; simp at ht; rcases ht with rfl | rfl; exact okTok_natTok _; decide
  have hlit3 : ∀ t ∈ [natTok natypes, cs!"atom", cs!"types"], okTok t := by
    intro t ht; simp at ht; rcases ht with rfl | rfl | rfl; exact okTok_natTok _; decide; decide
  rw [readHeader_step _ hlit2 (by simp) _ _ _ (headerLine_atoms _ _),
    readHeader_step _ hlit3 (by simp) _ _ _ (headerLine_types _ _)]
  have hsec := readSections_written natoms natypes ((styleWords style).map strTok) (rowsDoc f rows) (vel.map (rowsDoc f))
    hwords (by simp [rowsDoc, hlen]) (rowsDoc_ok f rows hne)
    (by
      intro vr hvr
      cases vel with
      | none => simp at hvr
      | some v =>
        simp at hvr; subst hvr
        exact ⟨by simp [rowsDoc, (hv v rfl).1], rowsDoc_ok f v (hv v rfl).2⟩)
  have hA := (atomsLine_split _ hwords).1
  have hfuel : ∀ rest : List (List Char), rest.length = ((rowsDoc f rows).map joinSp ++ velTail (vel.map (rowsDoc f))).length + 2 →
      1 ≤ rest.length ∧ ((vel.map (rowsDoc f)).isSome = true → 3 ≤ rest.length) := fun rest hr =>
    ⟨by omega, fun hv' => by cases vel <;> simp [velTail] at hv' hr ⊢; omega⟩
  -- the three bounds lines, then the tilt line if there is one
  have hbl := okTok_boxLines f h
  unfold boxLines at hbl ⊢
  simp only [List.map_cons, List.map_append, List.cons_append, List.nil_append, List.append_assoc]
  rw [readHeader_step _ (hbl _ (by simp)) (List.cons_ne_nil _ _) _ _ _ (headerLine_x _ _ _ _),
    readHeader_step _ (hbl _ (by simp)) (List.cons_ne_nil _ _) _ _ _ (headerLine_y _ _ _ _),
    readHeader_step _ (hbl _ (by simp)) (List.cons_ne_nil _ _) _ _ _ (headerLine_z _ _ _ _)]
  by_cases ht : h.xy ≠ 0 ∨ h.xz ≠ 0 ∨ h.yz ≠ 0
  · simp only [ht, if_true, List.map_cons, List.map_nil, List.cons_append, List.nil_append] at hbl ⊢
    rw [readHeader_step _ (hbl _ (by simp)) (List.cons_ne_nil _ _) _ _ _ (headerLine_tilt _ _ _ _ _),
      readHeader_blank, readHeader_stop _ _ hA (List.cons_ne_nil _ _) _ _ (headerLine_Atoms _)]
    simp only [Option.bind_eq_bind, Option.bind_some, Option.getD_some]
    rw [hsec _ (hfuel _ (by simp))]
    rfl
  · simp only [ht, if_false, List.map_nil, List.nil_append]
    rw [readHeader_blank, readHeader_stop _ _ hA (List.cons_ne_nil _ _) _ _ (headerLine_Atoms _)]
    simp only [Option.bind_eq_bind, Option.bind_some, Option.getD_none]
    rw [hsec _ (hfuel _ (by simp))]
    obtain ⟨exy, exz, eyz⟩ := fmtVal_tilts_of_orthoH f ((not_tilted_iff h).mp ht)
    simp [HiLo.map, exy, exz, eyz]

end Atomman.C07
