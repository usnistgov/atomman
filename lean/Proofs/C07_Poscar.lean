/-
  C07 — the independent POSCAR reader applied to what `poscar.dump` writes.
-/
import Proofs.C07_Files
import Proofs.Folds

namespace Atomman.C07
open Atomman
set_option linter.unusedSimpArgs false

theorem countType_cons (a : Int) (as : List Int) (t : Int) :
    countType (a :: as) t = (if a = t then 1 else 0) + countType as t := by
  unfold countType
  rw [List.filter_cons]
  by_cases h : a = t <;> simp [h, Nat.add_comm]

theorem sum_indicator (a : Int) (n : Nat) :
    ((List.range n).map fun (i : Nat) => if a = (i : Int) + 1 then 1 else 0).sum = if 1 ≤ a ∧ a ≤ n then 1 else 0 := by
  induction n with
  | zero => simp; omega
  | succ n ih =>
    rw [List.range_succ, List.map_append, List.sum_append, ih]
    simp only [List.map_cons, List.map_nil, List.sum_cons, List.sum_nil, Nat.add_zero]
    push_cast
    split_ifs <;> omega

theorem sum_counts (atype : List Int) (n : Nat) (h : ∀ t ∈ atype, 1 ≤ t ∧ t ≤ (n : Int)) :
    ((List.range n).map fun (i : Nat) => countType atype ((i : Int) + 1)).sum = atype.length := by
  induction atype with
  | nil => simp [countType]
  | cons a as ih =>
    have e : (fun (i : Nat) => countType (a :: as) ((i : Int) + 1))
        = fun (i : Nat) => (if a = (i : Int) + 1 then 1 else 0) + countType as ((i : Int) + 1) := by
      funext i; exact countType_cons a as _
    rw [e, List.sum_map_add, sum_indicator, ih (fun t ht => h t (List.mem_cons_of_mem _ ht))]
    have := h a (by simp)
    simp [this]; omega

theorem length_group {α : Type} (atype : List Int) (xs : List α) (hl : atype.length = xs.length) (t : Int) :
    (((List.zip atype xs).filter (fun e => decide (e.1 = t))).map (·.2)).length = countType atype t := by
  induction atype generalizing xs with
  | nil => simp [countType]
  | cons a as ih =>
    cases xs with
    | nil => simp at hl
    | cons x xs =>
      simp only [List.length_cons, Nat.add_right_cancel_iff] at hl
      rw [countType_cons, List.zip_cons_cons, List.filter_cons]
      by_cases h : a = t
      · simp only [h, decide_true, if_true, List.map_cons, List.length_cons, ih xs hl]; omega
      · simp only [h, decide_false, Bool.false_eq_true, if_false, ih xs hl]; omega

theorem length_groupByType {α : Type} (atype : List Int) (xs : List α) (hl : atype.length = xs.length) (n : Nat) :
    (groupByType atype xs n).length = ((List.range n).map fun (i : Nat) => countType atype ((i : Int) + 1)).sum := by
  unfold groupByType
  rw [List.length_flatten, List.map_map]
  congr 1
  apply List.map_congr_left
  intro i _
  exact length_group atype xs hl _

theorem v3_smul_div (v : V3 ℚ) (c : ℚ) (hc : c ≠ 0) : V3.smul c (v3div v c) = v := by
  cases v; simp only [V3.smul, v3div, V3.mk.injEq]
  refine ⟨?_, ?_, ?_⟩ <;> field_simp

theorem groupByType_map {α β : Type} (f : α → β) (atype : List Int) (xs : List α) (n : Nat) :
    groupByType atype (xs.map f) n = (groupByType atype xs n).map f := by
  unfold groupByType
  rw [List.map_flatten, List.map_map]
  congr 1
  apply List.map_congr_left
  intro i _
  simp only [Function.comp, List.zip_map_right, List.filter_map, List.map_map]
  rfl

theorem le_maxType (l : List Int) : 0 ≤ maxType l ∧ ∀ t ∈ l, t ≤ maxType l := le_foldl_ite_max l 0

/-- VASP's reading of the coordinate-style line: Cartesian iff the first letter is one of `cCkK`. -/
def isCartTok (t : Tok) : Bool :=
  match t with
  | c :: _ => c = 'c' || c = 'C' || c = 'k' || c = 'K'
  | [] => false

/-- the optional symbols line of a POSCAR file. -/
def symDoc (symbols : Option (List String)) : Doc :=
  match symbols with
  | some l => [l.map strTok]
  | none => []

/-- the text layout of a POSCAR file. -/
def poscarDoc (f : Fmt) (header : List String) (symbols : Option (List String)) (coordstyle : String) (scale : ℚ)
    (p : PoscarNums) : Doc :=
  [header.map strTok, [fmtNum f scale], v3line f p.lattice.r0, v3line f p.lattice.r1, v3line f p.lattice.r2]
    ++ symDoc symbols ++ [p.counts.map natTok ++ [[]], [strTok coordstyle]] ++ p.coords.map (v3line f)

/-- the four refusals of `poscar.dump`, in the order the writer tests them, and the document otherwise. -/
theorem writePoscarDoc_cases (s : Sys) (header : List String) (symbols : Option (List String)) (coordstyle : String)
    (scale : ℚ) (f : Fmt) :
    ((scale ≤ 0 ∨ s.natoms = 0 ∨ coordstyle.toList = [] ∨ ∃ l, symbols = some l ∧ l.length ≠ s.natypes) ∧
      writePoscarDoc s header symbols coordstyle scale f = .error "value") ∨
    ((0 < scale ∧ s.natoms ≠ 0 ∧ coordstyle.toList ≠ [] ∧ ∀ l, symbols = some l → l.length = s.natypes) ∧
      writePoscarDoc s header symbols coordstyle scale f =
        .ok (poscarDoc f header symbols coordstyle scale (poscarNums s (isCartTok (strTok coordstyle)) scale))) := by
  unfold writePoscarDoc
  simp only [exceptSimp]
  split
  · exact .inl ⟨.inl ‹_›, rfl⟩
  split
  · exact .inl ⟨.inr (.inl ‹_›), rfl⟩
  split
  · exact .inl ⟨.inr (.inr (.inl ‹_›)), rfl⟩
  rename_i hsc hna hcs
  cases symbols with
  | none => exact .inr ⟨⟨lt_of_not_ge hsc, hna, hcs, fun l hl => nomatch hl⟩, rfl⟩
  | some l =>
    simp only
    split
    · exact .inl ⟨.inr (.inr (.inr ⟨l, rfl, ‹_›⟩)), rfl⟩
    · exact .inr ⟨⟨lt_of_not_ge hsc, hna, hcs, fun l' hl' => Option.some.inj hl' ▸ not_not.mp ‹_›⟩, rfl⟩

theorem writePoscarDoc_ok (s : Sys) (header : List String) (symbols : Option (List String)) (coordstyle : String)
    (scale : ℚ) (f : Fmt) (doc : Doc) (h : writePoscarDoc s header symbols coordstyle scale f = .ok doc) :
    0 < scale ∧ s.natoms ≠ 0 ∧ coordstyle.toList ≠ [] ∧ (∀ l, symbols = some l → l.length = s.natypes) ∧
    doc = poscarDoc f header symbols coordstyle scale (poscarNums s (isCartTok (strTok coordstyle)) scale) := by
  rcases writePoscarDoc_cases s header symbols coordstyle scale f with ⟨-, he⟩ | ⟨⟨h1, h2, h3, h4⟩, ho⟩
  · rw [he] at h; cases h
  · exact ⟨h1, h2, h3, h4, Except.ok.inj (h.symm.trans ho)⟩

theorem line3_v3line (f : Fmt) (v : V3 ℚ) : line3 (v3line f v) = some (v3map (fmtVal f) v) := by
  simp [line3, v3line, parseNum_fmtNum, v3map]

theorem okTok_v3line (f : Fmt) (v : V3 ℚ) : ∀ t ∈ v3line f v, okTok t := by
  intro t ht
  simp only [v3line, List.mem_cons, List.not_mem_nil, or_false] at ht
  rcases ht with rfl | rfl | rfl <;> exact okTok_fmtNum _ _

theorem lex_counts (counts : List Nat) : lexLine (joinSp (counts.map natTok ++ [[]])) = counts.map natTok := by
  rw [lexLine_joinSp]
  · rw [List.filter_append]
    have : (counts.map natTok).filter (· ≠ []) = counts.map natTok := by
      apply List.filter_eq_self.mpr
      intro t ht
      obtain ⟨c, _, rfl⟩ := List.mem_map.mp ht
      simpa using natTok_ne_nil c
    rw [this]; simp
  · intro t ht
    rcases List.mem_append.mp ht with ht | ht
    · obtain ⟨c, _, rfl⟩ := List.mem_map.mp ht
      exact okChars_natTok c
    · simp at ht; subst ht; exact okChars_nil

theorem mapM_parseNat_counts (counts : List Nat) : (counts.map natTok).mapM parseNat? = some counts := by
  simpa using mapM_option_map natTok parseNat? id counts fun c _ => parseNat_natTok c

theorem mapM_line3 (f : Fmt) (coords : List (V3 ℚ)) :
    (coords.map (v3line f)).mapM line3 = some (coords.map (v3map (fmtVal f))) :=
  mapM_option_map _ _ _ coords fun v _ => line3_v3line f v

/-- hypotheses on the strings handed to the POSCAR writer. -/
structure PoscarStringsOk (header : List String) (symbols : Option (List String)) (coordstyle : String) : Prop where
  header : ∀ w ∈ header, '\n' ∉ w.toList
  style : okTok (strTok coordstyle)
  /-- a line starting with `S`/`s` at this place is VASP's "Selective dynamics" switch -/
  notSelective : ∀ c r, coordstyle.toList = c :: r → c ≠ 'S' ∧ c ≠ 's'
  symbols : ∀ l, symbols = some l → (∀ w ∈ l, okTok (strTok w)) ∧ ∃ w r, l = w :: r ∧ parseNat? (strTok w) = none

/-- the result an independent POSCAR reader must produce. -/
def poscarExpected (f : Fmt) (header : List String) (symbols : Option (List String)) (coordstyle : String)
    (scale : ℚ) (p : PoscarNums) : ParsedPoscar :=
  let sc := fmtVal f scale
  let lat : M3 ℚ := ⟨V3.smul sc (v3map (fmtVal f) p.lattice.r0), V3.smul sc (v3map (fmtVal f) p.lattice.r1),
    V3.smul sc (v3map (fmtVal f) p.lattice.r2)⟩
  let cart := isCartTok (strTok coordstyle)
  let raw := p.coords.map (v3map (fmtVal f))
  { comment := joinSp (header.map strTok), scale := sc, lattice := lat,
    symbols := symbols.map (·.map strTok), counts := p.counts, cartesian := cart, raw := raw,
    pos := raw.map fun v => if cart then V3.smul sc v else M3.vecMul v lat }

theorem splitLines_poscarDoc (f : Fmt) (header : List String) (symbols : Option (List String)) (coordstyle : String)
    (scale : ℚ) (p : PoscarNums) (hh : ∀ w ∈ header, '\n' ∉ strTok w)
    (hsym : ∀ l, symbols = some l → ∀ w ∈ l, '\n' ∉ strTok w) (hcs : '\n' ∉ strTok coordstyle)
    (hne : strTok coordstyle ≠ []) :
    splitLines (renderJoin (poscarDoc f header symbols coordstyle scale p))
      = (poscarDoc f header symbols coordstyle scale p).map joinSp := by
  have hcsne : joinSp [strTok coordstyle] ≠ [] := hne
  apply splitLines_renderJoin
  · suffices h : ∀ l ∈ poscarDoc f header symbols coordstyle scale p, ∀ t ∈ l, '\n' ∉ t from
      fun l hl => newline_not_mem_joinSp l fun t ht c hc e => h l hl t ht (e ▸ hc)
    have hnum : ∀ q, '\n' ∉ fmtNum f q := fun q => newline_not_mem_of_okChars (okTok_fmtNum f q).2
    have h3 : ∀ v, ∀ t ∈ v3line f v, '\n' ∉ t := fun v t ht => newline_not_mem_of_okChars (okTok_v3line f v t ht).2
    have hsy : ∀ l ∈ symDoc symbols, ∀ t ∈ l, '\n' ∉ t := by
      cases symbols with
      | none => simp [symDoc]
      | some sy =>
        intro l hl t ht
        obtain rfl := List.mem_singleton.mp hl
        obtain ⟨w, hw, rfl⟩ := List.mem_map.mp ht
        exact hsym sy rfl w hw
    unfold poscarDoc
    simp only [List.forall_mem_append, List.forall_mem_cons, List.forall_mem_map, List.not_mem_nil, false_imp_iff,
      implies_true, hnum, not_false_eq_true, and_true, true_and]
    exact ⟨⟨⟨⟨hh, h3 _, h3 _, h3 _⟩, hsy⟩, fun k _ => newline_not_mem_of_okChars (okChars_natTok k), hcs⟩, fun v _ => h3 v⟩
  · intro l hl
    have : l = [strTok coordstyle] ∨ ∃ v, l = v3line f v := by
      simp only [poscarDoc] at hl
      by_cases hc : p.coords = []
      · left
        rw [hc, List.map_nil, List.append_nil, List.getLast?_append_of_ne_nil _ (by simp)] at hl
        simpa using hl.symm
      · right
        rw [List.getLast?_append_of_ne_nil _ (by simpa using hc)] at hl
        have := List.mem_of_getLast? hl
        obtain ⟨v, _, rfl⟩ := List.mem_map.mp this
        exact ⟨v, rfl⟩
    rcases this with rfl | ⟨v, rfl⟩
    · exact hcsne
    · simp only [v3line, joinSp]
      intro e
      have := (okTok_fmtNum f v.x).1
      simp only [List.append_eq_nil_iff] at e
      exact this e.1

/-- the POSCAR reader on lines of the written shape: comment, factor, three lattice rows, an optional symbols line
    (recognised by its first word not being a number), the counts, a one-word mode line that is not the
    `Selective dynamics` switch, and as many coordinate rows as the counts add up to. -/
theorem parsePoscar_of_lines {text c0 : List Char} {rest : List (List Char)} (hsp : splitLines text = c0 :: rest)
    {f : Fmt} {scale : ℚ} {a b c : V3 ℚ} {sym : Option Line} {counts : List Nat} {ch : Char} {r : Tok}
    {coords : List (V3 ℚ)}
    (hlex : rest.map lexLine = [fmtNum f scale] :: v3line f a :: v3line f b :: v3line f c ::
      (sym.toList ++ counts.map natTok :: [ch :: r] :: coords.map (v3line f)))
    (hsym : ∀ l, sym = some l → ∃ t tl, l = t :: tl ∧ parseNat? t = none)
    (hcounts : counts ≠ []) (hS : ch ≠ 'S') (hs : ch ≠ 's')
    (hn : counts.foldl (· + ·) 0 = coords.length) (hscale : 0 < fmtVal f scale) :
    parsePoscar text = some
      { comment := c0, scale := fmtVal f scale,
        lattice := ⟨V3.smul (fmtVal f scale) (v3map (fmtVal f) a), V3.smul (fmtVal f scale) (v3map (fmtVal f) b),
          V3.smul (fmtVal f scale) (v3map (fmtVal f) c)⟩,
        symbols := sym, counts := counts, cartesian := (ch = 'c' || ch = 'C' || ch = 'k' || ch = 'K'),
        raw := coords.map (v3map (fmtVal f)),
        pos := (coords.map (v3map (fmtVal f))).map fun v =>
          if (ch = 'c' || ch = 'C' || ch = 'k' || ch = 'K') then V3.smul (fmtVal f scale) v
          else M3.vecMul v ⟨V3.smul (fmtVal f scale) (v3map (fmtVal f) a),
            V3.smul (fmtVal f scale) (v3map (fmtVal f) b), V3.smul (fmtVal f scale) (v3map (fmtVal f) c)⟩ } := by
  obtain ⟨k0, kr, rfl⟩ := List.exists_cons_of_ne_nil hcounts
  have htake : (coords.map (v3line f)).take coords.length = coords.map (v3line f) :=
    List.take_of_length_le (by rw [List.length_map])
  have hmc := mapM_parseNat_counts (k0 :: kr)
  rw [List.map_cons] at hmc
  unfold parsePoscar
  rcases sym with _ | l
  case' some => obtain ⟨t, tl, rfl, ht⟩ := hsym _ rfl
  -- up to the counts line; the two cases differ in the fifth line, a number or not
  case' none =>
    simp only [hsp, hlex, Option.toList_none, List.nil_append, List.map_cons, parseNum_fmtNum, line3_v3line,
      not_le.mpr hscale, parseNat_natTok, Option.isNone_some, Bool.false_eq_true, if_false, bind, pure,
      Option.bind_some, hmc, List.cons_ne_nil, hn]
  case' some =>
    simp only [hsp, hlex, Option.toList_some, List.cons_append, List.nil_append, List.map_cons, parseNum_fmtNum,
      line3_v3line, not_le.mpr hscale, ht, Option.isNone_none, if_true, if_false, bind, pure, Option.bind_some,
      hmc, List.cons_ne_nil, hn]
  -- the mode line is not the `Selective dynamics` switch
  all_goals
    split
    · rename_i mode body hm
      split at hm
      · rename_i heq; exact absurd (List.cons.inj (List.cons.inj (List.cons.inj heq).1).1).1 hS
      · rename_i heq; exact absurd (List.cons.inj (List.cons.inj (List.cons.inj heq).1).1).1 hs
      · obtain ⟨rfl, rfl⟩ := List.cons.inj hm
        simp only [htake, List.length_map, ne_eq, not_true_eq_false, if_false, mapM_line3, Option.bind_some]
    · rename_i hm
      split at hm
      · rename_i heq; exact absurd (List.cons.inj (List.cons.inj (List.cons.inj heq).1).1).1 hS
      · rename_i heq; exact absurd (List.cons.inj (List.cons.inj (List.cons.inj heq).1).1).1 hs
      · cases hm

theorem parsePoscar_poscarDoc (f : Fmt) (header : List String) (symbols : Option (List String)) (coordstyle : String)
    (scale : ℚ) (p : PoscarNums) (hs : PoscarStringsOk header symbols coordstyle)
    (hcounts : p.counts ≠ []) (hn : p.counts.foldl (· + ·) 0 = p.coords.length) (hscale : 0 < fmtVal f scale) :
    parsePoscar (renderJoin (poscarDoc f header symbols coordstyle scale p))
      = some (poscarExpected f header symbols coordstyle scale p) := by
  have h1 : lexLine (joinSp [fmtNum f scale]) = [fmtNum f scale] :=
    lexLine_joinSp_ok _ (fun t ht => List.mem_singleton.mp ht ▸ okTok_fmtNum f scale)
  have h3 : ∀ v, lexLine (joinSp (v3line f v)) = v3line f v := fun v => lexLine_joinSp_ok _ (okTok_v3line f v)
  have hco : p.coords.map (lexLine ∘ joinSp ∘ v3line f) = p.coords.map (v3line f) :=
    List.map_congr_left fun v _ => h3 v
  have hcs : lexLine (joinSp [strTok coordstyle]) = [strTok coordstyle] :=
    lexLine_joinSp_ok _ (fun t ht => List.mem_singleton.mp ht ▸ hs.style)
  have hsy : (symDoc symbols).map (lexLine ∘ joinSp) = (symbols.map (·.map strTok)).toList := by
    cases symbols with
    | none => rfl
    | some l =>
      exact congrArg (· :: []) (lexLine_joinSp_ok _ (fun t ht => by
        obtain ⟨x, hx, rfl⟩ := List.mem_map.mp ht; exact (hs.symbols l rfl).1 x hx))
  obtain ⟨c0, cr, hc0⟩ := List.exists_cons_of_ne_nil hs.style.1
  obtain ⟨hS, hs'⟩ := hs.notSelective c0 cr hc0
  rw [hc0] at hcs
  have hsp : splitLines (renderJoin (poscarDoc f header symbols coordstyle scale p)) =
      joinSp (header.map strTok) :: (([[fmtNum f scale], v3line f p.lattice.r0, v3line f p.lattice.r1,
        v3line f p.lattice.r2] ++ symDoc symbols ++ [p.counts.map natTok ++ [[]], [strTok coordstyle]] ++
        p.coords.map (v3line f)).map joinSp) := splitLines_poscarDoc f header symbols coordstyle scale p hs.header
      (fun l hl w hw => newline_not_mem_of_okChars ((hs.symbols l hl).1 w hw).2) (newline_not_mem_of_okChars hs.style.2)
      hs.style.1
  have hp := parsePoscar_of_lines (sym := symbols.map (·.map strTok)) (counts := p.counts) (ch := c0) (r := cr)
    (coords := p.coords) (a := p.lattice.r0) (b := p.lattice.r1) (c := p.lattice.r2) hsp
    (by simp only [List.map_cons, List.map_append, List.map_nil, List.map_map, List.cons_append,
          List.nil_append, List.append_assoc, Function.comp_apply, hc0, h1, h3, hcs, hsy, lex_counts, hco])
    ?_ hcounts hS hs' hn hscale
  · rw [hp]
    simp only [poscarExpected, isCartTok, show strTok coordstyle = c0 :: cr from hc0]
  · intro l hl
    obtain ⟨sy, rfl, rfl⟩ := Option.map_eq_some_iff.mp hl
    obtain ⟨_, w, wr, rfl, hw⟩ := hs.symbols sy rfl
    exact ⟨_, _, rfl, hw⟩

theorem poscarNums_counts (s : Sys) (cart : Bool) (scale : ℚ) (hna : s.natoms ≠ 0)
    (hlen : s.atype.length = s.pos.length) (hty : ∀ t ∈ s.atype, 1 ≤ t ∧ t ≤ (s.natypes : Int)) :
    (poscarNums s cart scale).counts ≠ [] ∧
    (poscarNums s cart scale).counts.foldl (· + ·) 0 = (poscarNums s cart scale).coords.length ∧
    (poscarNums s cart scale).coords.length = s.natoms := by
  have hcl : (poscarNums s cart scale).coords.length = s.natoms := by
    simp only [poscarNums]
    rw [length_groupByType s.atype _ (by split <;> simp [hlen]), sum_counts s.atype s.natypes hty, hlen]; rfl
  refine ⟨?_, ?_, hcl⟩
  · -- there is an atom, and its type is one of `1..natypes`
    obtain ⟨t0, ht0⟩ := List.exists_mem_of_length_pos (l := s.atype) (hlen ▸ Nat.pos_of_ne_zero hna)
    have := hty t0 ht0
    simp only [poscarNums, ne_eq, List.map_eq_nil_iff, List.range_eq_nil]
    omega
  · rw [hcl, foldl_add_eq_sum, Nat.zero_add]
    simp only [poscarNums]
    rw [sum_counts s.atype _ hty, hlen]; rfl

theorem poscarNums_counts_length (s : Sys) (cart : Bool) (scale : ℚ) :
    (poscarNums s cart scale).counts.length = s.natypes := by
  simp [poscarNums]

theorem parsePoscar_writePoscar (s : Sys) (header : List String) (symbols : Option (List String)) (coordstyle : String)
    (scale : ℚ) (f : Fmt) (text : List Char) (h : writePoscar s header symbols coordstyle scale f = .ok text)
    (hs : PoscarStringsOk header symbols coordstyle) (hscale : 0 < fmtVal f scale)
    (hlen : s.atype.length = s.pos.length) (hty : ∀ t ∈ s.atype, 1 ≤ t ∧ t ≤ (s.natypes : Int)) :
    0 < scale ∧ s.natoms ≠ 0 ∧ (∀ l, symbols = some l → l.length = s.natypes) ∧
    parsePoscar text = some (poscarExpected f header symbols coordstyle scale
      (poscarNums s (isCartTok (strTok coordstyle)) scale)) := by
  obtain ⟨doc, hd, rfl⟩ := map_ok h
  obtain ⟨hsc, hna, _, hsym, rfl⟩ := writePoscarDoc_ok s header symbols coordstyle scale f doc hd
  obtain ⟨c1, c2, _⟩ := poscarNums_counts s (isCartTok (strTok coordstyle)) scale hna hlen hty
  exact ⟨hsc, hna, hsym, parsePoscar_poscarDoc f header symbols coordstyle scale _ hs c1 c2 hscale⟩

end Atomman.C07
