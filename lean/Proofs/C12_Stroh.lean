/-
  The algebraic core of the Stroh clauses.  `F` is an arbitrary field of characteristic zero (the driver runs the same
  definitions at `F := Cx ℚ`).  The eigen-solver and the 3x3 inverse are parameters; what they are assumed to satisfy is an
  explicit hypothesis of the theorem that needs it, and the driver recomputes the corresponding residual on every
  correspondence case.  The fields are kept as coefficients of `ln ηₐ` resp. `1/ηₐ`, `ηₐ` affine with gradient `m + pₐ n`;
  theorems named `…_partial` say in their docstring what is missing with respect to the property clause.
-/
import Proofs.C12_Lemmas
import Proofs.C12_Mode
import Mathlib.Tactic.FieldSimp

namespace Atomman.C12
set_option linter.unusedSimpArgs false
set_option linter.unusedSectionVars false

variable {F : Type} [Field F] [CharZero F]

/-- **Stroh, first half**: if `(A, L)` is an eigenvector of the coded 6x6 `N` for the eigenvalue `p`
    (upper three rows suffice) and `nnInv` is the inverse of `nn`, then `L = -(nm + p·nn) A`. -/
theorem stroh_L (s : Setup F) (nnInv : Mat F) (μ : Mode F)
    (hinv : ∀ i j, matMul s.nn nnInv i j = kron i j)
    (htop : ∀ i, eigResTop s nnInv μ i = 0) (i : Fin 3) :
    μ.L i = -(sum3 fun j => (s.nm i j + μ.p * s.nn i j) * μ.A j) := by
  -- the upper rows say `nn⁻¹ (nm A + L) = −p A`; applying `nn` gives `nm A + L = −p nn A`
  have key : ∀ h, matVec nnInv (fun g => (sum3 fun j => s.nm g j * μ.A j) + μ.L g) h = -(μ.p * μ.A h) := by
    intro h
    have := htop h
    simp only [eigResTop, matVec, matMul, NA, NB, sum3] at this ⊢
    linear_combination -this
  have h3 := inv_op_of_matMul s.nn nnInv hinv (fun g => (sum3 fun j => s.nm g j * μ.A j) + μ.L g) i
  have k0 := key 0; have k1 := key 1; have k2 := key 2
  simp only [matVec, sum3] at h3 k0 k1 k2 ⊢
  linear_combination -h3 + s.nn i 0 * k0 + s.nn i 1 * k1 + s.nn i 2 * k2

/-- **Stroh, second half**: with the lower three rows of the eigen equation as well, `(mm + p (mn + nm) + p² nn) A = 0`
    (the first conjunct restates `stroh_L`). -/
theorem stroh_sextic (s : Setup F) (nnInv : Mat F) (μ : Mode F)
    (hinv : ∀ i j, matMul s.nn nnInv i j = kron i j)
    (htop : ∀ i, eigResTop s nnInv μ i = 0) (hbot : ∀ i, eigResBot s nnInv μ i = 0) :
    (∀ i, μ.L i = -(sum3 fun j => (s.nm i j + μ.p * s.nn i j) * μ.A j))
      ∧ ∀ i, matVec (sextic s μ.p) μ.A i = 0 := by
  refine ⟨stroh_L s nnInv μ hinv htop, ?_⟩
  intro i
  have hL := stroh_L s nnInv μ hinv htop i
  have hb := hbot i
  have h0 := htop 0; have h1 := htop 1; have h2 := htop 2
  -- lower rows − `mn`·(upper rows) leave `mm A + p mn A − p L`; with `L = −(nm + p nn) A` this is the sextic matrix on `A`
  simp only [eigResTop, eigResBot, matVec, matMul, NA, NB, NC, ND, sextic, sum3] at *
  linear_combination hb - s.mn i 0 * h0 - s.mn i 1 * h1 - s.mn i 2 * h2 + μ.p * hL

/-- `ηₐ` is affine in the field point with gradient `m + pₐ n`. -/
theorem eta_dir_deriv (s : Setup F) (μ : Mode F) (x e : Vec F) (t : F) :
    eta s μ (fun i => x i + t * e i) = eta s μ x + t * dot e (mpn s μ) := by
  simp only [eta, dot, mpn, sum3]; ring

/-- the `1/ηₐ` coefficients of the coded strain are the symmetrised products `½(cₐᵢ (m+pₐn)ⱼ + cₐⱼ (m+pₐn)ᵢ)`
    of the `ln ηₐ` coefficients `cₐ` of the coded displacement, i.e. the strain is the formal symmetric
    gradient of the displacement (`∂ⱼ ln ηₐ = (m+pₐn)ⱼ/ηₐ` by `eta_dir_deriv`). -/
theorem strain_is_symgrad (pi I : F) (s : Setup F) (μ : Fin 6 → Mode F) (k : Fin 6 → F) (a : Fin 6)
    (i j : Fin 3) :
    strainCoef pi I s μ k a i j
      = (dispCoef pi I s μ k a i * mpn s (μ a) j + dispCoef pi I s μ k a j * mpn s (μ a) i) / 2 :=
  congrFun (congrFun (strainCoef_eq pi I s μ k a) i) j

/-- coded stress = `C : strain` mode by mode, given the minor symmetry `C_ijkl = C_ijlk`. -/
theorem stress_is_C_strain (pi I : F) (s : Setup F) (μ : Fin 6 → Mode F) (k : Fin 6 → F)
    (hC : ∀ i j k l, s.C i j k l = s.C i j l k) (a : Fin 6) (i j : Fin 3) :
    stressCoef pi I s μ k a i j
      = sum3 fun k' => sum3 fun l => s.C i j k' l * strainCoef pi I s μ k a k' l := by
  rw [stressCoef_eq, strainCoef_eq]
  exact hooke_eq_symOuter s.C hC _ _ i j

theorem stress_is_C_strain_at (pi I : F) (s : Setup F) (μ : Fin 6 → Mode F) (k : Fin 6 → F)
    (hC : ∀ i j k l, s.C i j k l = s.C i j l k) (x : Vec F) (i j : Fin 3) :
    stressAt pi I s μ k x i j = sum3 fun k' => sum3 fun l => s.C i j k' l * strainAt pi I s μ k x k' l := by
  simp only [stressAt, strainAt, stress_is_C_strain pi I s μ k hC, sum6_sum3_mul, mul_assoc, ← mul_sum6]

/-- the stress coefficient of one mode contracted with ANY vector `v`; the divergence is the case `v = m + pₐn`
    (`stress_div_free`), the traction on the slip plane the case `v = n` (`traction_coef`). -/
theorem stressCoef_apply (pi I : F) (s : Setup F) (μ : Fin 6 → Mode F) (k : Fin 6 → F)
    (hC : ∀ i j k l, s.C i j k l = s.C j i k l) (a : Fin 6) (v : Vec F) (i : Fin 3) :
    (sum3 fun j => stressCoef pi I s μ k a i j * v j)
      = 1 / (2 * pi * I) * (kLb s μ k a * matVec (contract v s.C (mpn s (μ a))) (μ a).A i) := by
  rw [stressCoef_eq, hooke_apply s.C hC, matVec_dispCoef]

theorem contract_mpn (s : Setup F) (μ : Mode F) (v : Vec F) (i j : Fin 3) :
    contract v s.C (mpn s μ) i j = contract v s.C s.m i j + μ.p * contract v s.C s.n i j := by
  simp only [contract, mpn, sum3]; ring

theorem sextic_eq_contract (s : Setup F) (μ : Mode F) (i j : Fin 3) :
    sextic s μ.p i j = contract (mpn s μ) s.C (mpn s μ) i j := by
  simp only [sextic, Setup.mm, Setup.mn, Setup.nm, Setup.nn, contract, mpn, sum3]; ring

/-- divergence: `∂ⱼ σᵢⱼ = -Σₐ (Σⱼ stressCoef a i j (m+pₐn)ⱼ)/ηₐ²`; each `1/ηₐ²` coefficient vanishes
    by the sextic equation (with the minor symmetry `C_ijkl = C_jikl`). -/
theorem stress_div_free (pi I : F) (s : Setup F) (μ : Fin 6 → Mode F) (k : Fin 6 → F)
    (hC : ∀ i j k l, s.C i j k l = s.C j i k l) (a : Fin 6)
    (hsext : ∀ i, matVec (sextic s (μ a).p) (μ a).A i = 0) (i : Fin 3) :
    (sum3 fun j => stressCoef pi I s μ k a i j * mpn s (μ a) j) = 0 := by
  have h := hsext i
  simp only [matVec, sextic_eq_contract] at h
  rw [stressCoef_apply pi I s μ k hC, matVec, h, mul_zero, mul_zero]

theorem stress_div_free_of_eigen (pi I : F) (s : Setup F) (nnInv : Mat F) (μ : Fin 6 → Mode F) (k : Fin 6 → F)
    (hC : ∀ i j k l, s.C i j k l = s.C j i k l) (hinv : ∀ i j, matMul s.nn nnInv i j = kron i j) (a : Fin 6)
    (htop : ∀ i, eigResTop s nnInv (μ a) i = 0) (hbot : ∀ i, eigResBot s nnInv (μ a) i = 0) (i : Fin 3) :
    (sum3 fun j => stressCoef pi I s μ k a i j * mpn s (μ a) j) = 0 :=
  stress_div_free pi I s μ k hC a (stroh_sextic s nnInv (μ a) hinv htop hbot).2 i

theorem updn_sq (a : Fin 6) : (updn a : F) * updn a = 1 := by
  fin_cases a <;> simp [updn]

/-- the jump of the coded displacement, without any hypothesis on the eigen-solution: `Σₐ kₐ Aₐ⊗Lₐ` applied to `b`. -/
theorem dispJump_eq_chkAL (pi I : F) (s : Setup F) (μ : Fin 6 → Mode F) (k : Fin 6 → F)
    (hpi : pi ≠ 0) (hI : I ≠ 0) (i : Fin 3) :
    dispJump pi I s μ k i = sum3 fun j => chkAL μ k i j * s.b j := by
  have h2 : 1 / (2 * pi * I) * (2 * pi * I) = 1 := one_div_mul_cancel (mul_ne_zero (mul_ne_zero (OfNat.ofNat_ne_zero 2) hpi) hI)
  -- one mode's share: the prefactor `1/(2πi)` meets the jump `updnₐ·2πi` of `ln ηₐ`, and `updnₐ² = 1`
  have term : ∀ a, dispCoef pi I s μ k a i * (updn a * (((2 : ℕ) : F) * pi * I)) = dot (μ a).L s.b * (k a * (μ a).A i) := by
    intro a
    simp only [dispCoef, kLb, Nat.cast_ofNat, Nat.cast_one]
    linear_combination (k a * dot (μ a).L s.b * (μ a).A i) * (updn a * updn a * h2 + updn_sq (F := F) a)
  simp only [dispJump, dispAt, term, chkAL, dot, sum6_sum3_mul, sum6_mul]
  congr 1; funext j; congr 1; funext a; ring

theorem dispJump_defect (pi I : F) (s : Setup F) (μ : Fin 6 → Mode F) (k : Fin 6 → F)
    (hpi : pi ≠ 0) (hI : I ≠ 0) (i : Fin 3) :
    dispJump pi I s μ k i - s.b i = sum3 fun j => (chkAL μ k i j - kron i j) * s.b j := by
  rw [dispJump_eq_chkAL pi I s μ k hpi hI i]
  nth_rewrite 1 [← sum3_kron_mul i s.b]
  simp only [sum3]; ring

/-- **closure**: if the completeness relation `Σₐ kₐ Aₐ⊗Lₐ = 1` holds (the code's first self-check) and
    every `ln ηₐ` jumps by `updnₐ·2πi` across the cut (`+2πi` for the first, `−2πi` for the second member
    of each conjugate pair: `Im pₐ > 0` resp. `< 0`), the displacement jumps by exactly `b`. -/
theorem burgers_closure (pi I : F) (s : Setup F) (μ : Fin 6 → Mode F) (k : Fin 6 → F)
    (hpi : pi ≠ 0) (hI : I ≠ 0) (hcomp : ∀ i j, chkAL μ k i j = kron i j) (i : Fin 3) :
    dispJump pi I s μ k i = s.b i := by
  rw [dispJump_eq_chkAL pi I s μ k hpi hI i]
  simp only [hcomp, sum3_kron_mul]

/-- continuity elsewhere, algebraic core: the difference of the displacement at two points is the FIXED linear form
    `Σₐ dispCoefₐ (ln ηₐ(x₁) - ln ηₐ(x₂))` of the differences of the six logarithms, so where no `ln ηₐ` jumps the
    displacement does not jump (the analytic statement is `disp_continuous_off_cut_analytic`). -/
theorem disp_continuous_off_cut (pi I : F) (s : Setup F) (μ : Fin 6 → Mode F) (k : Fin 6 → F)
    (l₁ l₂ : Fin 6 → F) (i : Fin 3) :
    dispAt pi I s μ k l₁ i - dispAt pi I s μ k l₂ i = (sum6 fun a => dispCoef pi I s μ k a i * (l₁ a - l₂ a))
    ∧ ((∀ a, l₁ a = l₂ a) → dispAt pi I s μ k l₁ i = dispAt pi I s μ k l₂ i) := by
  refine ⟨?_, fun h => ?_⟩
  · simp only [dispAt, sum6]; ring
  · simp only [dispAt, sum6, h]

theorem K_symm (I : F) (μ : Fin 6 → Mode F) (k : Fin 6 → F) (i j : Fin 3) :
    kTensor I μ k i j = kTensor I μ k j i := by
  simp only [kTensor, sum6]; ring

section real
variable {K : Type} [Field K] [LinearOrder K] [IsStrictOrderedRing K]

def conjMode (μ : Mode (Cx K)) : Mode (Cx K) :=
  ⟨Cx.conj μ.p, fun i => Cx.conj (μ.A i), fun i => Cx.conj (μ.L i)⟩

/-- the ordering of the eigen-solver output that `updn = [1,-1,1,-1,1,-1]` presupposes:
    modes 1, 3, 5 are the complex conjugates of modes 0, 2, 4. -/
def ConjPairs (μ : Fin 6 → Mode (Cx K)) : Prop :=
  μ 1 = conjMode (μ 0) ∧ μ 3 = conjMode (μ 2) ∧ μ 5 = conjMode (μ 4)

theorem kOf_conj (μ : Mode (Cx K)) : kOf (conjMode μ) = Cx.conj (kOf μ) := by
  simp only [kOf, conjMode, dot, sum3, Cx.conj_div, Cx.conj_mul, Cx.conj_add, Cx.conj_natCast]

/-- `K_tensor` is real — **partial**: assumes that `numpy.linalg.eig` lists the modes as adjacent
    conjugate pairs (`ConjPairs`; LAPACK does so for a real matrix, the code does not check it except
    through `K_tensor.dtype`). -/
theorem K_real_partial (μ : Fin 6 → Mode (Cx K)) (hp : ConjPairs μ) (i j : Fin 3) :
    (kTensor Cx.I μ (fun a => kOf (μ a)) i j).im = 0 := by
  obtain ⟨h1, h3, h5⟩ := hp
  apply Cx.im_eq_zero_of_conj_eq
  simp only [kTensor, sum6, h1, h3, h5, kOf_conj, Cx.conj_mul, Cx.conj_add, Cx.conj_I, Cx.conj_conj, updn]
  simp [conjMode, Cx.conj_neg, Cx.conj_one, Cx.conj_conj]
  ring

end real

/-- traction of one mode on the slip plane. -/
theorem traction_coef (pi I : F) (s : Setup F) (μ : Fin 6 → Mode F) (k : Fin 6 → F)
    (hC : ∀ i j k l, s.C i j k l = s.C j i k l) (a : Fin 6)
    (hL : ∀ i, (μ a).L i = -(sum3 fun j => (s.nm i j + (μ a).p * s.nn i j) * (μ a).A j)) (i : Fin 3) :
    (sum3 fun j => stressCoef pi I s μ k a i j * s.n j) = -(1 / (2 * pi * I)) * (kLb s μ k a * (μ a).L i) := by
  rw [stressCoef_apply pi I s μ k hC, hL i]
  simp only [matVec, contract_mpn, Setup.nm, Setup.nn]; ring

set_option linter.unusedVariables false in
/-- **the energy-coefficient tensor is the traction coefficient of the slip plane**: at a point of the slip plane at
    distance `X` ahead of the line (`ηₐ = X` for every mode) the coded stress gives the traction
    `σ·n = K·b / (2πX)`, with `K` the coded `K_tensor` — so `½ b·σ·n` integrated along the cut is
    `b·K·b/(4π) · ln(R/r₀)`, the pre-logarithmic energy factor `preln`.  (`hX` is not used.) -/
theorem K_is_traction (pi I : F) (hpi : pi ≠ 0) (hI : I * I = -1) (s : Setup F) (μ : Fin 6 → Mode F) (k : Fin 6 → F)
    (hC : ∀ i j k l, s.C i j k l = s.C j i k l)
    (hL : ∀ a i, (μ a).L i = -(sum3 fun j => (s.nm i j + (μ a).p * s.nn i j) * (μ a).A j))
    (x : Vec F) (X : F) (hX : X ≠ 0) (hx : ∀ a, eta s (μ a) x = X) (i : Fin 3) :
    (sum3 fun j => stressAt pi I s μ k x i j * s.n j) = matVec (kTensor I μ k) s.b i / (2 * pi * X) := by
  have hI0 : I ≠ 0 := by intro h; rw [h] at hI; simp at hI
  have hc : -(1 / (2 * pi * I)) = I / (2 * pi) := by
    field_simp
    linear_combination (-1 : F) * hI
  -- mode by mode: the traction coefficient on one side, the summand `kLbₐ Lₐ` of `K b` on the other
  have t : ∀ a, (sum3 fun j => stressCoef pi I s μ k a i j * s.n j) = I / (2 * pi) * (kLb s μ k a * (μ a).L i) :=
    fun a => by rw [traction_coef pi I s μ k hC a (hL a) i, hc]
  have e : matVec (kTensor I μ k) s.b i = I * sum6 fun a => kLb s μ k a * (μ a).L i := by
    simp only [matVec, kTensor, mul_assoc I, ← mul_sum3, sum3_sum6_mul]
    congr 2; funext a
    simp only [kLb, dot, sum3]; ring
  have sw : (sum3 fun j => stressAt pi I s μ k x i j * s.n j)
      = (sum6 fun a => sum3 fun j => stressCoef pi I s μ k a i j * s.n j) / X := by
    simp only [stressAt, hx, sum6_mul, div_eq_mul_inv, sum6_sum3_mul, Nat.cast_one, one_mul, mul_right_comm _ X⁻¹]
  rw [sw, e]
  simp only [t, sum6]
  ring

/-- **independence of the order of the eigen-solver output**: listing the three conjugate pairs in another order
    (any permutation of the six modes that keeps even positions even, i.e. keeps the `+` member of each pair on a
    `+` slot of `updn`) changes neither the fields nor `K_tensor`. -/
theorem pair_order_invariant (σ : Equiv.Perm (Fin 6)) (hσ : ∀ a, (σ a).val % 2 = a.val % 2)
    (pi I : F) (s : Setup F) (μ : Fin 6 → Mode F) (k lnη : Fin 6 → F) (x : Vec F) :
    (∀ i, dispAt pi I s (fun a => μ (σ a)) (fun a => k (σ a)) (fun a => lnη (σ a)) i = dispAt pi I s μ k lnη i)
    ∧ (∀ i j, strainAt pi I s (fun a => μ (σ a)) (fun a => k (σ a)) x i j = strainAt pi I s μ k x i j)
    ∧ (∀ i j, stressAt pi I s (fun a => μ (σ a)) (fun a => k (σ a)) x i j = stressAt pi I s μ k x i j)
    ∧ ∀ i j, kTensor I (fun a => μ (σ a)) (fun a => k (σ a)) i j = kTensor I μ k i j := by
  have hu : ∀ a, (updn (σ a) : F) = updn a := fun a => by simp only [updn, hσ a]
  refine ⟨fun i => ?_, fun i j => ?_, fun i j => ?_, fun i j => ?_⟩
  · simp only [dispAt]
    refine Eq.trans ?_ (sum6_perm σ _)
    simp only [dispCoef, kLb, hu]
  · simp only [strainAt]
    refine Eq.trans ?_ (sum6_perm σ _)
    simp only [strainCoef, kLb, hu]
  · simp only [stressAt]
    refine Eq.trans ?_ (sum6_perm σ _)
    simp only [stressCoef, kLb, hu]
  · simp only [kTensor]
    rw [← sum6_perm σ fun b => updn b * k b * (μ b).L i * (μ b).L j]
    simp only [hu]

/-- the swap of the first two pairs `(0 1 2 3 4 5) ↦ (2 3 0 1 4 5)` satisfies the hypothesis. -/
example : ∀ a : Fin 6, (((Equiv.swap (0 : Fin 6) 2).trans (Equiv.swap 1 3)) a).val % 2 = a.val % 2 := by decide

/-- isotropic test medium `C11 = 3, C12 = 1, C44 = 1`, frame `m = x, n = y`, screw Burgers vector. -/
def exC : Fin 6 → Fin 6 → Cx ℚ := fun a b =>
  if a = b then (if a.val < 3 then 3 else 1) else if a.val < 3 ∧ b.val < 3 then 1 else 0
def exSetup : Setup (Cx ℚ) :=
  ⟨cijkl exC, fun i => if i = 0 then 1 else 0, fun i => if i = 1 then 1 else 0, fun i => if i = 2 then 1 else 0⟩
def exInv : Mat (Cx ℚ) := fun i j => if i = j then (if i = 1 then ⟨1/3, 0⟩ else 1) else 0
/-- the screw mode `p = i, A = e_z, L = -i e_z` -/
def exMode : Mode (Cx ℚ) := ⟨Cx.I, fun i => if i = 2 then 1 else 0, fun i => if i = 2 then -Cx.I else 0⟩

example : ∀ i j, matMul exSetup.nn exInv i j = kron i j := by decide +kernel
example : ∀ i, eigResTop exSetup exInv exMode i = 0 := by decide +kernel
example : ∀ i, eigResBot exSetup exInv exMode i = 0 := by decide +kernel
example : ∀ i j k l, exSetup.C i j k l = exSetup.C i j l k ∧ exSetup.C i j k l = exSetup.C j i k l := by
  decide +kernel
example : ∀ i, matVec (sextic exSetup exMode.p) exMode.A i = 0 := by decide +kernel
example : ConjPairs (K := ℚ) (fun a => if a.val % 2 = 0 then exMode else conjMode exMode) := by
  exact ⟨rfl, rfl, rfl⟩
example : dot exMode.A exMode.L ≠ 0 := by decide +kernel

end Atomman.C12
