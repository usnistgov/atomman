/-
  C01_Clean — the clean-up of the `vects` setter (`|x| ≤ thr · max|v|  →  0`): it only ever lowers the largest entry, so a second
  pass finds nothing new to remove (`clean_idem`); it keeps zeros, and an entry it does not zero it leaves alone, so a
  LAMMPS-oriented cell stays LAMMPS-oriented unless a diagonal entry is flattened (`clean_normal_of_det`).
-/
import Proofs.C01_Cell

namespace Atomman.C01
open Atomman
set_option linter.unusedSectionVars false

variable {K : Type} [Field K] [LinearOrder K] [IsStrictOrderedRing K]

theorem maxAbs_clean_le (thr : K) (m : M3 K) : maxAbs (cleanVects thr m) ≤ maxAbs m := by
  obtain ⟨h1, h2, h3, h4, h5, h6, h7, h8, h9⟩ := (maxAbs_le_iff m _).mp le_rfl
  have t : ∀ x : K, |x| ≤ maxAbs m → |cleanEntry thr (maxAbs m) x| ≤ maxAbs m := fun x h => (abs_cleanEntry_le _ _ x).trans h
  exact (maxAbs_le_iff _ _).mpr ⟨t _ h1, t _ h2, t _ h3, t _ h4, t _ h5, t _ h6, t _ h7, t _ h8, t _ h9⟩

theorem clean_idem (thr : K) (hthr : 0 ≤ thr) (m : M3 K) :
    cleanVects thr (cleanVects thr m) = cleanVects thr m := by
  have h0 : 0 ≤ thr * maxAbs (cleanVects thr m) := mul_nonneg hthr (maxAbs_nonneg _)
  have hle : thr * maxAbs (cleanVects thr m) ≤ thr * maxAbs m :=
    mul_le_mul_of_nonneg_left (maxAbs_clean_le thr m) hthr
  have key := fun x => cleanEntry_cleanEntry thr (maxAbs m) (maxAbs (cleanVects thr m)) x h0 hle
  conv_lhs => rw [cleanVects]
  simp only [cleanV]
  ext <;> simp only [cleanVects, cleanV] <;> exact key _

/-- every box the setters produce is clean, so the clean-up in the next setter does nothing to it. -/
theorem setVects_isClean (thr : K) (hthr : 0 ≤ thr) (v : M3 K) (o : V3 K) : IsClean thr (setVects thr v o) :=
  clean_idem thr hthr v

theorem cleanBox_of_isClean (thr : K) (b : Box K) (hc : IsClean thr b) : cleanBox thr b = b :=
  Box.ext hc rfl

/-- the executed path of every cell-defining setter is "build, then the clean-up of the `vects` setter": a clean cell that the
    build step returns is stored as it is. -/
theorem map_cleanBox_of_isClean {thr : K} {o : Option (Box K)} {b : Box K} (h : o = some b) (hc : IsClean thr b) :
    o.map (cleanBox thr) = some b := by
  rw [h]; exact congrArg some (cleanBox_of_isClean thr b hc)

theorem isClean_of_bound (thr c : K) (hthr : 0 ≤ thr) (b : Box K)
    (h : ∀ x ∈ [b.vects.r0.x, b.vects.r0.y, b.vects.r0.z, b.vects.r1.x, b.vects.r1.y, b.vects.r1.z,
      b.vects.r2.x, b.vects.r2.y, b.vects.r2.z], |x| ≤ c ∧ (x = 0 ∨ thr * c < |x|)) : IsClean thr b := by
  simp only [List.mem_cons, List.not_mem_nil, or_false, forall_eq_or_imp, forall_eq] at h
  obtain ⟨h1, h2, h3, h4, h5, h6, h7, h8, h9⟩ := h
  have hM : maxAbs b.vects ≤ c := (maxAbs_le_iff _ _).mpr ⟨h1.1, h2.1, h3.1, h4.1, h5.1, h6.1, h7.1, h8.1, h9.1⟩
  have key : ∀ x, (x = 0 ∨ thr * c < |x|) → cleanEntry thr (maxAbs b.vects) x = x := fun x h =>
    cleanEntry_of_large thr _ x (h.imp_right (lt_of_le_of_lt (mul_le_mul_of_nonneg_left hM hthr)))
  show cleanVects thr b.vects = b.vects
  simp only [cleanVects, cleanV, key _ h1.2, key _ h2.2, key _ h3.2, key _ h4.2, key _ h5.2, key _ h6.2, key _ h7.2, key _ h8.2,
    key _ h9.2]

/-- the clean-up keeps a LAMMPS-oriented cell LAMMPS-oriented unless it flattens it (zeroes a diagonal entry). -/
theorem clean_normal_of_det (thr : K) (b0 : Box K) (h : b0.isLammpsNorm = true) (hd : (cleanBox thr b0).vects.det ≠ 0) :
    (cleanBox thr b0).isLammpsNorm = true := by
  obtain ⟨lx, ly, lz, xy, xz, yz, o, hx, hy, hz, rfl⟩ := normal_cases b0 h
  simp only [cleanBox, cleanVects, cleanV, cleanEntry_zero] at hd ⊢
  rw [M3.det_lower] at hd
  -- a diagonal entry that survives the clean-up is the (positive) entry it was
  have keep : ∀ M x : K, cleanEntry thr M x ≠ 0 → 0 < x → 0 < cleanEntry thr M x := fun M x hne hpos =>
    ((cleanEntry_eq_zero_or thr M x).resolve_left hne).symm ▸ hpos
  exact lower_normal _ _ _ _ _ _ o (keep _ _ (left_ne_zero_of_mul (left_ne_zero_of_mul hd)) hx)
    (keep _ _ (right_ne_zero_of_mul (left_ne_zero_of_mul hd)) hy) (keep _ _ (right_ne_zero_of_mul hd) hz)

end Atomman.C01
