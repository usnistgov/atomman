/-
  C20 — where the re-spacing of `ISMPath.step` puts the new images (`linspace`, `respaceGo`, `respaceTargets`),
  and which arc coordinates `interpolate_path` refuses.
-/
import Atomman.C20
import Mathlib.Algebra.Order.Field.Basic

namespace Atomman.C20

section thms
variable {K : Type} [Field K] [CharZero K]

set_option linter.unusedSectionVars false in
theorem linspace_length (a b : K) (n : Nat) : (Path.linspace a b n).length = n := by
  simp only [Path.linspace, List.length_map, List.length_range]

omit [CharZero K] in
theorem linspace_getElem? (a b : K) (n i : Nat) (hi : i < n) :
    (Path.linspace a b n)[i]? = some (a + (i : K) * ((b - a) / ((n - 1 : Nat) : K))) := by
  simp only [Path.linspace, List.getElem?_map, List.getElem?_range hi, Option.map_some]

set_option linter.unusedSectionVars false in
/-- the first target of a segment is the arc coordinate of its first image. -/
theorem linspace_first (a b : K) (n : Nat) (hn : 0 < n) : (Path.linspace a b n)[0]? = some a := by
  rw [linspace_getElem? a b n 0 hn, Nat.cast_zero, zero_mul, add_zero]

/-- the last target of a segment (two images at least) is the arc coordinate of its last image. -/
theorem linspace_last (a b : K) (n : Nat) (hn : 2 ≤ n) : (Path.linspace a b n)[n - 1]? = some b := by
  have h : ((n - 1 : Nat) : K) ≠ 0 := Nat.cast_ne_zero.mpr (by omega)
  rw [linspace_getElem? a b n (n - 1) (by omega), mul_div_cancel₀ _ h, add_sub_cancel]

set_option linter.unusedSectionVars false in
/-- consecutive targets of a segment are equally spaced. -/
theorem linspace_step (a b : K) (n i : Nat) (hi : i + 1 < n) :
    ∃ x y, (Path.linspace a b n)[i]? = some x ∧ (Path.linspace a b n)[i + 1]? = some y ∧
      y - x = (b - a) / ((n - 1 : Nat) : K) := by
  refine ⟨_, _, linspace_getElem? a b n i (by omega), linspace_getElem? a b n (i + 1) hi, ?_⟩
  rw [Nat.cast_succ, add_sub_add_left_eq_sub, ← sub_mul, add_sub_cancel_left, one_mul]

/-- the length of the block that a segment `[s, c]` contributes to `respaceGo`: the targets of the images `s … c − 1`. -/
theorem respaceGo_block_length (a b : K) (s c : Nat) :
    ((Path.linspace a b (c + 1 - s)).take (c - s)).length = c - s := by
  rw [List.length_take, linspace_length]
  exact Nat.min_eq_left (Nat.sub_le_sub_right (Nat.le_succ c) s)

/-- one target per image. -/
theorem respaceGo_length (α : List K) (n s : Nat) (climb : List Nat) (hchain : List.Pairwise (· < ·) (s :: climb))
    (hint : ∀ c ∈ climb, c + 1 < n) (hs : s < n) : (Path.respaceGo α n s climb).length = n - s := by
  induction climb generalizing s with
  | nil => rw [Path.respaceGo, linspace_length]
  | cons c cs ih =>
    obtain ⟨hsc, hch'⟩ := List.pairwise_cons.mp hchain
    obtain ⟨hc, hint'⟩ := List.forall_mem_cons.mp hint
    rw [Path.respaceGo, List.length_append, respaceGo_block_length, ih c hch' hint' (Nat.lt_of_succ_lt hc), Nat.add_comm]
    exact Nat.sub_add_sub_cancel (Nat.le_of_lt (Nat.lt_of_succ_lt hc)) (Nat.le_of_lt (hsc c List.mem_cons_self))

theorem respaceGo_head (α : List K) (n s : Nat) (climb : List Nat) (hchain : List.Pairwise (· < ·) (s :: climb))
    (hs : s < n) : (Path.respaceGo α n s climb)[0]? = some (α.getD s 0) := by
  cases climb with
  | nil =>
    rw [Path.respaceGo, Nat.cast_zero]
    exact linspace_first _ _ _ (Nat.sub_pos_of_lt hs)
  | cons c cs =>
    have hsc : s < c := List.rel_of_pairwise_cons hchain List.mem_cons_self
    have hpos : 0 < c - s := Nat.sub_pos_of_lt hsc
    rw [Path.respaceGo, Nat.cast_zero, List.getElem?_append_left (by rw [respaceGo_block_length]; exact hpos),
      List.getElem?_take_of_lt hpos]
    exact linspace_first _ _ _ (Nat.sub_pos_of_lt (Nat.lt_succ_of_lt hsc))

/-- every pinned image (the first one, the climbing images, the last one) is sent to its own arc coordinate: the
    re-spacing evaluates the spline at a knot there. -/
theorem respaceGo_pinned (α : List K) (n s : Nat) (climb : List Nat) (hchain : List.Pairwise (· < ·) (s :: climb))
    (hint : ∀ c ∈ climb, c + 1 < n) (hs : s < n) (p : Nat) (hp : p = s ∨ p ∈ climb ∨ p + 1 = n) :
    (Path.respaceGo α n s climb)[p - s]? = some (α.getD p 0) := by
  induction climb generalizing s with
  | nil =>
    -- a single segment from `s` to the last image: `p` is one of its two ends
    rcases hp with rfl | hp | rfl
    · rw [Nat.sub_self]
      exact respaceGo_head α n p [] hchain hs
    · nomatch hp
    · rcases Nat.eq_or_lt_of_le (Nat.le_of_lt_succ hs) with rfl | hsp
      · rw [Nat.sub_self]
        exact respaceGo_head α _ s [] hchain hs
      · rw [Path.respaceGo, Nat.cast_zero, Nat.sub_add_comm (Nat.le_of_lt hsp)]
        exact linspace_last _ _ _ (Nat.succ_le_succ (Nat.sub_pos_of_lt hsp))
  | cons c cs ih =>
    obtain ⟨hsc, hch'⟩ := List.pairwise_cons.mp hchain
    obtain ⟨hc, hint'⟩ := List.forall_mem_cons.mp hint
    have := hsc c List.mem_cons_self
    rcases hp with rfl | hp
    · rw [Nat.sub_self]
      exact respaceGo_head α n p (c :: cs) hchain hs
    · -- `p` is pinned in the rest of the string, whose targets follow the `c − s` of this segment
      rw [List.mem_cons, or_assoc] at hp
      have hcp : c ≤ p := by
        rcases hp with rfl | h | h
        · exact Nat.le_refl _
        · exact Nat.le_of_lt (List.rel_of_pairwise_cons hch' h)
        · exact Nat.le_of_lt (Nat.lt_of_succ_lt_succ (h.symm ▸ hc : c + 1 < p + 1))
      rw [Path.respaceGo, List.getElem?_append_right (by rw [respaceGo_block_length]; exact Nat.sub_le_sub_right hcp s),
        respaceGo_block_length, Nat.sub_sub_sub_cancel_right (Nat.le_of_lt this)]
      exact ih c hch' hint' (Nat.lt_of_succ_lt hc) hp

theorem respaceTargets_length (climb : List Nat) (α : List K) (hne : α ≠ []) (hsorted : List.Pairwise (· < ·) (0 :: climb))
    (hint : ∀ c ∈ climb, c + 1 < α.length) : (Path.respaceTargets climb α).length = α.length :=
  respaceGo_length α α.length 0 climb hsorted hint (List.length_pos_iff.mpr hne)

/-- the new images with index `0`, `N−1` and the climbing indices are placed at their own arc coordinates. -/
theorem respaceTargets_pinned (climb : List Nat) (α : List K) (hne : α ≠ []) (hsorted : List.Pairwise (· < ·) (0 :: climb))
    (hint : ∀ c ∈ climb, c + 1 < α.length) (p : Nat) (hp : p = 0 ∨ p ∈ climb ∨ p + 1 = α.length) :
    (Path.respaceTargets climb α)[p]? = α[p]? := by
  have hpos : 0 < α.length := List.length_pos_iff.mpr hne
  have hlt : p < α.length := by
    rcases hp with rfl | h | h
    · exact hpos
    · exact Nat.lt_of_succ_lt (hint p h)
    · omega
  rw [List.getElem?_eq_getElem hlt, List.getElem_eq_getD 0]
  exact respaceGo_pinned α α.length 0 climb hsorted hint hpos p hp

end thms

/-- hypotheses of `respaceGo_length` / `respaceGo_pinned` / `respaceTargets_pinned` with TWO climbing images (`[1, 3]`,
    increasing, interior of a 6-image string): pinned images 0, 1, 3, 5 keep their arc coordinate, 2 and 4 are centred. -/
example : Path.respaceTargets [1, 3] [0, 1, 2, 5, 6, (10 : ℚ)] = [0, 1, 3, 5, 15/2, 10] ∧
    List.Pairwise (· < ·) (0 :: [1, 3]) ∧ (∀ c ∈ [1, 3], c + 1 < 6) := by
  refine ⟨by decide +kernel, by decide, by decide⟩

section interprange
variable {K : Type} [Field K] [LinearOrder K]

/-- **`interpolate_path` refuses exactly** when some requested arc coordinate is negative or beyond the last image's. -/
theorem interpRefuses_iff (α t : List K) :
    interpRefuses α t = true ↔ ∃ a ∈ t, a < 0 ∨ α.getLastD 0 < a := by
  simp only [interpRefuses, Bool.or_eq_true, List.any_eq_true, decide_eq_true_eq, Nat.cast_zero, and_or_left, exists_or]

example : interpRefuses [0, 1, (3 : ℚ)] [0, 3] = false ∧ interpRefuses [0, 1, (3 : ℚ)] [0, 25 / 8] = true := by decide +kernel

end interprange

end Atomman.C20
