/-
  C14: `gen_vector` enumerates the index cube; each state component of the two searches is a keep-the-best fold
  (`step1_a`, `step1_c`, `step2_b`), hence what a search that found something found (`search1_a_spec`, `search1_c_spec`,
  `search2_b_spec`); what a successful `basisABC` went through (`basisABC_ok`).  On `C14_Cart`, `C14_Fold`.
  `K` is any linearly ordered commutative ring: the driver runs the model at `ℤ` (cell scaled to integers) and at `ℚ`.
-/
import Proofs.C14_Cart
import Proofs.C14_Fold

namespace Atomman.C14
open Atomman
set_option linter.unusedSectionVars false

/-! ### `gen_vector(n)` enumerates exactly the non-zero integer vectors with entries in `[-n, n]` -/

theorem mem_signedRange (n x : ℤ) : x ∈ signedRange n ↔ -n ≤ x ∧ x ≤ n := by
  simp only [signedRange, List.mem_flatMap, List.mem_range, List.mem_cons, List.not_mem_nil, or_false]
  constructor
  · rintro ⟨q, hq, rfl | rfl⟩ <;> omega
  · intro h
    by_cases hx : 0 ≤ x
    · exact ⟨x.toNat, by omega, Or.inl (by omega)⟩
    · exact ⟨(-x).toNat, by omega, Or.inr (by omega)⟩

theorem mem_genVectors (n : ℤ) (v : IV) :
    v ∈ genVectors n ↔ (-n ≤ v.x ∧ v.x ≤ n) ∧ (-n ≤ v.y ∧ v.y ≤ n) ∧ (-n ≤ v.z ∧ v.z ≤ n) ∧ v ≠ ⟨0, 0, 0⟩ := by
  obtain ⟨x, y, z⟩ := v
  simp only [genVectors, List.mem_flatMap, List.mem_filterMap, mem_signedRange]
  constructor
  · rintro ⟨k, hk, j, hj, i, hi, he⟩
    split_ifs at he with h0
    simp only [Option.some.injEq, V3.mk.injEq] at he
    obtain ⟨rfl, rfl, rfl⟩ := he
    refine ⟨hi, hj, hk, ?_⟩
    intro hc
    simp only [V3.mk.injEq] at hc
    exact h0 hc
  · rintro ⟨hx, hy, hz, hne⟩
    refine ⟨z, hz, y, hy, x, hx, ?_⟩
    have : ¬(x = 0 ∧ y = 0 ∧ z = 0) := by
      rintro ⟨rfl, rfl, rfl⟩; exact hne rfl
    simp only [this, if_false]

section ordered
variable {K : Type} [CommRing K] [LinearOrder K] [IsStrictOrderedRing K]

/-- the in-plane vector of the first search: a shorter in-plane candidate replaces the kept one. -/
theorem step1_a (V : M3 K) (pn : V3 K) (st : S1 K) (v : IV) :
    ((step1 V pn st v).a, (step1 V pn st v).aMag2)
      = keepStep (m2 V) (fun v k => m2 V v < k) (inPlane V pn) (st.a, st.aMag2) v := by
  unfold step1 keepStep inPlane m2
  by_cases hd : V3.dot (cart V v) pn = 0
  · by_cases hlt : V3.normSq (cart V v) < st.aMag2 <;> simp only [hd, hlt, if_true, if_false, and_self, and_false]
  · -- out of the plane: whichever branch of the `c` part runs, `a` and `aMag2` are untouched
    simp only [hd, if_false, false_and]
    split_ifs <;> (try split) <;> (try split_ifs) <;> rfl

theorem search1_a_spec {V : M3 K} {pn : V3 K} {n : ℤ} {a : IV} (h : (search1 V pn n).a = some a) :
    a ∈ genVectors n ∧ inPlane V pn a ∧ ∀ v ∈ genVectors n, inPlane V pn v → m2 V a ≤ m2 V v := by
  obtain ⟨hmin, hkept⟩ := foldl_keepBest (m2 V) (fun v k => m2 V v < k) (inPlane V pn) (step1 V pn)
    (fun st => (st.a, st.aMag2)) (step1_a V pn) (genVectors n) (init1 V n) _ rfl
    (fun _ _ => lt_irrefl _) (fun _ _ _ _ _ _ => lt_trans)
  obtain ⟨h1, h2, h3⟩ := hkept a h
  exact ⟨h1, h2, fun v hv hin => by rw [← h3]; exact not_lt.mp (hmin v hv hin)⟩

/-- `v` beats the kept out-of-plane candidate (its `d = v·n` and squared length), if there is one: a larger squared
    cosine to the normal, cross-multiplied. -/
def beatsC (V : M3 K) (pn : V3 K) (v : IV) : Option (K × K) → Prop
  | none => True
  | some k => k.1 * k.1 * m2 V v < dn V pn v * dn V pn v * k.2
instance (V : M3 K) (pn : V3 K) (v : IV) (k : Option (K × K)) : Decidable (beatsC V pn v k) := by
  cases k <;> unfold beatsC <;> infer_instance

/-- the out-of-plane candidate of the first search: a candidate on the normal's side with a larger cosine replaces
    the kept one. -/
theorem step1_c (V : M3 K) (pn : V3 K) (st : S1 K) (v : IV) :
    ((step1 V pn st v).c.map (·.v), (step1 V pn st v).c.map fun cb => (cb.d, cb.m2))
      = keepStep (fun v => some (dn V pn v, m2 V v)) (beatsC V pn) (fun v => 0 < dn V pn v)
          (st.c.map (·.v), st.c.map fun cb => (cb.d, cb.m2)) v := by
  unfold step1 keepStep dn m2
  by_cases hd : V3.dot (cart V v) pn = 0
  · simp only [hd, if_true, lt_irrefl, false_and, if_false]
    split_ifs <;> rfl
  · by_cases hp : 0 < V3.dot (cart V v) pn
    · rcases hc : st.c with _ | cb
      · simp only [hd, hp, if_true, if_false, true_and, Option.map_none, Option.map_some, beatsC]
      · by_cases hb : cb.d * cb.d * V3.normSq (cart V v) < V3.dot (cart V v) pn * V3.dot (cart V v) pn * cb.m2 <;>
          simp only [hd, hp, hb, hc, if_true, if_false, true_and, and_self, Option.map_some, beatsC, dn, m2]
    · simp only [hd, hp, if_false, false_and]

/-- the cosine order is transitive on vectors of positive length. -/
theorem beatsC_trans {V : M3 K} {pn : V3 K} {u v : IV} {k : Option (K × K)} (hu : 0 < m2 V u) (hv : 0 < m2 V v)
    (hk : ∀ p, k = some p → 0 ≤ p.2) (h1 : beatsC V pn u (some (dn V pn v, m2 V v))) (h2 : beatsC V pn v k) :
    beatsC V pn u k := by
  cases k with
  | none => trivial
  | some p =>
    simp only [beatsC] at h1 h2 ⊢
    refine lt_of_mul_lt_mul_right ?_ hv.le
    calc p.1 * p.1 * m2 V u * m2 V v = p.1 * p.1 * m2 V v * m2 V u := by ring
      _ < dn V pn v * dn V pn v * p.2 * m2 V u := mul_lt_mul_of_pos_right h2 hu
      _ = dn V pn v * dn V pn v * m2 V u * p.2 := by ring
      _ ≤ dn V pn u * dn V pn u * m2 V v * p.2 := mul_le_mul_of_nonneg_right h1.le (hk p rfl)
      _ = dn V pn u * dn V pn u * p.2 * m2 V v := by ring

theorem search1_c_spec {V : M3 K} {pn : V3 K} {n : ℤ} {cb : CBest K} (hpos : ∀ w ∈ genVectors n, 0 < m2 V w)
    (h : (search1 V pn n).c = some cb) :
    cb.v ∈ genVectors n ∧ 0 < dn V pn cb.v ∧ ∀ v ∈ genVectors n, 0 < dn V pn v →
      dn V pn v * dn V pn v * m2 V cb.v ≤ dn V pn cb.v * dn V pn cb.v * m2 V v := by
  obtain ⟨hmin, hkept⟩ := foldl_keepBest (fun v => some (dn V pn v, m2 V v)) (beatsC V pn) (fun v => 0 < dn V pn v)
    (step1 V pn) (fun st => (st.c.map (·.v), st.c.map fun cb => (cb.d, cb.m2))) (step1_c V pn) (genVectors n)
    (init1 V n) none rfl (fun v _ h => lt_irrefl _ h) (fun u hu v hv k hk => beatsC_trans (hpos u hu) (hpos v hv) (by
      -- a kept key is the key of a candidate, whose squared length is positive
      rintro p rfl
      rcases hk with hk | ⟨w, hw, hk⟩
      · cases hk
      · cases hk; exact (hpos w hw).le))
  unfold search1 at h
  rw [h] at hmin hkept
  obtain ⟨h1, h2, h3⟩ := hkept cb.v rfl
  simp only [Option.map_some, Option.some.injEq, Prod.mk.injEq] at h3
  refine ⟨h1, h2, fun v hv ht => ?_⟩
  have := hmin v hv ht
  simp only [Option.map_some, beatsC, not_lt, h3.1, h3.2] at this
  exact this

/-- `v` beats the kept (squared length, `a·b` of the kept vector if any) of the second search: as long and at a smaller
    angle to `a`, or shorter. -/
def beatsB (V : M3 K) (aC : V3 K) (v : IV) (k : K × Option K) : Prop :=
  (m2 V v = k.1 ∧ angleLess k.2 (V3.dot aC (cart V v)) = true) ∨ m2 V v < k.1
instance (V : M3 K) (aC : V3 K) (v : IV) (k : K × Option K) : Decidable (beatsB V aC v k) := by
  unfold beatsB; infer_instance

theorem step2_b (V : M3 K) (pn aC : V3 K) (st : S2 K) (v : IV) :
    ((step2 V pn aC st v).b, ((step2 V pn aC st v).bMag2, (step2 V pn aC st v).bDot))
      = keepStep (fun v => (m2 V v, some (V3.dot aC (cart V v)))) (beatsB V aC) (bFilter V pn aC)
          (st.b, (st.bMag2, st.bDot)) v := by
  unfold step2 keepStep beatsB m2
  by_cases hf : bFilter V pn aC v
  · by_cases hc : (V3.normSq (cart V v) = st.bMag2 ∧ angleLess st.bDot (V3.dot aC (cart V v)) = true) ∨
        V3.normSq (cart V v) < st.bMag2 <;> simp only [hf, hc, if_true, if_false, true_and]
  · simp only [hf, if_false, false_and]

theorem beatsB_trans {V : M3 K} {aC : V3 K} {u v : IV} {k : K × Option K}
    (h1 : beatsB V aC u (m2 V v, some (V3.dot aC (cart V v)))) (h2 : beatsB V aC v k) : beatsB V aC u k := by
  obtain ⟨m₃, o⟩ := k
  simp only [beatsB, angleLess, decide_eq_true_eq] at h1 h2 ⊢
  rcases h1 with ⟨e1, h1⟩ | h1
  · rcases h2 with ⟨e2, h2⟩ | h2
    · left
      refine ⟨e1.trans e2, ?_⟩
      cases o with
      | none => rfl
      | some d₃ => simp only [decide_eq_true_eq] at h2 ⊢; exact lt_trans h2 h1
    · exact Or.inr (e1 ▸ h2)
  · exact Or.inr (h2.elim (fun h => h.1 ▸ h1) (lt_trans h1))

theorem search2_b_spec {V : M3 K} {pn aC : V3 K} {n : ℤ} {b : IV} (h : (search2 V pn aC n).b = some b) :
    b ∈ genVectors n ∧ bFilter V pn aC b ∧ ∀ v ∈ genVectors n, bFilter V pn aC v →
      m2 V b ≤ m2 V v ∧ (m2 V v = m2 V b → V3.dot aC (cart V v) ≤ V3.dot aC (cart V b)) := by
  obtain ⟨hmin, hkept⟩ := foldl_keepBest (fun v => (m2 V v, some (V3.dot aC (cart V v)))) (beatsB V aC) (bFilter V pn aC)
    (step2 V pn aC) (fun st => (st.b, (st.bMag2, st.bDot))) (step2_b V pn aC) (genVectors n) (init2 V n) _ rfl
    (fun _ _ h => by simp [beatsB, angleLess] at h) (fun _ _ _ _ _ _ => beatsB_trans)
  obtain ⟨h1, h2, h3⟩ := hkept b h
  refine ⟨h1, h2, fun v hv hf => ?_⟩
  have := hmin v hv hf
  rw [h3] at this
  simp only [beatsB, angleLess, decide_eq_true_eq, not_or, not_and, not_lt] at this
  exact ⟨this.2, this.1⟩

theorem m2_pos_gen (V : M3 K) (hdet : M3.det V ≠ 0) (n : ℤ) : ∀ w ∈ genVectors n, 0 < m2 V w :=
  fun w hw => m2_pos V hdet w ((mem_genVectors n w).mp hw).2.2.2

end ordered

section fsb
variable {K : Type} [CommRing K] [LinearOrder K] [IsStrictOrderedRing K]

/-- the default / explicit `maxindex`. -/
def maxIndexOf (ini : Init) (hkl : IV) (L : M3 Int) (nOpt : Option Int) : Int :=
  match nOpt with
  | some n => n
  | none => defaultMaxIndex (M3.vecMul ini.a0 L) (M3.vecMul ini.b0 L) hkl

theorem basisABC_ok (V : M3 K) (hkl : IV) (L : M3 Int) (nOpt : Option Int) (r : ABC K)
    (h : basisABC V hkl L nOpt = .ok r) :
    ∃ ini cb, initVectors hkl = some ini ∧ r.n = maxIndexOf ini hkl L nOpt ∧
      r.pn = planeNormal V ini.s (M3.vecMul ini.a0 L) (M3.vecMul ini.b0 L) ∧
      (search1 V r.pn r.n).a = some r.a ∧ (search1 V r.pn r.n).c = some cb ∧ r.c = reduceGcd cb.v ∧
      (search2 V r.pn (cart V r.a) r.n).b = some r.b := by
  unfold basisABC at h
  split at h
  · cases h
  · rename_i ini hini
    simp only at h
    split at h
    · rename_i a cb ha hc
      split at h
      · rename_i b hb
        simp only [Except.ok.injEq] at h
        subst h
        refine ⟨ini, cb, hini, ?_, rfl, ha, hc, rfl, hb⟩
        unfold maxIndexOf
        rfl
      · cases h
    · cases h

end fsb

end Atomman.C14
