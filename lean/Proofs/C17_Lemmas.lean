/-
  C17 — the algebra shared by the proof modules: component lemmas of `V3`, the entry calculus for `M3` (a matrix identity is
  checked once, on a generic entry) with the identities of `addM` / `subM` / `outer` proved by it.
-/
import Atomman.C17
import Proofs.Images

namespace Atomman.C17
open Atomman
-- every C17 module states `[Field K] [LinearOrder K] [IsStrictOrderedRing K]` once, and about a hundred statements that need
-- less of it are audited with all three instance arguments: the linter for unused section variables is off in each module.
set_option linter.unusedSectionVars false


section comps
variable {K : Type}

@[simp] theorem add_x [Add K] (a b : V3 K) : (a + b).x = a.x + b.x := rfl
@[simp] theorem add_y [Add K] (a b : V3 K) : (a + b).y = a.y + b.y := rfl
@[simp] theorem add_z [Add K] (a b : V3 K) : (a + b).z = a.z + b.z := rfl
@[simp] theorem sub_x [Sub K] (a b : V3 K) : (a - b).x = a.x - b.x := rfl
@[simp] theorem sub_y [Sub K] (a b : V3 K) : (a - b).y = a.y - b.y := rfl
@[simp] theorem sub_z [Sub K] (a b : V3 K) : (a - b).z = a.z - b.z := rfl
@[simp] theorem smul_x [Mul K] (c : K) (a : V3 K) : (V3.smul c a).x = c * a.x := rfl
@[simp] theorem smul_y [Mul K] (c : K) (a : V3 K) : (V3.smul c a).y = c * a.y := rfl
@[simp] theorem smul_z [Mul K] (c : K) (a : V3 K) : (V3.smul c a).z = c * a.z := rfl
@[simp] theorem zero3_x [Zero K] : (zero3 : V3 K).x = 0 := rfl
@[simp] theorem zero3_y [Zero K] : (zero3 : V3 K).y = 0 := rfl
@[simp] theorem zero3_z [Zero K] : (zero3 : V3 K).z = 0 := rfl

end comps

variable {K : Type} [Field K] [LinearOrder K] [IsStrictOrderedRing K]

/-! `ent A j k` clamps both indices to `0, 1, 2`, so the entry equations below hold for all `j k`, and a matrix
  identity is checked once, on a generic entry. -/

section mat

@[simp] theorem addM_r0 (a b : M3 K) : (addM a b).r0 = a.r0 + b.r0 := rfl
@[simp] theorem addM_r1 (a b : M3 K) : (addM a b).r1 = a.r1 + b.r1 := rfl
@[simp] theorem addM_r2 (a b : M3 K) : (addM a b).r2 = a.r2 + b.r2 := rfl

theorem ext_ent {A B : M3 K} (h : ∀ j k, ent A j k = ent B j k) : A = B := by
  ext
  exacts [h 0 0, h 0 1, h 0 2, h 1 0, h 1 1, h 1 2, h 2 0, h 2 1, h 2 2]

theorem ent_transpose (A : M3 K) (j k : Nat) : ent A.transpose j k = ent A k j := by
  rcases j with _ | _ | j <;> rcases k with _ | _ | k <;> rfl

theorem ent_addM (A B : M3 K) (j k : Nat) : ent (addM A B) j k = ent A j k + ent B j k := by
  rcases j with _ | _ | j <;> rcases k with _ | _ | k <;> rfl

theorem ent_subM (A B : M3 K) (j k : Nat) : ent (subM A B) j k = ent A j k - ent B j k := by
  rcases j with _ | _ | j <;> rcases k with _ | _ | k <;> rfl

theorem ent_zeroM (j k : Nat) : ent (zeroM : M3 K) j k = 0 := by
  rcases j with _ | _ | j <;> rcases k with _ | _ | k <;> rfl

theorem ent_mul (A B : M3 K) (j k : Nat) :
    ent (M3.mul A B) j k = ent A j 0 * ent B 0 k + ent A j 1 * ent B 1 k + ent A j 2 * ent B 2 k := by
  rcases j with _ | _ | j <;> rcases k with _ | _ | k <;> rfl

theorem ent_outer (a b : V3 K) (j k : Nat) : ent (outer a b) j k = a.get j * b.get k := by
  rcases j with _ | _ | j <;> rcases k with _ | _ | k <;> rfl

theorem get_vecMul (v : V3 K) (A : M3 K) (k : Nat) :
    (M3.vecMul v A).get k = v.get 0 * ent A 0 k + v.get 1 * ent A 1 k + v.get 2 * ent A 2 k := by
  rcases k with _ | _ | k <;> rfl

theorem ent_strain (G : M3 K) (j k : Nat) :
    ent (strain G) j k = half ((ent M3.one j k - ent G j k) + (ent M3.one k j - ent G k j)) := by
  rcases j with _ | _ | j <;> rcases k with _ | _ | k <;> rfl

theorem ent_rotation (G : M3 K) (j k : Nat) :
    ent (rotation G) j k = half ((ent M3.one j k - ent G j k) - (ent M3.one k j - ent G k j)) := by
  rcases j with _ | _ | j <;> rcases k with _ | _ | k <;> rfl

theorem addM_mul (A B G : M3 K) : M3.mul (addM A B) G = addM (M3.mul A G) (M3.mul B G) :=
  ext_ent fun j k => by simp only [ent_mul, ent_addM]; ring

theorem zeroM_mul (G : M3 K) : M3.mul zeroM G = zeroM :=
  ext_ent fun j k => by simp only [ent_mul, ent_zeroM, zero_mul, add_zero]

theorem mul_zeroM (A : M3 K) : M3.mul A zeroM = zeroM :=
  ext_ent fun j k => by simp only [ent_mul, ent_zeroM, mul_zero, add_zero]

theorem subM_self (A : M3 K) : subM A A = zeroM :=
  ext_ent fun j k => by rw [ent_subM, ent_zeroM, sub_self]

theorem addM_right_comm (A B C : M3 K) : addM (addM A B) C = addM (addM A C) B :=
  ext_ent fun j k => by simp only [ent_addM]; exact add_right_comm _ _ _

theorem outer_vecMul (q : V3 K) (G : M3 K) : outer q (M3.vecMul q G) = M3.mul (outer q q) G :=
  ext_ent fun j k => by simp only [ent_mul, ent_outer, get_vecMul]; ring

/-- `M3.det_mul` under the name the check lists (clause: `invariant3` is multiplicative). -/
theorem det_mul3 (A B : M3 K) : M3.det (M3.mul A B) = M3.det A * M3.det B :=
  M3.det_mul A B

theorem vecMul_zeroM (v : V3 K) : M3.vecMul v zeroM = zero3 := by
  simp only [M3.vecMul, zeroM, zero3, mul_zero, add_zero]

end mat

end Atomman.C17
