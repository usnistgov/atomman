/-
  C20 — one image: fixed points of a plain and of a climbing move, a change of the unit of length, the loop of
  `relax` on two-image paths, and what the stopping test of `relax` says about the gradient.
-/
import Proofs.C20_Integrators
import Proofs.C20_Loops
import Proofs.C20_Reads
import Proofs.Folds
import Mathlib.Tactic.NormNum

namespace Atomman.C20
open Atomman.Gen
set_option linter.unusedSectionVars false

section relaxphase
variable {K V : Type} [Add V] [Sub V] [Neg V] [SMul K V] [Add K] [Sub K] [Mul K] [Div K] [Neg K] [NatCast K]

theorem iterateRows_eq_iterate (p : Path V K) (h : K) (n : Nat) (c : List V) :
    p.iterateRows h n c = (List.map (p.stepRow h))^[n] c := by
  induction n generalizing c with
  | zero => rfl
  | succ n ih => exact ih _

variable [LT K] [DecidableLT K]

theorem relaxPhase_eq_relaxLoop (p : Path V K) (dot : V → V → K) (sqrt : K → K) (h tol : K) (n : Nat) (c : List V) :
    p.relaxPhase dot sqrt h tol n c = relaxLoop (List.map (p.stepRow h)) (Path.displacement dot sqrt h) tol n c := by
  induction n generalizing c with
  | zero => rfl
  | succ n ih => simp only [Path.relaxPhase, relaxLoop, ih]

theorem relaxPhase_steps_le (p : Path V K) (dot : V → V → K) (sqrt : K → K) (h tol : K) (n : Nat) (c : List V) :
    (p.relaxPhase dot sqrt h tol n c).2.length ≤ n := by
  rw [relaxPhase_eq_relaxLoop]
  exact relaxLoop_measures_length_le _ _ _ _ _

theorem relaxPhase_eq_iterate (p : Path V K) (dot : V → V → K) (sqrt : K → K) (h tol : K) (n : Nat) (c : List V) :
    (p.relaxPhase dot sqrt h tol n c).1 = p.iterateRows h (p.relaxPhase dot sqrt h tol n c).2.length c := by
  rw [relaxPhase_eq_relaxLoop, iterateRows_eq_iterate]
  exact relaxLoop_eq_iterate _ _ _ _ _

/-- `phaseSteps` is the control-flow model that the scripted `relax` runs are compared with. -/
theorem relaxPhase_steps_eq_phaseSteps (p : Path V K) (dot : V → V → K) (sqrt : K → K) (h tol : K) (n : Nat) (c : List V) :
    (p.relaxPhase dot sqrt h tol n c).2.length = phaseSteps tol n (p.relaxPhase dot sqrt h tol n c).2 := by
  rw [relaxPhase_eq_relaxLoop]
  exact relaxLoop_length_eq_phaseSteps _ _ _ _ _

/-- a phase that performed fewer steps than allowed stopped on its convergence test: its last step, from the images
    reached by the steps before, had a measure below the tolerance. -/
theorem relaxPhase_stopped_early (p : Path V K) (dot : V → V → K) (sqrt : K → K) (h tol : K) (n : Nat) (c : List V)
    (hlt : (p.relaxPhase dot sqrt h tol n c).2.length < n) :
    ∃ k, k + 1 = (p.relaxPhase dot sqrt h tol n c).2.length ∧
      Path.displacement dot sqrt h (p.iterateRows h k c) ((p.iterateRows h k c).map (p.stepRow h)) < tol := by
  rw [relaxPhase_eq_relaxLoop] at hlt ⊢
  obtain ⟨k, hk, -, hd⟩ := relaxLoop_stopped_at _ _ _ _ _ hlt
  rw [Function.iterate_succ_apply'] at hd
  exact ⟨k, hk, by rwa [iterateRows_eq_iterate]⟩

theorem relaxPhase_measures_before_last (p : Path V K) (dot : V → V → K) (sqrt : K → K) (h tol : K) (n : Nat) (c : List V) :
    ∀ d ∈ (p.relaxPhase dot sqrt h tol n c).2.dropLast, ¬ d < tol := by
  rw [relaxPhase_eq_relaxLoop]
  exact relaxLoop_measures_before_last _ _ _ _ _

end relaxphase

/-! `PARTIAL['relaxation_converges_to_saddle']` (harness/props/c20.py): convergence is not proved (iterated floats + spline);
what is proved is what a fixed point of a step and a passed stopping test say about the gradient. -/

section stepping
variable {K V : Type} [Field K] [CharZero K] [AddCommGroup V] [Module K V]

theorem stepRow_euler_fixed_iff (p : Path V K) (hp : p.integratorfxn = fun r x h => euler r x h) (h : K) (hh : h ≠ 0)
    (x : V) : p.stepRow h x = x ↔ p.gradPoint x = 0 := by
  rw [Path.stepRow, hp]
  exact (euler_fixed_iff _ x h hh).trans (rate_zero_iff _ x)

theorem stepRow_fixed_of_critical (p : Path V K)
    (hp : p.integratorfxn = (fun r x h => euler r x h) ∨ p.integratorfxn = (fun r x h => rungekutta r x h))
    (h : K) (x : V) (hx : p.gradPoint x = 0) : p.stepRow h x = x :=
  integrator_fixed _ hp _ x h ((rate_zero_iff _ x).mpr hx)

theorem stepRow_rk_fixed_of_critical (p : Path V K) (hp : p.integratorfxn = fun r x h => rungekutta r x h) (h : K)
    (x : V) (hx : p.gradPoint x = 0) : p.stepRow h x = x :=
  stepRow_fixed_of_critical p (Or.inr hp) h x hx

/-- in particular the end images of a string that sit in minima stay there under any number of plain steps. -/
theorem iterateRows_critical (p : Path V K)
    (hp : p.integratorfxn = (fun r x h => euler r x h) ∨ p.integratorfxn = (fun r x h => rungekutta r x h))
    (h : K) (n : Nat) (c : List V) (hc : ∀ x ∈ c, p.gradPoint x = 0) : p.iterateRows h n c = c :=
    (iterateRows_eq_iterate p h n c).trans <| Function.iterate_fixed
      ((List.map_congr_left fun x hx => stepRow_fixed_of_critical p hp h x (hc x hx)).trans (List.map_id c)) n

/-- a climbing image that one Euler climbing move (`h ≠ 0`, unit tangent: `unitTangent_unit`) leaves in place sits where
    the gradient vanishes. -/
theorem climbRow_euler_fixed_is_critical (p : Path V K) (hp : p.integratorfxn = fun r x h => euler r x h)
    (dot : V → V → K)
    (hadd : ∀ a b c, dot (a + b) c = dot a c + dot b c) (hsmul : ∀ (k : K) a c, dot (k • a) c = k * dot a c)
    (hneg : ∀ a c, dot (-a) c = - dot a c) (hdot0 : ∀ c, dot 0 c = 0)
    (h : K) (hh : h ≠ 0) (x τ : V) (hτ : dot τ τ = 1) (hfix : p.climbRow dot h x τ = x) : p.gradPoint x = 0 := by
  rw [Path.climbRow, hp] at hfix
  exact climb_fixed_point dot hadd hsmul hneg p.gradPoint x τ hτ ((euler_fixed_iff _ x h hh).mp hfix) hdot0

theorem icoordPlain_length (p : Path V K) (h : K) : (p.icoordPlain h).length = p.coord.length := by
  simp only [Path.icoordPlain, List.length_map]

theorem withCoord_fields (p : Path V K) (c : List V) :
    (p.withCoord c).energyfxn = p.energyfxn ∧ (p.withCoord c).gradientfxn = p.gradientfxn ∧
    (p.withCoord c).gradientkwargs = p.gradientkwargs ∧ (p.withCoord c).integratorfxn = p.integratorfxn ∧
    (p.withCoord c).coord = c := ⟨rfl, rfl, rfl, rfl, rfl⟩

end stepping

section climbing
variable {K V : Type} [Field K] [CharZero K] [AddCommGroup V] [Module K V]
variable (dot : V → V → K)

/-- the climbing rate is the mirror image of `-grad E` in the plane normal to the unit tangent: it has the
    length of the gradient, so the convergence measure of `relax` (largest displacement / time step) bounds the
    gradient at the climbing image exactly as it does at an ordinary image. -/
theorem climbrate_norm_sq
    (hadd : ∀ a b c, dot (a + b) c = dot a c + dot b c) (hadd' : ∀ a b c, dot a (b + c) = dot a b + dot a c)
    (hsmul : ∀ (k : K) a c, dot (k • a) c = k * dot a c) (hsmul' : ∀ (k : K) a c, dot a (k • c) = k * dot a c)
    (hneg : ∀ a c, dot (-a) c = - dot a c) (hneg' : ∀ a c, dot a (-c) = - dot a c)
    (hsymm : ∀ a b, dot a b = dot b a)
    (gradE : V → V) (x τ : V) (hτ : dot τ τ = 1) :
    dot (climbrate gradE dot x τ) (climbrate gradE dot x τ) = dot (gradE x) (gradE x) := by
  simp only [climbrate, hadd, hadd', hsmul, hsmul', hneg, hneg', hτ, Nat.cast_ofNat, hsymm τ (gradE x)]
  ring

theorem climbRow_fixed_of_critical (p : Path V K)
    (hp : p.integratorfxn = (fun r x h => euler r x h) ∨ p.integratorfxn = (fun r x h => rungekutta r x h))
    (hdot0 : ∀ c, dot 0 c = 0) (h : K) (x τ : V) (hx : p.gradPoint x = 0) : p.climbRow dot h x τ = x :=
  integrator_fixed _ hp _ x h (by simp only [climbrate, hx, hdot0, neg_zero, zero_smul, smul_zero, add_zero])

theorem climbRow_euler_fixed_iff (p : Path V K) (hp : p.integratorfxn = fun r x h => euler r x h)
    (hadd : ∀ a b c, dot (a + b) c = dot a c + dot b c) (hsmul : ∀ (k : K) a c, dot (k • a) c = k * dot a c)
    (hneg : ∀ a c, dot (-a) c = - dot a c) (hdot0 : ∀ c, dot 0 c = 0)
    (h : K) (hh : h ≠ 0) (x τ : V) (hτ : dot τ τ = 1) : p.climbRow dot h x τ = x ↔ p.gradPoint x = 0 :=
  ⟨climbRow_euler_fixed_is_critical p hp dot hadd hsmul hneg hdot0 h hh x τ hτ,
   climbRow_fixed_of_critical dot p (Or.inl hp) hdot0 h x τ⟩

end climbing

section stepunits
variable {K V : Type} [Field K] [CharZero K] [AddCommGroup V] [Module K V]

/-- `hg`: a gradient homogeneous of degree one, as that of a quadratic energy. -/
theorem stepRow_homogeneous (p : Path V K)
    (hp : p.integratorfxn = (fun r x h => euler r x h) ∨ p.integratorfxn = (fun r x h => rungekutta r x h))
    (hg : ∀ (c : K) x, p.gradPoint (c • x) = c • p.gradPoint x) (h c : K) (x : V) :
    p.stepRow h (c • x) = c • p.stepRow h x := by
  have hf : ∀ (c : K) y, rate p.gradPoint (c • y) = c • rate p.gradPoint y := by
    intro c y; simp only [rate, hg, smul_neg]
  rcases hp with hp | hp
  · simp only [Path.stepRow, hp]; exact euler_homogeneous _ hf c x h
  · simp only [Path.stepRow, hp]; exact rk4_homogeneous _ hf c x h
end stepunits

section converged
variable {K V : Type} [Field K] [LinearOrder K] [IsStrictOrderedRing K] [AddCommGroup V] [Module K V]
variable (dot : V → V → K) (sqrt : K → K)

/-- the convergence measure of `relax` below the tolerance means: every image moved by less than
    `tolerance · timestep` (Euclidean length `sqrt (dot d d)` of its displacement). -/
theorem displacement_lt_rows (h tol : K) (hh : 0 < h) (old new : List V)
    (hd : Path.displacement dot sqrt h old new < tol) :
    ∀ i (hi : i < old.length) (hj : i < new.length),
      sqrt (dot (new[i] - old[i]) (new[i] - old[i])) < tol * h := by
  intro i hi hj
  simp only [Path.displacement, Nat.cast_zero] at hd
  rw [div_lt_iff₀ hh] at hd
  refine lt_of_le_of_lt ((le_foldl_ite_max _ _).2 _ ?_) hd
  refine List.mem_iff_getElem.mpr ⟨i, by simp [hi, hj], ?_⟩
  simp only [List.getElem_zipWith]

/-- **what "converged" means** (Euler): when a plain step of the images `c` has a convergence measure below the
    tolerance — the test on which each phase of `relax` stops — the gradient of the energy at every image of `c` is
    shorter than the tolerance. -/
theorem euler_converged_gradient_lt (p : Path V K) (hp : p.integratorfxn = fun r x h => euler r x h)
    (hl : ∀ (k : K) a c, dot (k • a) c = k * dot a c) (hr : ∀ (k : K) a c, dot a (k • c) = k * dot a c)
    (hscale : ∀ (k x : K), 0 < k → sqrt (k * k * x) = k * sqrt x)
    (h tol : K) (hh : 0 < h) (c : List V)
    (hd : Path.displacement dot sqrt h c (c.map (p.stepRow h)) < tol) :
    ∀ x ∈ c, sqrt (dot (p.gradPoint x) (p.gradPoint x)) < tol := by
  intro x hx
  obtain ⟨i, hi, rfl⟩ := List.mem_iff_getElem.mp hx
  have := displacement_lt_rows dot sqrt h tol hh c (c.map (p.stepRow h)) hd i hi (by simpa using hi)
  -- an Euler move is `h • -∇E`, of length `h * |∇E|`
  have hmove : p.stepRow h c[i] - c[i] = h • -p.gradPoint c[i] := by
    simp only [Path.stepRow, hp, euler, rate, add_sub_cancel_left]
  have hneg : dot (-p.gradPoint c[i]) (-p.gradPoint c[i]) = dot (p.gradPoint c[i]) (p.gradPoint c[i]) := by
    rw [← neg_one_smul K, hl, hr, neg_one_mul, neg_one_mul, neg_neg]
  rw [List.getElem_map, hmove, sqrt_dot_smul dot sqrt hl hr hscale h hh, hneg, mul_comm] at this
  exact lt_of_mul_lt_mul_right this hh.le

/-- the same at a climbing image (Euler): a climbing move shorter than `tolerance · timestep` means a gradient
    shorter than the tolerance, because the climbing rate has the length of the gradient. -/
theorem euler_climb_converged_gradient_lt (p : Path V K) (hp : p.integratorfxn = fun r x h => euler r x h)
    (hadd : ∀ a b c, dot (a + b) c = dot a c + dot b c) (hadd' : ∀ a b c, dot a (b + c) = dot a b + dot a c)
    (hl : ∀ (k : K) a c, dot (k • a) c = k * dot a c) (hr : ∀ (k : K) a c, dot a (k • c) = k * dot a c)
    (hneg : ∀ a c, dot (-a) c = - dot a c) (hneg' : ∀ a c, dot a (-c) = - dot a c)
    (hsymm : ∀ a b, dot a b = dot b a)
    (hscale : ∀ (k x : K), 0 < k → sqrt (k * k * x) = k * sqrt x)
    (h tol : K) (hh : 0 < h) (x τ : V) (hτ : dot τ τ = 1)
    (hd : sqrt (dot (p.climbRow dot h x τ - x) (p.climbRow dot h x τ - x)) < tol * h) :
    sqrt (dot (p.gradPoint x) (p.gradPoint x)) < tol := by
  have hn := climbrate_norm_sq dot hadd hadd' hl hr hneg hneg' hsymm p.gradPoint x τ hτ
  -- an Euler climbing move is `h • climbrate`, and the climbing rate has the length of the gradient
  have hmove : p.climbRow dot h x τ - x = h • climbrate p.gradPoint dot x τ := by
    simp only [Path.climbRow, hp, euler, add_sub_cancel_left]
  rw [hmove, sqrt_dot_smul dot sqrt hl hr hscale h hh, hn, mul_comm] at hd
  exact lt_of_mul_lt_mul_right hd hh.le

end converged

section examples
example : exPath.stepRow (1/4) 0 = 0 := (stepRow_euler_fixed_iff exPath rfl (1/4) (by norm_num) 0).mpr (by simp [Path.gradPoint, exPath])
-- the convergence measure of a concrete step: images 0 -> 1 and 1 -> 1 with time step 1/2
example : Path.displacement (fun a b : ℚ => a * b) (fun x : ℚ => x) (1/2) [0, 1] [1, 1] = 2 := by
  norm_num [Path.displacement]
-- a row at a critical point is not moved (hypothesis of `stringStep_critical_pinned_fixed`)
example : (exPath.apply (.setCoord [0, 0])).stepRow (1/4) 0 = 0 :=
  (stepRow_euler_fixed_iff _ rfl (1/4) (by norm_num) 0).mpr (by simp [Path.gradPoint, Path.apply, exPath])
end examples

end Atomman.C20
