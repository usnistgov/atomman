/-
  C16 — the closeness tests of numpy as modelled (`absK`, `sumIsZero` for `np.allclose(sum, 0)`, `isclose`), in terms of `|·|`.
-/
import Atomman.C16
import Proofs.Abs
import Mathlib.Algebra.Order.Field.Basic

namespace Atomman.C16

variable {K : Type} [Field K] [LinearOrder K] [IsStrictOrderedRing K]

theorem absK_eq_abs (x : K) : absK x = |x| := ite_neg_eq_abs x

theorem sumIsZero_iff (atol s : K) : sumIsZero atol s = true ↔ |s| ≤ atol := by
  simp only [sumIsZero, absK_eq_abs, decide_eq_true_eq]

/-- `isclose` is numpy's formula `|x - y| ≤ atol + rtol·|y|`. -/
theorem isclose_iff (rtol atol x y : K) : isclose rtol atol x y = true ↔ |x - y| ≤ atol + rtol * |y| := by
  simp only [isclose, absK_eq_abs, decide_eq_true_eq]

end Atomman.C16
