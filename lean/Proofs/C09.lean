/-
  C09 — property theorems: precedence of the hand-coded unit-expression parser, set/get inverse, dimension homomorphism
  and working-unit independence, reset_units, LAMMPS style-table dimensions; last the instances, in `section audit` every
  theorem with hypotheses applied to concrete arguments.  `Generated/UnitTable.lean` and `LammpsStyle.lean` are regenerated from
  numericalunits and atomman/lammps/style.py on every run; `unit_table_ok` / `style_table_dims` are re-decided by the kernel
  against them.  `K` is any field with decidable equality (`CharZero` where numerals of a literal or of the table are cast
  into it); `F` in `section rpow` is an ordered field, since the assumed laws `RpowLaws` speak of positive bases.
-/
import Proofs.C09_Lemmas
import Proofs.C09_Units
import Proofs.C09_Literal
import Proofs.C09_Rpow
import Proofs.C09_Source
import Proofs.C09_Algebra
import Atomman.Generated.UnitTable
import Atomman.Generated.LammpsStyle
import Mathlib.Analysis.SpecialFunctions.Pow.Real

namespace Atomman.C09
open Atomman.Gen
set_option linter.unusedSectionVars false

variable {K : Type} [Field K] [DecidableEq K]

/-- **precedence** (central theorem): every rendering of every expression tree in the ordinary
    grammar — any whitespace, any redundant parentheses, negative exponents, any depth — is parsed
    by the hand-coded tokeniser/reducer to the value of the tree; over every value algebra (numbers
    over any field, dimensions, …), failures included. -/
theorem parse_precedence {V : Type} (alg : Alg V) (env : List Char → Option V)
    (e : Expr) (lvl : Nat) (s : List Char) (h : Renders e lvl s) :
    parse alg env s = evalAst alg env e := by
  have := (reads_renders alg env h [] (.inl rfl)).reduce_eq
  rwa [List.append_nil, ← parse_eq_scanL] at this

/-- **precedence, concrete form**: tokenising and reducing the rendering of a tree gives the value of the tree —
    any blank string `w`, nested parentheses where the tree needs them, negative exponents, any depth. -/
theorem parse_render_precedence {V : Type} (alg : Alg V) (env : List Char → Option V) (w : List Char) (hw : allWs w)
    (e : Expr) (he : LeavesOK e) (lvl : Nat) :
    parse alg env (render w lvl e) = evalAst alg env e :=
  parse_precedence alg env e lvl _ (render_renders w hw e lvl he)

/-- `uc.parse(name)` is the table entry, for every name the tokeniser can read back. -/
theorem parse_name {V : Type} (alg : Alg V) (env : List Char → Option V) (n : List Char) (h : validName n) :
    parse alg env n = env n :=
  parse_precedence alg env (.name n) 0 n (Renders.name n h)

/-- `get_in_units(set_in_units(x, u), u) = x`. -/
theorem set_get_inverse (vals : List K) (f : K) (hf : f ≠ 0) :
    getInUnits (setInUnits vals f) f = vals := by
  rw [getInUnits, setInUnits, List.map_map]
  exact List.map_id'' (fun x => mul_div_cancel_right₀ x hf) vals

/-- the round trip for a factor handed over as the value of some evaluation `o`: nothing of how `o` came about is used. -/
theorem round_trip_of_some {o : Option K} {f : K} (ho : o = some f) (hf : f ≠ 0) (vals : List K) {φ : K → List K}
    (hφ : φ f = getInUnits (setInUnits vals f) f) : o.map φ = some vals := by
  rw [ho, Option.map_some, hφ, set_get_inverse vals f hf]

/-- `get_in_units(set_in_units(x, u), u) = x` for any unit argument `u` to which `parseUnits` gives a non-zero factor (`None`,
    `'scaled'`, a string; that value is a hypothesis, the statement says nothing about the parser). -/
theorem set_get_inverse_parse (toInt? : K → Option Int) (env : List Char → Option K) (u : Option (List Char))
    (f : K) (hu : parseUnits (numAlg toInt?) env u = some f) (hf : f ≠ 0) (vals : List K) :
    (parseUnits (numAlg toInt?) env u).map (getInUnits (setInUnits vals f)) = some vals :=
  round_trip_of_some hu hf vals rfl

/-! complex values: `(re, im)` pairs, the real factor promoted to `f + 0j` (numpy). -/

/-- `np.asarray(z) * f` for complex `z` acts on the real and on the imaginary part separately. -/
theorem set_in_units_complex_parts (vals : List (K × K)) (f : K) :
    setInUnitsC vals f = vals.map fun z => (z.1 * f, z.2 * f) := by
  simp only [setInUnitsC]
  apply List.map_congr_left
  intro z _
  simp only [cxMul, Prod.mk.injEq]
  constructor <;> ring

/-- `np.asarray(z) / f` for complex `z` and a non-zero factor acts on the real and on the imaginary part separately. -/
theorem get_in_units_complex_parts (vals : List (K × K)) (f : K) (hf : f ≠ 0) :
    getInUnitsC vals f = vals.map fun z => (z.1 / f, z.2 / f) := by
  refine List.map_congr_left fun z _ => ?_
  simp only [cxDiv, mul_zero, add_zero, sub_zero, mul_div_mul_right _ _ hf]

/-- `get_in_units(set_in_units(z, u), u) = z` for complex `z`: neither part is lost or changed. -/
theorem set_get_inverse_complex (vals : List (K × K)) (f : K) (hf : f ≠ 0) :
    getInUnitsC (setInUnitsC vals f) f = vals := by
  rw [set_in_units_complex_parts, get_in_units_complex_parts _ _ hf, List.map_map]
  exact List.map_id'' (fun z => by simp only [Function.comp, mul_div_cancel_right₀ _ hf]) vals

/-- a real value handed over as complex (`x + 0j`) converts like the real value and stays real. -/
theorem set_in_units_complex_of_real (vals : List K) (f : K) :
    setInUnitsC (vals.map fun x => (x, 0)) f = (setInUnits vals f).map fun x => (x, 0) := by
  rw [set_in_units_complex_parts]
  simp [setInUnits, List.map_map, Function.comp]

/-- the wire form the driver answers `setc` / `getc` with: the parts, interleaved, each converted as a real value. -/
theorem set_in_units_complex_flat (vals : List (K × K)) (f : K) :
    cxFlat (setInUnitsC vals f) = setInUnits (cxFlat vals) f := by
  rw [set_in_units_complex_parts]
  induction vals with
  | nil => rfl
  | cons z rest ih =>
    simp only [cxFlat, setInUnits, List.map_cons, List.flatMap_cons, List.map_append, List.map_nil] at ih ⊢
    rw [ih]

/-- **dimension homomorphism** (string level, every string): if an expression evaluates to `(v, d)`
    under SI with dimension tracking, then after any rescaling of the base units it evaluates to
    `v · m^d₁ kg^d₂ s^d₃ C^d₄ K^d₅`. -/
theorem eval_dimension_hom (toInt? : K → Option Int) (tab : List UnitEntry) (sc : Scales K) (hsc : sc.Nonzero)
    (s : List Char) (v : K) (d : D5)
    (h : parse (trackAlg toInt?) (envTracked tab) s = some (v, d)) :
    parse (numAlg toInt?) (envOf tab sc) s = some (v * factor sc d) := by
  obtain ⟨w, hw, hr⟩ := parse_rel (L := Lift.fwd) (track_num_rel toInt? hsc) (env_track_rel tab sc) s (v, d) h
  rw [hw, hr]

/-- the dimension homomorphism on expression trees: `evalAst` in place of `parse`. -/
theorem eval_dimension_hom_ast (toInt? : K → Option Int) (tab : List UnitEntry) (sc : Scales K) (hsc : sc.Nonzero)
    (e : Expr) (v : K) (d : D5)
    (h : evalAst (trackAlg toInt?) (envTracked tab) e = some (v, d)) :
    evalAst (numAlg toInt?) (envOf tab sc) e = some (v * factor sc d) := by
  obtain ⟨w, hw, hr⟩ := evalAst_rel (L := Lift.fwd) (track_num_rel toInt? hsc) (env_track_rel tab sc) e (v, d) h
  rw [hw, hr]

omit [DecidableEq K] in
theorem convert_common_scale (x : List K) (v1 v2 : K) {f : K} (hf : f ≠ 0) :
    getInUnits (setInUnits x (v1 * f)) (v2 * f) = x.map fun t => t * v1 / v2 := by
  rw [getInUnits, setInUnits, List.map_map]
  refine List.map_congr_left fun t _ => ?_
  rw [Function.comp, ← mul_assoc, mul_div_mul_right _ _ hf]

/-- **working-unit independence**: converting `x` from units `s1` to units `s2` of the same
    dimension gives the same number whatever the base-unit scalings are. -/
theorem same_dim_ratio_invariant (toInt? : K → Option Int) (tab : List UnitEntry)
    (s1 s2 : List Char) (v1 v2 : K) (d : D5)
    (h1 : parse (trackAlg toInt?) (envTracked tab) s1 = some (v1, d))
    (h2 : parse (trackAlg toInt?) (envTracked tab) s2 = some (v2, d)) (hv2 : v2 ≠ 0)
    (sc : Scales K) (hsc : sc.Nonzero) (x : List K) :
    ∃ f1 f2, parse (numAlg toInt?) (envOf tab sc) s1 = some f1
      ∧ parse (numAlg toInt?) (envOf tab sc) s2 = some f2 ∧ f2 ≠ 0
      ∧ getInUnits (setInUnits x f1) f2 = x.map (fun t => t * v1 / v2) := by
  have hf := factor_ne_zero hsc d
  exact ⟨_, _, eval_dimension_hom toInt? tab sc hsc s1 v1 d h1, eval_dimension_hom toInt? tab sc hsc s2 v2 d h2,
    mul_ne_zero hv2 hf, convert_common_scale x v1 v2 hf⟩

/-- the (kernel-decidable) dimension analysis predicts the dimension of the tracked numeric
    evaluation, for every string. -/
theorem dim_analysis_sound [CharZero K] (toInt? : K → Option Int) (hI : ∀ x n, toInt? x = some n → x = (n : K))
    (tab : List UnitEntry) (s : List Char) (dv : DimVal) (v : K) (d : D5)
    (h1 : parse dimAlg (envDim tab) s = some dv)
    (h2 : parse (trackAlg toInt?) (envTracked tab) s = some (v, d)) : d = dv.dim :=
  ((parse_rel (L := Lift.both) (dim_track_rel toInt? hI) (env_dim_rel tab) s) dv (v, d) h1 h2).1.symm

/-- the generated numericalunits table has `m kg s C J = 1` under SI with their dimensions and only
    positive values. -/
theorem unit_table_ok : tableOK unitTable = true := by decide +kernel

/-- **style tables**: in all eight LAMMPS unit styles every mechanical (and temperature) entry —
    `ang-mom`, `ang-vel` included — has the dimension of the quantity it labels. -/
theorem style_table_dims : styleTables.all (styleDimsOK unitTable) = true := by decide +kernel

/-- the regenerated tables are those of the eight LAMMPS unit styles, in this order. -/
theorem style_table_names :
    styleTables.map (·.style) = ["lj", "real", "metal", "si", "cgs", "electron", "micro", "nano"] := by
  decide +kernel

/-- what `style_table_dims` means for numbers: a labelled entry, whenever it evaluates, scales under a
    change of base units exactly like the quantity it labels. -/
theorem style_entry_scaling [CharZero K] (toInt? : K → Option Int) (hI : ∀ x n, toInt? x = some n → x = (n : K))
    (st : StyleTable) (hst : st ∈ styleTables) (label : String) (s : List Char) (hls : (label, s) ∈ st.entries)
    (D : D5) (hD : labelDim label = some D) (v : K) (d : D5)
    (hv : parse (trackAlg toInt?) (envTracked unitTable) s = some (v, d))
    (sc : Scales K) (hsc : sc.Nonzero) :
    parse (numAlg toInt?) (envOf unitTable sc) s = some (v * factor sc D) := by
  have h1 := List.all_eq_true.mp style_table_dims st hst
  have h2 := List.all_eq_true.mp h1 (label, s) hls
  simp only [hD] at h2
  have h3 : (parse dimAlg (envDim unitTable) s).map (·.dim) = some D := by simpa using h2
  obtain ⟨dv, hp, rfl⟩ := Option.map_eq_some_iff.mp h3
  rw [← dim_analysis_sound toInt? hI unitTable s dv v d hp hv]
  exact eval_dimension_hom toInt? unitTable sc hsc s v d hv

section reset
variable [CharZero K]

/-- every named working unit is a name of the table whose dimension is the keyword's. -/
def ChoiceOK (tab : List UnitEntry) (ch : Choice) : Prop :=
  ∀ k n, ch.get k = some n → ∃ e, lookup tab n = some e ∧ e.dim = k.dim

/-- **reset_named_units_are_one**: for every choice of at most four working units, not over-determined, each a table
    name of its keyword's dimension, `reset_units(**kwargs)` yields non-zero base scalings under which every chosen unit
    evaluates to exactly 1.  `r` is the square root the source takes (`radicand`: the quantity under it, when the energy
    fixes the time or the length unit); it is a parameter constrained only by `r * r = radicand`, so the theorem holds in
    every field that has the root (`real_root_exists` for ℝ). -/
theorem reset_named_units_are_one (tab : List UnitEntry) (htab : tableOK tab = true)
    (ch : Choice) (hcount : ch.count ≤ 4) (hover : ch.overDetermined = false) (hch : ChoiceOK tab ch)
    (r : K) (hr : ∀ x, radicand (envSI (K := K) tab) ch = some x → r * r = x) :
    ∃ sc, resetScales (envSI (K := K) tab) ch r = some sc ∧ sc.Nonzero ∧
      ∀ k n, ch.get k = some n → envOf tab sc n = some 1 := by
  have hf := TableFacts.of_tableOK htab
  have hc : ¬ 4 < ch.count := by omega
  obtain ⟨l, m, t, e, q⟩ := ch
  have look : ∀ k n, Choice.get ⟨l, m, t, e, q⟩ k = some n → ∃ e, lookup tab n = some e :=
    fun k n h => (hch k n h).imp fun _ he => he.1
  obtain ⟨xm, hxm, hxm0, hxmv⟩ := baseScale_spec (K := K) hf hf.m l (look .length)
  obtain ⟨xkg, hxkg, hxkg0, hxkgv⟩ := baseScale_spec (K := K) hf hf.kg m (look .mass)
  obtain ⟨xs, hxs, hxs0, hxsv⟩ := baseScale_spec (K := K) hf hf.s t (look .time)
  obtain ⟨xc, hxc, hxc0, hxcv⟩ := baseScale_spec (K := K) hf hf.c q (look .charge)
  obtain ⟨xj, hxj, hxj0, hxjv⟩ := baseScale_spec (K := K) hf hf.j e (look .energy)
  -- a chosen unit is 1 under `sc` as soon as the factor of its kind is the base scale found for it
  have key : ∀ sc : Scales K, (∀ n, l = some n → sc.m = xm) → (∀ n, m = some n → sc.kg = xkg) →
      (∀ n, t = some n → sc.s = xs) → sc.c = xc → (∀ n, e = some n → sc.m ^ 2 * sc.kg / sc.s ^ 2 = xj) →
      ∀ k n, Choice.get ⟨l, m, t, e, q⟩ k = some n → envOf tab sc n = some 1 := by
    intro sc e1 e2 e3 e4 e5 k n hk
    obtain ⟨u, hu, hd⟩ := hch k n hk
    rw [envOf_lookup hu, hd]
    congr 1
    cases k
    · rw [factor_kind, e1 n hk]; exact hxmv n u hk hu
    · rw [factor_kind, e2 n hk]; exact hxkgv n u hk hu
    · rw [factor_kind, e3 n hk]; exact hxsv n u hk hu
    · rw [factor_kind, e5 n hk]; exact hxjv n u hk hu
    · rw [factor_kind, e4]; exact hxcv n u hk hu
  cases e with
  | none =>
    refine ⟨⟨xm, xkg, xs, xc, 1⟩, ?_, ⟨hxm0, hxkg0, hxs0, hxc0, one_ne_zero⟩,
      key _ (fun _ _ => rfl) (fun _ _ => rfl) (fun _ _ => rfl) rfl nofun⟩
    simp only [resetScales, if_neg hc, hxm, hxkg, hxs, hxc]
  | some en =>
    cases m with
    | none =>
      -- the mass unit is fixed by the energy
      have hmm : xm * xm ≠ 0 := mul_ne_zero hxm0 hxm0
      refine ⟨⟨xm, xj * (xs * xs) / (xm * xm), xs, xc, 1⟩, ?_,
        ⟨hxm0, div_ne_zero (mul_ne_zero hxj0 (mul_ne_zero hxs0 hxs0)) hmm, hxs0, hxc0, one_ne_zero⟩,
        key _ (fun _ _ => rfl) nofun (fun _ _ => rfl) rfl fun _ _ => ?_⟩
      · simp only [resetScales, if_neg hc, hxm, hxkg, hxs, hxc, hxj, Option.isNone_none, if_true, if_neg hmm]
      · field_simp
    | some mn =>
      cases t with
      | none =>
        -- the time unit is fixed by the energy: s = r, r * r = kg m^2 / J
        have hr2 : r * r = xkg * (xm * xm) / xj :=
          hr _ (by simp [radicand, hxm, hxkg, hxs, hxj])
        have hr0 : r ≠ 0 := mul_self_ne_zero.mp
          (hr2 ▸ div_ne_zero (mul_ne_zero hxkg0 (mul_ne_zero hxm0 hxm0)) hxj0)
        refine ⟨⟨xm, xkg, r, xc, 1⟩, ?_, ⟨hxm0, hxkg0, hr0, hxc0, one_ne_zero⟩,
          key _ (fun _ _ => rfl) (fun _ _ => rfl) nofun rfl fun _ _ => ?_⟩
        · simp [resetScales, hc, hxm, hxkg, hxs, hxc, hxj, hxj0]
        · rw [pow_two r, hr2]; field_simp
      | some tn =>
        cases l with
        | none =>
          have hr2 : r * r = xj * (xs * xs) / xkg :=
            hr _ (by simp [radicand, hxm, hxkg, hxs, hxj])
          have hr0 : r ≠ 0 := mul_self_ne_zero.mp
            (hr2 ▸ div_ne_zero (mul_ne_zero hxj0 (mul_ne_zero hxs0 hxs0)) hxkg0)
          refine ⟨⟨r, xkg, xs, xc, 1⟩, ?_, ⟨hr0, hxkg0, hxs0, hxc0, one_ne_zero⟩,
            key _ nofun (fun _ _ => rfl) (fun _ _ => rfl) rfl fun _ _ => ?_⟩
          · simp [resetScales, hc, hxm, hxkg, hxs, hxc, hxj, hxkg0]
          · rw [pow_two r, hr2]; field_simp
        | some ln => cases hover

/-- no square root is taken when the mass is not named (the energy then fixes the mass unit). -/
theorem radicand_mass_none (si : List Char → Option K) (ch : Choice) (h : ch.mass = none) :
    radicand si ch = none := by
  unfold radicand
  split
  · rfl
  · split
    · simp [h]
    · rfl

/-- `ChoiceOK` as a test the kernel can run (`choiceOK_of_b`). -/
def choiceOKb (tab : List UnitEntry) (ch : Choice) : Bool :=
  [Kind.length, Kind.mass, Kind.time, Kind.energy, Kind.charge].all fun k =>
    match ch.get k with
    | none => true
    | some n =>
      match lookup tab n with
      | some e => e.dim == k.dim
      | none => false

theorem choiceOK_of_b {tab : List UnitEntry} {ch : Choice} (h : choiceOKb tab ch = true) : ChoiceOK tab ch := by
  intro k n hk
  have hk' := List.all_eq_true.mp h k (by cases k <;> simp)
  rw [hk] at hk'
  cases hl : lookup tab n with
  | none => simp [hl] at hk'
  | some e =>
    simp only [hl, beq_iff_eq] at hk'
    exact ⟨e, rfl, hk'⟩

/-- `uc.parse(chosen unit) = 1` after `reset_units(**kwargs)`: `reset_named_units_are_one` read through `parse_name`. -/
theorem reset_named_units_parse_one (toInt? : K → Option Int) (tab : List UnitEntry) (htab : tableOK tab = true)
    (ch : Choice) (hcount : ch.count ≤ 4) (hover : ch.overDetermined = false) (hch : ChoiceOK tab ch)
    (r : K) (hr : ∀ x, radicand (envSI (K := K) tab) ch = some x → r * r = x) :
    ∃ sc, resetScales (envSI (K := K) tab) ch r = some sc ∧ sc.Nonzero ∧
      ∀ k n, ch.get k = some n → validName n → parse (numAlg toInt?) (envOf tab sc) n = some 1 := by
  obtain ⟨sc, h1, h2, h3⟩ := reset_named_units_are_one tab htab ch hcount hover hch r hr
  exact ⟨sc, h1, h2, fun k n hk hv => by rw [parse_name _ _ n hv]; exact h3 k n hk⟩

/-- more than four keywords are refused (`ValueError('Only four working units can be defined')`). -/
theorem reset_refuses_five (si : List Char → Option K) (ch : Choice) (r : K) (h : 4 < ch.count) :
    resetScales si ch r = none := by
  simp [resetScales, h]

/-- the over-determined choice (length, mass, time and energy all named): the energy keyword is looked up but
    otherwise ignored — the scalings are those of the choice without it.  (This is why the property quantifies
    over non-over-determined choices: the named energy unit is then in general not 1.) -/
theorem reset_over_determined_ignores_energy (si : List Char → Option K) (ch : Choice) (r : K)
    (hcount : ch.count ≤ 4) (hover : ch.overDetermined = true)
    (hj : (baseScale si ['J'] ch.energy).isSome = true) :
    resetScales si ch r = resetScales si { ch with energy := none } r := by
  obtain ⟨l, m, t, e, q⟩ := ch
  simp only [Choice.overDetermined, Bool.and_eq_true, Option.isSome_iff_exists] at hover
  obtain ⟨⟨⟨⟨l, rfl⟩, ⟨m, rfl⟩⟩, ⟨t, rfl⟩⟩, ⟨e, rfl⟩⟩ := hover
  cases q with
  | some q => simp [Choice.count] at hcount
  | none =>
    obtain ⟨j, hj⟩ := Option.isSome_iff_exists.mp hj
    simp only [resetScales, Choice.count, hj, Option.isNone_some]
    rfl

end reset

/-- **set_literal**: "literal value, space, unit expression" — the value a number or a (nested) list / tuple of
    numbers as python writes them (blanks inside allowed, not ending in a top-level comma), blanks allowed inside
    and around the unit expression (which contains no comma), the splitting from the right included — is the array
    of the value (shape as numpy gives it) times the parsed factor of the unit expression. -/
theorem set_literal_value_unit (alg : Alg K) (env : List Char → Option K) (v u : List Char) (lit : Lit)
    (sh : List Nat) (f : K)
    (hv : readLitCore v = some (lit, true)) (hstrip : strip v = v) (hsh : lit.shape? = some sh) (hu : strip u ≠ [])
    (hcomma : ',' ∉ u) (hf : parseUnits alg env (some (strip u)) = some f) :
    setLiteralV alg env (v ++ ' ' :: u) = some (sh, lit.flat.map fun me => litVal me.1 me.2 * f) := by
  have hvne : v ≠ [] := by
    rintro rfl
    rw [readLit_nil] at hv; cases hv
  have hvl : readLit v = some lit := by simp [readLit, hv]
  have huE : (strip u).isEmpty = false := by
    cases h : strip u with
    | nil => exact absurd h hu
    | cons _ _ => rfl
  have hsp : strip (' ' :: u) = strip u :=
    strip_ws_prefix [' '] u (by intro c hc; simp at hc; subst hc; decide)
  unfold setLiteralV
  apply findSome_first _ _ v.length _ (splitPoints_pairwise _)
  · exact (mem_splitPoints _ _).mpr (Or.inr ⟨by simp, by simp⟩)
  · simp only [List.take_left', List.drop_left', hstrip, hvl, hsh, hsp, huE, Bool.false_eq_true, if_false, hf]
  · -- a split further right: the value part is `v`, a space and `k - 1` characters of `u`
    intro j _ hlt
    obtain ⟨k, rfl⟩ : ∃ k, j = v.length + k := ⟨j - v.length, by omega⟩
    simp only [List.take_length_add_append, List.drop_length_add_append]
    by_cases hA : allWs ((' ' :: u).take k)
    · right
      rw [strip_append_ws hstrip hvne _ hA, hvl]
      have hsu : strip ((' ' :: u).drop k) = strip u := by
        have e1 := strip_ws_prefix ((' ' :: u).take k) ((' ' :: u).drop k) hA
        rw [List.take_append_drop] at e1
        rw [← e1, hsp]
      simp only [hsh, hsu, huE, Bool.false_eq_true, if_false, hf]
    · left
      cases k with
      | zero => exact absurd (by intro c hc; simp at hc) hA
      | succ k' =>
        have : (' ' :: u).take (k' + 1) = ' ' :: u.take k' := rfl
        rw [this] at hA ⊢
        have hx : ¬ allWs (u.take k') := fun h => hA (List.forall_mem_cons.mpr ⟨rfl, h⟩)
        obtain ⟨x', hx', hsub, e⟩ := strip_value_more hstrip hvne (u.take k') hx
        simp only [e, readLit_extend v x' lit hv hx' (fun h => hcomma (List.mem_of_mem_take (hsub _ h)))]

/-- the scalar case: "numeral unit-expression" is the numeral's value times the factor. -/
theorem set_literal_scalar (alg : Alg K) (env : List Char → Option K) (v u : List Char) (m e : Int) (f : K)
    (hv : readLitCore v = some (.num m e, true)) (hstrip : strip v = v) (hu : strip u ≠ [])
    (hcomma : ',' ∉ u) (hf : parseUnits alg env (some (strip u)) = some f) :
    setLiteral alg env (v ++ ' ' :: u) = some (litVal m e * f) := by
  unfold setLiteral
  rw [set_literal_value_unit alg env v u (.num m e) [] f hv hstrip (by simp [Lit.shape?]) hu hcomma hf]
  simp [Lit.flat]

/-- `set_literal("v u") = set_in_units(v, u)`, element by element (hypotheses as in `set_literal_value_unit`). -/
theorem set_literal_eq_set_in_units (alg : Alg K) (env : List Char → Option K) (v u : List Char) (lit : Lit)
    (sh : List Nat) (f : K)
    (hv : readLitCore v = some (lit, true)) (hstrip : strip v = v) (hsh : lit.shape? = some sh) (hu : strip u ≠ [])
    (hcomma : ',' ∉ u) (hf : parseUnits alg env (some (strip u)) = some f) :
    (setLiteralV alg env (v ++ ' ' :: u)).map (·.2)
      = some (setInUnits (lit.flat.map fun me => litVal me.1 me.2) f) := by
  rw [set_literal_value_unit alg env v u lit sh f hv hstrip hsh hu hcomma hf]
  simp [setInUnits, List.map_map, Function.comp]

section session

theorem finalScales_append (tab : List UnitEntry) (sc : Scales K) (h1 h2 : List (Call K)) :
    finalScales tab sc (h1 ++ h2) = finalScales tab (finalScales tab sc h1) h2 := by
  induction h1 generalizing sc with
  | nil => rfl
  | cons c cs ih => simp only [List.cons_append, finalScales]; exact ih _

theorem runCalls_append (alg : Alg K) (tab : List UnitEntry) (sc : Scales K) (h1 h2 : List (Call K)) :
    runCalls alg tab sc (h1 ++ h2) = runCalls alg tab sc h1 ++ runCalls alg tab (finalScales tab sc h1) h2 := by
  induction h1 generalizing sc with
  | nil => rfl
  | cons c cs ih => simp only [List.cons_append, runCalls, finalScales]; rw [ih]

theorem Call.next_of_isRead (tab : List UnitEntry) (sc : Scales K) {c : Call K} (h : c.isRead = true) :
    c.next tab sc = sc := by
  cases c with
  | reset | rebase => cases h
  | _ => rfl

theorem finalScales_reads (tab : List UnitEntry) (sc : Scales K) (reads : List (Call K))
    (hr : ∀ c ∈ reads, c.isRead = true) : finalScales tab sc reads = sc := by
  induction reads generalizing sc with
  | nil => rfl
  | cons c cs ih =>
    rw [finalScales, Call.next_of_isRead tab sc (hr c (List.mem_cons_self ..))]
    exact ih sc (fun c' h' => hr c' (List.mem_cons_of_mem _ h'))

/-- **a call is answered from the scalings in force**: the reply to the last call of any session is the reply that
    call gets in the state the history left (which the `session_state_after_*` theorems determine). -/
theorem session_reply_last (alg : Alg K) (tab : List UnitEntry) (sc0 : Scales K) (h : List (Call K)) (c : Call K) :
    runCalls alg tab sc0 (h ++ [c]) = runCalls alg tab sc0 h ++ [c.reply alg tab (finalScales tab sc0 h)] := by
  rw [runCalls_append]; rfl

/-- **history independence after `reset_units(**kwargs)`**: whatever was evaluated before and whatever working
    units were in force (`h`, `sc0` arbitrary), after a named reset that succeeds — and any number of reads — the
    scalings are exactly those the reset computes from the SI baseline. -/
theorem session_state_after_reset (tab : List UnitEntry) (sc0 : Scales K) (h : List (Call K)) (ch : Choice) (r : K)
    (s : Scales K) (hcount : ch.count ≤ 4) (hs : resetScales (envSI (K := K) tab) ch r = some s)
    (reads : List (Call K)) (hr : ∀ c ∈ reads, c.isRead = true) :
    finalScales tab sc0 (h ++ Call.reset ch r :: reads) = s := by
  rw [finalScales_append]
  simp only [finalScales, Call.next, resetState, if_neg (by omega : ¬ 4 < ch.count), hs, Option.getD_some]
  exact finalScales_reads tab s reads hr

/-- history independence after `reset_units(seed)` / `reset_units('SI')` / `build_unit()`: the scalings are those given. -/
theorem session_state_after_rebase (tab : List UnitEntry) (sc0 : Scales K) (h : List (Call K)) (s : Scales K)
    (reads : List (Call K)) (hr : ∀ c ∈ reads, c.isRead = true) :
    finalScales tab sc0 (h ++ Call.rebase s :: reads) = s := by
  rw [finalScales_append]
  simp only [finalScales, Call.next]
  exact finalScales_reads tab s reads hr

/-- a refused reset (more than four keywords) changes nothing; one that raises half-way leaves the SI table. -/
theorem session_state_after_failed_reset (tab : List UnitEntry) (sc0 : Scales K) (h : List (Call K)) (ch : Choice) (r : K)
    (hs : resetScales (envSI (K := K) tab) ch r = none) :
    finalScales tab sc0 (h ++ [Call.reset ch r])
      = if 4 < ch.count then finalScales tab sc0 h else siScales := by
  rw [finalScales_append]
  simp only [finalScales, Call.next, resetState, hs, Option.getD_none]

/-- what `get_in_units(set_in_units(x, s1), s2)` answers when both strings parse, whatever the algebra. -/
theorem reply_convert (alg : Alg K) (tab : List UnitEntry) (sc : Scales K) (x : List K) {s1 s2 : List Char}
    (hs1 : s1 ≠ ['s', 'c', 'a', 'l', 'e', 'd']) (hs2 : s2 ≠ ['s', 'c', 'a', 'l', 'e', 'd']) {f1 f2 : K}
    (e1 : parse alg (envOf tab sc) s1 = some f1) (e2 : parse alg (envOf tab sc) s2 = some f2) (hf2 : f2 ≠ 0) :
    (Call.convert x (some s1) (some s2)).reply alg tab sc = some (getInUnits (setInUnits x f1) f2) := by
  simp only [Call.reply, parseUnits, if_neg hs1, if_neg hs2, e1, e2, if_neg hf2]

theorem replies_one (alg : Alg K) (hone : alg.num 1 0 = some 1) (tab : List UnitEntry) (sc : Scales K) (n : List Char)
    (hv : validName n) (h : envOf tab sc n = some 1) :
    (Call.unit n).reply alg tab sc = some [1] ∧ (Call.parse (some n)).reply alg tab sc = some [1] := by
  refine ⟨by simp only [Call.reply, h, Option.map_some], ?_⟩
  simp only [Call.reply, parseUnits]
  split
  · rw [hone]; rfl
  · rw [parse_name _ _ n hv, h]; rfl

variable [CharZero K]

/-- **chosen units are one, in any session**: after an arbitrary history, a named reset (≤ 4 keywords, not
    over-determined, names of the right dimension) and any reads, `uc.unit[n]` and `uc.parse(n)` are exactly 1
    for every chosen name `n`. -/
theorem session_chosen_units_one (toInt? : K → Option Int) (tab : List UnitEntry) (htab : tableOK tab = true)
    (ch : Choice) (hcount : ch.count ≤ 4) (hover : ch.overDetermined = false) (hch : ChoiceOK tab ch)
    (r : K) (hr : ∀ x, radicand (envSI (K := K) tab) ch = some x → r * r = x)
    (sc0 : Scales K) (h reads : List (Call K)) (hreads : ∀ c ∈ reads, c.isRead = true)
    (k : Kind) (n : List Char) (hk : ch.get k = some n) (hv : validName n) :
    (Call.unit n).reply (numAlg toInt?) tab (finalScales tab sc0 (h ++ Call.reset ch r :: reads)) = some [1]
    ∧ (Call.parse (some n)).reply (numAlg toInt?) tab (finalScales tab sc0 (h ++ Call.reset ch r :: reads)) = some [1] := by
  obtain ⟨sc, h1, _, h3⟩ := reset_named_units_are_one tab htab ch hcount hover hch r hr
  rw [session_state_after_reset tab sc0 h ch r sc hcount h1 reads hreads]
  exact replies_one _ (by simp [numAlg, litVal, powInt, powNat]) tab sc n hv (h3 k n hk)

/-- **working-unit independence across sessions**: the same conversion between two expressions of equal dimension,
    asked at the end of any two histories (non-zero scalings in force), gets the same answer `x · v1 / v2`. -/
theorem session_conversion_invariant (toInt? : K → Option Int) (tab : List UnitEntry)
    (s1 s2 : List Char) (v1 v2 : K) (d : D5)
    (h1 : parse (trackAlg toInt?) (envTracked tab) s1 = some (v1, d))
    (h2 : parse (trackAlg toInt?) (envTracked tab) s2 = some (v2, d)) (hv2 : v2 ≠ 0)
    (hs1 : s1 ≠ ['s', 'c', 'a', 'l', 'e', 'd']) (hs2 : s2 ≠ ['s', 'c', 'a', 'l', 'e', 'd'])
    (sc0 : Scales K) (h : List (Call K)) (hn : (finalScales tab sc0 h).Nonzero) (x : List K) :
    (Call.convert x (some s1) (some s2)).reply (numAlg toInt?) tab (finalScales tab sc0 h)
      = some (x.map fun t => t * v1 / v2) := by
  obtain ⟨f1, f2, e1, e2, hf2, hx⟩ := same_dim_ratio_invariant toInt? tab s1 s2 v1 v2 d h1 h2 hv2 _ hn x
  rw [reply_convert _ _ _ _ hs1 hs2 e1 e2 hf2, hx]

end session

section rpow
variable {F : Type} [Field F] [LinearOrder F] [IsStrictOrderedRing F]
variable {rpow : F → Rat → F}

/-- **dimension homomorphism with rational exponents** (every string — `Pa*m^0.5`, `MPa*m^(3/2)`, `s^-1.5`, nested):
    if an expression evaluates to `(v, d)` under SI with rational dimension tracking, then under any positive
    base-unit scalings it evaluates to `v · m^d₁ kg^d₂ s^d₃ C^d₄ K^d₅`; `rpow` any function with the three laws. -/
theorem eval_dimension_hom_rpow (toRat? : F → Option Rat) (L : RpowLaws rpow) (tab : List UnitEntry)
    (sc : Scales F) (hsc : sc.Pos) (s : List Char) (v : F) (d : Q5)
    (h : parse (trackAlgR toRat? rpow) (envTrackedQ tab) s = some (v, d)) :
    parse (numAlgR toRat? rpow) (envOf tab sc) s = some (v * factorR rpow sc d) := by
  obtain ⟨w, hw, hr⟩ := parse_rel (L := Lift.fwd) (track_num_rel_r toRat? L hsc) (env_track_rel_r L tab hsc) s (v, d) h
  rw [hw, hr]

/-- the dimension homomorphism with rational exponents on expression trees: `evalAst` in place of `parse`. -/
theorem eval_dimension_hom_ast_rpow (toRat? : F → Option Rat) (L : RpowLaws rpow) (tab : List UnitEntry)
    (sc : Scales F) (hsc : sc.Pos) (e : Expr) (v : F) (d : Q5)
    (h : evalAst (trackAlgR toRat? rpow) (envTrackedQ tab) e = some (v, d)) :
    evalAst (numAlgR toRat? rpow) (envOf tab sc) e = some (v * factorR rpow sc d) := by
  obtain ⟨w, hw, hr⟩ := evalAst_rel (L := Lift.fwd) (track_num_rel_r toRat? L hsc) (env_track_rel_r L tab hsc) e (v, d) h
  rw [hw, hr]

/-- **working-unit independence with rational exponents**: `x [s1]` in `[s2]`, both of the same (rational)
    dimension, is `x · v1 / v2` whatever the positive base-unit scalings are (1 m^1.5 = 1000 cm^1.5 everywhere). -/
theorem same_dim_ratio_invariant_rpow (toRat? : F → Option Rat) (L : RpowLaws rpow) (tab : List UnitEntry)
    (s1 s2 : List Char) (v1 v2 : F) (d : Q5)
    (h1 : parse (trackAlgR toRat? rpow) (envTrackedQ tab) s1 = some (v1, d))
    (h2 : parse (trackAlgR toRat? rpow) (envTrackedQ tab) s2 = some (v2, d)) (hv2 : v2 ≠ 0)
    (sc : Scales F) (hsc : sc.Pos) (x : List F) :
    ∃ f1 f2, parse (numAlgR toRat? rpow) (envOf tab sc) s1 = some f1
      ∧ parse (numAlgR toRat? rpow) (envOf tab sc) s2 = some f2 ∧ f2 ≠ 0
      ∧ getInUnits (setInUnits x f1) f2 = x.map (fun t => t * v1 / v2) := by
  have hf : factorR rpow sc d ≠ 0 := ne_of_gt (factorR_pos L hsc d)
  exact ⟨_, _, eval_dimension_hom_rpow toRat? L tab sc hsc s1 v1 d h1,
    eval_dimension_hom_rpow toRat? L tab sc hsc s2 v2 d h2, mul_ne_zero hv2 hf, convert_common_scale x v1 v2 hf⟩

/-- `set_get_inverse_parse` with the rational-exponent algebra `numAlgR` in the hypothesis. -/
theorem set_get_inverse_parse_rpow (toRat? : F → Option Rat) (env : List Char → Option F) (u : Option (List Char))
    (f : F) (hu : parseUnits (numAlgR toRat? rpow) env u = some f) (hf : f ≠ 0) (vals : List F) :
    (parseUnits (numAlgR toRat? rpow) env u).map (getInUnits (setInUnits vals f)) = some vals :=
  round_trip_of_some hu hf vals rfl

/-- **conservative extension**: whatever the integer-exponent algebra evaluates, the rational-exponent algebra
    evaluates to the same number (no law of `rpow` is used: integer powers never reach it) — so every theorem about
    `numAlg` speaks about the algebra the driver runs. -/
theorem parse_rpow_extends (toInt? : F → Option Int) (toRat? : F → Option Rat)
    (hc : ∀ x n, toInt? x = some n → toRat? x = some (n : Rat)) (env : List Char → Option F) (s : List Char) (v : F)
    (h : parse (numAlg toInt?) env s = some v) : parse (numAlgR toRat? rpow) env s = some v := by
  obtain ⟨w, hw, hr⟩ := parse_rel (L := Lift.fwd) (numAlgR_extends (rpow := rpow) toInt? toRat? hc)
    (env1 := env) (env2 := env) (fun n r hr => ⟨r, hr, rfl⟩) s v h
  rw [hw, ← hr]

/-- the kernel-decidable dimension analysis with rational exponents (`m^(3/2)`, `m^0.5*m^0.5`) predicts the
    dimension of the tracked numeric evaluation, for every string. -/
theorem dim_analysis_sound_rpow (toRat? : F → Option Rat) (hR : ∀ x q, toRat? x = some q → x = (q : F))
    (tab : List UnitEntry) (s : List Char) (dv : QDimVal) (v : F) (d : Q5)
    (h1 : parse qdimAlg (envQDim tab) s = some dv)
    (h2 : parse (trackAlgR toRat? rpow) (envTrackedQ tab) s = some (v, d)) : d = dv.dim :=
  ((parse_rel (L := Lift.both) (qdim_track_rel (rpow := rpow) toRat? hR) (env_qdim_rel tab) s) dv (v, d) h1 h2).1.symm

theorem track_rpow_extends (toInt? : F → Option Int) (toRat? : F → Option Rat)
    (hc : ∀ x n, toInt? x = some n → toRat? x = some (n : Rat)) (tab : List UnitEntry) (s : List Char) (v : F) (d : D5)
    (h : parse (trackAlg toInt?) (envTracked tab) s = some (v, d)) :
    parse (trackAlgR toRat? rpow) (envTrackedQ tab) s = some (v, d.toQ) := by
  obtain ⟨w, hw, hr⟩ := parse_rel (L := Lift.fwd) (trackAlgR_extends (rpow := rpow) toInt? toRat? hc)
    (env1 := envTracked tab) (env2 := envTrackedQ tab) (fun n => Lift.fwd.map_same _ fun _ => rfl) s (v, d) h
  rw [hw, hr]

/-- **working-unit independence across sessions, rational exponents**: the same conversion between two expressions of
    equal (rational) dimension, asked at the end of any history that leaves positive scalings, is `x · v1 / v2`. -/
theorem session_conversion_invariant_rpow (toRat? : F → Option Rat) (L : RpowLaws rpow) (tab : List UnitEntry)
    (s1 s2 : List Char) (v1 v2 : F) (d : Q5)
    (h1 : parse (trackAlgR toRat? rpow) (envTrackedQ tab) s1 = some (v1, d))
    (h2 : parse (trackAlgR toRat? rpow) (envTrackedQ tab) s2 = some (v2, d)) (hv2 : v2 ≠ 0)
    (hs1 : s1 ≠ ['s', 'c', 'a', 'l', 'e', 'd']) (hs2 : s2 ≠ ['s', 'c', 'a', 'l', 'e', 'd'])
    (sc0 : Scales F) (h : List (Call F)) (hn : (finalScales tab sc0 h).Pos) (x : List F) :
    (Call.convert x (some s1) (some s2)).reply (numAlgR toRat? rpow) tab (finalScales tab sc0 h)
      = some (x.map fun t => t * v1 / v2) := by
  obtain ⟨f1, f2, e1, e2, hf2, hx⟩ := same_dim_ratio_invariant_rpow toRat? L tab s1 s2 v1 v2 d h1 h2 hv2 _ hn x
  rw [reply_convert _ _ _ _ hs1 hs2 e1 e2 hf2, hx]

/-- chosen units are one in any session, read through the rational-exponent algebra. -/
theorem session_chosen_units_one_rpow (toRat? : F → Option Rat) (tab : List UnitEntry) (htab : tableOK tab = true)
    (ch : Choice) (hcount : ch.count ≤ 4) (hover : ch.overDetermined = false) (hch : ChoiceOK tab ch)
    (r : F) (hr : ∀ x, radicand (envSI (K := F) tab) ch = some x → r * r = x)
    (sc0 : Scales F) (h reads : List (Call F)) (hreads : ∀ c ∈ reads, c.isRead = true)
    (k : Kind) (n : List Char) (hk : ch.get k = some n) (hv : validName n) :
    (Call.unit n).reply (numAlgR toRat? rpow) tab (finalScales tab sc0 (h ++ Call.reset ch r :: reads)) = some [1]
    ∧ (Call.parse (some n)).reply (numAlgR toRat? rpow) tab (finalScales tab sc0 (h ++ Call.reset ch r :: reads)) = some [1] := by
  obtain ⟨sc, h1, _, h3⟩ := reset_named_units_are_one tab htab ch hcount hover hch r hr
  rw [session_state_after_reset tab sc0 h ch r sc hcount h1 reads hreads]
  exact replies_one _ (by simp [numAlgR, litVal, powInt, powNat]) tab sc n hv (h3 k n hk)

/-- **the driver's power is the power**: where the rational power the driver executes (`ratRpowE`) reports an exact
    result (`4^0.5 = 2`, `(1/8)^(2/3) = 1/4`, `(m^3)^(1/3)` for a rational `m` …), every `rpow` obeying the three laws,
    over every ordered field, has exactly that value. -/
theorem rpow_agrees_with_driver (L : RpowLaws rpow) (x q : Rat) (hx : 0 < x) (h : (ratRpowE x q).2 = true) :
    rpow (x : F) q = ((ratRpowE x q).1 : F) := by
  obtain ⟨hpos, hpow⟩ := ratRpowE_exact x q hx h
  apply rpow_unique L (Rat.cast_pos.mpr hx) (Rat.cast_pos.mpr hpos) q
  have := congrArg (fun t : Rat => (t : F)) hpow
  simpa using this

end rpow

/-- `validName` as a test the kernel can run (`validName_of_b`). -/
def validNameB : List Char → Bool
  | [] => false
  | c :: cs => isAlphaStart c && cs.all (fun x => !isStop x && x != '(' && x != ')')

theorem validName_of_b {n : List Char} (h : validNameB n = true) : validName n := by
  cases n with
  | nil => simp [validNameB] at h
  | cons c cs =>
    simp only [validNameB, Bool.and_eq_true, List.all_eq_true, Bool.not_eq_true', bne_iff_ne, ne_eq] at h
    exact ⟨c, cs, rfl, h.1, fun x hx => (h.2 x hx).1.1, fun x hx => ⟨(h.2 x hx).1.2, (h.2 x hx).2⟩⟩

/-- every name of the generated table can be read back by the tokeniser. -/
theorem table_names_valid : unitTable.all (fun e => validNameB e.name) = true := by decide +kernel

section source
variable {K : Type} [Field K] [DecidableEq K]

/-- **precedence, about the generated parser**: the tokeniser and the two `while` loops as the current source writes
    them (`Generated/UnitconvertSource.lean`: branch order, character sets, parenthesis counter, `terms.index('^')`,
    list positions and slices, python operators) evaluate every rendering of every tree — any blanks, redundant
    parentheses, negative exponents, any depth — to the ordinary-precedence value of the tree. -/
theorem gen_parse_precedence {V : Type} (alg : Alg V) (env : List Char → Option V)
    (e : Expr) (lvl : Nat) (s : List Char) (h : Renders e lvl s) :
    UC.parse alg env s = evalAst alg env e := by
  rw [gen_parse_eq_model]; exact parse_precedence alg env e lvl s h

/-- **round trip, about the generated glue**: `get_in_units(set_in_units(x, u), u) = x` with the operators the source
    applies, for any unit argument to which the generated `parseUnits` gives a non-zero factor (`None` and `'scaled'`
    included; that value is a hypothesis, the generated parser itself does not take part). -/
theorem gen_set_get_inverse (toInt? : K → Option Int) (env : List Char → Option K) (u : Option (List Char))
    (f : K) (hu : UC.parseUnits (numAlg toInt?) env u = some f) (hf : f ≠ 0) (vals : List K) :
    (UC.parseUnits (numAlg toInt?) env u).map (fun g => UC.getInUnits (UC.setInUnits vals g) g) = some vals :=
  round_trip_of_some hu hf vals rfl

/-- **refusals, exactly**: a call is refused iff keywords are given and (a seed is given too or there are more than
    four of them) — whatever the keywords are called and whatever names they carry. -/
theorem reset_path_refuses_iff (a : ResetArgs) :
    (resetPath a = .refuseCount ∨ resetPath a = .refuseSeed) ↔ (a.kw ≠ [] ∧ (a.seedGiven = true ∨ 4 < a.kw.length)) := by
  rcases resetPath_cases a with ⟨h, e⟩ | ⟨h, hs, e⟩ | ⟨h, hs, hl, e⟩ | ⟨h, hs, hl, e⟩ <;> simp [*]

/-- which of the two refusals: the seed message iff a seed comes with keywords, the count message iff there is no
    seed and more than four keywords. -/
theorem reset_path_which_refusal (a : ResetArgs) :
    (resetPath a = .refuseSeed ↔ (a.kw ≠ [] ∧ a.seedGiven = true)) ∧
    (resetPath a = .refuseCount ↔ (a.seedGiven = false ∧ 4 < a.kw.length)) := by
  rcases resetPath_cases a with ⟨h, e⟩ | ⟨h, hs, e⟩ | ⟨h, hs, hl, e⟩ | ⟨h, hs, hl, e⟩ <;> simp [*]

/-- the choice read from the keywords names at most as many working units as there are keywords (foreign keywords
    count for `len(kwargs)` but are never looked at). -/
theorem choiceOf_count_le (kw : List (String × List Char)) : (choiceOf kw).count ≤ kw.length := by
  induction kw with
  | nil => simp [choiceOf, Choice.count, kwGet]
  | cons p rest ih => have := choiceOf_count_cons p rest; simp only [List.length_cons]; omega

/-- a call that goes through by name: no seed, one to four keywords, the choice is the one read from the keywords,
    and the inner count check of `resetScales` cannot fire. -/
theorem reset_path_named (a : ResetArgs) (ch : Choice) (h : resetPath a = .named ch) :
    ch = choiceOf a.kw ∧ ch.count ≤ 4 ∧ a.seedGiven = false ∧ a.kw ≠ [] ∧ a.kw.length ≤ 4 := by
  rcases resetPath_cases a with ⟨_, e⟩ | ⟨_, _, e⟩ | ⟨_, _, _, e⟩ | ⟨hne, hs, hl, e⟩ <;> rw [e] at h <;> cases h
  exact ⟨rfl, (choiceOf_count_le a.kw).trans hl, hs, hne, hl⟩

/-- **a refused call changes nothing** (entry-point level, any state, any seed the random generator would draw). -/
theorem reset_call_refused_keeps_state (tab : List UnitEntry) (sc seedSc : Scales K) (a : ResetArgs) (r : K)
    (h : a.kw ≠ [] ∧ (a.seedGiven = true ∨ 4 < a.kw.length)) : resetCall tab sc a seedSc r = sc := by
  rcases (reset_path_refuses_iff a).mpr h with h | h <;> simp [resetCall, h]

variable [CharZero K]

/-- **chosen units are one, from the call**: `reset_units(**kwargs)` without seed, with one to four keywords (any
    keyword strings: those that are not one of the five are ignored), the choice not over-determined and every named
    unit a table name of the keyword's dimension: whatever the state was, afterwards all base scalings are non-zero
    and every chosen unit is exactly 1 — through the generated decision chain and formulas. -/
theorem reset_call_chosen_units_one (tab : List UnitEntry) (htab : tableOK tab = true) (a : ResetArgs)
    (hseed : a.seedGiven = false) (hne : a.kw ≠ []) (h4 : a.kw.length ≤ 4)
    (hover : (UC.choiceOf a.kw).overDetermined = false) (hch : ChoiceOK tab (UC.choiceOf a.kw))
    (r : K) (hr : ∀ x, UC.radicand (envSI (K := K) tab) (UC.choiceOf a.kw) = some x → r * r = x)
    (sc0 seedSc : Scales K) :
    UC.resetPath a = .named (UC.choiceOf a.kw) ∧
    UC.resetScales (envSI (K := K) tab) (UC.choiceOf a.kw) r = some (resetCall tab sc0 a seedSc r) ∧
    (resetCall tab sc0 a seedSc r).Nonzero ∧
    ∀ k n, (UC.choiceOf a.kw).get k = some n → envOf tab (resetCall tab sc0 a seedSc r) n = some 1 := by
  rw [gen_choiceOf_eq_model] at *
  rw [gen_radicand_eq_model] at hr
  rw [gen_resetPath_eq_model, gen_resetScales_eq_model]
  have hp : resetPath a = .named (choiceOf a.kw) := (resetPath_named_iff a).mpr ⟨hseed, hne, h4⟩
  have hc : (choiceOf a.kw).count ≤ 4 := (reset_path_named a _ hp).2.1
  obtain ⟨sc, h1, h2, h3⟩ := reset_named_units_are_one tab htab (choiceOf a.kw) hc hover hch r hr
  have e : resetCall tab sc0 a seedSc r = sc := by simp [resetCall, hp, h1]
  rw [e]
  exact ⟨hp, h1, h2, h3⟩

end source

section datamodel
variable {K : Type} [Field K] [DecidableEq K]

/-- `set_in_units(get_in_units(x, u), u) = x`: the order `value_unit ∘ model` needs (`set_get_inverse` is the other
    order). -/
theorem get_set_inverse (vals : List K) (f : K) (hf : f ≠ 0) : setInUnits (getInUnits vals f) f = vals := by
  rw [getInUnits, setInUnits, List.map_map]
  exact List.map_id'' (fun x => div_mul_cancel₀ x hf) vals

theorem getInUnits_length (vals : List K) (f : K) : (getInUnits vals f).length = vals.length := by
  simp [getInUnits]

/-- **round trip through the data model**: `value_unit(model(x, u)) = x` — shape and entries — for every array
    (0-d, 1-d, any higher rank, empty ones) and every unit expression with a non-zero factor, or no unit at all. -/
theorem value_unit_model_inverse (alg : Alg K) (env : List Char → Option K) (a : Arr K) (hwf : a.wf)
    (u : Option (List Char)) (hu : ∀ s, u = some s → ∃ f, parseUnits alg env (some s) = some f ∧ f ≠ 0) :
    (ucModel alg env a u).bind (valueUnit alg env) = some a := by
  rcases a with ⟨sh, vals⟩
  simp only [Arr.wf] at hwf
  cases u with
  -- the three `ndim` cases of `model`: 0-d, 1-d, higher rank
  | none => rcases sh with _ | ⟨n, _ | ⟨m, rest⟩⟩ <;> simp at hwf <;> simp [ucModel, valueUnit, hwf]
  | some s =>
    -- `model` divides by `f` and `value_unit` multiplies again: the entries come back (`get_set_inverse`), so there are
    -- still as many as the shape says (`hwf`) and the `reshape` test passes
    obtain ⟨f, hp, hf⟩ := hu s rfl
    rcases sh with _ | ⟨n, _ | ⟨m, rest⟩⟩ <;> simp at hwf <;>
      simp [ucModel, valueUnit, hp, hf, get_set_inverse, hwf]

/-- what `model` writes: the unit key is the units argument, the shape key exists exactly from two dimensions on, a
    single number exactly for a 0-d array, and as many entries as the array has. -/
theorem uc_model_keys (alg : Alg K) (env : List Char → Option K) (a : Arr K) (u : Option (List Char)) (t : UCModel K)
    (h : ucModel alg env a u = some t) :
    t.unit = u ∧ (t.shape.isSome ↔ 2 ≤ a.shape.length) ∧ (t.scalar = true ↔ a.shape = []) ∧
    t.vals.length = a.vals.length ∧ (∀ sh, t.shape = some sh → sh = a.shape) := by
  rcases a with ⟨sh, vals⟩
  simp only [ucModel, Option.map_eq_some_iff] at h
  obtain ⟨vs, hvs, rfl⟩ := h
  have hl : vs.length = vals.length := by
    cases u with
    | none => simp at hvs; subst hvs; rfl
    | some s =>
      simp only [Option.bind_eq_some_iff] at hvs
      obtain ⟨f, _, hf⟩ := hvs
      split at hf
      · cases hf
      · simp at hf; subst hf; simp [getInUnits]
  rcases sh with _ | ⟨n, _ | ⟨m, rest⟩⟩ <;> simp [hl]

end datamodel

section
variable {K : Type} [Field K] [DecidableEq K] [CharZero K]
/-- **the configuration `import atomman` leaves** (`atomman/__init__.py` calls `unitconvert.reset_units` with the keywords
    regenerated into `UC.defaultKw`): the call goes through by name, all base scalings are non-zero and every unit it
    names — angstrom, amu, eV, e on the current tree — is exactly 1 over the regenerated unit table. -/
theorem default_units_are_one (r : K)
    (hr : ∀ x, UC.radicand (envSI (K := K) unitTable) (UC.choiceOf UC.defaultKw) = some x → r * r = x)
    (sc0 seedSc : Scales K) :
    UC.resetPath ⟨UC.defaultSeedGiven, UC.defaultKw⟩ = .named (UC.choiceOf UC.defaultKw) ∧
    (resetCall unitTable sc0 ⟨UC.defaultSeedGiven, UC.defaultKw⟩ seedSc r).Nonzero ∧
    ∀ k n, (UC.choiceOf UC.defaultKw).get k = some n →
      envOf unitTable (resetCall unitTable sc0 ⟨UC.defaultSeedGiven, UC.defaultKw⟩ seedSc r) n = some 1 := by
  have h := reset_call_chosen_units_one (K := K) unitTable unit_table_ok ⟨UC.defaultSeedGiven, UC.defaultKw⟩ rfl
    (by decide) (by decide) (by decide) (choiceOK_of_b (by decide +kernel)) r hr sc0 seedSc
  exact ⟨h.1, h.2.2.1, h.2.2.2⟩
end
section
variable {K : Type} [Field K] [DecidableEq K]

/-- **working-unit independence, over the generated definitions**: `x [s1]` in `[s2]` of equal dimension, computed by
    the generated parser and the generated `set_in_units` / `get_in_units`, is `x·v1/v2` under all non-zero scalings. -/
theorem gen_same_dim_ratio_invariant (toInt? : K → Option Int) (tab : List UnitEntry)
    (s1 s2 : List Char) (v1 v2 : K) (d : D5)
    (h1 : UC.parse (trackAlg toInt?) (envTracked tab) s1 = some (v1, d))
    (h2 : UC.parse (trackAlg toInt?) (envTracked tab) s2 = some (v2, d)) (hv2 : v2 ≠ 0)
    (sc : Scales K) (hsc : sc.Nonzero) (x : List K) :
    ∃ f1 f2, UC.parse (numAlg toInt?) (envOf tab sc) s1 = some f1
      ∧ UC.parse (numAlg toInt?) (envOf tab sc) s2 = some f2 ∧ f2 ≠ 0
      ∧ UC.getInUnits (UC.setInUnits x f1) f2 = x.map (fun t => t * v1 / v2) := by
  rw [gen_parse_eq_model] at h1 h2 ⊢
  rw [gen_setInUnits_eq_model, gen_getInUnits_eq_model]
  exact same_dim_ratio_invariant toInt? tab s1 s2 v1 v2 d h1 h2 hv2 sc hsc x

variable [CharZero K]

/-- **working-unit independence, from the call**: after ANY accepted named call of `reset_units` (no seed, one to
    four keywords, not over-determined, names of the right dimension — from any previous state) the conversion of `x`
    from `s1` to `s2` of equal dimension is `x·v1/v2`: entry point, decision chain, formulas, parser and glue composed. -/
theorem conversion_after_named_call (toInt? : K → Option Int) (tab : List UnitEntry) (htab : tableOK tab = true)
    (a : ResetArgs) (hseed : a.seedGiven = false) (hne : a.kw ≠ []) (h4 : a.kw.length ≤ 4)
    (hover : (UC.choiceOf a.kw).overDetermined = false) (hch : ChoiceOK tab (UC.choiceOf a.kw))
    (r : K) (hr : ∀ x, UC.radicand (envSI (K := K) tab) (UC.choiceOf a.kw) = some x → r * r = x)
    (sc0 seedSc : Scales K)
    (s1 s2 : List Char) (v1 v2 : K) (d : D5)
    (h1 : UC.parse (trackAlg toInt?) (envTracked tab) s1 = some (v1, d))
    (h2 : UC.parse (trackAlg toInt?) (envTracked tab) s2 = some (v2, d)) (hv2 : v2 ≠ 0) (x : List K) :
    ∃ f1 f2, UC.parse (numAlg toInt?) (envOf tab (resetCall tab sc0 a seedSc r)) s1 = some f1
      ∧ UC.parse (numAlg toInt?) (envOf tab (resetCall tab sc0 a seedSc r)) s2 = some f2 ∧ f2 ≠ 0
      ∧ UC.getInUnits (UC.setInUnits x f1) f2 = x.map (fun t => t * v1 / v2) :=
  gen_same_dim_ratio_invariant toInt? tab s1 s2 v1 v2 d h1 h2 hv2 _
    (reset_call_chosen_units_one tab htab a hseed hne h4 hover hch r hr sc0 seedSc).2.2.1 x
end

/-! Instances: the model on concrete inputs and the hypotheses of the theorems one at a time; a fact that is evaluated
    once and used by several instances has a name, `audit_*`. -/

example : getInUnitsC (setInUnitsC [((1 : Rat), 2), (0, -1 / 2), (3, 0)] (7 / 3)) (7 / 3) = [(1, 2), (0, -1 / 2), (3, 0)] := by
  decide +kernel
example : cxPairs (cxFlat [((1 : Rat), 2), (0, -1 / 2)]) = [(1, 2), (0, -1 / 2)] := by decide +kernel

theorem audit_track_kgm : parse (trackAlg ratToInt?) (envTracked (K := Rat) unitTable) "kg*m/s^2".toList
    = some (1, ⟨1, 1, -2, 0, 0⟩) := by decide +kernel
theorem audit_track_kgkm : parse (trackAlg ratToInt?) (envTracked (K := Rat) unitTable) "kg*km/s^2".toList
    = some (1000, ⟨1, 1, -2, 0, 0⟩) := by decide +kernel
theorem audit_track_N : parse (trackAlg ratToInt?) (envTracked (K := Rat) unitTable) "N".toList
    = some (1, ⟨1, 1, -2, 0, 0⟩) := by decide +kernel
theorem audit_radicand :
    radicand (envSI (K := Rat) unitTable) ⟨some "m".toList, some "kg".toList, none, some "J".toList, none⟩
      = some (1 * 1) := by decide +kernel
theorem audit_num_strip : strip "1.5e3".toList = "1.5e3".toList := by decide +kernel
def auditLit : Lit := .seq [.seq [.num 1 0, .num 2 0], .seq [.num 35 (-1), .num (-4) 0]]
theorem audit_lit_read : readLitCore "[[1, 2], [3.5, -4]]".toList = some (auditLit, true) := by rfl
theorem audit_lit_strip : strip "[[1, 2], [3.5, -4]]".toList = "[[1, 2], [3.5, -4]]".toList := by decide +kernel
theorem audit_lit_shape : auditLit.shape? = some [2, 2] := by decide +kernel
theorem audit_km_strip : strip " km".toList ≠ [] := by decide +kernel
theorem audit_km_parse :
    parseUnits (numAlg ratToInt?) (envSI (K := Rat) unitTable) (some (strip " km".toList)) = some 1000 := by decide +kernel

-- hypotheses of `eval_dimension_hom` / `same_dim_ratio_invariant` / `dim_analysis_sound` on the generated table
example : parse (trackAlg ratToInt?) (envTracked (K := Rat) unitTable) "kg*m/s^2".toList
    = some (1, ⟨1, 1, -2, 0, 0⟩) := audit_track_kgm
example : parse (trackAlg ratToInt?) (envTracked (K := Rat) unitTable) "N".toList
    = some (1, ⟨1, 1, -2, 0, 0⟩) := audit_track_N
example : (parse dimAlg (envDim unitTable) "dyn".toList).map (·.dim) = some ⟨1, 1, -2, 0, 0⟩ := by decide +kernel
example : (parse dimAlg (envDim unitTable) "kg*m/s^2".toList).map (·.dim) = some ⟨1, 1, -2, 0, 0⟩ := by
  decide +kernel
-- precedence as numbers: `2^-2^3 = (2^-2)^3`, blanks ignored
example : parse (numAlg ratToInt?) (envSI (K := Rat) unitTable) " 2 ^ -2\t^ 3 ".toList = some (1 / 64) := by
  decide +kernel

-- hypotheses of `reset_named_units_are_one`: the atomman default (time fixed by the energy: a square root), a choice
-- without square root, and one whose square root is rational
example : choiceOKb unitTable ⟨some "angstrom".toList, some "amu".toList, none, some "eV".toList, some "e".toList⟩
    = true := by decide +kernel
example : ∃ sc : Scales Rat, resetScales (envSI (K := Rat) unitTable)
      ⟨some "angstrom".toList, none, some "ps".toList, some "eV".toList, none⟩ 0 = some sc
    ∧ envOf unitTable sc "eV".toList = some 1 ∧ envOf unitTable sc "angstrom".toList = some 1
    ∧ envOf unitTable sc "ps".toList = some 1 := by
  have hch : ChoiceOK unitTable ⟨some "angstrom".toList, none, some "ps".toList, some "eV".toList, none⟩ :=
    choiceOK_of_b (by decide +kernel)
  obtain ⟨sc, h1, _, h3⟩ := reset_named_units_are_one (K := Rat) unitTable unit_table_ok _ (by decide) (by decide) hch 0
    (by intro x hx; rw [radicand_mass_none _ _ rfl] at hx; cases hx)
  exact ⟨sc, h1, h3 .energy _ rfl, h3 .length _ rfl, h3 .time _ rfl⟩
example : radicand (envSI (K := Rat) unitTable) ⟨some "m".toList, some "kg".toList, none, some "J".toList, none⟩
    = some (1 * 1) := audit_radicand

-- hypotheses of `set_literal_value_unit` / `set_literal_scalar`: "1.5e3  kg * m " (numeral, unit expression with
-- blanks), "[[1, 2], [3.5, -4]] nm" (nested list with blanks inside), a tuple; refused: leading-zero integer, ragged
example : (readLitCore "1.5e3".toList).map (fun l => (l.1.shape?, l.1.flat, l.2)) = some (some [], [(15, 2)], true) := by
  decide +kernel
example : strip "1.5e3".toList = "1.5e3".toList := audit_num_strip
example : (readLit "[[1, 2], [3.5, -4]]".toList).map (fun l => (l.shape?, l.flat))
    = some (some [2, 2], [(1, 0), (2, 0), (35, -1), (-4, 0)]) := by decide +kernel
example : strip "[[1, 2], [3.5, -4]]".toList = "[[1, 2], [3.5, -4]]".toList := audit_lit_strip
example : (readLitCore "[[1, 2], [3.5, -4]]".toList).map (·.2) = some true := by decide +kernel
example : ',' ∉ " kg * m ".toList := by decide
-- `1, 2` is the tuple `(1, 2)`; `1,` ends on a top-level comma (flag false: `1, 2 m` would read on)
example : (readLitCore "1, 2".toList).map (fun l => (l.1.shape?, l.1.flat, l.2)) = some (some [2], [(1, 0), (2, 0)], true) := by
  decide +kernel
example : (readLitCore "1,".toList).map (fun l => (l.1.shape?, l.1.flat, l.2)) = some (some [1], [(1, 0)], false) := by
  decide +kernel
-- a line break is a blank inside brackets and the end of the expression outside
example : (readLit "[1,\n2]".toList).map (fun l => (l.shape?, l.flat)) = some (some [2], [(1, 0), (2, 0)]) := by decide +kernel
example : readLit "1,\n2".toList = none := by decide +kernel
example : (readLit "(0.5,)".toList).map (fun l => (l.shape?, l.flat)) = some (some [1], [(5, -1)]) := by decide +kernel
example : (readLit "(0.5)".toList).map (fun l => (l.shape?, l.flat)) = some (some [], [(5, -1)]) := by decide +kernel
example : readLit "010".toList = none := by decide +kernel
example : (readLit "[[1, 2], [3]]".toList).map (·.shape?) = some none := by decide +kernel
example : numLit "1.5e3".toList = some (15, 2) := by decide +kernel
example : strip " kg * m ".toList = "kg * m".toList := by decide +kernel
example : (parseUnits dimAlg (envDim unitTable) (some "kg * m".toList)).map (·.dim) = some ⟨1, 1, 0, 0, 0⟩ := by
  decide +kernel
-- the over-determined choice and the five-keyword choice exist
example : (⟨some ['m'], some ['k', 'g'], some ['s'], some ['J'], none⟩ : Choice).overDetermined = true := by decide
example : 4 < (⟨some ['m'], some ['k', 'g'], some ['s'], some ['J'], some ['C']⟩ : Choice).count := by decide

-- a session in the sense of the `session_*` theorems: a charge-bearing expression is read, the charge unit alone is
-- changed by name, the same expression is read again (answered from the new scalings), the chosen unit is 1
example : (runCalls (numAlg ratToInt?) unitTable (siScales (K := Rat))
      [.parse (some "C".toList), .reset ⟨none, none, none, none, some "e".toList⟩ 0,
       .parse (some "C".toList), .parse (some "e".toList), .unit "e".toList])[0]? = some (some [1]) := by decide +kernel
example : (runCalls (numAlg ratToInt?) unitTable (siScales (K := Rat))
      [.parse (some "C".toList), .reset ⟨none, none, none, none, some "e".toList⟩ 0,
       .parse (some "C".toList), .parse (some "e".toList), .unit "e".toList])[2]? ≠ some (some [1]) := by decide +kernel
example : (runCalls (numAlg ratToInt?) unitTable (siScales (K := Rat))
      [.parse (some "C".toList), .reset ⟨none, none, none, none, some "e".toList⟩ 0,
       .parse (some "C".toList), .parse (some "e".toList), .unit "e".toList]).drop 3 = [some [1], some [1]] := by
  decide +kernel
-- a reset that raises half-way (unknown name) leaves the SI table, a five-keyword one leaves the state alone
example : finalScales unitTable (⟨3, 1 / 7, 11, 5 / 2, 1⟩ : Scales Rat) [.reset ⟨some "nounit".toList, none, none, none, none⟩ 0]
    = siScales := by decide +kernel
example : finalScales unitTable (⟨3, 1 / 7, 11, 5 / 2, 1⟩ : Scales Rat)
      [.reset ⟨some ['m'], some ['k', 'g'], some ['s'], some ['J'], some ['C']⟩ 0] = ⟨3, 1 / 7, 11, 5 / 2, 1⟩ := by
  decide +kernel

-- hypotheses of the `_rpow` theorems: the three laws hold for the real power function; positive scalings exist;
-- expressions with non-integer exponents have a tracked value and a rational dimension
theorem realRpowLaws : RpowLaws (fun (x : ℝ) (q : Rat) => x ^ (q : ℝ)) where
  add x hx a b := by simp only [Rat.cast_add]; exact Real.rpow_add hx _ _
  mul x y hx hy a := Real.mul_rpow hx.le hy.le
  one x hx := by simp
noncomputable example : RpowLaws (fun (x : ℝ) (q : Rat) => x ^ (q : ℝ)) := realRpowLaws
example : (⟨3, 1 / 7, 11, 5 / 2, 1⟩ : Scales Rat).Pos := by
  refine ⟨?_, ?_, ?_, ?_, ?_⟩ <;> norm_num
example : (parse qdimAlg (envQDim unitTable) "MPa*m^(3/2)".toList).map (·.dim) = some ⟨1 / 2, 1, -2, 0, 0⟩ := by
  decide +kernel
example : (parse qdimAlg (envQDim unitTable) " GPa * nm ^ 1.5 ".toList).map (·.dim) = some ⟨1 / 2, 1, -2, 0, 0⟩ := by
  decide +kernel
example : (parse qdimAlg (envQDim unitTable) "s^-1.5*s^(1/2)".toList).map (·.dim) = some ⟨0, 0, -1, 0, 0⟩ := by
  decide +kernel
example : (parse (trackAlgR (fun q : Rat => some q) (fun x _ => x)) (envTrackedQ unitTable) "m^0.5/m^-.5".toList).map (·.2)
    = some ⟨1, 0, 0, 0, 0⟩ := by decide +kernel
-- an integer-valued exponent never reaches `rpow`; a negative base with a non-integer exponent has no value
example : parse (numAlgR (fun q : Rat => some q) (fun _ _ => 0)) (envSI (K := Rat) unitTable) "2^(6/2)".toList = some 8 := by
  decide +kernel
example : parse (numAlgR (fun q : Rat => some q) (fun x _ => x)) (envSI (K := Rat) unitTable) "-2^0.5".toList = none := by
  decide +kernel
example : parse (numAlgR (fun q : Rat => some q) (fun x _ => x)) (envSI (K := Rat) unitTable) "0^0.5".toList = some 0 := by
  decide +kernel
example : parse (numAlgR (fun q : Rat => some q) (fun x _ => x)) (envSI (K := Rat) unitTable) "0^-0.5".toList = none := by
  decide +kernel
-- hypotheses of `rpow_agrees_with_driver`: the driver's power is exact on perfect powers, and says so
example : ratRpowE 4 (1 / 2) = (2, true) := by decide +kernel
example : ratRpowE (1 / 8) (2 / 3) = (1 / 4, true) := by decide +kernel
example : (ratRpowE 2 (1 / 2)).2 = false := by decide +kernel

example : UC.parse (numAlg ratToInt?) (envSI (K := Rat) unitTable) " 2 ^ -2\t^ 3 ".toList = some (1 / 64) := by
  decide +kernel
example : resetPath ⟨false, [("length", "nm".toList), ("lenght", "nm".toList)]⟩
    = .named ⟨some "nm".toList, none, none, none, none⟩ := by decide
example : resetPath ⟨true, [("length", "nm".toList)]⟩ = .refuseSeed := by decide
example : resetPath ⟨false, [("length", ['m']), ("mass", ['g']), ("time", ['s']), ("charge", ['C']), ("temperature", ['K'])]⟩
    = .refuseCount := by decide
example : resetPath ⟨true, []⟩ = .seeded := by decide
example : (ucModel (numAlg ratToInt?) (envSI (K := Rat) unitTable) ⟨[2, 2], [1, 2, 3, 4]⟩ (some "km".toList)).bind
    (valueUnit (numAlg ratToInt?) (envSI (K := Rat) unitTable)) = some ⟨[2, 2], [1, 2, 3, 4]⟩ := by decide +kernel
example : (⟨[2, 0, 3], []⟩ : Arr Rat).wf := by simp [Arr.wf]

example : UC.choiceOf UC.defaultKw = ⟨some "angstrom".toList, some "amu".toList, none, some "eV".toList, some "e".toList⟩ := by
  decide

/-! `section audit`: every theorem of this file that has hypotheses, applied to concrete, non-trivial arguments with every
hypothesis discharged (K = ℚ and the regenerated tables; ℝ where a square root or a lawful power function is needed), so that
no statement can hold because its hypotheses cannot be met. -/

section audit

theorem validNum_neg_two : validNum ['-', '2'] :=
  ⟨'-', ['2'], rfl, by decide, by simp [noStop, isStop], by simp [noParen]⟩

theorem audit_renders : Renders (.div (.mul (.name ['k', 'g']) (.name ['m'])) (.pow (.name ['s']) (.num ['-', '2'])))
    2 " kg*(m)/s^-2".toList := by
  have hk : validName ['k', 'g'] := validName_of_b (by decide)
  have hm : validName ['m'] := validName_of_b (by decide)
  have hs : validName ['s'] := validName_of_b (by decide)
  exact Renders.div
    (Renders.mul (Renders.wsL ' ' (by decide) (Renders.up (Renders.up (Renders.name _ hk))))
      (Renders.up (Renders.paren (Renders.name _ hm))))
    (Renders.pow (Renders.up (Renders.name _ hs)) (Renders.num _ validNum_neg_two))

theorem audit_leaves : LeavesOK (.div (.name ['k', 'g']) (.pow (.name ['s']) (.num ['-', '2']))) :=
  ⟨validName_of_b (by decide), validName_of_b (by decide), validNum_neg_two⟩

theorem audit_ws : allWs [' ', '\t', '\n', '\r'] := by
  intro c hc; simp at hc; rcases hc with rfl | rfl | rfl | rfl <;> decide

-- a rendering in the sense of `parse_precedence`: `kg*m/s^2` with blanks and redundant parentheses; a tree with valid
-- leaves and a blank string in the sense of `parse_render_precedence`
example : Renders (.div (.mul (.name ['k', 'g']) (.name ['m'])) (.pow (.name ['s']) (.num ['-', '2'])))
    2 " kg*(m)/s^-2".toList := audit_renders
example : LeavesOK (.div (.name ['k', 'g']) (.pow (.name ['s']) (.num ['-', '2']))) := audit_leaves
example : allWs [' ', '\t', '\n', '\r'] := audit_ws

def auditSc : Scales Rat := ⟨3, 1 / 7, 11, 5 / 2, 1⟩
theorem auditSc_nonzero : auditSc.Nonzero := by
  refine ⟨?_, ?_, ?_, ?_, ?_⟩ <;> norm_num [auditSc]
example : (⟨3, 1 / 7, 11, 5 / 2, 1⟩ : Scales Rat).Nonzero := auditSc_nonzero

example : parse (numAlg ratToInt?) (envSI (K := Rat) unitTable) " kg*(m)/s^-2".toList
    = evalAst (numAlg ratToInt?) (envSI (K := Rat) unitTable)
        (.div (.mul (.name ['k', 'g']) (.name ['m'])) (.pow (.name ['s']) (.num ['-', '2']))) :=
  parse_precedence _ _ _ 2 _ audit_renders
example : UC.parse (numAlg ratToInt?) (envSI (K := Rat) unitTable) " kg*(m)/s^-2".toList
    = evalAst (numAlg ratToInt?) (envSI (K := Rat) unitTable)
        (.div (.mul (.name ['k', 'g']) (.name ['m'])) (.pow (.name ['s']) (.num ['-', '2']))) :=
  gen_parse_precedence _ _ _ 2 _ audit_renders
example : parse (numAlg ratToInt?) (envSI (K := Rat) unitTable)
      (render [' ', '\t', '\n', '\r'] 1 (.div (.name ['k', 'g']) (.pow (.name ['s']) (.num ['-', '2']))))
    = evalAst (numAlg ratToInt?) (envSI (K := Rat) unitTable) (.div (.name ['k', 'g']) (.pow (.name ['s']) (.num ['-', '2']))) :=
  parse_render_precedence _ _ _ audit_ws _ audit_leaves 1
example : parse (numAlg ratToInt?) (envSI (K := Rat) unitTable) "angstrom".toList
    = envSI (K := Rat) unitTable "angstrom".toList :=
  parse_name _ _ _ (validName_of_b (by decide))

example : getInUnits (setInUnits [(1 : Rat), -2, 1 / 3] (7 / 3)) (7 / 3) = [1, -2, 1 / 3] :=
  set_get_inverse _ _ (by norm_num)
example : setInUnits (getInUnits [(1 : Rat), -2, 1 / 3] (7 / 3)) (7 / 3) = [1, -2, 1 / 3] :=
  get_set_inverse _ _ (by norm_num)
example : (parseUnits (numAlg ratToInt?) (envSI (K := Rat) unitTable) (some "km".toList)).map
    (getInUnits (setInUnits [(1 : Rat), -2, 1 / 3] 1000)) = some [1, -2, 1 / 3] :=
  set_get_inverse_parse ratToInt? _ _ 1000 (by decide +kernel) (by norm_num) _
example : (UC.parseUnits (numAlg ratToInt?) (envSI (K := Rat) unitTable) (some "km".toList)).map
    (fun g => UC.getInUnits (UC.setInUnits [(1 : Rat), -2, 1 / 3] g) g) = some [1, -2, 1 / 3] :=
  gen_set_get_inverse ratToInt? _ _ 1000 (by decide +kernel) (by norm_num) _
example : getInUnitsC [((1 : Rat), 2), (0, -1 / 2)] (7 / 3) = [(1 / (7 / 3), 2 / (7 / 3)), (0 / (7 / 3), (-1 / 2) / (7 / 3))] :=
  get_in_units_complex_parts _ _ (by norm_num)
example : getInUnitsC (setInUnitsC [((1 : Rat), 2), (0, -1 / 2)] (7 / 3)) (7 / 3) = [(1, 2), (0, -1 / 2)] :=
  set_get_inverse_complex _ _ (by norm_num)

example : parse (numAlg ratToInt?) (envOf unitTable auditSc) "kg*m/s^2".toList
    = some (1 * factor auditSc ⟨1, 1, -2, 0, 0⟩) :=
  eval_dimension_hom ratToInt? unitTable auditSc auditSc_nonzero _ 1 _ audit_track_kgm
example : evalAst (numAlg ratToInt?) (envOf unitTable auditSc)
      (.div (.mul (.name ['k', 'g']) (.name ['m'])) (.pow (.name ['s']) (.num ['2'])))
    = some (1 * factor auditSc ⟨1, 1, -2, 0, 0⟩) :=
  eval_dimension_hom_ast ratToInt? unitTable auditSc auditSc_nonzero _ 1 _ (by decide +kernel)
example : ∃ f1 f2, parse (numAlg ratToInt?) (envOf unitTable auditSc) "kg*km/s^2".toList = some f1
      ∧ parse (numAlg ratToInt?) (envOf unitTable auditSc) "N".toList = some f2 ∧ f2 ≠ 0
      ∧ getInUnits (setInUnits [(2 : Rat), -3] f1) f2 = [(2 : Rat), -3].map (fun t => t * 1000 / 1) :=
  same_dim_ratio_invariant ratToInt? unitTable _ _ 1000 1 ⟨1, 1, -2, 0, 0⟩ audit_track_kgkm audit_track_N
    (by norm_num) auditSc auditSc_nonzero _
example : ∃ f1 f2, UC.parse (numAlg ratToInt?) (envOf unitTable auditSc) "kg*km/s^2".toList = some f1
      ∧ UC.parse (numAlg ratToInt?) (envOf unitTable auditSc) "N".toList = some f2 ∧ f2 ≠ 0
      ∧ UC.getInUnits (UC.setInUnits [(2 : Rat), -3] f1) f2 = [(2 : Rat), -3].map (fun t => t * 1000 / 1) :=
  gen_same_dim_ratio_invariant ratToInt? unitTable _ _ 1000 1 ⟨1, 1, -2, 0, 0⟩
    (by rw [gen_parse_eq_model]; exact audit_track_kgkm) (by rw [gen_parse_eq_model]; exact audit_track_N)
    (by norm_num) auditSc auditSc_nonzero _
example : (⟨1, 1, -2, 0, 0⟩ : D5) = (⟨none, ⟨1, 1, -2, 0, 0⟩⟩ : DimVal).dim :=
  dim_analysis_sound (K := Rat) ratToInt? ratToInt_sound unitTable "N".toList ⟨none, ⟨1, 1, -2, 0, 0⟩⟩ 1 _
    (by decide +kernel) audit_track_N

-- a style-table entry (metal: force = eV/angstrom): it has a tracked value, and scales like a force
example : (parse (trackAlg ratToInt?) (envTracked (K := Rat) unitTable) "eV/angstrom".toList).isSome = true := by
  decide +kernel
example (v : Rat) (d : D5) (hv : parse (trackAlg ratToInt?) (envTracked (K := Rat) unitTable) "eV/angstrom".toList = some (v, d)) :
    parse (numAlg ratToInt?) (envOf unitTable auditSc) "eV/angstrom".toList = some (v * factor auditSc ⟨1, 1, -2, 0, 0⟩) :=
  style_entry_scaling ratToInt? ratToInt_sound styleTables[2] (List.getElem_mem (l := styleTables) (by decide)) "force" _ (by decide +kernel)
    ⟨1, 1, -2, 0, 0⟩ (by decide +kernel) v d hv auditSc auditSc_nonzero

-- reset_units by name with a square root that exists in ℚ: length m, mass kg, energy J (time = √(1·1²/1) = 1)
theorem audit_mkgJ_ok : ChoiceOK unitTable ⟨some "m".toList, some "kg".toList, none, some "J".toList, none⟩ :=
  choiceOK_of_b (by decide +kernel)
theorem audit_hr : ∀ x : Rat, radicand (envSI (K := Rat) unitTable) ⟨some "m".toList, some "kg".toList, none, some "J".toList, none⟩
    = some x → (1 : Rat) * 1 = x := by
  intro x hx
  rw [audit_radicand] at hx
  cases hx; rfl
example : ∃ sc : Scales Rat, resetScales (envSI (K := Rat) unitTable)
      ⟨some "m".toList, some "kg".toList, none, some "J".toList, none⟩ 1 = some sc ∧ sc.Nonzero ∧
      ∀ k n, (⟨some "m".toList, some "kg".toList, none, some "J".toList, none⟩ : Choice).get k = some n →
        envOf unitTable sc n = some 1 :=
  reset_named_units_are_one (K := Rat) unitTable unit_table_ok _ (by decide) (by decide) audit_mkgJ_ok 1 audit_hr
example : ∃ sc : Scales Rat, resetScales (envSI (K := Rat) unitTable)
      ⟨some "m".toList, some "kg".toList, none, some "J".toList, none⟩ 1 = some sc ∧ sc.Nonzero ∧
      ∀ k n, (⟨some "m".toList, some "kg".toList, none, some "J".toList, none⟩ : Choice).get k = some n → validName n →
        parse (numAlg ratToInt?) (envOf unitTable sc) n = some 1 :=
  reset_named_units_parse_one (K := Rat) ratToInt? unitTable unit_table_ok _ (by decide) (by decide) audit_mkgJ_ok 1 audit_hr
example : resetScales (envSI (K := Rat) unitTable) ⟨some ['m'], some ['k', 'g'], some ['s'], some ['J'], some ['C']⟩ 0 = none :=
  reset_refuses_five _ _ _ (by decide)
example : resetScales (envSI (K := Rat) unitTable) ⟨some "km".toList, some ['g'], some "ms".toList, some "eV".toList, none⟩ 0
    = resetScales (envSI (K := Rat) unitTable) ⟨some "km".toList, some ['g'], some "ms".toList, none, none⟩ 0 :=
  reset_over_determined_ignores_energy _ _ _ (by decide) (by decide) (by decide +kernel)

def auditHist : List (Call Rat) := [.parse (some "C".toList), .rebase auditSc]
def auditReads : List (Call Rat) := [.parse (some "km".toList), .unit "km".toList, .convert [1, 2] (some ['m']) (some "km".toList)]
theorem auditReads_isRead : ∀ c ∈ auditReads, c.isRead = true := by decide
theorem audit_km_ok : ChoiceOK unitTable ⟨some "km".toList, none, none, none, none⟩ := choiceOK_of_b (by decide +kernel)
theorem audit_km : resetScales (envSI (K := Rat) unitTable) ⟨some "km".toList, none, none, none, none⟩ 0
    = some ⟨1 / 1000, 1, 1, 1, 1⟩ := by decide +kernel
example : finalScales unitTable siScales (auditHist ++ Call.reset ⟨some "km".toList, none, none, none, none⟩ 0 :: auditReads)
    = ⟨1 / 1000, 1, 1, 1, 1⟩ :=
  session_state_after_reset unitTable _ _ _ 0 _ (by decide) audit_km _ auditReads_isRead
example : finalScales unitTable siScales (auditHist ++ Call.rebase ⟨2, 3, 5, 7, 1⟩ :: auditReads) = ⟨2, 3, 5, 7, 1⟩ :=
  session_state_after_rebase unitTable _ _ _ _ auditReads_isRead
example : finalScales unitTable siScales (auditHist ++ [Call.reset ⟨some "nounit".toList, none, none, none, none⟩ 0])
    = if 4 < (⟨some "nounit".toList, none, none, none, none⟩ : Choice).count then finalScales unitTable siScales auditHist
      else siScales :=
  session_state_after_failed_reset unitTable _ _ _ 0 (by decide +kernel)
example :
    (Call.unit "km".toList).reply (numAlg ratToInt?) unitTable
      (finalScales unitTable siScales (auditHist ++ Call.reset ⟨some "km".toList, none, none, none, none⟩ 0 :: auditReads)) = some [1]
    ∧ (Call.parse (some "km".toList)).reply (numAlg ratToInt?) unitTable
      (finalScales unitTable siScales (auditHist ++ Call.reset ⟨some "km".toList, none, none, none, none⟩ 0 :: auditReads)) = some [1] :=
  session_chosen_units_one (K := Rat) ratToInt? unitTable unit_table_ok _ (by decide) (by decide)
    audit_km_ok 0 (by intro x hx; rw [radicand_mass_none _ _ rfl] at hx; cases hx)
    siScales auditHist auditReads auditReads_isRead .length _ rfl (validName_of_b (by decide))
theorem auditHist_final : finalScales unitTable (siScales (K := Rat)) auditHist = auditSc := by decide +kernel
example : (Call.convert [(2 : Rat), -3] (some "kg*km/s^2".toList) (some "N".toList)).reply (numAlg ratToInt?) unitTable
      (finalScales unitTable siScales auditHist) = some ([(2 : Rat), -3].map fun t => t * 1000 / 1) :=
  session_conversion_invariant ratToInt? unitTable _ _ 1000 1 ⟨1, 1, -2, 0, 0⟩ audit_track_kgkm audit_track_N
    (by norm_num) (by decide) (by decide) siScales auditHist (by rw [auditHist_final]; exact auditSc_nonzero) _

-- the rational-exponent algebras extend the integer ones (any stand-in for rpow: it is never reached)
example : parse (numAlgR (fun q : Rat => some q) (fun x _ => x)) (envSI (K := Rat) unitTable) "km*km".toList = some 1000000 :=
  parse_rpow_extends (rpow := fun x _ => x) ratToInt? (fun q => some q)
    (fun x n h => by rw [ratToInt_sound x n h]) _ _ _ (by decide +kernel)
example : parse (trackAlgR (fun q : Rat => some q) (fun x _ => x)) (envTrackedQ (K := Rat) unitTable) "kg*m/s^2".toList
    = some (1, (⟨1, 1, -2, 0, 0⟩ : D5).toQ) :=
  track_rpow_extends (rpow := fun x _ => x) ratToInt? (fun q => some q)
    (fun x n h => by rw [ratToInt_sound x n h]) unitTable _ _ _ (by decide +kernel)
example : (parseUnits (numAlgR (fun q : Rat => some q) (fun x _ => x)) (envSI (K := Rat) unitTable) (some "km".toList)).map
    (getInUnits (setInUnits [(1 : Rat), -2, 1 / 3] 1000)) = some [1, -2, 1 / 3] :=
  set_get_inverse_parse_rpow (rpow := fun x _ => x) (fun q => some q) _ _ 1000 (by decide +kernel) (by norm_num) _
example : (⟨-1 / 2, 1, -2, 0, 0⟩ : Q5) = (⟨none, ⟨-1 / 2, 1, -2, 0, 0⟩⟩ : QDimVal).dim :=
  dim_analysis_sound_rpow (F := Rat) (rpow := fun x _ => x) (fun q => some q) (fun x q h => by cases h; simp) unitTable
    "MPa*m^(1/2)".toList ⟨none, ⟨-1 / 2, 1, -2, 0, 0⟩⟩ 1000000 _ (by decide +kernel) (by decide +kernel)

example : ((2 : ℝ) ^ (((1 / 2 : Rat)) : ℝ)) ^ (((2 : Rat)) : ℝ) = (2 : ℝ) ^ (((1 / 2 * 2 : Rat)) : ℝ) :=
  rpow_rpow realRpowLaws (x := (2 : ℝ)) (by norm_num) (1 / 2) 2
example : (0 : Rat) < (ratRpowE 4 (1 / 2)).1 ∧ (ratRpowE 4 (1 / 2)).1 ^ (1 / 2 : Rat).den = 4 ^ (1 / 2 : Rat).num :=
  ratRpowE_exact 4 (1 / 2) (by norm_num) (by decide +kernel)
example : (((4 : Rat) : ℝ)) ^ (((1 / 2 : Rat)) : ℝ) = (((ratRpowE 4 (1 / 2)).1 : Rat) : ℝ) :=
  rpow_agrees_with_driver (F := ℝ) realRpowLaws 4 (1 / 2) (by norm_num) (by decide +kernel)

example :=
  reset_path_named ⟨false, [("length", "nm".toList), ("lenght", "nm".toList)]⟩ ⟨some "nm".toList, none, none, none, none⟩ (by decide)
example : resetCall unitTable auditSc ⟨true, [("length", "nm".toList)]⟩ ⟨2, 3, 5, 7, 1⟩ 0 = auditSc :=
  reset_call_refused_keeps_state _ _ _ _ _ ⟨by decide, Or.inl rfl⟩
def auditArgs : ResetArgs := ⟨false, [("length", "m".toList), ("mass", "kg".toList), ("energy", "J".toList), ("lenght", "nm".toList)]⟩
theorem audit_hr_call : ∀ x : Rat, UC.radicand (envSI (K := Rat) unitTable) (UC.choiceOf auditArgs.kw) = some x → (1 : Rat) * 1 = x :=
  audit_hr
theorem audit_args_ok : ChoiceOK unitTable (UC.choiceOf auditArgs.kw) := audit_mkgJ_ok
example := reset_call_chosen_units_one (K := Rat) unitTable unit_table_ok auditArgs rfl (by decide) (by decide) (by decide)
  audit_args_ok 1 audit_hr_call auditSc ⟨2, 3, 5, 7, 1⟩
example := conversion_after_named_call (K := Rat) ratToInt? unitTable unit_table_ok auditArgs rfl (by decide) (by decide) (by decide)
  audit_args_ok 1 audit_hr_call auditSc ⟨2, 3, 5, 7, 1⟩ "kg*km/s^2".toList "N".toList 1000 1
  ⟨1, 1, -2, 0, 0⟩ (by rw [gen_parse_eq_model]; exact audit_track_kgkm) (by rw [gen_parse_eq_model]; exact audit_track_N)
  (by norm_num) [2, -3]

example : (ucModel (numAlg ratToInt?) (envSI (K := Rat) unitTable) ⟨[2, 2], [1, 2, 3, 4]⟩ (some "km".toList)).bind
    (valueUnit (numAlg ratToInt?) (envSI (K := Rat) unitTable)) = some ⟨[2, 2], [1, 2, 3, 4]⟩ :=
  value_unit_model_inverse _ _ _ (by simp [Arr.wf]) _ (fun s hs => by cases hs; exact ⟨1000, by decide +kernel, by norm_num⟩)
example : (ucModel (numAlg ratToInt?) (envSI (K := Rat) unitTable) ⟨[2, 2], [1, 2, 3, 4]⟩ (some "km".toList)).isSome = true := by
  decide +kernel
example (t : UCModel Rat) (h : ucModel (numAlg ratToInt?) (envSI (K := Rat) unitTable) ⟨[2, 2], [1, 2, 3, 4]⟩ (some "km".toList) = some t) :=
  uc_model_keys _ _ ⟨[2, 2], [1, 2, 3, 4]⟩ _ t h

/-! the default configuration needs a square root that ℚ does not have (time = √(amu·Å²/eV)): the hypothesis of
    `default_units_are_one` is met over ℝ, where the quantity under the root is positive. -/
/-- the square-root hypothesis of `reset_named_units_are_one` / `default_units_are_one` can be met over ℝ for every
    choice. -/
theorem real_root_exists (ch : Choice) :
    ∃ r : ℝ, ∀ x, radicand (envSI (K := ℝ) unitTable) ch = some x → r * r = x := by
  cases h : radicand (envSI (K := ℝ) unitTable) ch with
  | none => exact ⟨0, by intro x hx; cases hx⟩
  | some x0 =>
    have hp := radicand_pos _ (envSI_pos unit_table_ok) ch x0 h
    exact ⟨Real.sqrt x0, by intro x hx; cases hx; exact Real.mul_self_sqrt hp.le⟩

noncomputable example : ∃ r : ℝ, ∀ (sc0 seedSc : Scales ℝ),
    UC.resetPath ⟨UC.defaultSeedGiven, UC.defaultKw⟩ = .named (UC.choiceOf UC.defaultKw) ∧
    (resetCall unitTable sc0 ⟨UC.defaultSeedGiven, UC.defaultKw⟩ seedSc r).Nonzero ∧
    ∀ k n, (UC.choiceOf UC.defaultKw).get k = some n →
      envOf unitTable (resetCall unitTable sc0 ⟨UC.defaultSeedGiven, UC.defaultKw⟩ seedSc r) n = some 1 := by
  obtain ⟨r, hr⟩ := real_root_exists (UC.choiceOf UC.defaultKw)
  exact ⟨r, fun sc0 seedSc => default_units_are_one (K := ℝ) r (by rw [gen_radicand_eq_model]; exact hr) sc0 seedSc⟩

example : setLiteral (numAlg ratToInt?) (envSI (K := Rat) unitTable) ("1.5e3".toList ++ ' ' :: "  km ".toList)
    = some (litVal 15 2 * 1000) :=
  set_literal_scalar _ _ "1.5e3".toList "  km ".toList 15 2 1000 (by rfl) audit_num_strip (by decide +kernel)
    (by decide) (by decide +kernel)
example : setLiteralV (numAlg ratToInt?) (envSI (K := Rat) unitTable) ("[[1, 2], [3.5, -4]]".toList ++ ' ' :: " km".toList)
    = some ([2, 2], (Lit.seq [.seq [.num 1 0, .num 2 0], .seq [.num 35 (-1), .num (-4) 0]]).flat.map
        fun me => litVal me.1 me.2 * 1000) :=
  set_literal_value_unit _ _ "[[1, 2], [3.5, -4]]".toList " km".toList auditLit [2, 2] 1000 audit_lit_read audit_lit_strip
    audit_lit_shape audit_km_strip (by decide) audit_km_parse
example := set_literal_eq_set_in_units (numAlg ratToInt?) (envSI (K := Rat) unitTable) "[[1, 2], [3.5, -4]]".toList " km".toList
    (Lit.seq [.seq [.num 1 0, .num 2 0], .seq [.num 35 (-1), .num (-4) 0]]) [2, 2] 1000 audit_lit_read audit_lit_strip
    audit_lit_shape audit_km_strip (by decide) audit_km_parse

-- laws and parse hypotheses over the SAME field: ℝ, the real power function, the table names km and mm
def kmE : UnitEntry := ⟨"km".toList, 1000, 1, ⟨1, 0, 0, 0, 0⟩⟩
def mmE : UnitEntry := ⟨"mm".toList, 1152921504606847, 1152921504606846976, ⟨1, 0, 0, 0, 0⟩⟩
theorem lookup_km : lookup unitTable "km".toList = some kmE := by rfl
theorem lookup_mm : lookup unitTable "mm".toList = some mmE := by rfl
noncomputable def scR : Scales ℝ := ⟨3, 1 / 7, 11, 5 / 2, 1⟩
theorem scR_pos : scR.Pos := by refine ⟨?_, ?_, ?_, ?_, ?_⟩ <;> norm_num [scR]
theorem track_km (toRat? : ℝ → Option Rat) (rp : ℝ → Rat → ℝ) :
    parse (trackAlgR toRat? rp) (envTrackedQ (K := ℝ) unitTable) "km".toList = some (kmE.si, kmE.dim.toQ) := by
  rw [parse_name _ _ _ (validName_of_b (by decide))]
  simp only [envTrackedQ, lookup_km, Option.map_some]
theorem track_mm (toRat? : ℝ → Option Rat) (rp : ℝ → Rat → ℝ) :
    parse (trackAlgR toRat? rp) (envTrackedQ (K := ℝ) unitTable) "mm".toList = some (mmE.si, kmE.dim.toQ) := by
  rw [parse_name _ _ _ (validName_of_b (by decide))]
  simp only [envTrackedQ, lookup_mm, Option.map_some]; rfl
theorem mm_ne_zero : (mmE.si : ℝ) ≠ 0 := by norm_num [mmE, UnitEntry.si]

noncomputable example := eval_dimension_hom_rpow (F := ℝ) (fun _ => none) realRpowLaws unitTable scR scR_pos "km".toList _ _
  (track_km _ _)
noncomputable example := eval_dimension_hom_ast_rpow (F := ℝ) (fun _ => none) realRpowLaws unitTable scR scR_pos
  (.name "km".toList) kmE.si kmE.dim.toQ (by simp only [evalAst, envTrackedQ, lookup_km, Option.map_some])
noncomputable example := same_dim_ratio_invariant_rpow (F := ℝ) (fun _ => none) realRpowLaws unitTable "km".toList "mm".toList
  kmE.si mmE.si kmE.dim.toQ (track_km _ _) (track_mm _ _) mm_ne_zero scR scR_pos [2, -3]
noncomputable example := session_conversion_invariant_rpow (F := ℝ) (fun _ => none) realRpowLaws unitTable "km".toList "mm".toList
  kmE.si mmE.si kmE.dim.toQ (track_km _ _) (track_mm _ _) mm_ne_zero (by decide) (by decide) scR
  [Call.parse (some "C".toList)] (by simpa [finalScales, Call.next] using scR_pos) [2, -3]
example : ((4 : ℝ)) ^ (((1 / 2 : Rat)) : ℝ) = 2 :=
  rpow_unique realRpowLaws (x := (4 : ℝ)) (y := 2) (by norm_num) (by norm_num) (1 / 2)
    (by rw [show (1 / 2 : ℚ).den = 2 from by decide +kernel, show (1 / 2 : ℚ).num = 1 from by decide +kernel]; norm_num)
example := session_chosen_units_one_rpow (F := Rat) (rpow := fun x _ => x) (fun q => some q) unitTable unit_table_ok
    ⟨some "km".toList, none, none, none, none⟩ (by decide) (by decide)
    audit_km_ok 0 (by intro x hx; rw [radicand_mass_none _ _ rfl] at hx; cases hx)
    siScales auditHist auditReads auditReads_isRead .length _ rfl (validName_of_b (by decide))
end audit

end Atomman.C09
