/-
  Whole calls: the dispatcher `solve_volterra_dislocation`, the option handling and order of `VolterraDislocation.solve`
  (`routeOf`, `baseSolve`), what an accepted call stores, the clauses for the medium a solved object holds and for the field
  methods as generated from `Stroh.py`, and what the acceptance test of `Stroh.solve` (`strohChecksOk`) guarantees.
-/
import Proofs.C12_Iso
import Proofs.C12_Units
import Proofs.C12_Miller
import Proofs.C12_Source

namespace Atomman.C12
open Atomman.Gen
set_option linter.unusedSimpArgs false
set_option linter.unusedSectionVars false

/-- whenever `Stroh` solves the problem the dispatcher returns the anisotropic solution — however close to isotropic
    the constants are. -/
theorem dispatch_stroh_first (isoN inPl : Bool) : dispatch true isoN inPl = some Solver.stroh := rfl

theorem dispatch_iso_iff (sOk isoN inPl : Bool) :
    dispatch sOk isoN inPl = some Solver.iso ↔ (sOk = false ∧ isoN = true ∧ inPl = true) := by
  cases sOk <;> cases isoN <;> cases inPl <;> simp [dispatch, isoAccept]

theorem dispatch_none_iff (sOk isoN inPl : Bool) :
    dispatch sOk isoN inPl = none ↔ (sOk = false ∧ (isoN = false ∨ inPl = false)) := by
  cases sOk <;> cases isoN <;> cases inPl <;> simp [dispatch, isoAccept]

section isoDispatch
variable {K : Type} [Field K] [LinearOrder K] [IsStrictOrderedRing K]

/-- the dispatcher hands out the isotropic closed form only for a Burgers vector that passed the in-plane test, so
    whatever `solve_volterra_dislocation` returns as the isotropic solution has the jump bound of `iso_accept_jump`
    (the Stroh branch has jump `= b` by `burgers_closure`). -/
theorem dispatch_iso_jump (log : K → K) (pi θ tol : K) (s : IsoSetup K) (pos : Vec K) (hpi : pi ≠ 0)
    (hm : dot s.m s.m = 1) (hn : dot s.n s.n = 1) (hmn : dot s.m s.n = 0) (sOk isoN : Bool)
    (hd : dispatch sOk isoN (isoInPlaneOk tol s.b s.n) = some Solver.iso) (c : Fin 3) :
    |isoDisplacement log pi (θ + 2 * pi) s pos c - isoDisplacement log pi θ s pos c - s.b c|
      ≤ tol * maxAbs3 s.b * |s.n c| :=
  iso_accept_jump log pi θ tol s pos hpi hm hn hmn ((dispatch_iso_iff _ _ _).1 hd).2.2 c
end isoDispatch

/-- **which option combinations `VolterraDislocation.solve` refuses** (all with `AssertionError`): Miller indices given
    by halves, Miller indices together with `transform` / `axes`, `transform` together with `axes` — and nothing else. -/
theorem routeOf_refuses_iff {M : Type} (ξ hkl : Bool) (t a : Option M) :
    (∃ e, routeOf ξ hkl t a = .error e)
      ↔ (ξ ≠ hkl) ∨ ((ξ = true ∨ hkl = true) ∧ (t.isSome = true ∨ a.isSome = true)) ∨ (t.isSome = true ∧ a.isSome = true) := by
  cases ξ <;> cases hkl <;> cases t <;> cases a <;> simp [routeOf]

/-- every refusal of the option handling is an `AssertionError`. -/
theorem routeOf_error_class {M : Type} (ξ hkl : Bool) (t a : Option M) (e : String)
    (h : routeOf ξ hkl t a = .error e) : e = "assert" := by
  cases ξ <;> cases hkl <;> cases t <;> cases a <;> simp [routeOf] at h <;> exact h.symm

/-- `axes=` is an alias of `transform=`; what is accepted is never left unchecked (`raw`). -/
theorem routeOf_axes_alias {M : Type} (x : M) :
    routeOf false false none (some x) = routeOf false false (some x) none
      ∧ routeOf false false (some x) none = .ok (.checked x) := ⟨rfl, rfl⟩

theorem routeOf_never_raw {M : Type} (ξ hkl : Bool) (t a : Option M) (x : M) :
    routeOf ξ hkl t a ≠ .ok (.raw x) := by
  cases ξ <;> cases hkl <;> cases t <;> cases a <;> simp [routeOf]

theorem gen_route_refuses_iff {M : Type} (ξ hkl : Bool) (t a : Option M) :
    (∃ e, Gen.Stroh.route ξ hkl t a = .error e)
      ↔ (ξ ≠ hkl) ∨ ((ξ = true ∨ hkl = true) ∧ (t.isSome = true ∨ a.isSome = true)) ∨ (t.isSome = true ∧ a.isSome = true) := by
  rw [gen_route_eq_model]; exact routeOf_refuses_iff ξ hkl t a

/-- the Voigt getter `ElasticConstants.Cijkl` gives both minor symmetries for ANY 6x6 array. -/
theorem cijkl_minor {F : Type} (c : Fin 6 → Fin 6 → F) (i j k l : Fin 3) :
    cijkl c i j k l = cijkl c i j l k ∧ cijkl c i j k l = cijkl c j i k l := by
  have h : ∀ a b : Fin 3, voigt a b = voigt b a := by decide
  simp only [cijkl, h k l, h i j, and_self]

section ordered
variable {K : Type} [Field K] [LinearOrder K] [IsStrictOrderedRing K]

/-- **what the stored Burgers vector is**: the requested crystal vector taken to Cartesian coordinates and rotated by
    the orientation matrix, each component within `tol · max|b|` of it (the round-off clean-up zeroes, never invents). -/
theorem orientB_within_tol (tol : K) (ht : 0 ≤ tol) (T vects : Mat K) (b : Vec K) (i : Fin 3) :
    |orientB tol T vects b i - matVec T (crystalToCart vects b) i|
      ≤ tol * maxAbs3 (matVec T (crystalToCart vects b)) :=
  chop_close tol _ _ ht (maxAbs3_ge _ i)

theorem gen_orientB_within_tol (tol : K) (ht : 0 ≤ tol) (T vects : Mat K) (b : Vec K) (i : Fin 3) :
    |Gen.Stroh.orientB tol T vects b i - matVec T (crystalToCart vects b) i|
      ≤ tol * maxAbs3 (matVec T (crystalToCart vects b)) := by
  rw [gen_orientB_eq_model]; exact orientB_within_tol tol ht T vects b i

/-- **what an accepted call of `VolterraDislocation.solve` went through, in order** (and conversely: these conditions
    make it accept): both axes pass `axis_value`, `m ⊥ n`, the option handling yields a transform, `axes_check` inside
    `ElasticConstants.transform` accepts it; the outputs are the transform, the rotated cleaned stiffness, the rotated
    cleaned Burgers vector. -/
theorem baseSolve_ok_iff (a : BaseIn K) (out : BaseOut K) :
    baseSolve a = .ok out ↔
      axisOk a.tol a.cart a.mStr a.m = true ∧ axisOk a.tol a.cart a.nStr a.n = true
      ∧ (-a.tol ≤ dot a.m a.n ∧ dot a.m a.n ≤ a.tol)
      ∧ ∃ T T2, baseTransform a = .ok T ∧ axesCheck a.tolAx a.rtol T a.norms2 = .ok T2
          ∧ out = ⟨T, orientC a.tolAx T2 a.c, orientB a.tol T a.vects a.b⟩ := by
  unfold baseSolve
  split_ifs with h1 h2 h3
  · simp only [Bool.not_eq_true', ] at h1; simp [h1]
  · simp only [Bool.not_eq_true'] at h2; simp [h2]
  · simp only [Bool.not_eq_true', Bool.and_eq_false_iff, decide_eq_false_iff_not] at h3
    simp only [false_iff, not_and]
    intro _ _ h; exact absurd h (by tauto)
  · simp only [Bool.not_eq_true', Bool.not_eq_false, Bool.and_eq_true, decide_eq_true_eq] at h1 h2 h3
    simp only [h1, h2, h3, and_self, true_and]
    cases baseTransform a with
    | error e => simp
    | ok T =>
      cases hT2 : axesCheck a.tolAx a.rtol T a.norms2 with
      | error e => simp [hT2]
      | ok T2 => simp [hT2, eq_comm]

/-- refusal classes, in the order of the source: axis checks and option handling are `AssertionError`s and come before
    everything else. -/
theorem baseSolve_assert_first (a : BaseIn K)
    (h : axisOk a.tol a.cart a.mStr a.m = false ∨ axisOk a.tol a.cart a.nStr a.n = false
          ∨ ¬ (-a.tol ≤ dot a.m a.n ∧ dot a.m a.n ≤ a.tol)) :
    baseSolve a = .error "assert" := by
  unfold baseSolve
  rcases h with h | h | h
  · simp [h]
  · cases hm : axisOk a.tol a.cart a.mStr a.m <;> simp [h]
  · cases hm : axisOk a.tol a.cart a.mStr a.m <;> cases hn : axisOk a.tol a.cart a.nStr a.n <;> simp
    intro h1 h2; exact absurd ⟨h1, h2⟩ h

/-- `axes=` and `transform=` are interchangeable for the whole call. -/
theorem baseSolve_axes_alias (a : BaseIn K) (x : Mat K) (ht : a.transform = none) (ha : a.axes = some x)
    (hξ : a.ξ = false) (hh : a.hkl = false) :
    baseSolve a = baseSolve { a with transform := some x, axes := none } := by
  unfold baseSolve baseTransform
  simp only [ht, ha, hξ, hh, routeOf]

end ordered

section stored
variable {F : Type} [Field F] [CharZero F]

/-- the problem `Stroh.solve` works on for what the base class stored: the medium is `cijkl` of the stored 6x6 array. -/
def entrySetup {F : Type} (m n : Vec F) (out : BaseOut F) : Setup F := ⟨cijkl out.c, m, n, out.b⟩

/-- **stress = C : strain for every medium a solved object can hold** — no symmetry hypothesis: the medium is `cijkl` of a
    6x6 array, which has the minor symmetry by construction.  Stated for ANY `out : BaseOut`: that `out` is the result of
    an accepted call (`baseSolve a = .ok out`, `baseSolve_ok_iff`) is neither assumed nor needed. -/
theorem entry_stress_is_C_strain (pi I : F) (m n : Vec F) (out : BaseOut F) (μ : Fin 6 → Mode F) (k : Fin 6 → F)
    (x : Vec F) (i j : Fin 3) :
    stressAt pi I (entrySetup m n out) μ k x i j
      = sum3 fun k' => sum3 fun l => cijkl out.c i j k' l * strainAt pi I (entrySetup m n out) μ k x k' l :=
  stress_is_C_strain_at pi I (entrySetup m n out) μ k (fun i j k l => (cijkl_minor out.c i j k l).1) x i j

/-- **equilibrium for every medium a solved object can hold**: each `1/η²` coefficient of `∂ⱼσᵢⱼ` vanishes for every mode that
    solves the eigenproblem of the coded `N` built from the stored medium (any `out : BaseOut`, as above). -/
theorem entry_stress_div_free (pi I : F) (m n : Vec F) (out : BaseOut F) (nnInv : Mat F) (μ : Fin 6 → Mode F)
    (k : Fin 6 → F) (hinv : ∀ i j, matMul (entrySetup m n out).nn nnInv i j = kron i j) (a : Fin 6)
    (htop : ∀ i, eigResTop (entrySetup m n out) nnInv (μ a) i = 0)
    (hbot : ∀ i, eigResBot (entrySetup m n out) nnInv (μ a) i = 0) (i : Fin 3) :
    (sum3 fun j => stressCoef pi I (entrySetup m n out) μ k a i j * mpn (entrySetup m n out) (μ a) j) = 0 :=
  stress_div_free_of_eigen pi I (entrySetup m n out) nnInv μ k (fun i j k l => (cijkl_minor out.c i j k l).2) hinv a htop hbot i

/-- **the jump is the stored Burgers vector** `out.b` (closure relation = the solver's first self-check; any `out : BaseOut`). -/
theorem entry_burgers_jump (pi I : F) (m n : Vec F) (out : BaseOut F) (μ : Fin 6 → Mode F) (k : Fin 6 → F)
    (hpi : pi ≠ 0) (hI : I ≠ 0) (hcomp : ∀ i j, chkAL μ k i j = kron i j) (i : Fin 3) :
    dispJump pi I (entrySetup m n out) μ k i = out.b i :=
  burgers_closure pi I (entrySetup m n out) μ k hpi hI hcomp i

theorem gen_stress_is_C_strain (pi I : F) (s : Setup F) (μ : Fin 6 → Mode F) (k : Fin 6 → F)
    (hC : ∀ i j k l, s.C i j k l = s.C i j l k) (x : Vec F) (i j : Fin 3) :
    Gen.Stroh.stress pi I s.m s.n s.b s.C (modeP μ) k (modeA μ) (modeL μ) x i j
      = sum3 fun k' => sum3 fun l => s.C i j k' l
          * Gen.Stroh.strain pi I s.m s.n s.b s.C (modeP μ) k (modeA μ) (modeL μ) x k' l := by
  rw [gen_stress_eq_model, gen_strain_eq_model]; exact stress_is_C_strain_at pi I s μ k hC x i j

/-- the generated `Stroh.displacement` jumps by exactly `b` when every `ln ηₐ` jumps by `updnₐ·2πi` and the generated
    first self-check holds exactly. -/
theorem gen_displacement_jump (pi I : F) (s : Setup F) (μ : Fin 6 → Mode F) (k sk : Fin 6 → F)
    (hpi : pi ≠ 0) (hI : I ≠ 0) (hcomp : ∀ i j, Gen.Stroh.chk1 k sk (modeA μ) (modeL μ) i j = kron i j) (i : Fin 3) :
    Gen.Stroh.displacement pi I s.m s.n s.b s.C (modeP μ) k (modeA μ) (modeL μ)
        (fun a => updn a * (((2 : Nat) : F) * pi * I)) i = s.b i := by
  rw [gen_displacement_eq_model]
  rw [(gen_checks_eq_model μ k sk).1] at hcomp
  exact burgers_closure pi I s μ k hpi hI hcomp i

theorem gen_falls_as_inv_r (pi I : F) (s : Setup F) (μ : Fin 6 → Mode F) (k : Fin 6 → F) (x : Vec F) (t : F)
    (ht : t ≠ 0) (hx : ∀ a, eta s (μ a) x ≠ 0) (i j : Fin 3) :
    Gen.Stroh.strain pi I s.m s.n s.b s.C (modeP μ) k (modeA μ) (modeL μ) (fun c => t * x c) i j
        = Gen.Stroh.strain pi I s.m s.n s.b s.C (modeP μ) k (modeA μ) (modeL μ) x i j / t
      ∧ Gen.Stroh.stress pi I s.m s.n s.b s.C (modeP μ) k (modeA μ) (modeL μ) (fun c => t * x c) i j
        = Gen.Stroh.stress pi I s.m s.n s.b s.C (modeP μ) k (modeA μ) (modeL μ) x i j / t := by
  simp only [gen_stress_eq_model, gen_strain_eq_model]; exact falls_as_inv_r pi I s μ k x t ht hx i j

theorem gen_K_symm (I : F) (μ : Fin 6 → Mode F) (k : Fin 6 → F) (i j : Fin 3) :
    Gen.Stroh.kTensor I k (modeL μ) i j = Gen.Stroh.kTensor I k (modeL μ) j i := by
  rw [gen_kTensor_eq_model]; exact K_symm I μ k i j

end stored

section accepted
variable {K : Type} [Field K] [LinearOrder K] [IsStrictOrderedRing K]

theorem all3_eq_true (p : Fin 3 → Bool) : all3 p = true ↔ ∀ i, p i = true := by
  simp only [all3, Bool.and_eq_true]
  exact ⟨fun h i => by fin_cases i; exacts [h.1.1, h.1.2, h.2], fun h => ⟨⟨h 0, h 1⟩, h 2⟩⟩

/-- what the first self-check of `Stroh.solve` guarantees when the solver accepts: every entry of `Σ k A⊗L − 1` is within
    `tol + rtol·δᵢⱼ` (squared modulus, no square root). -/
theorem accepted_closure_defect (tol rtol cmax : K) (μ : Fin 6 → Mode (Cx K)) (k sk : Fin 6 → Cx K)
    (h : strohChecksOk tol rtol cmax μ k sk = true) (i j : Fin 3) :
    Cx.normSq (chkAL μ k i j - ⟨kron i j, 0⟩) ≤ (tol + rtol * kron i j) * (tol + rtol * kron i j) := by
  simp only [strohChecksOk, Bool.and_eq_true] at h
  simpa only [closeToReal, decide_eq_true_eq] using (all3_eq_true _).1 ((all3_eq_true _).1 h.1.1.1 i) j

/-- **for every problem `Stroh.solve` accepts the displacement jump is `b + E b` with `|Eᵢⱼ| ≤ tol + rtol·δᵢⱼ`**: the
    closure hypothesis of `burgers_closure` replaced by what the solver itself has checked. -/
theorem accepted_jump_defect (tol rtol cmax : K) (pi I : Cx K) (s : Setup (Cx K)) (μ : Fin 6 → Mode (Cx K))
    (k sk : Fin 6 → Cx K) (hpi : pi ≠ 0) (hI : I ≠ 0) (h : strohChecksOk tol rtol cmax μ k sk = true) (i : Fin 3) :
    dispJump pi I s μ k i - s.b i = (sum3 fun j => (chkAL μ k i j - kron i j) * s.b j)
      ∧ ∀ j, Cx.normSq (chkAL μ k i j - ⟨kron i j, 0⟩) ≤ (tol + rtol * kron i j) * (tol + rtol * kron i j) :=
  ⟨dispJump_defect pi I s μ k hpi hI i, fun j => accepted_closure_defect tol rtol cmax μ k sk h i j⟩

/-- accepted Miller route: the stored transform takes the unit plane normal to `n` and the unit line to `m × n`. -/
theorem baseSolve_miller_frame (a : BaseIn K) (out : BaseOut K) (h : baseSolve a = .ok out)
    (hξ : a.ξ = true) (hn : dot a.nAxis a.nAxis = 1) (hx : dot a.ξAxis a.ξAxis = 1) (hp : dot a.nAxis a.ξAxis = 0) (i : Fin 3) :
    matVec out.T a.nAxis i = a.n i ∧ matVec out.T a.ξAxis i = cross a.m a.n i := by
  obtain ⟨_, _, _, T, T2, hT, _, rfl⟩ := (baseSolve_ok_iff a out).1 h
  have : T = findTransform a.m a.n a.nAxis a.ξAxis := by
    unfold baseTransform at hT
    cases hh : a.hkl <;> cases ht : a.transform <;> cases ha : a.axes <;> simp [routeOf, hξ, hh, ht, ha] at hT
    exact hT.symm
  subst this
  exact ⟨find_transform_normal _ _ _ _ hn hp i, find_transform_line _ _ _ _ hx hp i⟩

theorem gen_K_real (μ : Fin 6 → Mode (Cx K)) (hp : ConjPairs μ) (i j : Fin 3) :
    (Gen.Stroh.kTensor Cx.I (fun a => kOf (μ a)) (modeL μ) i j).im = 0 := by
  rw [gen_kTensor_eq_model]; exact K_real_partial μ hp i j


/-- **the acceptance test as coded = the model's `strohChecksOk` on what the object stores**: the
    source checks the eigen-solution `(A, L₀, k₀)` of the problem for `C / cmax` and then stores `L₀·cmax`, `k₀ / cmax`
    (pinned statements `self.__L = L * Cmax`, `self.__k = k / Cmax`); the model reads the stored values and scales the
    second check by `cmax`, the third by `1/cmax` (`cmax = t² > 0`, `√(k₀/cmax) = √k₀ / t`). -/
theorem gen_checks_stored (tol rtol cmax t : K) (ht : t ≠ 0) (hc : cmax = t * t)
    (μ : Fin 6 → Mode (Cx K)) (k sk : Fin 6 → Cx K) :
    srcChecksOk tol rtol k sk (modeA μ) (modeL μ)
      = strohChecksOk tol rtol cmax (fun a => stiffModeC cmax (μ a)) (fun a => Cx.rdiv (k a) cmax)
          (fun a => Cx.rdiv (sk a) t) := by
  have h := stroh_checks_unit_invariant tol rtol 1 cmax t ht hc one_ne_zero μ k sk
  rw [mul_one] at h
  rw [h]
  obtain ⟨-, -, -, e4⟩ := gen_checks_eq_model μ k sk
  simp only [srcChecksOk, strohChecksOk, Cx.rmul_one, Cx.rdiv_one, e4]
  rfl
end accepted

/-- an accepted `axes=` call with un-normalised rows (norms 2, 3, 5; `norms2` = row norms of the normalised transform,
    which `ElasticConstants.transform` normalises again); the first example reads off the stored `b` and `T`, the second
    shows the same call refused once `transform=` is added. -/
def exBaseIn : BaseIn ℚ where
  tol := 1 / 100000000
  tolAx := 1 / 100000000
  rtol := 1 / 100000
  cart := true
  mStr := false
  nStr := true
  m := fun i => if i = 2 then 1 else 0
  n := fun i => if i = 0 then 1 else 0
  ξ := false
  hkl := false
  transform := none
  axes := some fun i j => if (i, j) = (0, 1) then -2 else if (i, j) = (1, 0) then 3 else if (i, j) = (2, 2) then 5 else 0
  norms := fun i => if i = 0 then 2 else if i = 1 then 3 else 5
  norms2 := fun _ => 1
  nAxis := fun _ => 0
  ξAxis := fun _ => 0
  vects := fun i j => if i = j then 2 else 0
  c := fun a b => if a = b then (if a.val < 3 then 3 else 1) else if a.val < 3 ∧ b.val < 3 then 1 else 0
  b := fun i => if i = 0 then 1 / 2 else 0

example : (match baseSolve exBaseIn with | .ok out => out.b 1 == 1 && out.b 0 == 0 && out.T 0 1 == -1 | .error _ => false) = true := by
  decide +kernel
example : (match baseSolve { exBaseIn with transform := some fun i j => if i = j then 1 else 0 } with
    | .error e => e == "assert" | .ok _ => false) = true := by
  decide +kernel
example : routeOf (M := Unit) true false none none = .error "assert" ∧ routeOf (M := Unit) true true none none = .ok .miller :=
  ⟨rfl, rfl⟩

/-- an eigen-solution over ℚ(i) that passes all four self-checks exactly (hypothesis of `accepted_closure_defect` /
    `accepted_jump_defect`): `Aₐ = (1 ± i) e`, `Lₐ = (1 ∓ i)/4 e` along the three axes, `k = √k = 1`. -/
def exAccModes : Fin 6 → Mode (Cx ℚ) := fun a =>
  ⟨if a.val % 2 = 0 then Cx.I else -Cx.I,
   fun i => if i.val = a.val / 2 then (if a.val % 2 = 0 then ⟨1, 1⟩ else ⟨1, -1⟩) else 0,
   fun i => if i.val = a.val / 2 then (if a.val % 2 = 0 then ⟨1 / 4, -1 / 4⟩ else ⟨1 / 4, 1 / 4⟩) else 0⟩
example : strohChecksOk (1 / 100000000 : ℚ) (1 / 100000) 1 exAccModes (fun _ => 1) (fun _ => 1) = true := by decide +kernel
example : ∀ a, kOf (exAccModes a) = 1 := by decide +kernel
/-- an accepted Miller-route call (hypotheses of `baseSolve_miller_frame`): plane normal `y`, line `z`, `m = 'x'`, `n = 'y'`. -/
def exMillerIn : BaseIn ℚ :=
  { exBaseIn with ξ := true, hkl := true, axes := none, mStr := true, nStr := true, cart := false,
                  m := fun i => if i = 0 then 1 else 0, n := fun i => if i = 1 then 1 else 0,
                  nAxis := fun i => if i = 1 then 1 else 0, ξAxis := fun i => if i = 2 then 1 else 0 }
example : (match baseSolve exMillerIn with | .ok out => out.T 0 0 == 1 && out.T 1 1 == 1 && out.b 0 == 1 | .error _ => false) = true
    ∧ dot exMillerIn.nAxis exMillerIn.nAxis = 1 ∧ dot exMillerIn.ξAxis exMillerIn.ξAxis = 1
    ∧ dot exMillerIn.nAxis exMillerIn.ξAxis = 0 := by decide +kernel

example : isoInPlaneOk (1 / 100000000 : ℚ) exIso.b exIso.n = true := by decide +kernel
example : isoInPlaneOk (1 / 100000000 : ℚ) (fun i => if i = 1 then 3 / 10 else 1) (fun i => if i = 1 then 1 else 0) = false := by
  decide +kernel
example : dispatch false true (isoInPlaneOk (1 / 100000000 : ℚ) exIso.b exIso.n) = some Solver.iso := by decide +kernel

end Atomman.C12
