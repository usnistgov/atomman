/-
  C08 — the routes of a round trip: every way of naming the target of `System.dump` and the source of `load`.
  Model: `Sink`, `Source`, `World`, `dumpTo`, `sourceText`, `loadVia` in Atomman/C08.lean (the three-way branch at the
  end of the four writers; `potentials.tools.uber_open_rmode`).
-/
import Atomman.C08
import Proofs.Lists
namespace Atomman.C08
open Atomman Atomman.C07
set_option linter.unusedSimpArgs false


theorem World.file?_setFile (w : World) (p : String) (t : List Char) : (w.setFile p t).file? p = some t := by
  simp [World.file?, World.setFile]

theorem find?_filter_of_imp {α : Type} (f g : α → Bool) (l : List α) (h : ∀ x, f x = true → g x = true) :
    (l.filter g).find? f = l.find? f := by
  induction l with
  | nil => rfl
  | cons e es ih =>
    by_cases hg : g e = true
    · rw [List.filter_cons_of_pos hg, List.find?_cons, List.find?_cons, ih]
    · have hf : ¬ (f e = true) := fun hfe => hg (h e hfe)
      rw [List.filter_cons_of_neg hg, List.find?_cons_of_neg hf, ih]

theorem World.file?_setFile_ne (w : World) (p q : String) (t : List Char) (h : q ≠ p) :
    (w.setFile p t).file? q = w.file? q := by
  have hpq : (p == q) = false := by simpa using (Ne.symm h)
  have key := find?_filter_of_imp (fun e : String × List Char => e.1 == q) (fun e => !(e.1 == p)) w.files
    (by intro x hx; have : x.1 = q := by simpa using hx
        simp [this, h])
  simp only [World.file?, World.setFile, List.find?_cons, hpq, key]

theorem World.buf_setBuf (w : World) (h : Nat) (t : List Char) : (w.setBuf h t).buf h = t := by
  simp [World.buf, World.setBuf]

/-- the sinks that name a file the writer can write (all of them but a binary stream). -/
def Sink.writesFile (k : Sink) (p : String) : Prop :=
  k = .path p ∨ k = .pathObj p ∨ k = .pathLike p ∨ k = .textFile p

/-- the sources that name the file `p` for the loader. -/
def Source.namesFile (s : Source) (p : String) : Prop :=
  s = .str p.toList ∨ s = .pathObj p ∨ s = .binFile p

/-- however the target file is named (str, pathlib.Path, other PathLike, open text
    stream) and whatever it held before, after the dump it holds exactly the content (not appended, not the earlier
    text), nothing is returned, every other file and every in-memory stream is as before. -/
theorem dump_target_holds_content (w : World) (k : Sink) (p : String) (content : List Char) (hk : k.writesFile p) :
    ∃ w', dumpTo w k content = .ok (w', none) ∧ w'.file? p = some content ∧
      (∀ q, q ≠ p → w'.file? q = w.file? q) ∧ w'.bufs = w.bufs := by
  refine ⟨w.setFile p content, ?_, World.file?_setFile w p content,
    fun q hq => World.file?_setFile_ne w p q content hq, rfl⟩
  rcases hk with h | h | h | h <;> subst h <;> rfl

/-- for every loader, every way of naming the target of the dump and every way of
    naming that file for the loader (str name, pathlib.Path, binary stream), whatever the file held before: loading
    from the target is loading the content — so each per-format round-trip theorem holds through every route. -/
theorem load_dump_roundtrip_any_route {α : Type} (loader : List Char → Res α) (w : World) (k : Sink) (p : String)
    (content : List Char) (hk : k.writesFile p) (src : Source) (hs : src.namesFile p) :
    ∃ w', dumpTo w k content = .ok (w', none) ∧ loadVia loader w' src = loader content := by
  obtain ⟨w', h1, h2, _, _⟩ := dump_target_holds_content w k p content hk
  refine ⟨w', h1, ?_⟩
  rcases hs with h | h | h <;> subst h
  · have : String.ofList p.toList = p := by simp
    simp [loadVia, sourceText, this, h2, exceptSimp]
  · simp [loadVia, sourceText, h2, exceptSimp]
  · simp [loadVia, sourceText, h2, exceptSimp]

/-- a target written twice holds the second content. -/
theorem dump_twice_last_wins (w : World) (k : Sink) (p : String) (t1 t2 : List Char) (hk : k.writesFile p) :
    ∃ w1 w2, dumpTo w k t1 = .ok (w1, none) ∧ dumpTo w1 k t2 = .ok (w2, none) ∧ w2.file? p = some t2 := by
  obtain ⟨w1, h1, _, _, _⟩ := dump_target_holds_content w k p t1 hk
  obtain ⟨w2, h2, h3, _, _⟩ := dump_target_holds_content w1 k p t2 hk
  exact ⟨w1, w2, h1, h2, h3⟩

/-- the content is returned exactly when no target is given, and then nothing is
    written; an in-memory text stream standing at its end gets the content appended; a binary stream is refused. -/
theorem dump_returns_iff_no_target (w : World) (content : List Char) :
    dumpTo w .ret content = .ok (w, some content) ∧
    (∀ k w' r, k ≠ .ret → dumpTo w k content = .ok (w', r) → r = none) ∧
    (∀ h, ∃ w', dumpTo w (.stringIO h) content = .ok (w', none) ∧ w'.buf h = w.buf h ++ content ∧ w'.files = w.files) ∧
    (∀ p, dumpTo w (.binFile p) content = .error "type") := by
  refine ⟨rfl, ?_, fun h => ⟨w.setBuf h (w.buf h ++ content), rfl, World.buf_setBuf _ _ _, rfl⟩, fun _ => rfl⟩
  intro k w' r hk h
  cases k <;> simp_all [dumpTo, exceptSimp]
  all_goals (try (obtain ⟨_, rfl⟩ := h; rfl))

/-- what is not a source: a text stream (ValueError), any other object (TypeError), a
    pathlib.Path / binary stream of a file that does not exist (FileNotFoundError); a str that names no file is the
    content itself. -/
theorem source_refusals (w : World) :
    (∀ p, sourceText w (.textFile p) = .error "value") ∧ sourceText w .other = .error "type" ∧
    (∀ p, w.file? p = none → sourceText w (.pathObj p) = .error "notfound") ∧
    (∀ s, w.file? (String.ofList s) = none → sourceText w (.str s) = .ok s) ∧
    (∀ b, sourceText w (.bytes b) = .ok b) ∧ (∀ b, sourceText w (.bytesIO b) = .ok b) := by
  refine ⟨fun _ => rfl, rfl, ?_, ?_, fun _ => rfl, fun _ => rfl⟩
  · intro p h; simp [sourceText, h, exceptSimp]
  · intro s h; simp [sourceText, h, exceptSimp]

/-- the loaders that read a stream first (data file, dump file) see the same text as the
    others from every source that is not a text stream; from a text stream on `p` they see the content of `p`
    (unless that content is itself the name of a file). -/
theorem sourceTextRead_eq (w : World) (src : Source) (h : ∀ p, src ≠ .textFile p) :
    sourceTextRead w src = sourceText w src := by
  cases src with
  | textFile p => exact absurd rfl (h p)
  | binFile p => simp only [sourceTextRead, sourceText]
  | bytesIO t => rfl
  | str s => rfl
  | pathObj p => rfl
  | bytes b => rfl
  | other => rfl

theorem sourceTextRead_textFile (w : World) (p : String) (t : List Char) (h : w.file? p = some t)
    (hn : w.file? (String.ofList t) = none) : sourceTextRead w (.textFile p) = .ok t := by
  simp [sourceTextRead, sourceText, h, hn, exceptSimp]

/-- non-vacuity: a file that holds a long earlier dump, written through a `pathlib.Path`, read back by name. -/
example :
    let w : World := ⟨[("a.dump", "earlier, longer content".toList)], []⟩
    (dumpTo w (.pathObj "a.dump") "new".toList).toOption.map (fun r => (sourceText r.1 (.str "a.dump".toList), r.2)) =
      some (.ok "new".toList, none) := by intro w; rfl

end Atomman.C08
