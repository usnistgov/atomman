/-
  C05 — the clean-up `zeroSmall` of the `Box.vects` setter (lean/Atomman/C05_Hist.lean): it keeps the largest component
  (`maxAbs_zeroSmall`) and is idempotent (`zeroSmall_idem`) — both cited from C10, whose `cleanVects` is the same function
  (`zeroSmall_eq_cleanVects`); it leaves a cell alone exactly when every component is zero or above
  `tiny` times the largest (`zeroSmall_eq_self_iff`, `clean_lammps_iff`); a reversed cell and a cell with margin whose rows are
  lengthened stay as they are (`zeroSmall_flipC`, `zeroSmall_stretched`).
-/
import Atomman.C05_Hist
import Proofs.C05_Lemmas
import Proofs.C10_Setters
import Proofs.Abs

namespace Atomman.C05
open Atomman
-- the `variable` line gives every theorem the same instances, needed or not
set_option linter.unusedSectionVars false

variable {K : Type} [Field K] [LinearOrder K] [IsStrictOrderedRing K]

theorem absK_eq_abs (x : K) : absK x = |x| := ite_neg_eq_abs x

theorem maxAbs_nonneg (v : M3 K) : 0 ≤ maxAbs v := maxOf_ge_init 0 _

theorem abs_le_maxAbs (v : M3 K) (x : K) (hx : x ∈ v.toList) : |x| ≤ maxAbs v := by
  rw [← absK_eq_abs]
  exact maxOf_ge_mem 0 _ _ (List.mem_map_of_mem hx)

theorem zeroSmall_toList (tiny : K) (v : M3 K) :
    (zeroSmall tiny v).toList = v.toList.map (zeroIfSmall tiny (maxAbs v)) := rfl

theorem ite_lt_eq_ite_le {γ : Type} (a b : K) (u v : γ) : (if a < b then u else v) = if b ≤ a then v else u := by
  by_cases h : b ≤ a
  · rw [if_pos h, if_neg (not_lt.mpr h)]
  · rw [if_neg h, if_pos (not_le.mp h)]

/-- C05 and C10 model the clean-up of the `Box.vects` setter by the same function (C10 tests `eps < |x / m|` and keeps,
    C05 tests `|x / m| ≤ tiny` and zeroes). -/
theorem zeroSmall_eq_cleanVects (tiny : K) (v : M3 K) : zeroSmall tiny v = C10.cleanVects tiny v := by
  apply M3.toList_inj
  rw [C10.cleanVects_eq, zeroSmall_toList]
  simp only [C10.zeroSmall, ite_lt_eq_ite_le]
  rfl

theorem zeroIfSmall_zero (tiny m : K) : zeroIfSmall tiny m 0 = 0 := ite_self _

theorem M3.forall_mem_toList (v : M3 K) (P : K → Prop) :
    (∀ x ∈ v.toList, P x) ↔ (P v.r0.x ∧ P v.r0.y ∧ P v.r0.z) ∧ (P v.r1.x ∧ P v.r1.y ∧ P v.r1.z) ∧
      (P v.r2.x ∧ P v.r2.y ∧ P v.r2.z) := by
  simp only [M3.toList, V3.toList, List.cons_append, List.nil_append, List.forall_mem_cons, List.not_mem_nil,
    false_imp_iff, implies_true, and_true, and_assoc]

theorem zeroSmall_eq_self_iff_entries (tiny : K) (v : M3 K) :
    zeroSmall tiny v = v ↔ ∀ x ∈ v.toList, zeroIfSmall tiny (maxAbs v) x = x := by
  rw [M3.forall_mem_toList, M3.ext_iff, V3.ext_iff, V3.ext_iff, V3.ext_iff]
  rfl

theorem maxAbs_zeroSmall (tiny : K) (h1 : tiny < 1) (v : M3 K) : maxAbs (zeroSmall tiny v) = maxAbs v := by
  rw [zeroSmall_eq_cleanVects]; exact C10.maxAbs9_cleanVects tiny h1 v

/-- **zeroSmall_idem**: the clean-up of the setter is idempotent (`0 ≤ tiny < 1`): a cell that went through the
    setter once is not changed by going through it again. -/
theorem zeroSmall_idem (tiny : K) (h0 : 0 ≤ tiny) (h1 : tiny < 1) (v : M3 K) :
    zeroSmall tiny (zeroSmall tiny v) = zeroSmall tiny v := by
  simp only [zeroSmall_eq_cleanVects]
  exact C10.cleanVects_idem tiny h0 h1 v

theorem zeroSmall_eq_self (tiny : K) (v : M3 K)
    (h : ∀ x ∈ v.toList, x = 0 ∨ tiny < absK (x / maxAbs v)) : zeroSmall tiny v = v := by
  refine (zeroSmall_eq_self_iff_entries tiny v).mpr (fun x hx => ?_)
  rcases h x hx with rfl | h1
  · exact zeroIfSmall_zero _ _
  · exact if_neg (not_le.mpr h1)

/-- the hypothesis of `zeroSmall_eq_self` is a real restriction: a cell with a component `1e-9` of the
    largest one is changed by the setter's clean-up, one with `2e-9` is not. -/
example :
    zeroSmall (1/1000000000 : ℚ) ⟨⟨4, 0, 0⟩, ⟨1/250000000, 4, 0⟩, ⟨0, 0, 4⟩⟩ ≠ ⟨⟨4, 0, 0⟩, ⟨1/250000000, 4, 0⟩, ⟨0, 0, 4⟩⟩ ∧
    zeroSmall (1/1000000000 : ℚ) ⟨⟨4, 0, 0⟩, ⟨1/125000000, 4, 0⟩, ⟨0, 0, 4⟩⟩ = ⟨⟨4, 0, 0⟩, ⟨1/125000000, 4, 0⟩, ⟨0, 0, 4⟩⟩ := by
  decide +kernel

theorem absK_neg (x : K) : absK (-x) = absK x := by rw [absK_eq_abs, absK_eq_abs, abs_neg]

theorem zeroIfSmall_neg (tiny m x : K) : zeroIfSmall tiny m (-x) = - zeroIfSmall tiny m x := by
  unfold zeroIfSmall
  rw [neg_div, absK_neg]
  split_ifs <;> simp

theorem maxAbs_flipC (b : Box K) : maxAbs (flipC b).vects = maxAbs b.vects := by
  obtain ⟨⟨⟨a0, a1, a2⟩, ⟨a3, a4, a5⟩, ⟨a6, a7, a8⟩⟩, o⟩ := b
  simp only [maxAbs, flipC, M3.toList, V3.toList, V3.neg_def, List.cons_append, List.nil_append, List.map_cons,
    List.map_nil, absK_neg]

/-- **zeroSmall_flipC**: the reversed cell of a clean cell is clean: the first write of `normalize` (third vector
    of a left-handed cell reversed) is never altered by the clean-up of the setter. -/
theorem zeroSmall_flipC (tiny : K) (b : Box K) (h : zeroSmall tiny b.vects = b.vects) :
    zeroSmall tiny (flipC b).vects = (flipC b).vects := by
  rw [zeroSmall_eq_self_iff_entries, M3.forall_mem_toList] at h ⊢
  rw [maxAbs_flipC]
  obtain ⟨h0, h1, h20, h21, h22⟩ := h
  refine ⟨h0, h1, ?_, ?_, ?_⟩ <;> simp only [flipC, V3.neg_def, zeroIfSmall_neg, h20, h21, h22]

/-- one entry: kept iff it is zero or larger than `tiny` times the largest component (`m ≥ 0` any number). -/
theorem zeroIfSmall_eq_self_iff (tiny m x : K) (hm : 0 ≤ m) (hx : |x| ≤ m) :
    zeroIfSmall tiny m x = x ↔ (x = 0 ∨ tiny * m < |x|) := by
  rcases eq_or_lt_of_le hm with h0 | hpos
  · -- m = 0: then x = 0
    obtain rfl : x = 0 := abs_eq_zero.mp (le_antisymm (h0 ▸ hx) (abs_nonneg x))
    exact ⟨fun _ => Or.inl rfl, fun _ => zeroIfSmall_zero _ _⟩
  · -- `(|x|/m ≤ tiny → 0 = x) ↔ (x = 0 ∨ tiny·m < |x|)`
    rw [zeroIfSmall, ite_eq_right_iff, absK_eq_abs, abs_div, abs_of_pos hpos, div_le_iff₀ hpos, imp_iff_or_not, not_le,
      eq_comm]

/-- **zeroSmall_eq_self_iff**: the setter's clean-up leaves a matrix exactly as it is IF AND ONLY IF every component is
    either exactly zero or larger in magnitude than `tiny` (the double `1e-9`) times the largest component — no hypothesis
    on `tiny` or on the matrix. -/
theorem zeroSmall_eq_self_iff (tiny : K) (v : M3 K) :
    zeroSmall tiny v = v ↔ ∀ x ∈ v.toList, x = 0 ∨ tiny * maxAbs v < |x| := by
  rw [zeroSmall_eq_self_iff_entries]
  exact forall₂_congr (fun x hx => zeroIfSmall_eq_self_iff tiny (maxAbs v) x (maxAbs_nonneg v) (abs_le_maxAbs v x hx))

/-- the same for a LAMMPS-oriented cell (what `normalize` rebuilds), in its six parameters: the three edge
    lengths along the axes must exceed `tiny` times the largest component and every tilt factor must be exactly zero or
    exceed it in magnitude. -/
theorem clean_lammps_iff (tiny lx ly lz xy xz yz : K) :
    zeroSmall tiny (⟨⟨lx, 0, 0⟩, ⟨xy, ly, 0⟩, ⟨xz, yz, lz⟩⟩ : M3 K) = ⟨⟨lx, 0, 0⟩, ⟨xy, ly, 0⟩, ⟨xz, yz, lz⟩⟩ ↔
      ∀ x ∈ [lx, ly, lz, xy, xz, yz],
        x = 0 ∨ tiny * maxAbs (⟨⟨lx, 0, 0⟩, ⟨xy, ly, 0⟩, ⟨xz, yz, lz⟩⟩ : M3 K) < |x| := by
  rw [zeroSmall_eq_self_iff, M3.forall_mem_toList]
  generalize maxAbs (⟨⟨lx, 0, 0⟩, ⟨xy, ly, 0⟩, ⟨xz, yz, lz⟩⟩ : M3 K) = m
  simp only [List.forall_mem_cons, List.not_mem_nil, false_imp_iff, implies_true, and_true]
  -- the three structural zeros pass in any case (`0 = 0` has been rewritten to `True`)
  have h0 : True ∨ tiny * m < |0| := Or.inl trivial
  exact ⟨fun ⟨⟨a, _, _⟩, ⟨d, e, _⟩, ⟨g, h, i⟩⟩ => ⟨a, e, i, d, g, h⟩,
    fun ⟨a, e, i, d, g, h⟩ => ⟨⟨a, h0, h0⟩, ⟨d, e, h0⟩, ⟨g, h, i⟩⟩⟩

theorem forall_mem_stretched (v : M3 K) (kx ky kz : K) (P : K → Prop) (hx : ∀ x ∈ v.toList, P (kx * x))
    (hy : ∀ x ∈ v.toList, P (ky * x)) (hz : ∀ x ∈ v.toList, P (kz * x)) :
    ∀ y ∈ (⟨V3.smul kx v.r0, V3.smul ky v.r1, V3.smul kz v.r2⟩ : M3 K).toList, P y := by
  rw [M3.forall_mem_toList] at hx hy hz ⊢
  exact ⟨hx.1, hy.2.1, hz.2.2⟩

theorem maxAbs_scaled_le (v : M3 K) (kx ky kz kmax : K) (h0x : 0 ≤ kx) (h0y : 0 ≤ ky) (h0z : 0 ≤ kz)
    (hx : kx ≤ kmax) (hy : ky ≤ kmax) (hz : kz ≤ kmax) :
    maxAbs (⟨V3.smul kx v.r0, V3.smul ky v.r1, V3.smul kz v.r2⟩ : M3 K) ≤ kmax * maxAbs v := by
  have hk : 0 ≤ kmax := le_trans h0x hx
  have hm := maxAbs_nonneg v
  have e : ∀ (k x : K), 0 ≤ k → k ≤ kmax → x ∈ v.toList → absK (k * x) ≤ kmax * maxAbs v := by
    intro k x h0 hk' hmem
    rw [absK_eq_abs, abs_mul, abs_of_nonneg h0]
    exact mul_le_mul hk' (abs_le_maxAbs v x hmem) (abs_nonneg x) hk
  unfold maxAbs
  apply maxOf_le _ _ _ (mul_nonneg hk hm)
  intro y hmem
  obtain ⟨z, hz', rfl⟩ := List.mem_map.mp hmem
  exact forall_mem_stretched v kx ky kz (fun z => absK z ≤ kmax * maxAbs v) (fun x => e kx x h0x hx)
    (fun x => e ky x h0y hy) (fun x => e kz x h0z hz) z hz'

/-- **zeroSmall_stretched**: a cell whose non-zero components all exceed `tiny · kmax` times its largest component stays
    untouched by the clean-up when its rows are lengthened by factors in `[1, kmax]` (what `wrap` does to the cell vectors
    of non-periodic directions). -/
theorem zeroSmall_stretched (tiny : K) (ht : 0 ≤ tiny) (v : M3 K) (kx ky kz kmax : K)
    (h1x : 1 ≤ kx) (h1y : 1 ≤ ky) (h1z : 1 ≤ kz) (hx : kx ≤ kmax) (hy : ky ≤ kmax) (hz : kz ≤ kmax)
    (hmargin : ∀ x ∈ v.toList, x = 0 ∨ tiny * kmax * maxAbs v < |x|) :
    zeroSmall tiny (⟨V3.smul kx v.r0, V3.smul ky v.r1, V3.smul kz v.r2⟩ : M3 K)
      = ⟨V3.smul kx v.r0, V3.smul ky v.r1, V3.smul kz v.r2⟩ := by
  rw [zeroSmall_eq_self_iff]
  have hle := maxAbs_scaled_le v kx ky kz kmax (le_trans zero_le_one h1x) (le_trans zero_le_one h1y)
    (le_trans zero_le_one h1z) hx hy hz
  have e : ∀ (k x : K), 1 ≤ k → x ∈ v.toList →
      k * x = 0 ∨ tiny * maxAbs (⟨V3.smul kx v.r0, V3.smul ky v.r1, V3.smul kz v.r2⟩ : M3 K) < |k * x| := by
    intro k x hk hmem
    rcases hmargin x hmem with rfl | h
    · left; ring
    · right
      have h0 : 0 ≤ k := le_trans zero_le_one hk
      calc tiny * maxAbs (⟨V3.smul kx v.r0, V3.smul ky v.r1, V3.smul kz v.r2⟩ : M3 K)
          ≤ tiny * (kmax * maxAbs v) := mul_le_mul_of_nonneg_left hle ht
        _ = tiny * kmax * maxAbs v := by ring
        _ < |x| := h
        _ ≤ |k * x| := by
            rw [abs_mul, abs_of_nonneg h0]
            calc |x| = 1 * |x| := by ring
              _ ≤ k * |x| := mul_le_mul_of_nonneg_right hk (abs_nonneg x)
  exact forall_mem_stretched v kx ky kz _ (fun x => e kx x h1x) (fun x => e ky x h1y) (fun x => e kz x h1z)

-- instances: the iff on a cell with a component exactly at / above the threshold; the margin hypothesis of
-- `zeroSmall_stretched` (`kmax = 1000`) on a tilted cell
example : zeroSmall (1/1000000000 : ℚ) ⟨⟨1, 0, 0⟩, ⟨2/1000000000, 1, 0⟩, ⟨0, 0, 1⟩⟩ = ⟨⟨1, 0, 0⟩, ⟨2/1000000000, 1, 0⟩, ⟨0, 0, 1⟩⟩ := by
  rw [zeroSmall_eq_self_iff]; decide +kernel
example : ¬ (zeroSmall (1/1000000000 : ℚ) ⟨⟨1, 0, 0⟩, ⟨1/1000000000, 1, 0⟩, ⟨0, 0, 1⟩⟩ = ⟨⟨1, 0, 0⟩, ⟨1/1000000000, 1, 0⟩, ⟨0, 0, 1⟩⟩) := by
  rw [zeroSmall_eq_self_iff]; decide +kernel
example : ∀ x ∈ (⟨⟨3, 0, 0⟩, ⟨1/1000, 4, 0⟩, ⟨0, 0, 5⟩⟩ : M3 ℚ).toList,
    x = 0 ∨ (1/1000000000 : ℚ) * 1000 * maxAbs (⟨⟨3, 0, 0⟩, ⟨1/1000, 4, 0⟩, ⟨0, 0, 5⟩⟩ : M3 ℚ) < |x| := by decide +kernel

end Atomman.C05
