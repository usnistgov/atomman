/-
  C17 — `match_pq`: the best-angle loop (`IsBest`), then the conflict resolution for ANY number of current vectors whose best
  reference vector is the same `p` (a current list with more shells than the reference set, a large `theta_max`): the double
  loop ends in a state described by `PInv` (`qpPairs_inv`), from which the statements about the matched rows follow.
  `matchPQ_pairing_partial` assumes that distinct `q` pick distinct `p`; `PInv` does not.
-/
import Proofs.C17_Lemmas
import Proofs.Folds
import Mathlib.Data.List.Basic
import Mathlib.Tactic.Linarith

namespace Atomman.C17
open Atomman
set_option linter.unusedSectionVars false


variable {K : Type} [Field K] [LinearOrder K] [IsStrictOrderedRing K]

/-- `ps[k]` is the match the inner loop of `match_pq` selects for `q`: its cosine exceeds `cos θ_max`, strictly
    exceeds that of every earlier `p` and is not exceeded by a later one. -/
def IsBest (mag : V3 K → K) (cosMax : K) (ps : List (V3 K)) (q : V3 K) (k : Nat) : Prop :=
  ∃ pre pk post, ps = pre ++ pk :: post ∧ pre.length = k ∧ cosMax < cosTheta mag q pk ∧
    (∀ p ∈ pre, cosTheta mag q p < cosTheta mag q pk) ∧ (∀ p ∈ post, cosTheta mag q p ≤ cosTheta mag q pk)

/-- the third component of the state counts the reference vectors seen. -/
theorem bestStep_count (mag : V3 K → K) (q : V3 K) (st : K × Option Nat × Nat) (p : V3 K) :
    (bestStep mag q st p).2.2 = st.2.2 + 1 := by
  simp only [bestStep]; split <;> rfl

theorem bestFold_count (mag : V3 K → K) (q : V3 K) :
    ∀ (l : List (V3 K)) (st : K × Option Nat × Nat), (l.foldl (bestStep mag q) st).2.2 = st.2.2 + l.length
  | [], _ => rfl
  | p :: l, st => by
    rw [List.foldl_cons, bestFold_count mag q l, bestStep_count, List.length_cons, Nat.add_assoc, Nat.add_comm 1]

theorem best_prefix (mag : V3 K → K) (q : V3 K) (c : K) :
    ∀ (pre : List (V3 K)) (st : K × Option Nat × Nat), st.1 < c → (∀ p ∈ pre, cosTheta mag q p < c) →
      (pre.foldl (bestStep mag q) st).1 < c
  | [], st, h, _ => h
  | p :: l, st, h, hp => by
    refine best_prefix mag q c l _ ?_ fun p' hp' => hp p' (List.mem_cons_of_mem _ hp')
    simp only [bestStep]; split
    · exact hp p List.mem_cons_self
    · exact h

theorem best_stay (mag : V3 K → K) (q : V3 K) :
    ∀ (l : List (V3 K)) (st : K × Option Nat × Nat), (∀ p ∈ l, cosTheta mag q p ≤ st.1) →
      l.foldl (bestStep mag q) st = (st.1, st.2.1, st.2.2 + l.length)
  | [], _, _ => rfl
  | p :: l, st, hp => by
    have : bestStep mag q st p = (st.1, st.2.1, st.2.2 + 1) := by
      simp only [bestStep]
      rw [if_neg (not_lt.mpr (hp p List.mem_cons_self))]
    rw [List.foldl_cons, this,
      best_stay mag q l (st.1, st.2.1, st.2.2 + 1) fun p' hp' => hp p' (List.mem_cons_of_mem _ hp')]
    simp only [List.length_cons, Nat.add_assoc, Nat.add_comm 1]

theorem bestP_of_isBest (mag : V3 K → K) (cosMax : K) (ps : List (V3 K)) (q : V3 K) (k : Nat)
    (h : IsBest mag cosMax ps q k) : bestP mag cosMax q ps = some k := by
  obtain ⟨pre, pk, post, rfl, hk, hc, hpre, hpost⟩ := h
  unfold bestP
  rw [List.foldl_append, List.foldl_cons]
  have h1 := best_prefix mag q (cosTheta mag q pk) pre (cosMax, none, 0) hc hpre
  have h2 := bestFold_count mag q pre (cosMax, none, 0)
  have : bestStep mag q (pre.foldl (bestStep mag q) (cosMax, none, 0)) pk = (cosTheta mag q pk, some k, k + 1) := by
    simp only [bestStep]
    rw [if_pos h1, h2]
    simp [hk]
  rw [this, best_stay mag q post _ hpost]

/-- nothing exceeds `cos θ_max`: the inner loop leaves `qp_pairs[j] = -1`. -/
theorem bestP_none (mag : V3 K → K) (cosMax : K) (q : V3 K) :
    ∀ (ps : List (V3 K)) (n : Nat), (∀ p ∈ ps, cosTheta mag q p ≤ cosMax) →
      (ps.foldl (bestStep mag q) (cosMax, none, n)).2.1 = none
  | ps, n, hp => by rw [best_stay mag q ps _ hp]

theorem isBest_get (mag : V3 K → K) (cosMax : K) (ps : List (V3 K)) (q : V3 K) (k : Nat)
    (h : IsBest mag cosMax ps q k) : ∃ p, ps[k]? = some p ∧ cosMax < cosTheta mag q p := by
  obtain ⟨pre, pk, post, rfl, hk, hc, _, _⟩ := h
  exact ⟨pk, by rw [← hk]; simp, hc⟩

/-- the index form of `IsBest`: `ps[k]` is inside `θ_max` and every other reference vector makes a strictly larger
    angle with `q`. -/
theorem isBest_of_strict (mag : V3 K → K) (cosMax : K) (ps : List (V3 K)) (q : V3 K) (k : Nat) (hk : k < ps.length)
    (hc : cosMax < cosTheta mag q ps[k])
    (h : ∀ k' (hk' : k' < ps.length), k' ≠ k → cosTheta mag q ps[k'] < cosTheta mag q ps[k]) :
    IsBest mag cosMax ps q k := by
  refine ⟨ps.take k, ps[k], ps.drop (k + 1), ?_, ?_, hc, ?_, ?_⟩
  · rw [List.getElem_cons_drop, List.take_append_drop]
  · simp [List.length_take]; omega
  · intro p hp
    obtain ⟨i, hi, rfl⟩ := List.mem_take_iff_getElem.mp hp
    have hi' : i < k := by omega
    exact h i (by omega) (by omega)
  · intro p hp
    obtain ⟨i, hi, rfl⟩ := List.mem_drop_iff_getElem.mp hp
    exact le_of_lt (h (k + 1 + i) (by omega) (by omega))

theorem bestFold_idx_lt (mag : V3 K → K) (q : V3 K) :
    ∀ (ps : List (V3 K)) (st : K × Option Nat × Nat), (∀ k, st.2.1 = some k → k < st.2.2) →
      ∀ k, (ps.foldl (bestStep mag q) st).2.1 = some k → k < st.2.2 + ps.length
  | [], st, h => by simpa using h
  | p :: l, st, h => by
    intro k hk
    simp only [List.foldl_cons] at hk
    have hc := bestStep_count mag q st p
    have h' : ∀ k, (bestStep mag q st p).2.1 = some k → k < (bestStep mag q st p).2.2 := by
      intro k' hk'
      rw [hc]
      simp only [bestStep] at hk'
      split at hk'
      · simp only [Option.some.injEq] at hk'; omega
      · have := h k' hk'; omega
    have := bestFold_idx_lt mag q l _ h' k hk
    rw [hc] at this
    simp only [List.length_cons]; omega

theorem bestP_lt (mag : V3 K → K) (cosMax : K) (q : V3 K) (ps : List (V3 K)) (a : Nat)
    (h : bestP mag cosMax q ps = some a) : a < ps.length := by
  have := bestFold_idx_lt mag q ps (cosMax, none, 0) (by simp) a h
  simpa using this

theorem shortest_le (mag : V3 K → K) (big : K) (ps : List (V3 K)) :
    shortest mag big ps ≤ big ∧ ∀ p ∈ ps, shortest mag big ps ≤ mag p := by
  simpa only [List.foldl_map, List.forall_mem_map, shortest] using foldl_ite_min_le (ps.map mag) big

/-- `|r1 − |q||`: the quantity the conflict loop compares (`jrad`, `krad`). -/
def rad (mag : V3 K → K) (r1 : K) (q : V3 K) : K := absK (r1 - mag q)

theorem rad_lt_of_longer (mag : V3 K → K) (r1 : K) (t q : V3 K) (h1 : r1 ≤ mag t) (h2 : mag t < mag q) :
    rad mag r1 t < rad mag r1 q := by
  unfold rad absK
  split <;> split <;> linarith

/-- the reference vectors currently paired (`qp_pairs[k] >= 0`), in the order of `q`. -/
def held (l : List (V3 K × Option Nat)) : List Nat := l.filterMap (·.2)

variable {mag : V3 K → K} {r1 : K} {qj : V3 K}

theorem dedupeStep_pass (acc : List (V3 K × Option Nat)) (cur : Option Nat) (e : V3 K × Option Nat)
    (h : cur = none ∨ e.2 ≠ cur) : dedupeStep mag r1 qj (acc, cur) e = (acc ++ [e], cur) := by
  obtain ⟨q, o⟩ := e
  rcases cur with _ | a
  · rfl
  · rcases o with _ | b
    · rfl
    · have hab : a ≠ b := fun hab => h.elim nofun fun h' => h' (hab ▸ rfl)
      simp only [dedupeStep, if_neg hab]

theorem dedupeStep_hit (acc : List (V3 K × Option Nat)) (a : Nat) (e : V3 K × Option Nat) (h : e.2 = some a) :
    dedupeStep mag r1 qj (acc, some a) e =
      if rad mag r1 qj < rad mag r1 e.1 then (acc ++ [(e.1, none)], some a) else (acc ++ [e], none) := by
  obtain ⟨q, o⟩ := e
  subst h
  simp only [dedupeStep, if_true]
  rfl

theorem pairStep_eq (mag : V3 K → K) (cosMax r1 : K) (ps : List (V3 K)) (prev : List (V3 K × Option Nat)) (qj : V3 K) :
    pairStep mag cosMax r1 ps prev qj =
      (prev.foldl (dedupeStep mag r1 qj) ([], bestP mag cosMax qj ps)).1 ++
        [(qj, (prev.foldl (dedupeStep mag r1 qj) ([], bestP mag cosMax qj ps)).2)] := rfl

theorem held_cons (e : V3 K × Option Nat) (l : List (V3 K × Option Nat)) :
    held (e :: l) = e.2.toList ++ held l := by
  obtain ⟨q, o⟩ := e
  cases o <;> simp [held]

theorem mem_held (l : List (V3 K × Option Nat)) (a : Nat) : a ∈ held l ↔ ∃ e ∈ l, e.2 = some a := by
  simp [held, List.mem_filterMap]

theorem holder_unique : ∀ (l : List (V3 K × Option Nat)), (held l).Nodup → ∀ (a : Nat) (e f : V3 K × Option Nat),
    e ∈ l → f ∈ l → e.2 = some a → f.2 = some a → e = f
  | [], _, _, _, _, h, _, _, _ => by simp at h
  | x :: l, hnd, a, e, f, he, hf, hea, hfa => by
    rw [held_cons] at hnd
    have hl : (held l).Nodup := (List.nodup_append.mp hnd).2.1
    have hdis : ∀ y, x.2 = some y → y ∉ held l := by
      intro y hy hmem
      rw [hy] at hnd
      have := (List.nodup_append.mp hnd).2.2 y (by simp) y hmem
      exact this rfl
    rcases List.mem_cons.mp he with he | he <;> rcases List.mem_cons.mp hf with hf | hf
    · rw [he, hf]
    · exact absurd ((mem_held l a).mpr ⟨f, hf, hfa⟩) (hdis a (he ▸ hea))
    · exact absurd ((mem_held l a).mpr ⟨e, he, hea⟩) (hdis a (hf ▸ hfa))
    · exact holder_unique l hl a e f he hf hea hfa

/-! The conflict loop in closed form.  Run with `cur = some a` against earlier entries whose holders are pairwise distinct,
  the loop has two outcomes: the new `q` is strictly closer to `r1` than every holder of `a` (there is at most one) — the holders lose their pairing and
  `q` keeps `a` —, or some holder is at least as close — nothing changes and `q` stays unpaired.  `acc` is what the loop has
  written back so far. -/

def eraseP (a : Nat) (l : List (V3 K × Option Nat)) : List (V3 K × Option Nat) :=
  l.map fun e => if e.2 = some a then (e.1, none) else e

theorem eraseP_keys (a : Nat) (l : List (V3 K × Option Nat)) : (eraseP a l).map (·.1) = l.map (·.1) := by
  rw [eraseP, List.map_map]
  apply List.map_congr_left
  intro e _
  simp only [Function.comp]
  split <;> rfl

theorem mem_eraseP {a : Nat} {l : List (V3 K × Option Nat)} {e' : V3 K × Option Nat} (h : e' ∈ eraseP a l) :
    e' ∈ l ∨ e'.2 = none := by
  obtain ⟨e, he, rfl⟩ := List.mem_map.mp h
  split
  · exact Or.inr rfl
  · exact Or.inl he

theorem eraseP_keeps {a : Nat} {l : List (V3 K × Option Nat)} {e : V3 K × Option Nat} (he : e ∈ l) (h : e.2 ≠ some a) :
    e ∈ eraseP a l :=
  List.mem_map.mpr ⟨e, he, if_neg h⟩

theorem held_eraseP (a : Nat) : ∀ l : List (V3 K × Option Nat), held (eraseP a l) = (held l).filter (· ≠ a)
  | [] => rfl
  | (q, none) :: l => by simpa [eraseP, held] using held_eraseP a l
  | (q, some b) :: l => by
    have ih := held_eraseP a l
    by_cases hb : b = a <;> simp_all [eraseP, held]

theorem dedupe_none : ∀ l acc : List (V3 K × Option Nat),
    l.foldl (dedupeStep mag r1 qj) (acc, none) = (acc ++ l, none)
  | [], acc => by rw [List.append_nil]; rfl
  | e :: l, acc => by
    rw [List.foldl_cons, dedupeStep_pass acc none e (Or.inl rfl), dedupe_none l, List.append_assoc]; rfl

theorem dedupe_win (a : Nat) : ∀ l acc : List (V3 K × Option Nat),
    (∀ e ∈ l, e.2 = some a → rad mag r1 qj < rad mag r1 e.1) →
      l.foldl (dedupeStep mag r1 qj) (acc, some a) = (acc ++ eraseP a l, some a)
  | [], acc, _ => by rw [eraseP, List.map_nil, List.append_nil]; rfl
  | x :: l, acc, h => by
    have ih := fun acc' => dedupe_win a l acc' fun e he => h e (List.mem_cons_of_mem _ he)
    rw [List.foldl_cons, eraseP, List.map_cons]
    by_cases hx : x.2 = some a
    · rw [dedupeStep_hit acc a x hx, if_pos (h x List.mem_cons_self hx), ih, if_pos hx, List.append_assoc]; rfl
    · rw [dedupeStep_pass acc _ x (Or.inr hx), ih, if_neg hx, List.append_assoc]; rfl

theorem dedupe_lose (a : Nat) : ∀ l acc : List (V3 K × Option Nat), (held l).Nodup → ∀ e0 ∈ l, e0.2 = some a →
    ¬ rad mag r1 qj < rad mag r1 e0.1 → l.foldl (dedupeStep mag r1 qj) (acc, some a) = (acc ++ l, none)
  | [], _, _, e0, h, _, _ => by simp at h
  | x :: l, acc, hnd, e0, he0, ha, hlt => by
    rw [List.foldl_cons]
    by_cases hx : x.2 = some a
    · obtain rfl : e0 = x := holder_unique (x :: l) hnd a e0 x he0 List.mem_cons_self ha hx
      rw [dedupeStep_hit acc a e0 hx, if_neg hlt, dedupe_none, List.append_assoc]; rfl
    · have hl : (held l).Nodup := (List.nodup_append.mp (held_cons x l ▸ hnd)).2.1
      have he0l : e0 ∈ l := (List.mem_cons.mp he0).resolve_left fun h => hx (h ▸ ha)
      rw [dedupeStep_pass acc _ x (Or.inr hx), dedupe_lose a l _ hl e0 he0l ha hlt, List.append_assoc]; rfl

theorem eraseP_of_free {a : Nat} {l : List (V3 K × Option Nat)} (h : ∀ e ∈ l, e.2 ≠ some a) : eraseP a l = l := by
  rw [eraseP]
  conv_rhs => rw [← List.map_id l]
  exact List.map_congr_left fun e he => if_neg (h e he)

/-- when every `q` has a best match and these are pairwise distinct, no conflict arises: `qp_pairs` is the list of
    the best matches. -/
theorem qpPairs_fold (mag : V3 K → K) (cosMax r1 : K) (ps : List (V3 K)) :
    ∀ (qs : List (V3 K)) (ks : List Nat) (prev : List (V3 K × Option Nat)),
      qs.length = ks.length →
      (∀ e ∈ qs.zip ks, IsBest mag cosMax ps e.1 e.2) →
      ks.Nodup → (∀ k ∈ ks, ∀ e ∈ prev, e.2 ≠ some k) →
      qs.foldl (pairStep mag cosMax r1 ps) prev = prev ++ (qs.zip ks).map (fun e => (e.1, some e.2))
  | [], _, prev, _, _, _, _ => by simp
  | q :: qs, [], _, h, _, _, _ => by simp at h
  | q :: qs, k :: ks, prev, hlen, hbest, hnd, hprev => by
    simp only [List.foldl_cons, List.zip_cons_cons, List.map_cons]
    have hb := bestP_of_isBest mag cosMax ps q k (hbest (q, k) (by simp))
    have hfree := hprev k List.mem_cons_self
    have hstep : pairStep mag cosMax r1 ps prev q = prev ++ [(q, some k)] := by
      rw [pairStep_eq, hb, dedupe_win k prev [] fun e he hk => absurd hk (hfree e he), eraseP_of_free hfree]
      rfl
    rw [hstep]
    have hnd' := List.nodup_cons.mp hnd
    rw [qpPairs_fold mag cosMax r1 ps qs ks _ (by simpa using hlen)
      (fun e he => hbest e (by simp [he])) hnd'.2]
    · simp
    · intro k' hk' e he
      rcases List.mem_append.mp he with he | he
      · exact hprev k' (List.mem_cons_of_mem _ hk') e he
      · simp only [List.mem_singleton] at he
        rw [he]
        simp only [ne_eq, Option.some.injEq]
        intro h; rw [h] at hnd'; exact hnd'.1 hk'

/-- state of `qp_pairs` after the vectors `done` were processed. -/
structure PInv (mag : V3 K → K) (cosMax r1 : K) (ps : List (V3 K)) (done : List (V3 K))
    (prev : List (V3 K × Option Nat)) : Prop where
  /-- one entry per processed `q`, in order -/
  keys : prev.map (·.1) = done
  /-- paired with its best `p`, or unpaired -/
  vals : ∀ e ∈ prev, e.2 = none ∨ e.2 = bestP mag cosMax e.1 ps
  /-- no `p` is paired with two `q` -/
  nodup : (held prev).Nodup
  /-- a `p` chosen by some processed `q` is paired, with a `q` at least as close to `r1` as any that chose it -/
  best : ∀ a, ∀ q' ∈ done, bestP mag cosMax q' ps = some a →
    ∃ e ∈ prev, e.2 = some a ∧ rad mag r1 e.1 ≤ rad mag r1 q'

theorem held_append_single (l : List (V3 K × Option Nat)) (q : V3 K) (o : Option Nat) :
    held (l ++ [(q, o)]) = held l ++ o.toList := by
  cases o <;> simp [held, List.filterMap_append]

variable {cosMax : K} {ps done : List (V3 K)} {prev : List (V3 K × Option Nat)}

/-- the new `q` stays unpaired: allowed when the `p` it chose (if any) is held by a `q` at least as close to `r1`. -/
theorem PInv.snoc_none (h : PInv mag cosMax r1 ps done prev) (qj : V3 K)
    (hb : ∀ a, bestP mag cosMax qj ps = some a → ∃ e ∈ prev, e.2 = some a ∧ rad mag r1 e.1 ≤ rad mag r1 qj) :
    PInv mag cosMax r1 ps (done ++ [qj]) (prev ++ [(qj, none)]) where
  keys := by rw [List.map_append, h.keys]; rfl
  vals := fun e he => by
    rcases List.mem_append.mp he with he | he
    · exact h.vals e he
    · exact Or.inl (by rw [List.mem_singleton.mp he])
  nodup := by rw [held_append_single]; simpa using h.nodup
  best := fun a q' hq' hb' => by
    have : ∃ e ∈ prev, e.2 = some a ∧ rad mag r1 e.1 ≤ rad mag r1 q' := by
      rcases List.mem_append.mp hq' with hq' | hq'
      · exact h.best a q' hq' hb'
      · rw [List.mem_singleton.mp hq'] at hb' ⊢; exact hb a hb'
    obtain ⟨e, he, hea, hr⟩ := this
    exact ⟨e, List.mem_append_left _ he, hea, hr⟩

/-- the new `q` takes `ps[a0]` from its holders: allowed when it is strictly closer to `r1` than each of them. -/
theorem PInv.snoc_some (h : PInv mag cosMax r1 ps done prev) (qj : V3 K) (a0 : Nat)
    (hb : bestP mag cosMax qj ps = some a0) (hwin : ∀ e ∈ prev, e.2 = some a0 → rad mag r1 qj < rad mag r1 e.1) :
    PInv mag cosMax r1 ps (done ++ [qj]) (eraseP a0 prev ++ [(qj, some a0)]) where
  keys := by rw [List.map_append, eraseP_keys, h.keys]; rfl
  vals := fun e he => by
    rcases List.mem_append.mp he with he | he
    · exact (mem_eraseP he).elim (h.vals e) Or.inl
    · rw [List.mem_singleton.mp he]; exact Or.inr hb.symm
  nodup := by
    rw [held_append_single, held_eraseP]
    refine List.nodup_append.mpr ⟨h.nodup.filter _, by simp, fun x hx y hy => ?_⟩
    rw [List.mem_singleton.mp hy]
    simpa using (List.mem_filter.mp hx).2
  best := fun a q' hq' hb' => by
    by_cases haa : a = a0
    · subst haa
      refine ⟨(qj, some a), by simp, rfl, ?_⟩
      rcases List.mem_append.mp hq' with hq' | hq'
      · obtain ⟨e, he, hea, hr⟩ := h.best a q' hq' hb'
        exact le_trans (le_of_lt (hwin e he hea)) hr
      · rw [List.mem_singleton.mp hq']
    · rcases List.mem_append.mp hq' with hq' | hq'
      · obtain ⟨e, he, hea, hr⟩ := h.best a q' hq' hb'
        exact ⟨e, List.mem_append_left _ (eraseP_keeps he (hea ▸ fun hh => haa (Option.some.inj hh))), hea, hr⟩
      · rw [List.mem_singleton.mp hq', hb] at hb'
        exact absurd (Option.some.inj hb').symm haa

theorem PInv.step (mag : V3 K → K) (cosMax r1 : K) (ps : List (V3 K)) (done : List (V3 K))
    (prev : List (V3 K × Option Nat)) (qj : V3 K) (h : PInv mag cosMax r1 ps done prev) :
    PInv mag cosMax r1 ps (done ++ [qj]) (pairStep mag cosMax r1 ps prev qj) := by
  rw [pairStep_eq]
  cases hcur : bestP mag cosMax qj ps with
  | none =>
    rw [dedupe_none]
    exact h.snoc_none qj fun a ha => by rw [hcur] at ha; cases ha
  | some a0 =>
    by_cases hwin : ∀ e ∈ prev, e.2 = some a0 → rad mag r1 qj < rad mag r1 e.1
    · rw [dedupe_win a0 prev [] hwin]
      exact h.snoc_some qj a0 hcur hwin
    · push Not at hwin
      obtain ⟨e0, he0, ha0, hlt⟩ := hwin
      rw [dedupe_lose a0 prev [] h.nodup e0 he0 ha0 (not_lt.mpr hlt)]
      exact h.snoc_none qj fun a ha => ⟨e0, he0, (hcur.symm.trans ha) ▸ ha0, hlt⟩

theorem PInv.fold (mag : V3 K → K) (cosMax r1 : K) (ps : List (V3 K)) :
    ∀ (qs done : List (V3 K)) (prev : List (V3 K × Option Nat)), PInv mag cosMax r1 ps done prev →
      PInv mag cosMax r1 ps (done ++ qs) (qs.foldl (pairStep mag cosMax r1 ps) prev)
  | [], done, prev, h => by simpa using h
  | q :: qs, done, prev, h => by
    have := PInv.fold mag cosMax r1 ps qs (done ++ [q]) _ (PInv.step mag cosMax r1 ps done prev q h)
    simpa using this

/-- the invariant holds for `qp_pairs` after the double loop of `match_pq`, for ANY lists `ps`, `qs`. -/
theorem qpPairs_inv (mag : V3 K → K) (cosMax big : K) (ps qs : List (V3 K)) :
    PInv mag cosMax (shortest mag big ps) ps qs (qpPairs mag cosMax big ps qs) := by
  have h0 : PInv mag cosMax (shortest mag big ps) ps [] [] :=
    ⟨rfl, by simp, by simp [held], by simp⟩
  simpa [qpPairs] using PInv.fold mag cosMax (shortest mag big ps) ps qs [] [] h0

/-- After the double loop of `match_pq` no reference vector is paired with two current
    vectors — for arbitrary lists, however many `q` chose the same `p` (current neighbour list with more shells than
    the reference set, `theta_max` larger than the angle between shells). -/
theorem matchPQ_one_q_per_p (mag : V3 K → K) (cosMax big : K) (ps qs : List (V3 K)) :
    ((qpPairs mag cosMax big ps qs).filterMap (·.2)).Nodup ∧
    (qpPairs mag cosMax big ps qs).map (·.1) = qs ∧
    ∀ e ∈ qpPairs mag cosMax big ps qs, e.2 = none ∨ e.2 = bestP mag cosMax e.1 ps :=
  let h := qpPairs_inv mag cosMax big ps qs
  ⟨h.nodup, h.keys, h.vals⟩

/-- The `q` a reference vector `ps[a]` ends up paired with chose it (it is its best match
    inside `θ_max`) and is at least as close to the first-shell radius `r1` as every other `q` that chose `ps[a]`. -/
theorem matchPQ_winner_closest (mag : V3 K → K) (cosMax big : K) (ps qs : List (V3 K))
    (e : V3 K × Option Nat) (he : e ∈ qpPairs mag cosMax big ps qs) (a : Nat) (ha : e.2 = some a) :
    bestP mag cosMax e.1 ps = some a ∧
    ∀ q' ∈ qs, bestP mag cosMax q' ps = some a →
      rad mag (shortest mag big ps) e.1 ≤ rad mag (shortest mag big ps) q' := by
  have h := qpPairs_inv mag cosMax big ps qs
  refine ⟨?_, ?_⟩
  · rcases h.vals e he with h1 | h1
    · rw [h1] at ha; exact absurd ha (by simp)
    · rw [← h1, ha]
  · intro q' hq' hb
    obtain ⟨e', he', hea', hr⟩ := h.best a q' hq' hb
    have : e' = e := holder_unique _ h.nodup a e' e he' he hea' ha
    rw [this] at hr
    exact hr

/-- A reference vector that is the best match of at least one `q` does not stay
    unpaired (the conflict resolution removes all competitors but one, never all of them). -/
theorem matchPQ_claimed_p_paired (mag : V3 K → K) (cosMax big : K) (ps qs : List (V3 K)) (a : Nat)
    (h : ∃ q' ∈ qs, bestP mag cosMax q' ps = some a) :
    ∃ e ∈ qpPairs mag cosMax big ps qs, e.2 = some a := by
  obtain ⟨q', hq', hb⟩ := h
  obtain ⟨e, he, hea, _⟩ := (qpPairs_inv mag cosMax big ps qs).best a q' hq' hb
  exact ⟨e, he, hea⟩

/-- Hypothesis (not derived from the smallness of the deformation — see PARTIAL `matchPQ_pairing` in harness/props/c17.py, docs/C17.md §Partial): the
    `j`-th current neighbour vector has the best match `ps[ks[j]]` within `θ_max` and distinct `q` have distinct
    matches.  Then `qp_pairs = ks`, nothing is discarded, and the reduced matrices hold the rows
    `(P[j], Q[j]) = (ps[ks[j]], qs[j])` in the order of `q`. -/
theorem matchPQ_pairing_partial (mag : V3 K → K) (cosMax big : K) (ps qs : List (V3 K)) (ks : List Nat)
    (hlen : qs.length = ks.length)
    (hbest : ∀ e ∈ qs.zip ks, IsBest mag cosMax ps e.1 e.2)
    (hnd : ks.Nodup) :
    qpPairs mag cosMax big ps qs = (qs.zip ks).map (fun e => (e.1, some e.2)) ∧
    matchPQ mag cosMax big ps qs = (qs.zip ks).filterMap (fun e => (ps[e.2]?).map fun p => (p, e.1)) ∧
    (matchPQ mag cosMax big ps qs).map (·.2) = qs := by
  have h1 : qpPairs mag cosMax big ps qs = (qs.zip ks).map (fun e => (e.1, some e.2)) := by
    unfold qpPairs
    rw [qpPairs_fold mag cosMax _ ps qs ks [] hlen hbest hnd (by simp)]
    simp
  have h2 : matchPQ mag cosMax big ps qs = (qs.zip ks).filterMap (fun e => (ps[e.2]?).map fun p => (p, e.1)) := by
    unfold matchPQ
    rw [h1, List.filterMap_map]
    rfl
  refine ⟨h1, h2, ?_⟩
  rw [h2, List.map_filterMap]
  refine Eq.trans ?_ (List.map_fst_zip (show qs.length ≤ ks.length by omega))
  rw [← List.filterMap_eq_map]
  apply List.filterMap_congr
  intro e he
  obtain ⟨p, hp, _⟩ := isBest_get mag cosMax ps e.1 e.2 (hbest e he)
  simp only [hp, Option.map_some, Function.comp]

/-- the rows `match_pq` hands to `lstsq`: one for every `q` still paired after the conflict loop. -/
theorem mem_matchPQ {mag : V3 K → K} {cosMax big : K} {ps qs : List (V3 K)} {pr : V3 K × V3 K}
    (h : pr ∈ matchPQ mag cosMax big ps qs) :
    ∃ e ∈ qpPairs mag cosMax big ps qs, ∃ a p, e.2 = some a ∧ ps[a]? = some p ∧ pr = (p, e.1) := by
  obtain ⟨⟨q, o⟩, he, hm⟩ := List.mem_filterMap.mp h
  rcases o with _ | a
  · cases hm
  · obtain ⟨p, hp, rfl⟩ := Option.map_eq_some_iff.mp hm
    exact ⟨_, he, a, p, rfl, hp, rfl⟩

/-- the pairing loop where it decides something (outside the hypothesis of `matchPQ_pairing_partial`): two current
    vectors compete for the same reference vector; the one whose length is farther from `r1` is dropped, as is a
    vector outside `θ_max`. -/
example :
    (qpPairs (fun v => if v.x = 10 ∨ v.y = 10 then 10 else 5) (891/1000) 10000000000000000
      [⟨5, 0, 0⟩, ⟨0, 5, 0⟩] [⟨10, 0, 0⟩, ⟨5, 0, 0⟩, ⟨3, 4, 0⟩, ⟨0, 10, 0⟩]).map (·.2)
      = [none, some 0, none, some 1] := by
  decide +kernel

end Atomman.C17
