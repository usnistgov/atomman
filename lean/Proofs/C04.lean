/-
  C04 — the property theorems: supercells and re-oriented cells contain the same infinite crystal (model: Atomman/C04.lean;
  `K` any linearly ordered field, with `FloorRing K` where images are counted).  The clauses of supersize and rotate, the
  count theorems, the whole calls (`supersizeApi_*`, `rotateLadder_first_rung`), the expected atom count of the source, examples.
-/
import Proofs.C04_Lemmas
import Proofs.C04_Order
import Proofs.C04_Reps
import Proofs.C04_Index
import Proofs.C04_Count
import Proofs.C04_Accept
import Proofs.C04_Hist
import Proofs.C04_Family
import Proofs.C04_Orient
import Proofs.C04_Source
import Proofs.C04_Ladder
import Mathlib.Data.Rat.Floor

namespace Atomman.C04
open Atomman

variable {K : Type} [Field K] [LinearOrder K] [IsStrictOrderedRing K]

omit [LinearOrder K] [IsStrictOrderedRing K] in
/-- type and every further per-atom value are copied to each replica (only `pos` changes). -/
theorem supersize_copies_payload (b : Box K) (sa sb sc : Size) (atoms : List (Atom K)) (a' : Atom K)
    (h : a' ∈ supersizeAtoms b sa sb sc atoms) :
    ∃ a ∈ atoms, a'.atype = a.atype ∧ a'.extra = a.extra := by
  obtain ⟨r2, _, r1, _, r0, _, a, ha, rfl⟩ := (mem_supersizeAtoms b sa sb sc atoms a').mp h
  exact ⟨a, ha, rfl, rfl⟩

/-- two replicas of the same original atom coincide only if they are the same replica; more generally
    equal replica positions of two atoms force the originals to differ by an integer lattice vector
    (so originals that are distinct modulo the lattice never produce coinciding atoms). -/
theorem replica_injective (b : Box K) (sa sb sc : Size) (p q : V3 K) (r0 r1 r2 t0 t1 t2 : Nat)
    (hdet : M3.det b.vects ≠ 0)
    (ha : ((sa.mult : Int) : K) ≠ 0) (hb : ((sb.mult : Int) : K) ≠ 0) (hc : ((sc.mult : Int) : K) ≠ 0)
    (h : replicaPos b sa sb sc p r0 r1 r2 = replicaPos b sa sb sc q t0 t1 t2) :
    (p = q + M3.vecMul ⟨(((t0 : Int) - r0 : Int) : K), (((t1 : Int) - r1 : Int) : K), (((t2 : Int) - r2 : Int) : K)⟩ b.vects)
    ∧ (p = q → r0 = t0 ∧ r1 = t1 ∧ r2 = t2) := by
  rw [replicaPos_eq b sa sb sc p r0 r1 r2 hdet ha hb hc, replicaPos_eq b sa sb sc q t0 t1 t2 hdet ha hb hc] at h
  have h1 : p = q + M3.vecMul ⟨(((t0 : Int) - r0 : Int) : K), (((t1 : Int) - r1 : Int) : K),
      (((t2 : Int) - r2 : Int) : K)⟩ b.vects := by
    have hx := congrArg V3.x h; have hy := congrArg V3.y h; have hz := congrArg V3.z h
    simp only [V3.add_def, M3.vecMul, Int.cast_add, Int.cast_natCast] at hx hy hz
    ext <;> simp only [V3.add_def, M3.vecMul, Int.cast_sub, Int.cast_natCast]
    · linear_combination hx
    · linear_combination hy
    · linear_combination hz
  refine ⟨h1, ?_⟩
  intro hpq
  subst hpq
  have hz : M3.vecMul _ b.vects = (⟨0, 0, 0⟩ : V3 K) :=
    V3.ext (left_eq_add.mp (congrArg V3.x h1)) (left_eq_add.mp (congrArg V3.y h1)) (left_eq_add.mp (congrArg V3.z h1))
  have h0 := M3.vecMul_eq_zero b.vects hdet _ hz
  simp only [V3.mk.injEq, Int.cast_eq_zero] at h0
  omega

set_option linter.unusedSectionVars false in
/-- parallel / planar vectors are refused. -/
theorem rotate_refuses_singular (fl : K → Int) (b : Box K) (U : M3 Int) (atoms : List (Atom K))
    (h : M3.det U = 0) :
    rotateRaw fl b U atoms = none := by
  rw [rotateRaw_def, if_pos h]

/-- every atom kept by `rotate` is an original atom — same type, same per-atom values — displaced by
    an integer combination of the original cell vectors (whatever the floor function does). -/
theorem rotate_members (fl : K → Int) (b : Box K) (U : M3 Int) (atoms : List (Atom K)) (nb : Box K)
    (kept : List (Atom K))
    (hdet : M3.det b.vects ≠ 0) (h : rotateRaw fl b U atoms = some (nb, kept)) (a' : Atom K) (ha' : a' ∈ kept) :
    ∃ a ∈ atoms, ∃ n : V3 Int, a'.atype = a.atype ∧ a'.extra = a.extra ∧
      a'.pos = a.pos + M3.vecMul ⟨(n.x : K), (n.y : K), (n.z : K)⟩ b.vects := by
  obtain ⟨_, _, rfl⟩ := rotateRaw_iff.mp h
  obtain ⟨r, _, hr⟩ := List.mem_flatMap.mp (List.mem_filter.mp ha').1
  obtain ⟨a, ha, rfl⟩ := List.mem_map.mp hr
  exact ⟨a, ha, shiftOf U r - originIdx fl b, rfl, rfl, imageOf_pos_eq fl b hdet U a r⟩

set_option linter.unusedSectionVars false in
/-- every kept atom lies in the half-open new cell `0 ≤ s < 1` (new vectors `U·vects` at the
    Cartesian origin). -/
theorem rotate_inside (fl : K → Int) (b : Box K) (U : M3 Int) (atoms : List (Atom K)) (nb : Box K)
    (kept : List (Atom K))
    (h : rotateRaw fl b U atoms = some (nb, kept)) (a' : Atom K) (ha' : a' ∈ kept) :
    nb = ⟨newVects U b.vects, ⟨0, 0, 0⟩⟩ ∧
    let s := nb.cartToRel a'.pos
    0 ≤ s.x ∧ s.x < 1 ∧ 0 ≤ s.y ∧ s.y < 1 ∧ 0 ≤ s.z ∧ s.z < 1 := by
  obtain ⟨_, rfl, rfl⟩ := rotateRaw_iff.mp h
  exact ⟨rfl, (inHalfOpen_iff_inCell _).mp (List.mem_filter.mp ha').2⟩

/-- no two atoms in one half-open cell differ by a non-zero vector of that cell's lattice:
    the kept atoms are pairwise distinct modulo the new lattice. -/
theorem rotate_distinct (nb : Box K) (hdet : M3.det nb.vects ≠ 0) (p q : V3 K) (n : V3 Int)
    (hp : let s := nb.cartToRel p; 0 ≤ s.x ∧ s.x < 1 ∧ 0 ≤ s.y ∧ s.y < 1 ∧ 0 ≤ s.z ∧ s.z < 1)
    (hq : let s := nb.cartToRel q; 0 ≤ s.x ∧ s.x < 1 ∧ 0 ≤ s.y ∧ s.y < 1 ∧ 0 ≤ s.z ∧ s.z < 1)
    (hpq : p = q + M3.vecMul ⟨(n.x : K), (n.y : K), (n.z : K)⟩ nb.vects) :
    n = ⟨0, 0, 0⟩ ∧ p = q := by
  have key : nb.cartToRel p = nb.cartToRel q + castV n := by
    rw [hpq]; exact Box.cartToRel_add_vecMul nb hdet q (castV n)
  have hn : n = ⟨0, 0, 0⟩ := InCell.int_diff_eq_zero (t := nb.cartToRel q) (t' := nb.cartToRel p) hq hp key
  refine ⟨hn, ?_⟩
  rw [hpq, hn]
  ext <;> simp [M3.vecMul]

section count
variable [FloorRing K]

/-- **Each original atom is represented exactly `|det U|` times in the re-oriented cell.**
    For a non-degenerate box, an integer `U` with `det U ≠ 0`, `fl` the floor function and every atom inside
    the box (`0 ≤ s ≤ 1`, far faces included), the atoms kept by `rotate` are — up to order — the concatenation over the original
    atoms `a` of `imagesOf a` (what `rotateRaw` returns for the one-atom system `[a]`), where `imagesOf a`
    * has exactly `|det U|` members,
    * at pairwise different positions,
    * each with `a`'s type and per-atom values at `a.pos` + an integer combination of the old cell vectors,
      inside the new half-open cell,
    * and contains *every* periodic image `a.pos + n·V`, `n ∈ ℤ³`, that lies in the new half-open cell
      (the bounding supercell `corners ∓ 1` misses none). -/
theorem rotate_count (fl : K → Int) (hfl : ∀ x, fl x = ⌊x⌋) (b : Box K) (hV : M3.det b.vects ≠ 0) (U : M3 Int)
    (atoms : List (Atom K)) (hin : ∀ a ∈ atoms, InBox (b.cartToRel a.pos)) (nb : Box K) (kept : List (Atom K))
    (h : rotateRaw fl b U atoms = some (nb, kept)) :
    kept.Perm (atoms.flatMap (imagesOf fl b U)) ∧
    ∀ a ∈ atoms,
      rotateRaw fl b U [a] = some (nb, imagesOf fl b U a) ∧
      (imagesOf fl b U a).length = (M3.det U).natAbs ∧
      ((imagesOf fl b U a).map (·.pos)).Nodup ∧
      (∀ a' ∈ imagesOf fl b U a, a'.atype = a.atype ∧ a'.extra = a.extra ∧ InCell (nb.cartToRel a'.pos) ∧
        ∃ n : V3 Int, a'.pos = a.pos + M3.vecMul (castV n) b.vects) ∧
      (∀ n : V3 Int, InCell (nb.cartToRel (a.pos + M3.vecMul (castV n) b.vects)) →
        ∃ a' ∈ imagesOf fl b U a, a'.pos = a.pos + M3.vecMul (castV n) b.vects) := by
  obtain ⟨hU, hnb, _⟩ := rotateRaw_iff.mp h
  refine ⟨rotateRaw_perm fl b U atoms nb kept h, fun a ha => ?_⟩
  have hs : rotateRaw fl b U [a] = some (nb, imagesOf fl b U a) :=
    rotateRaw_iff.mpr ⟨hU, hnb, by simp only [imagesOf, List.map_cons, List.map_nil, ← List.map_eq_flatMap]⟩
  refine ⟨hs, imagesOf_length fl hfl b hV U hU a (hin a ha), imagesOf_nodup fl hfl b hV U a, ?_, ?_⟩
  · intro a' ha'
    obtain ⟨a0, ha0, n, e1, e2, e3⟩ := rotate_members fl b U [a] nb _ hV hs a' ha'
    rw [List.mem_singleton] at ha0
    subst ha0
    exact ⟨e1, e2, (rotate_inside fl b U [a0] nb _ hs a' ha').2, n, e3⟩
  · intro n hq
    rw [hnb] at hq
    obtain ⟨r, m, e⟩ := imagesOf_complete fl hfl b hV U hU a (hin a ha) n hq
    exact ⟨_, m, e⟩

theorem rotateChecked_of_raw (fl : K → Int) (hfl : ∀ x, fl x = ⌊x⌋) (b : Box K) (hV : M3.det b.vects ≠ 0) (U : M3 Int)
    (atoms : List (Atom K)) (hin : ∀ a ∈ atoms, InBox (b.cartToRel a.pos)) (nb : Box K) (kept : List (Atom K))
    (h : rotateRaw fl b U atoms = some (nb, kept)) : rotateChecked fl b U atoms = .ok (nb, kept) := by
  unfold rotateChecked
  rw [h]
  exact if_pos (rotate_total fl hfl b hV U atoms hin _ _ h)

/-- with the expected-count test in the model: `rotate` never raises "Filtering failed" for atoms inside a
    non-degenerate box, and returns what `rotateRaw` returns; the only refusal is `det U = 0`. -/
theorem rotate_check_passes (fl : K → Int) (hfl : ∀ x, fl x = ⌊x⌋) (b : Box K) (hV : M3.det b.vects ≠ 0) (U : M3 Int)
    (hU : M3.det U ≠ 0) (atoms : List (Atom K)) (hin : ∀ a ∈ atoms, InBox (b.cartToRel a.pos)) :
    ∃ kept, rotateRaw fl b U atoms = some (⟨newVects U b.vects, ⟨0, 0, 0⟩⟩, kept) ∧
      rotateChecked fl b U atoms = .ok (⟨newVects U b.vects, ⟨0, 0, 0⟩⟩, kept) ∧
      kept.length = (M3.det U).natAbs * atoms.length := by
  have h : rotateRaw fl b U atoms = some (_, _) := rotateRaw_iff.mpr ⟨hU, rfl, rfl⟩
  exact ⟨_, h, rotateChecked_of_raw fl hfl b hV U atoms hin _ _ h, rotate_total fl hfl b hV U atoms hin _ _ h⟩

/-- **The identity shortcut is the general path.**  `rotate` with `uvws = identity` returns the system itself
    (cell re-expressed at the Cartesian origin, every atom moved by whole cell vectors into it); for atoms inside
    the box this is, up to the order of the atoms, what the bounding-supercell path returns. -/
theorem rotate_identity_shortcut (fl : K → Int) (hfl : ∀ x, fl x = ⌊x⌋) (b : Box K) (hV : M3.det b.vects ≠ 0)
    (atoms : List (Atom K)) (hin : ∀ a ∈ atoms, InBox (b.cartToRel a.pos)) :
    rotate fl b M3.one atoms = .ok (rotateIdentity fl b atoms) ∧
    ∃ kept, rotateChecked fl b M3.one atoms = .ok ((rotateIdentity fl b atoms).1, kept) ∧
      kept.Perm (rotateIdentity fl b atoms).2 := by
  refine ⟨by simp [rotate], ?_⟩
  obtain ⟨kept, h, hp⟩ := rotateRaw_one fl hfl b hV atoms hin
  exact ⟨kept, rotateChecked_of_raw fl hfl b hV M3.one atoms hin _ _ h, hp⟩

/-- `rotate` (the whole model: shortcut, supercell, filter, count test) succeeds for every integer `U` with
    `det U ≠ 0` on atoms inside a non-degenerate box, and returns `|det U| · natoms` atoms. -/
theorem rotate_ok (fl : K → Int) (hfl : ∀ x, fl x = ⌊x⌋) (b : Box K) (hV : M3.det b.vects ≠ 0) (U : M3 Int)
    (hU : M3.det U ≠ 0) (atoms : List (Atom K)) (hin : ∀ a ∈ atoms, InBox (b.cartToRel a.pos)) :
    ∃ r, rotate fl b U atoms = .ok r ∧ r.2.length = (M3.det U).natAbs * atoms.length := by
  by_cases h1 : U = M3.one
  · subst h1
    refine ⟨_, (rotate_identity_shortcut fl hfl b hV atoms hin).1, ?_⟩
    simp [rotateIdentity, M3.det_one]
  · obtain ⟨kept, _, h2, h3⟩ := rotate_check_passes fl hfl b hV U hU atoms hin
    exact ⟨_, by simp only [rotate, if_neg h1]; exact h2, h3⟩

end count

/-- the floor function the driver runs with is Mathlib's floor. -/
theorem rat_floor_eq (x : ℚ) : Rat.floor x = ⌊x⌋ := rfl

/-- the count for the executable model as the driver runs it (`K = ℚ`, `fl = Rat.floor`). -/
theorem rotate_total_rat (b : Box ℚ) (hV : M3.det b.vects ≠ 0) (U : M3 Int)
    (atoms : List (Atom ℚ)) (hin : ∀ a ∈ atoms, InBox (b.cartToRel a.pos)) (nb : Box ℚ) (kept : List (Atom ℚ))
    (h : rotateRaw Rat.floor b U atoms = some (nb, kept)) :
    kept.length = (M3.det U).natAbs * atoms.length :=
  rotate_total Rat.floor rat_floor_eq b hV U atoms hin nb kept h

section api

set_option linter.unusedSectionVars false in
/-- **`System.supersize(a_size, b_size, c_size)` end to end**: for every accepted triple of arguments (non-zero
    integers / two-sided ranges around 0, in any mixture) the call returns; the multipliers are positive; the atom count
    and the (signed) volume are multiplied by their product; every atom of the result carries the type and the per-atom
    values of an original atom.  (Position, order and distinctness of the replicas: `supersize_get`, `replicaPos_eq`,
    `replica_injective` apply to the `sa sb sc` named here.) -/
theorem supersizeApi_ok (b : Box K) (a0 a1 a2 : SizeArg) (atoms : List (Atom K))
    (h : a0.Accepted ∧ a1.Accepted ∧ a2.Accepted) :
    ∃ sa sb sc, a0.resolve = .ok sa ∧ a1.resolve = .ok sb ∧ a2.resolve = .ok sc ∧
      supersizeApi b a0 a1 a2 atoms = .ok (superBox b sa sb sc, supersizeAtoms b sa sb sc atoms) ∧
      0 < sa.mult ∧ 0 < sb.mult ∧ 0 < sc.mult ∧
      ((supersizeAtoms b sa sb sc atoms).length : Int) = sa.mult * sb.mult * sc.mult * atoms.length ∧
      M3.det (superBox b sa sb sc).vects = ((sa.mult * sb.mult * sc.mult : Int) : K) * M3.det b.vects ∧
      ∀ a' ∈ supersizeAtoms b sa sb sc atoms, ∃ a ∈ atoms, a'.atype = a.atype ∧ a'.extra = a.extra := by
  obtain ⟨sa, ha⟩ := (resolve_ok_iff a0).mpr h.1
  obtain ⟨sb, hb⟩ := (resolve_ok_iff a1).mpr h.2.1
  obtain ⟨sc, hc⟩ := (resolve_ok_iff a2).mpr h.2.2
  have pa := (resolve_spec a0 sa ha).1
  have pb := (resolve_spec a1 sb hb).1
  have pc := (resolve_spec a2 sc hc).1
  refine ⟨sa, sb, sc, ha, hb, hc, ?_, pa, pb, pc, ?_, ?_, supersize_copies_payload b sa sb sc atoms⟩
  · have hr := (resolveSizes_ok a0 a1 a2 sa sb sc).mpr ⟨ha, hb, hc⟩
    simp [supersizeApi, hr, supersize]
  · rw [supersize_length]
    push_cast
    rw [Int.toNat_of_nonneg (le_of_lt pa), Int.toNat_of_nonneg (le_of_lt pb), Int.toNat_of_nonneg (le_of_lt pc)]
    ring
  · rw [superBox_volume]; push_cast; ring

set_option linter.unusedSectionVars false in
/-- **refusal theorem for the call**: `supersize` raises exactly when one of the three arguments is not accepted. -/
theorem supersizeApi_refuses_iff (b : Box K) (a0 a1 a2 : SizeArg) (atoms : List (Atom K)) :
    (∃ e, supersizeApi b a0 a1 a2 atoms = .error e) ↔ ¬ (a0.Accepted ∧ a1.Accepted ∧ a2.Accepted) := by
  rw [← resolveSizes_ok_iff]
  unfold supersizeApi
  cases hr : resolveSizes a0 a1 a2 with
  | error e => simp
  | ok r => obtain ⟨sa, sb, sc⟩ := r; simp

example : ∃ r, supersizeApi (⟨M3.one, ⟨0, 0, 0⟩⟩ : Box ℚ) (.int (-2)) (.pair (-1) 1) (.int 1) [⟨1, ⟨0, 0, 0⟩, []⟩] = .ok r ∧
    r.2.length = 4 := ⟨_, rfl, by decide⟩

end api

section ladder
variable [FloorRing K]

set_option linter.unusedSectionVars false in
theorem rotateRaw_eq_sup (fl : K → Int) (b : Box K) (U : M3 Int) (atoms : List (Atom K)) (hU : M3.det U ≠ 0) :
    rotateRaw fl b U atoms = some ((rotateSup fl b U atoms).1,
      (rotateSup fl b U atoms).2.filter fun a => inHalfOpen ((rotateSup fl b U atoms).1.cartToRel a.pos)) := by
  rw [rotateRaw_def, if_neg hU]

/-- **`System.rotate` WITH its tolerance ladder, end to end**: for a non-degenerate box with every atom inside it (far
    faces included) and any integer vectors: if the first rung `t` of the ladder decides every atom of the bounding
    supercell as the exact test does (no atom within `t` of a face of the new cell: `ladderKeep_away`), the ladder stops
    at that rung and the call returns what the exact model `rotate` returns — exactly `|det U|` images of every atom
    (`rotate_count`); "Filtering failed" is not raised. -/
theorem rotateLadder_first_rung (fl : K → Int) (hfl : ∀ x, fl x = ⌊x⌋) (b : Box K) (hV : M3.det b.vects ≠ 0) (U : M3 Int)
    (hU : M3.det U ≠ 0) (atoms : List (Atom K)) (hin : ∀ a ∈ atoms, InBox (b.cartToRel a.pos)) (t : K) (ts : List K)
    (hclear : ∀ a ∈ (rotateSup fl b U atoms).2,
      ladderKeep t ((rotateSup fl b U atoms).1.cartToRel a.pos) = inHalfOpen ((rotateSup fl b U atoms).1.cartToRel a.pos)) :
    rotateLadder fl (t :: ts) b U atoms = rotate fl b U atoms ∧
    ∃ r, rotate fl b U atoms = .ok r ∧ r.2.length = (M3.det U).natAbs * atoms.length := by
  refine ⟨?_, rotate_ok fl hfl b hV U hU atoms hin⟩
  by_cases h1 : U = M3.one
  · simp [rotateLadder, rotate, h1]
  · have hraw := rotateRaw_eq_sup fl b U atoms hU
    have hlen := rotate_total fl hfl b hV U atoms hin _ _ hraw
    have hf : ladderFilter t (rotateSup fl b U atoms).1 (rotateSup fl b U atoms).2 = (rotateSup fl b U atoms).2.filter
        fun a => inHalfOpen ((rotateSup fl b U atoms).1.cartToRel a.pos) := List.filter_congr hclear
    simp only [rotateLadder, rotate, if_neg h1, if_neg hU]
    rw [ladderLoop_first _ _ _ t ts (by rw [hf]; exact hlen), hf, rotateChecked_of_raw fl hfl b hV U atoms hin _ _ hraw]

/-- the driver's instance. -/
theorem rotateLadder_first_rung_rat (b : Box ℚ) (hV : M3.det b.vects ≠ 0) (U : M3 Int) (hU : M3.det U ≠ 0)
    (atoms : List (Atom ℚ)) (hin : ∀ a ∈ atoms, InBox (b.cartToRel a.pos)) (t : ℚ) (ts : List ℚ)
    (hclear : ∀ a ∈ (rotateSup Rat.floor b U atoms).2,
      ladderKeep t ((rotateSup Rat.floor b U atoms).1.cartToRel a.pos)
        = inHalfOpen ((rotateSup Rat.floor b U atoms).1.cartToRel a.pos)) :
    rotateLadder Rat.floor (t :: ts) b U atoms = rotate Rat.floor b U atoms :=
  (rotateLadder_first_rung Rat.floor rat_floor_eq b hV U hU atoms hin t ts hclear).1

end ladder

section natoms
open Atomman.C04.Gen

/-- **the expected count of the source is the model's**: `int(round(newvolume / volume) * natoms)` with
    `newvolume = |newvects[0]·(newvects[1]×newvects[2])|`, `volume = |det vects|` is `|det U|·natoms` (exact arithmetic;
    `rnd` = `round`, the identity on integers) — the number `rotateChecked` / `rotateLadder` compare the selection with. -/
theorem gen_newNatoms_eq_model (rnd : K → Int) (hr : ∀ n : Int, rnd (n : K) = n) (U : M3 Int) (V : M3 K)
    (hV : M3.det V ≠ 0) (N : Nat) :
    genNewNatoms rnd (genNewVolume (newVects U V)) |M3.det V| N = (((M3.det U).natAbs * N : Nat) : Int) := by
  unfold genNewNatoms
  rw [gen_newVolume_eq_model, newVects_det, abs_mul, mul_div_assoc, div_self (abs_ne_zero.mpr hV), mul_one,
    ← Int.cast_abs, hr]
  push_cast
  rw [Int.abs_eq_natAbs]

/-- the refusal "vectors are parallel or planar" (`newnatoms == 0`) is `det U = 0` for a system with atoms. -/
theorem gen_planar_refusal_iff (rnd : K → Int) (hr : ∀ n : Int, rnd (n : K) = n) (U : M3 Int) (V : M3 K)
    (hV : M3.det V ≠ 0) (N : Nat) (hN : 0 < N) :
    genNewNatoms rnd (genNewVolume (newVects U V)) |M3.det V| N = 0 ↔ M3.det U = 0 := by
  rw [gen_newNatoms_eq_model rnd hr U V hV N]
  constructor
  · intro h
    have h' : (M3.det U).natAbs * N = 0 := by exact_mod_cast h
    rcases Nat.mul_eq_zero.mp h' with h1 | h1
    · exact Int.natAbs_eq_zero.mp h1
    · omega
  · intro h; simp [h]
end natoms



/-- non-vacuity of `rotate_count` / `rotate_total` at `K = ℚ` with the driver's floor: fcc-like two-atom cubic cell,
    `U = [[1,1,0],[-1,1,0],[0,0,1]]` (det 2), origin away from zero: 4 atoms are kept. -/
example : ∃ nb kept, rotateRaw Rat.floor (⟨M3.one, ⟨-5/2, 7/4, 0⟩⟩ : Box ℚ) ⟨⟨1, 1, 0⟩, ⟨-1, 1, 0⟩, ⟨0, 0, 1⟩⟩
    [⟨1, ⟨-5/2, 7/4, 0⟩, []⟩, ⟨2, ⟨-2, 9/4, 1/2⟩, [3]⟩] = some (nb, kept) ∧ kept.length = 4 := by
  refine ⟨_, _, rfl, ?_⟩
  decide +kernel
example : (M3.det (⟨⟨1, 1, 0⟩, ⟨-1, 1, 0⟩, ⟨0, 0, 1⟩⟩ : M3 Int)).natAbs = 2 := by decide
example : InCell ((⟨M3.one, ⟨-5/2, 7/4, 0⟩⟩ : Box ℚ).cartToRel ⟨-2, 9/4, 1/2⟩) := by
  unfold InCell
  decide +kernel

/-- the hypothesis `InBox` admits atoms listed on the far faces (relative coordinate 1): the same cell with its second
    atom stored at relative `(1, 1/2, 1)` still yields 4 kept atoms. -/
example : InBox ((⟨M3.one, ⟨-5/2, 7/4, 0⟩⟩ : Box ℚ).cartToRel ⟨-3/2, 9/4, 1⟩) := by
  unfold InBox
  decide +kernel
example : ∃ nb kept, rotateRaw Rat.floor (⟨M3.one, ⟨-5/2, 7/4, 0⟩⟩ : Box ℚ) ⟨⟨1, 1, 0⟩, ⟨-1, 1, 0⟩, ⟨0, 0, 1⟩⟩
    [⟨1, ⟨-5/2, 7/4, 0⟩, []⟩, ⟨2, ⟨-3/2, 9/4, 1⟩, [3]⟩] = some (nb, kept) ∧ kept.length = 4 := by
  refine ⟨_, _, rfl, ?_⟩
  decide +kernel

/-- non-vacuity of `rotateLadder_first_rung` / `rotateLadder_first_rung_rat` with a NON-zero first rung
    (`t = 1/10000`, the default ladder's first value; with `t = 0` the hypothesis `hclear` is `ladderKeep_zero`): the
    two-atom cell above, `det U = 2`, origin away from zero.  Every atom of the translated bounding supercell is decided
    by the rung as by the exact test, the ladder returns what `rotate` returns, 4 atoms; and with the second atom moved
    `3/100000` below a face of the NEW cell the first rung decides it differently (so `hclear` is a real restriction). -/
example :
    let b : Box ℚ := ⟨M3.one, ⟨-5/2, 7/4, 0⟩⟩
    let U : M3 Int := ⟨⟨1, 1, 0⟩, ⟨-1, 1, 0⟩, ⟨0, 0, 1⟩⟩
    let atoms : List (Atom ℚ) := [⟨1, ⟨-5/2, 7/4, 0⟩, []⟩, ⟨2, ⟨-2, 9/4, 1/2⟩, [3]⟩]
    let near : List (Atom ℚ) := [⟨1, ⟨-5/2, 7/4, 0⟩, []⟩, ⟨2, ⟨-2, 9/4, 1 - 3/100000⟩, [3]⟩]
    ((rotateSup Rat.floor b U atoms).2.all fun a =>
      ladderKeep (1/10000) ((rotateSup Rat.floor b U atoms).1.cartToRel a.pos)
        == inHalfOpen ((rotateSup Rat.floor b U atoms).1.cartToRel a.pos)) = true ∧
    rotateLadder Rat.floor [1/10000, 1/100000] b U atoms = rotate Rat.floor b U atoms ∧
    (rotateLadder Rat.floor [1/10000, 1/100000] b U atoms).toOption.map (·.2.length) = some 4 ∧
    ((rotateSup Rat.floor b U near).2.all fun a =>
      ladderKeep (1/10000) ((rotateSup Rat.floor b U near).1.cartToRel a.pos)
        == inHalfOpen ((rotateSup Rat.floor b U near).1.cartToRel a.pos)) = false := by
  decide +kernel

end Atomman.C04
