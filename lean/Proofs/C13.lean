/-
  C13 — property theorems for the model of `atomman.defect.Dislocation` (lean/Atomman/C13.lean), by subject in the modules
  imported here; this file holds the runs of the model at ℚ that show the hypotheses of the theorems can be met.
  `K` is any linearly ordered field (ℚ in the driver, ℝ for the real code's idealisation).
-/
import Proofs.C13_Cells
import Proofs.C13_Regions
import Proofs.C13_Disregistry
import Proofs.C13_Call
import Proofs.C13_Source

namespace Atomman.C13
open Atomman
set_option linter.unusedSectionVars false

variable {K : Type} [Field K] [LinearOrder K] [IsStrictOrderedRing K]

section examples

def exPv : M3 ℚ := ⟨⟨1, 0, 0⟩, ⟨0, 1, 0⟩, ⟨0, 0, 1⟩⟩

def exO : Orient := ⟨2, 0, 1, ⟨1, 0, 0⟩⟩

def exRcell : Sys ℚ := ⟨⟨exPv, ⟨0, 0, 0⟩⟩, ⟨true, true, true⟩, [⟨1, ⟨0, 0, 0⟩, []⟩]⟩

def exSz : Sizes := ⟨⟨0, 1⟩, ⟨-1, 1⟩, ⟨-1, 1⟩⟩

def exU : V3 ℚ → V3 ℚ := fun p => ⟨0, (if p.y < 0 then 1 / 8 else -1 / 8), 0⟩

-- simple cubic, slip plane (001), line [100]: accepted for m = y, n = z and (with the line row negated) m = x, n = z
example : (setCells (0 : ℚ) exPv ⟨0, 0, 1⟩ ⟨1, 0, 0⟩ ⟨1, 0, 0⟩ .y .z 1).map (·.uvws)
    = .ok ⟨⟨1, 0, 0⟩, ⟨0, 1, 0⟩, ⟨0, 0, 1⟩⟩ := by decide +kernel

example : (setCells (0 : ℚ) exPv ⟨0, 0, 1⟩ ⟨1, 0, 0⟩ ⟨1, 0, 0⟩ .x .z 1).map (·.uvws)
    = .ok ⟨⟨0, 1, 0⟩, ⟨-1, 0, 0⟩, ⟨0, 0, 1⟩⟩ := by decide +kernel

-- a monoclinic cell whose out-of-plane vector is not normal to the slip plane: refused unless n = z
example : (setCells (0 : ℚ) ⟨⟨1, 0, 0⟩, ⟨0, 1, 0⟩, ⟨1 / 4, 0, 1⟩⟩ ⟨0, 0, 1⟩ ⟨1, 0, 0⟩ ⟨1, 0, 0⟩ .z .x 1).map (·.uvws)
    = .error "value" := by decide +kernel

-- a monopole: 4 atoms, box boundary of width 3/4
example : ((monopole Rat.floor (1 / 1000) (fun x => x) exU exO exRcell exSz ⟨0, 0, 1 / 2⟩ ⟨0, 0, 0⟩ .box (3 / 4) 1).map
    (fun bd => (bd.1.atoms.length, bd.2.atoms.map (·.atype), bd.2.pbc))) = some (4, [2, 2, 2, 2], ⟨true, false, false⟩) := by
  decide +kernel

example : ((monopole Rat.floor (1 / 1000) (fun x => x) exU exO exRcell exSz ⟨0, 0, 1 / 2⟩ ⟨0, 0, 0⟩ .box (1 / 8) 1).map
    (fun bd => bd.2.atoms.map (·.atype))) = some [1, 1, 1, 1] := by
  decide +kernel

-- a periodic array of screw dislocations (nothing to delete), linear field
example : (match periodicArray Rat.floor C14.roundHalfEven (1 / 1000) exU exO
      (baseSystem Rat.floor (1 / 1000) exRcell exSz ⟨0, 0, 1 / 2⟩) ⟨1, 0, 0⟩ ⟨0, 0, 0⟩ true 0 (1 / 2)
      (1 / 100000000) (1 / 100000000) (1 / 100000) 1 with
    | .ok r => some (r.oldId, r.expected, r.disl.pbc)
    | .error _ => none) = some ([0, 1, 2, 3], 0, ⟨true, true, false⟩) := by decide +kernel

-- `shift_between_planes` / `shift_by_index_between_planes`: layers at 0, 1, 3 in a period of 4
example := shift_between_planes ([0, 1, 3] : List ℚ) 4 (1 / 100000000) (by norm_num) (by norm_num)
  (by decide +kernel) 0 rfl (by decide +kernel)

/-- the primitive cell of fcc (a = 1): a general, non-orthogonal `pv`. -/
def fccPv : M3 ℚ := ⟨⟨0, 1 / 2, 1 / 2⟩, ⟨1 / 2, 0, 1 / 2⟩, ⟨1 / 2, 1 / 2, 0⟩⟩

-- `uvws_zone_law`, `uvws_right_handed`, `searchM_optimal`, `searchN_optimal` on fcc, slip plane (111), line [1 -1 0]
-- of the primitive cell: accepted, all hypotheses hold (ξ lies in the plane, `pv` non-degenerate, `N ≠ 0`)
example : (setCells (0 : ℚ) fccPv ⟨1, 1, 1⟩ ⟨-1 / 2, 1 / 2, 0⟩ ⟨1, -1, 0⟩ .y .z 1).map (·.uvws)
      = .ok ⟨⟨1, -1, 0⟩, ⟨0, 1, -1⟩, ⟨1, 1, 1⟩⟩ ∧
    cart fccPv ⟨1, -1, 0⟩ = (⟨-1 / 2, 1 / 2, 0⟩ : V3 ℚ) ∧ V3.dot (⟨-1 / 2, 1 / 2, 0⟩ : V3 ℚ) ⟨1, 1, 1⟩ = 0 ∧
    M3.det fccPv ≠ 0 ∧ 0 < V3.normSq (⟨1, 1, 1⟩ : V3 ℚ) ∧
    (∀ v ∈ allUvws 1, 0 < V3.normSq (cart fccPv v)) := by decide +kernel

/-- reference system of the array examples: 1 x 2 x 2 cells, slip plane midway. -/
def exBase : Sys ℚ := baseSystem Rat.floor (1 / 1000) exRcell exSz ⟨0, 0, 1 / 2⟩

-- `array_old_id`, `array_deletion_count_partial`, `array_kept_boundary_atoms_apart`: an array of EDGE dislocations
-- (b = [010] along the motion direction): the tilted cell is non-degenerate (`hdet`), one atom (index 0) is found
-- twice and deleted, `expected = 4 (1 - 1.5/2) = 1`, the three kept atoms map back to 1, 2, 3
example : (match periodicArray Rat.floor C14.roundHalfEven (1 / 1000) exU exO exBase ⟨0, 1, 0⟩ ⟨0, 0, 0⟩ true 0 (1 / 2)
      (1 / 100000000) (1 / 100000000) (1 / 100000) 1 with
    | .ok r => some (r.oldId, r.expected, r.dups, r.disl.pbc, r.disl.atoms.length)
    | .error _ => none) = some ([1, 2, 3], 1, [0], ⟨true, true, false⟩, 3) ∧
    M3.det (tiltedVects exO exBase.box.vects (⟨0, 1, 0⟩ : V3 ℚ)) ≠ 0 := by decide +kernel

/-- a 1 x 3 x 4 cell: with the shift (0, 3/2, 2) the four atoms of the 1 x 2 x 2 reference system sit at
    `(0, ±3/2, ±2)`, at the rational distance 5/2 from the line. -/
def exRcellC : Sys ℚ := ⟨⟨⟨⟨1, 0, 0⟩, ⟨0, 3, 0⟩, ⟨0, 0, 4⟩⟩, ⟨0, 0, 0⟩⟩, ⟨true, true, true⟩, [⟨1, ⟨0, 0, 0⟩, []⟩]⟩

def exBaseC : Sys ℚ := baseSystem Rat.floor (1 / 1000) exRcellC exSz ⟨0, 3 / 2, 2⟩

/-- moves the atom at `(0, -3/2, -2)` to `(0, 0, -2)` (distance 2 from the line), leaves the others. -/
def exUC : V3 ℚ → V3 ℚ := fun p => if p.y < 0 ∧ p.z < 0 then ⟨0, 3 / 2, 0⟩ else ⟨0, 0, 0⟩

def exDislC : Sys ℚ := monopoleRaw Rat.floor (1 / 1000) exUC 0 ⟨0, 0, 0⟩ exBaseC

/-- the Euclidean length on the vectors that occur (squared lengths 1, 4, 25/4); `sqrt 9 = 3`. -/
def exNormC (v : V3 ℚ) : ℚ :=
  if V3.normSq v = 1 then 1 else if V3.normSq v = 4 then 2 else if V3.normSq v = 25 / 4 then 5 / 2 else 0

def exSqrtC (x : ℚ) : ℚ := if x = 9 then 3 else 0

-- `boundary_iff_outside_cylinder`: all hypotheses on this system (width 3/4, radius 3 - 3/4 = 9/4): the atom at
-- distance 2 keeps its type, the three at distance 5/2 are re-typed
example : (0 : ℚ) < 3 / 4 ∧
    ((monopoleBoundary exSqrtC exO .cylinder (3 / 4) 1 exBaseC exDislC).map (fun d => d.atoms.map (·.atype)))
      = some [1, 2, 2, 2] ∧
    (0 < exNormC (exBaseC.box.vects.row exO.line) ∧
      exNormC (exBaseC.box.vects.row exO.line) * exNormC (exBaseC.box.vects.row exO.line)
        = V3.normSq (exBaseC.box.vects.row exO.line)) ∧
    (∀ a ∈ exDislC.atoms,
      0 ≤ exNormC (V3.cross a.pos (V3.smul (1 / exNormC (exBaseC.box.vects.row exO.line)) (exBaseC.box.vects.row exO.line))) ∧
      exNormC (V3.cross a.pos (V3.smul (1 / exNormC (exBaseC.box.vects.row exO.line)) (exBaseC.box.vects.row exO.line))) *
        exNormC (V3.cross a.pos (V3.smul (1 / exNormC (exBaseC.box.vects.row exO.line)) (exBaseC.box.vects.row exO.line)))
        = V3.normSq (V3.cross a.pos (V3.smul (1 / exNormC (exBaseC.box.vects.row exO.line)) (exBaseC.box.vects.row exO.line)))) ∧
    cylRadius exSqrtC exO.motion exO.cut exO.line exBaseC.box (3 / 4) = 9 / 4 := by decide +kernel

end examples

/- non-vacuity of `monopoleCall_spec` and the refusal order on a concrete object (the examples after `headSummary`): simple cubic cell, line along `a`,
    `sizemults = [1, 2, 2]`, `cmin = 5/2` (→ 4 cells along `c`), `shiftindex = -1`, a box boundary.  Accepted; with
    `sizemults = [1, 3, 2]` refused with TypeError whatever the shift arguments; with `shift` and `shiftindex` together
    ValueError, the object keeps its shift; with an unknown shape ValueError AFTER the shift was stored. -/
def exArgs : CallArgs ℚ := ⟨some [.int 1, .int 2, .int 2], ⟨0, 0, 5 / 2⟩, ⟨none, some (-1), true⟩, some ⟨0, 1 / 4, 0⟩, true,
  "box", 3 / 4, false⟩

def headSummary (r : V3 ℚ × Except String (Head ℚ)) : V3 ℚ × Sum String (Sizes × V3 ℚ × V3 ℚ × ℚ × Shape) :=
  (r.1, match r.2 with
    | .error e => .inl e
    | .ok h => .inr (h.sizes, h.shift, h.center, h.width, h.shape))

example : headSummary (callHead Rat.ceil true 0 exPv ⟨1, 1, 1⟩ 1 [⟨0, 0, 1 / 4⟩, ⟨0, 0, 1 / 2⟩] ⟨0, 0, 1 / 4⟩ exArgs)
    = (⟨0, 0, 1 / 2⟩, .inr (⟨⟨0, 1⟩, ⟨-1, 1⟩, ⟨-2, 2⟩⟩, ⟨0, 0, 1 / 2⟩, ⟨0, 1 / 4, 0⟩, 3 / 4, .box)) := by decide +kernel

example : headSummary (callHead Rat.ceil true 0 exPv ⟨1, 1, 1⟩ 1 [⟨0, 0, 1 / 4⟩, ⟨0, 0, 1 / 2⟩] ⟨0, 0, 1 / 4⟩
    { exArgs with mults := some [.int 1, .int 3, .int 2], sh := ⟨some ⟨0, 0, 0⟩, some 7, false⟩ })
    = (⟨0, 0, 1 / 4⟩, .inl "type") := by decide +kernel

example : headSummary (callHead Rat.ceil true 0 exPv ⟨1, 1, 1⟩ 1 [⟨0, 0, 1 / 4⟩, ⟨0, 0, 1 / 2⟩] ⟨0, 0, 1 / 4⟩
    { exArgs with mults := some [.int 1, .other, .int 2] }) = (⟨0, 0, 1 / 4⟩, .inl "type") := by decide +kernel

example : headSummary (callHead Rat.ceil true 0 exPv ⟨1, 1, 1⟩ 1 [⟨0, 0, 1 / 4⟩, ⟨0, 0, 1 / 2⟩] ⟨0, 0, 1 / 4⟩
    { exArgs with sh := ⟨some ⟨0, 0, 0⟩, some 1, false⟩ }) = (⟨0, 0, 1 / 4⟩, .inl "value") := by decide +kernel

example : headSummary (callHead Rat.ceil true 0 exPv ⟨1, 1, 1⟩ 1 [⟨0, 0, 1 / 4⟩, ⟨0, 0, 1 / 2⟩] ⟨0, 0, 1 / 4⟩
    { exArgs with shape := "sphere" }) = (⟨0, 0, 1 / 2⟩, .inl "value") := by decide +kernel

example : (match monopoleCall Rat.floor Rat.ceil (1 / 1000) (fun x => x) exU exO exRcell ⟨1, 1, 1⟩ 1 1
      [⟨0, 0, 1 / 4⟩, ⟨0, 0, 1 / 2⟩] ⟨0, 0, 1 / 4⟩ exArgs with
    | (c, .ok (b, d)) => (c, b.atoms.length, d.atoms.length, d.pbc)
    | (c, .error _) => (c, 0, 0, ⟨false, false, false⟩))
    = (⟨0, 0, 1 / 2⟩, 8, 8, ⟨true, false, false⟩) := by decide +kernel

example : (searchM exPv (⟨0, 0, 1⟩ : V3 ℚ) ⟨0, 1, 0⟩ 1).map (fun c => (c.v, cosKey c)) = some (⟨0, 1, 0⟩, 1) := by
  decide +kernel

example : (match arrayCall Rat.floor C14.roundHalfEven (ceilOfFloor Rat.floor) (1 / 1000) exU exO exRcell ⟨1, 1, 1⟩ 1 1
      [⟨0, 0, 1 / 4⟩, ⟨0, 0, 1 / 2⟩] ⟨0, 0, 1 / 4⟩ { exArgs with width := 0 } ⟨1, 0, 0⟩ true none (1 / 100000000)
      (1 / 100000000) (1 / 100000) with
    | (c, .ok r) => (c, r.oldId.length, r.expected, r.disl.pbc)
    | (c, .error _) => (c, 0, -1, ⟨false, false, false⟩))
    = (⟨0, 0, 1 / 2⟩, 8, 0, ⟨true, true, false⟩) := by decide +kernel

example : monopole Rat.floor (1 / 1000) (fun x => x) exU exO exRcell exSz ⟨0, 0, 1 / 2⟩ ⟨0, 0, 0⟩ .cylinder 40 1 = none ∧
    (monopole Rat.floor (1 / 1000) (fun x => x) exU exO exRcell exSz ⟨0, 0, 1 / 2⟩ ⟨0, 0, 0⟩ .box 40 1).isSome = true := by
  decide +kernel

end Atomman.C13
