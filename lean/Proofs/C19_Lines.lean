/-
  C19 — from the text of a log to its lines (`splitLines`, Atomman/C19.lean): a line ends at `\n` and nowhere else.
  `str.splitlines()` would also break at `\x0b \x0c \x1c \x1d \x1e U+0085 U+2028 U+2029` (and at a lone `\r`); the byte
  stream `Log.read` iterates over, LAMMPS, and pandas do not, and neither does the model.
-/
import Atomman.C19
set_option linter.unusedSimpArgs false
namespace Atomman.C19
open List

/-- the model's `splitOnChar` (`s.split(d)`) is `List.splitOn`. -/
theorem splitOnChar_eq_splitOn (d : Char) : ∀ t : Str, splitOnChar d t = t.splitOn d
  | [] => rfl
  | c :: cs => by
    rw [splitOnChar, List.splitOn_cons_eq_if_modifyHead, splitOnChar_eq_splitOn d cs]
    have := List.splitOn_ne_nil d cs
    cases h : cs.splitOn d with
    | nil => exact absurd h this
    | cons w ws => by_cases hx : c = d <;> simp [hx]

theorem splitOnChar_ne_nil (d : Char) (t : Str) : splitOnChar d t ≠ [] := by
  rw [splitOnChar_eq_splitOn]; exact List.splitOn_ne_nil d t

theorem splitOnChar_not_mem (d : Char) (t : Str) (h : d ∉ t) : splitOnChar d t = [t] := by
  rw [splitOnChar_eq_splitOn]; exact List.splitOn_eq_singleton h

theorem splitOnChar_append_sep (d : Char) (a b : Str) (h : d ∉ a) :
    splitOnChar d (a ++ d :: b) = a :: splitOnChar d b := by
  simp only [splitOnChar_eq_splitOn]; exact List.splitOn_append_cons_self_of_not_mem h b

theorem splitOnChar_length (d : Char) (t : Str) : (splitOnChar d t).length = t.count d + 1 := by
  induction t with
  | nil => simp [splitOnChar]
  | cons c cs ih =>
    rw [splitOnChar]
    cases hb : splitOnChar d cs with
    | nil => exact absurd hb (splitOnChar_ne_nil d cs)
    | cons t ts =>
      rw [hb] at ih
      by_cases hc : c = d
      · subst hc; simp at ih ⊢; omega
      · have : (c == d) = false := by simp [hc]
        simp [this, List.count_cons, hc] at ih ⊢; omega

/-- **a line ends at `\n` and nowhere else**: the number of lines of a text is the number of its `\n` plus one — no other
    character (`\x0b \x0c \x1c \x1d \x1e U+0085 U+2028 U+2029`, a lone `\r`, …) starts a new line. -/
theorem splitLines_length (t : Str) : (splitLines t).length = t.count '\n' + 1 :=
  splitOnChar_length '\n' t

/-- a text without `\n` is ONE line, whatever else it holds. -/
theorem splitLines_one_line (t : Str) (h : '\n' ∉ t) : splitLines t = [t] :=
  splitOnChar_not_mem '\n' t h

/-- the model's `joinLines` is `intercalate` with `\n`. -/
theorem joinLines_eq_intercalate : ∀ ls : List Str, joinLines ls = ['\n'].intercalate ls
  | [] => rfl
  | [l] => by simp [joinLines, List.intercalate]
  | l :: l' :: ls => by
    rw [joinLines, joinLines_eq_intercalate (l' :: ls)]
    · simp [List.intercalate, List.intersperse]
    · exact List.cons_ne_nil _ _

/-- a text written line by line (no `\n` inside a line) is read back line by line; the lines keep every other character,
    in particular the `\r` of a `\r\n` ending. -/
theorem splitLines_joinLines (ls : List Str) (hne : ls ≠ []) (h : ∀ l ∈ ls, '\n' ∉ l) :
    splitLines (joinLines ls) = ls := by
  rw [splitLines, splitOnChar_eq_splitOn, joinLines_eq_intercalate]
  exact List.splitOn_intercalate '\n' h hne

/-- `Log.read` of the text = the model's `readLog` of its lines. -/
theorem readText_joinLines (st : LogState) (app : Bool) (ls : List Str) (hne : ls ≠ []) (h : ∀ l ∈ ls, '\n' ∉ l) :
    readText st app (joinLines ls) = readLog st app ls := by
  simp only [readText, splitLines_joinLines ls hne h]

end Atomman.C19
