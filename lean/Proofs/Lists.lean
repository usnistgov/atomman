/-
  Lists — what holds of any list traversal, whatever the property.
  Folds: an invariant of every step of a left fold holds of its result (`foldl_inv`, `foldl_inv_prefix`); a map that
  commutes with the steps on the members of the list commutes with the fold (`foldl_hom_mem`; `List.foldl_hom` of core
  asks it of every value); a left fold of `+` over naturals is the sum (`foldl_add_eq_sum`); a loop that inserts
  entries with new, distinct keys appends them (`foldl_append_of_fresh`), and the key list of a python dict (`addKey`).
  `Except` and `Option`: the `Except` monad read off its constructors (the simp set `exceptSimp`, for `simp only
  [exceptSimp]`; the primed two are the `Except.bind` spelling); `mapM` succeeds exactly when every element does,
  element by element (`mapM_except_ok`, `mapM_except_ok_iff`, `mapM_option_some_iff`), fails with the error of a
  member (`mapM_except_error`), with the one-step forms `map_ok`, `bind_ok`, the `Option` forms with a known result
  (`mapM_option_of_forall`, `mapM_option_map`) and what one reads off the `Forall₂` (`forall₂_length`, `_mem_left`,
  `_mem_right`, `_map_eq`); the memo cell (`memo_cases` …).
  Indices: `getD` through `map`; the loop over all indices is `map` (`filterMap_range_getElem?`,
  `map_range_getD`); picking the entries at given indices (`getElem?_filterMap_getElem?`); rows of one width
  (`length_flatten_const`, `length_flatMap_const`) and the entry `i * L + k` of their concatenation
  (`getElem?_flatten_const`, `mul_add_lt`); Python's negative index (`pyNorm`); the members of the prelude's `intRange`.
  Sorting: the insertion step of the models' sorts and `unique`s as a structure over the step function (`IsInsert`):
  membership, sortedness and permutation of the step and of the `foldr` that sorts.
  Core Lean and the definition of `List.Forall₂` only.
-/
import Atomman.Prelude
import Proofs.Attr
import Batteries.Data.List.Basic

namespace Atomman

variable {α β γ ε κ : Type}

theorem foldl_inv (f : β → α → β) (P : β → Prop) (l : List α) (hstep : ∀ b a, a ∈ l → P b → P (f b a)) (b0 : β)
    (h0 : P b0) : P (l.foldl f b0) := by
  induction l generalizing b0 with
  | nil => exact h0
  | cons x xs ih =>
    rw [List.foldl_cons]
    exact ih (fun b a ha hb => hstep b a (List.mem_cons_of_mem _ ha) hb) _ (hstep b0 x List.mem_cons_self h0)

/-- invariant that may mention the already processed prefix. -/
theorem foldl_inv_prefix (f : β → α → β) (Q : List α → β → Prop) (l : List α) (b0 : β) (h0 : Q [] b0)
    (hstep : ∀ pre b a, Q pre b → Q (pre ++ [a]) (f b a)) : Q l (l.foldl f b0) := by
  suffices h : ∀ (pre : List α) (b : β), Q pre b → Q (pre ++ l) (l.foldl f b) from h [] b0 h0
  induction l with
  | nil => intro pre b hb; rwa [List.append_nil]
  | cons x xs ih =>
    intro pre b hb
    have := ih (pre ++ [x]) (f b x) (hstep pre b x hb)
    rwa [List.append_assoc] at this

theorem foldl_hom_mem (f : β → γ) (g₁ : β → α → β) (g₂ : γ → α → γ) :
    ∀ (l : List α) (b : β), (∀ b, ∀ a ∈ l, g₂ (f b) a = f (g₁ b a)) → l.foldl g₂ (f b) = f (l.foldl g₁ b)
  | [], _, _ => rfl
  | a :: l, b, h => by
    rw [List.foldl_cons, List.foldl_cons, h b a List.mem_cons_self]
    exact foldl_hom_mem f g₁ g₂ l _ fun b a ha => h b a (List.mem_cons_of_mem _ ha)

theorem foldl_add_eq_sum (l : List Nat) (a : Nat) : l.foldl (· + ·) a = a + l.sum := by
  induction l generalizing a with
  | nil => rfl
  | cons x xs ih => rw [List.foldl_cons, ih, List.sum_cons, Nat.add_assoc]

/-- Python's `for a in l: d[key a] = a` on an insertion-ordered dict kept as a list: when the keys met are new and
    distinct, each step appends, and the loop returns the old entries followed by `l`. -/
theorem foldl_append_of_fresh (f : List α → α → List α) (k : α → κ)
    (hf : ∀ acc a, k a ∉ acc.map k → f acc a = acc ++ [a]) (l acc : List α) (hl : (l.map k).Nodup)
    (hd : ∀ a ∈ l, k a ∉ acc.map k) : l.foldl f acc = acc ++ l := by
  induction l generalizing acc with
  | nil => rw [List.foldl_nil, List.append_nil]
  | cons a l ih =>
    rw [List.map_cons, List.nodup_cons] at hl
    rw [List.foldl_cons, hf acc a (hd a List.mem_cons_self), ih (acc ++ [a]) hl.2, List.append_assoc, List.singleton_append]
    intro b hb
    rw [List.map_append, List.mem_append, List.map_singleton, List.mem_singleton]
    rintro (h | h)
    · exact hd b (List.mem_cons_of_mem _ hb) h
    · exact hl.1 (h ▸ List.mem_map_of_mem hb)

/-- `d[k] = v` on the key list of a python dict: the key is appended unless it is there. -/
def addKey (ks : List String) (k : String) : List String := if ks.contains k then ks else ks ++ [k]

theorem mem_addKey (ks : List String) (k x : String) : x ∈ addKey ks k ↔ x ∈ ks ∨ x = k := by
  unfold addKey
  by_cases h : ks.contains k = true
  · rw [if_pos h]
    exact ⟨Or.inl, fun h' => h'.elim id fun e => e ▸ List.contains_iff_mem.mp h⟩
  · rw [if_neg h, List.mem_append, List.mem_singleton]

theorem addKey_nodup (ks : List String) (k : String) (h : ks.Nodup) : (addKey ks k).Nodup := by
  unfold addKey
  by_cases hc : ks.contains k = true
  · rwa [if_pos hc]
  · rw [if_neg hc]
    refine List.nodup_append.mpr ⟨h, List.pairwise_singleton _ k, fun a ha b hb => ?_⟩
    rw [List.mem_singleton.mp hb]
    rintro rfl
    exact hc (List.contains_iff_mem.mpr ha)

theorem addKey_addKey (ks : List String) (k : String) : addKey (addKey ks k) k = addKey ks k := by
  have hc : (addKey ks k).contains k = true := List.contains_iff_mem.mpr ((mem_addKey ks k k).mpr (Or.inr rfl))
  rw [addKey, if_pos hc]

@[exceptSimp] theorem except_ok_bind (a : α) (f : α → Except ε β) : (Except.ok a >>= f) = f a := rfl
@[exceptSimp] theorem except_error_bind (e : ε) (f : α → Except ε β) : (Except.error e >>= f) = .error e := rfl
@[exceptSimp] theorem except_ok_bind' (a : α) (f : α → Except ε β) : (Except.ok a).bind f = f a := rfl
@[exceptSimp] theorem except_error_bind' (e : ε) (f : α → Except ε β) : (Except.error e).bind f = .error e := rfl
@[exceptSimp] theorem except_pure (a : α) : (pure a : Except ε α) = .ok a := rfl
@[exceptSimp] theorem except_throw (e : ε) : (throw e : Except ε α) = .error e := rfl
@[exceptSimp] theorem except_map_ok (g : α → β) (a : α) : Except.map g (Except.ok a : Except ε α) = .ok (g a) := rfl
@[exceptSimp] theorem except_map_error (g : α → β) (e : ε) : Except.map g (Except.error e : Except ε α) = .error e := rfl

theorem map_ok {g : α → β} {x : Except ε α} {b : β} (h : x.map g = .ok b) : ∃ a, x = .ok a ∧ g a = b := by
  cases x with
  | error e => cases h
  | ok a => exact ⟨a, rfl, Except.ok.inj h⟩

theorem bind_ok {g : α → Except ε β} {x : Except ε α} {b : β} (h : x.bind g = .ok b) :
    ∃ a, x = .ok a ∧ g a = .ok b := by
  cases x with
  | error e => cases h
  | ok a => exact ⟨a, rfl, h⟩

theorem mapM_except_ok {g : α → Except ε β} {l : List α} {r : List β} (h : l.mapM g = .ok r) :
    List.Forall₂ (fun a b => g a = .ok b) l r := by
  induction l generalizing r with
  | nil => cases h; exact .nil
  | cons a as ih =>
    rw [List.mapM_cons] at h
    obtain ⟨b, hb, h⟩ := bind_ok h
    obtain ⟨bs, hbs, h⟩ := bind_ok h
    cases h
    exact .cons hb (ih hbs)

theorem mapM_except_ok_iff {g : α → Except ε β} {l : List α} {r : List β} :
    l.mapM g = .ok r ↔ List.Forall₂ (fun a b => g a = .ok b) l r := by
  refine ⟨mapM_except_ok, fun h => ?_⟩
  induction h with
  | nil => rfl
  | cons h1 _ ih => rw [List.mapM_cons, h1, ih]; rfl

theorem mapM_except_error {g : α → Except ε β} {l : List α} {e : ε} (h : l.mapM g = .error e) :
    ∃ a ∈ l, g a = .error e := by
  induction l with
  | nil => cases h
  | cons a as ih =>
    rw [List.mapM_cons] at h
    cases ha : g a with
    | error e' => rw [ha] at h; cases h; exact ⟨a, List.mem_cons_self, ha⟩
    | ok b =>
      cases hr : as.mapM g with
      | error e' =>
        rw [ha, hr] at h; cases h
        obtain ⟨x, hx, hxe⟩ := ih hr
        exact ⟨x, List.mem_cons_of_mem _ hx, hxe⟩
      | ok bs => rw [ha, hr] at h; cases h

theorem mapM_option_some_iff {g : α → Option β} {l : List α} {r : List β} :
    l.mapM g = some r ↔ List.Forall₂ (fun a b => g a = some b) l r := by
  constructor
  · intro h
    induction l generalizing r with
    | nil => cases h; exact .nil
    | cons a as ih =>
      rw [List.mapM_cons] at h
      cases ha : g a with
      | none => rw [ha] at h; cases h
      | some b =>
        cases has : as.mapM g with
        | none => rw [ha, has] at h; cases h
        | some bs => rw [ha, has] at h; cases h; exact .cons ha (ih has)
  · intro h
    induction h with
    | nil => rfl
    | cons h1 _ ih => rw [List.mapM_cons, h1, ih]; rfl

theorem mapM_option_of_forall (g : α → Option β) (v : α → β) (l : List α) (h : ∀ a ∈ l, g a = some (v a)) :
    l.mapM g = some (l.map v) := by
  induction l with
  | nil => rfl
  | cons a as ih =>
    rw [List.mapM_cons, h a List.mem_cons_self, ih fun b hb => h b (List.mem_cons_of_mem _ hb)]
    rfl

/-- reading back a list that was printed element by element. -/
theorem mapM_option_map (g : α → β) (f : β → Option γ) (v : α → γ) (l : List α) (H : ∀ a ∈ l, f (g a) = some (v a)) :
    (l.map g).mapM f = some (l.map v) := by
  rw [List.mapM_map]; exact mapM_option_of_forall _ v l H

/-! What one reads off the `Forall₂` that `mapM_except_ok` / `mapM_option_some_iff` give. -/

theorem forall₂_length {R : α → β → Prop} {l : List α} {r : List β} (h : List.Forall₂ R l r) : r.length = l.length := by
  induction h with
  | nil => rfl
  | cons _ _ ih => rw [List.length_cons, List.length_cons, ih]

theorem forall₂_mem_left {R : α → β → Prop} {l : List α} {r : List β} (h : List.Forall₂ R l r) :
    ∀ a ∈ l, ∃ b ∈ r, R a b := by
  induction h with
  | nil => exact fun _ h => nomatch h
  | cons h1 _ ih =>
    intro a ha
    rcases List.mem_cons.mp ha with rfl | ha
    · exact ⟨_, List.mem_cons_self, h1⟩
    · obtain ⟨b, hb, e⟩ := ih a ha
      exact ⟨b, List.mem_cons_of_mem _ hb, e⟩

theorem forall₂_mem_right {R : α → β → Prop} {l : List α} {r : List β} (h : List.Forall₂ R l r) :
    ∀ b ∈ r, ∃ a ∈ l, R a b := by
  induction h with
  | nil => exact fun _ h => nomatch h
  | cons h1 _ ih =>
    intro b hb
    rcases List.mem_cons.mp hb with rfl | hb
    · exact ⟨_, List.mem_cons_self, h1⟩
    · obtain ⟨a, ha, e⟩ := ih b hb
      exact ⟨a, List.mem_cons_of_mem _ ha, e⟩

theorem forall₂_map_eq {R : α → β → Prop} {l : List α} {r : List β} (f : α → γ) (g : β → γ)
    (h : List.Forall₂ R l r) (hfg : ∀ a b, R a b → g b = f a) : r.map g = l.map f := by
  induction h with
  | nil => rfl
  | cons h1 _ ih => rw [List.map_cons, List.map_cons, hfg _ _ h1, ih]

/-- reading position `i` of `map f l` with a default that is the image of the default: `f` of the read. -/
theorem getD_map (f : α → β) (l : List α) (i : Nat) (d : α) : (l.map f).getD i (f d) = f (l.getD i d) := by
  rw [List.getD_eq_getElem?_getD, List.getD_eq_getElem?_getD, List.getElem?_map]
  cases l[i]? <;> rfl

theorem getD_map_of_eq (f : α → β) (l : List α) (i : Nat) {d : α} {d' : β} (h : f d = d') :
    (l.map f).getD i d' = f (l.getD i d) := h ▸ getD_map f l i d

/-- `[f x[i] for i in range(len(x))]` is `map f x`: the index loop that reads every position once. -/
theorem filterMap_range_getElem? (l : List α) (f : α → β) :
    (List.range l.length).filterMap (fun i => (l[i]?).map f) = l.map f := by
  induction l with
  | nil => rfl
  | cons a l ih =>
    rw [List.length_cons, List.range_succ_eq_map, List.filterMap_cons, List.filterMap_map]
    simpa only [List.getElem?_cons_zero, Option.map_some, List.map_cons, Function.comp_def, List.getElem?_cons_succ,
      List.cons.injEq, true_and] using ih

theorem map_range_getD (l : List α) (d : α) : (List.range l.length).map (fun i => l[i]?.getD d) = l := by
  induction l with
  | nil => rfl
  | cons a l ih =>
    rw [List.length_cons, List.range_succ_eq_map, List.map_cons, List.map_map]
    simpa only [List.getElem?_cons_zero, Option.getD_some, Function.comp_def, List.getElem?_cons_succ,
      List.cons.injEq, true_and] using ih

/-- rows of one width. -/
theorem length_flatten_const (l : List (List α)) (w : Nat) (h : ∀ r ∈ l, r.length = w) :
    l.flatten.length = l.length * w := by
  induction l with
  | nil => exact (Nat.zero_mul w).symm
  | cons x t ih =>
    rw [List.flatten_cons, List.length_append, ih fun r hr => h r (List.mem_cons_of_mem _ hr), h x List.mem_cons_self,
      List.length_cons, Nat.succ_mul, Nat.add_comm]

/-- `length_flatten_const` for blocks made from a list (`for a in l: block a`). -/
theorem length_flatMap_const (l : List β) (f : β → List α) (w : Nat) (h : ∀ b ∈ l, (f b).length = w) :
    (l.flatMap f).length = l.length * w := by
  rw [List.flatMap_def, length_flatten_const _ w (by simpa using h), List.length_map]

/-- position `i` of block `j` lies inside the first `n` blocks of length `L`. -/
theorem mul_add_lt {j n i L : Nat} (hj : j < n) (hi : i < L) : j * L + i < n * L :=
  Nat.lt_of_lt_of_le (by rw [Nat.succ_mul]; omega) (Nat.mul_le_mul_right L (Nat.succ_le_of_lt hj))

/-- entry `k` of block `i` of a concatenation of blocks of one length `L` sits at `i * L + k` (row-major order). -/
theorem getElem?_flatten_const (L : Nat) (l : List (List α)) (hl : ∀ b ∈ l, b.length = L) (i k : Nat) (hk : k < L) :
    l.flatten[i * L + k]? = (l[i]?).bind (·[k]?) := by
  induction l generalizing i with
  | nil => simp
  | cons b bs ih =>
    have hb : b.length = L := hl b List.mem_cons_self
    cases i with
    | zero => simp [List.getElem?_append_left (hb ▸ hk)]
    | succ i =>
      have e : (i + 1) * L + k = b.length + (i * L + k) := by rw [hb, Nat.succ_mul]; omega
      rw [List.flatten_cons, e, List.getElem?_append_right (Nat.le_add_right _ _), Nat.add_sub_cancel_left]
      simpa using ih (fun b' hb' => hl b' (List.mem_cons_of_mem _ hb')) i

/-- `numpy` fancy indexing `l[idx]` with every index in range. -/
theorem getElem?_filterMap_getElem? (l : List α) (idx : List Nat) (h : ∀ x ∈ idx, x < l.length) (j : Nat) :
    (idx.filterMap (l[·]?))[j]? = (idx[j]?).bind (l[·]?) := by
  induction idx generalizing j with
  | nil => rfl
  | cons x t ih =>
    have hx := List.getElem?_eq_getElem (h x List.mem_cons_self)
    rw [List.filterMap_cons, hx]
    cases j with
    | zero => exact hx.symm
    | succ j => exact ih (fun y hy => h y (List.mem_cons_of_mem _ hy)) j

theorem mem_intRange (lo hi x : Int) : x ∈ intRange lo hi ↔ lo ≤ x ∧ x < hi := by
  simp only [intRange, List.mem_map, List.mem_range, Int.ofNat_eq_natCast]
  constructor
  · rintro ⟨k, hk, rfl⟩; omega
  · intro h; exact ⟨(x - lo).toNat, by omega, by omega⟩

/-- Python's `x[i]` on a sequence of length `n`: position `i` for `0 ≤ i < n`, `i + n` for `-n ≤ i < 0`, `IndexError`
    (`none`) otherwise. -/
def pyNorm (n : Nat) (i : Int) : Option Nat :=
  if 0 ≤ i then (if i < n then some i.toNat else none) else if 0 ≤ i + n then some (i + n).toNat else none

theorem pyNorm_eq_some_iff {n : Nat} {k : Int} {j : Nat} : pyNorm n k = some j ↔ j < n ∧ (k = j ∨ k = (j : Int) - n) := by
  unfold pyNorm; (repeat' split) <;> simp only [Option.some.injEq, reduceCtorEq, false_iff] <;> omega

theorem pyNorm_eq_none_iff {n : Nat} {k : Int} : pyNorm n k = none ↔ k < -(n : Int) ∨ (n : Int) ≤ k := by
  unfold pyNorm; (repeat' split) <;> simp only [reduceCtorEq, false_iff, true_iff] <;> omega

theorem pyNorm_natCast {n i : Nat} (h : i < n) : pyNorm n (i : Int) = some i := pyNorm_eq_some_iff.mpr ⟨h, .inl rfl⟩
theorem pyNorm_sub_length {n i : Nat} (h : i < n) : pyNorm n ((i : Int) - n) = some i :=
  pyNorm_eq_some_iff.mpr ⟨h, .inr rfl⟩
theorem pyNorm_lt {n : Nat} {k : Int} {j : Nat} (h : pyNorm n k = some j) : j < n := (pyNorm_eq_some_iff.mp h).1

/-- `ins` walks down a list, puts `x` in front of the first `y` with `r x y`, and stops without inserting at a `y` with
    `d x y` ("already there"): the step of the models' insertion sorts (`sorted`, `numpy.sort`: `d` never holds —
    `C08.insertBy`, `C14.insertAsc`, `C17.insertSorted`) and of their `numpy.unique`s (`C13.insertSorted`,
    `C16.insertUniq`). -/
structure IsInsert (ins : α → List α → List α) (r d : α → α → Prop) [DecidableRel r] [DecidableRel d] : Prop where
  nil : ∀ x, ins x [] = [x]
  cons : ∀ x y t, ins x (y :: t) = if r x y then x :: y :: t else if d x y then y :: t else y :: ins x t

section insert
variable {ins : α → List α → List α} {r d : α → α → Prop} [DecidableRel r] [DecidableRel d]

theorem IsInsert.mem (h : IsInsert ins r d) (hd : ∀ a b, ¬ r a b → d a b → a = b) (x z : α) :
    ∀ l, z ∈ ins x l ↔ z = x ∨ z ∈ l
  | [] => by rw [h.nil]; simp
  | y :: t => by
    rw [h.cons]; split
    · simp
    · split
      · rename_i hxy hdxy; rw [hd _ _ hxy hdxy]; simp
      · rw [List.mem_cons, h.mem hd x z t, List.mem_cons]; exact or_left_comm

/-- sorted stays sorted, for every order `s` that the two tests decide. -/
theorem IsInsert.pairwise (h : IsInsert ins r d) (hd : ∀ a b, ¬ r a b → d a b → a = b) {s : α → α → Prop}
    (hr : ∀ a b, r a b → s a b) (hn : ∀ a b, ¬ r a b → ¬ d a b → s b a) (ht : ∀ a b c, s a b → s b c → s a c) (x : α) :
    ∀ l, l.Pairwise s → (ins x l).Pairwise s
  | [], _ => by rw [h.nil]; exact List.pairwise_singleton _ _
  | y :: t, hl => by
    have hy := List.pairwise_cons.mp hl
    rw [h.cons]; split
    · rename_i hxy
      exact List.pairwise_cons.mpr ⟨fun z hz => (List.mem_cons.mp hz).elim (· ▸ hr _ _ hxy) fun hz =>
        ht _ _ _ (hr _ _ hxy) (hy.1 z hz), hl⟩
    · split
      · exact hl
      · rename_i hxy hdxy
        exact List.pairwise_cons.mpr ⟨fun z hz => ((h.mem hd x z t).mp hz).elim (· ▸ hn _ _ hxy hdxy) (hy.1 z),
          h.pairwise hd hr hn ht x t hy.2⟩

theorem IsInsert.foldr_pairwise (h : IsInsert ins r d) (hd : ∀ a b, ¬ r a b → d a b → a = b) {s : α → α → Prop}
    (hr : ∀ a b, r a b → s a b) (hn : ∀ a b, ¬ r a b → ¬ d a b → s b a) (ht : ∀ a b c, s a b → s b c → s a c) :
    ∀ l : List α, (l.foldr ins []).Pairwise s
  | [] => List.Pairwise.nil
  | x :: l => h.pairwise hd hr hn ht x _ (h.foldr_pairwise hd hr hn ht l)

/-- a sort (no "already there" test) sorts, for every order `s` that `r` decides. -/
theorem IsInsert.foldr_sorted (h : IsInsert ins r fun _ _ => False) {s : α → α → Prop} (hr : ∀ a b, r a b → s a b)
    (hn : ∀ a b, ¬ r a b → s b a) (ht : ∀ a b c, s a b → s b c → s a c) (l : List α) : (l.foldr ins []).Pairwise s :=
  h.foldr_pairwise (fun _ _ _ => False.elim) hr (fun a b hab _ => hn a b hab) ht l

theorem IsInsert.mem_foldr (h : IsInsert ins r d) (hd : ∀ a b, ¬ r a b → d a b → a = b) (z : α) :
    ∀ l : List α, z ∈ l.foldr ins [] ↔ z ∈ l
  | [] => Iff.rfl
  | x :: l => by rw [List.foldr_cons, h.mem hd, h.mem_foldr hd z l, List.mem_cons]

/-- without the second test nothing is lost. -/
theorem IsInsert.perm (h : IsInsert ins r fun _ _ => False) (x : α) : ∀ l, (ins x l).Perm (x :: l)
  | [] => by rw [h.nil]
  | y :: t => by
    rw [h.cons, if_neg not_false]; split
    · exact .refl _
    · exact ((h.perm x t).cons y).trans (.swap x y t)

theorem IsInsert.foldr_perm (h : IsInsert ins r fun _ _ => False) : ∀ l : List α, (l.foldr ins []).Perm l
  | [] => .refl _
  | x :: l => (h.perm x _).trans ((h.foldr_perm l).cons x)

end insert

section Option

/-! A memo cell: `c : Option β` caches the value `v` when `∀ r, c = some r → r = v` (empty, or filled with `v`).  It
  mirrors `Box.__reciprocal_vects`, filled on the first read of `reciprocal_vects` and emptied by the `vects` setter;
  the `Coherent` predicates of the `Box` objects unfold to this shape. -/

theorem memo_cases {c : Option β} {v : β} (h : ∀ r, c = some r → r = v) : c = none ∨ c = some v := by
  cases c with
  | none => exact .inl rfl
  | some r => exact .inr (congrArg some (h r rfl))

theorem memo_getD {c : Option β} {v : β} (h : ∀ r, c = some r → r = v) : c.getD v = v := by
  rcases memo_cases h with rfl | rfl <;> rfl

theorem memo_of_none {c : Option β} (v : β) (h : c = none) : ∀ r, c = some r → r = v :=
  fun _ hr => nomatch h.symm.trans hr

theorem memo_some (v : β) : ∀ r, some v = some r → r = v := fun _ hr => (Option.some.inj hr).symm

end Option

end Atomman
