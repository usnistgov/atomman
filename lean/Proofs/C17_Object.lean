/-
  C17 — the object level.  p vectors handed over directly (`dispatchP`, `givenP`, `axes`); the `Strain` object: its cache after
  `solve_G` and after reads (`Coherent`: the values of the current inputs), a read after inputs were changed without `solve_G`
  (`FrozenAt`: the values of the inputs at the last `solve_G`), `asdict`, the homogeneous clause end to end; the
  `DifferentialDisplacement` object: `solve` through the arguments it resolves (`DObj.solve_eq`), its refusals, what it stores.
-/
import Proofs.C17_Slip
import Proofs.C17_Measures

namespace Atomman.C17
open Atomman
set_option linter.unusedSectionVars false


variable {K : Type} [Field K] [LinearOrder K] [IsStrictOrderedRing K]

/-- p vectors handed over: numpy cannot broadcast iff a sequence of sets has length neither 1 nor natoms. -/
theorem dispatchP_refuses_iff (n : Nat) (arg : PArg K) :
    dispatchP n arg = none ↔ ∃ pss, arg = .nested pss ∧ pss.length ≠ 1 ∧ pss.length ≠ n := by
  cases arg with
  | flat ps =>
    simp only [dispatchP]
    split_ifs <;> simp
  | nested pss =>
    simp only [dispatchP]
    split_ifs with h1 h2 <;> simp_all

/-- the broadcasting rule of the model is the test chain of the source (`gen_dispatchKind_eq_model`) read per kind. -/
theorem dispatchP_eq_byKind (n : Nat) (arg : PArg K) : dispatchP n arg = dispatchByKind n arg := by
  cases arg with
  | flat ps => simp only [dispatchP, dispatchByKind, dispatchKind]; split_ifs <;> rfl
  | nested pss => simp only [dispatchP, dispatchByKind, dispatchKind]; split_ifs <;> rfl

theorem transformP_roundtrip (T : M3 K) (hT : M3.mul T T.transpose = M3.one) (ps : List (V3 K)) :
    transformP T (transformP T.transpose ps) = ps := by
  unfold transformP
  rw [List.map_map]
  conv_rhs => rw [← List.map_id ps]
  apply List.map_congr_left
  intro v _
  simp only [Function.comp, id]
  rw [M3.mulVec_mulVec, hT, M3.one_mulVec]

/-- per-atom p vectors `pv i`, handed over as `Tᵀ (pv i)` together with `axes = T`
    (`T` orthogonal), are stored as `pv i`: the analysis sees the same reference as without `axes`. -/
theorem givenP_axes_roundtrip (n : Nat) (T : M3 K) (hT : M3.mul T T.transpose = M3.one)
    (pss : List (List (V3 K))) (hn : pss.length = n) (h1 : n ≠ 1) :
    ∃ pv, givenP n (.nested (pss.map (transformP T.transpose))) (some T) = some pv ∧
      ∀ i, pv i = pss.getD i [] := by
  refine ⟨fun i => transformP T ((pss.map (transformP T.transpose)).getD i []), ?_, ?_⟩
  · simp only [givenP, dispatchP, List.length_map, hn, h1, if_false, ne_eq, not_true_eq_false]
  · intro i
    exact (congrArg (transformP T) (getD_map_of_eq (transformP T.transpose) pss i (d := []) rfl)).trans
      (transformP_roundtrip T hT _)

/-- a shared set handed over as one array (its length differs from the number of atoms and from 1) reaches every
    atom, with `axes` applied. -/
theorem givenP_shared (n : Nat) (ps : List (V3 K)) (h1 : ps.length ≠ 1) (hn : ps.length ≠ n) (axes : Option (M3 K)) :
    ∃ pv, givenP n (.flat ps) axes = some pv ∧
      ∀ i, pv i = match axes with | none => ps | some T => transformP T ps := by
  cases axes with
  | none => exact ⟨fun _ => ps, by simp only [givenP, dispatchP, h1, hn, if_false, ne_eq, not_false_eq_true, if_true], fun _ => rfl⟩
  | some T =>
    exact ⟨fun _ => transformP T ps, by simp only [givenP, dispatchP, h1, hn, if_false, ne_eq, not_false_eq_true, if_true],
      fun _ => rfl⟩

/-- the 3-4-5 rotation about z. -/
def exT : M3 ℚ := ⟨⟨3/5, -4/5, 0⟩, ⟨4/5, 3/5, 0⟩, ⟨0, 0, 1⟩⟩

example : M3.mul exT exT.transpose = M3.one := by decide +kernel

/-- `givenP_axes_roundtrip` at work: two atoms, their p sets expressed in the rotated frame and handed over with
    `axes = exT` come back as they are in the system's frame. -/
example :
    (givenP 2 (.nested ([[⟨5, 0, 0⟩, ⟨0, 5, 1⟩], [⟨0, 0, 2⟩]].map (transformP exT.transpose))) (some exT)).map
      (fun pv => [pv 0, pv 1]) = some [[(⟨5, 0, 0⟩ : V3 ℚ), ⟨0, 5, 1⟩], [⟨0, 0, 2⟩]] := by decide +kernel

/-- the WRONG transformation (`np.dot(p, T)` = `Tᵀ p`) does not give them back. -/
example : transformP exT.transpose (transformP exT.transpose [(⟨5, 0, 0⟩ : V3 ℚ)]) ≠ [⟨5, 0, 0⟩] := by decide +kernel

/-- `theta_max` is stored iff `0 < v ≤ 180`; the setter never clears anything. -/
theorem setTheta_accepts_iff (o : SObj K) (v c : K) :
    (o.setTheta v c).inp.theta = (if 0 < v ∧ v ≤ 180 then v else o.inp.theta) ∧
    (o.setTheta v c).inp.cosT = (if 0 < v ∧ v ≤ 180 then c else o.inp.cosT) ∧
    (o.setTheta v c).cache = o.cache := by
  unfold SObj.setTheta
  simp only [Nat.cast_ofNat]
  by_cases h : v ≤ 180 ∧ 0 < v
  · have h' : 0 < v ∧ v ≤ 180 := ⟨h.2, h.1⟩
    rw [if_pos h, if_pos h', if_pos h']
    exact ⟨rfl, rfl, rfl⟩
  · have h' : ¬ (0 < v ∧ v ≤ 180) := fun hh => h ⟨hh.2, hh.1⟩
    rw [if_neg h, if_neg h', if_neg h']
    exact ⟨rfl, rfl, rfl⟩

section sobj
variable (mag : V3 K → K) (big : K)

/-- every cached quantity is the one determined by the current inputs. -/
def Coherent (o : SObj K) : Prop := ∀ p v, o.cache p = some v → o.inp.val mag big p = some v

theorem SObj.fresh_coherent (a : SIn K) : Coherent mag big (SObj.fresh a) := by
  intro p v h
  simp [SObj.fresh] at h

theorem setCache_coherent (a : SIn K) (c : SProp → Option (Payload K)) (p : SProp) (w : Payload K)
    (hc : ∀ q v, c q = some v → a.val mag big q = some v) (hw : a.val mag big p = some w) :
    Coherent mag big ⟨a, setCache c p w⟩ := by
  intro q v h
  simp only [setCache] at h
  by_cases hq : q = p
  · subst hq
    simp only [if_true, Option.some.injEq] at h
    subst h
    exact hw
  · simp only [hq, if_false] at h
    exact hc q v h

/-- the inputs after `solve_G(th)`, `th = (theta_max, its cosine)` as in `SIn`: only `theta_max` may have changed. -/
def SObj.inpAfter (o : SObj K) (th : Option (K × K)) : SIn K :=
  match th with
  | some vc => (o.setTheta vc.1 vc.2).inp
  | none => o.inp

theorem setTheta_pvec (o : SObj K) (v c : K) : (o.setTheta v c).inp.pvec = o.inp.pvec := by
  unfold SObj.setTheta
  split <;> rfl

theorem inpAfter_pvec (o : SObj K) (th : Option (K × K)) : (o.inpAfter th).pvec = o.inp.pvec := by
  unfold SObj.inpAfter
  cases th with
  | none => rfl
  | some vc => exact setTheta_pvec o _ _

theorem SObj.solve_inp (o : SObj K) (th : Option (K × K)) : (o.solve mag big th).1.inp = if (o.solve mag big th).2 then o.inpAfter th else o.inp := by
  unfold SObj.solve SObj.inpAfter
  cases hp : o.inp.pvec with
  | none => simp
  | some pv => cases th <;> simp

/-- `solve_G` refuses exactly when no p vectors are set, and then changes nothing. -/
theorem SObj.solve_refuses (o : SObj K) (th : Option (K × K)) :
    ((o.solve mag big th).2 = false ↔ o.inp.pvec = none) ∧ ((o.solve mag big th).2 = false → (o.solve mag big th).1 = o) := by
  unfold SObj.solve
  cases hp : o.inp.pvec with
  | none => simp
  | some pv => simp

/-- Whatever the object had cached (also values that belong to other inputs), after
    `solve_G` every cached quantity follows from the current inputs. -/
theorem SObj.solve_coherent (o : SObj K) (th : Option (K × K)) (h : (o.solve mag big th).2 = true) :
    Coherent mag big (o.solve mag big th).1 := by
  unfold SObj.solve at h ⊢
  cases hp : o.inp.pvec with
  | none => simp [hp] at h
  | some pv =>
    simp only
    apply setCache_coherent
    · intro q v hq
      simp at hq
    · cases th with
      | none => simp only [SIn.val, SIn.valG, hp, Option.map_some]
      | some vc => simp only [SIn.val, SIn.valG, setTheta_pvec, hp, Option.map_some]

theorem getG_spec (o : SObj K) (h : Coherent mag big o) :
    Coherent mag big (o.getG mag big).1 ∧ (o.getG mag big).1.inp = o.inp ∧ (o.getG mag big).2 = o.inp.val mag big .G := by
  unfold SObj.getG
  cases hc : o.cache .G with
  | some v => exact ⟨h, rfl, (h _ _ hc).symm⟩
  | none =>
    simp only
    cases hp : o.inp.pvec with
    | none =>
      have : o.solve mag big none = (o, false) := by simp [SObj.solve, hp]
      rw [this]
      refine ⟨h, rfl, ?_⟩
      simp only [hc, SIn.val, SIn.valG, hp, Option.map_none]
    | some pv =>
      have hs : (o.solve mag big none).2 = true := by simp [SObj.solve, hp]
      refine ⟨SObj.solve_coherent mag big o none hs, ?_, ?_⟩
      · rw [SObj.solve_inp, hs]; rfl
      · simp [SObj.solve, hp, setCache, SIn.val, SIn.valG]

theorem derived_spec (f : Payload K → Payload K) (p : SProp) (parent : SObj K × Option (Payload K)) (a : SIn K)
    (par : Option (Payload K)) (hco : Coherent mag big parent.1) (hin : parent.1.inp = a) (hv : parent.2 = par)
    (hval : a.val mag big p = par.map f) :
    Coherent mag big (derived f p parent).1 ∧ (derived f p parent).1.inp = a ∧ (derived f p parent).2 = a.val mag big p := by
  unfold derived
  cases hp : parent.2 with
  | none =>
    simp only
    refine ⟨hco, hin, ?_⟩
    rw [hval, ← hv, hp]; rfl
  | some v =>
    simp only
    have hw : a.val mag big p = some (f v) := by rw [hval, ← hv, hp]; rfl
    refine ⟨?_, hin, hw.symm⟩
    rw [hin]
    apply setCache_coherent _ _ _ _ _ _ _ hw
    intro q w hq
    rw [← hin]
    exact hco q w hq

/-- the quantity a cached property is computed from (`G` itself comes from `solve_G`) ... -/
def SProp.parent : SProp → SProp
  | .inv1 | .inv2 | .inv3 => .strain
  | .angvel2 => .rotation
  | _ => .G

/-- ... and the array function that computes it. -/
def SIn.fOf (a : SIn K) : SProp → Payload K → Payload K
  | .G => id
  | .strain => fStrain
  | .rotation => fRotation
  | .inv1 => fInv1
  | .inv2 => fInv2
  | .inv3 => fInv3
  | .angvel2 => fAngvel2
  | .nye => a.fNye

theorem SProp.parent_induction {P : SProp → Prop} (hG : P .G) (h : ∀ p, p ≠ .G → P p.parent → P p) : ∀ p, P p := by
  have hs := h .strain (by decide) hG
  have hr := h .rotation (by decide) hG
  intro p
  cases p
  exacts [hG, hs, h .inv1 (by decide) hs, h .inv2 (by decide) hs, h .inv3 (by decide) hs, hr,
    h .angvel2 (by decide) hr, h .nye (by decide) hG]

/-- every getter but `G` has one shape: the cached value, else computed from the parent's value and cached. -/
theorem SObj.read_eq (o : SObj K) {p : SProp} (hp : p ≠ .G) :
    o.read mag big p = match o.cache p with
      | some v => (o, some v)
      | none => derived (o.inp.fOf p) p (o.read mag big p.parent) := by
  cases p <;> first | exact absurd rfl hp | rfl

theorem SIn.val_eq (a : SIn K) {p : SProp} (hp : p ≠ .G) :
    a.val mag big p = (a.val mag big p.parent).map (a.fOf p) := by
  cases p <;> first | exact absurd rfl hp | rfl

theorem SProp.parent_ne_nye (p : SProp) : p.parent ≠ .nye := by cases p <;> decide

/-- only the Nye tensor is computed with something else of the inputs than its parent's value. -/
theorem SIn.fOf_eq (a b : SIn K) {p : SProp} (hp : p ≠ .nye) : a.fOf p = b.fOf p := by
  cases p <;> first | exact absurd rfl hp | rfl

theorem SIn.val_isSome (a : SIn K) (h : (a.val mag big .G).isSome) (p : SProp) : (a.val mag big p).isSome := by
  induction p using SProp.parent_induction with
  | hG => exact h
  | h p hp ih => rw [SIn.val_eq mag big a hp, Option.isSome_map]; exact ih

theorem SIn.val_none (a : SIn K) (h : a.val mag big .G = none) (p : SProp) : a.val mag big p = none := by
  induction p using SProp.parent_induction with
  | hG => exact h
  | h p hp ih => rw [SIn.val_eq mag big a hp, ih]; rfl

/-- A read on a coherent object returns the value determined by the current inputs alone,
    changes no input and leaves the object coherent. -/
theorem SObj.read_coherent (o : SObj K) (h : Coherent mag big o) (p : SProp) :
    Coherent mag big (o.read mag big p).1 ∧ (o.read mag big p).1.inp = o.inp ∧
      (o.read mag big p).2 = o.inp.val mag big p := by
  induction p using SProp.parent_induction with
  | hG => exact getG_spec mag big o h
  | h p hp ih =>
    rw [SObj.read_eq mag big o hp]
    cases hc : o.cache p with
    | some v => exact ⟨h, rfl, (h _ _ hc).symm⟩
    | none => exact derived_spec mag big _ _ _ o.inp _ ih.1 ih.2.1 ih.2.2 (SIn.val_eq mag big _ hp)

/-- a sequence of reads on a coherent object: the replies are the values determined by the inputs, in order. -/
theorem SObj.reads_coherent : ∀ (ps : List SProp) (o : SObj K), Coherent mag big o →
    (o.reads mag big ps).2 = ps.map (o.inp.val mag big) ∧ (o.reads mag big ps).1.inp = o.inp ∧
      Coherent mag big (o.reads mag big ps).1
  | [], o, h => ⟨rfl, rfl, h⟩
  | p :: ps, o, h => by
    obtain ⟨h1, h2, h3⟩ := SObj.read_coherent mag big o h p
    obtain ⟨r1, r2, r3⟩ := SObj.reads_coherent ps (o.read mag big p).1 h1
    simp only [SObj.reads, List.map_cons]
    refine ⟨?_, ?_, r3⟩
    · rw [r1, h2, h3]
    · rw [r2, h2]

/-- After `solve_G` (with or without `theta_max`) on an object in ANY state — e.g. one
    whose p vectors, positions or `theta_max` were changed after strain, rotation, invariants, angular velocity or
    the Nye tensor had been read — every sequence of reads returns the values that follow from the current inputs,
    i.e. exactly what a fresh object built from the current inputs returns. -/
theorem SObj.reads_after_solve (o : SObj K) (th : Option (K × K)) (h : (o.solve mag big th).2 = true)
    (ps : List SProp) :
    ((o.solve mag big th).1.reads mag big ps).2 = ps.map ((o.inpAfter th).val mag big) ∧
    ((o.solve mag big th).1.reads mag big ps).2 = ((SObj.fresh (o.inpAfter th)).reads mag big ps).2 := by
  have hi : (o.solve mag big th).1.inp = o.inpAfter th := by rw [SObj.solve_inp, h]; rfl
  have a := (SObj.reads_coherent mag big ps _ (SObj.solve_coherent mag big o th h)).1
  have b := (SObj.reads_coherent mag big ps _ (SObj.fresh_coherent mag big (o.inpAfter th))).1
  rw [hi] at a
  exact ⟨a, by rw [a, b]; rfl⟩

/-- what `G` is after `solve_G`: the per-atom `solveG` of the current p vectors against the current neighbour
    vectors (so `strainG_homogeneous` applies atom by atom). -/
theorem SObj.G_after_solve (o : SObj K) (pv : Nat → List (V3 K)) (hp : o.inp.pvec = some pv) (th : Option (K × K)) :
    (o.solve mag big th).1.cache .G = some (.mats ((List.range o.inp.n).map fun i =>
      solveG mag (o.inpAfter th).cosT big (pv i) (nbrVectors o.inp.cell o.inp.pos (o.inp.nlist i) i))) := by
  unfold SObj.solve SObj.inpAfter
  simp only [hp, setCache, if_true]
  cases th with
  | none => rfl
  | some vc =>
    simp only [SObj.setTheta]
    split <;> rfl

/-- the cache (the Nye tensor aside) holds the values of the inputs `a` — those at the last `solve_G`, which need not be the
    current ones — and `G` is among the cached quantities. -/
def FrozenAt (a : SIn K) (o : SObj K) : Prop :=
  (∃ g, o.cache .G = some g) ∧ ∀ p v, p ≠ .nye → o.cache p = some v → a.val mag big p = some v

theorem derived_frozen (f : Payload K → Payload K) (p : SProp) (hp : p ≠ .nye) (a : SIn K) (o : SObj K) (par : Option (Payload K))
    (hf : FrozenAt mag big a o) (hpar : par = none ∨ ∃ q, q ≠ .nye ∧ a.val mag big q = par)
    (hval : a.val mag big p = par.map f) (hsome : par.isSome) :
    FrozenAt mag big a (derived f p (o, par)).1 ∧ (derived f p (o, par)).1.inp = o.inp ∧
      (derived f p (o, par)).2 = a.val mag big p := by
  unfold derived
  cases par with
  | none => simp at hsome
  | some v =>
    have hw : a.val mag big p = some (f v) := by rw [hval]; rfl
    show FrozenAt mag big a ⟨o.inp, setCache o.cache p (f v)⟩ ∧ o.inp = o.inp ∧ some (f v) = a.val mag big p
    refine ⟨⟨?_, ?_⟩, rfl, hw.symm⟩
    · obtain ⟨g, hg⟩ := hf.1
      by_cases h : SProp.G = p
      · exact ⟨f v, by simp [setCache, h]⟩
      · exact ⟨g, by simp [setCache, h, hg]⟩
    · intro q w hq hc
      simp only [setCache] at hc
      by_cases h : q = p
      · subst h; simp at hc; subst hc; exact hw
      · simp [h] at hc; exact hf.2 q w hq hc

/-- The `stale_reads` behaviour, exactly: while `G` stays cached, a read of `G`, strain, rotation, an
    invariant or the angular velocity returns the value that follows from the inputs `a` the cache was filled from — the state
    at the last `solve_G` — WHATEVER the current inputs of the object are (positions, cell, p vectors, `theta_max` changed in
    between); the read changes no input and keeps the cache frozen at `a`. -/
theorem SObj.stale_read_frozen (a : SIn K) (o : SObj K) (hf : FrozenAt mag big a o) (p : SProp) (hp : p ≠ .nye) :
    FrozenAt mag big a (o.read mag big p).1 ∧ (o.read mag big p).1.inp = o.inp ∧
      (o.read mag big p).2 = a.val mag big p := by
  obtain ⟨g, hg⟩ := hf.1
  have hsome := SIn.val_isSome mag big a (by rw [hf.2 _ _ (by decide) hg]; rfl)
  induction p using SProp.parent_induction with
  | hG =>
    rw [show o.read mag big .G = (o, some g) by simp only [SObj.read, SObj.getG, hg]]
    exact ⟨hf, rfl, (hf.2 _ _ hp hg).symm⟩
  | h p hG ih =>
    obtain ⟨ih1, ih2, ih3⟩ := ih p.parent_ne_nye
    rw [SObj.read_eq mag big o hG]
    cases hc : o.cache p with
    | some v => exact ⟨hf, rfl, (hf.2 _ _ hp hc).symm⟩
    | none =>
      obtain ⟨r1, r2, r3⟩ := derived_frozen mag big (o.inp.fOf p) p hp a _ _ ih1 (Or.inr ⟨_, p.parent_ne_nye, ih3.symm⟩)
        (by rw [ih3, SIn.val_eq mag big a hG, SIn.fOf_eq a o.inp hp]) (by rw [ih3]; exact hsome _)
      exact ⟨r1, r2.trans ih2, r3⟩

/-- after a successful `solve_G` the cache is frozen at the inputs of that moment, whatever is done to the inputs afterwards
    (`inp'`: positions / cell edited in place, `set_p_vectors`, `theta_max = v` — none of them touches the cache). -/
theorem SObj.frozen_of_solve (o : SObj K) (th : Option (K × K)) (h : (o.solve mag big th).2 = true) (inp' : SIn K) :
    FrozenAt mag big (o.solve mag big th).1.inp ⟨inp', (o.solve mag big th).1.cache⟩ := by
  refine ⟨?_, fun p v _ hc => SObj.solve_coherent mag big o th h p v hc⟩
  unfold SObj.solve at h ⊢
  cases hp : o.inp.pvec with
  | none => simp [hp] at h
  | some pv => simp [setCache]

def exIn : SIn ℚ := ⟨⟨⟨⟨4, 0, 0⟩, ⟨0, 4, 0⟩, ⟨0, 0, 4⟩⟩, true, true, true⟩, 1, fun _ => ⟨0, 0, 0⟩, fun _ => [], some (fun _ => []), 27, 9/10⟩

def exStale : Payload ℚ := .mats [⟨⟨1, 2, 3⟩, ⟨2, 5, 6⟩, ⟨3, 6, 9⟩⟩]

/-- an object whose cached strain belongs to other inputs (e.g. the p vectors were replaced after it was read). -/
def exObj : SObj ℚ := ⟨exIn, setCache (fun _ => none) .strain exStale⟩

def exMag0 : V3 ℚ → ℚ := fun _ => 1

/-- as in the real class, a read WITHOUT `solve_G` returns the cached (stale) value … -/
example : (exObj.read exMag0 10 .strain).2 = some exStale := by decide +kernel

/-- … and after `solve_G` the same read returns the value of the current inputs (hypothesis of
    `solve_coherent` / `reads_after_solve` satisfied: `solve` succeeded). -/
example : (exObj.solve exMag0 10 none).2 = true ∧
    (((exObj.solve exMag0 10 none).1.reads exMag0 10 [.strain, .inv1, .G]).2 =
      [some (.mats [zeroM]), some (.nums [0]), some (.mats [M3.one])]) := by decide +kernel

/-- without p vectors `solve_G` refuses. -/
example : ((SObj.fresh { exIn with pvec := none }).solve exMag0 10 none).2 = false := by decide +kernel

theorem isSome_ite_some {α : Type} (c : Prop) [Decidable c] (x : α) (o : Option α) :
    (if c then some x else o).isSome ↔ c ∨ o.isSome := by
  by_cases h : c <;> simp [h]

/-- the names `asdict` accepts are the eight of `allKeyNames`. -/
theorem keyOf_isSome_iff (k : String) : (keyOf k).isSome ↔ k ∈ allKeyNames := by
  simp only [keyOf, isSome_ite_some, Option.isSome_none, Bool.false_eq_true, or_false, allKeyNames, List.mem_cons,
    List.mem_nil_iff]

/-- the plan succeeds iff every name asked for is one of the eight. -/
theorem planKeys_accepts_iff : ∀ ks : List String, (planKeys ks).2 = false ↔ ∀ k ∈ ks, k ∈ allKeyNames
  | [] => by simp [planKeys]
  | k :: ks => by
    have ih := planKeys_accepts_iff ks
    have hk := keyOf_isSome_iff k
    unfold planKeys
    cases h : keyOf k with
    | none =>
      simp only [h, Option.isSome_none, Bool.false_eq_true, false_iff] at hk
      simp only [Bool.true_eq_false, false_iff]
      intro hall
      exact hk (hall k List.mem_cons_self)
    | some p =>
      simp only [h, Option.isSome_some, true_iff] at hk
      simp only [ih, List.mem_cons, forall_eq_or_imp, hk, true_and]

/-- `asdict(None)`: the six default keys in source order. -/
theorem asdictPlan_default : asdictPlan none = ([.strain, .inv1, .inv2, .inv3, .angvel2, .nye], false) := by
  decide

/-- on a coherent object with p vectors every read of a key list succeeds with the values of the current inputs, in key order;
    inputs and coherence are kept. -/
theorem SObj.readsUntil_coherent (pv : Nat → List (V3 K)) : ∀ (ps : List SProp) (o : SObj K), Coherent mag big o →
    o.inp.pvec = some pv →
    ∃ vs, (o.readsUntil mag big ps).2 = some vs ∧ vs.map some = ps.map (o.inp.val mag big) ∧
      (o.readsUntil mag big ps).1.inp = o.inp ∧ Coherent mag big (o.readsUntil mag big ps).1
  | [], o, h, _ => ⟨[], rfl, rfl, rfl, h⟩
  | p :: ps, o, h, hp => by
    obtain ⟨h1, h2, h3⟩ := SObj.read_coherent mag big o h p
    obtain ⟨v, hv⟩ := Option.isSome_iff_exists.mp
      (SIn.val_isSome mag big o.inp (by simp only [SIn.val, SIn.valG, hp, Option.map_some, Option.isSome_some]) p)
    obtain ⟨vs, r1, r2, r3, r4⟩ := SObj.readsUntil_coherent pv ps (o.read mag big p).1 h1 (by rw [h2]; exact hp)
    refine ⟨v :: vs, ?_, ?_, ?_, ?_⟩
    · simp only [SObj.readsUntil, h3, hv, r1, Option.map_some]
    · simp only [List.map_cons, r2, h2, hv]
    · simp only [SObj.readsUntil, h3, hv]; rw [r3, h2]
    · simp only [SObj.readsUntil, h3, hv]; exact r4

/-- `asdict` on a coherent object with p vectors: the values of the current inputs in key order, or `AssertionError` when the
    plan met an unknown key; inputs and coherence are kept either way. -/
theorem SObj.asdict_spec (o : SObj K) (h : Coherent mag big o) (pv : Nat → List (V3 K)) (hp : o.inp.pvec = some pv)
    (props : Option (List String)) :
    ∃ vs, vs.map some = (asdictPlan props).1.map (o.inp.val mag big) ∧
      (o.asdict mag big props).2 = (if (asdictPlan props).2 then .error .assert else .ok vs) ∧
      (o.asdict mag big props).1.inp = o.inp ∧ Coherent mag big (o.asdict mag big props).1 := by
  obtain ⟨vs, r1, r2, r3, r4⟩ := SObj.readsUntil_coherent mag big pv (asdictPlan props).1 o h hp
  refine ⟨vs, r2, ?_, ?_, ?_⟩ <;> simp only [SObj.asdict, r1] <;> assumption

/-- without p vectors: ValueError unless the FIRST key is unknown -/
theorem SObj.asdict_no_reference (a : SIn K) (hp : a.pvec = none) (props : Option (List String)) :
    ((SObj.fresh a).asdict mag big props).2 =
      (match (asdictPlan props).1 with
       | [] => if (asdictPlan props).2 then .error .assert else .ok []
       | _ :: _ => .error .value) := by
  unfold SObj.asdict
  generalize asdictPlan props = plan
  obtain ⟨ks, bad⟩ := plan
  cases ks with
  | nil => simp [SObj.readsUntil]
  | cons p ps =>
    have : ((SObj.fresh a).read mag big p).2 = none := by
      have := (SObj.read_coherent mag big _ (SObj.fresh_coherent mag big a) p).2.2
      rw [this]
      exact SIn.val_none mag big a (by simp only [SIn.val, SIn.valG, hp, Option.map_none]) p
    simp [SObj.readsUntil, this]

theorem computeG_const (a : SIn K) (pv : Nat → List (V3 K)) (X : M3 K)
    (hG : ∀ i < a.n, solveG mag a.cosT big (pv i) (nbrVectors a.cell a.pos (a.nlist i) i) = X) :
    a.computeG mag big pv = List.replicate a.n X := by
  unfold SIn.computeG
  rw [List.eq_replicate_iff]
  refine ⟨by simp, fun b hb => ?_⟩
  obtain ⟨i, hi, rfl⟩ := List.mem_map.mp hb
  exact hG i (List.mem_range.mp hi)

theorem computeNye_const (a : SIn K) (X : M3 K) (hnl : ∀ i < a.n, ∀ j ∈ a.nlist i, j < a.n) :
    a.computeNye (List.replicate a.n X) = List.replicate a.n zeroM := by
  unfold SIn.computeNye
  rw [List.eq_replicate_iff]
  refine ⟨by simp, fun b hb => ?_⟩
  obtain ⟨i, hi, rfl⟩ := List.mem_map.mp hb
  have hi' := List.mem_range.mp hi
  apply nye_zero
  intro j hj
  have hj' := hnl i hi' j hj
  simp [List.getD_eq_getElem?_getD, hi', hj']

/-- END TO END, fresh `Strain` object: if the per-atom computation gives `X` at every atom, the eight reads return `X`, the
    measures that follow from it, and Nye = 0, at every atom. -/
theorem SObj.api_constant_G (a : SIn K) (pv : Nat → List (V3 K)) (hp : a.pvec = some pv) (X : M3 K)
    (hG : ∀ i < a.n, solveG mag a.cosT big (pv i) (nbrVectors a.cell a.pos (a.nlist i) i) = X)
    (hnl : ∀ i < a.n, ∀ j ∈ a.nlist i, j < a.n) :
    ((SObj.fresh a).reads mag big [.G, .strain, .rotation, .inv1, .inv2, .inv3, .angvel2, .nye]).2 =
      [some (.mats (List.replicate a.n X)), some (.mats (List.replicate a.n (strain X))),
       some (.mats (List.replicate a.n (rotation X))), some (.nums (List.replicate a.n (invariant1 (strain X)))),
       some (.nums (List.replicate a.n (invariant2 (strain X)))), some (.nums (List.replicate a.n (invariant3 (strain X)))),
       some (.nums (List.replicate a.n (angularVelocitySq (rotation X)))), some (.mats (List.replicate a.n zeroM))] := by
  rw [(SObj.reads_coherent mag big _ _ (SObj.fresh_coherent mag big a)).1]
  have hg : a.valG mag big = some (.mats (List.replicate a.n X)) := by
    simp only [SIn.valG, hp, Option.map_some, computeG_const mag big a pv X hG]
  simp only [List.map_cons, List.map_nil, SIn.val, SIn.valStrain, SIn.valRotation, hg, Option.map_some, fStrain, fRotation,
    fInv1, fInv2, fInv3, fAngvel2, SIn.fNye, List.map_replicate, SObj.fresh, computeNye_const a X hnl]

/-- End to end, the user-level statement of the homogeneous clause: a `Strain` object
    built for a system of `n` atoms whose current neighbour vectors are the images `q = F p` of the reference vectors
    (pairing hypothesis of `solveG_homogeneous` at every atom, full rank, list entries inside the system) answers the
    reads `G, strain, rotation, invariant1-3, angularvelocity², nye` — in this or any other order, see
    `SObj.reads_coherent` — with `F⁻ᵀ` at EVERY atom, the strain / rotation / invariants that follow from it, and a
    vanishing Nye tensor. -/
theorem SObj.api_homogeneous (a : SIn K) (pv : Nat → List (V3 K)) (hp : a.pvec = some pv) (F : M3 K) (hF : M3.det F ≠ 0)
    (ks : Nat → List Nat)
    (hlen : ∀ i < a.n, (a.nlist i).length = (ks i).length)
    (hbest : ∀ i < a.n, ∀ e ∈ (nbrVectors a.cell a.pos (a.nlist i) i).zip (ks i), IsBest mag a.cosT (pv i) e.1 e.2)
    (hnd : ∀ i < a.n, (ks i).Nodup)
    (hq : ∀ i < a.n, ∀ e ∈ (nbrVectors a.cell a.pos (a.nlist i) i).zip (ks i), ∀ p, (pv i)[e.2]? = some p →
      e.1 = M3.mulVec F p)
    (hne : ∀ i < a.n, a.nlist i ≠ [])
    (hrank : ∀ i < a.n, M3.det (qtqV (nbrVectors a.cell a.pos (a.nlist i) i)) ≠ 0)
    (hnl : ∀ i < a.n, ∀ j ∈ a.nlist i, j < a.n) :
    ((SObj.fresh a).reads mag big [.G, .strain, .rotation, .inv1, .inv2, .inv3, .angvel2, .nye]).2 =
      [some (.mats (List.replicate a.n (M3.inv F.transpose))),
       some (.mats (List.replicate a.n (strain (M3.inv F.transpose)))),
       some (.mats (List.replicate a.n (rotation (M3.inv F.transpose)))),
       some (.nums (List.replicate a.n (invariant1 (strain (M3.inv F.transpose))))),
       some (.nums (List.replicate a.n (invariant2 (strain (M3.inv F.transpose))))),
       some (.nums (List.replicate a.n (invariant3 (strain (M3.inv F.transpose))))),
       some (.nums (List.replicate a.n (angularVelocitySq (rotation (M3.inv F.transpose))))),
       some (.mats (List.replicate a.n zeroM))] := by
  apply SObj.api_constant_G mag big a pv hp _ _ hnl
  intro i hi
  apply solveG_homogeneous mag a.cosT big _ _ (ks i) F hF _ (hbest i hi) (hnd i hi) (hq i hi) _ (hrank i hi)
  · simpa [nbrVectors] using hlen i hi
  · simpa [nbrVectors] using hne i hi

end sobj

def apiCell : Cell ℚ := ⟨⟨⟨10, 0, 0⟩, ⟨0, 10, 0⟩, ⟨0, 0, 10⟩⟩, false, false, false⟩

def apiRef : Nat → V3 ℚ
  | 0 => ⟨0, 0, 0⟩ | 1 => ⟨1, 0, 0⟩ | 2 => ⟨0, 1, 0⟩ | _ => ⟨0, 0, 1⟩

def apiF : M3 ℚ := ⟨⟨11/10, 1/10, 0⟩, ⟨0, 1, 0⟩, ⟨0, 1/20, 19/20⟩⟩

def apiNl : Nat → List Nat := fun i => (List.range 4).filter (· ≠ i)

def apiMag : V3 ℚ → ℚ := fun v => (V3.normSq v + 1) / 2

def apiIn : SIn ℚ := ⟨apiCell, 4, fun i => M3.mulVec apiF (apiRef i), apiNl,
  some (fun i => nbrVectors apiCell apiRef (apiNl i) i), 27, 1/2⟩

/-- hypotheses and conclusion of `SObj.api_constant_G` / `api_homogeneous`: a four-atom cluster (every atom sees the three
    others: three independent vectors each) under the shear + stretch `apiF`; reference = the undeformed cluster. -/
example :
    (∀ i ∈ List.range 4, solveG apiMag apiIn.cosT 10000000000000000 (nbrVectors apiCell apiRef (apiNl i) i)
        (nbrVectors apiIn.cell apiIn.pos (apiIn.nlist i) i) = M3.inv apiF.transpose) ∧
    (∀ i ∈ List.range 4, ∀ j ∈ apiIn.nlist i, j < 4) ∧
    M3.inv apiF.transpose = ⟨⟨10/11, 0, 0⟩, ⟨-1/11, 1, -1/19⟩, ⟨0, 0, 20/19⟩⟩ ∧
    strain (M3.inv apiF.transpose) = ⟨⟨1/11, 1/22, 0⟩, ⟨1/22, 0, 1/38⟩, ⟨0, 1/38, -1/19⟩⟩ ∧
    invariant1 (strain (M3.inv apiF.transpose)) = 8/209 := by
  decide +kernel

/-- non-vacuity: the four-atom cluster of `apiIn`, solved, then its positions edited in place (atom 1 moved): the cache is
    frozen at the inputs of the solve, a read of `strain` returns the value of THOSE inputs, not of the current ones. -/
example :
    let o := ((SObj.fresh apiIn).solve apiMag 10000000000000000 none).1
    let o' := o.setPos (fun i => if i = 1 then ⟨3/2, 1/4, 0⟩ else apiIn.pos i)
    ((o'.read apiMag 10000000000000000 .strain).2 == apiIn.val apiMag 10000000000000000 .strain) = true ∧
    ((o'.read apiMag 10000000000000000 .strain).2 == o'.inp.val apiMag 10000000000000000 .strain) = false := by
  decide +kernel

-- KEEP THIS THEOREM IN FRONT OF `DObj.listFor` (also when the file is split): its statement and `listFor`'s body contain the
-- same nested `match`, Lean names the auxiliary matchers after whichever is elaborated first, and the audited statement is
-- the one with its own matchers.
/-- the list `solve` uses: the given one, else the one of the reference system for the cutoff, else the stored one
    (what `DObj.listFor` below names). -/
theorem DObj.solve_list (o : DObj K) (a : DArgs K) (h : (o.solve a).2 = none) :
    (o.solve a).1.nlist = (match a.neighbors with
      | some nl => some nl
      | none => match a.cutoff with
        | some ll => some (if (o.solve a).1.reference = 0 then ll.1 else ll.2)
        | none => o.nlist) := by
  unfold DObj.solve at h ⊢
  simp only at h ⊢
  split at h
  · simp at h
  · split at h
    · simp at h
    · split at h
      · simp at h
      · split at h
        · simp at h
        · rename_i hnn x1 r hr x2 nl hnl hne
          simp only [hnn, hne, ↓reduceIte, Bool.false_eq_true]
          exact hnl.symm

/-- the list a `solve` call designates under the reference `r`: given > cutoff list of the reference system > stored. -/
def DObj.listFor (o : DObj K) (a : DArgs K) (r : Nat) : Option (List (List Nat)) :=
  match a.neighbors with
  | some nl => some nl
  | none => match a.cutoff with
    | some ll => some (if r = 0 then ll.1 else ll.2)
    | none => o.nlist

/-- `solve` read through the arguments it resolves: the systems now in use, the reference, the designated list.  (The source tie
    `gen_ddSolveArgs_eq_model`, Proofs/C17_Source.lean, reads the same definition a second way, along the statement order of
    the source; a change to `DObj.solve` has to be followed in both.) -/
theorem DObj.solve_eq (o : DObj K) (a : DArgs K) :
    o.solve a =
      (let o1 : DObj K := { o with sys0 := a.sys0.getD o.sys0, sys1 := a.sys1.getD o.sys1 }
       if o1.sys0.n = o1.sys1.n ∧ ∀ r, a.reference = some r → r = 0 ∨ r = 1 then
         let o2 : DObj K := { o1 with reference := a.reference.getD o.reference }
         match o.listFor a o2.reference with
         | none => (o2, some .value)
         | some nl =>
           if nl.all (·.isEmpty) then ({ o2 with nlist := some nl }, some .value)
           else ({ o2 with nlist := some nl,
                           dd := some (ddvectors o1.sys0.cell o1.sys1.cell o1.sys0.pos o1.sys1.pos nl) }, none)
       else (o1, some .assert)) := by
  unfold DObj.solve
  simp only [ne_eq, ite_not]
  by_cases hc : (a.sys0.getD o.sys0).n = (a.sys1.getD o.sys1).n
  · rcases hr : a.reference with _ | r
    · rw [if_pos hc, if_pos ⟨hc, fun r h => nomatch h⟩]; rfl
    · by_cases h01 : r = 0 ∨ r = 1
      · rw [if_pos hc, if_pos ⟨hc, fun r' h => Option.some.inj h ▸ h01⟩]
        simp only [if_pos h01]; rfl
      · rw [if_pos hc, if_neg fun h => h01 (h.2 r rfl)]
        simp only [if_neg h01]
  · rw [if_neg hc, if_neg fun h => hc h.1]

/-- `solve` raises `AssertionError` exactly when the atom counts of the systems now in use
    differ or a `reference` other than 0 / 1 is given; `ValueError` exactly when (those being fine) no list is designated
    or the designated list has no pair at all; and succeeds exactly otherwise. -/
theorem DObj.solve_refuses_iff (o : DObj K) (a : DArgs K) :
    let cnt := (a.sys0.getD o.sys0).n = (a.sys1.getD o.sys1).n
    let refOk := ∀ r, a.reference = some r → r = 0 ∨ r = 1
    let r := a.reference.getD o.reference
    ((o.solve a).2 = some .assert ↔ ¬ cnt ∨ ¬ refOk) ∧
    ((o.solve a).2 = some .value ↔ cnt ∧ refOk ∧
      (o.listFor a r = none ∨ ∃ nl, o.listFor a r = some nl ∧ nl.all (·.isEmpty) = true)) ∧
    ((o.solve a).2 = none ↔ cnt ∧ refOk ∧ ∃ nl, o.listFor a r = some nl ∧ nl.all (·.isEmpty) = false) := by
  -- the three iffs read off the leaves of `solve_eq`.  The two propositions are made atoms (once the `if` that carries their
  -- `Decidable` instance is gone) so that `simp` does not work inside them, and `List.all_eq_true/false` stay out so that
  -- `nl.all (·.isEmpty)` keeps the form it has in the statement.
  rw [DObj.solve_eq]
  by_cases h : (a.sys0.getD o.sys0).n = (a.sys1.getD o.sys1).n ∧ ∀ r, a.reference = some r → r = 0 ∨ r = 1
  · simp only [if_pos h]
    generalize ((a.sys0.getD o.sys0).n = (a.sys1.getD o.sys1).n) = cnt at h ⊢
    generalize (∀ r, a.reference = some r → r = 0 ∨ r = 1) = refOk at h ⊢
    rcases o.listFor a (a.reference.getD o.reference) with _ | nl
    · simp [h.1, h.2]
    · rcases he : nl.all (·.isEmpty) with _ | _ <;> simp [h.1, h.2, he, -List.all_eq_true, -List.all_eq_false]
  · simp only [if_neg h]
    generalize ((a.sys0.getD o.sys0).n = (a.sys1.getD o.sys1).n) = cnt at h ⊢
    generalize (∀ r, a.reference = some r → r = 0 ∨ r = 1) = refOk at h ⊢
    simp only [not_and_or.mp h, reduceCtorEq, Option.some.injEq, false_iff, not_and, true_and]
    exact ⟨fun hc hr => absurd ⟨hc, hr⟩ h, fun hc hr => absurd ⟨hc, hr⟩ h⟩

theorem DObj.solve_ok (o : DObj K) (a : DArgs K) (h : (o.solve a).2 = none) :
    ∃ nl, o.listFor a (a.reference.getD o.reference) = some nl ∧
      o.solve a = (⟨a.sys0.getD o.sys0, a.sys1.getD o.sys1, a.reference.getD o.reference, some nl,
        some (ddvectors (a.sys0.getD o.sys0).cell (a.sys1.getD o.sys1).cell (a.sys0.getD o.sys0).pos
          (a.sys1.getD o.sys1).pos nl)⟩, none) := by
  obtain ⟨hc, hr, nl, hl, he⟩ := (DObj.solve_refuses_iff o a).2.2.1 h
  refine ⟨nl, hl, ?_⟩
  rw [DObj.solve_eq]
  simp only [if_pos (And.intro hc hr), hl, he, Bool.false_eq_true, if_false]

/-- After a successful `solve` the stored vectors are those of the stored systems, each with
    its own cell, over the stored neighbour list. -/
theorem DObj.solve_current (o : DObj K) (a : DArgs K) (h : (o.solve a).2 = none) :
    ∃ nl, (o.solve a).1.nlist = some nl ∧
      (o.solve a).1.dd = some (ddvectors (o.solve a).1.sys0.cell (o.solve a).1.sys1.cell
        (o.solve a).1.sys0.pos (o.solve a).1.sys1.pos nl) ∧
      (o.solve a).1.sys0 = a.sys0.getD o.sys0 ∧ (o.solve a).1.sys1 = a.sys1.getD o.sys1 := by
  obtain ⟨nl, _, e⟩ := DObj.solve_ok o a h
  rw [e]
  exact ⟨nl, rfl, rfl, rfl, rfl⟩

/-- The outcome of `solve` does not depend on the vectors the object held before. -/
theorem DObj.solve_forgets (o : DObj K) (a : DArgs K) (x : Option (List (V3 K))) (h : (o.solve a).2 = none) :
    ({ o with dd := x }.solve a) = (o.solve a) := by
  have h' : ({ o with dd := x }.solve a).2 = none :=
    (DObj.solve_refuses_iff _ a).2.2.2 ((DObj.solve_refuses_iff o a).2.2.1 h)
  obtain ⟨nl, hl, e⟩ := DObj.solve_ok o a h
  obtain ⟨nl', hl', e'⟩ := DObj.solve_ok _ a h'
  rw [e, e', Option.some.inj (hl'.symm.trans hl)]

/-- end to end: DifferentialDisplacement(...).solve on a displaced copy -/
theorem DObj.api_differences (o : DObj K) (a : DArgs K) (c : Cell K) (n : Nat) (pos0 u : Nat → V3 K)
    (h0 : a.sys0.getD o.sys0 = ⟨c, n, pos0⟩) (h1 : a.sys1.getD o.sys1 = ⟨c, n, fun k => pos0 k + u k⟩)
    (h : (o.solve a).2 = none)
    (hst : ∀ nl, (o.solve a).1.nlist = some nl → ∀ i nbrs, nl[i]? = some nbrs → ∀ j ∈ nbrs,
      c.dv (pos0 i + u i) (pos0 j + u j) = c.dv (pos0 i) (pos0 j) + (u j - u i)) :
    ∃ nl, (o.solve a).1.nlist = some nl ∧
      (o.solve a).1.dd = some ((nl.zipIdx).flatMap fun (e : List Nat × Nat) => e.1.map fun j => u j - u e.2) := by
  obtain ⟨nl, hnl, hdd, hs0, hs1⟩ := DObj.solve_current o a h
  refine ⟨nl, hnl, ?_⟩
  rw [hdd, hs0, hs1, h0, h1]
  simp only
  rw [ddvectors_are_differences c pos0 u nl (hst nl hnl)]

def exSys (x : ℚ) : Sys ℚ := ⟨⟨⟨⟨4, 0, 0⟩, ⟨0, 4, 0⟩, ⟨0, 0, 4⟩⟩, true, true, true⟩, 2, fun i => if i = 0 then ⟨0, 0, 0⟩ else ⟨x, 0, 0⟩⟩

def exD : DObj ℚ := ⟨exSys 1, exSys 1, 1, none, some [⟨9, 9, 9⟩]⟩

/-- hypotheses of `DObj.solve_current` / `solve_forgets` are satisfiable; an atom with ONE neighbour and one with
    NONE: one stored vector, `u_j - u_i`. -/
example : (exD.solve ⟨none, some (exSys (3/2)), some [[1], []], none, some 0⟩).2 = none ∧
    (exD.solve ⟨none, some (exSys (3/2)), some [[1], []], none, some 0⟩).1.dd = some [⟨1/2, 0, 0⟩] := by decide +kernel

/-- no list and no cutoff, nothing stored: `ValueError`; `reference = 2`: `AssertionError`. -/
example : (exD.solve ⟨none, none, none, none, none⟩).2 = some .value ∧
    (exD.solve ⟨none, none, some [[1], []], none, some 2⟩).2 = some .assert := by decide +kernel

end Atomman.C17
