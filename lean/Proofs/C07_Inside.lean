/-
  C07 — the facts behind `data_wellformed` and `data_unwrap_positions`: this model's `wrap` is C05's `wrap`; the cell a
  reader builds from the header is the cell divided by the length unit, so every written atom is inside the written
  bounds (C05's `wrap_inside`) and the image flags lead back to
  the original position; `lo < hi`; the tilt line is there iff a tilt is non-zero.
-/
import Proofs.C07_DataFile
import Proofs.C05_Lemmas

namespace Atomman.C07
open Atomman
set_option linter.unusedSimpArgs false

theorem wrapBounds_eq (periodic : Bool) (x : ℚ) (xs : List ℚ) :
    wrapBounds periodic (x :: xs) = C05.axisBounds (1 / 1000) periodic (x :: xs) := by
  unfold wrapBounds C05.axisBounds
  cases periodic with
  | true => rfl
  | false =>
    simp only [Bool.false_eq_true, if_false, listMin, listMax, C05.minOf, C05.maxOf, wrapMargin]
    rfl

/-- stated for at least one atom: with none, this model pads a non-periodic axis (`wrapBounds false [] = (-1/1000, 1 + 1/1000)`)
    where C05's leaves it (`C05.axisBounds _ false [] = (0, 1)`), so the cells differ; hence the `cases pos` in the users. -/
theorem wrap_eq_c05 (box : Box ℚ) (pbc : V3 Bool) (p : V3 ℚ) (ps : List (V3 ℚ)) :
    (wrap box pbc (p :: ps)).box = (C05.wrap Rat.floor (1 / 1000) box pbc (p :: ps)).box ∧
    (wrap box pbc (p :: ps)).pos = (C05.wrap Rat.floor (1 / 1000) box pbc (p :: ps)).pos ∧
    (wrap box pbc (p :: ps)).flags = (C05.wrap Rat.floor (1 / 1000) box pbc (p :: ps)).flags := by
  refine ⟨?_, ?_, ?_⟩
  · simp only [wrap, C05.wrap, C05.paddedBox, C05.bounds, List.map_cons, wrapBounds_eq]
  · simp only [wrap, C05.wrap, C05.atomPos, C05.atomFlags, C05.flagsOf, C05.flagOf, C05.subFlags, wrapFlag]
    rw [List.zipWith_map_right, List.zipWith_self, List.map_map, List.map_map]
    rfl
  · simp only [wrap, C05.wrap, C05.atomFlags, C05.flagsOf, C05.flagOf, wrapFlag, List.map_map]
    rfl

theorem isFloor_ratFloor : C05.IsFloor (K := ℚ) Rat.floor := C05.isFloor_ratFloor

theorem norm_facts (b : Box ℚ) (h : b.isLammpsNorm = true) :
    b.vects.r0.y = 0 ∧ b.vects.r0.z = 0 ∧ b.vects.r1.z = 0 ∧ 0 < b.vects.r0.x ∧ 0 < b.vects.r1.y ∧ 0 < b.vects.r2.z :=
  (Box.isLammpsNorm_iff b).mp h

theorem v3_sub_def (a b : V3 ℚ) : a - b = ⟨a.x - b.x, a.y - b.y, a.z - b.z⟩ := rfl

theorem v3_add_def (a b : V3 ℚ) : a + b = ⟨a.x + b.x, a.y + b.y, a.z + b.z⟩ := rfl

theorem v3map_divBy_add (lf : Option ℚ) (a b : V3 ℚ) :
    v3map (divBy lf) (a + b) = v3map (divBy lf) a + v3map (divBy lf) b := by
  cases lf with
  | none => rfl
  | some c => simp only [v3map, divBy, v3_add_def, add_div]

/-- a LAMMPS-normal cell is the cell of its own header numbers. -/
theorem boxOfHiLo_hiLoOf (b : Box ℚ) (hn : b.isLammpsNorm = true) : boxOfHiLo (hiLoOf b) = b := by
  obtain ⟨h1, h2, h3, -⟩ := norm_facts b hn
  obtain ⟨⟨⟨ax, ay, az⟩, ⟨bx, by', bz⟩, ⟨cx, cy, cz⟩⟩, o⟩ := b
  simp only at h1 h2 h3
  subst h1 h2 h3
  simp only [boxOfHiLo, hiLoOf, add_sub_cancel_left]

/-- the cell of any header is lower triangular. -/
theorem det_boxOfHiLo (h : HiLo) :
    M3.det (boxOfHiLo h).vects = (h.xhi - h.xlo) * ((h.yhi - h.ylo) * (h.zhi - h.zlo)) := by
  simp only [boxOfHiLo, M3.det, V3.dot, V3.cross]
  ring

/-- the cell vectors an independent reader builds from the header written in the length unit `lf` are the
    cell vectors divided by the unit; so is the origin (by `rfl`). -/
theorem vecMul_header (b : Box ℚ) (hn : b.isLammpsNorm = true) (lf : Option ℚ) (i : V3 ℚ) :
    M3.vecMul i (boxOfHiLo ((hiLoOf b).map (divBy lf))).vects = v3map (divBy lf) (M3.vecMul i b.vects) := by
  cases lf with
  | none => exact congrArg (fun B : Box ℚ => M3.vecMul i B.vects) (boxOfHiLo_hiLoOf b hn)
  | some c =>
    obtain ⟨h1, h2, h3, -⟩ := norm_facts b hn
    simp only [boxOfHiLo, hiLoOf, HiLo.map, divBy, v3map, M3.vecMul, h1, h2, h3, V3.mk.injEq]
    refine ⟨?_, ?_, ?_⟩ <;> ring

theorem relToCart_header (b : Box ℚ) (hn : b.isLammpsNorm = true) (lf : Option ℚ) (s : V3 ℚ) :
    (boxOfHiLo ((hiLoOf b).map (divBy lf))).relToCart s = v3map (divBy lf) (b.relToCart s) := by
  rw [Box.relToCart, Box.relToCart, v3map_divBy_add, vecMul_header b hn]
  rfl

theorem det_ne_zero_of_norm (b : Box ℚ) (hn : b.isLammpsNorm = true) : M3.det b.vects ≠ 0 :=
  (Box.det_pos_of_normal b hn).ne'

theorem det_header_ne_zero (b : Box ℚ) (hn : b.isLammpsNorm = true) (lf : Option ℚ) (hlf : ∀ c, lf = some c → c ≠ 0) :
    M3.det (boxOfHiLo ((hiLoOf b).map (divBy lf))).vects ≠ 0 := by
  cases lf with
  | none => exact (boxOfHiLo_hiLoOf b hn).symm ▸ det_ne_zero_of_norm b hn
  | some c =>
    obtain ⟨-, -, -, h4, h5, h6⟩ := norm_facts b hn
    have hc := hlf c rfl
    rw [det_boxOfHiLo]
    simp only [hiLoOf, HiLo.map, divBy, ← sub_div, add_sub_cancel_left]
    exact mul_ne_zero (div_ne_zero h4.ne' hc) (mul_ne_zero (div_ne_zero h5.ne' hc) (div_ne_zero h6.ne' hc))

/-- dividing the header numbers and a position by the length unit does not change relative coordinates: both cells
    send the same relative coordinates to the position, resp. the position divided by the unit (`relToCart_header`). -/
theorem cartToRel_header (b : Box ℚ) (hn : b.isLammpsNorm = true) (lf : Option ℚ) (hlf : ∀ c, lf = some c → c ≠ 0)
    (p : V3 ℚ) :
    (boxOfHiLo ((hiLoOf b).map (divBy lf))).cartToRel (v3map (divBy lf) p) = b.cartToRel p := by
  conv_lhs => rw [← Box.relToCart_cartToRel b (det_ne_zero_of_norm b hn) p, ← relToCart_header b hn lf]
  exact Box.cartToRel_relToCart _ (det_header_ne_zero b hn lf hlf) _

/-- the wrapped cell is the original one with each vector stretched (`C05.paddedBox`), so it can only be
    LAMMPS-normal, hence non-degenerate, if the original cell is non-degenerate. -/
theorem det_ne_zero_of_wrap_norm (box : Box ℚ) (pbc : V3 Bool) (pos : List (V3 ℚ))
    (h : (wrap box pbc pos).box.isLammpsNorm = true) : M3.det box.vects ≠ 0 := by
  have hd : M3.det (C05.paddedBox box ⟨wrapBounds pbc.x ((pos.map box.cartToRel).map (·.x)),
      wrapBounds pbc.y ((pos.map box.cartToRel).map (·.y)), wrapBounds pbc.z ((pos.map box.cartToRel).map (·.z))⟩).vects
      ≠ 0 := det_ne_zero_of_norm _ h
  rw [C05.det_paddedBox] at hd
  exact right_ne_zero_of_mul hd

/-- **every atom of a data file lies inside the written bounds** (the numbers the file prints, before rounding):
    relative to the box a LAMMPS run builds from the header, every written position has coordinates in `[0, 1]`. -/
theorem data_atoms_inside (s : Sys) (lf : Option ℚ) (hlf : ∀ c, lf = some c → c ≠ 0)
    (hn : (wrap s.box s.pbc s.pos).box.isLammpsNorm = true) :
    ∀ p ∈ (wrap s.box s.pbc s.pos).pos,
      C05.insideRel ((boxOfHiLo ((hiLoOf (wrap s.box s.pbc s.pos).box).map (divBy lf))).cartToRel (v3map (divBy lf) p)) := by
  intro p hp
  rw [cartToRel_header _ hn lf hlf]
  generalize s.pos = pos at hp hn ⊢
  cases pos with
  | nil => simp [wrap] at hp
  | cons q qs =>
    obtain ⟨e1, e2, _⟩ := wrap_eq_c05 s.box s.pbc q qs
    rw [e1]
    rw [e2] at hp
    exact C05.wrap_inside Rat.floor C05.isFloor_ratFloor _ (by norm_num) s.box
      (det_ne_zero_of_wrap_norm s.box s.pbc (q :: qs) hn) s.pbc (q :: qs) p hp

theorem hilo_lo_lt_hi (b : Box ℚ) (hn : b.isLammpsNorm = true) (lf : Option ℚ) (hlf : ∀ c, lf = some c → 0 < c) :
    let h := (hiLoOf b).map (divBy lf)
    h.xlo < h.xhi ∧ h.ylo < h.yhi ∧ h.zlo < h.zhi := by
  obtain ⟨_, _, _, h4, h5, h6⟩ := norm_facts b hn
  cases lf with
  | none => simp only [hiLoOf, HiLo.map, divBy]; exact ⟨by linarith, by linarith, by linarith⟩
  | some c =>
    have hc := hlf c rfl
    simp only [hiLoOf, HiLo.map, divBy]
    refine ⟨?_, ?_, ?_⟩ <;> (apply div_lt_div_of_pos_right _ hc; linarith)

/-- rounding to `n` decimals keeps `lo < hi` whenever the extent exceeds one unit of the last printed place. -/
theorem fixedVal_lt (a b : ℚ) (n : Nat) (h : 1 / 10 ^ n < b - a) : fixedVal a n < fixedVal b n := by
  have ha := abs_le.mp (fixedVal_error a n)
  have hb := abs_le.mp (fixedVal_error b n)
  have e : (1 : ℚ) / (2 * 10 ^ n) + 1 / (2 * 10 ^ n) = 1 / 10 ^ n := by
    have : (0 : ℚ) < 10 ^ n := by positivity
    field_simp; ring
  linarith [ha.2, hb.1]

/-- a cell is read as a number (`parseNum_cellTok`), the keyword `yz` is not. -/
theorem cellTok_ne_yz (f : Fmt) (c : Cell) : c.tok f ≠ cs!"yz" := by
  intro e
  have hn : parseNum? (cs!"yz") = none := by decide
  have h := parseNum_cellTok f c
  rw [e, hn] at h
  cases h

theorem atom_style_keys_ne_yz : ∀ e ∈ Gen.AtomStyles.atomStyles, e.1 ≠ "yz" := by decide +kernel

/-- **the tilt line is present iff a tilt is non-zero**: a line of the written data file ends with the keyword
    `yz` exactly when `xy`, `xz`, `yz` are not all zero. -/
theorem tilt_line_iff (f : Fmt) (style : String) (cols : List ColSpec) (hcols : atomCols style = some cols)
    (p : DataParts) :
    (∃ l ∈ dataDocOf f style p, l.getLast? = some (cs!"yz")) ↔ tilted p.hilo := by
  constructor
  · rintro ⟨l, hl, hlast⟩
    by_contra hnt
    -- without the tilt line no token at all is `yz`: not a keyword, a printed cell or a style word
    refine allToks_dataDoc (P := (· ≠ cs!"yz")) f style p (by decide) (by decide) (fun h => absurd h hnt)
      (cellTok_ne_yz f) (fun w hw e => ?_) l hl _ (List.mem_of_getLast? hlast) rfl
    rcases styleWords_known style cols hcols w hw with rfl | ⟨e', he', rfl⟩
    · exact absurd e (by decide)
    · exact atom_style_keys_ne_yz e' he' (by simpa [strTok] using congrArg String.ofList e)
  · intro ht
    refine ⟨[fmtNum f p.hilo.xy, fmtNum f p.hilo.xz, fmtNum f p.hilo.yz, cs!"xy", cs!"xz", cs!"yz"], ?_, by simp⟩
    have hbox : [fmtNum f p.hilo.xy, fmtNum f p.hilo.xz, fmtNum f p.hilo.yz, cs!"xy", cs!"xz", cs!"yz"]
        ∈ boxLines f p.hilo := by
      unfold tilted at ht; simp [boxLines, ht]
    simp only [dataDocOf, List.mem_append]
    exact Or.inl (Or.inl (Or.inl (Or.inr hbox)))

/-- along one axis an image flag times the padded width is the flag: the width of a periodic axis is 1 and the flag of
    a non-periodic one is 0. -/
theorem flag_mul_width (p : Bool) (ss : List ℚ) (t : ℚ) :
    (C05.flagOf Rat.floor p t : ℚ) * ((C05.axisBounds (1 / 1000) p ss).2 - (C05.axisBounds (1 / 1000) p ss).1)
      = (C05.flagOf Rat.floor p t : ℚ) := by
  cases p with
  | true => simp only [C05.axisBounds, if_true, sub_zero, mul_one]
  | false => simp only [C05.flagOf, Bool.false_eq_true, if_false, Int.cast_zero, zero_mul]

/-- the lattice shift the image flags stand for is the same with the padded cell vectors as with the original ones. -/
theorem flags_shift_padded (b : Box ℚ) (pbc : V3 Bool) (pos : List (V3 ℚ)) (p : V3 ℚ) :
    M3.vecMul ⟨((C05.atomFlags Rat.floor b pbc p).x : ℚ), ((C05.atomFlags Rat.floor b pbc p).y : ℚ),
        ((C05.atomFlags Rat.floor b pbc p).z : ℚ)⟩ (C05.wrap Rat.floor (1 / 1000) b pbc pos).box.vects
      = C05.latticeVec b.vects (C05.atomFlags Rat.floor b pbc p) := by
  simp only [C05.wrap, C05.paddedBox, C05.bounds, C05.latticeVec, M3.vecMul, V3.smul, C05.atomFlags, C05.flagsOf,
    ← mul_assoc, flag_mul_width]

/-- **positions after applying the image flags** (exact numbers the file prints): `x + ix·a + iy·b + iz·c` with the cell
    vectors a LAMMPS run builds from the written header is the atom's original position in the length unit. -/
theorem data_unwrap (s : Sys) (lf : Option ℚ)
    (hn : (wrap s.box s.pbc s.pos).box.isLammpsNorm = true) (k : Nat) (hk : k < s.pos.length) :
    ∃ q fl, (wrap s.box s.pbc s.pos).pos[k]? = some q ∧ (wrap s.box s.pbc s.pos).flags[k]? = some fl ∧
      unwrapPos ((hiLoOf (wrap s.box s.pbc s.pos).box).map (divBy lf)) (v3map (divBy lf) q) fl
        = v3map (divBy lf) s.pos[k] := by
  have hdet := det_ne_zero_of_wrap_norm s.box s.pbc s.pos hn
  generalize s.pos = pos at hk hn hdet ⊢
  cases pos with
  | nil => simp at hk
  | cons p0 ps =>
    obtain ⟨e1, e2, e3⟩ := wrap_eq_c05 s.box s.pbc p0 ps
    rw [e1] at hn ⊢
    rw [e2, e3]
    refine ⟨C05.atomPos Rat.floor s.box s.pbc (p0 :: ps)[k], C05.atomFlags Rat.floor s.box s.pbc (p0 :: ps)[k],
      ?_, ?_, ?_⟩
    · show ((p0 :: ps).map (C05.atomPos Rat.floor s.box s.pbc))[k]? = _
      rw [List.getElem?_map, List.getElem?_eq_getElem hk]; rfl
    · show ((p0 :: ps).map (C05.atomFlags Rat.floor s.box s.pbc))[k]? = _
      rw [List.getElem?_map, List.getElem?_eq_getElem hk]; rfl
    -- the flags shift by the written cell vectors = the cell vectors over the unit (`vecMul_header`), which along
    -- the flagged directions are the original ones (`flags_shift_padded`)
    show v3map (divBy lf) _ + M3.vecMul _ _ = _
    rw [vecMul_header _ hn, ← v3map_divBy_add, flags_shift_padded, C05.atom_reconstruct Rat.floor s.box hdet]

end Atomman.C07
