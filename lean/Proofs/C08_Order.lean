/-
  C08 — order of the atom lines of a data file: the `Atoms` table and the image-flag shifts are both ordered by atom id
  (the id is the leading column of every atom_style the loader knows), so every order of the lines loads alike.
-/
import Proofs.C08_Data
namespace Atomman.C08
open Atomman Atomman.C07
set_option linter.unusedSimpArgs false

theorem readFlagRow_error (ncols : Nat) (r : Line) (e : String) (h : readFlagRow ncols r = .error e) : e = "value" := by
  unfold readFlagRow at h
  split at h
  · rename_i idt a b c _ _
    unfold pyInt at h
    cases h1 : parseInt? idt <;> cases h2 : parseInt? a <;> cases h3 : parseInt? b <;> cases h4 : parseInt? c <;>
      simp [h1, h2, h3, h4, bind, Except.bind, pure, Except.pure, throw, throwThe, MonadExceptOf.throw] at h <;>
      exact h.symm
  · simp [throw, throwThe, MonadExceptOf.throw] at h; exact h.symm

/-- the image-flag shifts do not depend on the order of the atom lines (they are ordered by atom id, like the table). -/
theorem applyFlags_perm (s : Loaded) {rows₁ rows₂ : List Line} (ncols : Nat) (hp : rows₁.Perm rows₂)
    (hd : ∀ fl, rows₁.mapM (readFlagRow ncols) = .ok fl → (fl.map (·.1)).Nodup) :
    applyFlags s rows₁ ncols = applyFlags s rows₂ ncols := by
  unfold applyFlags
  have he : rows₁.isEmpty = rows₂.isEmpty := by
    cases rows₁ with
    | nil => rw [hp.symm.eq_nil]
    | cons a as =>
      cases rows₂ with
      | nil => exact absurd hp.eq_nil (by simp)
      | cons _ _ => rfl
  rw [he, uniform_perm hp]
  have h := mapM_perm (readFlagRow ncols) "value" (readFlagRow_error ncols) hp
  cases h1 : rows₁.mapM (readFlagRow ncols) with
  | error e => rw [h1] at h; rw [h.of_error]
  | ok fl₁ =>
    rw [h1] at h
    obtain ⟨fl₂, h2, hperm⟩ := h.of_ok
    rw [h2]
    simp only [exceptSimp]
    rw [sortBy_eq_of_perm (·.1) hperm (hd fl₁ h1)]

/-- in every atom_style the loader knows, the atom id is the first column (what the flag reader relies on). -/
theorem atom_styles_id_first :
    ∀ e ∈ Gen.LoadStyles.atomStyles, (e.2.head?).map (fun c => (c.1, c.2.1)) = some ("a_id", ["id"]) := by
  decide +kernel

theorem resolveCol_names {u : Units} {c : ColSpec} {p : PCol} (h : resolveCol u c = .ok p) : p.names = c.names := by
  unfold resolveCol at h
  cases hu : resolveUnit u c.unit with
  | error e => simp [hu, exceptSimp] at h
  | ok v =>
    simp only [hu, exceptSimp, Except.ok.injEq] at h
    subst h; rfl

theorem lookupStyle_head {st : String} {cs : List ColSpec}
    (h : lookupStyle Gen.LoadStyles.atomStyles st = some cs) : ∃ c rest, cs = c :: rest ∧ c.names = ["id"] := by
  obtain ⟨e, he, _, hne, rfl⟩ := lookupStyle_some h
  have := atom_styles_id_first e he
  cases h2 : e.2 with
  | nil => exact absurd h2 hne
  | cons g rest =>
    rw [h2] at this
    simp only [List.head?_cons, Option.map_some, Option.some.injEq, Prod.mk.injEq] at this
    exact ⟨ofGenCol g, rest.map ofGenCol, by simp, this.2⟩

theorem hybridFold_head (tbl : List (String × List Gen.AtomStyles.Col)) (subs : List String) :
    ∀ (base acc : List ColSpec) (c : ColSpec) (rest : List ColSpec), base = c :: rest →
      subs.foldlM (fun acc sub => do
        let sc ← lookupStyle tbl sub
        pure (acc ++ sc.filter fun c => !(acc.any (·.prop = c.prop)))) base = some acc →
      ∃ rest', acc = c :: rest' := by
  induction subs with
  | nil => intro base acc c rest hb h; simp at h; subst h; exact ⟨rest, hb⟩
  | cons s ss ih =>
    intro base acc c rest hb h
    rw [List.foldlM_cons] at h
    cases hl : lookupStyle tbl s with
    | none => simp [hl] at h
    | some sc =>
      simp only [hl, Option.bind_eq_bind, Option.bind_some, Option.pure_def] at h
      subst hb
      exact ih _ acc c (rest ++ sc.filter fun c' => !((c :: rest).any (·.prop = c'.prop))) rfl h

/-- the id is the leading column of every column list the loader builds from an atom_style — plain or hybrid. -/
theorem lookupCols_id_first (st : String) (u : Units) (cols : List PCol)
    (h : lookupCols Gen.LoadStyles.atomStyles st u = .ok cols) : idIndex cols = some 0 := by
  unfold lookupCols at h
  cases hs : loadStyleCols Gen.LoadStyles.atomStyles st with
  | none => rw [hs] at h; cases h
  | some cs =>
    rw [hs] at h
    have hhead : ∃ c rest, cs = c :: rest ∧ c.names = ["id"] := by
      unfold loadStyleCols at hs
      split at hs
      · unfold hybridCols at hs
        cases hb : lookupStyle Gen.LoadStyles.atomStyles "atomic" with
        | none => simp [hb] at hs
        | some base =>
          obtain ⟨c, rest, rfl, hc⟩ := lookupStyle_head hb
          simp only [hb, Option.bind_eq_bind, Option.bind_some] at hs
          obtain ⟨rest', rfl⟩ := hybridFold_head _ _ _ cs c rest rfl hs
          exact ⟨c, rest', rfl, hc⟩
      · exact lookupStyle_head hs
    obtain ⟨c, rest, rfl, hc⟩ := hhead
    simp only [List.mapM_cons, bind, Except.bind, pure, Except.pure] at h
    cases h1 : resolveCol u c with
    | error e => simp [h1] at h
    | ok p =>
      cases h2 : List.mapM (resolveCol u) rest with
      | error e => simp [h1, h2] at h
      | ok ps =>
        simp only [h1, h2, Except.ok.injEq] at h
        subst h
        simp [idIndex, resolveCol_names h1, hc, List.findIdx_cons]

/-- the `Atoms` section of a data file — the property table *and* the image-flag shifts,
    both ordered by atom id — loads to the same system for every order of its atom lines, when the ids are
    distinct.  (`load_perm_invariant_table` is the same for dump files, tables and the `Velocities` section.) -/
theorem load_perm_invariant {rows₁ rows₂ : List Line} (atomsColumns : Nat) (s : Loaded) (style : String) (u : Units)
    (hp : rows₁.Perm rows₂)
    (hd : ∀ cols t, lookupCols Gen.LoadStyles.atomStyles style u = .ok cols →
      readTable rows₁ (colsWidth cols) true = .ok t → (t.map (rowKey 0)).Nodup)
    (hdf : ∀ cols fl, lookupCols Gen.LoadStyles.atomStyles style u = .ok cols →
      rows₁.mapM (readFlagRow (colsWidth cols)) = .ok fl → (fl.map (·.1)).Nodup) :
    readAtoms rows₁ atomsColumns s style u = readAtoms rows₂ atomsColumns s style u := by
  unfold readAtoms
  cases hc : lookupCols Gen.LoadStyles.atomStyles style u with
  | error e => rfl
  | ok cols =>
    simp only [bind, Except.bind]
    rw [load_perm_invariant_table s cols true 0 hp (lookupCols_id_first style u cols hc) (hd cols · hc)]
    cases ht : tableLoad s rows₂ cols true with
    | error e => rfl
    | ok s1 =>
      simp only []
      split
      · exact applyFlags_perm s1 _ hp (hdf cols · hc)
      · rfl


theorem readFlagRow_fst (n : Nat) (r : Line) (x : Rat × V3 Int) (h : readFlagRow n r = .ok x) :
    ∃ idt i, r.head? = some idt ∧ pyInt idt = .ok i ∧ x.1 = (i : Rat) := by
  unfold readFlagRow at h
  split at h
  · rename_i idt a b c hh ht
    simp only [bind, Except.bind, pure, Except.pure] at h
    cases h1 : pyInt idt with
    | error e => simp [h1] at h
    | ok i =>
      cases h2 : pyInt a <;> cases h3 : pyInt b <;> cases h4 : pyInt c <;> simp [h1, h2, h3, h4] at h
      subst h
      exact ⟨idt, i, hh, h1, rfl⟩
  · cases h
set_option linter.unusedVariables false in
/-- `load_perm_invariant` at the level of the file: two data files laid out like the writer's (header, `Atoms # style`, the atom
    lines, optional `Velocities`) that differ only in the order of their atom lines — all of one width, as many as the
    header says, with distinct ids — load identically, text to system. -/
theorem load_perm_invariant_data_file {f : Fmt} (hf : Readable f) (style : String) (p p' : DataParts) (u : Units)
    (hwords : (styleWords style).map strTok ≠ [] ∧ ∀ t ∈ (styleWords style).map strTok, CleanTok t)
    (hsame : p'.natoms = p.natoms ∧ p'.natypes = p.natypes ∧ p'.hilo = p.hilo ∧ p'.vel = p.vel)
    (hperm : p'.rows.Perm p.rows) (hn : p.natoms = p.rows.length) (m : Nat) (hm : ∀ r ∈ p.rows, r.length = m)
    (hne : p.rows ≠ []) (hm0 : m ≠ 0) (hv : ∀ vr, p.vel = some vr → ∀ r ∈ vr, r ≠ [])
    (pbc : V3 Bool) (symbols : Option (List (Option String))) (styleArg : Option String)
    (hd : ∀ st cols t, lookupCols Gen.LoadStyles.atomStyles st u = .ok cols →
      readTable (rowsDoc f p.rows) (colsWidth cols) true = .ok t → (t.map (rowKey 0)).Nodup)
    (hdf : ∀ st cols fl, lookupCols Gen.LoadStyles.atomStyles st u = .ok cols →
      (rowsDoc f p.rows).mapM (readFlagRow (colsWidth cols)) = .ok fl → (fl.map (·.1)).Nodup) :
    loadData (renderLines (dataDocOf f style p)) pbc symbols styleArg u =
      loadData (renderLines (dataDocOf f style p')) pbc symbols styleArg u := by
  cases hlf : lengthFactor u with
  | error e => unfold loadData loadDataLines; simp [hlf, bind, Except.bind]
  | ok lf =>
    obtain ⟨h1, h2, h3, h4⟩ := hsame
    have hr : ∀ r ∈ p.rows, r ≠ [] := ne_nil_of_width hm hm0
    have hr' : ∀ r ∈ p'.rows, r ≠ [] := fun r hr0 => hr r (hperm.subset hr0)
    have hne' : p'.rows ≠ [] := fun h => hne (by have := hperm.length_eq; rw [h] at this; exact List.length_eq_zero_iff.mp this.symm)
    have hv' : ∀ vr, p'.vel = some vr → ∀ r ∈ vr, r ≠ [] := by rw [h4]; exact hv
    rw [loadData_dataDoc style p u lf hlf hwords hne hr hv, loadData_dataDoc style p' u lf hlf hwords hne' hr' hv']
    -- the first-pass results agree: only the width of the first atom line could differ, and all widths are `m`
    have hcol : ((rowsDoc f p'.rows).headD []).length = ((rowsDoc f p.rows).headD []).length := by
      obtain ⟨a, as, ha⟩ := List.exists_cons_of_ne_nil hne
      obtain ⟨b, bs, hb⟩ := List.exists_cons_of_ne_nil hne'
      rw [ha, hb]
      simp only [rowsDoc, List.map_cons, List.headD_cons, List.length_map]
      rw [hm a (by rw [ha]; exact List.mem_cons_self), hm b (hperm.subset (by rw [hb]; exact List.mem_cons_self))]
    have hfp : dataFP f lf ((styleWords style).map strTok) p' = dataFP f lf ((styleWords style).map strTok) p := by
      unfold dataFP
      rw [h1, h2, h3, h4, hcol]
    rw [hfp]
    cases hfin : fpFinish (dataFP f lf ((styleWords style).map strTok) p) false with
    | error e => rfl
    | ok fp =>
      simp only [Except.bind]
      have hnat : fp.natoms = p.rows.length := (fpFinish_dataFP hfin).1.trans hn
      unfold loadDataCore
      have hlen' : p'.rows.length = p.rows.length := hperm.length_eq
      have t1 : (dataRowsA f p).take fp.natoms = rowsDoc f p.rows := rowsDoc_take _ _ _ hnat
      have t2 : (dataRowsA f p').take fp.natoms = rowsDoc f p'.rows := rowsDoc_take _ _ _ (hnat.trans hlen'.symm)
      rw [t1, t2, h4]
      have hp2 : (rowsDoc f p.rows).Perm (rowsDoc f p'.rows) := by unfold rowsDoc; exact (hperm.symm).map _
      simp only [bind, Except.bind]
      split
      · rfl
      · cases hst : chooseStyle styleArg fp.hint with
        | error e => rfl
        | ok st =>
          simp only []
          rw [load_perm_invariant fp.atomsColumns _ st u hp2 (hd st) (hdf st)]

end Atomman.C08
