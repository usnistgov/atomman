/-
  C19 — property theorems on `Log.read`: a LAMMPS log is read back run by run, column by column, value by value (tables,
  append, version and date, read ∘ render, timing breakdowns of either layout); the call forms and end-to-end statements; printer ∘
  reader = id on the simple grammar; the demo values and the non-vacuity examples.  The other property theorems are in the
  module of their subject (C19_Lemmas, C19_Stream, C19_Lines, C19_Flatten, C19_Tables, C19_Objects, C19_Source).
  Model: Atomman/C19.lean; constants regenerated from atomman/lammps/Log.py: Atomman/Generated/LogTriggers.lean.
-/
import Proofs.C19_Lemmas
import Proofs.C19_Pass
import Proofs.C19_Perf
import Proofs.C19_PerfOld
import Proofs.C19_Flatten
import Proofs.C19_Stream
import Proofs.C19_Lines
import Proofs.C19_Objects
import Proofs.C19_Tables
import Proofs.C19_Source
namespace Atomman.C19
open Atomman List
set_option linter.unusedSimpArgs false

/-- **read_tables**: the single pass and the table reads of a well-formed log give one thermo table per run, in order of
    appearance, with the header line's tokens as column names and the printed (non-blank) thermo lines split on
    whitespace as rows — whatever was read before, with or without timing breakdowns between the runs, and also when
    the last run is cut short (no `Loop time of` line: the block then extends to the end of the log). -/
theorem read_tables (L : Layout) (h : L.WF) (st : LogState) (app : Bool) :
    thermoTables (passOf st app L.lines) L.lines = .ok (L.runs.map Run.table) :=
  thermoTables_layout L h _ rfl

/-- **read_layout**: whenever `Log.read` of a well-formed log returns, the simulation records are the old ones
    (`append=True`) or none (`append=False`) followed by one record per run, row for row. -/
theorem read_layout (L : Layout) (h : L.WF) (st st' : LogState) (app : Bool)
    (hr : readLog st app L.lines = .ok st') :
    st'.sims.map Sim.thermo = (if app then st.sims.map Sim.thermo else []) ++ L.runs.map Run.table := by
  obtain ⟨_, _, tables, _, -, ht, ha, rfl⟩ := (readLog_ok_iff ..).1 hr
  rw [read_tables L h] at ht
  cases ht
  rw [assignPerf_thermo _ _ _ _ _ _ _ _ ha, map_append, map_map]
  cases app <;> simp [startState_true, startState_false, LogState.empty, Function.comp_def]

/-- **read_append**: for any log (well-formed or not), `read(log, append=True)` that returns has appended the log's
    own tables after the existing records, which keep their thermo data. -/
theorem read_append (st st' : LogState) (lines : List Str) (hr : readLog st true lines = .ok st') :
    ∃ ts, tablesOf lines = .ok ts ∧ st'.sims.map Sim.thermo = st.sims.map Sim.thermo ++ ts := by
  obtain ⟨_, _, tables, _, -, ht, ha, rfl⟩ := (readLog_ok_iff ..).1 hr
  rw [thermoTables_passOf] at ht
  refine ⟨tables, ht, ?_⟩
  rw [assignPerf_thermo _ _ _ _ _ _ _ _ ha, map_append, map_map]
  simp [startState_true, Function.comp_def]

/-- **read_reset**: `append=False` forgets records, version and date: it is a read into a fresh `Log`. -/
theorem read_reset (st : LogState) (lines : List Str) :
    readLog st false lines = readLog LogState.empty true lines := rfl

/-- **append_concat**: reading `a` then `b` gives the records of `a` followed by the records of `b` read alone. -/
theorem append_concat (b : List Str) (sa sab sb : LogState)
    (h2 : readLog sa true b = .ok sab) (h3 : readLog LogState.empty true b = .ok sb) :
    sab.sims.map Sim.thermo = sa.sims.map Sim.thermo ++ sb.sims.map Sim.thermo := by
  obtain ⟨t2, ht2, e2⟩ := read_append sa sab b h2
  obtain ⟨t3, ht3, e3⟩ := read_append LogState.empty sb b h3
  rw [ht2] at ht3
  simp only [Except.ok.injEq] at ht3
  subst ht3
  rw [e2, e3]
  simp [LogState.empty]

/-- **read_stream_again**: handing the same stream object to a second `read(…, append=True)` (the caller did not touch
    it in between) appends its runs a second time. -/
theorem read_stream_again (st st1 st2 : LogState) (s s1 s2 : Stream)
    (h1 : readLogS st true s = .ok (st1, s1)) (h2 : readLogS st1 true s1 = .ok (st2, s2)) :
    ∃ ts, tablesOf s.lines = .ok ts ∧ st2.sims.map Sim.thermo = st.sims.map Sim.thermo ++ ts ++ ts := by
  obtain ⟨hr1, hl1⟩ := readLogS_ok h1
  obtain ⟨hr2, _⟩ := readLogS_ok h2
  rw [hl1] at hr2
  obtain ⟨ts, hts, e1⟩ := read_append st st1 s.lines hr1
  obtain ⟨ts', hts', e2⟩ := read_append st1 st2 s.lines hr2
  rw [hts] at hts'
  cases hts'
  exact ⟨ts, hts, by rw [e2, e1]⟩

/-- **read_version_kept**: a version already known (`append=True` onto a log that had a banner) is kept with its date. -/
theorem read_version_kept (st st' : LogState) (app : Bool) (lines : List Str)
    (hr : readLog st app lines = .ok st') (hv : (startState st app).version.isSome = true) :
    st'.version = (startState st app).version ∧ st'.date = (startState st app).date := by
  obtain ⟨_, _, _, _, hvd, -, -, rfl⟩ := (readLog_ok_iff ..).1 hr
  rw [versionPart_eq, if_pos hv] at hvd
  cases hvd
  exact ⟨rfl, rfl⟩

/-- **read_version_new**: otherwise the version is `line.strip()[8:-1]` of the first non-blank line starting with
    `LAMMPS (`, and the date is the date parsed from it; a log without such a line leaves the date as it was. -/
theorem read_version_new (st st' : LogState) (app : Bool) (lines : List Str)
    (hr : readLog st app lines = .ok st') (hv : (startState st app).version = none) :
    st'.version = (firstVersionLine lines).map extractVersion ∧
      (∀ l, firstVersionLine lines = some l → ∃ d, dateOf (extractVersion l) = .ok d ∧ st'.date = some d) ∧
      (firstVersionLine lines = none → st'.date = (startState st app).date) := by
  obtain ⟨_, _, _, _, hvd, -, -, rfl⟩ := (readLog_ok_iff ..).1 hr
  rw [versionPart_eq, if_neg (by simp [hv])] at hvd
  cases hf : firstVersionLine lines with
  | none =>
    simp only [hf] at hvd
    cases hvd
    exact ⟨hv, fun l hl => (by cases hl), fun _ => rfl⟩
  | some l =>
    simp only [hf] at hvd
    cases hd : dateOf (extractVersion l) with
    | error e => simp only [hd] at hvd; cases hvd
    | ok d =>
      simp only [hd] at hvd
      cases hvd
      exact ⟨rfl, fun l' hl' => (by cases hl'; exact ⟨d, hd, rfl⟩), fun hn => (by cases hn)⟩

/-- **version_date**: the date of a version string `<day> <Mon> <year>` optionally followed by `-…` or ` …`. -/
theorem version_date (dd mm yy suffix : Str) (d m y : Nat)
    (hd : parseNat? dd = some d) (hm : monthLookup mm = some m) (hy : parseNat? yy = some y)
    (hs : suffix = [] ∨ ∃ c rest, suffix = c :: rest ∧ (isWs c = true ∨ c = '-'))
    (hvalid : 1 ≤ y ∧ y ≤ 9999 ∧ 1 ≤ d ∧ d ≤ daysInMonth y m) :
    dateOf (dd ++ ' ' :: (mm ++ ' ' :: (yy ++ suffix))) = .ok ⟨y, m, d⟩ := by
  obtain ⟨hdne, hdd⟩ := parseNat?_digits dd d hd
  obtain ⟨hyne, hyd⟩ := parseNat?_digits yy y hy
  obtain ⟨hmne, hmc, hm1, hm12⟩ := monthLookup_some mm m hm
  have hdc := fun c hc => digit_not_sep c (hdd c hc)
  have hyc := fun c hc => digit_not_sep c (hyd c hc)
  have hpre : ∀ a ∈ dd ++ ' ' :: (mm ++ ' ' :: yy), (a != '-') = true := by
    intro a ha
    simp only [mem_append, mem_cons] at ha
    simp only [bne_iff_ne, ne_eq]
    rcases ha with ha | rfl | ha | rfl | ha
    · exact (hdc a ha).2
    · decide
    · exact (hmc a ha).2
    · decide
    · exact (hyc a ha).2
  have htw : (dd ++ ' ' :: (mm ++ ' ' :: (yy ++ suffix))).takeWhile (· != '-')
      = renderCells [⟨[], dd⟩, ⟨[' '], mm⟩, ⟨[' '], yy⟩] (suffix.takeWhile (· != '-')) := by
    have : dd ++ ' ' :: (mm ++ ' ' :: (yy ++ suffix)) = (dd ++ ' ' :: (mm ++ ' ' :: yy)) ++ suffix := by simp
    rw [this, takeWhile_append_of_pos hpre]
    simp [renderCells]
  have hterm : Terminated (suffix.takeWhile (· != '-')) := by
    rcases hs with rfl | ⟨c, rest, rfl, hc | rfl⟩
    · exact Or.inl rfl
    · by_cases hc' : c = '-'
      · subst hc'; exact Or.inl (by simp)
      · exact Or.inr ⟨c, rest.takeWhile (· != '-'), takeWhile_cons_of_pos (by simpa using hc'), hc⟩
    · exact Or.inl (by simp)
  have noWs : ∀ s : Str, (∀ c ∈ s, isWs c = false ∧ c ≠ '-') → s.all (fun x => !isWs x) = true :=
    fun s h => all_eq_true.2 fun c hc => by simp [(h c hc).1]
  have hsp : isWs ' ' = true := by decide
  have hok : cellsOk true [⟨[], dd⟩, ⟨[' '], mm⟩, ⟨[' '], yy⟩] = true := by
    simp [cellsOk, noWs dd hdc, noWs mm hmc, noWs yy hyc, hdne, hmne, hyne, hsp]
  unfold dateOf
  simp only [htw, splitWs_renderCells _ _ hterm hok, map_cons, map_nil, cons_append, nil_append, hy, hm, hd]
  rw [if_pos ⟨hvalid.1, hvalid.2.1, hm1, hm12, hvalid.2.2.1, hvalid.2.2.2⟩]

example : dateOf "29 Feb 2024 - Update 1".toList = .ok ⟨2024, 2, 29⟩ := by decide_lines
example : parseNat? (Nat.toDigits 10 2024) = some 2024 := parseNat?_toDigits 2024

/-- **month_table_calendar**: the month table of `__read_lammps_version` is the calendar. -/
theorem month_table_calendar : Gen.Log.monthTable =
    [("Jan", 1), ("Feb", 2), ("Mar", 3), ("Apr", 4), ("May", 5), ("Jun", 6),
     ("Jul", 7), ("Aug", 8), ("Sep", 9), ("Oct", 10), ("Nov", 11), ("Dec", 12)] := by decide

/-- **read_render**: a log printed from a specification (version banner, preamble, runs of padded cells, completed
    or — for the last one — cut short), without timing breakdown, is read back exactly: the token tables of the
    runs appended to the existing records, the version string and its date. -/
theorem read_render (S : LogSpec) (h : S.WF) (hperf : ∀ l ∈ renderLog S, PerfQuiet l)
    (d : Date) (hd : dateOf S.version = .ok d) (st : LogState) (app : Bool) :
    readLog st app (renderLog S) = .ok
      { sims := (startState st app).sims ++ S.runs.map (fun r => ({ thermo := r.table } : Sim)),
        version := if (startState st app).version.isSome then (startState st app).version else some S.version,
        date := if (startState st app).version.isSome then (startState st app).date else some d } := by
  refine (readLog_ok_iff ..).2 ⟨_, _, S.runs.map RunSpec.table, _, ?_, ?_, ?_, rfl⟩
  · rw [versionPart_eq, firstVersionLine_renderLog]
    simp only [extractVersion_versionLineOf, hd]
    split <;> rfl
  · rw [← toRuns_table _ h.runs_ok]
    exact read_tables S.toLayout (toLayout_WF S h) st app
  · rw [perfPart_quiet _ _ _ _ hperf, map_map]
    rfl


/-- The theorem behind `read_breakdown_blk` (and so `read_breakdown`, `read_breakdown_old`): a well-formed log whose version part and
    timing part do not raise is read without an exception, and the records are the old ones followed by one table per
    run. -/
theorem read_of_perf (L : Layout) (h : L.WF) (st : LogState) (app : Bool)
    (hperf : ∃ sims, perfPart st app L.lines (L.runs.map Run.table) = .ok sims)
    (hver : ∃ vd, versionPart st app L.lines = .ok vd) :
    ∃ st', readLog st app L.lines = .ok st' ∧
      st'.sims.map Sim.thermo = (if app then st.sims.map Sim.thermo else []) ++ L.runs.map Run.table := by
  obtain ⟨sims, hs⟩ := hperf
  obtain ⟨vd, hvd⟩ := hver
  have hr : readLog st app L.lines = .ok ⟨sims, vd.1, vd.2⟩ :=
    (readLog_ok_iff ..).2 ⟨_, _, _, _, hvd, read_tables L h st app, hs, rfl⟩
  exact ⟨_, hr, read_layout L h st _ app hr⟩

/-- `read_breakdown` and `read_breakdown_old` for the timing blocks of either layout: a well-formed log whose lines split
    into stretches that start no timing block and blocks of ONE layout (`Blk.OK old`; `read_breakdown` supplies
    `Breakdown.WF.blk_ok`, `read_breakdown_old` supplies `OldBreakdown.WF.blk_ok`), each after at least one memory banner. -/
theorem read_breakdown_blk (old : Bool) (L : Layout) (h : L.WF) (segs : List GSeg)
    (hsegs : L.lines = segs.flatMap GSeg.lines) (hwf : gsegsWF old 0 segs) (st : LogState) (app : Bool)
    (hver : ∃ vd, versionPart st app L.lines = .ok vd) :
    ∃ st', readLog st app L.lines = .ok st' ∧
      st'.sims.map Sim.thermo = (if app then st.sims.map Sim.thermo else []) ++ L.runs.map Run.table :=
  read_of_perf L h st app (perf_ok_segs old L h segs hsegs hwf st app _ (by simp)) hver

/-- **read_breakdown**: a well-formed log whose lines split into stretches that start no timing breakdown and
    well-formed `MPI task timing breakdown` blocks (each after at least one memory banner) is read without an
    exception (given a parsable version banner, none, or a version known already), and the records are the old ones
    followed by one table per run. -/
theorem read_breakdown (L : Layout) (h : L.WF) (segs : List Seg) (hsegs : L.lines = segs.flatMap Seg.lines)
    (hwf : segsWF 0 segs) (st : LogState) (app : Bool)
    (hver : (startState st app).version.isSome = true ∨ firstVersionLine L.lines = none ∨
      ∃ l d, firstVersionLine L.lines = some l ∧ dateOf (extractVersion l) = .ok d) :
    ∃ st', readLog st app L.lines = .ok st' ∧
      st'.sims.map Sim.thermo = (if app then st.sims.map Sim.thermo else []) ++ L.runs.map Run.table :=
  read_breakdown_blk false L h (segs.map Seg.toG) (by rw [flatMap_toG]; exact hsegs) (segsWF_toG 0 segs hwf) st app
    ((versionPart_ok_iff ..).2 hver)

def demoBreak : Breakdown where
  start := "MPI task timing breakdown:".toList
  hdr := "Section | avg time |%total".toList
  rows := ["--------".toList,
           "Pair    | 0.0003 | 71.35".toList,
           "Other   |        | 28.65".toList]
  stop := "Nlocal: 4 ave".toList

theorem demoBreak_WF : demoBreak.WF := by
  unfold demoBreak
  repeat rw [String.toList_ofList]
  constructor <;> (try unfold InBlock) <;> decide_lines

/-- one completed run followed by its timing breakdown and histogram lines. -/
def demoLayout : Layout where
  head := ["LAMMPS (29 Aug 2024)".toList, [], "units metal".toList]
  runs := [{ banner := "Memory usage per processor = 3 Mbytes".toList,
             header := "   Step    Temp".toList,
             body := ["      0   300.5".toList, "     10   290".toList],
             tail := some ("Loop time of 0.01 on 1 procs".toList,
               [[], "Performance: 7 ns/day".toList] ++ demoBreak.lines ++
                 ["Histogram: 1 0".toList]) }]

theorem demoLayout_WF : demoLayout.WF := by
  unfold demoLayout demoBreak Breakdown.lines
  repeat rw [String.toList_ofList]
  refine ⟨?_, ?_, ?_, ?_, ?_, ?_, ?_, ?_, (?_ : _ ∧ _ ∧ _ ∧ _)⟩ <;> decide_lines

def demoSegs : List Seg :=
  [.quiet (demoLayout.head ++ ["Memory usage per processor = 3 Mbytes".toList,
      "   Step    Temp".toList, "      0   300.5".toList, "     10   290".toList,
      "Loop time of 0.01 on 1 procs".toList, [], "Performance: 7 ns/day".toList]),
   .block demoBreak, .quiet ["Histogram: 1 0".toList]]

example : ∃ st', readLog LogState.empty true demoLayout.lines = .ok st' ∧
    st'.sims.map Sim.thermo = [⟨["Step".toList, "Temp".toList],
      [["0".toList, "300.5".toList], ["10".toList, "290".toList]]⟩] := by
  have hsegs : segsWF 0 demoSegs := by
    unfold demoSegs demoLayout
    repeat rw [String.toList_ofList]
    exact ⟨by decide_lines, demoBreak_WF,
      Nat.zero_add _ ▸ starts_pos _ _ (mem_append_right _ mem_cons_self) (by decide_lines) (by decide_lines),
      by decide_lines, trivial⟩
  have hlines : demoLayout.lines = demoSegs.flatMap Seg.lines := by
    simp only [demoLayout, demoSegs, Layout.lines, Run.lines, Seg.lines, flatMap_cons, flatMap_nil, cons_append,
      nil_append, append_nil, append_assoc]
  obtain ⟨st', h1, h2⟩ := read_breakdown demoLayout demoLayout_WF demoSegs hlines hsegs LogState.empty true
    (Or.inr (Or.inr ⟨"LAMMPS (29 Aug 2024)".toList, ⟨2024, 8, 29⟩, by unfold demoLayout; decide_lines,
      by decide_lines⟩))
  refine ⟨st', h1, ?_⟩
  rw [h2]
  unfold demoLayout
  decide_lines

/-- **read_breakdown_old**: the same for the OLD timing layout (`Pair  time (%) = 0.0003 (71.35)` …, LAMMPS before the
    `MPI task timing breakdown` table): a well-formed log whose lines split into stretches that start no timing block
    and well-formed old blocks (the `Pair  time (%)` line, further lines with exactly one `=`, the `Nlocal:` line; each
    after at least one memory banner) is read without an exception, and the records are the old ones followed by one
    table per run. -/
theorem read_breakdown_old (L : Layout) (h : L.WF) (segs : List OSeg) (hsegs : L.lines = segs.flatMap OSeg.lines)
    (hwf : osegsWF 0 segs) (st : LogState) (app : Bool)
    (hver : (startState st app).version.isSome = true ∨ firstVersionLine L.lines = none ∨
      ∃ l d, firstVersionLine L.lines = some l ∧ dateOf (extractVersion l) = .ok d) :
    ∃ st', readLog st app L.lines = .ok st' ∧
      st'.sims.map Sim.thermo = (if app then st.sims.map Sim.thermo else []) ++ L.runs.map Run.table :=
  read_breakdown_blk true L h (segs.map OSeg.toG) (by rw [flatMap_otoG]; exact hsegs) (osegsWF_toG 0 segs hwf) st app
    ((versionPart_ok_iff ..).2 hver)

def demoOld : OldBreakdown where
  first := "Pair  time (%) = 0.0003 (71.35)".toList
  rows := ["Neigh time (%) = 0 (0)".toList, "Other time (%) = 0.0001 (28.65)".toList]
  stop := "Nlocal: 4 ave".toList

theorem demoOld_WF : demoOld.WF := by
  unfold demoOld
  repeat rw [String.toList_ofList]
  constructor <;> (try unfold InBlock) <;> decide_lines

def demoLayoutOld : Layout where
  head := ["LAMMPS (1 Feb 2014)".toList, [], "units metal".toList]
  runs := [{ banner := "Memory usage per processor = 3 Mbytes".toList,
             header := "Step Temp".toList,
             body := ["0 300.5".toList, "10 290".toList],
             tail := some ("Loop time of 0.01 on 1 procs".toList,
               [[]] ++ demoOld.lines ++ ["Histogram: 1 0".toList]) }]

theorem demoLayoutOld_WF : demoLayoutOld.WF := by
  unfold demoLayoutOld demoOld OldBreakdown.lines
  repeat rw [String.toList_ofList]
  refine ⟨?_, ?_, ?_, ?_, ?_, ?_, ?_, ?_, (?_ : _ ∧ _ ∧ _ ∧ _)⟩ <;> decide_lines

def demoSegsOld : List OSeg :=
  [.quiet (demoLayoutOld.head ++ ["Memory usage per processor = 3 Mbytes".toList,
      "Step Temp".toList, "0 300.5".toList, "10 290".toList,
      "Loop time of 0.01 on 1 procs".toList, []]),
   .block demoOld, .quiet ["Histogram: 1 0".toList]]

example : ∃ st', readLog LogState.empty true demoLayoutOld.lines = .ok st' ∧
    st'.sims.map Sim.thermo = [⟨["Step".toList, "Temp".toList],
      [["0".toList, "300.5".toList], ["10".toList, "290".toList]]⟩] := by
  have hsegs : osegsWF 0 demoSegsOld := by
    unfold demoSegsOld demoLayoutOld
    repeat rw [String.toList_ofList]
    exact ⟨by decide_lines, demoOld_WF,
      Nat.zero_add _ ▸ starts_pos _ _ (mem_append_right _ mem_cons_self) (by decide_lines) (by decide_lines),
      by decide_lines, trivial⟩
  have hlines : demoLayoutOld.lines = demoSegsOld.flatMap OSeg.lines := by
    simp only [demoLayoutOld, demoSegsOld, Layout.lines, Run.lines, OSeg.lines, flatMap_cons, flatMap_nil, cons_append,
      nil_append, append_nil, append_assoc]
  obtain ⟨st', h1, h2⟩ := read_breakdown_old demoLayoutOld demoLayoutOld_WF demoSegsOld hlines hsegs LogState.empty true
    (Or.inr (Or.inr ⟨"LAMMPS (1 Feb 2014)".toList, ⟨2014, 2, 1⟩, by unfold demoLayoutOld; decide_lines,
      by decide_lines⟩))
  refine ⟨st', h1, ?_⟩
  rw [h2]
  unfold demoLayoutOld
  decide_lines



/-- **call_defaults**: `read(x)` appends, `Log(x)` is a read into a new object, `flatten()` is `flatten('last')` over all
    records — with the defaults regenerated from the signatures of the source. -/
theorem call_defaults (st : LogState) (lines : List Str) (a b : Option Int) :
    readCall st none lines = readLog st true lines ∧
    ctorCall (some lines) = readLog LogState.empty true lines ∧ ctorCall none = .ok LogState.empty ∧
    flattenCall st none a b = flattenCall st (some "last".toList) a b := ⟨rfl, rfl, rfl, rfl⟩

/-- **ctor_render**: `Log(text)` of a log printed from a specification: exactly the printed runs (token tables, one
    record per run in order, each with the single key `thermo`), the version string and its date. -/
theorem ctor_render (S : LogSpec) (h : S.WF) (hperf : ∀ l ∈ renderLog S, PerfQuiet l)
    (d : Date) (hd : dateOf S.version = .ok d) :
    ∃ st, ctorCall (some (renderLog S)) = .ok st ∧
      st.sims.map Sim.thermo = S.runs.map RunSpec.table ∧ (∀ s ∈ st.sims, s.keys = ["thermo"]) ∧
      st.version = some S.version ∧ st.date = some d := by
  refine ⟨_, read_render S h hperf d hd LogState.empty true, ?_, ?_, rfl, rfl⟩
  · simp [startState_true, LogState.empty, Function.comp_def]
  · intro s hs
    simp only [startState_true, LogState.empty, nil_append, mem_map] at hs
    obtain ⟨r, _, rfl⟩ := hs
    rfl

/-- **ctor_render_text**: the same from the TEXT of the log (lines joined by `\n`, the model splitting it itself). -/
theorem ctor_render_text (S : LogSpec) (h : S.WF) (hperf : ∀ l ∈ renderLog S, PerfQuiet l)
    (hnl : ∀ l ∈ renderLog S, '\n' ∉ l) (d : Date) (hd : dateOf S.version = .ok d) :
    ∃ st, readText LogState.empty true (joinLines (renderLog S)) = .ok st ∧
      st.sims.map Sim.thermo = S.runs.map RunSpec.table ∧ st.version = some S.version ∧ st.date = some d := by
  have hne : renderLog S ≠ [] := by simp [renderLog, Layout.lines, LogSpec.toLayout]
  rw [readText_joinLines _ _ _ hne hnl]
  obtain ⟨st, h1, h2, _, h3, h4⟩ := ctor_render S h hperf d hd
  exact ⟨st, h1, h2, h3, h4⟩

set_option linter.unusedVariables false in
/-- **read_then_flatten_all**: reading a well-formed layout into a new log and flattening it with style `all` over the
    model's rows keeps every printed row of every run in printed order (composition of `read_layout` and
    `flatten_all` through the loop of the source). -/
theorem read_then_flatten_all (L : Layout) (h : L.WF) (st : LogState) (hne : L.runs ≠ [])
    (hr : readLog LogState.empty true L.lines = .ok st) :
    flattenStyle (fun r : List Str => (0 : Int)) "all".toList (st.sims.map (fun s => s.thermo.rows)) =
      .ok (L.runs.flatMap (fun r => (nonBlank r.body).map splitWs)) := by
  have e := read_layout L h LogState.empty st true hr
  simp only [if_true, LogState.empty, map_nil, nil_append] at e
  have e2 : st.sims.map (fun s => s.thermo.rows) = L.runs.map (fun r => (nonBlank r.body).map splitWs) := by
    have := congrArg (map Table.rows) e
    simpa [map_map, Function.comp_def, Run.table] using this
  rw [e2, flattenStyle_all, flatten_all _ (by simpa using hne)]
  simp [flatMap_def]


/-- **gen_read_tables**: `read_tables` stated directly about the functions regenerated from the source: the pass of
    `Gen.LogSrc.step` from `Gen.LogSrc.init`, closed by `Gen.LogSrc.finish`, followed by the table loop gives one table
    per run of any well-formed layout, in order, with the header tokens as columns and the printed lines as rows — also
    when the last run is cut short. -/
theorem gen_read_tables (L : Layout) (h : L.WF) (hv : Bool) :
    let sc := Gen.LogSrc.finish (L.lines.foldl Gen.LogSrc.step (Gen.LogSrc.init hv))
    readBlocks (nonBlank L.lines) sc.thermoHeaders sc.thermoFooters = .ok (L.runs.map Run.table) := by
  intro sc
  have := gen_tables_eq_model hv L.lines
  simp only at this
  show readBlocks _ (Gen.LogSrc.finish _).thermoHeaders (Gen.LogSrc.finish _).thermoFooters = _
  rw [this]
  exact thermoTables_layout L h _ rfl

/-- **read_sequence_default**: `log = Log(a); log.read(b)` with the flags left out: the records are the tables of `a`
    followed by the tables of `b`, each set as it is read alone. -/
theorem read_sequence_default (a b : List Str) (st1 st2 : LogState)
    (h1 : ctorCall (some a) = .ok st1) (h2 : readCall st1 none b = .ok st2) :
    ∃ ta tb, tablesOf a = .ok ta ∧ tablesOf b = .ok tb ∧ st2.sims.map Sim.thermo = ta ++ tb := by
  obtain ⟨ta, hta, e1⟩ := read_append LogState.empty st1 a h1
  obtain ⟨tb, htb, e2⟩ := read_append st1 st2 b h2
  refine ⟨ta, tb, hta, htb, ?_⟩
  rw [e2, e1]
  simp [LogState.empty]

/-- **read_input_forms**: the same log given as text (or bytes), as the name of a file holding it, or as an open binary
    stream over it — wherever that stream stands — is read to the same records, version and date (or refused with the
    same exception); a stream opened in text mode is refused with ValueError and the log is left as it was. -/
theorem read_input_forms (st : LogState) (append : Option Bool) (t : Str) (s : Stream) (hs : s.lines = splitLines t) :
    (readInput st append (.text t)).map Prod.fst = (readInput st append (.file t)).map Prod.fst ∧
    (readInput st append (.stream s)).map Prod.fst = (readInput st append (.text t)).map Prod.fst ∧
    readInput st append .textStream = .error .value := by
  refine ⟨rfl, ?_, rfl⟩
  obtain ⟨s', _, e⟩ := read_stream st (append.getD Gen.Log.readAppendDefault) s
  simp only [readInput, e, hs, readCall]
  cases readLog st (append.getD Gen.Log.readAppendDefault) (splitLines t) <;> rfl

/-- a run of the simple grammar: a header line of keyword cells that holds no trigger, data rows of NUMBERS (nothing
    asked of them beyond being numbers, properly padded and no wider than the header), and — unless the run is cut
    short — a loop line and trigger-free lines after it. -/
structure RunSpec.Simple (r : RunSpec) (last : Bool) : Prop where
  banner_perf : PerfQuiet r.banner.line
  header_ok : lineOk r.header r.headerTrail
  header_quiet : NoTrigger (renderCells r.header r.headerTrail) ∧ PerfQuiet (renderCells r.header r.headerTrail)
  rows_ok : ∀ x ∈ r.rows, lineOk x.1 x.2 ∧ x.1.length ≤ r.header.length ∧ ∀ c ∈ x.1, c.tok.all isNumChar = true
  tail_ok : match r.tail with
    | none => last = true
    | some (x, post) =>
      hasAny thermoStart (loopLine x.1 x.2.1 x.2.2.1 x.2.2.2) = false ∧
        PerfQuiet (loopLine x.1 x.2.1 x.2.2.1 x.2.2.2) ∧ ∀ l ∈ post, Quiet l ∧ PerfQuiet l

def specRunsSimple : List RunSpec → Prop
  | [] => True
  | [r] => r.Simple true
  | r :: r' :: rs => r.Simple false ∧ specRunsSimple (r' :: rs)

structure LogSpec.Simple (S : LogSpec) : Prop where
  version_quiet : NoTrigger (versionLineOf S.version) ∧ PerfQuiet (versionLineOf S.version)
  head_quiet : ∀ l ∈ S.head, Quiet l ∧ PerfQuiet l
  runs_ok : specRunsSimple S.runs

theorem RunSpec.Simple.wf {r : RunSpec} {last : Bool} (h : r.Simple last) : r.WF last where
  header_ok := h.header_ok
  header_quiet := h.header_quiet.1
  rows_ok := fun x hx => ⟨(h.rows_ok x hx).1, (h.rows_ok x hx).2.1,
    (numeric_row_quiet _ _ (h.rows_ok x hx).1 (h.rows_ok x hx).2.2).1⟩
  tail_ok := by
    have := h.tail_ok
    cases ht : r.tail with
    | none => rw [ht] at this; simpa using this
    | some xp =>
      obtain ⟨x, post⟩ := xp
      rw [ht] at this
      exact ⟨this.1, fun l hl => (this.2.2 l hl).1⟩

theorem specRunsSimple_wf : ∀ rs : List RunSpec, specRunsSimple rs → specRunsWF rs
  | [], _ => trivial
  | [_], h => RunSpec.Simple.wf h
  | _ :: r' :: rs, h => ⟨RunSpec.Simple.wf h.1, specRunsSimple_wf (r' :: rs) h.2⟩

theorem RunSpec.Simple.perf {r : RunSpec} {last : Bool} (h : r.Simple last) : ∀ l ∈ r.toRun.lines, PerfQuiet l := by
  intro l hl
  simp only [Run.lines, RunSpec.toRun, mem_append, mem_singleton, mem_replicate, mem_map] at hl
  rcases hl with (((rfl | ⟨_, rfl⟩) | rfl) | ⟨x, hx, rfl⟩) | hl
  · exact h.banner_perf
  · exact Or.inl rfl
  · exact h.header_quiet.2
  · exact (numeric_row_quiet _ _ (h.rows_ok x hx).1 (h.rows_ok x hx).2.2).2
  · have := h.tail_ok
    cases ht : r.tail with
    | none => rw [ht] at hl; simp at hl
    | some xp =>
      obtain ⟨x, post⟩ := xp
      rw [ht] at hl this
      simp only [Option.map_some, mem_cons] at hl
      rcases hl with rfl | hl
      · exact this.2.1
      · exact (this.2.2 l hl).2

theorem specRunsSimple_perf : ∀ rs : List RunSpec, specRunsSimple rs → ∀ r ∈ rs, ∀ l ∈ r.toRun.lines, PerfQuiet l
  | [], _ => by intro _ hr; simp at hr
  | [r], h => by intro r' hr'; simp only [mem_singleton] at hr'; subst hr'; exact RunSpec.Simple.perf h
  | r :: r' :: rs, h => by
    intro x hx
    rcases mem_cons.mp hx with rfl | hx
    · exact RunSpec.Simple.perf h.1
    · exact specRunsSimple_perf (r' :: rs) h.2 x hx

theorem LogSpec.Simple.wf {S : LogSpec} (h : S.Simple) : S.WF :=
  ⟨h.version_quiet.1, fun l hl => (h.head_quiet l hl).1, specRunsSimple_wf _ h.runs_ok⟩

theorem LogSpec.Simple.perfQuiet {S : LogSpec} (h : S.Simple) : ∀ l ∈ renderLog S, PerfQuiet l := by
  intro l hl
  simp only [renderLog, Layout.lines, LogSpec.toLayout, mem_cons, mem_append, mem_flatMap, mem_map] at hl
  rcases hl with (rfl | hl) | ⟨_, ⟨r, hr, rfl⟩, hl⟩
  · exact h.version_quiet.2
  · exact (h.head_quiet l hl).2
  · exact specRunsSimple_perf _ h.runs_ok r hr l hl

/-- **ctor_grammar**: printer ∘ reader = identity on the simple LAMMPS-log grammar — `LAMMPS (<version>)`, trigger-free
    preamble, any number of runs (either memory banner, blank gap, a header of keyword cells, ANY rows of numbers,
    loop line and trigger-free text after it; the last run possibly cut short): `Log(renderLog S)` has exactly one
    record per run, in order, whose table has the printed keywords as columns and the printed numbers row for row, the
    version string and its date.  No hypothesis is left on the data rows. -/
theorem ctor_grammar (S : LogSpec) (h : S.Simple) (d : Date) (hd : dateOf S.version = .ok d) :
    ∃ st, ctorCall (some (renderLog S)) = .ok st ∧
      st.sims.map Sim.thermo = S.runs.map RunSpec.table ∧ (∀ s ∈ st.sims, s.keys = ["thermo"]) ∧
      st.version = some S.version ∧ st.date = some d :=
  ctor_render S h.wf h.perfQuiet d hd

/-- a two-run log: a completed run and a run cut short after two thermo lines. -/
def demoSpec : LogSpec where
  version := "29 Feb 2024 - Update 1".toList
  head := ["units metal".toList, [], "thermo 10".toList]
  runs := [
    { banner := .new "3.7".toList "3.7".toList "3.7".toList, gap := 1,
      header := [⟨"   ".toList, "Step".toList⟩, ⟨" ".toList, "Temp".toList⟩, ⟨"  ".toList, "PotEng".toList⟩],
      headerTrail := " ".toList,
      rows := [([⟨[], "0".toList⟩, ⟨"\t".toList, "300.5".toList⟩, ⟨" ".toList, "-13.44".toList⟩], []),
               ([⟨[], "10".toList⟩, ⟨" ".toList, "290".toList⟩], " ".toList)],
      tail := some (("0.01".toList, "1".toList, "10".toList, "4".toList), ["".toList, "Total # of neighbors = 312".toList]) },
    { banner := .old "2.5".toList,
      header := [⟨[], "Step".toList⟩, ⟨" ".toList, "Press".toList⟩],
      rows := [([⟨[], "10".toList⟩, ⟨" ".toList, "1e-3".toList⟩], []), ([⟨[], "20".toList⟩, ⟨" ".toList, "nan".toList⟩], [])],
      tail := none }]

theorem demoSpec_Simple : demoSpec.Simple := by
  unfold demoSpec
  repeat rw [String.toList_ofList]
  refine ⟨?_, ?_, ⟨?_, ?_, ?_, ?_, (?_ : _ ∧ _ ∧ _)⟩, ⟨?_, ?_, ?_, ?_, rfl⟩⟩ <;> decide_lines

theorem demoSpec_WF : demoSpec.WF := demoSpec_Simple.wf

theorem demoSpec_perfQuiet : ∀ l ∈ renderLog demoSpec, PerfQuiet l := demoSpec_Simple.perfQuiet

theorem demoSpec_date : dateOf demoSpec.version = .ok ⟨2024, 2, 29⟩ := by unfold demoSpec; decide_lines

theorem demoSpec_noNewline : ∀ l ∈ renderLog demoSpec, '\n' ∉ l := by
  unfold demoSpec renderLog LogSpec.toLayout
  decide_lines

theorem demoSpec_read (st : LogState) (app : Bool) : ∃ st', readLog st app (renderLog demoSpec) = .ok st' :=
  ⟨_, read_render demoSpec demoSpec_WF demoSpec_perfQuiet _ demoSpec_date st app⟩

theorem demo_read : ∃ st1, readLog LogState.empty true (renderLog demoSpec) = .ok st1 :=
  demoSpec_read LogState.empty true

example : ∃ st, ctorCall (some (renderLog demoSpec)) = .ok st ∧
    st.sims.map Sim.thermo = demoSpec.runs.map RunSpec.table ∧ (∀ s ∈ st.sims, s.keys = ["thermo"]) ∧
    st.version = some demoSpec.version ∧ st.date = some ⟨2024, 2, 29⟩ :=
  ctor_grammar demoSpec demoSpec_Simple ⟨2024, 2, 29⟩ demoSpec_date

example : ∃ st', readLog LogState.empty true (renderLog demoSpec) = .ok st' ∧
    st'.sims.map Sim.thermo = demoSpec.runs.map RunSpec.table ∧ st'.version = some demoSpec.version ∧
    st'.date = some ⟨2024, 2, 29⟩ :=
  ⟨_, read_render demoSpec demoSpec_WF demoSpec_perfQuiet ⟨2024, 2, 29⟩ demoSpec_date LogState.empty true,
    by simp [startState_true, LogState.empty, Function.comp_def], rfl, rfl⟩

/-- the demo log in a stream the caller left in the middle of its third line is read (twice, through `readLogS_of`) and its
    runs are there (twice); `read_stream_again` itself is applied to the same stream further down. -/
example : ∃ st1 st2 s1 s2, readLogS LogState.empty true ⟨renderLog demoSpec, 2, 3⟩ = .ok (st1, s1) ∧
    readLogS st1 true s1 = .ok (st2, s2) ∧
    st2.sims.map Sim.thermo = demoSpec.runs.map RunSpec.table ++ demoSpec.runs.map RunSpec.table := by
  obtain ⟨st1, h1⟩ := demo_read
  obtain ⟨st2, h2⟩ := demoSpec_read st1 true
  obtain ⟨s1, hl1, g1⟩ := readLogS_of ⟨renderLog demoSpec, 2, 3⟩ h1
  obtain ⟨s2, _, g2⟩ := readLogS_of s1 (by rw [hl1]; exact h2)
  refine ⟨st1, st2, s1, s2, g1, g2, ?_⟩
  · have hwf := toLayout_WF demoSpec demoSpec_WF
    have e1 := read_layout demoSpec.toLayout hwf _ _ true h1
    have e2 := read_layout demoSpec.toLayout hwf _ _ true h2
    have ht : demoSpec.toLayout.runs.map Run.table = demoSpec.runs.map RunSpec.table :=
      toRuns_table _ demoSpec_WF.runs_ok
    rw [e2, e1, ht]
    simp [LogState.empty]

/-- non-vacuity of `read_tables` / `read_layout`: the layout of the demo log is well-formed. -/
example : demoSpec.toLayout.WF := toLayout_WF demoSpec demoSpec_WF

section NonVacuity

-- `read_append`, `append_concat`, `read_sequence_default`, `read_version_kept`, `read_version_new`: the demo log read
-- twice (the second read finds the version known, the first finds none).
example : ∃ (st1 st2 : LogState) (ts : List Table), tablesOf (renderLog demoSpec) = .ok ts ∧
    st2.sims.map Sim.thermo = st1.sims.map Sim.thermo ++ ts ∧ st1.sims.length = 2 ∧
    st2.version = st1.version ∧ st1.version = some demoSpec.version := by
  obtain ⟨st1, h1⟩ := demo_read
  obtain ⟨st2, h2⟩ := demoSpec_read st1 true
  obtain ⟨ts, hts, e⟩ := read_append st1 st2 (renderLog demoSpec) h2
  have hc := append_concat (renderLog demoSpec) st1 st2 st1 h2 h1
  have hv1 := read_version_new LogState.empty st1 true (renderLog demoSpec) h1 rfl
  have hlen : st1.sims.length = 2 := by
    have := read_layout demoSpec.toLayout (toLayout_WF demoSpec demoSpec_WF) _ _ true h1
    have := congrArg List.length this
    simp only [↓reduceIte, LogState.empty, length_map, map_nil, nil_append] at this
    rw [this]; rfl
  have hver : st1.version = some demoSpec.version := by
    rw [hv1.1, firstVersionLine_renderLog, Option.map_some, extractVersion_versionLineOf]
  have hk := read_version_kept st1 st2 true (renderLog demoSpec) h2 (by simp [startState_true, hver])
  have hcall := call_defaults st1 (renderLog demoSpec) none none
  obtain ⟨ta, tb, _, _, _⟩ := read_sequence_default (renderLog demoSpec) (renderLog demoSpec) st1 st2
    (hcall.2.1.trans h1) (hcall.1.trans h2)
  exact ⟨st1, st2, ts, hts, e, hlen, hk.1, hver⟩

-- `read_stream_again` itself, on a stream the caller left in the middle of the third line.
example : ∃ (st1 st2 : LogState) (s1 s2 : Stream) (ts : List Table), readLogS LogState.empty true ⟨renderLog demoSpec, 2, 3⟩ = .ok (st1, s1) ∧
    readLogS st1 true s1 = .ok (st2, s2) ∧ tablesOf (renderLog demoSpec) = .ok ts ∧
    st2.sims.map Sim.thermo = ts ++ ts := by
  obtain ⟨st1, h1⟩ := demo_read
  obtain ⟨st2, h2⟩ := demoSpec_read st1 true
  obtain ⟨s1, hl1, g1⟩ := readLogS_of ⟨renderLog demoSpec, 2, 3⟩ h1
  obtain ⟨s2, _, g2⟩ := readLogS_of s1 (by rw [hl1]; exact h2)
  obtain ⟨ts, hts, e⟩ := read_stream_again LogState.empty st1 st2 ⟨renderLog demoSpec, 2, 3⟩ s1 s2 g1 g2
  exact ⟨st1, st2, s1, s2, ts, g1, g2, hts, by simpa [LogState.empty] using e⟩

-- `read_input_forms`: the text of the demo log and an open stream over it standing in its third line.
example : (readInput LogState.empty none (.stream ⟨renderLog demoSpec, 2, 3⟩)).map Prod.fst =
    (readInput LogState.empty none (.text (joinLines (renderLog demoSpec)))).map Prod.fst :=
  (read_input_forms LogState.empty none (joinLines (renderLog demoSpec)) ⟨renderLog demoSpec, 2, 3⟩
    (splitLines_joinLines _ (by decide) demoSpec_noNewline).symm).2.1

-- `ctor_render`, `ctor_render_text` (all hypotheses, incl. "no `\n` inside a line").
example : ∃ st, readText LogState.empty true (joinLines (renderLog demoSpec)) = .ok st ∧
    st.sims.map Sim.thermo = demoSpec.runs.map RunSpec.table ∧ st.version = some demoSpec.version ∧
    st.date = some ⟨2024, 2, 29⟩ :=
  ctor_render_text demoSpec demoSpec_WF demoSpec_perfQuiet demoSpec_noNewline ⟨2024, 2, 29⟩ demoSpec_date
example : ∃ st, ctorCall (some (renderLog demoSpec)) = .ok st ∧ st.sims.map Sim.thermo = demoSpec.runs.map RunSpec.table :=
  let ⟨st, h1, h2, _⟩ := ctor_render demoSpec demoSpec_WF demoSpec_perfQuiet ⟨2024, 2, 29⟩ demoSpec_date; ⟨st, h1, h2⟩

-- `read_then_flatten_all`, `gen_read_tables`, `read_tables` on the layout of the demo log.
example : ∃ st, readLog LogState.empty true demoSpec.toLayout.lines = .ok st ∧
    flattenStyle (fun _ : List Str => (0 : Int)) "all".toList (st.sims.map (fun s => s.thermo.rows)) =
      .ok [["0".toList, "300.5".toList, "-13.44".toList], ["10".toList, "290".toList],
           ["10".toList, "1e-3".toList], ["20".toList, "nan".toList]] := by
  obtain ⟨st, h⟩ := demo_read
  refine ⟨st, h, ?_⟩
  rw [read_then_flatten_all demoSpec.toLayout (toLayout_WF demoSpec demoSpec_WF) st (by decide) h]
  unfold demoSpec
  decide_lines
example : readBlocks (nonBlank demoLayout.lines)
    (Gen.LogSrc.finish (demoLayout.lines.foldl Gen.LogSrc.step (Gen.LogSrc.init false))).thermoHeaders
    (Gen.LogSrc.finish (demoLayout.lines.foldl Gen.LogSrc.step (Gen.LogSrc.init false))).thermoFooters =
      .ok (demoLayout.runs.map Run.table) := gen_read_tables demoLayout demoLayout_WF false
example : thermoTables (passOf LogState.empty true demoLayout.lines) demoLayout.lines =
    .ok [⟨["Step".toList, "Temp".toList], [["0".toList, "300.5".toList], ["10".toList, "290".toList]]⟩] := by
  rw [read_tables demoLayout demoLayout_WF]
  unfold demoLayout
  decide_lines

-- `version_date` with a suffix, `splitWs_renderCells` with a non-empty terminated rest, the line theorems.
example : dateOf ("29".toList ++ ' ' :: ("Feb".toList ++ ' ' :: ("2024".toList ++ " - Update 1".toList))) = .ok ⟨2024, 2, 29⟩ :=
  version_date "29".toList "Feb".toList "2024".toList " - Update 1".toList 29 2 2024 (by decide_lines) (by decide_lines) (by decide_lines)
    (Or.inr ⟨' ', "- Update 1".toList, rfl, Or.inl (by decide)⟩) (by decide)
example : splitWs (renderCells [⟨"  ".toList, "10".toList⟩, ⟨"\t".toList, "2.5".toList⟩] " # x".toList) =
    ["10".toList, "2.5".toList] ++ splitWs " # x".toList :=
  splitWs_renderCells _ _ (Or.inr ⟨' ', "# x".toList, rfl, by decide⟩) (by decide_lines)
example : splitLines "Step Temp\r".toList = ["Step Temp\r".toList] := splitLines_one_line _ (by decide)
example : splitLines (joinLines ["Step Temp\r".toList, "0 1.5\x0c".toList, []]) = ["Step Temp\r".toList, "0 1.5\x0c".toList, []] :=
  splitLines_joinLines _ (by decide) (by decide_lines)
example : readText LogState.empty true (joinLines demoLayout.lines) = readLog LogState.empty true demoLayout.lines :=
  readText_joinLines _ _ _ (by decide) (by unfold demoLayout demoBreak; decide_lines)
example : NoTrigger "  10\t290.5 -1e-3".toList ∧ PerfQuiet "  10\t290.5 -1e-3".toList :=
  quiet_of_no_capital _ (by decide) (by decide) (by decide)

/-- the characters `str.splitlines()` breaks at do not break a line: an echoed comment with a form feed, a vertical tab,
    the separators `\x1c \x1d \x1e`, NEL, LINE SEPARATOR, PARAGRAPH SEPARATOR is one line, and it is not blank. -/
example : splitLines "# melt\x0c part 1\nStep Temp\n".toList = ["# melt\x0c part 1".toList, "Step Temp".toList, []] := by
  decide_lines
example : splitLines "# a\x0bb\x1cc\x1dd\x1ee\u0085f g h".toList = ["# a\x0bb\x1cc\x1dd\x1ee\u0085f g h".toList] := by
  decide_lines
example : splitLines "print \"x\u2028y\u2029z\"\nLoop".toList = ["print \"x\u2028y\u2029z\"".toList, "Loop".toList] := by
  decide_lines
example : isBlank "# a\x0bb\x1cc\x1dd\x1ee\u0085f g h".toList = false := by decide_lines
/-- `\r\n`: the `\r` stays on the line (white space there), a lone `\r` inside a line does not end it. -/
example : splitLines "Step Temp\r\n0 1.5\r\n".toList = ["Step Temp\r".toList, "0 1.5\r".toList, []] := by decide_lines
example : splitWs "0 1.5\r".toList = ["0".toList, "1.5".toList] := by decide_lines
example : splitLines "progress 10%\rprogress 20%".toList = ["progress 10%\rprogress 20%".toList] := by decide_lines

/-- three overlapping runs (restart on the grid): the value the `flatten_*` theorems are instantiated on. -/
def demoRuns : List (List (Int × Nat)) := [[(0, 0), (10, 1), (20, 2)], [(20, 3), (30, 4)], [(30, 5), (40, 6)]]
abbrev stepOf : Int × Nat → Int := fun r => r.1

example : ∃ res, flattenFirst stepOf demoRuns = some res ∧ (10, 1) ∈ res ∧ (20, 3) ∉ res := by
  obtain ⟨res, h, _, hm⟩ := flatten_first stepOf [(0, 0), (10, 1), (20, 2)] [[(20, 3), (30, 4)], [(30, 5), (40, 6)]] (by decide)
  have h' : some res = some [(0, 0), (10, 1), (20, 2), (30, 4), (40, 6)] := h.symm.trans (by decide)
  cases h'
  exact ⟨_, h, by decide, by decide⟩
example : ∃ res, flattenLast stepOf demoRuns = some res ∧ res.Sublist demoRuns.flatten :=
  let ⟨res, h, hs, _⟩ := flatten_last stepOf [(0, 0), (10, 1), (20, 2)] [[(20, 3), (30, 4)], [(30, 5), (40, 6)]] (by decide)
  ⟨res, h, hs⟩
example : flattenAll demoRuns = some demoRuns.flatten := flatten_all demoRuns (by decide)

theorem demoRuns_first : flattenFirst stepOf demoRuns = some [(0, 0), (10, 1), (20, 2), (30, 4), (40, 6)] := by decide
theorem demoRuns_last : flattenLast stepOf demoRuns = some [(0, 0), (10, 1), (20, 3), (30, 5), (40, 6)] := by decide

example : ([(0, 0), (10, 1), (20, 2), (30, 4), (40, 6)] : List (Int × Nat)).Sublist demoRuns.flatten :=
  flatten_first_sublist stepOf demoRuns _ demoRuns_first
example : ([(0, 0), (10, 1), (20, 3), (30, 5), (40, 6)] : List (Int × Nat)).Sublist demoRuns.flatten :=
  flatten_last_sublist stepOf demoRuns _ demoRuns_last
example : (([(0, 0), (10, 1), (20, 2), (30, 4), (40, 6)] : List (Int × Nat)).map stepOf).Nodup :=
  flatten_first_once stepOf demoRuns _ demoRuns_first (by decide)
example : (([(0, 0), (10, 1), (20, 3), (30, 5), (40, 6)] : List (Int × Nat)).map stepOf).Nodup :=
  flatten_last_once stepOf demoRuns _ demoRuns_last (by decide)
example : (([(0, 0), (10, 1), (20, 2), (30, 4), (40, 6)] : List (Int × Nat)).map stepOf).Pairwise (· < ·) :=
  flatten_first_sorted stepOf demoRuns _ demoRuns_first (by decide)
example : (([(0, 0), (10, 1), (20, 3), (30, 5), (40, 6)] : List (Int × Nat)).map stepOf).Pairwise (· < ·) :=
  flatten_last_sorted stepOf demoRuns _ demoRuns_last (by decide)

theorem demoRuns_idx {P : Nat → List (Int × Nat) → Prop} (h0 : P 0 [(0, 0), (10, 1), (20, 2)])
    (h1 : P 1 [(20, 3), (30, 4)]) (h2 : P 2 [(30, 5), (40, 6)]) :
    ∀ (i : Nat) (run : List (Int × Nat)), demoRuns[i]? = some run → P i run := by
  intro i run hi
  match i, hi with
  | 0, hi => cases hi; exact h0
  | 1, hi => cases hi; exact h1
  | 2, hi => cases hi; exact h2
  | (n + 3), hi => simp [demoRuns] at hi

-- `flatten_first_earliest`: step 30 is printed by runs 1 and 2; the row kept is the one of run 1.
example : ((30, 4) : Int × Nat) ∈ [((20, 3) : Int × Nat), (30, 4)] :=
  flatten_first_earliest stepOf demoRuns _ demoRuns_first (30, 4) (by decide) 1 _ rfl ⟨(30, 4), by decide, rfl⟩
    (fun j run' hj hr => by
      have : j = 0 := by omega
      subst this; cases hr; decide)
-- `flatten_last_latest`: step 20 is printed by runs 0 and 1; the row kept is the one of run 1.
example : ((20, 3) : Int × Nat) ∈ [((20, 3) : Int × Nat), (30, 4)] :=
  flatten_last_latest stepOf [(0, 0), (10, 1), (20, 2)] [[(20, 3), (30, 4)], [(30, 5), (40, 6)]] (by decide) _ demoRuns_last
    (20, 3) (by decide) 1 _ rfl ⟨(20, 3), by decide, rfl⟩
    (fun j run' hj hr => by
      match j, hj, hr with
      | 2, _, hr => cases hr; decide
      | (n + 3), _, hr => simp at hr)

/-- Over concrete runs the hypothesis `haligned` of `flatten_first_complete` / `flatten_last_complete` is a finite check
    (`before j i` is `j < i` for `first` and `i < j` for `last`; `le` compares the step of the row with a step of the
    other run). -/
theorem aligned_of_check {α : Type} (step : α → Int) (runs : List (List α)) (before : Nat → Nat → Prop)
    (le : Int → Int → Prop)
    (h : ∀ i < runs.length, ∀ r ∈ runs[i]?.getD [],
      (∃ j < runs.length, before j i ∧ ∃ x ∈ runs[j]?.getD [], le (step r) (step x)) →
      ∃ j < runs.length, before j i ∧ ∃ x ∈ runs[j]?.getD [], step x = step r) :
    ∀ (i : Nat) (run : List α), runs[i]? = some run → ∀ r ∈ run,
      (∃ (j : Nat) (run' : List α), before j i ∧ runs[j]? = some run' ∧ ∃ x ∈ run', le (step r) (step x)) →
      ∃ (j : Nat) (run' : List α), before j i ∧ runs[j]? = some run' ∧ ∃ x ∈ run', step x = step r := by
  rintro i run hi r hr ⟨j, run', hji, hj, x, hx, hle⟩
  obtain ⟨j', hj', hb, y, hy, e⟩ := h i (List.getElem?_eq_some_iff.1 hi).1 r (by simpa [hi] using hr)
    ⟨j, (List.getElem?_eq_some_iff.1 hj).1, hji, x, by simpa [hj] using hx, hle⟩
  exact ⟨j', _, hb, getElem?_eq_getElem hj', y, by simpa [getElem?_eq_getElem hj'] using hy, e⟩

-- `flatten_first_complete` / `flatten_last_complete`: the runs overlap on the shared grid, so `haligned` holds and every
-- printed step is in the result.
example : ∀ (i : Nat) (run : List (Int × Nat)), demoRuns[i]? = some run → ∀ r ∈ run,
    ∃ r' ∈ ([(0, 0), (10, 1), (20, 2), (30, 4), (40, 6)] : List (Int × Nat)), stepOf r' = stepOf r :=
  flatten_first_complete stepOf [(0, 0), (10, 1), (20, 2)] [[(20, 3), (30, 4)], [(30, 5), (40, 6)]] (by decide) _ demoRuns_first
    (aligned_of_check stepOf demoRuns (· < ·) (· ≤ ·) (by decide))

example : ∀ (i : Nat) (run : List (Int × Nat)), demoRuns[i]? = some run → ∀ r ∈ run,
    ∃ r' ∈ ([(0, 0), (10, 1), (20, 3), (30, 5), (40, 6)] : List (Int × Nat)), stepOf r' = stepOf r :=
  flatten_last_complete stepOf [(0, 0), (10, 1), (20, 2)] [[(20, 3), (30, 4)], [(30, 5), (40, 6)]] (by decide) _ demoRuns_last
    (aligned_of_check stepOf demoRuns (fun j i => i < j) (fun a b => b ≤ a) (by decide))

def demoTab0 : Table := ⟨["Step".toList, "Temp".toList], [["0".toList, "1.5".toList], ["10".toList, "2.5".toList]]⟩
/-- two runs with different keyword sets: the value the table-level theorems are instantiated on. -/
def demoTabs : List Table :=
  [demoTab0,
   ⟨["Step".toList, "Press".toList], [["10".toList, "7".toList], ["20".toList, "8".toList]]⟩]

example : flattenTables "first".toList (demoTabs ++ [⟨["Time".toList], [["0.5".toList]]⟩]) = .error .assert :=
  flatten_refuses_missing_step _ _ ⟨⟨["Time".toList], [["0.5".toList]]⟩, by decide, by decide, by decide⟩
example : flattenTables "First".toList demoTabs = .error .value :=
  flatten_refuses_style _ _ _ [] (by decide) (by decide)
example : flattenTables "First".toList [demoTab0] = .ok demoTab0 :=
  flatten_single _ _ (Or.inr (by decide))
example : (unionCols demoTabs).Nodup ∧ unionCols demoTabs = ["Step".toList, "Temp".toList, "Press".toList] :=
  ⟨nodup_unionCols demoTabs (by decide), by decide⟩
theorem demoTabs_last : flattenTables "last".toList demoTabs = .ok ⟨["Step".toList, "Temp".toList, "Press".toList],
    [["0".toList, "1.5".toList, "nan".toList], ["10".toList, "nan".toList, "7".toList],
     ["20".toList, "nan".toList, "8".toList]]⟩ := by decide_lines
example : (⟨["Step".toList, "Temp".toList, "Press".toList],
    [["0".toList, "1.5".toList, "nan".toList], ["10".toList, "nan".toList, "7".toList],
     ["20".toList, "nan".toList, "8".toList]]⟩ : Table).cols = unionCols demoTabs :=
  flatten_columns "last".toList _ _ [] _ demoTabs_last
example : ∀ r ∈ ([["0".toList, "1.5".toList, "nan".toList], ["10".toList, "nan".toList, "7".toList],
     ["20".toList, "nan".toList, "8".toList]] : List (List Str)), r.length = 3 :=
  flatten_rows_width "last".toList _ _ [] _ demoTabs_last
example : flattenTables "last".toList demoTabs =
    (flattenStyle Row.step "last".toList
      [[⟨0, [("Step".toList, "0".toList), ("Temp".toList, "1.5".toList)]⟩,
        ⟨10, [("Step".toList, "10".toList), ("Temp".toList, "2.5".toList)]⟩],
       [⟨10, [("Step".toList, "10".toList), ("Press".toList, "7".toList)]⟩,
        ⟨20, [("Step".toList, "20".toList), ("Press".toList, "8".toList)]⟩]]).map
      (fun rs => ⟨unionCols demoTabs, rs.map (projectRow (unionCols demoTabs))⟩) :=
  flatten_uses_merge_loop "last".toList _ _ [] _ (by decide) (Or.inr (Or.inl rfl)) (Or.inr (by decide)) rfl
example : ((SimObj.init (some demoTab0) none).setPerf ⟨[], []⟩).keys.Nodup :=
  (setter_keys_nodup (SimObj.init (some demoTab0) none) (by decide) demoTab0 ⟨[], []⟩).2

end NonVacuity
end Atomman.C19
