/-
  C06 — `System`: the setters and getters of `symbols` / `masses` / `pbc` by their closed forms (reply and resulting state as
  functions of the stored tuples and of `atoms.natypes`), from which the invariant follows; then `System(...)`, `atoms_ix`,
  `atoms_extend`, and the calls with `scale` / `safecopy`: invariant, "reads do not write", frames.
-/
import Proofs.C06_Extend

namespace Atomman.C06

/-- a step that leaves heap and objects alone and, of the systems, only edits `symbols` / `masses` / `pbc` or appends one. -/
structure SysKept (κ : Nat → String) (s s' : State) : Prop where
  inv : InvK κ s'
  heap : s'.heap = s.heap
  objs : s'.objs = s.objs
  len : s.syss.length ≤ s'.syss.length
  sys : ∀ j, j < s.syss.length → (s'.sys j).atoms = (s.sys j).atoms ∧ (s'.sys j).box = (s.sys j).box

theorem SysKept.refl {κ : Nat → String} {s : State} (h : InvK κ s) : SysKept κ s s :=
  ⟨h, rfl, rfl, Nat.le_refl _, fun _ _ => ⟨rfl, rfl⟩⟩

theorem SysKept.trans {κ : Nat → String} {s s1 s2 : State} (h1 : SysKept κ s s1) (h2 : SysKept κ s1 s2) :
    SysKept κ s s2 :=
  ⟨h2.inv, h2.heap.trans h1.heap, h2.objs.trans h1.objs, Nat.le_trans h1.len h2.len,
    fun j hj => ⟨(h2.sys j (Nat.lt_of_lt_of_le hj h1.len)).1.trans (h1.sys j hj).1,
      (h2.sys j (Nat.lt_of_lt_of_le hj h1.len)).2.trans (h1.sys j hj).2⟩⟩

theorem SysKept.ext {κ : Nat → String} {s s' : State} (h : SysKept κ s s') : Ext κ s κ s' := by
  have hbuf : ∀ b, s'.buf b = s.buf b := buf_congr h.heap
  have hobj : ∀ o, s'.obj o = s.obj o := obj_congr h.objs
  refine ⟨⟨by rw [h.heap]; exact Nat.le_refl _, fun b _ => by rw [hbuf]; exact ⟨rfl, rfl, rfl⟩,
    by rw [h.objs]; exact Nat.le_refl _, fun o _ => by rw [hobj]; exact ⟨rfl, fun _ _ hf => hf⟩,
    h.len, fun j hj => h.sys j hj⟩, fun _ _ => rfl⟩

theorem SysKept.good {κ : Nat → String} {s s' : State} (h : SysKept κ s s') : Good κ s s' :=
  ⟨κ, h.inv, h.ext, fun hb => hb.of_le h.ext.le (by rw [h.objs])⟩

theorem sys_set (s : State) (i j : Nat) (x : SysObj) :
    ({ s with syss := s.syss.set i x } : State).sys j = if j = i ∧ i < s.syss.length then x else s.sys j :=
  getD_set _ _ _ _ _

theorem modifySys_eq (i : Nat) (f : SysObj → SysObj) (s : State) :
    modifySys i f s = (.ok (), { s with syss := s.syss.set i (f (s.sys i)) }) := rfl

theorem inv_modifySys {κ : Nat → String} {s : State} (h : InvK κ s) (i : Nat) (f : SysObj → SysObj)
    (hf : ∀ y, (f y).atoms = y.atoms ∧ (f y).box = y.box) (hpbc : ∀ y, y.pbc.length = 3 → (f y).pbc.length = 3) :
    SysKept κ s { s with syss := s.syss.set i (f (s.sys i)) } := by
  refine ⟨⟨h.heap, ?_, h.nodup, ?_⟩, rfl, rfl, by simp, ?_⟩
  · intro o ho p hp
    exact (h.props o ho p hp).of_heap_eq rfl
  · intro y hy
    by_cases hi : i < s.syss.length
    · rcases List.mem_or_eq_of_mem_set hy with h1 | h1
      · exact h.syss y h1
      · subst h1
        have := h.syss _ (sys_mem s i hi)
        exact ⟨by rw [(hf _).1]; exact this.1, hpbc _ this.2⟩
    · have : s.syss.set i (f (s.sys i)) = s.syss := List.set_eq_of_length_le (Nat.le_of_not_lt hi)
      simp only [this] at hy
      exact h.syss y hy
  · intro j _
    rw [sys_set]
    split
    · rename_i hc; rw [hc.1]; exact hf _
    · exact ⟨rfl, rfl⟩

theorem padTo_length {α : Type} (l : List (Option α)) (n : Nat) : n ≤ (padTo l n).length ∧ l.length ≤ (padTo l n).length := by
  unfold padTo
  split
  · simp; omega
  · omega

/-- `natypes` of the atoms of system `i`, as `Atoms.natypes` would reply in state `s` (an error when the `atype`
    column is empty or has an entry below 1). -/
def ntOf (s : State) (i : Nat) : Except Err Nat := (natypes (s.sys i).atoms s).1

/-- the state in which system `i` stores `l` as its symbols / masses. -/
def putSym (s : State) (i : Nat) (l : List (Option String)) : State :=
  { s with syss := s.syss.set i { s.sys i with symbols := l } }

def putMass (s : State) (i : Nat) (l : List (Option Rat)) : State :=
  { s with syss := s.syss.set i { s.sys i with masses := l } }

/-- what the `symbols` getter returns when `atoms.natypes = nt`: the stored tuple padded with `None`. -/
def symView (s : State) (i nt : Nat) : List (Option String) := padTo (s.sys i).symbols nt

/-- what `System.natypes` returns. -/
def ntView (s : State) (i nt : Nat) : Nat :=
  if (symView s i nt).length > nt then (symView s i nt).length else nt

/-- what the `masses` getter returns. -/
def massView (s : State) (i nt : Nat) : List (Option Rat) := padTo (s.sys i).masses (ntView s i nt)

theorem padTo_of_le {α : Type} (l : List (Option α)) (n : Nat) (h : ¬ l.length < n) : padTo l n = l := by
  unfold padTo; simp [h]

theorem padTo_idem {α : Type} (l : List (Option α)) (n : Nat) : padTo (padTo l n) n = padTo l n :=
  padTo_of_le _ _ (by have := (padTo_length l n).1; omega)

theorem sys_getElem (s : State) (i : Nat) (hi : i < s.syss.length) : s.syss[i] = s.sys i := by
  simp [State.sys, hi]

theorem putSym_sys (s : State) (i j : Nat) (l : List (Option String)) :
    (putSym s i l).sys j = if j = i ∧ i < s.syss.length then { s.sys i with symbols := l } else s.sys j :=
  sys_set s i j _

theorem putMass_sys (s : State) (i j : Nat) (l : List (Option Rat)) :
    (putMass s i l).sys j = if j = i ∧ i < s.syss.length then { s.sys i with masses := l } else s.sys j :=
  sys_set s i j _

theorem putSym_symbols (s : State) (i : Nat) (l : List (Option String)) (hi : i < s.syss.length) :
    ((putSym s i l).sys i).symbols = l := by
  rw [putSym_sys]; simp [hi]

theorem putMass_masses (s : State) (i : Nat) (l : List (Option Rat)) (hi : i < s.syss.length) :
    ((putMass s i l).sys i).masses = l := by
  rw [putMass_sys]; simp [hi]

theorem putMass_symbols (s : State) (i : Nat) (l : List (Option Rat)) :
    ((putMass s i l).sys i).symbols = (s.sys i).symbols := by
  rw [putMass_sys]; split <;> rfl

theorem putSym_self (s : State) (i : Nat) (hi : i < s.syss.length) : putSym s i (s.sys i).symbols = s := by
  unfold putSym
  have : ({ s.sys i with symbols := (s.sys i).symbols } : SysObj) = s.sys i := rfl
  rw [this, ← sys_getElem s i hi, List.set_getElem_self]

theorem putMass_self (s : State) (i : Nat) (hi : i < s.syss.length) : putMass s i (s.sys i).masses = s := by
  unfold putMass
  have : ({ s.sys i with masses := (s.sys i).masses } : SysObj) = s.sys i := rfl
  rw [this, ← sys_getElem s i hi, List.set_getElem_self]

theorem ntOf_of_eq (s s' : State) (j : Nat) (h1 : s'.heap = s.heap) (h2 : s'.objs = s.objs)
    (h3 : (s'.sys j).atoms = (s.sys j).atoms) : ntOf s' j = ntOf s j := by
  unfold ntOf
  rw [h3]
  exact natypes_fst_congr _ s s' h1 h2

theorem putSym_atoms (s : State) (i j : Nat) (l : List (Option String)) :
    ((putSym s i l).sys j).atoms = (s.sys j).atoms := by
  rw [putSym_sys]; split
  · rename_i h; rw [h.1]
  · rfl

theorem putMass_atoms (s : State) (i j : Nat) (l : List (Option Rat)) :
    ((putMass s i l).sys j).atoms = (s.sys j).atoms := by
  rw [putMass_sys]; split
  · rename_i h; rw [h.1]
  · rfl

theorem ntOf_putSym (s : State) (i j : Nat) (l : List (Option String)) : ntOf (putSym s i l) j = ntOf s j :=
  ntOf_of_eq s (putSym s i l) j rfl rfl (putSym_atoms s i j l)

theorem ntOf_putMass (s : State) (i j : Nat) (l : List (Option Rat)) : ntOf (putMass s i l) j = ntOf s j :=
  ntOf_of_eq s (putMass s i l) j rfl rfl (putMass_atoms s i j l)

theorem natypes_of_ntOf (s : State) (i nt : Nat) (h : ntOf s i = .ok nt) :
    (natypes (s.sys i).atoms s).1 = .ok nt := h

theorem natypes_of_ntOf_err (s : State) (i : Nat) (e : Err) (h : ntOf s i = .error e) :
    (natypes (s.sys i).atoms s).1 = .error e := h

theorem symbolsSet_closed (i : Nat) (v : List (Option String)) (s : State) (nt : Nat) (hnt : ntOf s i = .ok nt) :
    symbolsSet i v s = (.ok (), putSym s i (padTo v nt)) := by
  apply eq_of_post
  unfold symbolsSet
  rw [post_bind_getS, post_bind_natypes, natypes_of_ntOf s i nt hnt]
  exact ⟨rfl, rfl⟩

theorem symbolsSet_closed_err (i : Nat) (v : List (Option String)) (s : State) (e : Err) (hnt : ntOf s i = .error e) :
    symbolsSet i v s = (.error e, s) := by
  apply eq_of_post
  unfold symbolsSet
  rw [post_bind_getS, post_bind_natypes, natypes_of_ntOf_err s i e hnt]
  exact ⟨rfl, rfl⟩

theorem symbolsGet_closed (i : Nat) (s : State) (nt : Nat) (hi : i < s.syss.length) (hnt : ntOf s i = .ok nt) :
    symbolsGet i s = (.ok (symView s i nt), putSym s i (symView s i nt)) := by
  apply eq_of_post
  unfold symbolsGet
  rw [post_bind_getS, post_bind_natypes, natypes_of_ntOf s i nt hnt]
  simp only []
  rw [post_bind]
  split
  · apply Post.of_eq _ _ (symbolsSet_closed i _ s nt hnt)
    simp only []
    rw [post_bind_getS, post_pure]
    refine ⟨?_, rfl⟩
    rw [putSym_sys]; simp [hi, symView]
  · rename_i hge
    rw [post_pure]
    simp only []
    rw [post_bind_getS, post_pure]
    have hv : symView s i nt = (s.sys i).symbols := padTo_of_le _ _ hge
    rw [hv]
    exact ⟨rfl, (putSym_self s i hi).symm⟩

theorem symbolsGet_closed_err (i : Nat) (s : State) (e : Err) (hnt : ntOf s i = .error e) :
    symbolsGet i s = (.error e, s) := by
  apply eq_of_post
  unfold symbolsGet
  rw [post_bind_getS, post_bind_natypes, natypes_of_ntOf_err s i e hnt]
  exact ⟨rfl, rfl⟩

theorem sysNatypes_closed (i : Nat) (s : State) (nt : Nat) (hi : i < s.syss.length) (hnt : ntOf s i = .ok nt) :
    sysNatypes i s = (.ok (ntView s i nt), putSym s i (symView s i nt)) := by
  apply eq_of_post
  unfold sysNatypes
  refine Post.bind_run (symbolsGet_closed i s nt hi hnt) ?_
  rw [post_bind_getS, post_bind_natypes]
  have h1 : ntOf (putSym s i (symView s i nt)) i = .ok nt := by rw [ntOf_putSym]; exact hnt
  rw [natypes_of_ntOf _ i nt h1]
  exact ⟨rfl, rfl⟩

theorem sysNatypes_closed_err (i : Nat) (s : State) (e : Err) (hnt : ntOf s i = .error e) :
    sysNatypes i s = (.error e, s) :=
  bind_error_run (symbolsGet_closed_err i s e hnt) _

theorem symView_putSym (s : State) (i nt : Nat) (hi : i < s.syss.length) :
    symView (putSym s i (symView s i nt)) i nt = symView s i nt := by
  unfold symView
  rw [putSym_sys]; simp only [hi, and_self, if_true]
  exact padTo_idem _ _

theorem ntView_putSym (s : State) (i nt : Nat) (hi : i < s.syss.length) :
    ntView (putSym s i (symView s i nt)) i nt = ntView s i nt := by
  unfold ntView; rw [symView_putSym s i nt hi]

theorem putSym_len (s : State) (i : Nat) (l : List (Option String)) : (putSym s i l).syss.length = s.syss.length := by
  simp [putSym]

theorem putMass_len (s : State) (i : Nat) (l : List (Option Rat)) : (putMass s i l).syss.length = s.syss.length := by
  simp [putMass]

theorem putSym_putSym (s : State) (i nt : Nat) (hi : i < s.syss.length) :
    putSym (putSym s i (symView s i nt)) i (symView s i nt) = putSym s i (symView s i nt) := by
  have h := putSym_self (putSym s i (symView s i nt)) i (by rw [putSym_len]; exact hi)
  have h2 : ((putSym s i (symView s i nt)).sys i).symbols = symView s i nt := by
    rw [putSym_sys]; simp [hi]
  rw [h2] at h
  exact h

theorem symbolsGet_again (i : Nat) (s : State) (nt : Nat) (hi : i < s.syss.length) (hnt : ntOf s i = .ok nt) :
    symbolsGet i (putSym s i (symView s i nt)) = (.ok (symView s i nt), putSym s i (symView s i nt)) := by
  have hi1 : i < (putSym s i (symView s i nt)).syss.length := by rw [putSym_len]; exact hi
  have hnt1 : ntOf (putSym s i (symView s i nt)) i = .ok nt := by rw [ntOf_putSym]; exact hnt
  rw [symbolsGet_closed i _ nt hi1 hnt1, symView_putSym s i nt hi, putSym_putSym s i nt hi]

theorem massesSet_closed (i : Nat) (v : List (Option Rat)) (s : State) (nt : Nat) (hi : i < s.syss.length)
    (hnt : ntOf s i = .ok nt) :
    massesSet i v s = if v.length > ntView s i nt then (.error .value, putSym s i (symView s i nt))
      else (.ok (), putMass (putSym s i (symView s i nt)) i (padTo v (ntView s i nt))) := by
  rw [show massesSet i v s = _ from bind_ok_run (sysNatypes_closed i s nt hi hnt) _]
  by_cases h : v.length > ntView s i nt
  · simp only [h, if_true]; rfl
  · simp only [h, if_false]; rfl

theorem massesGet_closed (i : Nat) (s : State) (nt : Nat) (hi : i < s.syss.length) (hnt : ntOf s i = .ok nt) :
    massesGet i s = (.ok (massView s i nt), putMass (putSym s i (symView s i nt)) i (massView s i nt)) := by
  have hi1 : i < (putSym s i (symView s i nt)).syss.length := by rw [putSym_len]; exact hi
  have hnt1 : ntOf (putSym s i (symView s i nt)) i = .ok nt := by rw [ntOf_putSym]; exact hnt
  have hm : ((putSym s i (symView s i nt)).sys i).masses = (s.sys i).masses := by
    rw [putSym_sys]; simp [hi]
  apply eq_of_post
  unfold massesGet
  refine Post.bind_run (sysNatypes_closed i s nt hi hnt) ?_
  rw [post_bind_getS, post_bind]
  split
  · rename_i hlt
    rw [hm] at hlt
    have hset : massesSet i ((putSym s i (symView s i nt)).sys i).masses (putSym s i (symView s i nt)) =
        (.ok (), putMass (putSym s i (symView s i nt)) i (massView s i nt)) := by
      rw [massesSet_closed i _ _ nt hi1 hnt1, ntView_putSym s i nt hi, symView_putSym s i nt hi,
        putSym_putSym s i nt hi, hm]
      have : ¬ (s.sys i).masses.length > ntView s i nt := by omega
      rw [if_neg this]
      rfl
    apply Post.of_eq _ _ hset
    simp only []
    rw [post_bind_getS, post_pure]
    refine ⟨?_, rfl⟩
    rw [putMass_sys]; simp [hi1, massView]
  · rename_i hge
    rw [hm] at hge
    rw [post_pure]
    simp only []
    rw [post_bind_getS, post_pure]
    have hv : massView s i nt = (s.sys i).masses := padTo_of_le _ _ hge
    rw [hv, hm]
    refine ⟨rfl, ?_⟩
    have := putMass_self (putSym s i (symView s i nt)) i hi1
    rw [hm] at this
    exact this.symm

theorem massesGet_closed_err (i : Nat) (s : State) (e : Err) (hnt : ntOf s i = .error e) :
    massesGet i s = (.error e, s) :=
  bind_error_run (sysNatypes_closed_err i s e hnt) _

theorem sysAtypes_closed (i : Nat) (s : State) (nt : Nat) (hi : i < s.syss.length) (hnt : ntOf s i = .ok nt) :
    sysAtypes i s = (.ok ((List.range (ntView s i nt)).map (· + 1)), putSym s i (symView s i nt)) :=
  bind_ok_run (sysNatypes_closed i s nt hi hnt) _

theorem sysAtypes_closed_err (i : Nat) (s : State) (e : Err) (hnt : ntOf s i = .error e) :
    sysAtypes i s = (.error e, s) :=
  bind_error_run (sysNatypes_closed_err i s e hnt) _

theorem sysKept_putSym {κ : Nat → String} {s : State} (h : InvK κ s) (i : Nat) (l : List (Option String)) :
    SysKept κ s (putSym s i l) :=
  inv_modifySys h i (fun y => { y with symbols := l }) (fun _ => ⟨rfl, rfl⟩) (fun _ hy => hy)

theorem sysKept_putMass {κ : Nat → String} {s : State} (h : InvK κ s) (i : Nat) (l : List (Option Rat)) :
    SysKept κ s (putMass s i l) :=
  inv_modifySys h i (fun y => { y with masses := l }) (fun _ => ⟨rfl, rfl⟩) (fun _ hy => hy)

theorem inv_symbolsSet {κ : Nat → String} {s : State} (h : InvK κ s) (i : Nat) (value : List (Option String)) :
    Post (symbolsSet i value) s (fun _ s' => SysKept κ s s') := by
  cases hnt : ntOf s i with
  | error e => exact Post.of_eq _ _ (symbolsSet_closed_err i value s e hnt) (SysKept.refl h)
  | ok nt => exact Post.of_eq _ _ (symbolsSet_closed i value s nt hnt) (sysKept_putSym h i _)

theorem inv_symbolsGet {κ : Nat → String} {s : State} (h : InvK κ s) (i : Nat) (hi : i < s.syss.length) :
    Post (symbolsGet i) s (fun _ s' => SysKept κ s s') := by
  cases hnt : ntOf s i with
  | error e => exact Post.of_eq _ _ (symbolsGet_closed_err i s e hnt) (SysKept.refl h)
  | ok nt => exact Post.of_eq _ _ (symbolsGet_closed i s nt hi hnt) (sysKept_putSym h i _)

theorem inv_massesSet {κ : Nat → String} {s : State} (h : InvK κ s) (i : Nat) (hi : i < s.syss.length)
    (value : List (Option Rat)) : Post (massesSet i value) s (fun _ s' => SysKept κ s s') := by
  cases hnt : ntOf s i with
  | error e => exact Post.of_eq _ _ (bind_error_run (sysNatypes_closed_err i s e hnt) _) (SysKept.refl h)
  | ok nt =>
    refine Post.of_run (m' := fun _ => _) (massesSet_closed i value s nt hi hnt) ?_
    have h1 := sysKept_putSym h i (symView s i nt)
    split
    · exact h1
    · exact h1.trans (sysKept_putMass h1.inv i _)

theorem inv_pbcSet {κ : Nat → String} {s : State} (h : InvK κ s) (i : Nat) (value : List Bool) :
    Post (pbcSet i value) s (fun _ s' => SysKept κ s s') := by
  unfold pbcSet
  rw [post_ite]
  refine ⟨fun _ => SysKept.refl h, fun hlen => ?_⟩
  apply Post.of_eq _ _ (modifySys_eq _ _ s)
  exact inv_modifySys h i (fun y => { y with pbc := value }) (fun _ => ⟨rfl, rfl⟩) (fun _ _ => by simpa using hlen)

theorem sys_push_lt (s : State) (y : SysObj) (j : Nat) (h : j < s.syss.length) :
    ({ s with syss := s.syss ++ [y] } : State).sys j = s.sys j := by
  simp [State.sys, List.getElem?_append_left h]

theorem pushSys_eq (y : SysObj) (s : State) :
    pushSys y s = (.ok s.syss.length, { s with syss := s.syss ++ [y] }) := rfl

theorem inv_pushSys {κ : Nat → String} {s : State} (h : InvK κ s) (y : SysObj) (ho : y.atoms < s.objs.length)
    (hp : y.pbc.length = 3) : SysKept κ s { s with syss := s.syss ++ [y] } := by
  refine ⟨⟨h.heap, ?_, h.nodup, ?_⟩, rfl, rfl, by simp, ?_⟩
  · intro o ho p hp
    exact (h.props o ho p hp).of_heap_eq rfl
  · intro y' hy'
    simp only [List.mem_append, List.mem_singleton] at hy'
    rcases hy' with hy' | rfl
    · exact h.syss y' hy'
    · exact ⟨ho, hp⟩
  · intro j hj
    rw [sys_push_lt s y j hj]
    exact ⟨rfl, rfl⟩

theorem sys_push_last (s : State) (y : SysObj) :
    ({ s with syss := s.syss ++ [y] } : State).sys s.syss.length = y := by
  simp [State.sys]

theorem mkSys_spec {κ : Nat → String} {s : State} (h : InvK κ s) (o : Nat) (box : Box Rat) (pbc : List Bool)
    (symbols : Option (List (Option String))) (masses : Option (List (Option Rat))) (ho : o < s.objs.length) :
    Post (mkSys o box pbc symbols masses) s (fun r s' => SysKept κ s s' ∧
      ∀ i, r = .ok i → (s'.sys i).atoms = o ∧ (s'.sys i).box = box) := by
  unfold mkSys
  refine post_atomic_of_ok (fun _ => ⟨SysKept.refl h, fun _ hc => by cases hc⟩) ?_
  refine Post.bind_run (pushSys_eq _ s) ?_
  have hk0 := inv_pushSys h ⟨o, box, [true, true, true], [], []⟩ ho rfl
  have hlast := sys_push_last s ⟨o, box, [true, true, true], [], []⟩
  have hlt : s.syss.length < ({ s with syss := s.syss ++ [⟨o, box, [true, true, true], [], []⟩] } : State).syss.length := by
    simp
  refine Post.bind_ok (inv_pbcSet hk0.inv _ pbc) ?_
  intro _ s1 hk1
  refine Post.bind_ok (inv_symbolsSet hk1.inv _ _) ?_
  intro _ s2 hk2
  refine Post.bind_ok (inv_massesSet hk2.inv _ (Nat.lt_of_lt_of_le hlt (Nat.le_trans hk1.len hk2.len)) _) ?_
  intro _ s3 hk3
  rw [post_pure]
  intro i hi
  obtain rfl : i = s.syss.length := (Except.ok.inj hi).symm
  refine ⟨((hk0.trans hk1).trans hk2).trans hk3, ?_⟩
  intro i hi
  obtain rfl : i = s.syss.length := (Except.ok.inj hi).symm
  have h13 := ((hk1.trans hk2).trans hk3).sys s.syss.length hlt
  rw [hlast] at h13
  exact h13

theorem inv_mkSys {κ : Nat → String} {s : State} (h : InvK κ s) (o : Nat) (box : Box Rat) (pbc : List Bool)
    (symbols : Option (List (Option String))) (masses : Option (List (Option Rat))) (ho : o < s.objs.length) :
    Post (mkSys o box pbc symbols masses) s (fun _ s' => SysKept κ s s') :=
  Post.mono (mkSys_spec h o box pbc symbols masses ho) (fun _ _ hq => hq.1)

theorem post_good_bind {α β : Type} {κ : Nat → String} {s : State} {m : M α} {f : α → M β}
    {P : Except Err α → State → Prop}
    (h1 : Post m s (fun r s1 => Good κ s s1 ∧ P r s1))
    (h2 : ∀ a κ1 s1, InvK κ1 s1 → Ext κ s κ1 s1 → (Boundary s → Boundary s1) → P (.ok a) s1 →
      Post (f a) s1 (fun _ s2 => Good κ1 s1 s2)) :
    Post (m >>= f) s (fun _ s2 => Good κ s s2) := by
  refine Post.bind h1 (fun _ _ hq => hq.1) ?_
  intro a s1 ⟨⟨κ1, hinv1, hext1, hb1⟩, hp⟩
  exact Post.mono (h2 a κ1 s1 hinv1 hext1 hb1 hp) (fun _ _ hg2 => Good.trans hext1 hb1 hg2)

/-- rows of three float cells, one per 3-vector of a value whose last axis has length 3 (what `Box.relToCart` /
    `Box.cartToRel` mapped over a value build): a well-formed float value of the same shape. -/
theorem flt3_ok (shape : List Nat) (m : Nat) (a b c : Nat → Rat) (hd : shape.getLast? = some 3) (hm : m = prod shape) :
    ValOK ⟨.flt, shape, ((List.range (m / 3)).map (fun j => [Cell.flt (a j), Cell.flt (b j), Cell.flt (c j)])).flatten⟩ := by
  obtain ⟨k, hk⟩ := prod_getLast_dvd _ _ hd
  constructor
  · rw [length_flatten_const _ 3]
    · simp only [List.length_map, List.length_range, hm, hk]
      rw [Nat.mul_div_cancel_left k (by decide : 0 < 3)]
      exact Nat.mul_comm _ _
    · intro r hr
      simp only [List.mem_map] at hr
      obtain ⟨j, _, rfl⟩ := hr
      rfl
  · intro x hx
    simp only [List.mem_flatten, List.mem_map] at hx
    obtain ⟨r, ⟨j, _, rfl⟩, hxr⟩ := hx
    simp at hxr
    rcases hxr with rfl | rfl | rfl <;> rfl

theorem relToCart_ok (box : Box Rat) (v v' : Val) (hv : ValOK v) (h : relToCartVal box v = .ok v') : ValOK v' := by
  unfold relToCartVal at h
  split at h
  · cases h
  · rename_i d hd
    split at h
    · cases h
    · rename_i hd3
      have hd3 : d = 3 := by simpa using hd3
      subst hd3
      split at h
      · cases h
      · rename_i cells hcells
        injection h with h
        subst h
        exact flt3_ok _ _ _ _ _ hd (by rw [List.length_map, (mapM_option _ _ _ hcells).1, hv.1])

/-- `atoms_prop(key, index, value, scale=True)` is `prop(key, index, value')` with `value'` the Cartesian
    image of the box-relative `value` (refused when `value` is not a list of 3-vectors). -/
theorem sysPropSetScaled_decomp (i : Nat) (key : String) (ix : Option Index) (v : Val) (s : State) :
    sysPropSetScaled i key ix v s =
      match relToCartVal (s.sys i).box v with
      | .ok v' => propSet (s.sys i).atoms key ix v' s
      | .error e => (.error e, s) := by
  unfold sysPropSetScaled
  show M.bind getS _ s = _
  unfold M.bind getS
  simp only []
  cases relToCartVal (s.sys i).box v <;> rfl

theorem inv_sysPropSetScaled {κ : Nat → String} {s : State} (h : InvK κ s) (i : Nat) (key : String)
    (ix : Option Index) (v : Val) (hv : ValOK v) :
    Post (sysPropSetScaled i key ix v) s (fun _ s' => Kept κ s s') := by
  refine Post.of_run (m' := fun _ => _) (sysPropSetScaled_decomp i key ix v s) ?_
  cases hr : relToCartVal (s.sys i).box v with
  | error e => exact Kept.refl h
  | ok v' => exact inv_propSet h _ key ix v' (relToCart_ok _ _ _ hv hr)

theorem inv_sysPropSetAtomsScaled {κ : Nat → String} {s : State} (h : InvK κ s) (i : Nat) (ix : Option Index)
    (src : Nat) : Post (sysPropSetAtomsScaled i ix src) s (fun _ s' => Kept κ s s') := by
  unfold sysPropSetAtomsScaled
  rw [post_bind_getS]
  simp only []
  rw [post_bind_keyErr]
  split
  · rename_i pa hfind
    have hp := h.find_ok src "pos" pa hfind
    rw [post_bind_liftE]
    cases hr : relToCartVal (s.sys i).box (arrVal s pa) with
    | error e => exact Kept.refl h
    | ok v' =>
      simp only []
      refine Post.bind (inv_viewSet h src "pos" (.lit v') (relToCart_ok _ _ _ (arrVal_ok h hp.valid) hr))
        (fun _ _ hq => hq.1) ?_
      intro u s1 ⟨⟨κ1, hinv1, hext1, hlen1, hsys1⟩, _⟩
      exact Post.mono (setItem_spec hinv1 _ _ src).fst (fun _ _ hk2 => Kept.trans hext1 hlen1 hsys1 hk2)
  · exact Kept.refl h

theorem sysAtoms_hasAP {κ : Nat → String} {s : State} (h : InvK κ s) (hb : Boundary s) {i : Nat} (hi : i < s.syss.length) :
    HasAP (s.obj (s.sys i).atoms) := hb _ (h.syss _ (sys_mem s i hi)).1

/-- `system.atoms_ix[index]` is `atoms[index]`, a read of `symbols`, and `System(atoms=…, symbols=…)`. -/
theorem ixGet_decomp (i : Nat) (ix : Index) (s s' : State) (r : Nat × Nat) (h : ixGet i ix s = (.ok r, s')) :
    ∃ a s1 syms s2, getItem (s.sys i).atoms ix s = (.ok a, s1) ∧ symbolsGet i s1 = (.ok syms, s2) ∧
      mkSys a (s.sys i).box (s.sys i).pbc (some syms) none s2 = (.ok r.2, s') ∧ r.1 = a := by
  simp only [ixGet, bind_ok_iff, getS_ok_iff, pure_ok_iff] at h
  obtain ⟨_, _, ⟨rfl, rfl⟩, a, s1, h1, syms, s2, h2, j, _, h3, rfl, rfl⟩ := h
  exact ⟨a, s1, syms, s2, h1, h2, h3, rfl⟩

theorem inv_ixGet {κ : Nat → String} {s : State} (h : InvK κ s) (hb : Boundary s) (i : Nat) (ix : Index)
    (hi : i < s.syss.length) : Post (ixGet i ix) s (fun _ s' => Good κ s s') := by
  unfold ixGet
  rw [post_bind_getS]
  simp only []
  apply post_good_bind (P := fun r s1 => ∀ a, r = .ok a → a < s1.objs.length)
  · apply Post.mono (getItem_spec h _ ix (sysAtoms_hasAP h hb hi)).fst
    intro r s1 hm
    refine ⟨Good.of_made hm, ?_⟩
    intro a ha; subst ha; exact hm.lt
  · intro a κ1 s1 hinv1 hext1 hb1 ha
    apply post_good_bind (P := fun r s2 => s2.objs = s1.objs)
    · apply Post.mono (inv_symbolsGet hinv1 i (Nat.lt_of_lt_of_le hi hext1.le.syssLen))
      intro r s2 hk
      exact ⟨hk.good, hk.objs⟩
    · intro syms κ2 s2 hinv2 hext2 hb2 hobjs
      exact Post.bind (inv_mkSys hinv2 a _ _ (some syms) none (by rw [hobjs]; exact ha a rfl))
        (fun _ _ hk3 => hk3.good) (fun _ _ hk3 => hk3.good)

theorem inv_sysExtend {κ : Nat → String} {s : State} (h : InvK κ s) (hb : Boundary s) (off : Bool) (i : Nat)
    (value : Int ⊕ Nat) (scale : Bool) (symbols : Option (List (Option String)))
    (hi : i < s.syss.length) (hd : ∀ d, value = .inr d → d < s.objs.length) :
    Post (sysExtend off i value scale symbols) s (fun _ s' => Good κ s s') := by
  unfold sysExtend
  rw [post_bind_getS]
  simp only []
  rw [post_ite]
  refine ⟨fun _ => Good.refl h, fun _ => ?_⟩
  apply post_good_bind (P := fun r s1 => s1.objs = s.objs)
  · cases symbols with
    | some l => exact ⟨Good.refl h, rfl⟩
    | none =>
      apply Post.mono (inv_symbolsGet h i hi)
      intro r s1 hk
      exact ⟨hk.good, hk.objs⟩
  · intro syms κ1 s1 hinv1 hext1 hb1 hobjs1
    have hap1 : HasAP (s1.obj (s.sys i).atoms) := (sysAtoms_hasAP h hb hi).persists hext1.le _
    have ho1 : (s.sys i).atoms < s1.objs.length := by rw [hobjs1]; exact (h.syss _ (sys_mem s i hi)).1
    apply post_good_bind (P := fun r s2 => ∀ a, r = .ok a → a < s2.objs.length)
    · cases value with
      | inl n =>
        apply Post.mono (extendInt_spec hinv1 _ n hap1 ho1).fst
        intro r s2 hg
        exact ⟨hg.1, fun a ha => (hg.2 a ha).1⟩
      | inr d =>
        have hd1 : d < s1.objs.length := by rw [hobjs1]; exact hd d rfl
        apply Post.mono (inv_extendWith hinv1 _ d hap1 ho1 hd1 (hb1 hb d hd1))
        intro r s2 hm
        exact ⟨Good.of_made hm, fun a ha => by subst ha; exact hm.lt⟩
    · intro a κ2 s2 hinv2 hext2 hb2 ha
      -- "Unscale pos from Atoms value if needed": the scaled donor positions overwrite the appended rows of "pos"
      apply post_good_bind (P := fun r s3 => s3.objs.length = s2.objs.length)
      · rw [post_ite]
        refine ⟨fun _ => ?_, fun _ => ⟨Good.refl hinv2, rfl⟩⟩
        cases value with
        | inl n => exact ⟨Good.refl hinv2, rfl⟩
        | inr d =>
          simp only []
          rw [post_bind_getS, post_bind_keyErr]
          cases (s2.obj d).find "pos" with
          | none => exact ⟨Good.refl hinv2, rfl⟩
          | some pd =>
            simp only []
            rw [post_bind_liftE]
            cases relToCartVal (s.sys i).box (arrVal s2 pd) with
            | error e => exact ⟨Good.refl hinv2, rfl⟩
            | ok v' =>
              simp only []
              rw [post_bind_keyErr]
              cases hfa : (s2.obj a).find "pos" with
              | none => exact ⟨Good.refl hinv2, rfl⟩
              | some pa =>
                have hp := hinv2.find_ok a "pos" pa hfa
                apply Post.mono (inv_assign hinv2 pa _ _ (fun hc => by simp at hc) ?_)
                · intro r s3 hw3
                  exact ⟨Good.of_kept hw3.kept, by rw [hw3.objs]⟩
                · -- the write goes through a buffer the ghost files under "pos": the `atype ≥ 1` clause is not at stake
                  intro hκ
                  have : ("pos" : String) = "atype" := hp.key.symm.trans hκ
                  exact absurd this (by decide)
      · intro u κ3 s3 hinv3 hext3 hb3 hlen3
        exact Post.bind (inv_mkSys hinv3 a _ _ (some syms) none (by rw [hlen3]; exact ha a rfl))
          (fun _ _ hk4 => hk4.good) (fun _ _ hk4 => hk4.good)

theorem cartToRel_ok (box : Box Rat) (v v' : Val) (hv : ValOK v) (h : cartToRelVal box v = .ok v') : ValOK v' := by
  unfold cartToRelVal at h
  split at h
  · cases h
  · rename_i d hd
    split at h
    · cases h
    · rename_i hd3
      have hd3 : d = 3 := by simpa using hd3
      subst hd3
      split at h
      · cases h
      · split at h
        · cases h
        · rename_i cells hcells
          injection h with h
          subst h
          exact flt3_ok _ _ _ _ _ hd (by rw [List.length_map, (mapM_option _ _ _ hcells).1, hv.1])

theorem cartToRel_shape (box : Box Rat) (v v' : Val) (h : cartToRelVal box v = .ok v') :
    v'.shape = v.shape ∧ v'.dt = .flt := by
  unfold cartToRelVal at h
  split at h
  · cases h
  · split at h
    · cases h
    · split at h
      · cases h
      · split at h
        · cases h
        · injection h with h; subst h; exact ⟨rfl, rfl⟩

theorem sysPropGetScaled_post (i : Nat) (key : String) (ix : Option Index) (s : State) :
    Post (sysPropGetScaled i key ix) s (fun _ s' => s' = s) := by
  unfold sysPropGetScaled
  rw [post_bind_getS]
  simp only []
  exact Post.bind (propGet_post _ key ix s) (fun _ _ he => he) (fun _ _ he => he)

/-- **`System.atoms_prop(index=…, scale=True)`** (no key, no value; `index` may be absent): the invariant, and the frame of
    the scaled read — whatever it returns or raises, every buffer and every object that existed before and every
    system is literally unchanged, and the object it returns keeps all of its arrays — `pos`, overwritten in place with
    the box-relative positions, included — in buffers allocated by the call. -/
theorem sysPropGetAtomsScaled_spec {κ : Nat → String} {s : State} (h : InvK κ s) (hb : Boundary s) (i : Nat)
    (ix : Option Index) (hi : i < s.syss.length) :
    Post (sysPropGetAtomsScaled i ix) s (fun r s' => Good κ s s' ∧ FrameOK s.heap.length s.objs.length s s' ∧
      ∀ o', r = .ok o' → FreshObj s.heap.length o' s') := by
  unfold sysPropGetAtomsScaled
  rw [post_bind_getS]
  simp only []
  have hap := sysAtoms_hasAP h hb hi
  have hfirst : Post (match ix with
      | none => deepcopy (s.sys i).atoms
      | some ix => propGetAtoms (s.sys i).atoms ix : M Nat) s (fun r s1 => GoodObj κ s r s1 ∧
      OrSame s (fun o' s1 => Priv s.heap.length s.objs.length o' s s1) r s1) := by
    cases ix with
    | none => exact deepcopy_frame h _ hap
    | some jx => exact propGetAtoms_spec h _ jx hap
  refine Post.bind hfirst ?_ ?_
  · intro e s1 ⟨hg, hpriv⟩
    obtain rfl : s1 = s := hpriv
    exact ⟨hg.1, FrameOK.refl _ _ _, fun o' hc => by cases hc⟩
  · intro t s1 ⟨hg, hpriv⟩
    obtain ⟨κ1, hinv1, hext1, hb1⟩ := hg.1
    have hp : Priv s.heap.length s.objs.length t s s1 := hpriv
    have hstop : Good κ s s1 ∧ FrameOK s.heap.length s.objs.length s s1 ∧
        ∀ o', (Except.error Err.key : Except Err Nat) = .ok o' → FreshObj s.heap.length o' s1 :=
      ⟨hg.1, hp.frame, fun o' hc => by cases hc⟩
    rw [post_bind_getS, post_bind_keyErr]
    split
    · rename_i pa hfind
      have hpa := hinv1.find_ok t "pos" pa hfind
      rw [post_bind_liftE]
      cases hr : cartToRelVal (s.sys i).box (arrVal s1 pa) with
      | error e => exact ⟨hg.1, hp.frame, fun o' hc => by cases hc⟩
      | ok v' =>
        simp only []
        refine Post.bind (Post.and
          (inv_viewSet hinv1 t "pos" (.lit v') (cartToRel_ok _ _ _ (arrVal_ok hinv1 hpa.valid) hr))
          (viewSet_lit_frame t "pos" v' hp)) ?_ ?_
        · intro e s2 ⟨⟨hk, _⟩, hp2, _⟩
          exact ⟨Good.trans hext1 hb1 (Good.of_kept hk), hp2.frame, fun o' hc => by cases hc⟩
        · intro u s2 ⟨⟨hk, _⟩, hp2, _⟩
          refine ⟨Good.trans hext1 hb1 (Good.of_kept hk), hp2.frame, fun o' ho' => ?_⟩
          obtain rfl : o' = t := (Except.ok.inj ho').symm
          exact hp2.fresh
    · exact hstop

theorem inv_sysDeepcopy {κ : Nat → String} {s : State} (h : InvK κ s) (hb : Boundary s) (i : Nat) (hi : i < s.syss.length) :
    Post (sysDeepcopy i) s (fun _ s' => Good κ s s') := by
  unfold sysDeepcopy
  rw [post_bind_getS]
  simp only []
  have hy := sys_mem s i hi
  have hpbc := (h.syss _ hy).2
  apply post_good_bind (P := fun r s1 => ∀ a, r = .ok a → a < s1.objs.length)
  · apply Post.mono (deepcopy_spec h _ (sysAtoms_hasAP h hb hi)).fst
    intro r s1 hm
    refine ⟨Good.of_made hm, ?_⟩
    intro a ha; subst ha; exact hm.lt
  · intro a κ1 s1 hinv1 hext1 hb1 ha
    refine Post.bind_run (pushSys_eq _ s1) ?_
    exact (inv_pushSys hinv1 { s.sys i with atoms := a } (ha a rfl) hpbc).good

theorem sysPropSetScaled_frame (i : Nat) (key : String) (v : Val) {n m : Nat} {s st : State}
    (hp : Priv n m (st.sys i).atoms s st) :
    Post (sysPropSetScaled i key none v) st (fun _ st' => Priv n m (st.sys i).atoms s st') := by
  unfold sysPropSetScaled
  rw [post_bind_getS]
  simp only []
  rw [post_bind_liftE]
  split
  · exact Post.mono (viewSet_lit_frame _ key _ hp) (fun _ _ hq => hq.1)
  · exact hp

/-- **`System(atoms, …, scale=…, safecopy=…)`**: the invariant; and with `safecopy=True`, whatever the constructor returns or
    raises, every buffer and every object that existed is untouched — with `scale=True` the conversion lands in the copy —
    and a returned system is bound to a new atoms object, on the box handed in, in buffers of its own. -/
theorem mkSysX_spec {κ : Nat → String} {s : State} (h : InvK κ s) (hb : Boundary s) (o : Nat) (box : Box Rat)
    (pbc : List Bool) (symbols : Option (List (Option String))) (masses : Option (List (Option Rat)))
    (scale safecopy : Bool) (ho : o < s.objs.length) :
    Post (mkSysX o box pbc symbols masses scale safecopy) s (fun r s' => Good κ s s' ∧
      (safecopy = true → (∀ b, b < s.heap.length → s'.buf b = s.buf b) ∧ (∀ o', o' < s.objs.length → s'.obj o' = s.obj o') ∧
        ∀ a i, r = .ok (a, i) → FreshObj s.heap.length a s' ∧ (s'.sys i).atoms = a ∧ (s'.sys i).box = box)) := by
  unfold mkSysX
  refine post_atomic_of_ok (fun _ => ⟨Good.refl h, fun _ => ⟨fun _ _ => rfl, fun _ _ => rfl, fun a i hc => by cases hc⟩⟩) ?_
  -- the atoms the system is built on: the object handed in, or its copy in a private region
  have hfirst : Post (if safecopy then deepcopy o else pure o : M Nat) s (fun r s1 => ∀ a, r = .ok a →
      Good κ s s1 ∧ a < s1.objs.length ∧ (safecopy = true → Priv s.heap.length s.objs.length a s s1)) := by
    cases safecopy with
    | true =>
      refine Post.mono (deepcopy_frame h o (hb o ho)) ?_
      intro r s1 ⟨hg, hp⟩ a ha
      subst ha
      exact ⟨hg.1, (hg.2 a rfl).1, fun _ => hp⟩
    | false =>
      intro a ha
      obtain rfl := Except.ok.inj ha
      exact ⟨Good.refl h, ho, fun hc => by cases hc⟩
  refine Post.bind_ok hfirst ?_
  intro a s1 hq
  obtain ⟨⟨κ1, hinv1, hext1, hb1⟩, ha, hp1⟩ := hq a rfl
  refine Post.bind_ok (mkSys_spec hinv1 a box pbc symbols masses ha) ?_
  intro i s2 ⟨hk, hres⟩
  obtain ⟨hat, hbox⟩ := hres i rfl
  have hbuf2 : ∀ b, s2.buf b = s1.buf b := buf_congr hk.heap
  have hobj2 : ∀ o', s2.obj o' = s1.obj o' := obj_congr hk.objs
  -- "scale": the positions of `a` are overwritten in place
  have hlast : Post (if scale then do
        let s ← getS
        let pa ← keyErr ((s.obj a).find "pos")
        sysPropSetScaled i "pos" none (arrVal s pa)
       else pure () : M Unit) s2 (fun r s3 => ∀ u, r = .ok u → Kept κ1 s2 s3 ∧
      (safecopy = true → Priv s.heap.length s.objs.length a s2 s3)) := by
    have hp2 : safecopy = true → Priv s.heap.length s.objs.length a s2 s2 := fun hc =>
      ⟨FrameOK.refl _ _ s2, fun p hp => by rw [hobj2] at hp; exact (hp1 hc).fresh p hp,
        by rw [hk.heap]; exact (hp1 hc).heapLe, (hp1 hc).objLe⟩
    cases scale with
    | false => intro u _; exact ⟨Kept.refl hk.inv, hp2⟩
    | true =>
      simp only [if_true]
      rw [post_bind_getS, post_bind_keyErr]
      split
      · rename_i pa hfind
        have hpa := hk.inv.find_ok a "pos" pa hfind
        refine Post.mono (Post.and (inv_sysPropSetScaled hk.inv i "pos" none (arrVal s2 pa) (arrVal_ok hk.inv hpa.valid))
          (Post.imp fun (hc : safecopy = true) => sysPropSetScaled_frame i "pos" (arrVal s2 pa) (hat ▸ hp2 hc))) ?_
        intro r s3 ⟨hkept, hp3⟩ u _
        exact ⟨hkept, fun hc => hat ▸ hp3 hc⟩
      · intro u hc; cases hc
  refine Post.bind_ok hlast ?_
  intro u s3 hq
  obtain ⟨hkept, hp3⟩ := hq u rfl
  rw [post_pure]
  intro r hr
  obtain rfl := Except.ok.inj hr
  obtain ⟨_, _, _, hb2⟩ := hk.good
  refine ⟨Good.trans hext1 hb1 (Good.trans hk.ext hb2 (Good.of_kept hkept)), fun hc => ?_⟩
  obtain ⟨hf3, hfr3, _, _⟩ := hp3 hc
  refine ⟨fun b hb' => ((hf3.1 b hb').trans (hbuf2 b)).trans ((hp1 hc).frame.1 b hb'),
    fun o' ho' => ((hf3.2.1 o' ho').trans (hobj2 o')).trans ((hp1 hc).frame.2.1 o' ho'), fun a' i' hai => ?_⟩
  obtain ⟨rfl, rfl⟩ := Prod.mk.inj (Except.ok.inj hai)
  have hsys : s3.sys i = s2.sys i := by simp [State.sys, hf3.2.2]
  exact ⟨hfr3, by rw [hsys]; exact hat, by rw [hsys]; exact hbox⟩

end Atomman.C06
