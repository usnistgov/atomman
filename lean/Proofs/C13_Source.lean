/-
  C13 — the source tie.  `lean/Atomman/Generated/DislocationSource.lean` is regenerated on every check by `translate()`
  (harness/props/c13.py) from the CURRENT source of atomman/defect/Dislocation/, atomman/region/ and atomman/defect/disregistry.py,
  every definition assembled from the operators, constants, indices, branch and argument order read with `ast`.  Each is proved
  equal to the hand model here (`gen_…_eq_model`); code that is not a Lean definition (calls into System / the solver / numpy) is held by
  statement pins (`gen_…_pinned`: the generated text must equal the text written here).
-/
import Proofs.C13_Regions
import Atomman.Generated.DislocationSource
import Mathlib.Tactic.IntervalCases

namespace Atomman.C13
open Atomman
set_option linter.unusedSectionVars false

variable {K : Type} [Field K] [LinearOrder K] [IsStrictOrderedRing K]

/-- Python indexing of `self.shifts` as the generated decision tree takes it. -/
def pyIdx (l : List (V3 K)) (i : Int) : Except String (V3 K) :=
  match pyGet? l i with
  | some s => .ok s
  | none => .error "index"

/-- the decision tree of `Dislocation.set_shift` as it stands in the source is the model's `setShift`. -/
theorem gen_setShift_eq_model (vects : M3 K) (shifts : List (V3 K)) (a : ShiftArgs K) :
    Gen.Disl.setShift pyIdx vects shifts a.shift a.index a.scale = setShift vects shifts a := by
  obtain ⟨s, i, sc⟩ := a
  cases s with
  | none =>
    cases i with
    | none => cases shifts <;> simp [Gen.Disl.setShift, setShift, pyIdx, pyGet?]
    | some i => rfl
  | some s =>
    cases i with
    | none => cases sc <;> simp [Gen.Disl.setShift, setShift]
    | some i => simp only [Gen.Disl.setShift, setShift]

theorem gen_defaultMults_eq_model (line : Nat) :
    Gen.Disl.monoDefaultMults line = defaultMults line ∧ Gen.Disl.arrDefaultMults line = defaultMults line :=
  ⟨rfl, rfl⟩

set_option linter.unusedVariables false in
/-- the six asserts of the `try:` block, on a sequence of any length and content, accept exactly what the model's
    `checkMultsRaw` accepts (both generators). -/
theorem gen_checkMults_eq_model (line : Nat) (hl : line < 3) (l : List MultEntry) :
    Gen.Disl.monoCheckMults line l.length (fun i => MultEntry.isInt l[i]?) (fun i => MultEntry.val l[i]?)
      = (checkMultsRaw line l).isSome ∧
    Gen.Disl.arrCheckMults line l.length (fun i => MultEntry.isInt l[i]?) (fun i => MultEntry.val l[i]?)
      = (checkMultsRaw line l).isSome := by
  -- `arrCheckMults` unfolds to the same term as `monoCheckMults`, so one proof serves both halves
  have h : Gen.Disl.monoCheckMults line l.length (fun i => MultEntry.isInt l[i]?) (fun i => MultEntry.val l[i]?)
      = (checkMultsRaw line l).isSome := by
    simp only [Gen.Disl.monoCheckMults]
    by_cases h3 : ∃ a b c, l = [.int a, .int b, .int c]
    · obtain ⟨a, b, c, rfl⟩ := h3
      have hv : ∀ i, i < 3 → MultEntry.val ([.int a, .int b, .int c] : List MultEntry)[i]? = (⟨a, b, c⟩ : IV).get i := by
        intro i hi; interval_cases i <;> rfl
      simp only [hv _ (Nat.mod_lt _ (by decide : 0 < 3)), hv 0 (by decide), hv 1 (by decide), hv 2 (by decide),
        checkMultsRaw, checkMults]
      have hg : ∀ i, (⟨a, b, c⟩ : IV).get i = if i = 0 then a else if i = 1 then b else c := fun _ => rfl
      simp [MultEntry.isInt, hg 0, hg 1, hg 2, apply_ite Option.isSome, Bool.and_assoc]
    · have hr : checkMultsRaw line l = none := by
        unfold checkMultsRaw
        split
        · exact absurd ⟨_, _, _, rfl⟩ h3
        · rfl
      rw [hr]
      -- a sequence of three entries that all pass `isinstance(·, int)` is of that form
      by_contra hne
      simp only [Option.isSome_none, Bool.not_eq_false, Bool.and_eq_true, decide_eq_true_eq] at hne
      obtain ⟨⟨⟨⟨⟨hlen, ha, _⟩, hb, _⟩, hc, _⟩, _⟩, _⟩ := hne
      obtain ⟨x, y, z, rfl⟩ := List.length_eq_three.mp hlen
      cases x <;> cases y <;> cases z <;> simp [MultEntry.isInt] at ha hb hc
      exact h3 ⟨_, _, _, rfl⟩
  exact ⟨h, h⟩

/-- each `amin / bmin / cmin` block (guard `> 0.0`, `int(ceil(min / length))`, the odd → even bump across the line,
    the larger of the two multipliers) is the model's `minMult` on `minQ`. -/
theorem gen_minMult_eq_model (ceil : K → Int) (line : Nat) (vmin len : K) (cur : Int) :
    (Gen.Disl.monoMin0 ceil line vmin len cur = minMult line 0 (minQ ceil vmin len) cur ∧
     Gen.Disl.monoMin1 ceil line vmin len cur = minMult line 1 (minQ ceil vmin len) cur ∧
     Gen.Disl.monoMin2 ceil line vmin len cur = minMult line 2 (minQ ceil vmin len) cur) ∧
    (Gen.Disl.arrMin0 ceil line vmin len cur = minMult line 0 (minQ ceil vmin len) cur ∧
     Gen.Disl.arrMin1 ceil line vmin len cur = minMult line 1 (minQ ceil vmin len) cur ∧
     Gen.Disl.arrMin2 ceil line vmin len cur = minMult line 2 (minQ ceil vmin len) cur) := by
  by_cases h : 0 < vmin
  · simp only [Gen.Disl.monoMin0, Gen.Disl.monoMin1, Gen.Disl.monoMin2, Gen.Disl.arrMin0, Gen.Disl.arrMin1,
      Gen.Disl.arrMin2, minMult, minQ, h, gt_iff_lt, decide_true, if_true, ne_eq, Bool.and_eq_true, decide_eq_true_eq,
      decide_not, Bool.not_eq_true', decide_eq_false_iff_not]
    -- the generated test reads `line ≠ k`, the model's `k ≠ line`
    refine ⟨⟨?_, ?_, ?_⟩, ?_, ?_, ?_⟩ <;> (congr 1 <;> simp [eq_comm])
  · simp [Gen.Disl.monoMin0, Gen.Disl.monoMin1, Gen.Disl.monoMin2, Gen.Disl.arrMin0, Gen.Disl.arrMin1,
      Gen.Disl.arrMin2, minMult, minQ, h]

/-- the three `(lo, hi)` assignments: `(0, s)` at `lineindex`, `(-s // 2, s // 2)` at `lineindex - 1` and
    `lineindex - 2` (Python negative indexing into the three entries) are the model's `sizeOf`. -/
theorem gen_sizeOf_eq_model (line : Nat) (hl : line < 3) (s : Int) :
    (Gen.Disl.monoSize0 s = ((sizeOf line line s).lo, (sizeOf line line s).hi) ∧
     Gen.Disl.monoSize1 s = ((sizeOf line ((line + 2) % 3) s).lo, (sizeOf line ((line + 2) % 3) s).hi) ∧
     Gen.Disl.monoSize2 s = ((sizeOf line ((line + 1) % 3) s).lo, (sizeOf line ((line + 1) % 3) s).hi)) ∧
    (Gen.Disl.arrSize0 s = ((sizeOf line line s).lo, (sizeOf line line s).hi) ∧
     Gen.Disl.arrSize1 s = ((sizeOf line ((line + 2) % 3) s).lo, (sizeOf line ((line + 2) % 3) s).hi) ∧
     Gen.Disl.arrSize2 s = ((sizeOf line ((line + 1) % 3) s).lo, (sizeOf line ((line + 1) % 3) s).hi)) := by
  interval_cases line <;> simp [Gen.Disl.monoSize0, Gen.Disl.monoSize1, Gen.Disl.monoSize2, Gen.Disl.arrSize0,
    Gen.Disl.arrSize1, Gen.Disl.arrSize2, sizeOf]

theorem gen_shiftGiven_eq_model (a : ShiftArgs K) :
    Gen.Disl.monoShiftGiven a.shift a.index = a.given ∧ Gen.Disl.arrShiftGiven a.shift a.index = a.given := ⟨rfl, rfl⟩

theorem gen_center_eq_model (vects : M3 K) (c : Option (V3 K)) (sc : Bool) :
    Gen.Disl.monoCenter vects c sc = resolveCenter vects c sc ∧ Gen.Disl.arrCenter vects c sc = resolveCenter vects c sc := by
  cases c <;> exact ⟨rfl, rfl⟩

theorem gen_width_eq_model (ua w : K) (sc : Bool) :
    Gen.Disl.monoWidth ua w sc = resolveWidth ua w sc ∧ Gen.Disl.arrWidth ua w sc = resolveWidth ua w sc := ⟨rfl, rfl⟩

/-- the shapes `monopole` does not refuse are exactly those the model knows. -/
theorem gen_shapes_eq_model (s : String) : (Shape.ofString? s).isSome = Gen.Disl.monoShapes.contains s := by
  unfold Shape.ofString? Gen.Disl.monoShapes
  split <;> simp_all

/-- the boundary step is taken exactly when the model takes it, the `radius > 0` assertion is the model's. -/
theorem gen_boundaryGuard_eq_model (w : K) :
    Gen.Disl.monoBoundaryGuard w = decide (0 < w) ∧ Gen.Disl.arrBoundaryGuard w = decide (0 < w) ∧
    Gen.Disl.cylRadiusOk w = decide (0 < w) := ⟨rfl, rfl, rfl⟩

theorem gen_pbc_eq_model (i : Nat) : Gen.Disl.monoPbc i = pbcOnly i ∧ Gen.Disl.arrPbc i = pbcExcept i := by
  constructor <;> simp [Gen.Disl.monoPbc, Gen.Disl.arrPbc, pbcOnly, pbcExcept]

/-- `box_boundary` takes the faces `i`, `i + 3` of the two directions that are not the line, in this order;
    `array_boundary` the faces `cut`, `cut + 3`. -/
theorem gen_boundaryPlanes_eq_model (line cut : Nat) (b : Box K) :
    boxBoundaryPlanes line b = (Gen.Disl.boxBoundaryIdx line).map (fun i => (boxPlanes b).getD i (b.origin, b.origin)) ∧
    arrayBoundaryPlanes cut b = (Gen.Disl.arrayBoundaryIdx cut).map (fun i => (boxPlanes b).getD i (b.origin, b.origin)) := by
  refine ⟨?_, rfl⟩
  simp only [boxBoundaryPlanes, Gen.Disl.boxBoundaryIdx, List.map_flatMap]
  congr 1
  apply List.filter_congr; intro x _; simp

/-- `plane.point -= width * plane.normal`: the point of the coded plane (`belowCoded`) component by component. -/
theorem gen_planeShift_eq_model (s w : K) (pl : V3 K × V3 K) :
    pl.2 - V3.smul w (V3.smul (1 / s) pl.1) =
      ⟨Gen.Disl.boxBoundaryShift w pl.2.x (V3.smul (1 / s) pl.1).x, Gen.Disl.boxBoundaryShift w pl.2.y (V3.smul (1 / s) pl.1).y,
       Gen.Disl.boxBoundaryShift w pl.2.z (V3.smul (1 / s) pl.1).z⟩ ∧
    ∀ pt nrm : K, Gen.Disl.arrayBoundaryShift w pt nrm = Gen.Disl.boxBoundaryShift w pt nrm := by
  refine ⟨?_, fun _ _ => rfl⟩
  simp [Gen.Disl.boxBoundaryShift, V3.smul, V3.sub_def]

/-- `Plane.below(inclusive=True)` on the coded plane is `belowCoded` (the definition `boundary_iff_outside_box` is
    stated with). -/
theorem gen_planeBelow_eq_model (s w : K) (pl : V3 K × V3 K) (p : V3 K) :
    Gen.Disl.planeBelow true (V3.dot (V3.smul (1 / s) pl.1) p)
      (V3.dot (V3.smul (1 / s) pl.1) (pl.2 - V3.smul w (V3.smul (1 / s) pl.1))) = true ↔ belowCoded s w pl p := by
  simp [Gen.Disl.planeBelow, belowCoded]

theorem foldl_and_eq_all {α : Type} (f : α → Bool) (l : List α) (acc : Bool) :
    l.foldl (fun a b => a && f b) acc = (acc && l.all f) := by
  induction l generalizing acc with
  | nil => simp
  | cons x r ih => simp [ih, Bool.and_assoc]

/-- `PlaneSet.outside(pos)` through `Shape.outside` (default `inclusive=False` → `~inside(inclusive=True)`),
    `PlaneSet.inside` (conjunction over the planes) and `Plane.below` is `PlaneSetOutside`. -/
theorem gen_planeSetOutside_eq_model (norm : V3 K → K) (w : K) (pls : List (V3 K × V3 K)) (p : V3 K) :
    Gen.Disl.shapeOutside (fun incl => Gen.Disl.planeSetInside incl (pls.map fun pl incl' =>
      Gen.Disl.planeBelow incl' (V3.dot (V3.smul (1 / norm pl.1) pl.1) p)
        (V3.dot (V3.smul (1 / norm pl.1) pl.1) (pl.2 - V3.smul w (V3.smul (1 / norm pl.1) pl.1))))) = true
      ↔ PlaneSetOutside norm w pls p := by
  simp only [Gen.Disl.shapeOutside, Gen.Disl.planeSetInside, PlaneSetOutside, Bool.not_false]
  rw [foldl_and_eq_all (fun b : Bool → Bool => b true), Bool.true_and, Bool.not_eq_true', ← Bool.not_eq_true,
    List.all_eq_true, List.forall_mem_map]
  exact not_congr (forall₂_congr fun pl _ => gen_planeBelow_eq_model _ w pl p)

/-- `Cylinder.outside(pos)` (no end caps) is `CylinderOutside`. -/
theorem gen_cylinderOutside_eq_model (norm : V3 K → K) (L : V3 K) (radius : K) (p : V3 K) :
    Gen.Disl.shapeOutside (fun incl => Gen.Disl.cylInside incl (norm (V3.cross p (V3.smul (1 / norm L) L))) radius) = true
      ↔ CylinderOutside norm L radius p := by
  simp [Gen.Disl.shapeOutside, Gen.Disl.cylInside, CylinderOutside]

/-- `cylinder_boundary`: `vect1`, `vect2` are the rows `lineindex - 2`, `lineindex - 1` of the reference box and
    `radius = smallest - width`. -/
theorem gen_cylRadius_eq_model (sqrt : K → K) (mi ni line : Nat) (b : Box K) (w : K) :
    cylRadius sqrt mi ni line b w = Gen.Disl.cylRadius (sqrt (cylSmallest2 mi ni line b)) w ∧
    cylSmallest2 mi ni line b =
      (let v1 := proj2 mi ni (b.vects.row (Gen.Disl.cylRows line).1)
       let v2 := proj2 mi ni (b.vects.row (Gen.Disl.cylRows line).2)
       let o := proj2 mi ni b.origin
       min4 (lineDist2 o v1) (lineDist2 o v2) (lineDist2 (o.1 + v2.1, o.2 + v2.2) v1)
         (lineDist2 (o.1 + v1.1, o.2 + v1.2) v2)) := ⟨rfl, rfl⟩

/-- the `line` / `intersection` helpers of `cylinder_boundary`: the normal line through (0, 0) with direction
    `c · (-v₂, v₁)` (or the opposite sense) meets the boundary line through `p` and `p + v` at a point whose squared
    distance from (0, 0) is the model's `lineDist2 p v`. -/
theorem gen_cylIntersection_eq_model (p v : K × K) (c : K) (hc : c ≠ 0) (hv : v.1 * v.1 + v.2 * v.2 ≠ 0) :
    ∃ x y : K, Gen.Disl.cylIntersection (Gen.Disl.cylLine (0, 0) (c * -v.2, c * v.1))
        (Gen.Disl.cylLine p (p.1 + v.1, p.2 + v.2)) = some (x, y) ∧ x * x + y * y = lineDist2 p v := by
  obtain ⟨p1, p2⟩ := p
  obtain ⟨v1, v2⟩ := v
  simp only at hv
  simp only [Gen.Disl.cylIntersection, Gen.Disl.cylLine]
  -- the determinant of the two lines is `-c |v|²`: they always meet
  have eD : (0 - c * v1) * (p1 + v1 - p1) - (c * -v2 - 0) * (p2 - (p2 + v2)) = -(c * (v1 * v1 + v2 * v2)) := by ring
  have hD : -(c * (v1 * v1 + v2 * v2)) ≠ 0 := neg_ne_zero.mpr (mul_ne_zero hc hv)
  simp only [eD, if_pos hD]
  refine ⟨_, _, rfl, ?_⟩
  simp only [lineDist2, cross2]
  have hN : v1 ^ 2 + v2 ^ 2 ≠ 0 := by rwa [sq, sq]
  field_simp
  ring

theorem gen_tilt_eq_model (o : Orient) (vects : M3 K) (b : V3 K) :
    tiltedVects o vects b = setRow vects o.motion
      (Gen.Disl.arrTilt (b.get o.motion) (vects.row o.motion) (V3.smul half b)) := by
  simp [tiltedVects, Gen.Disl.arrTilt]

theorem gen_linearDisp_eq_model (mi ni : Nat) (b : V3 K) (L : K) (p : V3 K) :
    linearDisp mi ni b L p = V3.smul (Gen.Disl.linearFactor sgn (p.get ni) (p.get mi) L) b := rfl

/-- the strip of boundary atoms, the expected count, the mismatch test, the surface layers as they stand in
    `build_disl_array`. -/
theorem gen_array_formulas_eq_model (sb s : K) (n : Nat) (vects newvects : M3 K) (found er : Int) (bmot length : K) :
    (decide (s < sb) || decide (1 - sb < s)) = Gen.Disl.arrInStrip sb s ∧
    expectedDel n vects newvects = Gen.Disl.arrExpected (((n : Int) : K)) (volume newvects) (volume vects) ∧
    decide (found ≠ er) = Gen.Disl.arrMismatch found er ∧
    absK (((2 : Int) : K) * bmot / length) = absK (Gen.Disl.arrSburgersArg bmot length) :=
  ⟨rfl, rfl, rfl, rfl⟩

theorem gen_inLayer_eq_model (cut : Nat) (box : Box K) (bw : K) (p : V3 K) :
    inSurfaceLayer cut box bw p =
      (let y0 := box.origin.get cut
       let y1 := y0 + (box.vects.row cut).get cut
       let sw := Gen.Disl.arrSwap y0 y1
       Gen.Disl.arrInLayer (if sw then y1 else y0) (if sw then y0 else y1) bw (p.get cut)) := by
  simp [inSurfaceLayer, Gen.Disl.arrSwap, Gen.Disl.arrInLayer]

/-- `mindistance < cutoff` on the distance is the model's squared test (the model also demands `0 < cutoff`, which a
    non-negative distance below the cutoff implies). -/
theorem gen_isDup_eq_model (cutoff d d2 : K) (hd : 0 ≤ d) (hd2 : d * d = d2) :
    Gen.Disl.arrIsDup cutoff d = true ↔ (0 < cutoff ∧ d2 < cutoff * cutoff) := by
  simp only [Gen.Disl.arrIsDup, decide_eq_true_eq, ← hd2]
  constructor
  · intro h; exact ⟨lt_of_le_of_lt hd h, mul_self_lt_mul_self hd h⟩
  · rintro ⟨hc, h⟩; by_contra hn
    exact absurd (mul_self_le_mul_self hc.le (not_lt.mp hn)) (not_le.mpr h)

/-- `uniquey[uniquey > midy]` / `uniquey[uniquey < midy]`: the selections of the two adjoining planes. -/
theorem gen_disregSel_eq_model (mid y : K) :
    Gen.Disl.disregAboveySel mid y = decide (mid < y) ∧ Gen.Disl.disregBelowySel mid y = decide (y < mid) := ⟨rfl, rfl⟩

/-- statement pin: the parameter names, their order and their defaults of `__init__`, `set_shift`, `monopole`, `periodicarray`, `build_disl_array`, `disregistry`; the order cells → offered shifts → `set_shift` in `__init__`; the positional arguments handed to `set_shift` by the generators. -/
theorem gen_signatures_pinned :
  Gen.Disl.sigInit =
  ([("ucell", ""), ("C", ""), ("burgers", ""), ("ξ_uvw", ""), ("slip_hkl", ""), ("conventional_setting", "'p'"), ("ucell_setting", "None"), ("m", "'y'"), ("n", "'z'"), ("shift", "None"), ("shiftindex", "None"), ("shiftscale", "False"), ("tol", "1e-08")] : List (String × String)) ∧
  Gen.Disl.sigSetShift =
  ([("shift", "None"), ("shiftindex", "None"), ("shiftscale", "False")] : List (String × String)) ∧
  Gen.Disl.sigMonopole =
  ([("sizemults", "None"), ("amin", "0.0"), ("bmin", "0.0"), ("cmin", "0.0"), ("shift", "None"), ("shiftindex", "None"), ("shiftscale", "False"), ("center", "None"), ("centerscale", "False"), ("boundaryshape", "'cylinder'"), ("boundarywidth", "0.0"), ("boundaryscale", "False"), ("return_base_system", "False")] : List (String × String)) ∧
  Gen.Disl.sigPeriodicarray =
  ([("sizemults", "None"), ("amin", "0.0"), ("bmin", "0.0"), ("cmin", "0.0"), ("shift", "None"), ("shiftindex", "None"), ("shiftscale", "False"), ("center", "None"), ("centerscale", "False"), ("boundarywidth", "0.0"), ("boundaryscale", "False"), ("linear", "False"), ("cutoff", "None"), ("return_base_system", "False")] : List (String × String)) ∧
  Gen.Disl.sigBuildDislArray =
  ([("base_system", ""), ("center", ""), ("linear", "False"), ("bwidth", "None"), ("cutoff", "None")] : List (String × String)) ∧
  Gen.Disl.sigDisregistry =
  ([("basesystem", ""), ("dislsystem", ""), ("m", "[1.0, 0.0, 0.0]"), ("n", "[0.0, 1.0, 0.0]"), ("planepos", "[0.0, 0.0, 0.0]")] : List (String × String)) ∧
  Gen.Disl.initCalls =
  (["self.__set_cells(ucell, ξ_uvw, setting=conventional_setting, maxindex=5, tol=tol)", "self.__identify_shifts(tol)", "self.set_shift(shift, shiftindex, shiftscale)"] : List String) ∧
  Gen.Disl.monoSetShiftArgs =
  (["shift", "shiftindex", "shiftscale"] : List String) ∧
  Gen.Disl.arrSetShiftArgs =
  (["shift", "shiftindex", "shiftscale"] : List String) :=
  ⟨rfl, rfl, rfl, rfl, rfl, rfl, rfl, rfl, rfl⟩

/-- statement pin: `monopole`: supersize → shift → wrap → deepcopy → displacement at (reference position − centre) → pbc → wrap → set_systems; the region is built from `base_system.box`, tested on `disl_system.atoms.pos`, the types raised by `base_system.natypes`. -/
theorem gen_monopole_statements_pinned :
  Gen.Disl.monoShapes =
  (["cylinder", "box"] : List String) ∧
  Gen.Disl.monoCore =
  (["base_system = self.rcell.supersize(*sizemults)",
   "base_system.atoms.pos += shift",
   "base_system.wrap()",
   "disl_system = deepcopy(base_system)",
   "disl_system.atoms.pos += self.dislsol.displacement(disl_system.atoms.pos - center)",
   "disl_system.pbc = [False, False, False]",
   "disl_system.pbc[self.lineindex] = True",
   "disl_system.wrap()",
   "self.set_systems(base_system, disl_system)"] : List String) ∧
  Gen.Disl.monoDispatch =
  ([("box", "self.box_boundary", ["base_system.box", "boundarywidth"]), ("cylinder", "self.cylinder_boundary", ["base_system.box", "boundarywidth"])] : List (String × String × List String)) ∧
  Gen.Disl.monoRetype =
  (["disl_system.atoms.atype", "shape.outside", "disl_system.atoms.pos", "base_system.natypes"] : List String) ∧
  Gen.Disl.monoRetypeSymbols =
  ("disl_system.symbols = 2 * base_system.symbols" : String) ∧
  Gen.Disl.monoAfter =
  (["if return_base_system:\n    return (base_system, disl_system)\nelse:\n    return disl_system"] : List String) :=
  ⟨rfl, rfl, rfl, rfl, rfl, rfl⟩

/-- statement pin: `periodicarray`: supersize → shift → wrap → build_disl_array(base_system, center, linear, bwidth = boundarywidth, cutoff) → reference trimmed by `old_id`; region / re-typing as in `monopole`. -/
theorem gen_periodicarray_statements_pinned :
  Gen.Disl.arrCore =
  (["base_system = self.rcell.supersize(*sizemults)",
   "base_system.atoms.pos += shift",
   "base_system.wrap()",
   "disl_system = self.build_disl_array(base_system, center, linear=linear, bwidth=boundarywidth, cutoff=cutoff)",
   "base_system = base_system.atoms_ix[disl_system.atoms.old_id]"] : List String) ∧
  Gen.Disl.arrDispatch =
  ([("", "self.array_boundary", ["base_system.box", "boundarywidth"])] : List (String × String × List String)) ∧
  Gen.Disl.arrRetype =
  (["disl_system.atoms.atype", "shape.outside", "disl_system.atoms.pos", "base_system.natypes"] : List String) ∧
  Gen.Disl.arrRetypeSymbols =
  ("disl_system.symbols = 2 * base_system.symbols" : String) ∧
  Gen.Disl.arrAfter =
  (["self.set_systems(base_system, disl_system)", "if return_base_system:\n    return (base_system, disl_system)\nelse:\n    return disl_system"] : List String) :=
  ⟨rfl, rfl, rfl, rfl, rfl⟩

/-- statement pin: `cylinder_boundary`: the four boundary lines, which normal line meets which, the un-normalised normals, the axis of the returned Cylinder (through the Cartesian origin along the line vector, no end caps). -/
theorem gen_cylinder_boundary_pinned :
  Gen.Disl.cylBoundLines =
  ([["origin", "origin + vect1"], ["origin", "origin + vect2"], ["origin + vect2", "origin + vect2 + vect1"], ["origin + vect1", "origin + vect1 + vect2"]] : List (List String)) ∧
  Gen.Disl.cylIntersections =
  ([["normal_line_1", "bound_bot1"], ["normal_line_2", "bound_bot2"], ["normal_line_1", "bound_top1"], ["normal_line_2", "bound_top2"]] : List (List String)) ∧
  Gen.Disl.cylNormals =
  (["line([0, 0], normal_vect1)", "line([0, 0], normal_vect2)", "np.array([-vect1[1], vect1[0]])", "np.array([vect2[1], -vect2[0]])"] : List String) ∧
  Gen.Disl.cylReturn =
  (["np.zeros(3)", "box.vects[self.lineindex]", "return Cylinder(center1, center2, radius, endcaps=False)"] : List String) :=
  ⟨rfl, rfl, rfl, rfl⟩

/-- statement pin: `build_disl_array` statement by statement (everything that is not one of the translated formulas): defaults, the `isclose` tolerances, test system, duplicate bookkeeping, refusals, `old_id`, the linear / elastic branches. -/
theorem gen_build_disl_array_pinned :
  Gen.Disl.arrDefaults =
  ([("bwidth", "10", "angstrom"), ("cutoff", "0.5", "angstrom")] : List (String × String × String)) ∧
  Gen.Disl.arrIscloseCalls =
  ([["spos[:, motionindex]", "1.0", "rtol=0.0", "atol=1e-08"],
   ["expected", "round(expected)"],
   ["spos[:, cutindex]", "0.5", "rtol=0"]] : List (List String)) ∧
  Gen.Disl.arrElastic =
  (["miny = base_system.box.origin.dot(n)",
   "maxy = miny + vects[cutindex].dot(n)",
   "if maxy < miny:\n    miny, maxy = (maxy, miny)",
   "y = disl_system.atoms.pos.dot(n)",
   "ii = np.where((y <= miny + bwidth) | (y >= maxy - bwidth))",
   "disp = self.dislsol.displacement(disl_system.atoms.pos - center)",
   "disp[:, cutindex] -= disp[:, cutindex].mean()",
   "disp[ii] = linear_displacement(disl_system.atoms.pos[ii] - center, burgers, length, m, n)"] : List String) ∧
  Gen.Disl.arrLinear =
  (["disp = linear_displacement(disl_system.atoms.pos - center, burgers, length, m, n)"] : List String) ∧
  Gen.Disl.arrHead =
  (["m = self.dislsol.m",
   "n = self.dislsol.n",
   "burgers = self.dislsol.burgers",
   "pos = base_system.atoms.pos",
   "vects = base_system.box.vects",
   "spos = base_system.atoms_prop(key='pos', scale=True)",
   "lineindex = self.lineindex",
   "cutindex = self.cutindex",
   "motionindex = self.motionindex",
   "onface = np.isclose(spos[:, motionindex], 1.0, rtol=0.0, atol=1e-08)",
   "if np.any(onface):\n    pos[onface] -= vects[motionindex]\n    spos = base_system.atoms_prop(key='pos', scale=True)",
   "if np.isclose(spos[:, cutindex], 0.5, rtol=0).sum() > 0:\n    raise ValueError('atom positions found on slip plane: apply a coordinate shift')",
   "newvects = deepcopy(vects)",
   "if burgers.dot(m) > 0:\n    newvects[motionindex] -= burgers / 2\nelse:\n    newvects[motionindex] += burgers / 2",
   "newbox = Box(vects=newvects, origin=base_system.box.origin)",
   "newpbc = [True, True, True]",
   "newpbc[cutindex] = False",
   "length = np.abs(vects[motionindex].dot(m))",
   "testsystem = System(atoms=deepcopy(base_system.atoms), box=newbox, pbc=newpbc, symbols=base_system.symbols)",
   "testsystem.atoms.pos += linear_displacement(pos - center, burgers, length, m, n)",
   "testsystem.atoms.old_id = range(testsystem.natoms)",
   "spos = testsystem.atoms_prop(key='pos', scale=True)",
   "sburgers = np.abs(2 * burgers[motionindex] / length)",
   "boundaryatoms = testsystem.atoms[(spos[:, motionindex] < sburgers) | (spos[:, motionindex] > 1.0 - sburgers)]",
   "dup_atom_ids = []",
   "ii = np.ones(base_system.natoms, dtype=bool)",
   "ii[dup_atom_ids] = False",
   "found = base_system.natoms - ii.sum()",
   "expected = base_system.natoms - base_system.natoms * newbox.volume / base_system.box.volume",
   "if np.isclose(expected, round(expected)):\n    expected = int(round(expected))\nelse:\n    raise ValueError('expected number of atoms to delete not an integer: check burgers vector')",
   "if found != expected:\n    raise ValueError('Deleted atom mismatch: expected %i, found %i. Adjust system dimensions and/or cutoff' % (expected, found))",
   "disl_system = System(atoms=base_system.atoms[ii], box=newbox, pbc=newpbc, symbols=base_system.symbols)",
   "disl_system.atoms.old_id = np.where(ii)[0]"] : List String) ∧
  Gen.Disl.arrTail =
  (["disl_system.atoms.pos += disp", "disl_system.wrap()", "return disl_system"] : List String) :=
  ⟨rfl, rfl, rfl, rfl, rfl, rfl⟩

/-- statement pin: `disregistry`: which array is selected / reduced by which numpy routine. -/
theorem gen_disregistry_pinned :
  Gen.Disl.disregAssign =
  ([("allx", "np.dot(basepos, m)"),
   ("ally", "np.dot(basepos, n)"),
   ("midy", "np.dot(planepos, n)"),
   ("uniquey", "np.unique(ally)"),
   ("abovex", "allx[np.isclose(ally, abovey)]"),
   ("belowx", "allx[np.isclose(ally, belowy)]"),
   ("uabovex", "np.unique(abovex)"),
   ("ubelowx", "np.unique(belowx)"),
   ("coord", "np.union1d(uabovex, ubelowx)"),
   ("abovedisp", "disp[np.isclose(ally, abovey)]"),
   ("belowdisp", "disp[np.isclose(ally, belowy)]"),
   ("disregistry", "abovedispinterp - belowdispinterp")] : List (String × String)) :=
  rfl

end Atomman.C13
