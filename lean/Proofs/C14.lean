/-
  C14 — surface-oriented cells (`free_surface_basis`), termination shifts and the surface system (`FreeSurface`),
  stacking-fault shifts (`StackingFault.fault`).  Model: lean/Atomman/C14.lean.  Here is what joins the `C14_*` modules:
  the headline for the regenerated routine, the clauses for the system an object holds after any history of calls, the cut
  between atomic planes in the built system under the generated cut check; and concrete runs of the model.
-/
import Proofs.C14_Basis
import Proofs.C14_Layers
import Proofs.C14_Surface
import Proofs.C14_Object
import Proofs.C14_Counts
import Proofs.C14_Source

namespace Atomman.C14
open Atomman

section entry
variable {K : Type} [CommRing K] [LinearOrder K] [IsStrictOrderedRing K]

/-- **the headline for the generated code**: whatever `Gen.C14.basisABC` — the stages regenerated from the current
    source of `free_surface_basis` — returns, put in the row order the generated `cutboxvector` chain selects, is a
    right-handed integer basis with two rows in the plane, the third a primitive vector on the normal's side, and the
    normal a positive multiple of the reciprocal-lattice vector; the chain selects an order exactly for `'a'`, `'b'`, `'c'`. -/
theorem gen_free_surface_basis_correct (V : M3 K) (hdet : 0 < M3.det V) (hkl : IV) (L : M3 Int) (s : String)
    (nOpt : Option Int) (r : ABC K) (uvws : M3 Int)
    (h : Gen.C14.basisABC V hkl L nOpt = .ok r) (ho : Gen.C14.orderRows? s r.a r.b r.c = some uvws) :
    ∃ cut, Cut.ofString? s = some cut ∧ FsbClauses V hkl L cut uvws r.pn := by
  rw [gen_basisABC_eq_model] at h
  rw [gen_orderRows_eq_model] at ho
  cases hc : Cut.ofString? s with
  | none => rw [hc] at ho; cases ho
  | some cut =>
    rw [hc] at ho
    have ho' : orderRows cut r.a r.b r.c = uvws := by simpa using ho
    subst ho'
    refine ⟨cut, rfl, free_surface_basis_correct V hdet hkl L cut nOpt _ _ ?_⟩
    unfold freeSurfaceBasis
    rw [h]

end entry

section objectClauses
variable {K : Type} [Field K] [LinearOrder K] [IsStrictOrderedRing K]

/-- **fault_history_clauses**: on one `StackingFault` object, after ANY sequence of calls (`surface()` with other
    shifts / multipliers / vacuum / fault planes, refused calls, the `faultpos_*` setters, `set_shift`, earlier
    `fault()` / `iterfaultmap()` calls), a `fault()` call that returns has moved the atoms of the *stored* system
    relative to the plane *in force*: every atom at or below it is only re-wrapped (not moved at all when it is
    inside the periodic directions), every atom above it ends at `p + shift` minus an integer combination of the
    cell vectors that vanishes along every non-periodic direction. -/
theorem fault_history_clauses (st : SFStatic K) (hfl : C05.IsFloor st.fl) (o0 : SFState K) (h0 : Coherent st o0)
    (ops : List (SFOp K)) (a : FaultArgs K) (o' : SFState K) (ps : List (V3 K))
    (hr : faultOp st (sfRun st o0 ops).1 a = (o', .ok ps)) :
    ∃ s fp sh, o'.system = some s ∧ o'.fpCart = some fp ∧ resolveFShift st.cut o' a.fshift = .ok sh ∧
      ps = s.atoms.map (fun x => faultPos s.box s.pbc st.fl st.cut fp sh x.pos) ∧
      (M3.det s.box.vects ≠ 0 → ∀ x ∈ s.atoms,
        (x.pos.get (cutIndex st.cut) ≤ fp →
          faultPos s.box s.pbc st.fl st.cut fp sh x.pos = wrapPos s.box s.pbc st.fl x.pos ∧
          (insidePeriodic s.box s.pbc x.pos → faultPos s.box s.pbc st.fl st.cut fp sh x.pos = x.pos)) ∧
        (fp < x.pos.get (cutIndex st.cut) →
          ∃ n : IV, faultPos s.box s.pbc st.fl st.cut fp sh x.pos + C05.latticeVec s.box.vects n = x.pos + sh ∧
            (s.pbc.x = false → n.x = 0) ∧ (s.pbc.y = false → n.y = 0) ∧ (s.pbc.z = false → n.z = 0))) := by
  obtain ⟨s, fp, sh, e1, e2, e3, e4⟩ := fault_after_history st o0 h0 ops a o' ps hr
  refine ⟨s, fp, sh, e1, e2, e3, ?_, ?_⟩
  · rw [e4]; unfold fault; rw [List.map_map]; rfl
  · intro hdet x _
    refine ⟨fun hb => ?_, fun ha => fault_above_shifted s.box hdet s.pbc st.fl st.cut fp sh x.pos ha⟩
    obtain ⟨b1, _, b3⟩ := fault_below_fixed s.box hdet s.pbc st.fl hfl st.cut fp sh x.pos hb
    exact ⟨b1, b3⟩

/-- **vacuum_same_crystal**: the system built with a vacuum width holds the same atoms at the same Cartesian
    positions as the one built without, with the same pbc and the same in-plane cell vectors: the crystal (the
    positions modulo the periodic in-plane vectors) is the same; only the extent across the non-periodic cut grows. -/
theorem vacuum_same_crystal (st : SFStatic K) (shift : V3 K) (s0 s1 s2 : C04.Size) (v : K) :
    (buildSurface st shift s0 s1 s2 (some v)).atoms = (buildSurface st shift s0 s1 s2 none).atoms ∧
    (buildSurface st shift s0 s1 s2 (some v)).pbc = (buildSurface st shift s0 s1 s2 none).pbc ∧
    (∀ i, i < 3 → i ≠ cutIndex st.cut → (buildSurface st shift s0 s1 s2 (some v)).box.vects.row i
      = (buildSurface st shift s0 s1 s2 none).box.vects.row i) :=
  ⟨rfl, rfl, (vacuum_symmetric st.cut _ v).1⟩

/-- **stored_system_same_crystal**: after ANY history of calls the stored system (if there is one) is non-periodic
    only across the cut and holds, for one shift and three non-zero multipliers, `m_a m_b m_c` copies of every atom
    of the rotated cell — same type and per-atom values — at the original position plus that shift plus a lattice
    vector of the rotated cell (the clause `surface_same_crystal` proves for a single build). -/
theorem stored_system_same_crystal (st : SFStatic K) (hdet : M3.det st.rbox.vects ≠ 0) (hfl : C05.IsFloor st.fl)
    (o0 : SFState K) (h0 : Built st o0) (ops : List (SFOp K)) (s : SurfSys K)
    (hs : (sfRun st o0 ops).1.system = some s) :
    s.pbc = cutPbc st.cut ∧ ∃ (sh : V3 K) (s0 s1 s2 : C04.Size),
      s.atoms.length = s2.mult.toNat * (s1.mult.toNat * (s0.mult.toNat * st.ratoms.length)) ∧
      ∀ a' ∈ s.atoms, ∃ a ∈ st.ratoms, ∃ n : IV, a'.atype = a.atype ∧ a'.extra = a.extra ∧
        a'.pos = a.pos + sh + C05.latticeVec st.rbox.vects n := by
  obtain ⟨sh, s0, s1, s2, vac, m0, m1, m2, rfl⟩ := sfRun_built st ops o0 h0 s hs
  obtain ⟨_, hl, hat⟩ := surface_same_crystal st.rbox hdet s0 s1 s2 m0 m1 m2 st.fl hfl sh st.ratoms
  refine ⟨rfl, sh, s0, s1, s2, hl, ?_⟩
  intro a' ha'
  obtain ⟨a, ha, n, e1, e2, e3, _⟩ := hat a' ha'
  exact ⟨a, ha, n, e1, e2, e3⟩

end objectClauses

/-! ## non-vacuity: the hypotheses of the theorems are satisfiable (concrete runs of the model) -/

/-- the driver's floor is a floor. -/
theorem isFloor_ratFloor : C05.IsFloor (K := ℚ) Rat.floor := C05.isFloor_ratFloor

def exCubic : M3 ℚ := ⟨⟨1, 0, 0⟩, ⟨0, 1, 0⟩, ⟨0, 0, 1⟩⟩
def exTri : M3 ℚ := ⟨⟨2, 0, 0⟩, ⟨1, 3, 0⟩, ⟨1 / 2, 1, 4⟩⟩
def exFccPrim : M3 ℚ := ⟨⟨1, 1, 0⟩, ⟨0, 1, 1⟩, ⟨1, 0, 1⟩⟩
def exId : M3 Int := ⟨⟨1, 0, 0⟩, ⟨0, 1, 0⟩, ⟨0, 0, 1⟩⟩

example : c2p "p" = some exId := rfl
example : M3.det exCubic ≠ 0 ∧ 0 < M3.det exTri ∧ M3.det exFccPrim ≠ 0 := by decide +kernel
-- cubic (111), cut c
example : freeSurfaceBasis exCubic ⟨1, 1, 1⟩ exId .c none
    = .ok (⟨⟨-1, 1, 0⟩, ⟨-1, 0, 1⟩, ⟨1, 1, 1⟩⟩, ⟨1, 1, 1⟩) := by decide +kernel
/-- triclinic (210), cut c: the out-of-plane vector is the reduction [100] of a longer candidate. -/
theorem exTri_run : freeSurfaceBasis exTri ⟨2, 1, 0⟩ exId .c none
    = .ok (⟨⟨0, 0, 1⟩, ⟨1, -2, 0⟩, ⟨1, 0, 0⟩⟩, ⟨24, 0, -3⟩) := by decide +kernel
example : freeSurfaceBasis exTri ⟨2, 1, 0⟩ exId .c none
    = .ok (⟨⟨0, 0, 1⟩, ⟨1, -2, 0⟩, ⟨1, 0, 0⟩⟩, ⟨24, 0, -3⟩) := exTri_run
-- face-centred setting: (111) of the conventional cell on the primitive fcc cell, cut a
example : ∃ L, c2p "f" = some L ∧ freeSurfaceBasis exFccPrim ⟨1, 1, 1⟩ L .a none
    = .ok (⟨⟨1, 1, 1⟩, ⟨-1, 1, 0⟩, ⟨-1, 0, 1⟩⟩, ⟨4, 4, 4⟩) := ⟨_, rfl, by decide +kernel⟩
-- the relational model accepts the coded answer (and rejects a left-handed variant)
example : Rel.validBasis exCubic ⟨1, 1, 1⟩ exId .c none ⟨⟨-1, 1, 0⟩, ⟨-1, 0, 1⟩, ⟨1, 1, 1⟩⟩ 1 1000000000 = "1" := by
  decide +kernel
example : Rel.validBasis exCubic ⟨1, 1, 1⟩ exId .c none ⟨⟨-1, 1, 0⟩, ⟨1, 0, -1⟩, ⟨1, 1, 1⟩⟩ 1 1000000000 ≠ "1" := by
  decide +kernel
-- the same run at `ℤ` (what the driver executes)
example : freeSurfaceBasis (K := ℤ) ⟨⟨4, 0, 0⟩, ⟨2, 6, 0⟩, ⟨1, 2, 8⟩⟩ ⟨2, 1, 0⟩ exId .c none
    = .ok (⟨⟨0, 0, 1⟩, ⟨1, -2, 0⟩, ⟨1, 0, 0⟩⟩, ⟨96, 0, -12⟩) := by decide +kernel
-- the two refusals
example : freeSurfaceBasis exCubic ⟨0, 0, 0⟩ exId .c none = .error "value" := by decide +kernel
example : freeSurfaceBasis exCubic ⟨3, 1, 0⟩ exId .c (some 1) = .error "assert" := by decide +kernel
-- shifts: two layers at 0 and 1/2 of a cell of width 1
example : ([0, 1 / 2] : List ℚ).Pairwise (· < ·) ∧ ([0, 1 / 2] : List ℚ).head? = some 0 ∧
    ([0, 1 / 2] : List ℚ).getLast? = some (1 / 2) ∧ (1 / 2 : ℚ) ≤ 0 + 1 := by
  refine ⟨by simp, rfl, rfl, by norm_num⟩
example : shifts ([0, 1 / 2] : List ℚ) 1 (1 / 10000000) = [1 / 4, 3 / 4] := by decide +kernel
-- a diamond-like cell with two close layers: three layers, the last one the replica-free case
example : shifts ([0, 1 / 4, 1] : List ℚ) 1 (1 / 10000000) = [3 / 8, 7 / 8] := by decide +kernel
-- fault: an atom above the plane is shifted and wrapped back, one on the plane is not
example : faultPos (⟨exCubic, ⟨0, 0, 0⟩⟩ : Box ℚ) ⟨true, true, false⟩ Rat.floor .c (1 / 2) ⟨3 / 4, 0, 0⟩ ⟨1 / 2, 0, 3 / 4⟩
    = ⟨1 / 4, 0, 3 / 4⟩ := by decide +kernel
example : faultPos (⟨exCubic, ⟨0, 0, 0⟩⟩ : Box ℚ) ⟨true, true, false⟩ Rat.floor .c (1 / 2) ⟨3 / 4, 0, 0⟩ ⟨1 / 2, 0, 1 / 2⟩
    = ⟨1 / 2, 0, 1 / 2⟩ := by decide +kernel
example : insidePeriodic (⟨exCubic, ⟨0, 0, 0⟩⟩ : Box ℚ) ⟨true, true, false⟩ ⟨1 / 2, 0, 3 / 4⟩ := by
  unfold insidePeriodic; decide +kernel
example : layerCoords 7 ([1 / 2, 0, 1 / 2 + 1 / 1000000000, 3 / 4] : List ℚ) = [0, 1 / 2, 3 / 4] := by decide +kernel
example : V3.smul (((2 : ℕ) : ℤ) : ℚ) (⟨1 / 2, 0, 0⟩ : V3 ℚ) = C05.latticeVec exCubic ⟨1, 0, 0⟩ := by decide +kernel
example : orbit (⟨exCubic, ⟨0, 0, 0⟩⟩ : Box ℚ) ⟨true, true, false⟩ Rat.floor ⟨1 / 2, 0, 0⟩ 2 ⟨1 / 4, 0, 3 / 4⟩
    = [⟨1 / 4, 0, 3 / 4⟩, ⟨3 / 4, 0, 3 / 4⟩] := by decide +kernel
-- a cell and a square-root table for which `SqrtOK` holds (hypothesis of `cutCompatible_iff_normalized`)
example : C05.SqrtOK (fun x : ℚ => if x = 4 then 2 else if x = 9 then 3 else 4) ⟨⟨2, 0, 0⟩, ⟨0, 3, 0⟩, ⟨0, 0, 4⟩⟩ := by
  refine ⟨?_, ?_, ?_, ?_, ?_⟩ <;> unfold C05.SqrtAt <;> decide +kernel
example : cutMult 3 (some 5) true = 6 ∧ cutMult (-3) none true = -4 ∧ cutMult (-2) (some 5) false = -5 := by decide
example : pushRadicand .c (5 : ℚ) ⟨3, 0, 1⟩ = 4 * 4 := by decide +kernel

/-- a two-layer cubic cell cut along c as a `StackingFault` object; a history with a rebuild at another shift
    index and a refused setter; `fault()` then uses the plane and mask of the NEW system. -/
def exObj : SFStatic ℚ :=
  ⟨.c, ⟨exCubic, ⟨0, 0, 0⟩⟩, [⟨1, ⟨0, 0, 0⟩, []⟩, ⟨2, ⟨1 / 4, 1 / 4, 1 / 4⟩, []⟩],
   [⟨0, 0, 1 / 8⟩, ⟨0, 0, 3 / 8⟩], exCubic, exId, Rat.floor, 1 / 100000000⟩
def exArgs (i : Int) (m : Int) (fp : FaultPosArg ℚ) : SurfArgs ℚ := ⟨.idx i, .int 1, .int 1, .int m, none, false, none, fp⟩
def exHist : List (SFOp ℚ) := [.surface (exArgs 0 2 (.rel (3 / 4))), .fpRel 2, .surface (exArgs 1 2 .none)]
example : ((sfNew exObj .keep).toOption.map fun o =>
    let r := faultOp exObj (sfRun exObj o exHist).1 ⟨none, none, .none, .coeffs (some (1 / 2)) none none⟩
    (r.1.above, r.1.fpCart, r.2.toOption)) = some (some [false, false, true, true], some 1,
      some [⟨0, 0, 3 / 8⟩, ⟨1 / 4, 1 / 4, 5 / 8⟩, ⟨1 / 2, 0, 11 / 8⟩, ⟨3 / 4, 1 / 4, 13 / 8⟩]) := by decide +kernel
example : ((sfNew exObj .keep).toOption.map fun o =>
    (surfaceBase exObj (sfRun exObj o (exHist.take 2)).1 (exArgs 1 2 .none)).2.toBool) = some true := by decide +kernel
example : ((sfNew exObj .keep).toOption.map fun o => (sfRun exObj o exHist).2.map Except.toBool)
    = some [true, false, true] := by decide +kernel

/-- vacuum on a cell with a tilted cut vector: the hypotheses of `vacuum_rel_cut_c` / `vacuum_inplane_c` hold, and an
    atom inside the cell (`31/32`) gets an in-plane relative coordinate above 1 (`33/32`) while its Cartesian position is unchanged. -/
example : M3.det (⟨⟨2, 0, 0⟩, ⟨0, 2, 0⟩, ⟨1, 0, 2⟩⟩ : M3 ℚ) ≠ 0 ∧
    M3.det (vacuumBox .c (⟨⟨⟨2, 0, 0⟩, ⟨0, 2, 0⟩, ⟨1, 0, 2⟩⟩, ⟨0, 0, 0⟩⟩ : Box ℚ) 2).vects ≠ 0 ∧
    Box.cartToRel (⟨⟨⟨2, 0, 0⟩, ⟨0, 2, 0⟩, ⟨1, 0, 2⟩⟩, ⟨0, 0, 0⟩⟩ : Box ℚ) ⟨43 / 16, 0, 3 / 2⟩ = ⟨31 / 32, 0, 3 / 4⟩ ∧
    Box.cartToRel (vacuumBox .c (⟨⟨⟨2, 0, 0⟩, ⟨0, 2, 0⟩, ⟨1, 0, 2⟩⟩, ⟨0, 0, 0⟩⟩ : Box ℚ) 2) ⟨43 / 16, 0, 3 / 2⟩
      = ⟨33 / 32, 0, 5 / 8⟩ := by decide +kernel

section between

/-- the form of the flatness test the wrap lemmas use. -/
theorem flat_of_not_cutRefuses {K : Type} [Zero K] (cut : Cut) (V : M3 K) (h : ¬ Gen.C14.cutRefuses cut V) :
    ∀ i, i < 3 → i ≠ cutIndex cut → (V.row i).get (cutIndex cut) = 0 := by
  have h' := (gen_cutRefuses_iff cut V).mp h
  intro i hi hne
  cases cut <;> obtain ⟨f1, f2⟩ := h' <;> interval_cases i <;> first | exact absurd rfl hne | exact f1 | exact f2

/-- **end to end, the built system**, for each of the three cut vectors: `surface()` called with an offered shift (any
    size multipliers; the rotated cell flat across the cut: the other two cell vectors have no component along the cut
    axis — what `FreeSurface.__init__` checks, `gen_cutRefuses_iff` — and the cut vector's component there is `W`)
    returns a system in which EVERY atom is at least half an interlayer gap (minus the rounding step) away from EVERY
    plane `x_cut = j W` — in particular from both faces of the slab, which are such planes: the cut runs strictly
    between atomic planes. -/
theorem surface_cut_between_planes_any (cut : Cut) (rbox : Box ℚ) (hdet : M3.det rbox.vects ≠ 0) (sa sb sc : C04.Size)
    (ha : sa.mult ≠ 0) (hb : sb.mult ≠ 0) (hc : sc.mult ≠ 0) (fl : ℚ → Int) (hfl : C05.IsFloor fl)
    (atoms : List (C04.Atom ℚ)) (hne : atoms ≠ []) (d : ℕ) (tol W lo : ℚ) (hW0 : 0 < W) (htol : 0 ≤ tol)
    (hflat : ¬ Gen.C14.cutRefuses cut rbox.vects) (hW : (rbox.vects.row (cutIndex cut)).get (cutIndex cut) = W)
    (hbox : ∀ a ∈ atoms, lo ≤ a.pos.get (cutIndex cut) ∧ a.pos.get (cutIndex cut) ≤ lo + W) (shift : V3 ℚ)
    (hs : shift.get (cutIndex cut) ∈ shifts (layerCoords d (atoms.map (·.pos.get (cutIndex cut)))) W tol) :
    ∃ p q : ℚ, (p, q) ∈ consec (withReplica (layerCoords d (atoms.map (·.pos.get (cutIndex cut)))) W tol) ∧ p < q ∧
      ∀ a' ∈ (surfaceAtoms rbox sa sb sc fl shift atoms).2, ∀ j : ℤ,
        a'.pos.get (cutIndex cut) - (j : ℚ) * W ≤ -((q - p) / 2 - 1 / ((10 ^ d : ℕ) : ℚ)) ∨
        (q - p) / 2 - 1 / ((10 ^ d : ℕ) : ℚ) ≤ a'.pos.get (cutIndex cut) - (j : ℚ) * W := by
  have hne' : atoms.map (·.pos.get (cutIndex cut)) ≠ [] := fun h => hne (List.map_eq_nil_iff.mp h)
  have hbox' : ∀ x ∈ atoms.map (·.pos.get (cutIndex cut)), lo ≤ x ∧ x ≤ lo + W := by
    intro x hx
    obtain ⟨a, ha, rfl⟩ := List.mem_map.mp hx
    exact hbox a ha
  -- applied in two steps: with the membership given in the same application Lean unfolds `shifts` to unify
  obtain ⟨p, q, hpq, hlt, hall⟩ :=
    (shift_between_planes_all_atoms d _ W tol lo hne' hbox' hW0 htol) _ hs
  refine ⟨p, q, hpq, hlt, fun a' ha' j => ?_⟩
  obtain ⟨a, ha, n, _, _, hpos, _⟩ := (surface_same_crystal rbox hdet sa sb sc ha hb hc fl hfl shift atoms).2.2 a' ha'
  -- the copy sits `n_cut` cell heights above the shifted original, so it is the image `n_cut - j` that is asked about
  have e : a'.pos.get (cutIndex cut) - (j : ℚ) * W
      = a.pos.get (cutIndex cut) + shift.get (cutIndex cut) + ((n.get (cutIndex cut) - j : ℤ) : ℚ) * W := by
    rw [hpos, V3.get_add, V3.get_add, latticeVec_get_cut _ cut (flat_of_not_cutRefuses cut _ hflat), hW]
    push_cast; ring
  rw [e]
  exact hall _ (List.mem_map.mpr ⟨a, ha, rfl⟩) _

/-- the same written out for cut c of a LAMMPS-normal rotated cell (`a_z = b_z = 0`, `c_z = W`): the planes are `z = j W`. -/
theorem surface_cut_between_planes (rbox : Box ℚ) (hdet : M3.det rbox.vects ≠ 0) (sa sb sc : C04.Size)
    (ha : sa.mult ≠ 0) (hb : sb.mult ≠ 0) (hc : sc.mult ≠ 0) (fl : ℚ → Int) (hfl : C05.IsFloor fl)
    (atoms : List (C04.Atom ℚ)) (hne : atoms ≠ []) (d : ℕ) (tol W lo : ℚ) (hW0 : 0 < W) (htol : 0 ≤ tol)
    (hflat0 : rbox.vects.r0.z = 0) (hflat1 : rbox.vects.r1.z = 0) (hW : rbox.vects.r2.z = W)
    (hbox : ∀ a ∈ atoms, lo ≤ a.pos.z ∧ a.pos.z ≤ lo + W) (shift : V3 ℚ)
    (hs : shift.z ∈ shifts (layerCoords d (atoms.map (·.pos.z))) W tol) :
    ∃ p q : ℚ, (p, q) ∈ consec (withReplica (layerCoords d (atoms.map (·.pos.z))) W tol) ∧ p < q ∧
      ∀ a' ∈ (surfaceAtoms rbox sa sb sc fl shift atoms).2, ∀ j : ℤ,
        a'.pos.z - (j : ℚ) * W ≤ -((q - p) / 2 - 1 / ((10 ^ d : ℕ) : ℚ)) ∨
        (q - p) / 2 - 1 / ((10 ^ d : ℕ) : ℚ) ≤ a'.pos.z - (j : ℚ) * W :=
  surface_cut_between_planes_any .c rbox hdet sa sb sc ha hb hc fl hfl atoms hne d tol W lo hW0 htol
    ((gen_cutRefuses_iff .c rbox.vects).mpr ⟨hflat0, hflat1⟩) hW hbox shift hs

end between

section cutCheck
variable {K : Type} [Field K] [LinearOrder K] [IsStrictOrderedRing K]

/-- **the generated refusal test is the model's**: on the LAMMPS-normal cell C05's `abcBox?` builds from the rotated cell,
    the test `FreeSurface.__init__` codes (regenerated from the source) refuses exactly when `cutCompatible` says no, for
    each of the three cut vectors (cut c is never refused). -/
theorem gen_cutRefuses_eq_model (sqrt : K → K) (v : M3 K) (hs : C05.SqrtOK sqrt v) :
    ∃ b2 : Box K, C05.abcBox? sqrt v = some b2 ∧
      ∀ cut : Cut, (Gen.C14.cutRefuses cut b2.vects ↔ cutCompatible cut v.r0 v.r1 v.r2 = false) := by
  obtain ⟨b2, h0, ha, hb, hc⟩ := cutCompatible_iff_normalized sqrt v hs
  refine ⟨b2, h0, ?_⟩
  intro cut
  rw [← Bool.not_eq_true]
  cases cut
  · exact (not_iff_comm.mp ((gen_cutRefuses_iff .a b2.vects).trans ha.symm)).symm
  · exact (not_iff_comm.mp ((gen_cutRefuses_iff .b b2.vects).trans hb.symm)).symm
  · have h1 : ¬ Gen.C14.cutRefuses .c b2.vects := (gen_cutRefuses_iff .c b2.vects).mpr ⟨hc.2.1, hc.2.2⟩
    constructor
    · intro h; exact absurd h h1
    · intro h; exact absurd hc.1 h
end cutCheck

-- hypotheses of `surface_cut_between_planes(_any)`: a two-layer cell (`z = 0, 1/4`, `W = 1`) offers the shifts 3/8 and 7/8
example : shifts (layerCoords 7 ([0, 1 / 4] : List ℚ)) 1 (1 / 10000000) = [3 / 8, 7 / 8] ∧
    ¬ Gen.C14.cutRefuses .c exCubic ∧ roundKey 7 (1 / 4 + 1 / 1000000000) = roundKey 7 (1 / 4) := by
  refine ⟨by decide +kernel, ?_, by decide +kernel⟩
  simp [Gen.C14.cutRefuses, exCubic]

def errOf {α : Type} : Except String α → Option String
  | .error e => some e
  | .ok _ => none

/-- the entry point and the generated routine on concrete calls: the cubic `(1 1 1)` call returns, the four-index form is refused on a
    non-hexagonal box and accepted (converted; refused when `h + k + i ≠ 0`) on a box flagged hexagonal, Miller-Bravais output is
    refused on a non-hexagonal box, an unknown centring key and the zero plane are refused; the generated routine agrees. -/
example : (fsbEntry exCubic [1, 1, 1] false none "p" .c none).toBool = true ∧
    errOf (fsbEntry exCubic [1, 1, -2, 1] false none "p" .c none) = some "value" ∧
    (fsbEntry exTri [1, 1, -2, 1] true none "p" .b none).toBool = true ∧
    errOf (fsbEntry exTri [1, 1, -1, 1] true none "p" .b none) = some "value" ∧
    errOf (fsbEntry exCubic [1, 1, 1] false (some true) "p" .c none) = some "value" ∧
    errOf (fsbEntry exCubic [1, 1, 1] false none "q" .c none) = some "value" ∧
    errOf (fsbEntry exCubic [0, 0, 0] false none "p" .c none) = some "value" ∧
    (fsbEntry exFccPrim [1, 1, 1] false none "f" .a (some 1)).toBool = true := by decide +kernel
example : ((Gen.C14.basisABC exTri ⟨2, 1, 0⟩ exId none).toOption.bind fun r => Gen.C14.orderRows? "b" r.a r.b r.c)
    = ((freeSurfaceBasis exTri ⟨2, 1, 0⟩ exId .b none).toOption.map (·.1)) ∧
    ((Gen.C14.basisABC exTri ⟨2, 1, 0⟩ exId none).toOption.bind fun r => Gen.C14.orderRows? "b" r.a r.b r.c).isSome = true := by
  -- only the generated routine is evaluated here; the model's answer for cut b is the run `exTri_run` in the other row order
  have hg : ((Gen.C14.basisABC exTri ⟨2, 1, 0⟩ exId none).toOption.bind fun r => Gen.C14.orderRows? "b" r.a r.b r.c)
      = some ⟨⟨1, -2, 0⟩, ⟨1, 0, 0⟩, ⟨0, 0, 1⟩⟩ := by decide +kernel
  rw [hg, freeSurfaceBasis_cut exTri_run .b]
  exact ⟨rfl, rfl⟩
example : Gen.C14.cutMult 3 (some 5) true = 6 ∧ Gen.C14.cutMult (-3) none true = -4 ∧
    Gen.C14.shifts ([0, 1 / 2] : List ℚ) 1 (1 / 10000000) = [1 / 4, 3 / 4] ∧
    Gen.C14.resolveFShift (some (1 / 2 : ℚ)) none none none ⟨1, 0, 0⟩ ⟨0, 1, 0⟩ .c = .ok ⟨1 / 2, 0, 0⟩ := by decide +kernel

/-! ## instances with every hypothesis discharged -/
section instances

private def audAtoms : List (C04.Atom ℚ) :=
  [⟨1, ⟨0, 0, 0⟩, []⟩, ⟨2, ⟨1 / 2, 1 / 2, 1 / 4⟩, [7]⟩, ⟨1, ⟨1 / 4, 0, 1 / 4 + 1 / 1000000000⟩, []⟩]

-- `roundKey_close`
example : |(1 / 4 + 1 / 1000000000 : ℚ) - 1 / 4| ≤ 1 / ((10 ^ 7 : ℕ) : ℚ) :=
  roundKey_close 7 _ _ (by decide +kernel)
-- `shift_between_planes_all_atoms`: three atoms in two layers (one atom 1e-9 off its layer), the offered shift 3/8
example : ∃ p q : ℚ, (p, q) ∈ consec (withReplica (layerCoords 7 [0, 1 / 4, 1 / 4 + 1 / 1000000000]) 1 (1 / 10000000)) ∧ p < q ∧
    ∀ x ∈ ([0, 1 / 4, 1 / 4 + 1 / 1000000000] : List ℚ), ∀ m : ℤ,
      x + 3 / 8 + (m : ℚ) * 1 ≤ -((q - p) / 2 - 1 / ((10 ^ 7 : ℕ) : ℚ)) ∨
      (q - p) / 2 - 1 / ((10 ^ 7 : ℕ) : ℚ) ≤ x + 3 / 8 + (m : ℚ) * 1 :=
  shift_between_planes_all_atoms 7 [0, 1 / 4, 1 / 4 + 1 / 1000000000] 1 (1 / 10000000) 0 (by decide)
    (by decide +kernel) (by norm_num) (by norm_num) (3 / 8) (by decide +kernel)
-- `surface_cut_between_planes`: the same layers as atoms of a cubic rotated cell, 2 x 2 x 3 supercell (tuple multiplier along b)
example : ∃ p q : ℚ, (p, q) ∈ consec (withReplica (layerCoords 7 (audAtoms.map (·.pos.z))) 1 (1 / 10000000)) ∧ p < q ∧
    ∀ a' ∈ (surfaceAtoms ⟨exCubic, ⟨0, 0, 0⟩⟩ ⟨0, 2⟩ ⟨-1, 1⟩ ⟨0, 3⟩ Rat.floor ⟨0, 0, 3 / 8⟩ audAtoms).2, ∀ j : ℤ,
      a'.pos.z - (j : ℚ) * 1 ≤ -((q - p) / 2 - 1 / ((10 ^ 7 : ℕ) : ℚ)) ∨
      (q - p) / 2 - 1 / ((10 ^ 7 : ℕ) : ℚ) ≤ a'.pos.z - (j : ℚ) * 1 :=
  surface_cut_between_planes ⟨exCubic, ⟨0, 0, 0⟩⟩ (by decide +kernel) ⟨0, 2⟩ ⟨-1, 1⟩ ⟨0, 3⟩ (by decide) (by decide) (by decide)
    Rat.floor isFloor_ratFloor audAtoms (by decide) 7 (1 / 10000000) 1 0 (by norm_num) (by norm_num)
    (by decide +kernel) (by decide +kernel) (by decide +kernel) (by decide +kernel) ⟨0, 0, 3 / 8⟩ (by decide +kernel)
-- `surface_cut_between_planes_any`: cut vector a of a tilted cell whose b, c have no x component
example : ∃ p q : ℚ, (p, q) ∈ consec (withReplica (layerCoords 7 ([⟨1, ⟨0, 0, 0⟩, []⟩, ⟨2, ⟨1 / 2, 1, 1⟩, []⟩].map
      (fun a : C04.Atom ℚ => a.pos.get (cutIndex .a)))) 2 (1 / 10000000)) ∧ p < q ∧
    ∀ a' ∈ (surfaceAtoms ⟨⟨⟨2, 1, 1⟩, ⟨0, 3, 0⟩, ⟨0, 1, 4⟩⟩, ⟨0, 0, 0⟩⟩ ⟨0, 2⟩ ⟨0, 1⟩ ⟨-1, 0⟩ Rat.floor ⟨3 / 4, 0, 0⟩
        [⟨1, ⟨0, 0, 0⟩, []⟩, ⟨2, ⟨1 / 2, 1, 1⟩, []⟩]).2, ∀ j : ℤ,
      a'.pos.get (cutIndex .a) - (j : ℚ) * 2 ≤ -((q - p) / 2 - 1 / ((10 ^ 7 : ℕ) : ℚ)) ∨
      (q - p) / 2 - 1 / ((10 ^ 7 : ℕ) : ℚ) ≤ a'.pos.get (cutIndex .a) - (j : ℚ) * 2 :=
  surface_cut_between_planes_any .a ⟨⟨⟨2, 1, 1⟩, ⟨0, 3, 0⟩, ⟨0, 1, 4⟩⟩, ⟨0, 0, 0⟩⟩ (by decide +kernel) ⟨0, 2⟩ ⟨0, 1⟩ ⟨-1, 0⟩
    (by decide) (by decide) (by decide) Rat.floor isFloor_ratFloor [⟨1, ⟨0, 0, 0⟩, []⟩, ⟨2, ⟨1 / 2, 1, 1⟩, []⟩] (by decide)
    7 (1 / 10000000) 2 0 (by norm_num) (by norm_num)
    (by simp [Gen.C14.cutRefuses]) (by decide +kernel) (by decide +kernel) ⟨3 / 4, 0, 0⟩ (by decide +kernel)
-- `cart_cross_of_icross_zero`: parallel integer vectors in a triclinic cell
example : V3.cross (cart exTri ⟨1, 2, 3⟩) (cart exTri ⟨2, 4, 6⟩) = ⟨0, 0, 0⟩ :=
  cart_cross_of_icross_zero exTri ⟨1, 2, 3⟩ ⟨2, 4, 6⟩ (by decide +kernel)
-- `c16_normalOf_eq`: plane (0 0 2) of the triclinic cell, in-plane vectors a, b of the cell (num/den = 1/2)
example : C16.normalOf exTri ⟨1, 0, 0⟩ ⟨0, 1, 0⟩ 1 = V3.smul (((1 : ℤ) : ℚ) / (2 : ℤ) * M3.det exTri) (C16.recipVector exTri 0 0 2) :=
  c16_normalOf_eq exTri ⟨1, 0, 0⟩ ⟨0, 1, 0⟩ 1 1 2 0 0 2 (by norm_num) (by decide +kernel) (by decide +kernel)
-- hypotheses of `c04_replicaPos_eq` (non-singular cell, non-zero multiplier) in the triclinic cell
example : M3.det exTri ≠ 0 ∧ ((((⟨-1, 1⟩ : C04.Size).mult : Int) : ℚ)) ≠ 0 := by decide +kernel

/-- `fault_orbit_restores`, every hypothesis discharged: cubic cell periodic in x and y only, cut c, fault plane z = 1/2,
    shift t = (1/2, 0, 0) (half an in-plane lattice vector: M = 2), a crystal made of two orbits (one below, one above the
    plane), listed in a different order than the orbits. -/
example : (fault (⟨exCubic, ⟨0, 0, 0⟩⟩ : Box ℚ) ⟨true, true, false⟩ Rat.floor .c (1 / 2) ⟨1 / 2, 0, 0⟩
      [⟨3 / 4, 0, 3 / 4⟩, ⟨0, 1 / 2, 1 / 4⟩, ⟨1 / 4, 0, 3 / 4⟩, ⟨1 / 2, 1 / 2, 1 / 4⟩]).Perm
    [⟨3 / 4, 0, 3 / 4⟩, ⟨0, 1 / 2, 1 / 4⟩, ⟨1 / 4, 0, 3 / 4⟩, ⟨1 / 2, 1 / 2, 1 / 4⟩] :=
  fault_orbit_restores (⟨exCubic, ⟨0, 0, 0⟩⟩ : Box ℚ) (by decide +kernel) ⟨true, true, false⟩ Rat.floor isFloor_ratFloor .c (1 / 2)
    ⟨1 / 2, 0, 0⟩ 2 ⟨1, 0, 0⟩ (by decide +kernel) (by decide) (by decide) (by decide) (by decide)
    (by decide +kernel) (by decide +kernel)
    [⟨1 / 4, 0, 3 / 4⟩, ⟨0, 1 / 2, 1 / 4⟩] _ (by decide +kernel)
-- the shift really moves the upper atoms (the instance is not the trivial shift)
example : fault (⟨exCubic, ⟨0, 0, 0⟩⟩ : Box ℚ) ⟨true, true, false⟩ Rat.floor .c (1 / 2) ⟨1 / 2, 0, 0⟩
      [⟨3 / 4, 0, 3 / 4⟩, ⟨0, 1 / 2, 1 / 4⟩] = [⟨1 / 4, 0, 3 / 4⟩, ⟨0, 1 / 2, 1 / 4⟩] := by decide +kernel
end instances

end Atomman.C14
