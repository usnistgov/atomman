/-
  C19 — the `Simulation` records as objects: what a record's keys are (`Sim.keys_eq`), what both setters do to them (the shared `addKey` of Proofs/Lists),
  and the property theorems `record_keys`, `record_getitem_iff`, `setter_again`, `setter_keys_nodup`, `flatten_result_object`.
-/
import Atomman.C19
import Proofs.Lists
namespace Atomman.C19
open Atomman List
set_option linter.unusedSimpArgs false

theorem init_thermo_keys (t : Table) : (SimObj.init (some t) none).keys = ["thermo"] := rfl

theorem Sim.keys_eq (s : Sim) :
    s.keys = "thermo" :: (if s.perf.isSome then ["performance"] else []) := by
  obtain ⟨t, p⟩ := s
  cases p <;> rfl

theorem Sim.obj_thermo (s : Sim) : s.obj.thermo = some s.thermo ∧ s.obj.perf = s.perf := by
  obtain ⟨t, p⟩ := s
  cases p <;> exact ⟨rfl, rfl⟩

theorem setThermo_keys_mem (o : SimObj) (v : Table) (k : String) :
    k ∈ (o.setThermo v).keys ↔ k ∈ o.keys ∨ k = "thermo" := mem_addKey o.keys "thermo" k

theorem setPerf_keys_mem (o : SimObj) (v : Perf) (k : String) :
    k ∈ (o.setPerf v).keys ↔ k ∈ o.keys ∨ k = "performance" := mem_addKey o.keys "performance" k

theorem setThermo_nodup (o : SimObj) (v : Table) (h : o.keys.Nodup) : (o.setThermo v).keys.Nodup :=
  addKey_nodup o.keys "thermo" h

theorem setPerf_nodup (o : SimObj) (v : Perf) (h : o.keys.Nodup) : (o.setPerf v).keys.Nodup :=
  addKey_nodup o.keys "performance" h

theorem setThermo_again (o : SimObj) (a b : Table) :
    ((o.setThermo a).setThermo b).keys = (o.setThermo a).keys ∧ ((o.setThermo a).setThermo b).thermo = some b :=
  ⟨addKey_addKey o.keys "thermo", rfl⟩

theorem setPerf_again (o : SimObj) (a b : Perf) :
    ((o.setPerf a).setPerf b).keys = (o.setPerf a).keys ∧ ((o.setPerf a).setPerf b).perf = some b :=
  ⟨addKey_addKey o.keys "performance", rfl⟩

/-- **record_keys**: the keys of a record of the log are `thermo`, followed by `performance` exactly when a timing
    table was assigned to it; no key twice. -/
theorem record_keys (s : Sim) :
    s.keys = "thermo" :: (if s.perf.isSome then ["performance"] else []) ∧ s.keys.Nodup := by
  refine ⟨Sim.keys_eq s, ?_⟩
  rw [Sim.keys_eq]
  cases s.perf.isSome <;> decide

/-- **record_getitem_iff**: `sim[key]` refuses (KeyError) exactly for keys other than `thermo` and — when a timing table
    was assigned — `performance`; the tables behind the keys are the ones that were assigned. -/
theorem record_getitem_iff (s : Sim) (key : String) :
    (s.obj.getItemRefuses key = true ↔ key ≠ "thermo" ∧ (key ≠ "performance" ∨ s.perf = none)) ∧
      s.obj.thermo = some s.thermo ∧ s.obj.perf = s.perf := by
  refine ⟨?_, Sim.obj_thermo s⟩
  have hk : s.obj.keys = s.keys := rfl
  unfold SimObj.getItemRefuses
  rw [hk, Sim.keys_eq]
  cases hp : s.perf with
  | none => simp
  | some p => simp

/-- **setter_again**: assigning a table a second time replaces the value and does not list the key twice. -/
theorem setter_again (o : SimObj) (a b : Table) (p q : Perf) :
    ((o.setThermo a).setThermo b).keys = (o.setThermo a).keys ∧ ((o.setThermo a).setThermo b).thermo = some b ∧
    ((o.setPerf p).setPerf q).keys = (o.setPerf p).keys ∧ ((o.setPerf p).setPerf q).perf = some q :=
  ⟨(setThermo_again o a b).1, (setThermo_again o a b).2, (setPerf_again o p q).1, (setPerf_again o p q).2⟩

/-- **setter_keys_nodup**: one more assignment of either table to an object whose keys are listed once each leaves them listed
    once each (so, from `Simulation()`, does every sequence of assignments). -/
theorem setter_keys_nodup (o : SimObj) (h : o.keys.Nodup) (t : Table) (p : Perf) :
    (o.setThermo t).keys.Nodup ∧ (o.setPerf p).keys.Nodup := ⟨setThermo_nodup o t h, setPerf_nodup o p h⟩

/-- **flatten_result_object**: the object `flatten` returns has the merged table, no timing table and the one key
    `thermo`. -/
theorem flatten_result_object (t : Table) :
    (flattenObj t).keys = ["thermo"] ∧ (flattenObj t).thermo = some t ∧ (flattenObj t).perf = none := ⟨rfl, rfl, rfl⟩

example : (Sim.obj ⟨⟨["Step".toList], []⟩, some ⟨[], []⟩⟩).getItemRefuses "performance" = false := by decide
example : (Sim.obj ⟨⟨["Step".toList], []⟩, none⟩).getItemRefuses "performance" = true := by decide

end Atomman.C19
