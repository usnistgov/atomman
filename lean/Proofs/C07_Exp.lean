/-
  C07 — the `%.ne` format.  `expOf a` is the decimal exponent of `a` (`10^e ≤ a < 10^(e+1)`, `expOf_spec`), the mantissa
  has exactly `n+1` digits, an independent reader gets `expVal q n` back from `fmtExp q n`, and that value is within half
  a unit of the last printed digit of `q`.
-/
import Proofs.C07_Text
import Mathlib.Algebra.Order.Field.Power

namespace Atomman.C07
open Atomman

theorem pow10_eq (e : Int) : pow10 e = (10 : ℚ) ^ e := by
  unfold pow10
  split
  · rename_i h
    lift e to ℕ using h
    simp
  · rename_i h
    obtain ⟨k, rfl⟩ := Int.exists_eq_neg_ofNat (by omega : e ≤ 0)
    simp

theorem pow10_pos (e : Int) : 0 < pow10 e := by rw [pow10_eq]; positivity

theorem pow10_add (a b : Int) : pow10 (a + b) = pow10 a * pow10 b := by
  simp only [pow10_eq]; exact zpow_add₀ (by norm_num) a b

theorem pow10_natCast (k : Nat) : pow10 (k : Int) = ((10 ^ k : Nat) : ℚ) := by
  rw [pow10_eq]; simp

theorem pow_width_le (m : Nat) (hm : 0 < m) : 10 ^ (width m - 1) ≤ m := by
  induction m using Nat.strong_induction_on with
  | _ m ih =>
    unfold width
    split
    · simp; omega
    · rename_i h
      have h10 : 0 < m / 10 := by omega
      have := ih (m / 10) (by omega) h10
      have hw := width_pos (m / 10)
      have e : width (m / 10) + 1 - 1 = (width (m / 10) - 1) + 1 := by omega
      rw [e, pow_succ]
      omega

theorem width_bounds (m : Nat) (hm : 0 < m) :
    pow10 ((width m : Int) - 1) ≤ (m : ℚ) ∧ (m : ℚ) < pow10 (width m) := by
  have hw := width_pos m
  have : ((width m : Int) - 1) = ((width m - 1 : Nat) : Int) := by omega
  rw [this, pow10_natCast, pow10_natCast]
  exact ⟨by exact_mod_cast pow_width_le m hm, by exact_mod_cast lt_pow_width m⟩

theorem expOf_spec (a : ℚ) (ha : 0 < a) : pow10 (expOf a) ≤ a ∧ a < pow10 (expOf a + 1) := by
  have hnum : 0 < a.num := Rat.num_pos.mpr ha
  have hden : 0 < a.den := a.den_pos
  set N := a.num.natAbs with hN
  have hNpos : 0 < N := by omega
  have hNq : (a.num : ℚ) = (N : ℚ) := by
    have : a.num = (N : Int) := by omega
    rw [this]; simp
  have hq : a = (N : ℚ) / (a.den : ℚ) := by rw [← hNq]; exact (Rat.num_div_den a).symm
  have hd : (0 : ℚ) < a.den := by exact_mod_cast hden
  obtain ⟨hN2, hN1⟩ := width_bounds N hNpos
  obtain ⟨hD2, hD1⟩ := width_bounds a.den hden
  unfold expOf
  simp only [← hN]
  set e0 : Int := (width N : Int) - (width a.den : Int) with he0
  split
  · rename_i h
    refine ⟨h, ?_⟩
    -- a = N/den < 10^wN / 10^(wd-1)
    have e1 : pow10 (e0 + 1) * pow10 ((width a.den : Int) - 1) = pow10 (width N) := by
      rw [← pow10_add]; congr 1; omega
    rw [hq, div_lt_iff₀ hd]
    calc (N : ℚ) < pow10 (width N) := hN1
      _ = pow10 (e0 + 1) * pow10 ((width a.den : Int) - 1) := e1.symm
      _ ≤ pow10 (e0 + 1) * a.den := by
          apply mul_le_mul_of_nonneg_left hD2 (pow10_pos _).le
  · rename_i h
    push Not at h
    refine ⟨?_, by simpa using h⟩
    have e1 : pow10 (e0 - 1) * pow10 (width a.den) = pow10 ((width N : Int) - 1) := by
      rw [← pow10_add]; congr 1; omega
    rw [hq, le_div_iff₀ hd]
    calc pow10 (e0 - 1) * (a.den : ℚ) ≤ pow10 (e0 - 1) * pow10 (width a.den) :=
          mul_le_mul_of_nonneg_left hD1.le (pow10_pos _).le
      _ = pow10 ((width N : Int) - 1) := e1
      _ ≤ N := hN2

theorem roundDiv_rat (x : ℚ) : |((roundDiv x.num x.den : Int) : ℚ) - x| ≤ 1 / 2 := by
  have := roundDiv_error x.num x.den x.den_pos
  rwa [Rat.num_div_den] at this

theorem scaled_range (a : ℚ) (ha : 0 < a) (n : Nat) :
    ((10 ^ n : Nat) : ℚ) ≤ a * pow10 ((n : Int) - expOf a) ∧
    a * pow10 ((n : Int) - expOf a) < ((10 ^ (n + 1) : Nat) : ℚ) := by
  obtain ⟨h1, h2⟩ := expOf_spec a ha
  have hp := pow10_pos ((n : Int) - expOf a)
  constructor
  · have : pow10 (expOf a) * pow10 ((n : Int) - expOf a) = ((10 ^ n : Nat) : ℚ) := by
      rw [← pow10_add, ← pow10_natCast]; congr 1; omega
    rw [← this]; exact mul_le_mul_of_nonneg_right h1 hp.le
  · have : pow10 (expOf a + 1) * pow10 ((n : Int) - expOf a) = ((10 ^ (n + 1) : Nat) : ℚ) := by
      rw [← pow10_add, ← pow10_natCast]; congr 1; push_cast; omega
    rw [← this]; exact mul_lt_mul_of_pos_right h2 hp

theorem rounded_range (a : ℚ) (ha : 0 < a) (n : Nat) :
    let x := a * pow10 ((n : Int) - expOf a)
    ((10 ^ n : Nat) : Int) ≤ roundDiv x.num x.den ∧ roundDiv x.num x.den ≤ ((10 ^ (n + 1) : Nat) : Int) := by
  intro x
  obtain ⟨h1, h2⟩ : ((10 ^ n : Nat) : ℚ) ≤ x ∧ x < ((10 ^ (n + 1) : Nat) : ℚ) := scaled_range a ha n
  have hr := abs_le.mp (roundDiv_rat x)
  constructor
  · have h : (((10 ^ n : Nat) : Int) : ℚ) - 1 < ((roundDiv x.num x.den : Int) : ℚ) := by
      push_cast at h1 ⊢; linarith [hr.1]
    exact Int.sub_one_lt_iff.mp (by exact_mod_cast h)
  · have h : ((roundDiv x.num x.den : Int) : ℚ) < (((10 ^ (n + 1) : Nat) : Int) : ℚ) + 1 := by
      push_cast at h2 ⊢; linarith [hr.2]
    exact Int.lt_add_one_iff.mp (by exact_mod_cast h)

/-- the printed mantissa has exactly `n+1` digits and `mantissa·10^(e-n)` is the rounded scaled magnitude. -/
theorem expParts_spec (a : ℚ) (ha : 0 < a) (n : Nat) :
    10 ^ n ≤ (expParts a n).1 ∧ (expParts a n).1 < 10 ^ (n + 1) ∧
    (((expParts a n).1 : Nat) : ℚ) * pow10 ((expParts a n).2 - (n : Int)) =
      ((roundDiv (a * pow10 ((n : Int) - expOf a)).num (a * pow10 ((n : Int) - expOf a)).den : Int) : ℚ)
        * pow10 (expOf a - (n : Int)) := by
  obtain ⟨h1, h2⟩ := rounded_range a ha n
  set R := roundDiv (a * pow10 ((n : Int) - expOf a)).num (a * pow10 ((n : Int) - expOf a)).den with hR
  have hRnn : 0 ≤ R := le_trans (by positivity) h1
  unfold expParts
  simp only [← hR]
  split
  · rename_i h
    refine ⟨le_refl _, Nat.pow_lt_pow_right (by norm_num) (by omega), ?_⟩
    rw [cast_of_nonneg R hRnn, h, ← pow10_natCast, ← pow10_natCast, ← pow10_add, ← pow10_add]
    congr 1; push_cast; omega
  · rename_i h
    refine ⟨by omega, by omega, ?_⟩
    rw [← cast_of_nonneg R hRnn]

/-- half a unit of the last printed digit (`expOf |q|` is the decimal exponent of `|q|`: `expOf_spec`). -/
theorem expVal_error (q : ℚ) (n : Nat) (hq : q ≠ 0) :
    |expVal q n - q| ≤ 1 / 2 * pow10 (expOf |q| - (n : Int)) := by
  have key : ∀ a : ℚ, 0 < a →
      |(((expParts a n).1 : Nat) : ℚ) * pow10 ((expParts a n).2 - (n : Int)) - a|
        ≤ 1 / 2 * pow10 (expOf a - (n : Int)) := by
    intro a ha
    obtain ⟨_, _, e⟩ := expParts_spec a ha n
    rw [e]
    set x := a * pow10 ((n : Int) - expOf a) with hx
    have hp := pow10_pos (expOf a - (n : Int))
    have ha' : a = x * pow10 (expOf a - (n : Int)) := by
      rw [hx, mul_assoc, ← pow10_add]
      have : (n : Int) - expOf a + (expOf a - (n : Int)) = 0 := by omega
      rw [this, pow10_zero, mul_one]
    have hr := roundDiv_rat x
    have e3 : ((roundDiv x.num x.den : Int) : ℚ) * pow10 (expOf a - (n : Int)) - a
        = (((roundDiv x.num x.den : Int) : ℚ) - x) * pow10 (expOf a - (n : Int)) := by
      rw [sub_mul, ← ha']
    rw [e3, abs_mul, abs_of_pos hp]
    exact mul_le_mul_of_nonneg_right hr hp.le
  unfold expVal
  rw [if_neg hq]
  by_cases hneg : q < 0
  · simp only [hneg, if_true]
    rw [abs_of_neg hneg, ← abs_neg]
    convert key (-q) (by linarith) using 2
    ring
  · have ha : 0 < q := lt_of_le_of_ne (not_lt.mp hneg) (Ne.symm hq)
    simp only [hneg, if_false]
    rw [abs_of_pos ha]
    exact key q ha

theorem parseNat_zero_natTok (k : Nat) : parseNat? ('0' :: natTok k) = some k := by
  unfold parseNat?
  have h0 : isDigit '0' = true := by decide
  rw [if_pos ⟨by simp, by simp [List.all_cons, h0, all_isDigit_natTok]⟩]
  simp [digitsVal, digitsVal_natTok]

theorem parseNat_expDigits (k : Nat) :
    parseNat? (if k < 10 then '0' :: natTok k else natTok k) = some k := by
  split
  · exact parseNat_zero_natTok k
  · exact parseNat_natTok k

theorem parseExp_expTok (e : Int) : parseExp? ('e' :: expTok e) = some e := by
  unfold parseExp? expTok
  simp only [true_or, if_true]
  by_cases he : e < 0
  · simp only [he, if_true, splitSign_minus, parseNat_expDigits]
    congr 1; omega
  · have hs : ∀ r, splitSign ('+' :: r) = (false, r) := fun r => rfl
    simp only [he, if_false, hs, parseNat_expDigits]
    congr 1; simp; omega

/-- unsigned mantissa-and-exponent text: `d[.ddd]e±XX`. -/
theorem parseUnsigned_exp (m n : Nat) (e : Int) (hm : m < 10 ^ (n + 1)) :
    parseUnsigned? (padDigits 1 (m / 10 ^ n) ++ (if n = 0 then [] else '.' :: padDigits n (m % 10 ^ n))
        ++ 'e' :: expTok e)
      = some (((m : Nat) : ℚ) / ((10 ^ n : Nat) : ℚ) * pow10 e) := by
  have hd : m / 10 ^ n < 10 := by
    rw [Nat.div_lt_iff_lt_mul (by positivity)]; rw [pow_succ] at hm; omega
  have hval : (m / 10 ^ n) % 10 ^ 1 * 10 ^ n + m % 10 ^ n = m := by
    rw [pow_one, Nat.mod_eq_of_lt hd]; exact Nat.div_add_mod' m (10 ^ n)
  have h := parseUnsigned_parts (padDigits 1 (m / 10 ^ n)) ('e' :: expTok e) n (m % 10 ^ n) e (all_isDigit_padDigits _ _)
    (by simp [padDigits]) (.inr ⟨_, rfl⟩) (parseExp_expTok e)
  simp only [digitsVal_padDigits, zero_mul, zero_add, Nat.mod_mod, hval] at h
  exact h

theorem splitSign_padDigits1 (d : Nat) (r : List Char) : splitSign (padDigits 1 d ++ r) = (false, padDigits 1 d ++ r) :=
  splitSign_digits_append _ r (by simp [padDigits]) (all_isDigit_padDigits 1 d)

theorem pow10_sub_natCast (e : Int) (n : Nat) : pow10 (e - (n : Int)) = pow10 e / ((10 ^ n : Nat) : ℚ) := by
  rw [sub_eq_add_neg, pow10_add, ← pow10_natCast, pow10_eq (-(n : Int)), pow10_eq (n : Int), zpow_neg]; rfl

/-- the independent number parser reads the text of `'%.ne' % q` as exactly `expVal q n`. -/
theorem parseNum_fmtExp (q : ℚ) (n : Nat) : parseNum? (fmtExp q n) = some (expVal q n) := by
  by_cases hq : q = 0
  · subst hq
    have h := parseUnsigned_exp 0 n 0 (by positivity)
    simp only [Nat.zero_div, Nat.zero_mod] at h
    unfold parseNum? fmtExp expVal
    simp only [lt_self_iff_false, if_false, if_true, List.nil_append]
    have e : ('0' :: (if n = 0 then [] else '.' :: padDigits n 0) ++ 'e' :: expTok 0)
        = (padDigits 1 0 ++ (if n = 0 then [] else '.' :: padDigits n 0) ++ 'e' :: expTok 0) := by
      simp [padDigits, digitChar]
    rw [e, List.append_assoc, splitSign_padDigits1]
    simp only [List.append_assoc] at h
    simp only [h]; simp
  · set a := if q < 0 then -q else q with ha_def
    have ha : 0 < a := by
      rcases lt_or_gt_of_ne hq with h | h
      · rw [ha_def, if_pos h]; linarith
      · rw [ha_def, if_neg (not_lt.mpr h.le)]; exact h
    obtain ⟨_, hlt, _⟩ := expParts_spec a ha n
    have h := parseUnsigned_exp (expParts a n).1 n (expParts a n).2 hlt
    unfold fmtExp expVal
    simp only [hq, if_false, ← ha_def, List.append_assoc] at h ⊢
    rw [parseNum_signed _ _ _ (splitSign_padDigits1 _ _) h, pow10_sub_natCast]
    congr 1
    split <;> ring

end Atomman.C07
