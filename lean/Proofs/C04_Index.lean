/-
  C04 — the sublattice-index theorem via Mathlib's `Submodule.natAbs_det_equiv` (Smith normal form): `ℤ³ / ℤ³·U` has
  `|det U|` elements, and for every offset `s` the shifts `n` with `s + n` in the half-open new cell are a complete,
  irredundant system of coset representatives (`reduce_rep`, `rep_unique`): exactly `|det U|` of them.
-/
import Proofs.C04_Reps
import Mathlib.LinearAlgebra.FreeModule.Finite.CardQuotient

namespace Atomman.C04
open Atomman

def toMat (U : M3 Int) : Matrix (Fin 3) (Fin 3) ℤ :=
  !![U.r0.x, U.r0.y, U.r0.z; U.r1.x, U.r1.y, U.r1.z; U.r2.x, U.r2.y, U.r2.z]

def toFun (n : V3 Int) : Fin 3 → ℤ := ![n.x, n.y, n.z]
def ofFun (v : Fin 3 → ℤ) : V3 Int := ⟨v 0, v 1, v 2⟩

theorem ofFun_toFun (n : V3 Int) : ofFun (toFun n) = n := rfl
theorem toFun_ofFun (v : Fin 3 → ℤ) : toFun (ofFun v) = v := by
  ext i; fin_cases i <;> rfl

theorem toMat_det (U : M3 Int) : (toMat U).det = M3.det U := by
  obtain ⟨⟨a, b, c⟩, ⟨d, e, f⟩, ⟨g, h, i⟩⟩ := U
  rw [Matrix.det_fin_three]; simp [toMat, M3.det, V3.dot, V3.cross]; ring

/-- `m ↦ m·U` (row vector times matrix) as a ℤ-linear map. -/
def rowMul (U : M3 Int) : (Fin 3 → ℤ) →ₗ[ℤ] (Fin 3 → ℤ) := Matrix.toLin' (toMat U).transpose

theorem rowMul_apply (U : M3 Int) (m : V3 Int) : rowMul U (toFun m) = toFun (mulU m U) := by
  obtain ⟨⟨a, b, c⟩, ⟨d, e, f⟩, ⟨g, h, i⟩⟩ := U
  obtain ⟨x, y, z⟩ := m
  ext j
  fin_cases j <;>
    simp [rowMul, toMat, toFun, mulU, M3.vecMul, Matrix.toLin'_apply, Matrix.mulVec, dotProduct, Fin.sum_univ_three] <;> ring

theorem rowMul_det (U : M3 Int) : LinearMap.det (rowMul U) = M3.det U := by
  rw [rowMul, LinearMap.det_toLin', Matrix.det_transpose, toMat_det]

theorem rowMul_injective (U : M3 Int) (h : M3.det U ≠ 0) : Function.Injective (rowMul U) := by
  rw [← LinearMap.ker_eq_bot, LinearMap.ker_eq_bot']
  intro v hv
  apply Matrix.eq_zero_of_mulVec_eq_zero (M := (toMat U).transpose)
  · rw [Matrix.det_transpose, toMat_det]; exact h
  · simpa [rowMul, Matrix.toLin'_apply] using hv

theorem card_quotient (U : M3 Int) (h : M3.det U ≠ 0) :
    Nat.card ((Fin 3 → ℤ) ⧸ LinearMap.range (rowMul U)) = (M3.det U).natAbs := by
  have := Submodule.natAbs_det_equiv (LinearMap.range (rowMul U))
    (LinearEquiv.ofInjective (rowMul U) (rowMul_injective U h))
  -- `natAbs_det_equiv N e` gives `card (M ⧸ N) = |det (N.subtype ∘ e)|`; with `e = ofInjective (rowMul U)` that composite
  -- is `rowMul U` definitionally (the last `congr 1`), and `det (rowMul U) = det U`.
  rw [← this]
  congr 1
  rw [← rowMul_det]
  congr 1


variable {K : Type} [Field K] [LinearOrder K] [IsStrictOrderedRing K] [FloorRing K]

theorem toFun_sub (a b : V3 Int) : toFun (a - b) = toFun a - toFun b := by
  ext j; fin_cases j <;> rfl

theorem toFun_injective : Function.Injective toFun := by
  intro a b h
  have := congrArg ofFun h
  simpa [ofFun_toFun] using this

theorem rep_bijective (U : M3 Int) (h : M3.det U ≠ 0) (s : V3 K) :
    Function.Bijective (fun n : {n : V3 Int // Rep U s n} =>
      (Submodule.Quotient.mk (toFun n.1) : (Fin 3 → ℤ) ⧸ LinearMap.range (rowMul U))) := by
  constructor
  · rintro ⟨n, hn⟩ ⟨n', hn'⟩ e
    simp only at e
    rw [Submodule.Quotient.eq, LinearMap.mem_range] at e
    obtain ⟨v, hv⟩ := e
    have e2 : mulU (ofFun v) U = n - n' :=
      toFun_injective (by rw [← rowMul_apply, toFun_ofFun, hv, toFun_sub])
    apply Subtype.ext
    refine (rep_unique U h s n' n (ofFun v) hn' hn ?_).symm
    rw [e2]
    ext <;> simp only [V3.sub_x', V3.sub_y', V3.sub_z'] <;> omega
  · intro q
    obtain ⟨v, rfl⟩ := Submodule.Quotient.mk_surjective _ q
    refine ⟨⟨reduce U s (ofFun v), reduce_rep U h s _⟩, ?_⟩
    obtain ⟨m, hm⟩ := reduce_eq_sub U s (ofFun v)
    simp only
    rw [Submodule.Quotient.eq, hm, toFun_sub, toFun_ofFun, ← rowMul_apply]
    have : v - rowMul U (toFun m) - v = rowMul U (- toFun m) := by
      rw [map_neg]; abel
    rw [this]
    exact LinearMap.mem_range_self _ _

/-- **Index of the sublattice.**  For an integer matrix `U` with `det U ≠ 0` and any offset `s`, exactly
    `|det U|` integer shifts `n` put the point `s + n` (old-cell units) into the half-open cell of the new
    lattice `ℤ³·U`: the half-open cell is a complete irredundant system of representatives of `ℤ³/ℤ³·U`,
    whose order is `|det U|` (Mathlib `Submodule.natAbs_det_equiv`). -/
theorem rotate_lattice_index (U : M3 Int) (hU : M3.det U ≠ 0) (s : V3 K) :
    Nat.card {n : V3 Int // Rep U s n} = (M3.det U).natAbs := by
  rw [← card_quotient U hU]
  exact Nat.card_congr (Equiv.ofBijective _ (rep_bijective U hU s))

end Atomman.C04
