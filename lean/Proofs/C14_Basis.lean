/-
  C14, `free_surface_basis`: the clauses for any triple the searches accept and any normal related to the plane indices
  (`Accepted`, `NormalOf`), read off for a run and for a matrix the relational model accepts; the headline
  `free_surface_basis_correct`; the entry point (`fsbEntry_*`).  `K` is any linearly ordered commutative ring (the driver runs
  at `ℤ` and `ℚ`); `normal_is_reciprocal` divides and is for ordered fields.
-/
import Proofs.C14_Search
import Proofs.C14_Lemmas
import Proofs.C14_Indices

namespace Atomman.C14
open Atomman
set_option linter.unusedSectionVars false

section fsb
variable {K : Type} [CommRing K] [LinearOrder K] [IsStrictOrderedRing K]

/-- how a normal is related to the plane indices: its component along a lattice vector `u` is a positive multiple of
    `det V · (h,k,l)·(u · adj L)`. -/
def NormalOf (V : M3 K) (hkl : IV) (L : M3 Int) (pn : V3 K) : Prop :=
  ∃ num den : ℤ, 0 < num ∧ 0 < den ∧ ∀ u : IV,
    (den : K) * V3.dot (cart V u) pn = (num : K) * M3.det V * ((V3.dot hkl (M3.vecMul u (adj L)) : ℤ) : K)

/-- the facts the two searches establish about a triple. -/
structure Accepted (V : M3 K) (pn : V3 K) (n : ℤ) (a b c : IV) : Prop where
  a_ok : a ∈ genVectors n ∧ inPlane V pn a
  c_ok : ∃ c0 ∈ genVectors n, towardNormal V pn c0 ∧ c = reduceGcd c0
  b_ok : b ∈ genVectors n ∧ bFilter V pn (cart V a) b

/-- the clauses of `free_surface_basis_correct` as one predicate. -/
def FsbClauses (V : M3 K) (hkl : IV) (L : M3 Int) (cut : Cut) (uvws : M3 Int) (pn : V3 K) : Prop :=
  0 < M3.det uvws ∧
  V3.dot hkl (M3.vecMul (uvws.row ((cutIndex cut + 1) % 3)) (adj L)) = 0 ∧
  V3.dot hkl (M3.vecMul (uvws.row ((cutIndex cut + 2) % 3)) (adj L)) = 0 ∧
  0 < V3.dot hkl (M3.vecMul (uvws.row (cutIndex cut)) (adj L)) ∧
  gcd3 (uvws.row (cutIndex cut)) = 1 ∧
  ∃ num den : ℤ, 0 < num ∧ 0 < den ∧
    V3.smul (den : K) pn = V3.smul (num : K) (M3.vecMul (toK hkl) (cofRows (M3.mul (castM L) V)))

/-- documented refusal: the all-zero plane raises `ValueError`, and nothing else does. -/
theorem basis_value_error_iff (V : M3 K) (hkl : IV) (L : M3 Int) (nOpt : Option Int) :
    basisABC V hkl L nOpt = .error "value" ↔ hkl = ⟨0, 0, 0⟩ := by
  constructor
  · intro h
    by_contra hne
    obtain ⟨ini, hi, _⟩ := init_cross_parallel hkl hne
    unfold basisABC at h
    rw [hi] at h
    simp only at h
    split at h
    · split at h <;> simp at h
    · simp at h
  · rintro rfl
    unfold basisABC
    rw [initVectors_zero]

/-- **search_result_satisfies_filter**: whatever the two searches return passed the coded tests —
    `a` is an in-plane candidate, `c` is the gcd reduction of a candidate on the normal's side,
    `b` is an in-plane candidate, not parallel to `a`, with `(a×b)·n > 0`
    (the three fields of `Accepted V r.pn r.n r.a r.b r.c`, written out). -/
theorem search_result_satisfies_filter (V : M3 K) (hdet : M3.det V ≠ 0) (hkl : IV) (L : M3 Int)
    (nOpt : Option Int) (r : ABC K) (h : basisABC V hkl L nOpt = .ok r) :
    (r.a ∈ genVectors r.n ∧ inPlane V r.pn r.a) ∧
    (∃ c0 ∈ genVectors r.n, towardNormal V r.pn c0 ∧ r.c = reduceGcd c0) ∧
    (r.b ∈ genVectors r.n ∧ bFilter V r.pn (cart V r.a) r.b) := by
  obtain ⟨ini, cb, hi, hn, hpn, ha, hc, hcr, hb⟩ := basisABC_ok V hkl L nOpt r h
  obtain ⟨a1, a2, _⟩ := search1_a_spec ha
  obtain ⟨c1, c2, _⟩ := search1_c_spec (m2_pos_gen V hdet r.n) hc
  obtain ⟨b1, b2, _⟩ := search2_b_spec hb
  exact ⟨⟨a1, a2⟩, ⟨cb.v, c1, (towardNormal_iff_dn _ _ _).mpr c2, hcr⟩, ⟨b1, b2⟩⟩

theorem normalOf_planeNormal (V : M3 K) {hkl : IV} (L : M3 Int) {ini : Init} (hi : initVectors hkl = some ini) :
    NormalOf V hkl L (planeNormal V ini.s (M3.vecMul ini.a0 L) (M3.vecMul ini.b0 L)) := by
  obtain ⟨num, den, h1, h2, he⟩ := init_cross hi
  exact ⟨num, den, h1, h2, fun u => dot_cart_planeNormal V L ini.a0 ini.b0 hkl u ini.s num den he⟩

/-- the component of a lattice vector along the computed normal is a positive multiple of
    `det V · (h,k,l)·(u · adj L)`; `u · adj L / det L` are the indices of `u` in the conventional cell
    (`NormalOf V hkl L r.pn`, written out). -/
theorem normal_component (V : M3 K) (hkl : IV) (L : M3 Int) (nOpt : Option Int) (r : ABC K)
    (h : basisABC V hkl L nOpt = .ok r) :
    ∃ num den : ℤ, 0 < num ∧ 0 < den ∧ ∀ u : IV,
      (den : K) * V3.dot (cart V u) r.pn = (num : K) * M3.det V * ((V3.dot hkl (M3.vecMul u (adj L)) : ℤ) : K) := by
  obtain ⟨ini, cb, hi, hn, hpn, _⟩ := basisABC_ok V hkl L nOpt r h
  rw [hpn]
  exact normalOf_planeNormal V L hi

theorem accepted_of_run (V : M3 K) (hdet : M3.det V ≠ 0) (hkl : IV) (L : M3 Int) (nOpt : Option Int) (r : ABC K)
    (h : basisABC V hkl L nOpt = .ok r) : Accepted V r.pn r.n r.a r.b r.c ∧ NormalOf V hkl L r.pn := by
  obtain ⟨h1, h2, h3⟩ := search_result_satisfies_filter V hdet hkl L nOpt r h
  exact ⟨⟨h1, h2, h3⟩, normal_component V hkl L nOpt r h⟩

section clauses
variable {V : M3 K} {hkl : IV} {L : M3 Int} {pn : V3 K} {n : ℤ} {a b c : IV}
/-- zone law: a lattice vector is perpendicular to the normal iff `(h,k,l)·(u · adj L) = 0`. -/
theorem NormalOf.zone (hn : NormalOf V hkl L pn) (hdet : M3.det V ≠ 0) (u : IV) :
    inPlane V pn u ↔ V3.dot hkl (M3.vecMul u (adj L)) = 0 := by
  obtain ⟨num, den, h1, h2, he⟩ := hn
  have hnum : (num : K) ≠ 0 := by exact_mod_cast h1.ne'
  have hden : (den : K) ≠ 0 := by exact_mod_cast h2.ne'
  have := he u
  unfold inPlane
  constructor
  · intro h0
    rw [h0, mul_zero] at this
    exact_mod_cast (mul_eq_zero.mp this.symm).resolve_left (mul_ne_zero hnum hdet)
  · intro h0
    rw [h0, Int.cast_zero, mul_zero] at this
    exact (mul_eq_zero.mp this).resolve_left hden

/-- in a right-handed cell the normal's side is the side of `(h,k,l)`. -/
theorem NormalOf.side (hn : NormalOf V hkl L pn) (hd : 0 < M3.det V) (u : IV) (hu : 0 < dn V pn u) :
    0 < V3.dot hkl (M3.vecMul u (adj L)) := by
  obtain ⟨num, den, h1, h2, he⟩ := hn
  have hnum : (0 : K) < (num : K) := by exact_mod_cast h1
  have hden : (0 : K) < (den : K) := by exact_mod_cast h2
  have hl : 0 < (den : K) * V3.dot (cart V u) pn := mul_pos hden hu
  rw [he u] at hl
  exact_mod_cast (pos_iff_pos_of_mul_pos hl).mp (mul_pos hnum hd)

theorem Accepted.c_side (h : Accepted V pn n a b c) : 0 < dn V pn c ∧ gcd3 c = 1 := by
  obtain ⟨c0, hc0, ht, rfl⟩ := h.c_ok
  have hne : c0 ≠ ⟨0, 0, 0⟩ := ((mem_genVectors _ _).mp hc0).2.2.2
  have hgK : (0 : K) < (gcd3 c0 : K) := by exact_mod_cast gcd3_pos c0 hne
  have ht' : 0 < dn V pn (V3.smul (gcd3 c0) (reduceGcd c0)) := by rw [reduceGcd_smul]; exact ht
  rw [dn_smul] at ht'
  exact ⟨(pos_iff_pos_of_mul_pos ht').mp hgK, reduceGcd_coprime c0 hne⟩

/-- `a, b` in the plane with `(a×b)·n > 0` and `c` on the normal's side: a right-handed triple. -/
theorem Accepted.right_handed (h : Accepted V pn n a b c) :
    0 < V3.dot (V3.cross (cart V a) (cart V b)) (cart V c) := by
  have hc := h.c_side.1
  obtain ⟨⟨_, ha⟩, _, ⟨_, hb, _, hw⟩⟩ := h
  have hp : 0 < V3.normSq pn * V3.dot (V3.cross (cart V a) (cart V b)) (cart V c) := by
    rw [V3.normSq_mul_triple _ _ (cart V c) pn ha hb]; exact mul_pos hw hc
  exact (pos_iff_pos_of_mul_pos hp).mp (V3.normSq_pos_of_dot_ne_zero_right hc.ne')

end clauses

/-- zone law for any lattice vector: `u` is perpendicular to the computed normal iff
    `(h,k,l)·(u · adj L) = 0`. -/
theorem inPlane_iff_zone (V : M3 K) (hdet : M3.det V ≠ 0) (hkl : IV) (L : M3 Int) (nOpt : Option Int)
    (r : ABC K) (h : basisABC V hkl L nOpt = .ok r) (u : IV) :
    inPlane V r.pn u ↔ V3.dot hkl (M3.vecMul u (adj L)) = 0 :=
  NormalOf.zone (normal_component V hkl L nOpt r h) hdet u

/-- **basis_in_plane** (zone law): the two in-plane vectors satisfy `h u + k v + l w = 0`, the indices
    `[u v w]·det L = (vector)·adj L` being those relative to the conventional cell the plane refers to. -/
theorem basis_in_plane (V : M3 K) (hdet : M3.det V ≠ 0) (hkl : IV) (L : M3 Int) (nOpt : Option Int)
    (r : ABC K) (h : basisABC V hkl L nOpt = .ok r) :
    V3.dot hkl (M3.vecMul r.a (adj L)) = 0 ∧ V3.dot hkl (M3.vecMul r.b (adj L)) = 0 := by
  obtain ⟨hacc, hn⟩ := accepted_of_run V hdet hkl L nOpt r h
  exact ⟨(hn.zone hdet r.a).mp hacc.a_ok.2, (hn.zone hdet r.b).mp hacc.b_ok.2.1⟩

/-- primitive setting (`conventional_setting` absent or `'p'`): plain `h u + k v + l w = 0`. -/
theorem basis_in_plane_p (V : M3 K) (hdet : M3.det V ≠ 0) (h k l : ℤ) (L : M3 Int) (hL : c2p "p" = some L)
    (nOpt : Option Int) (r : ABC K) (hr : basisABC V ⟨h, k, l⟩ L nOpt = .ok r) :
    h * r.a.x + k * r.a.y + l * r.a.z = 0 ∧ h * r.b.x + k * r.b.y + l * r.b.z = 0 := by
  simp only [c2p, Option.some.injEq] at hL
  subst hL
  have := basis_in_plane V hdet ⟨h, k, l⟩ _ nOpt r hr
  rw [adj_one] at this
  simp only [V3.dot, M3.vecMul, mul_one, mul_zero, add_zero, zero_add] at this
  exact this

/-- **basis_out_of_plane**: the third vector is not in the plane; for a right-handed cell it is on the
    side of the plane normal `(h,k,l)·(c · adj L) > 0`. -/
theorem basis_out_of_plane (V : M3 K) (hdet : M3.det V ≠ 0) (hkl : IV) (L : M3 Int) (nOpt : Option Int)
    (r : ABC K) (h : basisABC V hkl L nOpt = .ok r) :
    0 < dn V r.pn r.c ∧ ¬ inPlane V r.pn r.c ∧ V3.dot hkl (M3.vecMul r.c (adj L)) ≠ 0 ∧
    (0 < M3.det V → 0 < V3.dot hkl (M3.vecMul r.c (adj L))) := by
  obtain ⟨hacc, hn⟩ := accepted_of_run V hdet hkl L nOpt r h
  have hpos := hacc.c_side.1
  have hnot : ¬ inPlane V r.pn r.c := fun h => hpos.ne' ((inPlane_iff_dn _ _ _).mp h)
  exact ⟨hpos, hnot, fun h0 => hnot ((hn.zone hdet r.c).mpr h0), fun hd => hn.side hd r.c hpos⟩

/-- **basis_integer**: all three vectors are non-zero integer vectors with entries bounded by
    `maxindex`; the division of the out-of-plane vector by its gcd is exact (`g·c = c₀`, `g > 0`) and leaves
    a primitive vector. -/
theorem basis_integer (V : M3 K) (hdet : M3.det V ≠ 0) (hkl : IV) (L : M3 Int) (nOpt : Option Int)
    (r : ABC K) (h : basisABC V hkl L nOpt = .ok r) :
    r.a ∈ genVectors r.n ∧ r.b ∈ genVectors r.n ∧
    ∃ c0 ∈ genVectors r.n, ∃ g : ℤ, 0 < g ∧ V3.smul g r.c = c0 ∧ gcd3 r.c = 1 ∧ r.c ≠ ⟨0, 0, 0⟩ := by
  obtain ⟨⟨ha, _⟩, ⟨c0, hc0, ht, hcr⟩, ⟨hb, _⟩⟩ := search_result_satisfies_filter V hdet hkl L nOpt r h
  have hne : c0 ≠ ⟨0, 0, 0⟩ := ((mem_genVectors _ _).mp hc0).2.2.2
  have hg : gcd3 r.c = 1 := by rw [hcr]; exact reduceGcd_coprime c0 hne
  refine ⟨ha, hb, c0, hc0, gcd3 c0, gcd3_pos c0 hne, by rw [hcr]; exact reduceGcd_smul c0, hg, ?_⟩
  intro h0
  rw [h0] at hg
  exact absurd hg (by decide)

/-- Cartesian form, needs no orientation of the cell: `(a×b)·c > 0` for the Cartesian images. -/
theorem basis_right_handed_cart (V : M3 K) (hdet : M3.det V ≠ 0) (hkl : IV) (L : M3 Int) (nOpt : Option Int)
    (r : ABC K) (h : basisABC V hkl L nOpt = .ok r) :
    0 < V3.dot (V3.cross (cart V r.a) (cart V r.b)) (cart V r.c) :=
  (accepted_of_run V hdet hkl L nOpt r h).1.right_handed

theorem det_orderRows (cut : Cut) (a b c : IV) : M3.det (orderRows cut a b c) = M3.det (⟨a, b, c⟩ : M3 Int) := by
  cases cut <;> simp only [orderRows, M3.det, V3.dot, V3.cross] <;> ring

/-- which row is which: the row at `cutindex` is the out-of-plane vector, the other two are the
    in-plane vectors (in cyclic order). -/
theorem orderRows_rows (cut : Cut) (a b c : IV) :
    (orderRows cut a b c).row (cutIndex cut) = c ∧
    (orderRows cut a b c).row ((cutIndex cut + 1) % 3) = a ∧
    (orderRows cut a b c).row ((cutIndex cut + 2) % 3) = b := by
  cases cut <;> exact ⟨rfl, rfl, rfl⟩

/-- the whole routine: a successful call returns `orderRows cut a b c` of a successful `basisABC` run,
    together with its normal; it refuses exactly when `basisABC` does (same error class). -/
theorem freeSurfaceBasis_eq (V : M3 K) (hkl : IV) (L : M3 Int) (cut : Cut) (nOpt : Option Int) :
    (∀ uvws pn, freeSurfaceBasis V hkl L cut nOpt = .ok (uvws, pn) ↔
      ∃ r, basisABC V hkl L nOpt = .ok r ∧ uvws = orderRows cut r.a r.b r.c ∧ pn = r.pn) ∧
    (∀ e, freeSurfaceBasis V hkl L cut nOpt = .error e ↔ basisABC V hkl L nOpt = .error e) := by
  unfold freeSurfaceBasis
  cases hb : basisABC V hkl L nOpt with
  | error e' => simp
  | ok r =>
    simp only [Except.ok.injEq, Prod.mk.injEq, reduceCtorEq, implies_true, and_true]
    intro uvws pn
    constructor
    · rintro ⟨rfl, rfl⟩; exact ⟨r, rfl, rfl, rfl⟩
    · rintro ⟨r', rfl, rfl, rfl⟩; exact ⟨rfl, rfl⟩

/-- **basis_right_handed**: for a right-handed cell the returned integer matrix has a positive
    determinant, for each of the three `cutboxvector` orderings (`c`: a,b,c — `b`: b,c,a — `a`: c,a,b);
    in general `det(uvws)·det(V) > 0`, i.e. the rotated cell `uvws·V` is always right-handed. -/
theorem basis_right_handed (V : M3 K) (hdet : M3.det V ≠ 0) (hkl : IV) (L : M3 Int) (cut : Cut)
    (nOpt : Option Int) (uvws : M3 Int) (pn : V3 K) (h : freeSurfaceBasis V hkl L cut nOpt = .ok (uvws, pn)) :
    0 < ((M3.det uvws : ℤ) : K) * M3.det V ∧ (0 < M3.det V → 0 < M3.det uvws) := by
  obtain ⟨r, hr, rfl, rfl⟩ := ((freeSurfaceBasis_eq V hkl L cut nOpt).1 uvws pn).mp h
  have h1 := basis_right_handed_cart V hdet hkl L nOpt r hr
  rw [det_cart] at h1
  rw [det_orderRows]
  exact ⟨h1, fun hd => by exact_mod_cast (pos_iff_pos_of_mul_pos h1).mpr hd⟩

theorem planeNormal_eq_normalOf (V : M3 K) (L : M3 Int) (s : ℤ) (a b : IV) :
    planeNormal V s (M3.vecMul a L) (M3.vecMul b L) = C16.normalOf (M3.mul (castM L) V) a b s := by
  simp only [C16.normalOf, planeNormal, cart_vecMul]
  rfl

/-- the reported normal is the one `miller.plane_crystal_to_cartesian` computes (before its final
    normalisation) for `(hkl)` in the conventional cell `L·V` (C16's model). -/
theorem normal_matches_miller (V : M3 K) (hkl : IV) (L : M3 Int) (nOpt : Option Int) (r : ABC K)
    (h : basisABC V hkl L nOpt = .ok r) :
    C16.planeNormalUnnorm (M3.mul (castM L) V) hkl.x hkl.y hkl.z = .ok r.pn := by
  obtain ⟨ini, cb, hi, hn, hpn, _⟩ := basisABC_ok V hkl L nOpt r h
  have e := initVectors_eq_C16 hkl.x hkl.y hkl.z
  have hh : (⟨hkl.x, hkl.y, hkl.z⟩ : IV) = hkl := rfl
  rw [hh, hi] at e
  simp only at e
  unfold C16.planeNormalUnnorm
  rw [← e, hpn, planeNormal_eq_normalOf]

/-- `a` is a shortest in-plane lattice vector with indices in `[-n, n]`. -/
theorem basis_a_shortest (V : M3 K) (hkl : IV) (L : M3 Int) (nOpt : Option Int) (r : ABC K)
    (h : basisABC V hkl L nOpt = .ok r) :
    ∀ v ∈ genVectors r.n, inPlane V r.pn v → m2 V r.a ≤ m2 V v := by
  obtain ⟨ini, cb, hi, hn, hpn, ha, hc, hcr, hb⟩ := basisABC_ok V hkl L nOpt r h
  exact (search1_a_spec ha).2.2

/-- `c` is the reduction of a candidate closest to the plane normal: no candidate `v` on the normal's
    side has a larger cosine (`(v·n)²/|v|² ≤ (c·n)²/|c|²`, cross-multiplied). -/
theorem basis_c_closest (V : M3 K) (hdet : M3.det V ≠ 0) (hkl : IV) (L : M3 Int) (nOpt : Option Int) (r : ABC K)
    (h : basisABC V hkl L nOpt = .ok r) :
    ∀ v ∈ genVectors r.n, towardNormal V r.pn v →
      dn V r.pn v * dn V r.pn v * m2 V r.c ≤ dn V r.pn r.c * dn V r.pn r.c * m2 V v := by
  obtain ⟨ini, cb, hi, hn, hpn, ha, hc, hcr, hb⟩ := basisABC_ok V hkl L nOpt r h
  obtain ⟨q2, _, q6⟩ := search1_c_spec (m2_pos_gen V hdet r.n) hc
  intro v hv ht
  have h6 := q6 v hv ht
  have hg : (0 : K) < (gcd3 cb.v : K) := by exact_mod_cast gcd3_pos cb.v ((mem_genVectors _ _).mp q2).2.2.2
  -- the candidate is `g` times its reduction: both sides of the comparison scale by `g²`
  rw [← reduceGcd_smul cb.v, dn_smul, m2_smul, ← hcr] at h6
  refine le_of_mul_le_mul_left ?_ (mul_pos hg hg)
  calc (gcd3 cb.v : K) * (gcd3 cb.v : K) * (dn V r.pn v * dn V r.pn v * m2 V r.c)
      = dn V r.pn v * dn V r.pn v * ((gcd3 cb.v : K) * (gcd3 cb.v : K) * m2 V r.c) := by ring
    _ ≤ (gcd3 cb.v : K) * dn V r.pn r.c * ((gcd3 cb.v : K) * dn V r.pn r.c) * m2 V v := h6
    _ = (gcd3 cb.v : K) * (gcd3 cb.v : K) * (dn V r.pn r.c * dn V r.pn r.c * m2 V v) := by ring

/-- `b` is a shortest candidate passing the second filter, and among those of its length the one with the
    smallest angle to `a` (largest `a·b`). -/
theorem basis_b_shortest (V : M3 K) (hkl : IV) (L : M3 Int) (nOpt : Option Int) (r : ABC K)
    (h : basisABC V hkl L nOpt = .ok r) :
    ∀ v ∈ genVectors r.n, bFilter V r.pn (cart V r.a) v →
      m2 V r.b ≤ m2 V v ∧
      (m2 V v = m2 V r.b → V3.dot (cart V r.a) (cart V v) ≤ V3.dot (cart V r.a) (cart V r.b)) := by
  obtain ⟨ini, cb, hi, hn, hpn, ha, hc, hcr, hb⟩ := basisABC_ok V hkl L nOpt r h
  exact (search2_b_spec hb).2.2

/-! ## the relational model: whatever `Rel.validBasis` accepts has the properties as well
    (this is what the correspondence falls back to where a float tie decides the coded choice) -/

/-- all clauses, for any accepted triple. -/
theorem accepted_properties (V : M3 K) (hdet : M3.det V ≠ 0) (hkl : IV) (L : M3 Int) (pn : V3 K) (n : ℤ)
    (a b c : IV) (hn : NormalOf V hkl L pn) (h : Accepted V pn n a b c) :
    V3.dot hkl (M3.vecMul a (adj L)) = 0 ∧ V3.dot hkl (M3.vecMul b (adj L)) = 0 ∧
    V3.dot hkl (M3.vecMul c (adj L)) ≠ 0 ∧ (0 < M3.det V → 0 < V3.dot hkl (M3.vecMul c (adj L))) ∧
    0 < ((M3.det (⟨a, b, c⟩ : M3 Int) : ℤ) : K) * M3.det V ∧ (0 < M3.det V → 0 < M3.det (⟨a, b, c⟩ : M3 Int)) ∧
    gcd3 c = 1 := by
  obtain ⟨hc, hg⟩ := h.c_side
  have hdetc := h.right_handed
  rw [det_cart] at hdetc
  refine ⟨(hn.zone hdet a).mp h.a_ok.2, (hn.zone hdet b).mp h.b_ok.2.1, fun h0 => hc.ne' ((hn.zone hdet c).mpr h0),
    fun hd => hn.side hd c hc, hdetc, fun hd => ?_, hg⟩
  exact_mod_cast (pos_iff_pos_of_mul_pos hdetc).mpr hd

theorem inRange_iff (n : ℤ) (v : IV) : Rel.inRange n v = true ↔ v ∈ genVectors n := by
  obtain ⟨x, y, z⟩ := v
  rw [mem_genVectors]
  simp only [Rel.inRange, Bool.and_eq_true, decide_eq_true_eq, Bool.not_eq_true', Bool.and_eq_false_iff,
    beq_eq_false_iff_ne, ne_eq]
  constructor
  · rintro ⟨⟨⟨h1, h2⟩, h3⟩, h4⟩
    refine ⟨by omega, by omega, by omega, ?_⟩
    intro h0
    simp only [V3.mk.injEq] at h0
    obtain ⟨rfl, rfl, rfl⟩ := h0
    simp at h4
  · rintro ⟨h1, h2, h3, h4⟩
    refine ⟨⟨⟨by omega, by omega⟩, by omega⟩, ?_⟩
    by_cases hx : x = 0
    · by_cases hy : y = 0
      · right
        intro hz
        exact h4 (by rw [hx, hy, hz])
      · left; right; exact hy
    · left; left; exact hx

theorem unorder_orderRows (cut : Cut) (a b c : IV) : Rel.unorder cut (orderRows cut a b c) = (a, b, c) := by
  cases cut <;> rfl

theorem orderRows_unorder (cut : Cut) (m : M3 Int) :
    orderRows cut (Rel.unorder cut m).1 (Rel.unorder cut m).2.1 (Rel.unorder cut m).2.2 = m := by
  cases cut <;> rfl

/-- the three `cutboxvector` answers are one search in three row orders. -/
theorem freeSurfaceBasis_cut {V : M3 K} {hkl : IV} {L : M3 Int} {cut : Cut} {n : Option Int} {u : M3 Int} {pn : V3 K}
    (h : freeSurfaceBasis V hkl L cut n = .ok (u, pn)) (cut' : Cut) :
    freeSurfaceBasis V hkl L cut' n
      = .ok (orderRows cut' (Rel.unorder cut u).1 (Rel.unorder cut u).2.1 (Rel.unorder cut u).2.2, pn) := by
  obtain ⟨r, hr, rfl, rfl⟩ := ((freeSurfaceBasis_eq V hkl L cut n).1 u pn).mp h
  rw [unorder_orderRows]
  exact ((freeSurfaceBasis_eq V hkl L cut' n).1 _ _).mpr ⟨r, hr, rfl, rfl⟩

/-- a chain of checks returns `"1"` only through its `else` branches. -/
theorem verdict_else {c : Prop} [Decidable c] {s t : String} (hs : s ≠ "1")
    (h : (if c then s else t) = "1") : ¬c ∧ t = "1" := by
  by_cases hc : c
  · rw [if_pos hc] at h; exact absurd h hs
  · rw [if_neg hc] at h; exact ⟨hc, h⟩

theorem test_passed {p : Bool} {q : Prop} [Decidable q] (h : ¬(!(p && decide q)) = true) : p = true ∧ q := by
  simpa using h

/-- **validBasis_sound**: a matrix accepted by the relational model consists of an accepted triple in
    the rows the cut vector prescribes, for the normal the routine computes. -/
theorem validBasis_sound (V : M3 K) (hkl : IV) (L : M3 Int) (cut : Cut) (nOpt : Option Int) (uvws : M3 Int)
    (tn td : ℤ) (h : Rel.validBasis V hkl L cut nOpt uvws tn td = "1") :
    ∃ ini, initVectors hkl = some ini ∧
      Accepted V (planeNormal V ini.s (M3.vecMul ini.a0 L) (M3.vecMul ini.b0 L)) (maxIndexOf ini hkl L nOpt)
        (Rel.unorder cut uvws).1 (Rel.unorder cut uvws).2.1 (Rel.unorder cut uvws).2.2 := by
  unfold Rel.validBasis at h
  cases hini : initVectors hkl with
  | none => rw [hini] at h; exact absurd h (by decide : "0 hkl-zero" ≠ "1")
  | some ini =>
    rw [hini] at h
    refine ⟨ini, rfl, ?_⟩
    generalize Rel.unorder cut uvws = t at h ⊢
    obtain ⟨a, b, c⟩ := t
    -- the four tests dropped below (`-`) are the near-optimality checks: `tn`, `td` play no part in soundness
    obtain ⟨h1, h⟩ := verdict_else (by decide) h
    obtain ⟨-, h⟩ := verdict_else (by decide) h
    obtain ⟨-, h⟩ := verdict_else (by decide) h
    obtain ⟨-, h⟩ := verdict_else (by decide) h
    obtain ⟨h5, h⟩ := verdict_else (by decide) h
    obtain ⟨-, h⟩ := verdict_else (by decide) h
    obtain ⟨h7, -⟩ := verdict_else (by decide) h
    obtain ⟨ha, ha'⟩ := test_passed h1
    obtain ⟨hb, hb'⟩ := test_passed h7
    rw [Bool.not_eq_true, Bool.not_eq_false', List.any_eq_true] at h5
    obtain ⟨c0, hc0, hc1⟩ := h5
    rw [Bool.and_eq_true, decide_eq_true_eq, decide_eq_true_eq] at hc1
    exact ⟨⟨(inRange_iff _ _).mp ha, ha'⟩, ⟨c0, hc0, hc1.1, hc1.2.symm⟩, ⟨(inRange_iff _ _).mp hb, hb'⟩⟩

/-- every clause of the property for a matrix the relational model accepts. -/
theorem validBasis_properties (V : M3 K) (hdet : M3.det V ≠ 0) (hkl : IV) (L : M3 Int) (cut : Cut)
    (nOpt : Option Int) (uvws : M3 Int) (tn td : ℤ) (h : Rel.validBasis V hkl L cut nOpt uvws tn td = "1") :
    V3.dot hkl (M3.vecMul (uvws.row ((cutIndex cut + 1) % 3)) (adj L)) = 0 ∧
    V3.dot hkl (M3.vecMul (uvws.row ((cutIndex cut + 2) % 3)) (adj L)) = 0 ∧
    V3.dot hkl (M3.vecMul (uvws.row (cutIndex cut)) (adj L)) ≠ 0 ∧
    (0 < M3.det V → 0 < V3.dot hkl (M3.vecMul (uvws.row (cutIndex cut)) (adj L)) ∧ 0 < M3.det uvws) := by
  obtain ⟨ini, hi, hacc⟩ := validBasis_sound V hkl L cut nOpt uvws tn td h
  have hn := normalOf_planeNormal V L hi
  obtain ⟨p1, p2, p3, p4, _, p6, _⟩ := accepted_properties V hdet hkl L _ _ _ _ _ hn hacc
  have hrows := orderRows_rows cut (Rel.unorder cut uvws).1 (Rel.unorder cut uvws).2.1 (Rel.unorder cut uvws).2.2
  rw [orderRows_unorder] at hrows
  obtain ⟨r1, r2, r3⟩ := hrows
  rw [r1, r2, r3]
  refine ⟨p1, p2, p3, fun hd => ⟨p4 hd, ?_⟩⟩
  have := p6 hd
  rw [← det_orderRows cut, orderRows_unorder] at this
  exact this

/-- division-free form of the normal clause: `den·n = num·(h (b×c) + k (c×a) + l (a×b))` for the vectors
    `a, b, c` of the conventional cell `L·V`, `num, den > 0`; over a field the right-hand side is
    `num·det(L·V)·(h a* + k b* + l c*)` (`normal_is_reciprocal`). -/
theorem normal_cofactor (V : M3 K) (hkl : IV) (L : M3 Int) (nOpt : Option Int) (r : ABC K)
    (h : basisABC V hkl L nOpt = .ok r) :
    ∃ num den : ℤ, 0 < num ∧ 0 < den ∧
      V3.smul (den : K) r.pn = V3.smul (num : K) (M3.vecMul (toK hkl) (cofRows (M3.mul (castM L) V))) := by
  obtain ⟨ini, cb, hi, hn, hpn, _⟩ := basisABC_ok V hkl L nOpt r h
  obtain ⟨num, den, h1, h2, he⟩ := init_cross hi
  rw [hpn, planeNormal_eq_normalOf]
  exact ⟨num, den, h1, h2, normalOf_cofactor _ ini.a0 ini.b0 ini.s num den hkl.x hkl.y hkl.z he⟩

/-- **free_surface_basis_correct**: for a right-handed cell, every successful call — any plane, any
    centring matrix, any `maxindex`, each of the three cut vectors — returns a right-handed integer matrix
    whose row at `cutindex` is a primitive vector out of the plane on the side of the normal and whose other two
    rows satisfy the zone law (indices `row · adj L = det L ·` conventional indices), together with a normal
    that is a positive multiple of `h (b×c) + k (c×a) + l (a×b)` of the conventional cell
    (`FsbClauses V hkl L cut uvws pn`, written out). -/
theorem free_surface_basis_correct (V : M3 K) (hdet : 0 < M3.det V) (hkl : IV) (L : M3 Int) (cut : Cut)
    (nOpt : Option Int) (uvws : M3 Int) (pn : V3 K) (h : freeSurfaceBasis V hkl L cut nOpt = .ok (uvws, pn)) :
    0 < M3.det uvws ∧
    V3.dot hkl (M3.vecMul (uvws.row ((cutIndex cut + 1) % 3)) (adj L)) = 0 ∧
    V3.dot hkl (M3.vecMul (uvws.row ((cutIndex cut + 2) % 3)) (adj L)) = 0 ∧
    0 < V3.dot hkl (M3.vecMul (uvws.row (cutIndex cut)) (adj L)) ∧
    gcd3 (uvws.row (cutIndex cut)) = 1 ∧
    ∃ num den : ℤ, 0 < num ∧ 0 < den ∧
      V3.smul (den : K) pn = V3.smul (num : K) (M3.vecMul (toK hkl) (cofRows (M3.mul (castM L) V))) := by
  obtain ⟨r, hr, rfl, rfl⟩ := ((freeSurfaceBasis_eq V hkl L cut nOpt).1 uvws pn).mp h
  obtain ⟨hacc, hn⟩ := accepted_of_run V hdet.ne' hkl L nOpt r hr
  obtain ⟨p1, p2, _, p4, _, p6, p7⟩ := accepted_properties V hdet.ne' hkl L _ _ _ _ _ hn hacc
  obtain ⟨r1, r2, r3⟩ := orderRows_rows cut r.a r.b r.c
  rw [r1, r2, r3, det_orderRows]
  exact ⟨p6 hdet, p1, p2, p4 hdet, p7, normal_cofactor V hkl L nOpt r hr⟩

/-- **end to end**: every call of the public entry point that returns — three or four plane indices, any
    `return_hexagonal`, any centring key, each cut vector, any `maxindex` — returns rows with all clauses of the
    headline for the plane `planeOf` extracted (for four indices: `h + k + i = 0` and the plane is `(h, k, l)`) and the
    centring matrix of the key; the output form is the one `hklForm` resolved. -/
theorem fsbEntry_correct (V : M3 K) (hdet : 0 < M3.det V) (idx : List ℤ) (hex : Bool) (rh : Option Bool)
    (setting : String) (cut : Cut) (nOpt : Option Int) (uv : M3 Int) (rhOut : Bool) (pn : V3 K)
    (h : fsbEntry V idx hex rh setting cut nOpt = .ok (uv, rhOut, pn)) :
    ∃ hkl L conv, hklForm idx.length hex rh = .ok (rhOut, conv) ∧ planeOf idx conv = .ok hkl ∧
      c2p setting = some L ∧ FsbClauses V hkl L cut uv pn := by
  unfold fsbEntry at h
  split at h
  · cases h
  · rename_i rh' conv hf
    split at h
    · cases h
    · rename_i hkl hp
      split at h
      · cases h
      · rename_i L hL
        split at h
        · cases h
        · rename_i uv' pn' hb
          cases h
          exact ⟨hkl, L, conv, hf, hp, hL, free_surface_basis_correct V hdet hkl L cut nOpt _ _ hb⟩

/-- **refusals of the entry point**: a ValueError is raised exactly when the form of the plane is refused
    (`hklForm_refuses_iff`), four indices do not sum to zero in the first three, the centring key is unknown, or the plane is
    all zeros; nothing else raises a ValueError. -/
theorem fsbEntry_value_error_iff (V : M3 K) (idx : List ℤ) (hex : Bool) (rh : Option Bool)
    (setting : String) (cut : Cut) (nOpt : Option Int) :
    fsbEntry V idx hex rh setting cut nOpt = .error "value" ↔
      hklForm idx.length hex rh = .error "value" ∨
      ∃ rh' conv, hklForm idx.length hex rh = .ok (rh', conv) ∧
        (planeOf idx conv = .error "value" ∨
          ∃ hkl, planeOf idx conv = .ok hkl ∧ (c2p setting = none ∨ hkl = ⟨0, 0, 0⟩)) := by
  have key : ∀ (hkl : IV) (L : M3 Int), freeSurfaceBasis V hkl L cut nOpt = .error "value" ↔ hkl = ⟨0, 0, 0⟩ :=
    fun hkl L => by rw [(freeSurfaceBasis_eq V hkl L cut nOpt).2, basis_value_error_iff]
  unfold fsbEntry
  cases hf : hklForm idx.length hex rh with
  | error e =>
    simp only [Except.error.injEq, reduceCtorEq, false_and, exists_false, or_false]
  | ok p =>
    obtain ⟨rh', conv⟩ := p
    simp only [reduceCtorEq, false_or]
    constructor
    · intro he
      refine ⟨rh', conv, rfl, ?_⟩
      cases hp : planeOf idx conv with
      | error e => rw [hp] at he; left; simpa using he
      | ok hkl =>
        rw [hp] at he
        right
        refine ⟨hkl, rfl, ?_⟩
        cases hL : c2p setting with
        | none => left; rfl
        | some L =>
          rw [hL] at he
          simp only at he
          right
          apply (key hkl L).mp
          cases hb : freeSurfaceBasis V hkl L cut nOpt with
          | error e => rw [hb] at he; simpa using he
          | ok q => rw [hb] at he; cases he
    · rintro ⟨a, b, hab, hrest⟩
      simp only [Except.ok.injEq, Prod.mk.injEq] at hab
      obtain ⟨rfl, rfl⟩ := hab
      rcases hrest with hpe | ⟨hkl, hp, hz⟩
      · rw [hpe]
      · rw [hp]
        rcases hz with hn | rfl
        · simp only [hn]
        · cases hL : c2p setting with
          | none => rfl
          | some L => simp only; rw [(key _ L).mpr rfl]

end fsb

section fsbField
variable {K : Type} [Field K] [LinearOrder K] [IsStrictOrderedRing K]

/-- **normal_is_reciprocal**: the reported normal is a positive multiple of
    `det(L·V) · (h a* + k b* + l c*)`, the reciprocal-lattice vector of the conventional cell `L·V`:
    for a right-handed cell it points along the plane's reciprocal-lattice direction. -/
theorem normal_is_reciprocal (V : M3 K) (hdet : M3.det V ≠ 0) (hkl : IV) (L : M3 Int) (hL : M3.det L ≠ 0)
    (nOpt : Option Int) (r : ABC K) (h : basisABC V hkl L nOpt = .ok r) :
    ∃ c : K, 0 < c ∧
      r.pn = V3.smul (c * M3.det (M3.mul (castM L) V)) (C16.recipVector (M3.mul (castM L) V) hkl.x hkl.y hkl.z) := by
  have hdetc : M3.det (M3.mul (castM (K := K) L) V) ≠ 0 := by
    rw [M3.det_mul, castM_det]
    exact mul_ne_zero (by exact_mod_cast hL) hdet
  obtain ⟨ini, cb, hi, hn, hpn, _⟩ := basisABC_ok V hkl L nOpt r h
  obtain ⟨num, den, h1, h2, he⟩ := init_cross hi
  have hden : (0 : K) < (den : K) := Int.cast_pos.mpr h2
  refine ⟨(num : K) / den, div_pos (Int.cast_pos.mpr h1) hden, ?_⟩
  rw [hpn, planeNormal_eq_normalOf]
  exact c16_normalOf_eq _ ini.a0 ini.b0 ini.s num den hkl.x hkl.y hkl.z hden.ne' hdetc he

end fsbField

end Atomman.C14
