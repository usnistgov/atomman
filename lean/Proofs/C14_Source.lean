/-
  C14, the checked source tie.  `Atomman/Generated/SurfaceSource.lean` is regenerated on every run from /repo's current
  `free_surface_basis.py`, `FreeSurface.py`, `StackingFault.py` (harness/props/c14.py `translate`); every generated
  definition is proved equal to the hand model here (`gen_..._eq_model`), so a source edit that changes a branch, a sign,
  an order, a default or a formula breaks the named obligation (or raises TranslationError in the harness).
-/
import Atomman.Generated.SurfaceSource
import Proofs.C14_Cart
import Proofs.C14_Gcd
import Mathlib.Tactic.Linarith

namespace Atomman.C14
open Atomman
set_option linter.unusedSectionVars false

/-- the generated zero-pattern branches (with the truncating integer casts of the source) are the model's. -/
theorem gen_initVectors_eq_model (hkl : IV) : Gen.C14.initVectors hkl = initVectors hkl := by
  obtain ⟨h, k, l⟩ := hkl
  have d1 := Int.dvd_lcm_left h k
  have d2 := Int.dvd_lcm_right h k
  have d3 := Int.dvd_lcm_left h l
  have d4 := Int.dvd_lcm_right h l
  have d5 := Int.dvd_lcm_left k l
  have d6 := Int.dvd_lcm_right k l
  have d7 := dvd_trans (Int.dvd_lcm_left h k) (Int.dvd_lcm_left ((Int.lcm h k : ℕ) : ℤ) l)
  have d8 := dvd_trans (Int.dvd_lcm_right h k) (Int.dvd_lcm_left ((Int.lcm h k : ℕ) : ℤ) l)
  have d9 := Int.dvd_lcm_right ((Int.lcm h k : ℕ) : ℤ) l
  by_cases hh : h = 0 <;> by_cases hk : k = 0 <;> by_cases hl : l = 0 <;>
    simp only [Gen.C14.initVectors, initVectors, ilcm, hh, hk, hl, ne_eq, not_true_eq_false, not_false_eq_true,
      if_true, if_false, neg_ediv_eq_tdiv _ _ d1, neg_ediv_eq_tdiv _ _ d4,
      neg_ediv_eq_tdiv _ _ d5, neg_ediv_eq_tdiv _ _ d7, ediv_eq_tdiv _ _ d2, ediv_eq_tdiv _ _ d3,
      ediv_eq_tdiv _ _ d6, ediv_eq_tdiv _ _ d8, ediv_eq_tdiv _ _ d9]

/-- in the branch with all three indices non-zero (`m = lcm(lcm(h, k), l)`) every division is exact, so the truncating
    cast `dtype=int` loses nothing: truncating and flooring division agree, `h·(m / h) = m` etc.  (The two-index branches
    are covered inside `gen_initVectors_eq_model`.) -/
theorem initVectors_div_exact (h k l : ℤ) :
    let m := ilcm (ilcm h k) l
    Int.tdiv (-m) h = -(m / h) ∧ Int.tdiv m k = m / k ∧ Int.tdiv m l = m / l ∧
      h * (m / h) = m ∧ k * (m / k) = m ∧ l * (m / l) = m := by
  have d7 := dvd_trans (Int.dvd_lcm_left h k) (Int.dvd_lcm_left ((Int.lcm h k : ℕ) : ℤ) l)
  have d8 := dvd_trans (Int.dvd_lcm_right h k) (Int.dvd_lcm_left ((Int.lcm h k : ℕ) : ℤ) l)
  have d9 := Int.dvd_lcm_right ((Int.lcm h k : ℕ) : ℤ) l
  simp only [ilcm]
  exact ⟨(neg_ediv_eq_tdiv _ _ d7).symm, (ediv_eq_tdiv _ _ d8).symm, (ediv_eq_tdiv _ _ d9).symm,
    Int.mul_ediv_cancel' d7, Int.mul_ediv_cancel' d8, Int.mul_ediv_cancel' d9⟩

theorem gen_convertStart_eq_model (L : M3 Int) (a b : IV) :
    Gen.C14.convertStart L a b = (M3.vecMul a L, M3.vecMul b L) := rfl

theorem gen_defaultMaxIndex_eq_model (a b hkl : IV) :
    Gen.C14.defaultMaxIndex a b hkl = defaultMaxIndex a b hkl := rfl

theorem gen_reduceC_eq_model (v : IV) : Gen.C14.reduceC v = reduceGcd v := rfl

theorem signedRange_flatMap {α : Type} (n : ℤ) (f : ℤ → List α) :
    (signedRange n).flatMap f =
      (List.range (n + 1).toNat).flatMap fun (q : ℕ) => ([1, -1] : List ℤ).flatMap fun s => f (s * (q : ℤ)) := by
  unfold signedRange
  rw [List.flatMap_assoc]
  congr 1
  funext q
  simp only [List.flatMap_cons, List.flatMap_nil, List.append_nil, one_mul, neg_mul]

theorem filterMap_ite_eq_flatMap {α β : Type} (l : List α) (c : α → Prop) [DecidablePred c] (g : α → β) :
    l.filterMap (fun i => if c i then none else some (g i)) = l.flatMap (fun i => if c i then [] else [g i]) := by
  induction l with
  | nil => rfl
  | cons x t ih =>
    simp only [List.filterMap_cons, List.flatMap_cons]
    by_cases hx : c x
    · simp only [hx, if_true, List.nil_append]; exact ih
    · simp only [hx, if_false, List.singleton_append]; rw [ih]

/-- `gen_vector(n)` as coded (loop nesting `k, j, i`, signs `[1, -1]`, the zero vector skipped, `[i, j, k]`) is the
    model's enumeration, in the same order with the same repetitions. -/
theorem gen_genVectors_eq_model (n : ℤ) : Gen.C14.genVectors n = genVectors n := by
  unfold Gen.C14.genVectors genVectors
  simp only [filterMap_ite_eq_flatMap, signedRange_flatMap]

section fsb
variable {K : Type} [CommRing K] [LinearOrder K] [IsStrictOrderedRing K]

theorem gen_planeNormal_eq_model (V : M3 K) (s : ℤ) (a b : IV) :
    Gen.C14.planeNormal V s a b = planeNormal V s a b := rfl

/-- body of the first search loop: branch order (`isclose(dot, 0)` first, `elif angle < c_angle`), strictness of
    both comparisons and the assignments of each branch are the model's. -/
theorem gen_step1_eq_model (V : M3 K) (pn : V3 K) (st : S1 K) (v : IV) :
    Gen.C14.step1 V pn st v = step1 V pn st v := by
  unfold Gen.C14.step1 step1 Gen.C14.angleLt
  simp only []
  by_cases hd : V3.dot (cart V v) pn = 0
  · simp only [hd, if_true]
  · simp only [hd, if_false]
    by_cases hp : 0 < V3.dot (cart V v) pn
    · rcases hc : st.c with _ | cb
      · simp only [hp, true_and, if_true]
      · simp only [hp, true_and, if_true]
    · simp only [hp, false_and, if_false]

theorem gen_init1_eq_model (V : M3 K) (n : ℤ) : Gen.C14.init1 V n = init1 V n := rfl
theorem gen_init2_eq_model (V : M3 K) (n : ℤ) : Gen.C14.init2 V n = init2 V n := rfl

theorem gen_search1_eq_model (V : M3 K) (pn : V3 K) (n : ℤ) : Gen.C14.search1 V pn n = search1 V pn n := by
  unfold Gen.C14.search1 search1
  rw [gen_genVectors_eq_model, gen_init1_eq_model]
  congr 1
  funext st v
  exact gen_step1_eq_model V pn st v

theorem cart_cross_of_icross_zero (V : M3 K) (a v : IV) (h : V3.cross a v = ⟨0, 0, 0⟩) :
    V3.cross (cart V a) (cart V v) = ⟨0, 0, 0⟩ := by
  unfold cart
  rw [M3.cross_vecMul, ← toK_cross, h]
  simp only [toK, M3.vecMul, Int.cast_zero, zero_mul, add_zero]

/-- body of the second search loop.  The four coded guards (`in plane`, `angle ≠ 0`, `angle ≠ 180`, integer cross
    product non-zero) followed by the right-handedness test select exactly the model's `bFilter`: the last three guards
    are implied by `(a×v)·n > 0`; the tie rule (`equal length and smaller angle, or shorter`) is the model's. -/
theorem gen_step2_eq_model (V : M3 K) (pn : V3 K) (a : IV) (st : S2 K) (v : IV) :
    Gen.C14.step2 V pn a st v = step2 V pn (cart V a) st v := by
  unfold Gen.C14.step2 step2 bFilter Gen.C14.Parallel Gen.C14.AntiParallel
  simp only []
  by_cases hd : V3.dot (cart V v) pn = 0
  · by_cases hr : 0 < V3.dot (V3.cross (cart V a) (cart V v)) pn
    · have hc : V3.cross (cart V a) (cart V v) ≠ (⟨0, 0, 0⟩ : V3 K) := by
        intro h0; rw [h0, V3.zero_dot] at hr; exact lt_irrefl _ hr
      have hi : V3.cross a v ≠ (⟨0, 0, 0⟩ : IV) := fun h0 => hc (cart_cross_of_icross_zero V a v h0)
      have hc' : V3.cross (cart V a) (cart V v) ≠ (zeroV : V3 K) := hc
      simp only [hd, hr, hc, hc', hi, ne_eq, not_false_eq_true, false_and, and_self, if_true]
    · simp only [hd, hr, and_false, if_false, ite_self]
  · simp only [hd, false_and, if_false]

theorem gen_search2_eq_model (V : M3 K) (pn : V3 K) (a : IV) (n : ℤ) :
    Gen.C14.search2 V pn a n = search2 V pn (cart V a) n := by
  unfold Gen.C14.search2 search2
  rw [gen_genVectors_eq_model, gen_init2_eq_model]
  congr 1
  funext st v
  exact gen_step2_eq_model V pn a st v

/-- **the generated routine is the model**: the stages regenerated from the source, composed in the source order the
    translator checks, compute `basisABC` for every cell, plane, centring matrix and `maxindex`. -/
theorem gen_basisABC_eq_model (V : M3 K) (hkl : IV) (L : M3 Int) (nOpt : Option Int) :
    Gen.C14.basisABC V hkl L nOpt = basisABC V hkl L nOpt := by
  unfold Gen.C14.basisABC basisABC
  rw [gen_initVectors_eq_model]
  cases initVectors hkl with
  | none => rfl
  | some ini =>
    simp only [gen_convertStart_eq_model, gen_defaultMaxIndex_eq_model, gen_planeNormal_eq_model,
      gen_search1_eq_model, gen_search2_eq_model, gen_reduceC_eq_model]
    rfl

end fsb

/-- the `cutboxvector` chain: each name selects the model's row order; any other string selects nothing. -/
theorem gen_orderRows_eq_model (s : String) (a b c : IV) :
    Gen.C14.orderRows? s a b c = (Cut.ofString? s).map fun cut => orderRows cut a b c := by
  unfold Gen.C14.orderRows?
  by_cases h1 : s = "c"
  · subst h1; rfl
  · by_cases h2 : s = "b"
    · subst h2; rfl
    · by_cases h3 : s = "a"
      · subst h3; rfl
      · simp only [h1, h2, h3, if_false]
        have : Cut.ofString? s = none := by
          unfold Cut.ofString?
          split <;> simp_all
        rw [this]; rfl

/-- the head of `free_surface_basis` (number of indices, hexagonal box, `return_hexagonal`) as coded is `hklForm`. -/
theorem gen_hklForm_eq_model (len : ℕ) (hex : Bool) (rh : Option Bool) :
    Gen.C14.hklForm len hex rh = hklForm len hex rh := by
  unfold Gen.C14.hklForm hklForm
  rcases rh with _ | _ | _ <;> cases hex <;> by_cases h4 : len = 4 <;> by_cases h3 : len = 3 <;>
    simp_all

theorem gen_fsb_signature :
    Gen.C14.fsbSignature = [("hkl", "<required>"), ("box", "None"), ("cutboxvector", "'c'"), ("maxindex", "None"),
      ("return_hexagonal", "None"), ("return_planenormal", "False"), ("conventional_setting", "None")] ∧
    Gen.C14.asserts = ["a_uvw is not None", "c_uvw is not None", "b_uvw is not None"] ∧
    Gen.C14.fsbStages = ["form", "start", "convert", "maxindex", "normal", "gen_vector", "search1", "reduce",
      "search2", "order"] := ⟨rfl, rfl, rfl⟩

theorem gen_cutIndex_eq_model (cut : Cut) : Gen.C14.cutIndex cut = cutIndex cut := by
  cases cut <;> rfl

/-- the coded refusal of `FreeSurface.__init__` is the component test `cutCompatible_iff_normalized` speaks about. -/
theorem gen_cutRefuses_iff {K : Type} [Zero K] (cut : Cut) (n : M3 K) :
    ¬ Gen.C14.cutRefuses cut n ↔
      (match cut with
        | .a => n.r1.x = 0 ∧ n.r2.x = 0
        | .b => n.r0.y = 0 ∧ n.r2.y = 0
        | .c => n.r0.z = 0 ∧ n.r1.z = 0) := by
  cases cut <;> simp only [Gen.C14.cutRefuses, not_or, not_not, ne_eq]

section fs
variable {K : Type} [Field K] [LinearOrder K] [IsStrictOrderedRing K]

theorem gen_withReplica_eq_model (coords : List K) (W tol : K) :
    Gen.C14.withReplica coords W tol = withReplica coords W tol := rfl

/-- the two masked updates applied one after the other to `W - (q + p) / 2` give the model's folded shift. -/
theorem gen_relShift_eq_model (W : K) (pq : K × K) :
    Gen.C14.foldRel W (Gen.C14.rawRel W pq) = relShift W (mid pq) := by
  unfold Gen.C14.foldRel Gen.C14.rawRel relShift mid
  simp only [gt_iff_lt]
  rw [add_comm pq.2 pq.1]
  split_ifs <;> first | rfl | (exfalso; linarith)

theorem gen_shifts_eq_model (coords : List K) (W tol : K) :
    Gen.C14.shifts coords W tol = shifts coords W tol := by
  unfold Gen.C14.shifts shifts rawShifts
  rw [gen_withReplica_eq_model]
  congr 2
  funext pq
  exact gen_relShift_eq_model W pq

theorem gen_vacuumRefuses_iff (vac : K) : Gen.C14.vacuumRefuses vac ↔ vac < 0 := Iff.rfl

theorem gen_vacuumBox_eq_model (cut : Cut) (box : Box K) (vac : K) :
    Gen.C14.vacuumBox cut box vac = vacuumBox cut box vac := by
  unfold Gen.C14.vacuumBox vacuumBox
  rw [gen_cutIndex_eq_model]
  congr 1
  -- `ovect * vac / 2` against `(vac / 2) * ovect`, component by component
  simp only [Gen.C14.vdiv, V3.smul, mul_div_right_comm]

end fs

/-- the `minwidth` and `even` blocks of `surface()` as coded (larger of the two counts with the sign of the given
    multiplier; an odd count moved away from zero) are the model's `cutMult`. -/
theorem gen_cutMult_eq_model (m : ℤ) (ceilq : Option ℤ) (even : Bool) :
    Gen.C14.cutMult m ceilq even = cutMult m ceilq even := by
  unfold Gen.C14.cutMult cutMult
  rcases ceilq with _ | q <;> cases even <;> simp only [Bool.false_eq_true, false_and, if_false, true_and,
    Bool.false_and, Bool.true_and, decide_eq_true_eq, gt_iff_lt] <;> split_ifs <;> rfl

theorem gen_surfacePbc_eq_model (cut : Cut) : Gen.C14.surfacePbc cut = surfacePbc cut := by
  cases cut <;> decide

theorem gen_freeSurface_signatures :
    Gen.C14.freeSurfaceInitSignature = [("hkl", "<required>"), ("ucell", "<required>"), ("cutboxvector", "'c'"),
      ("maxindex", "None"), ("conventional_setting", "'p'"), ("shift", "None"), ("shiftindex", "None"),
      ("shiftscale", "False"), ("tol", "1e-07")] ∧
    Gen.C14.freeSurfaceSurfaceSignature = [("shift", "None"), ("shiftindex", "None"), ("shiftscale", "None"),
      ("vacuumwidth", "None"), ("minwidth", "None"), ("sizemults", "None"), ("even", "False")] ∧
    Gen.C14.setShiftSignature = [("shift", "None"), ("shiftindex", "None"), ("shiftscale", "False")] :=
  ⟨rfl, rfl, rfl⟩

/-- the rows of the rotated cell used as shift vectors are the two after the cut index, cyclically (`sfNew`). -/
theorem gen_aIndex_eq_model (cut : Cut) :
    Gen.C14.aIndex cut = ((cutIndex cut + 1) % 3, (cutIndex cut + 2) % 3) := by
  cases cut <;> rfl

section sf
variable {K : Type} [Field K] [LinearOrder K] [IsStrictOrderedRing K]

/-- the two `faultpos` setters: closed range `[0, 1]` (both ends accepted), the two conversions, the strict mask, and
    the default `1/2` of `surface()` are what `setFpRel` / `setFpCart` / `surfaceSF` / `isAbove` compute. -/
theorem gen_faultpos_setters_eq_model (cut : Cut) (org w r c fp : K) (p : V3 K) :
    (Gen.C14.relOutside r ↔ (r < 0 ∨ ((1 : ℤ) : K) < r)) ∧
    (Gen.C14.cartOutside r ↔ (r < 0 ∨ ((1 : ℤ) : K) < r)) ∧
    Gen.C14.cartOfRel org w r = org + r * w ∧
    Gen.C14.relOfCart org w c = (c - org) / w ∧
    (Gen.C14.above fp (p.get (Gen.C14.cutIndex cut)) ↔ isAbove cut fp p = true) ∧
    (Gen.C14.defaultFaultposRel : K) = ((1 : ℤ) : K) / ((2 : ℤ) : K) := by
  refine ⟨Iff.rfl, Iff.rfl, rfl, rfl, ?_, rfl⟩
  rw [gen_cutIndex_eq_model]
  simp only [Gen.C14.above, isAbove, decide_eq_true_eq, gt_iff_lt]

/-- `fault()`'s reading of `a1, a2, outofplane, faultshift` and its shift formula are `resolveFShift ∘ ofOptions`. -/
theorem gen_resolveFShift_eq_model (cut : Cut) (o : SFState K) (a1 a2 oop : Option K) (fs : Option (V3 K)) :
    Gen.C14.resolveFShift a1 a2 oop fs o.a1c o.a2c cut =
      resolveFShift cut o (FShiftArg.ofOptions a1 a2 oop fs) := by
  unfold Gen.C14.resolveFShift FShiftArg.ofOptions
  rw [gen_cutIndex_eq_model]
  rcases a1 with _ | a1 <;> rcases a2 with _ | a2 <;> rcases oop with _ | oop <;> rcases fs with _ | fs <;>
    simp [resolveFShift, faultShift, zeroV3]

theorem gen_push_eq_model (cut : Cut) (r sq : K) (d : V3 K) :
    Gen.C14.pushRadicand cut r d = pushRadicand cut r d ∧ Gen.C14.pushAmount cut sq d = pushAmount cut sq d := by
  cases cut <;> exact ⟨rfl, rfl⟩

end sf

theorem gen_stackingFault_signatures :
    Gen.C14.stackingFaultInitSignature = [("hkl", "<required>"), ("ucell", "<required>"), ("cutboxvector", "'c'"),
      ("maxindex", "None"), ("a1vect_uvw", "None"), ("a2vect_uvw", "None"), ("conventional_setting", "'p'"),
      ("shift", "None"), ("shiftindex", "None"), ("shiftscale", "False"), ("tol", "1e-08")] ∧
    Gen.C14.faultSignature = [("a1", "None"), ("a2", "None"), ("outofplane", "None"), ("faultshift", "None"),
      ("minimum_r", "None"), ("a1vect_uvw", "None"), ("a2vect_uvw", "None"), ("faultpos_cart", "None"),
      ("faultpos_rel", "None")] ∧
    Gen.C14.iterfaultmapSignature = [("num_a1", "None"), ("num_a2", "None"), ("outofplane", "None"),
      ("minimum_r", "None"), ("a1vect_uvw", "None"), ("a2vect_uvw", "None"), ("faultpos_cart", "None"),
      ("faultpos_rel", "None")] ∧
    Gen.C14.faultPreludeOrder = ["a1vect_uvw is not None", "a2vect_uvw is not None", "faultpos_cart is not None"] ∧
    Gen.C14.faultCoreSteps = ["sfsystem = deepcopy(self.system)", "sfsystem.atoms.pos[self.abovefault] += faultshift",
      "sfsystem.wrap()"] ∧
    Gen.C14.mapDefaults = (1, 1) := ⟨rfl, rfl, rfl, rfl, rfl, rfl⟩

end Atomman.C14
