/-
  C14: C16's plane-normal facts under C14 names, taken from `Proofs/C16_Index.lean` (`idx_cross_parallel`) and
  `Proofs/C16_Normal.lean` (`normalOf_eq`, `normal_is_reciprocal`), which do not depend on C16's regenerated source tie
  (`Generated/MillerSource`); and the division-free `normalOf_cofactor` over a commutative ring.
-/
import Proofs.C16_Normal
import Proofs.C14_Cart

namespace Atomman.C14
open Atomman Atomman.C16

/-- `s·(a ×ᵢ b)` is a positive rational multiple `num/den` of `(h,k,l)`, in every branch. -/
theorem c16_idx_cross_parallel (h k l : ℤ) (hne : ¬(h = 0 ∧ k = 0 ∧ l = 0)) :
    ∃ a b s, planeInPlane h k l = .ok (a, b, s) ∧
      ∃ num den : ℤ, 0 < num ∧ 0 < den ∧
        V3.smul den (V3.smul s (V3.cross a b)) = V3.smul num ⟨h, k, l⟩ :=
  idx_cross_parallel h k l hne

section ring
variable {K : Type} [CommRing K]

/-- division-free form of the normal: `den·n = num·(h (b×c) + k (c×a) + l (a×b))` for the cell vectors `a, b, c`. -/
theorem normalOf_cofactor (V : M3 K) (a b : V3 ℤ) (s num den h k l : ℤ)
    (he : V3.smul den (V3.smul s (V3.cross a b)) = V3.smul num ⟨h, k, l⟩) :
    V3.smul (den : K) (normalOf V a b s)
      = V3.smul (num : K) (M3.vecMul (castV ⟨h, k, l⟩) (cofRows V)) := by
  -- `he` cast to `K` (`C16.castV` is `toK`) and multiplied by the cofactor rows
  have heK := congrArg (toK (K := K)) he
  rw [toK_smul, toK_smul, toK_smul, toK_cross] at heK
  have := congrArg (fun x => M3.vecMul x (cofRows V)) heK
  simp only [M3.vecMul_smul] at this
  rw [normalOf, M3.cross_vecMul, ← cofRows_eq_cof]
  exact this

end ring

section field
variable {K : Type} [Field K]

/-- over a field: the coded normal is `(num/den)·det V` times the reciprocal-lattice vector `h a* + k b* + l c*`
    (C16's `normalOf_eq` under a C14 name). -/
theorem c16_normalOf_eq (V : M3 K) (a b : V3 ℤ) (s num den h k l : ℤ) (hden : (den : K) ≠ 0) (hdet : M3.det V ≠ 0)
    (he : V3.smul den (V3.smul s (V3.cross a b)) = V3.smul num ⟨h, k, l⟩) :
    normalOf V a b s = V3.smul ((num : K) / den * M3.det V) (recipVector V h k l) :=
  normalOf_eq V a b s num den h k l hden hdet he

end field

section ordered
variable {K : Type} [Field K] [LinearOrder K] [IsStrictOrderedRing K]

/-- the (unnormalised) normal computed by the code is `c · det V · (h a* + k b* + l c*)` with `c > 0`. -/
theorem c16_normal_is_reciprocal (V : M3 K) (hdet : M3.det V ≠ 0) (h k l : ℤ) (hne : ¬(h = 0 ∧ k = 0 ∧ l = 0)) :
    ∃ n, planeNormalUnnorm V h k l = .ok n ∧
      ∃ c : K, 0 < c ∧ n = V3.smul (c * M3.det V) (recipVector V h k l) :=
  normal_is_reciprocal V hdet h k l hne

end ordered

end Atomman.C14
