/- C20 — `atomman.mep`: path integrators, numerical gradient, string relaxation. -/
import Proofs.C20_Integrators
import Proofs.C20_Matrix
import Proofs.C20_Real
import Proofs.C20_Loops
import Proofs.C20_Respace
import Proofs.C20_Construct
import Proofs.C20_Reads
import Proofs.C20_Rows
import Proofs.C20_Path
import Proofs.C20_Source
