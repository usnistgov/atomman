/-
  C07 — `min4` / `max4` as iterated `min` / `max`, and the printed precision propagated through the bounding-box
  arithmetic of a dump file.
-/
import Atomman.C07
import Mathlib.Algebra.Order.Group.MinMax
import Mathlib.Tactic.Ring
import Mathlib.Tactic.Linarith

namespace Atomman.C07
open Atomman

theorem min4_eq (a b c d : ℚ) : min4 a b c d = min (min (min a b) c) d := by
  have m : ∀ x y : ℚ, (if y < x then y else x) = min x y := by
    intro x y; rw [min_def]; split_ifs <;> first | rfl | linarith
  simp only [min4, m]

theorem max4_eq (a b c d : ℚ) : max4 a b c d = max (max (max a b) c) d := by
  have m : ∀ x y : ℚ, (if x < y then y else x) = max x y := by
    intro x y; rw [max_def]; split_ifs <;> first | rfl | linarith
  simp only [max4, m]

theorem min4_le (a b c d : ℚ) :
    min4 a b c d ≤ a ∧ min4 a b c d ≤ b ∧ min4 a b c d ≤ c ∧ min4 a b c d ≤ d := by
  rw [min4_eq]
  exact ⟨(min_le_left _ _).trans ((min_le_left _ _).trans (min_le_left _ _)),
    (min_le_left _ _).trans ((min_le_left _ _).trans (min_le_right _ _)),
    (min_le_left _ _).trans (min_le_right _ _), min_le_right _ _⟩

theorem le_max4 (a b c d : ℚ) :
    a ≤ max4 a b c d ∧ b ≤ max4 a b c d ∧ c ≤ max4 a b c d ∧ d ≤ max4 a b c d := by
  rw [max4_eq]
  exact ⟨(le_max_left _ _).trans ((le_max_left _ _).trans (le_max_left _ _)),
    (le_max_right _ _).trans ((le_max_left _ _).trans (le_max_left _ _)),
    (le_max_right _ _).trans (le_max_left _ _), le_max_right _ _⟩

theorem min4_lip {a b c d a' b' c' d' ε : ℚ} (ha : |a' - a| ≤ ε) (hb : |b' - b| ≤ ε) (hc : |c' - c| ≤ ε)
    (hd : |d' - d| ≤ ε) : |min4 a' b' c' d' - min4 a b c d| ≤ ε := by
  rw [min4_eq, min4_eq]
  have h2 := (abs_min_sub_min_le_max a' b' a b).trans (max_le ha hb)
  have h3 := (abs_min_sub_min_le_max _ c' _ c).trans (max_le h2 hc)
  exact (abs_min_sub_min_le_max _ d' _ d).trans (max_le h3 hd)

theorem max4_lip {a b c d a' b' c' d' ε : ℚ} (ha : |a' - a| ≤ ε) (hb : |b' - b| ≤ ε) (hc : |c' - c| ≤ ε)
    (hd : |d' - d| ≤ ε) : |max4 a' b' c' d' - max4 a b c d| ≤ ε := by
  rw [max4_eq, max4_eq]
  have h2 := (abs_max_sub_max_le_max a' b' a b).trans (max_le ha hb)
  have h3 := (abs_max_sub_max_le_max _ c' _ c).trans (max_le h2 hc)
  exact (abs_max_sub_max_le_max _ d' _ d).trans (max_le h3 hd)

/-- the six bounds of a dump header after `g` (the printing and reading back of each number). -/
def BBox.map (b : BBox) (g : ℚ → ℚ) : BBox := ⟨g b.xlo, g b.xhi, g b.ylo, g b.yhi, g b.zlo, g b.zhi⟩

/-- **printed precision propagated through the bounding-box arithmetic**: if every printed number is within `ε` of the
    exact one, the `xlo … zhi` an independent reader rebuilds from a dump file's bounding box and tilts are within
    `3ε` (x), `2ε` (y), `ε` (z) of the cell's. -/
theorem dump_bounds_error (h : HiLo) (g : ℚ → ℚ) (ε : ℚ) (hg : ∀ q, |g q - q| ≤ ε) :
    let r := hiLoOfBBox ((bboxOf h).map g) (g h.xy) (g h.xz) (g h.yz)
    |r.xlo - h.xlo| ≤ 3 * ε ∧ |r.xhi - h.xhi| ≤ 3 * ε ∧ |r.ylo - h.ylo| ≤ 2 * ε ∧ |r.yhi - h.yhi| ≤ 2 * ε ∧
    |r.zlo - h.zlo| ≤ ε ∧ |r.zhi - h.zhi| ≤ ε ∧ |r.xy - h.xy| ≤ ε ∧ |r.xz - h.xz| ≤ ε ∧ |r.yz - h.yz| ≤ ε := by
  intro r
  have hε : 0 ≤ ε := (abs_nonneg _).trans (hg 0)
  have h0 : |(0 : ℚ) - 0| ≤ ε := by rwa [sub_zero, abs_zero]
  -- a written bound `g (lo + m)` less the extent `m'` rebuilt from the written tilts, `m'` within `k ε` of `m`
  have key : ∀ (lo m m' : ℚ) (k : ℚ), |m' - m| ≤ k * ε → |g (lo + m) - m' - lo| ≤ (k + 1) * ε := by
    intro lo m m' k hm
    have : g (lo + m) - m' - lo = (g (lo + m) - (lo + m)) - (m' - m) := by ring
    rw [this]
    exact (abs_sub _ _).trans (by linarith [hg (lo + m)])
  have hs : |g h.xy + g h.xz - (h.xy + h.xz)| ≤ 2 * ε := by
    rw [add_sub_add_comm]
    exact (abs_add_le _ _).trans (by linarith [hg h.xy, hg h.xz])
  have h2 : ∀ q, |g q - q| ≤ 2 * ε := fun q => (hg q).trans (by linarith)
  have h02 : |(0 : ℚ) - 0| ≤ 2 * ε := h0.trans (by linarith)
  simp only [r, hiLoOfBBox, BBox.map, bboxOf]
  refine ⟨?_, ?_, ?_, ?_, hg _, hg _, hg _, hg _, hg _⟩
  · have := key h.xlo _ _ 2 (min4_lip h02 (h2 h.xy) (h2 h.xz) hs); linarith
  · have := key h.xhi _ _ 2 (max4_lip h02 (h2 h.xy) (h2 h.xz) hs); linarith
  · have := key h.ylo _ _ 1 ((one_mul ε).symm ▸ min4_lip h0 (hg h.yz) h0 h0); linarith
  · have := key h.yhi _ _ 1 ((one_mul ε).symm ▸ max4_lip h0 (hg h.yz) h0 h0); linarith

end Atomman.C07
