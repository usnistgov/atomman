/-
  C17 — the source tie: every definition of `Atomman/Generated/DeformSource.lean` (regenerated from /repo's current source
  by `translate()` of harness/props/c17.py on every run) is proved equal to the hand model of `Atomman/C17.lean`, or — for
  sequencing of numpy calls / attribute bookkeeping — to the statement text it had when the model was written (`gen_pin_…`,
  normalised by `ast.unparse`), so that a source edit breaks the obligation of that name.  Two definitions the obligations
  are stated with stand here too: `DObj.finish` (the part of `DObj.solve` after the argument handling), `leviCivita`.
-/
import Atomman.C17
import Mathlib.Tactic.Ring
import Atomman.Generated.DeformSource

namespace Atomman.C17
open Atomman
set_option linter.unusedSectionVars false

section core
variable {K : Type} [Add K] [Sub K] [Mul K] [Div K] [Neg K] [Zero K] [One K] [IntCast K] [NatCast K]
  [LT K] [DecidableLT K] [LE K] [DecidableLE K] [DecidableEq K]

theorem gen_strain_eq_model (G : M3 K) : Gen.strain G = strain G := rfl
theorem gen_rotation_eq_model (G : M3 K) : Gen.rotation G = rotation G := rfl
theorem gen_invariant1_eq_model (s : M3 K) : Gen.invariant1 s = invariant1 s := rfl
theorem gen_invariant2_eq_model (s : M3 K) : Gen.invariant2 s = invariant2 s := rfl
theorem gen_invariant3_eq_model (s : M3 K) : Gen.invariant3 s = invariant3 s := rfl
theorem gen_angularVelocitySq_eq_model (r : M3 K) : Gen.angularVelocitySq r = angularVelocitySq r := rfl
/-- `dG_c`: neighbour's tensor minus the atom's own (the list `nbrs.map fun j => subM (G j) (G i)` of `nye`). -/
theorem gen_dG_eq_model (Gn Gi : M3 K) : Gen.dG Gn Gi = subM Gn Gi := rfl
/-- `nye_c` composed with the way `solve_nye` fills `gradG` from the three least-squares solutions. -/
theorem gen_nyeOf_eq_model (g : M3 K × M3 K × M3 K) : Gen.nyeOf g = nyeOf g := rfl
/-- the right-hand side of the `x`-th problem is `dG[:, x, :]` (row `x` of every `dG`: `gradG` of the model). -/
theorem gen_lstsqRhsAxis_eq_model : Gen.lstsqRhsAxis = 1 := rfl

theorem gen_magSq_eq_model (v : V3 K) : Gen.qmagSq v = V3.normSq v ∧ Gen.pmagSq v = V3.normSq v := ⟨rfl, rfl⟩
theorem gen_r1Init_eq_model : (Gen.r1Init : K) = bigR1 := rfl
theorem gen_shortest_eq_model (mag : V3 K → K) (big : K) (ps : List (V3 K)) :
    ps.foldl (fun r p => Gen.shortestStep r (mag p)) big = shortest mag big ps := rfl
theorem gen_cosTheta_eq_model (mag : V3 K → K) (q p : V3 K) : Gen.cosTheta mag q p = cosTheta mag q p := rfl
/-- the best-angle loop: strict `>` against the running maximum that starts at `cos θ_max`, first wins. -/
theorem gen_bestStep_eq_model (mag : V3 K → K) (q : V3 K) (st : K × Option Nat × Nat) (p : V3 K) :
    Gen.bestStep mag q st p = bestStep mag q st p := rfl
theorem gen_bestP_eq_model (mag : V3 K → K) (cosMax : K) (q : V3 K) (ps : List (V3 K)) :
    Gen.bestP mag cosMax q ps = bestP mag cosMax q ps := by
  unfold Gen.bestP bestP
  have : Gen.bestStep mag q = bestStep mag q := by funext st p; rfl
  rw [this]
/-- the conflict rule: same `p` ⇒ the later `q` wins iff STRICTLY closer to `r1`, else the earlier keeps it. -/
theorem gen_dedupeStep_eq_model (mag : V3 K → K) (r1 : K) (qj : V3 K)
    (st : List (V3 K × Option Nat) × Option Nat) (e : V3 K × Option Nat) :
    Gen.dedupeStep mag r1 qj st e = dedupeStep mag r1 qj st e := by
  unfold Gen.dedupeStep dedupeStep
  rcases st with ⟨l, _ | a⟩ <;> rcases e with ⟨v, _ | b⟩ <;> rfl

theorem gen_pick_slipVector_eq_model {L : Type} (n c a : Option L) : Gen.pick_slipVector n c a = pickNeighbors n c a := by
  cases n <;> cases c <;> cases a <;> rfl
theorem gen_pick_strainInit_eq_model {L : Type} (n c a : Option L) : Gen.pick_strainInit n c a = pickNeighbors n c a := by
  cases n <;> cases c <;> cases a <;> rfl
theorem gen_pick_buildP_eq_model {L : Type} (n c a : Option L) : Gen.pick_buildP n c a = pickNeighbors n c a := by
  cases n <;> cases c <;> cases a <;> rfl
theorem gen_pick_nyeTensor_eq_model {L : Type} (n c a : Option L) : Gen.pick_nyeTensor n c a = pickNeighbors n c a := by
  cases n <;> cases c <;> cases a <;> rfl
theorem gen_pick_ddFunction_eq_model {L : Type} (n c a : Option L) : Gen.pick_ddFunction n c a = pickNeighbors n c a := by
  cases n <;> cases c <;> cases a <;> rfl
/-- the system whose list is built (`NeighborList(system=…)`) and whose attribute is read: the reference `system_0` for
    the slip vector and the dd function, the analysed `system` for Strain / nye_tensor, `basesystem` for the p vectors. -/
theorem gen_pickSystem_eq_model :
    Gen.pickSystem_slipVector = "system_0" ∧ Gen.pickSystem_strainInit = "system" ∧ Gen.pickSystem_buildP = "basesystem" ∧
    Gen.pickSystem_nyeTensor = "system" ∧ Gen.pickSystem_ddFunction = "system_0" := ⟨rfl, rfl, rfl, rfl, rfl⟩

/-- `slip_vector`: the atom-count `ValueError` comes before the neighbour block. -/
theorem gen_slipVectorRefusals_eq_model {L : Type} (n0 n1 : Nat) (n c a : Option L) :
    Gen.slipVectorRefusals n0 n1 n c a = slipVectorRefusals n0 n1 n c a := by
  unfold Gen.slipVectorRefusals slipVectorRefusals
  rw [gen_pick_slipVector_eq_model]
/-- `asdict` and `save_to_system`: the accepted and the default property names. -/
theorem gen_asdictKeys_eq_model :
    Gen.asdictDefault = defaultKeyNames ∧ Gen.asdictAll = allKeyNames ∧ Gen.saveDefault = defaultKeyNames ∧
    Gen.saveAll = allKeyNames := ⟨rfl, rfl, rfl, rfl⟩

theorem gen_slipStep_eq_model (c : Cell K) (pos0 pos1 : Nat → V3 K) (i : Nat) (acc : V3 K) (j : Nat) :
    Gen.slipStep c pos0 pos1 i acc j = slipStep c pos0 pos1 i acc j := rfl
theorem gen_displacementCall_eq_model (n0 n1 : Nat) (c0 c1 : Cell K) (ref : BoxRef) (pos0 pos1 : Nat → V3 K) :
    Gen.displacementCall n0 n1 c0 c1 ref pos0 pos1 = displacementCall n0 n1 c0 c1 ref pos0 pos1 := by
  unfold Gen.displacementCall displacementCall
  by_cases h : n0 = n1 <;> cases ref <;> simp [h] <;> rfl
theorem gen_ddvector_eq_model (c0 c1 : Cell K) (pos0 pos1 : Nat → V3 K) (i j : Nat) :
    Gen.ddvector c0 c1 pos0 pos1 i j = ddvector c0 c1 pos0 pos1 i j := rfl

/-- what `DObj.solve` does once the argument handling has produced `r` = ((`__system0`, `__system1`, `__reference`,
    `__neighbors`) as stored afterwards, the list the loop uses or the refusal) — the result type of `Gen.ddSolveArgs` —: all
    lists empty → the `ValueError` of `np.concatenate`, else the vectors of the systems now stored. -/
def DObj.finish (o : DObj K) (r : (Sys K × Sys K × Nat × Option (List (List Nat))) × Except DErr (List (List Nat))) :
    DObj K × Option DErr :=
  let o' : DObj K := { o with sys0 := r.1.1, sys1 := r.1.2.1, reference := r.1.2.2.1, nlist := r.1.2.2.2 }
  match r.2 with
  | .error e => (o', some e)
  | .ok nl =>
    if nl.all (·.isEmpty) then (o', some .value)
    else ({ o' with dd := some (ddvectors r.1.1.cell r.1.2.1.cell r.1.1.pos r.1.2.1.pos nl) }, none)

/-- `DObj.solve` IS the statement sequence of `DifferentialDisplacement.solve` before its loop (systems stored first, the
    atom-count assertion, `reference` through its setter, the reference system, the list: given > cutoff list of the
    reference system > stored > ValueError; what is stored at the moment of each refusal), followed by `finish`. -/
theorem gen_ddSolveArgs_eq_model (o : DObj K) (a : DArgs K) :
    DObj.solve o a = DObj.finish o
      (Gen.ddSolveArgs Sys.n o.sys0 o.sys1 o.reference o.nlist a.sys0 a.sys1 a.neighbors a.cutoff a.reference) := by
  rcases o with ⟨o0, o1, oref, onl, odd⟩
  rcases a with ⟨a0, a1, anb, acut, aref⟩
  -- both sides see the given systems only through the systems now in use
  have e : Gen.ddSolveArgs Sys.n o0 o1 oref onl a0 a1 anb acut aref
      = Gen.ddSolveArgs Sys.n (a0.getD o0) (a1.getD o1) oref onl none none anb acut aref := by
    cases a0 <;> cases a1 <;> rfl
  rw [e]
  unfold DObj.solve Gen.ddSolveArgs DObj.finish
  generalize a0.getD o0 = s0
  generalize a1.getD o1 = s1
  by_cases hc : s0.n = s1.n
  · rcases aref with _ | r
    · cases anb <;> cases acut <;> cases onl <;> simp [hc]
    · by_cases hr : r = 0 ∨ r = 1
      · cases anb <;> cases acut <;> cases onl <;> simp [hc, hr]
      · simp [hc, hr]
  · simp [hc]
/-- the constructor solves exactly when a list or a cutoff is given (the test of `DObj.init`). -/
theorem gen_ddInitSolves_eq_model {L C : Type} (nb : Option L) (cu : Option C) :
    Gen.ddInitSolves nb cu = (nb.isSome || cu.isSome) := rfl

/-- both copies of the chain test `len == 1` first, then `len != natoms`, and broadcast what the model says. -/
theorem gen_dispatchKind_eq_model (len natoms : Nat) :
    Gen.dispatchKind_setP len natoms = dispatchKind len natoms ∧ Gen.dispatchKind_nyeTensor len natoms = dispatchKind len natoms :=
  ⟨rfl, rfl⟩
/-- `np.inner(p_vectors, axes_check(axes))` maps every vector `p` to `T p` (`transformP`), in both functions. -/
theorem gen_axesStep_eq_model (T : M3 K) (ps : List (V3 K)) :
    ps.map (Gen.axesStep_setP T) = transformP T ps ∧ ps.map (Gen.axesStep_nyeTensor T) = transformP T ps := ⟨rfl, rfl⟩
/-- `disregistry`: displacement of (base, disl) under the default reference, `allx = basepos·m`, `ally = basepos·n`,
    `midy = planepos·n`. -/
theorem gen_disregistryInputs_eq_model (n0 n1 : Nat) (c0 c1 : Cell K) (pos0 pos1 : Nat → V3 K) (m n planepos : V3 K) :
    Gen.disregistryInputs n0 n1 c0 c1 pos0 pos1 m n planepos = disregistryInputs n0 n1 c0 c1 pos0 pos1 m n planepos := by
  unfold Gen.disregistryInputs disregistryInputs
  rw [gen_displacementCall_eq_model]
  cases displacementCall n0 n1 c0 c1 BoxRef.final pos0 pos1 <;> rfl

/-- every getter fills its attribute from the property the model's `SObj.read` takes it from. -/
theorem gen_getters_eq_model : Gen.getters =
    [("G", "self.solve_G()", ""), ("strain", "strain_c", "self.G"), ("invariant1", "invariant1_c", "self.strain"),
     ("invariant2", "invariant2_c", "self.strain"), ("invariant3", "invariant3_c", "self.strain"),
     ("rotation", "rotation_c", "self.G"), ("angularvelocity", "angularvelocity_c", "self.rotation"),
     ("nye", "self.solve_nye()", "")] := rfl
/-- `clear_properties` resets all eight cached quantities (`SObj.clear`, and the clearing inside `SObj.solve`). -/
theorem gen_cleared_eq_model :
    ∀ p ∈ ["G", "strain", "invariant1", "invariant2", "invariant3", "rotation", "angularvelocity", "nye"], p ∈ Gen.cleared := by
  decide

/-- solve_nye: the q vectors, the dG call, the least-squares call, the nye_c call -/
theorem gen_pin_solveNye : Gen.pin_solveNye =
  ["Q[:c] = system.dvect(i, nlist[i, 1:c + 1])",
   "dG_c(G_view, nlist_view, dG_view, i)",
   "nye_c(gradG_view, nye_view, i)",
   "Q[:c]",
   "dG[:c, x, :]"] := rfl

/-- match_pq: guard and range of the conflict loop, the final copy loop, the value returned -/
theorem gen_pin_matchLoops : Gen.pin_matchLoops =
  ["qp_pairs[j] >= 0",
   "range(j)",
   "for j in range(qnum):",
   "    if qp_pairs[j] >= 0:",
   "        for x in range(3):",
   "            Q[n, x] = q[j, x]",
   "            P[n, x] = p[qp_pairs[j], x]",
   "        n += 1",
   "return n"] := rfl

/-- solve_G: every statement before the loop over atoms, then the loop body -/
theorem gen_pin_solveG : Gen.pin_solveG =
  ["p_vectors = self.p_vectors",
   "if p_vectors is None:",
   "    raise ValueError('Cannot solve until p_vectors are set')",
   "if theta_max is not None:",
   "    self.theta_max = theta_max",
   "cos_theta_max = cos(self.theta_max * pi / 180.0)",
   "system = self.system",
   "neighbors = self.neighbors",
   "maxcoord = neighbors.coord.max()",
   "natoms = system.natoms",
   "self.clear_properties()",
   "G = np.empty((natoms, 3, 3))",
   "P = np.empty((maxcoord, 3))",
   "Q = np.empty((maxcoord, 3))",
   "for i in range(natoms):",
   "    p = np.array(p_vectors[i], dtype=float, ndmin=2)",
   "    q = np.atleast_2d(system.dvect(i, neighbors[i]))",
   "    n = match_pq(p, q, cos_theta_max, P, Q)",
   "    if n == 0:",
   "        G[i] = np.identity(3)",
   "        warnings.warn('An atom lacks pair sets. Check neighbor list')",
   "    else:",
   "        G[i] = np.linalg.lstsq(Q[:n], P[:n], rcond=None)[0]",
   "self.__G = G"] := rfl

/-- set_p_vectors: the broadcasting rule and the axes transformation -/
theorem gen_pin_setP : Gen.pin_setP =
  ["system = self.system",
   "if len(p_vectors) == 1:",
   "    p_vectors = np.broadcast_to(p_vectors, (system.natoms, len(p_vectors[0]), 3))",
   "elif len(p_vectors) != system.natoms:",
   "    p_vectors = np.broadcast_to(p_vectors, (system.natoms, len(p_vectors), 3))",
   "else:",
   "    for i in range(len(p_vectors)):",
   "        p_vectors[i] = np.asarray(p_vectors[i])",
   "        if p_vectors[i].ndim == 1:",
   "            p_vectors[i] = np.array([p_vectors[i]])",
   "    p_vectors = np.asarray(p_vectors)",
   "if axes is not None:",
   "    p_vectors = np.inner(p_vectors, axes_check(axes))",
   "self.__p_vectors = p_vectors"] := rfl

/-- Strain.__init__: after the neighbour block -/
theorem gen_pin_strainInit : Gen.pin_strainInit =
  ["if basesystem is not None:",
   "    assert p_vectors is None, 'basesystem and p_vectors cannot both be given'",
   "    self.build_p_vectors(basesystem, neighbors=baseneighbors, cutoff=cutoff)",
   "elif p_vectors is not None:",
   "    self.set_p_vectors(p_vectors, axes=axes)",
   "else:",
   "    self.__p_vectors = None",
   "self.theta_max = theta_max",
   "self.clear_properties()"] := rfl

/-- build_p_vectors: after the neighbour block -/
theorem gen_pin_buildP : Gen.pin_buildP =
  ["p = []",
   "for i in range(basesystem.natoms):",
   "    p.append(basesystem.dvect(i, neighbors[i]))",
   "self.__p_vectors = np.asarray(p, dtype=object)"] := rfl

/-- slip_vector: the arguments handed to slip_vector_c, names resolved -/
theorem gen_pin_slipCall : Gen.pin_slipCall =
  ["system_0.atoms.pos",
   "system_1.atoms.pos",
   "system_0.box.vects",
   "neighbors.nlist",
   "system_0.pbc[0]",
   "system_0.pbc[1]",
   "system_0.pbc[2]"] := rfl

/-- DifferentialDisplacement.solve: argument handling before the loop; neighbours of an atom; the skip; what is stored -/
theorem gen_pin_ddSolve : Gen.pin_ddSolve =
  ["if system0 is not None:",
   "    self.__system0 = system0",
   "else:",
   "    system0 = self.system0",
   "if system1 is not None:",
   "    self.__system1 = system1",
   "else:",
   "    system1 = self.system1",
   "assert system0.natoms == system1.natoms",
   "if reference is None:",
   "    reference = self.reference",
   "else:",
   "    self.reference = reference",
   "if reference == 0:",
   "    refsystem = system0",
   "else:",
   "    refsystem = system1",
   "if neighbors is None:",
   "    if cutoff is not None:",
   "        self.__neighbors = neighbors = refsystem.neighborlist(cutoff=cutoff)",
   "    elif self.neighbors is not None:",
   "        neighbors = self.neighbors",
   "    else:",
   "        raise ValueError('Either neighbors or cutoff must be given')",
   "else:",
   "    self.__neighbors = neighbors",
   "np.arange(refsystem.natoms)",
   "neighs = neighbors[i]",
   "if len(neighs) == 0:",
   "    continue",
   "self.__ddvectors = np.concatenate(all_ddvectors)"] := rfl

/-- DifferentialDisplacement.__init__ -/
theorem gen_pin_ddInit : Gen.pin_ddInit =
  ["if neighbors is not None or cutoff is not None:",
   "    self.solve(system0, system1, neighbors=neighbors, cutoff=cutoff, reference=reference)",
   "else:",
   "    assert system0.natoms == system1.natoms",
   "    self.__system0 = system0",
   "    self.__system1 = system1",
   "    self.reference = reference",
   "    self.__neighbors = None",
   "    self.__ddvectors = None",
   "    self.__arrowcenters = None",
   "    self.__arrowuvectors = None"] := rfl

/-- the reference setter -/
theorem gen_pin_ddReference : Gen.pin_ddReference =
  ["assert value == 0 or value == 1, 'reference must be 0 or 1'",
   "self.__reference = value"] := rfl

/-- nye_tensor: pairing decisions, conflict loop, G, strain measures, gradG -/
theorem gen_pin_nyeTensorLoop : Gen.pin_nyeTensorLoop =
  ["for i in range(system.natoms):",
   "    p = np.asarray(p_vectors[i])",
   "    if p.ndim == 1:",
   "        p = np.array([p])",
   "    p_mags = np.linalg.norm(p, axis=1)",
   "    r1 = p_mags.min()",
   "    q = system.dvect(i, neighbors[i])",
   "    if q.ndim == 1:",
   "        q = np.array([q])",
   "    q_mags = np.linalg.norm(q, axis=1)",
   "    cos_thetas = (np.dot(p, q.T) / q_mags).T / p_mags",
   "    index_pairing = cos_thetas.argmax(1)",
   "    index_pairing[cos_thetas.max(1) < cos_theta_max] = -1",
   "    for n in range(len(q)):",
   "        if index_pairing[n] >= 0:",
   "            for k in range(n):",
   "                if index_pairing[n] == index_pairing[k]:",
   "                    nrad = abs(r1 - q_mags[n])",
   "                    krad = abs(r1 - q_mags[k])",
   "                    if nrad < krad:",
   "                        index_pairing[k] = -1",
   "                    else:",
   "                        index_pairing[n] = -1",
   "    c = 0",
   "    for n in range(len(q)):",
   "        if index_pairing[n] >= 0:",
   "            Q[c] = q[n]",
   "            P[c] = p[index_pairing[n]]",
   "            c += 1",
   "    if c == 0:",
   "        G[i] = np.identity(3)",
   "        warnings.warn('An atom lacks pair sets. Check neighbor list')",
   "    else:",
   "        G[i] = np.linalg.lstsq(Q[:c], P[:c], rcond=None)[0]",
   "    strain[i] = (np.identity(3) - G[i] + (np.identity(3) - G[i]).T) / 2.0",
   "    inv1[i] = strain[i, 0, 0] + strain[i, 1, 1] + strain[i, 2, 2]",
   "    inv2[i] = strain[i, 0, 0] * strain[i, 1, 1] + strain[i, 0, 0] * strain[i, 2, 2] + strain[i, 1, 1] * strain[i, 2, 2] - strain[i, 0, 1] ** 2 - strain[i, 0, 2] ** 2 - strain[i, 1, 2] ** 2",
   "    inv3[i] = np.linalg.det(strain[i])",
   "    rot = (np.identity(3) - G[i] - (np.identity(3) - G[i]).T) / 2.0",
   "    ang_vel[i] = (rot[0, 1] ** 2 + rot[0, 2] ** 2 + rot[1, 2] ** 2) ** 0.5",
   "for i in range(system.natoms):",
   "    Q = system.dvect(i, neighbors[i])",
   "    if Q.ndim == 1:",
   "        Q = np.array([Q])",
   "    dG = G[neighbors[i]] - G[i]",
   "    for x in range(3):",
   "        gradG[x, :] = np.linalg.lstsq(Q, dG[:, x, :], rcond=None)[0].T",
   "    nye[i] = -1 * np.einsum('ijm,ikm->jk', eps, gradG)"] := rfl

/-- nye_tensor: p-vector broadcasting, axes, cos -/
theorem gen_pin_nyeTensorPre : Gen.pin_nyeTensorPre =
  ["if len(p_vectors) == 1:",
   "    p_vectors = np.broadcast_to(p_vectors, (system.natoms, len(p_vectors[0]), 3))",
   "elif len(p_vectors) != system.natoms:",
   "    p_vectors = np.broadcast_to(p_vectors, (system.natoms, len(p_vectors), 3))",
   "if axes is not None:",
   "    p_vectors = np.inner(p_vectors, axes_check(axes))",
   "cos_theta_max = np.cos(theta_max * np.pi / 180)"] := rfl

/-- disregistry: every statement (numpy calls: unique, isclose, interp, union1d, mean) -/
theorem gen_pin_disregistry : Gen.pin_disregistry =
  ["basesystem: System, dislsystem: System, m: npt.ArrayLike=[1.0, 0.0, 0.0], n: npt.ArrayLike=[0.0, 1.0, 0.0], planepos: npt.ArrayLike=[0.0, 0.0, 0.0]",
   "m = np.asarray(m, dtype=float)",
   "n = np.asarray(n, dtype=float)",
   "planepos = np.asarray(planepos, dtype=float)",
   "basepos = basesystem.atoms.pos",
   "disp = displacement(basesystem, dislsystem)",
   "allx = np.dot(basepos, m)",
   "ally = np.dot(basepos, n)",
   "midy = np.dot(planepos, n)",
   "uniquey = np.unique(ally)",
   "abovey = uniquey[uniquey > midy].min()",
   "belowy = uniquey[uniquey < midy].max()",
   "if np.isclose(abovey, belowy):",
   "    raise ValueError('planepos must fall between atomic planes')",
   "abovex = allx[np.isclose(ally, abovey)]",
   "belowx = allx[np.isclose(ally, belowy)]",
   "uabovex = np.unique(abovex)",
   "ubelowx = np.unique(belowx)",
   "coord = np.union1d(uabovex, ubelowx)",
   "abovedisp = disp[np.isclose(ally, abovey)]",
   "belowdisp = disp[np.isclose(ally, belowy)]",
   "abovedispmean = np.empty((len(uabovex), 3))",
   "for i, ix in enumerate(uabovex):",
   "    abovedispmean[i] = abovedisp[np.isclose(abovex, ix)].mean(axis=0)",
   "belowdispmean = np.empty((len(ubelowx), 3))",
   "for i, ix in enumerate(ubelowx):",
   "    belowdispmean[i] = belowdisp[np.isclose(belowx, ix)].mean(axis=0)",
   "abovedispinterp = np.vstack([np.interp(coord, uabovex, abovedispmean[:, 0]), np.interp(coord, uabovex, abovedispmean[:, 1]), np.interp(coord, uabovex, abovedispmean[:, 2])]).T",
   "belowdispinterp = np.vstack([np.interp(coord, ubelowx, belowdispmean[:, 0]), np.interp(coord, ubelowx, belowdispmean[:, 1]), np.interp(coord, ubelowx, belowdispmean[:, 2])]).T",
   "disregistry = abovedispinterp - belowdispinterp",
   "return (coord, disregistry)"] := rfl

/-- differential_displacement: the plotting frame T, the two separations in that frame, their difference -/
theorem gen_pin_ddFunctionBody : Gen.pin_ddFunctionBody =
  ["T = axes_check([plotxaxis, plotyaxis, np.cross(plotxaxis, plotyaxis)])",
   "T = axes_check(axes)",
   "dvectors_0 = np.inner(np.atleast_2d(system_0.dvect(int(i), neighbors[i])), T)",
   "dvectors_1 = np.inner(np.atleast_2d(system_1.dvect(int(i), neighbors[i])), T)",
   "dd_vectors = dvectors_1 - dvectors_0"] := rfl

/-- Strain.asdict: default handling and the loop over the keys -/
theorem gen_pin_asdictLoop : Gen.pin_asdictLoop =
  ["if properties is None:",
   "    properties = defaultkeys",
   "else:",
   "    properties = aslist(properties)",
   "for p in properties:",
   "    assert p in allkeys, 'unknown property ' + p",
   "    results[p] = getattr(self, p)",
   "return results"] := rfl

/-- Strain.save_to_system: default handling and the loop over the keys -/
theorem gen_pin_saveLoop : Gen.pin_saveLoop =
  ["if properties is None:",
   "    properties = defaultkeys",
   "else:",
   "    properties = aslist(properties)",
   "for p in properties:",
   "    assert p in allkeys, 'unknown property ' + p",
   "    self.system.atoms.view[p] = getattr(self, p)"] := rfl

end core

section field
variable {K : Type} [Field K] [LinearOrder K] [IsStrictOrderedRing K]

/-- the `theta_max` setter accepts exactly the values `SObj.setTheta` accepts (`v ≤ 180 ∧ 0 < v` is the condition of
    `SObj.setTheta`, Atomman/C17.lean; `setTheta_accepts_iff` reads it as `0 < v ≤ 180`). -/
theorem gen_thetaAccept_eq_model (v : K) : Gen.thetaAccept v = decide (v ≤ ((180 : Nat) : K) ∧ 0 < v) := by
  simp [Gen.thetaAccept]

/-- sign of the permutation `(i, j, m)` of `(0, 1, 2)`, `0` when two indices coincide. -/
def leviCivita (i j m : Nat) : Int := (((j : Int) - i) * ((m : Int) - i) * ((m : Int) - j)) / 2

/-- the table `eps` of `nye_tensor.py` is the Levi-Civita symbol. -/
theorem gen_eps_eq_leviCivita : ∀ i ∈ [0, 1, 2], ∀ j ∈ [0, 1, 2], ∀ m ∈ [0, 1, 2], Gen.eps i j m = leviCivita i j m := by
  decide

/-- `nye_c` of Strain.pyx (nine hand-expanded differences) is the contraction `-einsum('ijm,ikm->jk', eps, gradG)` of
    `nye_tensor.py`: `α_jk = -ε_ijm ∂_m G_ik`. -/
theorem gen_nye_c_eq_einsum (g : Nat → Nat → Nat → K) : Gen.nyeOfGrad g = Gen.nyeEinsum g := by
  simp only [Gen.nyeOfGrad, Gen.nyeEinsum, matOf, Gen.eps, List.getD_cons_zero, List.getD_cons_succ]
  ext <;> simp <;> ring

end field
end Atomman.C17
