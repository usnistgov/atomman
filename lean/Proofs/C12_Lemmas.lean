/-
  `Cx K` (complex numbers as pairs over an ordered field `K`) is a field of characteristic zero with the model's own
  `+ - * ⁻¹ /` as operations, and conjugation is a ring automorphism: every theorem stated for an arbitrary field `F`
  applies to the very type the driver computes with (`Cx Rat`).
-/
import Atomman.C12
import Mathlib.Tactic.Ring
import Mathlib.Tactic.LinearCombination
import Mathlib.Data.Fintype.Basic
import Mathlib.Tactic.Linarith
import Mathlib.Tactic.FinCases
set_option linter.unusedSectionVars false
set_option linter.unnecessarySeqFocus false

namespace Atomman.C12
namespace Cx
variable {K : Type}

@[ext] theorem ext' {a b : Cx K} (hr : a.re = b.re) (hi : a.im = b.im) : a = b := by
  cases a; cases b; simp_all

section ring
variable [CommRing K]
@[simp] theorem add_re (a b : Cx K) : (a + b).re = a.re + b.re := rfl
@[simp] theorem add_im (a b : Cx K) : (a + b).im = a.im + b.im := rfl
@[simp] theorem sub_re (a b : Cx K) : (a - b).re = a.re - b.re := rfl
@[simp] theorem sub_im (a b : Cx K) : (a - b).im = a.im - b.im := rfl
@[simp] theorem neg_re (a : Cx K) : (-a).re = -a.re := rfl
@[simp] theorem neg_im (a : Cx K) : (-a).im = -a.im := rfl
@[simp] theorem mul_re (a b : Cx K) : (a * b).re = a.re * b.re - a.im * b.im := rfl
@[simp] theorem mul_im (a b : Cx K) : (a * b).im = a.re * b.im + a.im * b.re := rfl
@[simp] theorem zero_re : (0 : Cx K).re = 0 := rfl
@[simp] theorem zero_im : (0 : Cx K).im = 0 := rfl
@[simp] theorem one_re : (1 : Cx K).re = 1 := rfl
@[simp] theorem one_im : (1 : Cx K).im = 0 := rfl
@[simp] theorem natCast_re (n : ℕ) : ((n : Cx K)).re = n := rfl
@[simp] theorem natCast_im (n : ℕ) : ((n : Cx K)).im = 0 := rfl
@[simp] theorem intCast_re (n : ℤ) : ((n : Cx K)).re = n := rfl
@[simp] theorem intCast_im (n : ℤ) : ((n : Cx K)).im = 0 := rfl

instance instCommRing : CommRing (Cx K) where
  add := (· + ·)
  zero := 0
  neg := Neg.neg
  sub := (· - ·)
  mul := (· * ·)
  one := 1
  natCast := fun n => ((n : ℕ) : Cx K)
  nsmul := nsmulRec
  zsmul := zsmulRec
  intCast := fun n => ((n : ℤ) : Cx K)
  add_assoc := by intros; ext <;> simp <;> ring
  zero_add := by intros; ext <;> simp
  add_zero := by intros; ext <;> simp
  add_comm := by intros; ext <;> simp <;> ring
  neg_add_cancel := by intros; ext <;> simp
  sub_eq_add_neg := by intros; ext <;> simp <;> ring
  mul_assoc := by intros; ext <;> simp <;> ring
  one_mul := by intros; ext <;> simp
  mul_one := by intros; ext <;> simp
  left_distrib := by intros; ext <;> simp <;> ring
  right_distrib := by intros; ext <;> simp <;> ring
  mul_comm := by intros; ext <;> simp <;> ring
  zero_mul := by intros; ext <;> simp
  mul_zero := by intros; ext <;> simp
  natCast_zero := by ext <;> simp
  natCast_succ := by intros; ext <;> simp
  intCast_ofNat := by intros; ext <;> simp
  intCast_negSucc := by intros; ext <;> simp
end ring

section field
variable [Field K] [LinearOrder K] [IsStrictOrderedRing K]

@[simp] theorem inv_re (a : Cx K) : (a⁻¹).re = a.re / (a.re * a.re + a.im * a.im) := rfl
@[simp] theorem inv_im (a : Cx K) : (a⁻¹).im = (-a.im) / (a.re * a.re + a.im * a.im) := rfl

theorem normSq_ne_zero {a : Cx K} (h : a ≠ 0) : a.re * a.re + a.im * a.im ≠ 0 := by
  intro h0
  obtain ⟨h1, h2⟩ := mul_self_add_mul_self_eq_zero.1 h0
  exact h (ext' h1 h2)

instance instField : Field (Cx K) where
  toCommRing := instCommRing
  inv := Inv.inv
  div := (· / ·)
  div_eq_mul_inv := by intros; rfl
  exists_pair_ne := ⟨0, 1, by intro h; have := congrArg Cx.re h; simp at this⟩
  mul_inv_cancel := by
    intro a h
    have hn := normSq_ne_zero h
    ext
    · show a.re * (a.re / (a.re * a.re + a.im * a.im)) - a.im * ((-a.im) / (a.re * a.re + a.im * a.im)) = 1
      have e : a.re * (a.re / (a.re * a.re + a.im * a.im)) - a.im * ((-a.im) / (a.re * a.re + a.im * a.im))
          = (a.re * a.re + a.im * a.im) / (a.re * a.re + a.im * a.im) := by ring
      rw [e, div_self hn]
    · show a.re * ((-a.im) / (a.re * a.re + a.im * a.im)) + a.im * (a.re / (a.re * a.re + a.im * a.im)) = 0
      ring
  inv_zero := by ext <;> simp
  nnqsmul := _
  nnqsmul_def := fun _ _ => rfl
  qsmul := _
  qsmul_def := fun _ _ => rfl

instance : CharZero (Cx K) where
  cast_injective := by
    intro a b h
    have := congrArg Cx.re h
    simpa using this

@[simp] theorem conj_re (a : Cx K) : (conj a).re = a.re := rfl
@[simp] theorem conj_im (a : Cx K) : (conj a).im = -a.im := rfl
theorem conj_add (a b : Cx K) : conj (a + b) = conj a + conj b := by ext <;> simp <;> ring
theorem conj_sub (a b : Cx K) : conj (a - b) = conj a - conj b := by ext <;> simp <;> ring
theorem conj_neg (a : Cx K) : conj (-a) = -conj a := by ext <;> simp
theorem conj_mul (a b : Cx K) : conj (a * b) = conj a * conj b := by ext <;> simp <;> ring
theorem conj_inv (a : Cx K) : conj (a⁻¹) = (conj a)⁻¹ := by ext <;> simp <;> ring
theorem conj_div (a b : Cx K) : conj (a / b) = conj a / conj b := by
  rw [div_eq_mul_inv, div_eq_mul_inv, conj_mul, conj_inv]
theorem conj_natCast (n : ℕ) : conj ((n : ℕ) : Cx K) = n := by ext <;> simp
theorem conj_one : conj (1 : Cx K) = 1 := by ext <;> simp
theorem conj_conj (a : Cx K) : conj (conj a) = a := by ext <;> simp
theorem conj_I : conj (I : Cx K) = -I := by ext <;> simp [I]
theorem I_mul_I : (I : Cx K) * I = -1 := by ext <;> simp [I]
theorem I_ne_zero : (I : Cx K) ≠ 0 := by
  intro h; have := congrArg Cx.im h; simp [I] at this
theorem im_eq_zero_of_conj_eq {a : Cx K} (h : conj a = a) : a.im = 0 := by
  have := congrArg Cx.im h
  simp at this
  linarith

theorem ofReal_mul (r r' : K) : ofReal (r * r') = ofReal r * ofReal r' := by ext <;> simp [ofReal]
theorem ofReal_ne_zero {r : K} (h : r ≠ 0) : ofReal r ≠ 0 := fun h0 => h (congrArg Cx.re h0)
theorem rmul_eq (r : K) (z : Cx K) : Cx.rmul r z = ofReal r * z := by
  ext <;> simp [Cx.rmul, ofReal, mul_comm]
theorem ofReal_inv (r : K) : (ofReal r)⁻¹ = ofReal r⁻¹ := by
  ext <;> simp [ofReal, div_self_mul_self']
theorem rdiv_eq (z : Cx K) (r : K) : Cx.rdiv z r = z / ofReal r := by
  rw [div_eq_mul_inv, ofReal_inv]
  ext <;> simp [Cx.rdiv, ofReal, div_eq_mul_inv]
theorem rmul_one (z : Cx K) : Cx.rmul 1 z = z := by
  cases z; simp [Cx.rmul]
theorem rdiv_one (z : Cx K) : Cx.rdiv z 1 = z := by
  cases z; simp [Cx.rdiv]
end field
end Cx

end Atomman.C12
