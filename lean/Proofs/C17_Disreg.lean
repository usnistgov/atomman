/-
  C17 — `disregistry`.  First the model's `numpy.unique` (`sortK`, `dedupSorted`), `numpy.interp`, the column means and the plane
  selection, each with specification, permutation and translation; then the function: a rigid slip is returned exactly, the
  order of the atoms does not matter, with `rtol = 0` it is covariant under a joint translation (the relative tolerance of
  `numpy.isclose` is the ONLY obstruction, cf. PARTIAL `disregistry_translation` in harness/props/c17.py, docs/C17.md §Partial), and when it refuses.
-/
import Proofs.C17_Lemmas
import Proofs.Folds
import Proofs.Lists
import Mathlib.Tactic.Linarith
import Mathlib.Tactic.FieldSimp

namespace Atomman.C17
open Atomman
set_option linter.unusedSectionVars false


variable {K : Type} [Field K] [LinearOrder K] [IsStrictOrderedRing K]

theorem absK_nonneg (x : K) : 0 ≤ absK x := by
  unfold absK; split <;> linarith

theorem isclose_self (atol rtol a : K) (ha : 0 ≤ atol) (hr : 0 ≤ rtol) : isclose atol rtol a a = true := by
  have h0 : absK (a - a) = 0 := by simp [absK]
  have := absK_nonneg a
  simp only [isclose, h0, decide_eq_true_eq]
  positivity

theorem isclose_shift (atol a b t : K) : isclose atol 0 (a + t) (b + t) = isclose atol 0 a b := by
  unfold isclose
  simp only [add_sub_add_right_eq_sub, zero_mul]

theorem isInsert : IsInsert (insertSorted (K := K)) (· ≤ ·) (fun _ _ => False) :=
  ⟨fun _ => rfl, fun x y t => by rw [insertSorted, if_neg not_false]⟩

theorem perm_sortK (l : List K) : (sortK l).Perm l := isInsert.foldr_perm l

theorem mem_sortK (x : K) (l : List K) : x ∈ sortK l ↔ x ∈ l := (perm_sortK l).mem_iff

theorem mem_dedupSorted (x : K) : ∀ (l : List K), x ∈ dedupSorted l ↔ x ∈ l
  | [] => by simp only [dedupSorted]
  | [a] => by simp only [dedupSorted]
  | a :: b :: rest => by
    simp only [dedupSorted]
    split
    · rename_i hab
      subst hab
      rw [mem_dedupSorted x (a :: rest)]
      simp only [List.mem_cons, or_self_left]
    · rw [List.mem_cons, mem_dedupSorted x (b :: rest), List.mem_cons (l := b :: rest)]

theorem mem_unique (x : K) (l : List K) : x ∈ unique l ↔ x ∈ l :=
  (mem_dedupSorted x _).trans (mem_sortK x l)

theorem unique_ne_nil (l : List K) (h : l ≠ []) : unique l ≠ [] := by
  obtain ⟨a, ha⟩ := List.exists_mem_of_ne_nil l h
  exact List.ne_nil_of_mem ((mem_unique a l).mpr ha)

theorem sorted_sortK (l : List K) : (sortK l).Pairwise (· ≤ ·) :=
  isInsert.foldr_sorted (hr := fun _ _ h => h) (hn := fun _ _ h => (not_le.mp h).le) (ht := fun _ _ _ => le_trans) l

theorem strict_dedupSorted : ∀ (l : List K), l.Pairwise (· ≤ ·) → (dedupSorted l).Pairwise (· < ·)
  | [], _ => by simp [dedupSorted]
  | [a], _ => by simp [dedupSorted]
  | a :: b :: rest, h => by
    simp only [dedupSorted]
    have ha := List.pairwise_cons.mp h
    split
    · exact strict_dedupSorted (b :: rest) ha.2
    · rename_i hab
      apply List.pairwise_cons.mpr
      refine ⟨?_, strict_dedupSorted (b :: rest) ha.2⟩
      intro x hx
      have hx' := (mem_dedupSorted x _).mp hx
      have hab' : a < b := lt_of_le_of_ne (ha.1 b List.mem_cons_self) hab
      rcases List.mem_cons.mp hx' with rfl | hx'
      · exact hab'
      · exact lt_of_lt_of_le hab' ((List.pairwise_cons.mp ha.2).1 x hx')

/-- The model of `numpy.unique` returns the distinct values in strictly increasing order. -/
theorem unique_spec (l : List K) : (unique l).Pairwise (· < ·) ∧ ∀ x, x ∈ unique l ↔ x ∈ l :=
  ⟨strict_dedupSorted _ (sorted_sortK l), fun x => mem_unique x l⟩

theorem unique_eq_of {l l' : List K} (hs : l'.Pairwise (· < ·)) (hm : ∀ x, x ∈ l' ↔ x ∈ l) : unique l = l' := by
  have hu : (unique l).Pairwise (· < ·) := strict_dedupSorted _ (sorted_sortK l)
  refine List.Perm.eq_of_pairwise (fun a b _ _ h1 h2 => absurd h1 (lt_asymm h2)) hu hs ?_
  exact (List.perm_ext_iff_of_nodup (hu.imp ne_of_lt) (hs.imp ne_of_lt)).mpr fun x => (mem_unique x l).trans (hm x).symm

theorem sortK_perm (l l' : List K) (h : l.Perm l') : sortK l = sortK l' := by
  apply List.Perm.eq_of_pairwise (le := (· ≤ ·)) (fun a b _ _ h1 h2 => le_antisymm h1 h2) (sorted_sortK l) (sorted_sortK l')
  exact (perm_sortK l).trans (h.trans (perm_sortK l').symm)

theorem unique_perm (l l' : List K) (h : l.Perm l') : unique l = unique l' := by
  unfold unique; rw [sortK_perm l l' h]

theorem unique_shift (t : K) (l : List K) : unique (l.map (· + t)) = (unique l).map (· + t) :=
  unique_eq_of (List.pairwise_map.mpr ((strict_dedupSorted _ (sorted_sortK l)).imp fun h => add_lt_add_left h t))
    fun x => by simp only [List.mem_map, mem_unique]

theorem interp_const (c x : K) : ∀ (pts : List (K × K)), pts ≠ [] → (∀ p ∈ pts, p.2 = c) → interp pts x = c
  | [], h, _ => absurd rfl h
  | [(x0, f0)], _, h => by simp only [interp]; exact h (x0, f0) List.mem_cons_self
  | (x0, f0) :: (x1, f1) :: rest, _, h => by
    have h0 : f0 = c := h (x0, f0) List.mem_cons_self
    have h1 : f1 = c := h (x1, f1) (List.mem_cons_of_mem _ List.mem_cons_self)
    simp only [interp]
    split
    · split
      · exact h0
      · rw [h0, h1]; simp
    · exact interp_const c x ((x1, f1) :: rest) (by simp) (fun p hp => h p (List.mem_cons_of_mem _ hp))

theorem interpV_const (xs : List K) (hne : xs ≠ []) (u : V3 K) (x : K) :
    interpV xs (xs.map fun _ => u) x = u := by
  have key : ∀ c : K, interp (xs.zip (xs.map fun _ => c)) x = c := by
    intro c
    apply interp_const
    · obtain ⟨a, l, rfl⟩ := List.exists_cons_of_ne_nil hne
      simp
    · intro p hp
      have := (List.of_mem_zip hp).2
      simp only [List.mem_map] at this
      obtain ⟨_, _, h⟩ := this
      exact h.symm
  unfold interpV
  simp only [List.map_map, Function.comp_def]
  ext <;> simp only [key]

/-- `numpy.interp` returns the tabulated value at a knot of a strictly increasing grid. -/
theorem interp_at_knot : ∀ (pts : List (K × K)), (pts.map (·.1)).Pairwise (· < ·) → ∀ p ∈ pts, interp pts p.1 = p.2
  | [], _, p, hp => by simp at hp
  | [(x0, f0)], _, p, hp => by
    simp only [List.mem_singleton] at hp; rw [hp]; simp [interp]
  | (x0, f0) :: (x1, f1) :: rest, h, p, hp => by
    simp only [List.map_cons] at h
    have h0 := List.pairwise_cons.mp h
    simp only [interp]
    rcases List.mem_cons.mp hp with rfl | hp
    · have : x0 < x1 := h0.1 x1 List.mem_cons_self
      simp [this]
    · have hge : ¬ p.1 < x1 := by
        rcases List.mem_cons.mp hp with rfl | hp
        · simp
        · have := (List.pairwise_cons.mp h0.2).1 p.1 (List.mem_map.mpr ⟨p, hp, rfl⟩)
          exact not_lt.mpr (le_of_lt this)
      rw [if_neg hge]
      exact interp_at_knot ((x1, f1) :: rest) h0.2 p hp

theorem interp_shift (t : K) : ∀ (pts : List (K × K)) (x : K),
    interp (pts.map fun p => (p.1 + t, p.2)) (x + t) = interp pts x
  | [], _ => rfl
  | [_], _ => rfl
  | (x0, f0) :: (x1, f1) :: rest, x => by
    have ih := interp_shift t ((x1, f1) :: rest) x
    simp only [List.map_cons] at ih ⊢
    simp only [interp, add_lt_add_iff_right, add_le_add_iff_right, add_sub_add_right_eq_sub]
    split
    · rfl
    · exact ih

theorem interpV_shift (t : K) (xs : List K) (fs : List (V3 K)) (x : K) :
    interpV (xs.map (· + t)) fs (x + t) = interpV xs fs x := by
  unfold interpV
  simp only [List.zip_map_left]
  exact V3.ext (interp_shift t _ x) (interp_shift t _ x) (interp_shift t _ x)

def exTab : List (ℚ × ℚ) := [(0, 1), (2, 5), (3, 4)]

/-- `unique` and `interp` on a concrete table: distinct values ascending; knots reproduced, linear in between, clamped
    outside. -/
example :
    unique ([3, 1, 2, 1, 3, 0] : List ℚ) = [0, 1, 2, 3] ∧
    interp exTab 2 = 5 ∧ interp exTab 1 = 3 ∧
    interp exTab (-1) = 1 ∧ interp exTab 7 = 4 ∧
    interp exTab (5/2) = 9/2 := by
  decide +kernel

theorem sumV_fold_const (u : V3 K) : ∀ (l : List (V3 K)) (acc : V3 K), (∀ v ∈ l, v = u) →
    l.foldl (· + ·) acc = acc + V3.smul ((l.length : Nat) : K) u
  | [], acc, _ => by ext <;> simp
  | v :: l, acc, h => by
    simp only [List.foldl_cons, List.length_cons]
    rw [sumV_fold_const u l _ (fun w hw => h w (List.mem_cons_of_mem _ hw)), h v List.mem_cons_self]
    ext <;> simp only [add_x, add_y, add_z, smul_x, smul_y, smul_z, Nat.cast_add, Nat.cast_one] <;> ring

theorem meanV_const (u : V3 K) (l : List (V3 K)) (hne : l ≠ []) (h : ∀ v ∈ l, v = u) : meanV l = u := by
  have hn : ((l.length : Nat) : K) ≠ 0 := by
    have : l.length ≠ 0 := by simpa using hne
    exact_mod_cast this
  unfold meanV sumV
  rw [sumV_fold_const u l zero3 h]
  ext <;> simp only [add_x, add_y, add_z, smul_x, smul_y, smul_z, zero3_x, zero3_y, zero3_z, zero_add] <;> field_simp

theorem sumV_perm (l l' : List (V3 K)) (h : l.Perm l') : sumV l = sumV l' := by
  unfold sumV
  apply h.foldl_eq'
  intro x _ y _ z
  exact V3.add_right_comm z x y

theorem meanV_perm (l l' : List (V3 K)) (h : l.Perm l') : meanV l = meanV l' := by
  unfold meanV; rw [sumV_perm l l' h, h.length_eq]

theorem minL_mem (l : List K) (m : K) (h : minL l = some m) : m ∈ l := by
  cases l with
  | nil => simp [minL] at h
  | cons a l =>
    simp only [minL, Option.some.injEq] at h
    exact h ▸ List.mem_cons.mpr (foldl_select _ (fun _ _ => (ite_eq_or_eq _ _ _).symm) l a)

theorem maxL_mem (l : List K) (m : K) (h : maxL l = some m) : m ∈ l := by
  cases l with
  | nil => simp [maxL] at h
  | cons a l =>
    simp only [maxL, Option.some.injEq] at h
    exact h ▸ List.mem_cons.mpr (foldl_select _ (fun _ _ => (ite_eq_or_eq _ _ _).symm) l a)

theorem minL_shift (t : K) (l : List K) : minL (l.map (· + t)) = (minL l).map (· + t) := by
  cases l with
  | nil => rfl
  | cons a l =>
    simp only [List.map_cons, minL, Option.map_some, List.foldl_map]
    exact congrArg some (foldl_hom_mem (· + t) _ _ l a fun m x _ => by
      simp only [add_lt_add_iff_right]; split <;> rfl)

theorem maxL_shift (t : K) (l : List K) : maxL (l.map (· + t)) = (maxL l).map (· + t) := by
  cases l with
  | nil => rfl
  | cons a l =>
    simp only [List.map_cons, maxL, Option.map_some, List.foldl_map]
    exact congrArg some (foldl_hom_mem (· + t) _ _ l a fun m x _ => by
      simp only [add_lt_add_iff_right]; split <;> rfl)

theorem filter_gt_shift (t m : K) (l : List K) :
    (l.map (· + t)).filter (fun y => decide (m + t < y)) = (l.filter fun y => decide (m < y)).map (· + t) := by
  rw [List.filter_map]
  congr 1
  apply List.filter_congr
  intro a _
  simp only [Function.comp, add_lt_add_iff_right]

theorem filter_lt_shift (t m : K) (l : List K) :
    (l.map (· + t)).filter (fun y => decide (y < m + t)) = (l.filter fun y => decide (y < m)).map (· + t) := by
  rw [List.filter_map]
  congr 1
  apply List.filter_congr
  intro a _
  simp only [Function.comp, add_lt_add_iff_right]

theorem planeMeans_const (atol rtol : K) (ha : 0 ≤ atol) (hr : 0 ≤ rtol) (plane : List (K × V3 K)) (u : V3 K)
    (hu : ∀ a ∈ plane, a.2 = u) (ux : List K) (hux : ∀ ix ∈ ux, ix ∈ plane.map (·.1)) :
    planeMeans atol rtol plane ux = ux.map fun _ => u := by
  unfold planeMeans
  apply List.map_congr_left
  intro ix hix
  apply meanV_const
  · obtain ⟨a, ha', hax⟩ := List.mem_map.mp (hux ix hix)
    apply List.ne_nil_of_mem (a := a.2)
    apply List.mem_map.mpr
    refine ⟨a, List.mem_filter.mpr ⟨ha', ?_⟩, rfl⟩
    simp only [hax]
    exact isclose_self atol rtol ix ha hr
  · intro v hv
    obtain ⟨a, ha', rfl⟩ := List.mem_map.mp hv
    exact hu a (List.mem_filter.mp ha').1

theorem planeMeans_perm (atol rtol : K) (p p' : List (K × V3 K)) (h : p.Perm p') (ux : List K) :
    planeMeans atol rtol p ux = planeMeans atol rtol p' ux := by
  unfold planeMeans
  apply List.map_congr_left
  intro ix _
  exact meanV_perm _ _ ((h.filter _).map _)

theorem planeAtoms_perm (atol rtol : K) (a a' : List (K × K × V3 K)) (h : a.Perm a') (y : K) :
    (planeAtoms atol rtol a y).Perm (planeAtoms atol rtol a' y) := (h.filter _).map _

theorem planeAtoms_shift (atol tx ty : K) (atoms : List (K × K × V3 K)) (y : K) :
    planeAtoms atol 0 (atoms.map fun a => (a.1 + tx, a.2.1 + ty, a.2.2)) (y + ty)
      = (planeAtoms atol 0 atoms y).map fun a => (a.1 + tx, a.2) := by
  unfold planeAtoms
  rw [List.filter_map, List.map_map, List.map_map]
  congr 1
  apply List.filter_congr
  intro a _
  simp only [Function.comp, isclose_shift]

theorem planeMeans_shift (atol tx : K) (plane : List (K × V3 K)) (ux : List K) :
    planeMeans atol 0 (plane.map fun a => (a.1 + tx, a.2)) (ux.map (· + tx)) = planeMeans atol 0 plane ux := by
  unfold planeMeans
  rw [List.map_map]
  apply List.map_congr_left
  intro ix _
  simp only [Function.comp]
  rw [List.filter_map, List.map_map]
  have h : List.filter ((fun a => isclose atol 0 a.1 (ix + tx)) ∘ fun a : K × V3 K => (a.1 + tx, a.2)) plane
      = List.filter (fun a => isclose atol 0 a.1 ix) plane := by
    apply List.filter_congr
    intro a _
    simp only [Function.comp, isclose_shift]
  rw [h]
  rfl

/-- If every atom of the plane just above the slip plane carries the displacement `uA` and
    every atom of the plane just below carries `uB` (both planes non-empty), then at every coordinate the
    disregistry is `uA - uB`: the means over columns of a constant are the constant, and so is their interpolation. -/
theorem disregistry_rigid (atol rtol : K) (ha : 0 ≤ atol) (hr : 0 ≤ rtol) (atoms : List (K × K × V3 K))
    (abovey belowy : K) (uA uB : V3 K)
    (hA : ∀ a ∈ atoms, isclose atol rtol a.2.1 abovey = true → a.2.2 = uA)
    (hB : ∀ a ∈ atoms, isclose atol rtol a.2.1 belowy = true → a.2.2 = uB)
    (hAne : ∃ a ∈ atoms, isclose atol rtol a.2.1 abovey = true)
    (hBne : ∃ a ∈ atoms, isclose atol rtol a.2.1 belowy = true) :
    ∀ e ∈ disregistryAt atol rtol atoms abovey belowy, e.2 = uA - uB := by
  have plane : ∀ (y : K) (u : V3 K), (∀ a ∈ atoms, isclose atol rtol a.2.1 y = true → a.2.2 = u) →
      (∃ a ∈ atoms, isclose atol rtol a.2.1 y = true) → ∀ x : K,
      interpV (unique ((planeAtoms atol rtol atoms y).map (·.1)))
        (planeMeans atol rtol (planeAtoms atol rtol atoms y) (unique ((planeAtoms atol rtol atoms y).map (·.1)))) x = u := by
    intro y u hy hne x
    have hu : ∀ a ∈ planeAtoms atol rtol atoms y, a.2 = u := by
      intro a ha'
      obtain ⟨b, hb, rfl⟩ := List.mem_map.mp ha'
      have := List.mem_filter.mp hb
      exact hy b this.1 this.2
    rw [planeMeans_const atol rtol ha hr _ u hu _ fun x => (mem_unique x _).mp]
    apply interpV_const
    apply unique_ne_nil
    obtain ⟨a, ha', hc⟩ := hne
    apply List.ne_nil_of_mem (a := a.1)
    apply List.mem_map.mpr
    exact ⟨(a.1, a.2.2), List.mem_map.mpr ⟨a, List.mem_filter.mpr ⟨ha', hc⟩, rfl⟩, rfl⟩
  intro e he
  unfold disregistryAt at he
  simp only [List.mem_map] at he
  obtain ⟨x, _, rfl⟩ := he
  simp only [plane abovey uA hA hAne, plane belowy uB hB hBne]

/-- the same for the whole function `disregistry` (plane selection included): if it returns a profile and every atom
    lying (within `isclose`) in an atomic plane above the slip plane carries `uA`, every one in a plane below carries
    `uB`, the disregistry is `uA - uB` at every coordinate — the imposed slip. -/
theorem disregistry_rigid_full (atol rtol : K) (ha : 0 ≤ atol) (hr : 0 ≤ rtol) (atoms : List (K × K × V3 K))
    (midy : K) (uA uB : V3 K) (r : List (K × V3 K))
    (hA : ∀ y, midy < y → ∀ a ∈ atoms, isclose atol rtol a.2.1 y = true → a.2.2 = uA)
    (hB : ∀ y, y < midy → ∀ a ∈ atoms, isclose atol rtol a.2.1 y = true → a.2.2 = uB)
    (hres : disregistry atol rtol atoms midy = some r) :
    ∀ e ∈ r, e.2 = uA - uB := by
  unfold disregistry at hres
  simp only at hres
  split at hres
  · rename_i abovey belowy hmin hmax
    split at hres
    · exact absurd hres (by simp)
    · simp only [Option.some.injEq] at hres
      rw [← hres]
      have h1 := List.mem_filter.mp (minL_mem _ _ hmin)
      have h2 := List.mem_filter.mp (maxL_mem _ _ hmax)
      have m1 := (mem_unique _ _).mp h1.1
      have m2 := (mem_unique _ _).mp h2.1
      obtain ⟨a1, ha1, e1⟩ := List.mem_map.mp m1
      obtain ⟨a2, ha2, e2⟩ := List.mem_map.mp m2
      apply disregistry_rigid atol rtol ha hr atoms abovey belowy uA uB
      · exact hA abovey (by simpa using h1.2)
      · exact hB belowy (by simpa using h2.2)
      · exact ⟨a1, ha1, by rw [e1]; exact isclose_self atol rtol abovey ha hr⟩
      · exact ⟨a2, ha2, by rw [e2]; exact isclose_self atol rtol belowy ha hr⟩
  · exact absurd hres (by simp)

/-- hypotheses of `disregistry_rigid_full`: two planes of two columns; the profile exists and is the slip. -/
example :
    let uA : V3 ℚ := ⟨1/4, 0, 1/8⟩; let uB : V3 ℚ := ⟨0, 0, -1/8⟩
    let atoms : List (ℚ × ℚ × V3 ℚ) := [(0, 0, uB), (2, 0, uB), (1, 1, uA), (3, 1, uA), (1, 2, uA), (0, -1, uB)]
    disregistry (1/100000000) (1/100000) atoms (1/2)
      = some [(0, uA - uB), (1, uA - uB), (2, uA - uB), (3, uA - uB)] ∧
    (∀ a ∈ atoms, (1/2 < a.2.1 → a.2.2 = uA) ∧ (a.2.1 < 1/2 → a.2.2 = uB)) := by
  decide +kernel

/-- The disregistry profile does not depend on the order in which the atoms are listed: any
    consistent renumbering of the two systems (a permutation of the per-atom rows `(x, y, displacement)`) gives the same
    planes, the same columns, the same means and the same profile — or the same refusal.  No hypothesis. -/
theorem disregistry_renumbered (atol rtol : K) (atoms atoms' : List (K × K × V3 K)) (h : atoms.Perm atoms') (midy : K) :
    disregistry atol rtol atoms midy = disregistry atol rtol atoms' midy := by
  have hy : unique (atoms.map (·.2.1)) = unique (atoms'.map (·.2.1)) := unique_perm _ _ (h.map _)
  have hat : ∀ ya yb, disregistryAt atol rtol atoms ya yb = disregistryAt atol rtol atoms' ya yb := by
    intro ya yb
    unfold disregistryAt
    have ha := planeAtoms_perm atol rtol atoms atoms' h ya
    have hb := planeAtoms_perm atol rtol atoms atoms' h yb
    simp only
    rw [unique_perm _ _ (ha.map (·.1)), unique_perm _ _ (hb.map (·.1)),
      planeMeans_perm atol rtol _ _ ha, planeMeans_perm atol rtol _ _ hb]
  unfold disregistry
  simp only [hy, hat]

theorem disregistryAt_shift (atol : K) (atoms : List (K × K × V3 K)) (ya yb tx ty : K) :
    disregistryAt atol 0 (atoms.map fun a => (a.1 + tx, a.2.1 + ty, a.2.2)) (ya + ty) (yb + ty)
      = (disregistryAt atol 0 atoms ya yb).map fun e => (e.1 + tx, e.2) := by
  unfold disregistryAt
  rw [planeAtoms_shift, planeAtoms_shift]
  generalize planeAtoms atol 0 atoms ya = A
  generalize planeAtoms atol 0 atoms yb = B
  have h1 : ∀ pl : List (K × V3 K), (pl.map fun a => (a.1 + tx, a.2)).map (·.1) = (pl.map (·.1)).map (· + tx) := by
    intro pl; rw [List.map_map, List.map_map]; rfl
  simp only []
  rw [h1 A, h1 B, unique_shift, unique_shift, ← List.map_append, unique_shift, planeMeans_shift, planeMeans_shift,
    List.map_map, List.map_map]
  apply List.map_congr_left
  intro x _
  simp only [Function.comp, interpV_shift]

/-- With a purely absolute tolerance (`rtol = 0`) the model of `disregistry` is
    covariant under a joint translation: all in-plane coordinates moved by `tx`, all plane coordinates and the plane position
    by `ty` ⇒ the same refusal, or the same profile with its coordinates moved by `tx`.  Hence the relative tolerance of
    `numpy.isclose` is the only reason the real function is not translation invariant (candidates
    `disregistry:isclose-far-origin`). -/
theorem disregistry_translated_rtol0 (atol : K) (atoms : List (K × K × V3 K)) (midy tx ty : K) :
    disregistry atol 0 (atoms.map fun a => (a.1 + tx, a.2.1 + ty, a.2.2)) (midy + ty)
      = (disregistry atol 0 atoms midy).map (fun prof => prof.map fun e => (e.1 + tx, e.2)) := by
  unfold disregistry
  have hy : (atoms.map fun a => (a.1 + tx, a.2.1 + ty, a.2.2)).map (·.2.1) = (atoms.map (·.2.1)).map (· + ty) := by
    rw [List.map_map, List.map_map]; rfl
  simp only [hy, unique_shift, filter_gt_shift, filter_lt_shift, minL_shift, maxL_shift]
  cases minL (List.filter (fun y => decide (midy < y)) (unique (atoms.map (·.2.1)))) with
  | none => rfl
  | some ya =>
    cases maxL (List.filter (fun y => decide (y < midy)) (unique (atoms.map (·.2.1)))) with
    | none => rfl
    | some yb =>
      simp only [Option.map_some, isclose_shift, disregistryAt_shift]
      split <;> rfl

/-- `disregistry_renumbered` / `disregistry_translated_rtol0` on the two-plane instance of `disregistry_rigid_full` (listed in
    another order; moved by `tx = 5/2`, `ty = -3`), and a case where the relative tolerance DOES matter: far from the origin
    (`ty = 200000`) `rtol = 1/100000` merges the two planes and the call refuses, `rtol = 0` does not. -/
example :
    let uA : V3 ℚ := ⟨1/4, 0, 1/8⟩; let uB : V3 ℚ := ⟨0, 0, -1/8⟩
    let atoms : List (ℚ × ℚ × V3 ℚ) := [(0, 0, uB), (2, 0, uB), (1, 1, uA), (3, 1, uA), (1, 2, uA), (0, -1, uB)]
    let atoms' : List (ℚ × ℚ × V3 ℚ) := [(3, 1, uA), (0, -1, uB), (0, 0, uB), (1, 2, uA), (1, 1, uA), (2, 0, uB)]
    let moved := fun (tx ty : ℚ) => atoms.map fun a => (a.1 + tx, a.2.1 + ty, a.2.2)
    disregistry (1/100000000) (1/100000) atoms' (1/2) = disregistry (1/100000000) (1/100000) atoms (1/2) ∧
    disregistry (1/100000000) 0 (moved (5/2) (-3)) (1/2 - 3)
      = some [(5/2, uA - uB), (7/2, uA - uB), (9/2, uA - uB), (11/2, uA - uB)] ∧
    disregistry (1/100000000) (1/100000) (moved 0 200000) (1/2 + 200000) = none ∧
    (disregistry (1/100000000) 0 (moved 0 200000) (1/2 + 200000)).isSome = true := by
  decide +kernel

/-- `disregistry` answers `None` (the two `ValueError`s) iff there is no plane above, none below, or the adjoining planes
    `isclose`. -/
theorem disregistry_refuses_iff (atol rtol : K) (atoms : List (K × K × V3 K)) (midy : K) :
    disregistry atol rtol atoms midy = none ↔
      ((unique (atoms.map (·.2.1))).filter fun y => midy < y) = [] ∨
      ((unique (atoms.map (·.2.1))).filter fun y => y < midy) = [] ∨
      ∃ ya yb, minL ((unique (atoms.map (·.2.1))).filter fun y => midy < y) = some ya ∧
        maxL ((unique (atoms.map (·.2.1))).filter fun y => y < midy) = some yb ∧ isclose atol rtol ya yb = true := by
  unfold disregistry
  simp only
  generalize ((unique (atoms.map (·.2.1))).filter fun y => midy < y) = A
  generalize ((unique (atoms.map (·.2.1))).filter fun y => y < midy) = B
  cases A with
  | nil => simp [minL]
  | cons a A =>
    cases B with
    | nil => simp [minL, maxL]
    | cons b B =>
      simp only [minL, maxL]
      split_ifs with hc <;> simp [hc]

end Atomman.C17
