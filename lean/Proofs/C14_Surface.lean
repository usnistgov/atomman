/-
  C14, `FreeSurface.surface`: the documented refusal of an incompatible cut vector is the component test on the
  LAMMPS-normal cell; the surface system is non-periodic across the cut only; vacuum is added symmetrically and moves only
  relative coordinates; the `minimum_r` push; the built system holds `m_a m_b m_c` copies of every atom of the rotated cell
  at original + shift + lattice vector, inside the supercell (`surface_same_crystal`).
-/
import Proofs.C14_Fault
import Proofs.C14_C04
import Proofs.C05_Cell
import Mathlib.Tactic.IntervalCases

namespace Atomman.C14
open Atomman

section compat
variable {K : Type} [Field K] [LinearOrder K] [IsStrictOrderedRing K]

/-- on ANY LAMMPS-normal cell with the Gram matrix of the rows `A, B, C` the model's dot-product tests are the
    component tests: `A·B = lx·xy`, `A·C = lx·xz`, `(B·C)(A·A) - (A·B)(A·C) = lx²·ly·yz`. -/
theorem cutCompatible_of_gram (v : M3 K) (b2 : Box K) (hn : Box.isLammpsNorm b2 = true)
    (hg : C05.gram b2.vects = C05.gram v) :
    (cutCompatible .a v.r0 v.r1 v.r2 = true ↔ b2.vects.r1.x = 0 ∧ b2.vects.r2.x = 0) ∧
    (cutCompatible .b v.r0 v.r1 v.r2 = true ↔ b2.vects.r0.y = 0 ∧ b2.vects.r2.y = 0) ∧
    (cutCompatible .c v.r0 v.r1 v.r2 = true ∧ b2.vects.r0.z = 0 ∧ b2.vects.r1.z = 0) := by
  obtain ⟨lx, xy, ly, xz, yz, lz, hb, hx, hy, -⟩ := C05.lammpsNorm_form b2 hn
  rw [hb, C05.gram_lower, C05.gram_entries] at hg
  simp only [M3.mk.injEq, V3.mk.injEq] at hg
  obtain ⟨⟨e00, e01, e02⟩, ⟨-, -, e12⟩, -⟩ := hg
  have e00' : V3.dot v.r0 v.r0 = lx * lx := e00.symm
  rw [hb]
  refine ⟨?_, ?_, rfl, rfl, rfl⟩
  · simp only [cutCompatible, Bool.and_eq_true, decide_eq_true_eq]
    rw [← e01, ← e02, mul_eq_zero, mul_eq_zero, or_iff_right hx.ne', or_iff_right hx.ne']
  · simp only [cutCompatible, decide_eq_true_eq, true_and]
    rw [← e01, ← e02, ← e12, e00', ← sub_eq_zero,
      show (xy * xz + ly * yz) * (lx * lx) - lx * xy * (lx * xz) = lx * lx * ly * yz by ring,
      mul_eq_zero, mul_eq_zero, mul_eq_zero, or_self, or_iff_right hx.ne', or_iff_right hy.ne']

/-- **documented refusal**: `FreeSurface.__init__` refuses a cut vector when the rotated cell, brought to the
    LAMMPS-normal form by `normalize` (C05's `abcBox?`: lengths and cosines of the rows `A, B, C`), has a
    component that the cut vector forbids (`b_x, c_x` for `'a'`; `c_y` for `'b'`, `a_y` being 0 by
    construction; nothing for `'c'`).  The model's test on dot products is that test. -/
theorem cutCompatible_iff_normalized (sqrt : K → K) (v : M3 K) (hs : C05.SqrtOK sqrt v) :
    ∃ b2 : Box K, C05.abcBox? sqrt v = some b2 ∧
      (cutCompatible .a v.r0 v.r1 v.r2 = true ↔ b2.vects.r1.x = 0 ∧ b2.vects.r2.x = 0) ∧
      (cutCompatible .b v.r0 v.r1 v.r2 = true ↔ b2.vects.r0.y = 0 ∧ b2.vects.r2.y = 0) ∧
      (cutCompatible .c v.r0 v.r1 v.r2 = true ∧ b2.vects.r0.z = 0 ∧ b2.vects.r1.z = 0) := by
  obtain ⟨b2, h0, -, hn, hg, -⟩ := C05.abcBox_spec sqrt v hs
  exact ⟨b2, h0, cutCompatible_of_gram v b2 hn hg⟩

end compat

/-- **surface_pbc**: the surface system is non-periodic exactly across the cut. -/
theorem surface_pbc (cut : Cut) :
    surfacePbc cut = [decide (cutIndex cut ≠ 0), decide (cutIndex cut ≠ 1), decide (cutIndex cut ≠ 2)] ∧
    (surfacePbc cut).length = 3 ∧
    ∀ i, i < 3 → ((surfacePbc cut).getD i true = false ↔ i = cutIndex cut) := by
  cases cut <;> refine ⟨by decide, by decide, ?_⟩ <;> intro i hi <;> interval_cases i <;> decide

section surface
variable {K : Type} [Field K] [LinearOrder K] [IsStrictOrderedRing K]

omit [LinearOrder K] [IsStrictOrderedRing K] in
/-- the vacuum box written out: `vac` added to the cut component of the cut vector, `vac / 2` taken from the cut
    component of the origin, nothing else touched. -/
theorem vacuumBox_eq (cut : Cut) (box : Box K) (vac : K) :
    vacuumBox cut box vac = match cut with
      | .a => ⟨{ box.vects with r0 := { box.vects.r0 with x := box.vects.r0.x + vac } },
               { box.origin with x := box.origin.x - vac / 2 }⟩
      | .b => ⟨{ box.vects with r1 := { box.vects.r1 with y := box.vects.r1.y + vac } },
               { box.origin with y := box.origin.y - vac / 2 }⟩
      | .c => ⟨{ box.vects with r2 := { box.vects.r2 with z := box.vects.r2.z + vac } },
               { box.origin with z := box.origin.z - vac / 2 }⟩ := by
  cases cut <;>
    simp only [vacuumBox, setDiag, cutIndex, unitV, V3.sub_def, V3.smul, ↓reduceIte, Nat.reduceEqDiff, Int.cast_one,
      Int.cast_zero, Int.cast_ofNat, mul_one, mul_zero, sub_zero]

/-- vacuum is added symmetrically: only the cut component of the cut cell vector grows (by `vac`), the
    in-plane cell vectors are untouched, the origin moves by `-vac/2` along the cut direction only; hence
    the lower face moves down and the upper face moves up by `vac/2` each. -/
theorem vacuum_symmetric (cut : Cut) (box : Box K) (vac : K) :
    (∀ i, i < 3 → i ≠ cutIndex cut → (vacuumBox cut box vac).vects.row i = box.vects.row i) ∧
    (∀ j, j < 3 → j ≠ cutIndex cut →
      ((vacuumBox cut box vac).vects.row (cutIndex cut)).get j = (box.vects.row (cutIndex cut)).get j ∧
      (vacuumBox cut box vac).origin.get j = box.origin.get j) ∧
    ((vacuumBox cut box vac).vects.row (cutIndex cut)).get (cutIndex cut)
      = (box.vects.row (cutIndex cut)).get (cutIndex cut) + vac ∧
    (vacuumBox cut box vac).origin.get (cutIndex cut) = box.origin.get (cutIndex cut) - vac / 2 ∧
    ((vacuumBox cut box vac).origin + (vacuumBox cut box vac).vects.row (cutIndex cut)).get (cutIndex cut)
      = (box.origin + box.vects.row (cutIndex cut)).get (cutIndex cut) + vac / 2 := by
  rw [vacuumBox_eq]
  cases cut
  all_goals
    refine ⟨fun i hi hne => ?_, fun j hj hne => ?_, rfl, rfl, ?_⟩
    · interval_cases i <;> first | exact absurd rfl hne | rfl
    · interval_cases j <;> first | exact absurd rfl hne | exact ⟨rfl, rfl⟩
    · simp only [cutIndex, M3.row, V3.get, V3.add_def, ↓reduceIte, Nat.reduceEqDiff]
      ring

omit [LinearOrder K] [IsStrictOrderedRing K] in
theorem det_of_flat (V : M3 K) (ha : V.r0.z = 0) (hb : V.r1.z = 0) :
    M3.det V = (V.r0.x * V.r1.y - V.r0.y * V.r1.x) * V.r2.z := by
  simp only [M3.det, V3.dot, V3.cross, ha, hb]; ring

/-- in a cell whose first two vectors have no z component the third relative coordinate is the z distance to
    the origin in units of the third vector's z component. -/
theorem cartToRel_z_of_flat (box : Box K) (p : V3 K) (ha : box.vects.r0.z = 0) (hb : box.vects.r1.z = 0)
    (hdet : M3.det box.vects ≠ 0) :
    (Box.cartToRel box p).z = (p.z - box.origin.z) / box.vects.r2.z := by
  have hw : box.vects.r2.z ≠ 0 := fun h => hdet (by rw [det_of_flat _ ha hb, h, mul_zero])
  -- `p = origin + s · V`, and the z component of `s · V` is `s_z` heights of the third vector
  have e := congrArg V3.z (Box.relToCart_cartToRel box hdet p)
  have hc : (M3.vecMul (box.cartToRel p) box.vects).z = (box.cartToRel p).z * box.vects.r2.z :=
    vecMul_get_cut box.vects .c (fun i hi hne => by
      interval_cases i
      · exact ha
      · exact hb
      · exact absurd rfl hne) (box.cartToRel p)
  rw [Box.relToCart, V3.add_z, hc] at e
  rw [eq_div_iff hw]; linarith

/-- **vacuum, scaled coordinate across the cut** (cut vector c; in-plane vectors without a component along the
    cut): `s_c' = (s_c w + vac/2) / (w + vac)`. -/
theorem vacuum_rel_cut_c (box : Box K) (v : K) (p : V3 K) (ha : box.vects.r0.z = 0) (hb : box.vects.r1.z = 0)
    (hdet : M3.det box.vects ≠ 0) (hdet' : M3.det (vacuumBox .c box v).vects ≠ 0) :
    (Box.cartToRel (vacuumBox .c box v) p).z
      = ((Box.cartToRel box p).z * box.vects.r2.z + v / 2) / (box.vects.r2.z + v) := by
  have hw : box.vects.r2.z ≠ 0 := fun h => hdet (by rw [det_of_flat _ ha hb, h, mul_zero])
  -- the new height and the new origin, as `vacuum_symmetric` states them
  obtain ⟨-, -, hc, ho, -⟩ := vacuum_symmetric .c box v
  have hc : (vacuumBox .c box v).vects.r2.z = box.vects.r2.z + v := hc
  have ho : (vacuumBox .c box v).origin.z = box.origin.z - v / 2 := ho
  rw [cartToRel_z_of_flat box p ha hb hdet, cartToRel_z_of_flat (vacuumBox .c box v) p ha hb hdet', hc, ho,
    div_mul_cancel₀ _ hw]
  congr 1
  ring


/-- the slab stays strictly inside across the cut: for `0 ≤ s_c < 1`, `w > 0`, `vac ≥ 0` the new coordinate is in
    `[0, 1)`, and in `(0, 1)` as soon as `vac > 0`. -/
theorem vacuum_rel_cut_bounds (s w v : K) (hs0 : 0 ≤ s) (hs1 : s < 1) (hw : 0 < w) (hv : 0 ≤ v) :
    0 ≤ (s * w + v / 2) / (w + v) ∧ (s * w + v / 2) / (w + v) < 1 ∧ (0 < v → 0 < (s * w + v / 2) / (w + v)) := by
  have hwv : 0 < w + v := by linarith
  have hsw : 0 ≤ s * w := mul_nonneg hs0 hw.le
  refine ⟨div_nonneg (by linarith) hwv.le, ?_, fun hv' => div_pos (by linarith) hwv⟩
  rw [div_lt_one hwv]
  have := mul_lt_of_lt_one_left hw hs1
  linarith

/-- **vacuum with a tilted cut vector**: the Cartesian positions do not change, so the in-plane relative
    coordinates `s_a, s_b` move by exactly `(s_c - s_c')` times the in-plane part of the cut vector expressed in
    the in-plane vectors: `(s_a' - s_a) a + (s_b' - s_b) b = (s_c - s_c') c` in both in-plane components.  They stay
    put iff the cut vector is not tilted (or `s_c' = s_c`); otherwise an atom can leave `[0, 1)` in a periodic
    in-plane direction — by a whole in-plane period it is still the same crystal. -/
theorem vacuum_inplane_c (box : Box K) (v : K) (p : V3 K) (hdet : M3.det box.vects ≠ 0)
    (hdet' : M3.det (vacuumBox .c box v).vects ≠ 0) :
    ((Box.cartToRel (vacuumBox .c box v) p).x - (Box.cartToRel box p).x) * box.vects.r0.x +
      ((Box.cartToRel (vacuumBox .c box v) p).y - (Box.cartToRel box p).y) * box.vects.r1.x
      = ((Box.cartToRel box p).z - (Box.cartToRel (vacuumBox .c box v) p).z) * box.vects.r2.x ∧
    ((Box.cartToRel (vacuumBox .c box v) p).x - (Box.cartToRel box p).x) * box.vects.r0.y +
      ((Box.cartToRel (vacuumBox .c box v) p).y - (Box.cartToRel box p).y) * box.vects.r1.y
      = ((Box.cartToRel box p).z - (Box.cartToRel (vacuumBox .c box v) p).z) * box.vects.r2.y := by
  -- `p` written out in both cells: the x and y components of the two expansions agree
  have e := (Box.relToCart_cartToRel (vacuumBox .c box v) hdet' p).trans (Box.relToCart_cartToRel box hdet p).symm
  generalize Box.cartToRel box p = s at e ⊢
  generalize Box.cartToRel (vacuumBox .c box v) p = s' at e ⊢
  rw [vacuumBox_eq] at e
  simp only [Box.relToCart, M3.vecMul, V3.add_def, V3.mk.injEq] at e
  obtain ⟨hx, hy, -⟩ := e
  exact ⟨by linear_combination hx, by linear_combination hy⟩

/-- `minimum_r` push: with `new = sqrt(r² - d₁² - d₂²)` (`sq·sq =` that radicand) the pushed
    separation `d + (new - d_cut)·ê_cut` has length exactly `r`. -/
theorem push_restores_minimum_r (cut : Cut) (r sq : K) (d : V3 K) (hsq : sq * sq = pushRadicand cut r d) :
    V3.normSq (d + V3.smul (pushAmount cut sq d) (unitV (cutIndex cut))) = r * r := by
  obtain ⟨dx, dy, dz⟩ := d
  cases cut <;>
    simp only [pushRadicand, pushAmount, unitV, cutIndex, V3.get, V3.normSq, V3.dot, V3.smul, V3.add_def,
      ↓reduceIte, Nat.reduceEqDiff, Int.cast_one, Int.cast_zero] at hsq ⊢ <;>
    linear_combination hsq


/-- after `wrap` with all directions periodic an atom is inside the cell (`0 ≤ s < 1` on every axis) and has
    moved by an integer combination of the cell vectors. -/
theorem surfacePos_spec (box : Box K) (hdet : M3.det box.vects ≠ 0) (fl : K → Int) (hfl : C05.IsFloor fl)
    (shift p : V3 K) :
    (∃ n : IV, surfacePos box fl shift p + C05.latticeVec box.vects n = p + shift) ∧
    insidePeriodic box ⟨true, true, true⟩ (surfacePos box fl shift p) := by
  exact ⟨⟨_, (wrapPos_reconstruct box hdet ⟨true, true, true⟩ fl (p + shift)).1⟩,
    wrapPos_insidePeriodic box hdet ⟨true, true, true⟩ fl hfl (p + shift)⟩

/-- **surface_same_crystal**: the surface system holds `m_a·m_b·m_c` copies of every atom of the rotated
    cell, each copy carrying the original's type and per-atom values, sitting at the original position plus
    the requested shift plus a lattice vector of the rotated cell (same infinite crystal, rigidly shifted),
    and inside the supercell. -/
theorem surface_same_crystal (rbox : Box K) (hdet : M3.det rbox.vects ≠ 0) (sa sb sc : C04.Size)
    (ha : sa.mult ≠ 0) (hb : sb.mult ≠ 0) (hc : sc.mult ≠ 0) (fl : K → Int) (hfl : C05.IsFloor fl)
    (shift : V3 K) (atoms : List (C04.Atom K)) :
    (surfaceAtoms rbox sa sb sc fl shift atoms).1 = C04.superBox rbox sa sb sc ∧
    (surfaceAtoms rbox sa sb sc fl shift atoms).2.length
      = sc.mult.toNat * (sb.mult.toNat * (sa.mult.toNat * atoms.length)) ∧
    ∀ a' ∈ (surfaceAtoms rbox sa sb sc fl shift atoms).2, ∃ a ∈ atoms, ∃ n : IV,
      a'.atype = a.atype ∧ a'.extra = a.extra ∧
      a'.pos = a.pos + shift + C05.latticeVec rbox.vects n ∧
      insidePeriodic (C04.superBox rbox sa sb sc) ⟨true, true, true⟩ a'.pos := by
  have haK : ((sa.mult : Int) : K) ≠ 0 := by exact_mod_cast ha
  have hbK : ((sb.mult : Int) : K) ≠ 0 := by exact_mod_cast hb
  have hcK : ((sc.mult : Int) : K) ≠ 0 := by exact_mod_cast hc
  have hdets : M3.det (C04.superBox rbox sa sb sc).vects ≠ 0 := by
    rw [c04_superBox_volume]
    exact mul_ne_zero (mul_ne_zero (mul_ne_zero haK hbK) hcK) hdet
  refine ⟨rfl, ?_, ?_⟩
  · simp only [surfaceAtoms, List.length_map, c04_supersize_length]
  · intro a' ha'
    simp only [surfaceAtoms, List.mem_map] at ha'
    obtain ⟨a1, ha1, rfl⟩ := ha'
    obtain ⟨r2, _, r1, _, r0, _, a, ha, rfl⟩ := (C04.mem_supersizeAtoms rbox sa sb sc atoms a1).mp ha1
    obtain ⟨⟨n, hn⟩, hin⟩ := surfacePos_spec (C04.superBox rbox sa sb sc) hdets fl hfl shift
      (C04.replicaPos rbox sa sb sc a.pos r0 r1 r2)
    exact ⟨a, ha, _, rfl, rfl, replica_wrapped rbox sa sb sc a.pos shift _ r0 r1 r2 n hdet haK hbK hcK hn, hin⟩

end surface

end Atomman.C14
