/-
  C15 — what the property theorems are read off: the index lists, `normIdx` and the site search as equivalences, the
  closed form of every accepted call (`vacancy_ok` … `dumbbell_ok`), the `old_id` column entry by entry (`Recorded`).
-/
import Atomman.C15
import Proofs.Linear3
import Proofs.Lists
import Mathlib.Data.List.Nodup

namespace Atomman.C15

theorem gather_append {α : Type} (l : List α) (a b : List Nat) :
    gather l (a ++ b) = gather l a ++ gather l b :=
  List.filterMap_append

theorem gather_cons {α : Type} (l : List α) (x : Nat) (t : List Nat) (a : α) (h : l[x]? = some a) :
    gather l (x :: t) = a :: gather l t := by
  simp only [gather, List.filterMap_cons, h]

theorem gather_single {α : Type} (l : List α) (i : Nat) (a : α) (h : l[i]? = some a) : gather l [i] = [a] :=
  gather_cons l i [] a h

theorem gather_getElem? {α : Type} (l : List α) (idx : List Nat) (h : ∀ x ∈ idx, x < l.length) (j : Nat) :
    (gather l idx)[j]? = (idx[j]?).bind (l[·]?) :=
  getElem?_filterMap_getElem? l idx h j

theorem gather_eraseIdx_range {α : Type} (l : List α) (i : Nat) :
    gather l ((List.range l.length).eraseIdx i) = l.eraseIdx i := by
  have key : ∀ k : Nat, ((List.range l.length)[k]?).bind (l[·]?) = l[k]? := by
    intro k
    by_cases hk : k < l.length
    · simp [hk]
    · simp [hk]
  apply List.ext_getElem?
  intro j
  rw [gather_getElem? l _ (fun x hx => List.mem_range.mp (List.mem_of_mem_eraseIdx hx)),
    List.getElem?_eraseIdx, List.getElem?_eraseIdx]
  split <;> exact key _

theorem gather_range {α : Type} (l : List α) : gather l (List.range l.length) = l := by
  simpa [gather] using filterMap_range_getElem? l id

theorem gather_front {α : Type} (l : List α) (i : Nat) (tail : List Nat) :
    gather l ((List.range l.length).eraseIdx i ++ tail) = l.eraseIdx i ++ gather l tail := by
  rw [gather_append, gather_eraseIdx_range]

theorem setLast_append_single {α : Type} (l : List α) (a : α) (f : α → α) :
    setLast (l ++ [a]) f = l ++ [f a] := by
  induction l with
  | nil => rfl
  | cons x t ih =>
    cases t with
    | nil => rfl
    | cons y u => simpa [setLast] using ih

theorem setLast_append_pair {α : Type} (l : List α) (x y : α) (f : α → α) :
    setLast (l ++ [x, y]) f = l ++ [x, f y] := by
  rw [List.append_cons, setLast_append_single, List.append_assoc]; rfl

theorem setLast_setLast {α : Type} (l : List α) (f g : α → α) :
    setLast (setLast l f) g = setLast l (fun a => g (f a)) := by
  rcases List.eq_nil_or_concat l with rfl | ⟨L, b, rfl⟩
  · rfl
  · simp only [List.concat_eq_append, setLast_append_single]

theorem setLast2_cons {α : Type} (x : α) (t : List α) (f : α → α) (h : 2 ≤ t.length) :
    setLast2 (x :: t) f = x :: setLast2 t f := by
  match t, h with
  | [_, _], _ => rfl
  | _ :: _ :: _ :: _, _ => rfl

theorem setLast2_append_pair {α : Type} (l : List α) (a b : α) (f : α → α) :
    setLast2 (l ++ [a, b]) f = l ++ [f a, b] := by
  induction l with
  | nil => rfl
  | cons x t ih => rw [List.cons_append, setLast2_cons _ _ _ (by simp), ih, List.cons_append]

theorem others_unchanged {α : Type} (l tail : List α) (i j : Nat) (hj : j + 1 < l.length) (hi : i < l.length) :
    (l.eraseIdx i ++ tail)[j]? = if j < i then l[j]? else l[j + 1]? := by
  rw [List.getElem?_append_left (by rw [List.length_eraseIdx, if_pos hi]; omega), List.getElem?_eraseIdx]

theorem length_eraseIdx_succ {α : Type} (l : List α) (i : Nat) (hi : i < l.length) :
    (l.eraseIdx i).length + 1 = l.length := by
  rw [List.length_eraseIdx, if_pos hi]; omega

theorem mem_front_lt (n i x : Nat) (hx : x ∈ (List.range n).eraseIdx i) : x < n :=
  List.mem_range.mp (List.mem_of_mem_eraseIdx hx)

/-- `ptd_id` is normalised the way Python reads `x[i]`: the shared `pyNorm`, whose lemmas say what it returns. -/
theorem normIdx_eq : @normIdx = pyNorm := by
  funext n i
  unfold normIdx pyNorm
  dsimp only
  -- the code shifts a negative index first and tests the range once; `pyNorm` tests the range on either side of zero
  by_cases hi : i < 0
  · rw [if_pos hi, if_neg (not_le.mpr hi)]
    by_cases h : 0 ≤ i + n
    · rw [if_pos h, if_neg (by omega)]
    · rw [if_neg h, if_pos (by omega)]
  · rw [if_neg hi, if_pos (not_lt.mp hi)]
    by_cases h : i < n
    · rw [if_pos h, if_neg (by omega)]
    · rw [if_neg h, if_pos (by omega)]

theorem normIdx_eq_some_iff (n : Nat) (k : Int) (i : Nat) :
    normIdx n k = some i ↔
      ((0 ≤ k ∧ k < (n : Int) ∧ (i : Int) = k) ∨ (k < 0 ∧ 0 ≤ k + (n : Int) ∧ (i : Int) = k + (n : Int))) := by
  rw [normIdx_eq, pyNorm_eq_some_iff]; omega

theorem normIdx_eq_none_iff (n : Nat) (k : Int) :
    normIdx n k = none ↔ (k ≥ (n : Int) ∨ k < -(n : Int)) := by
  rw [normIdx_eq, pyNorm_eq_none_iff, or_comm]

section any
variable {K : Type} [Add K] [Sub K] [Mul K] [Zero K] [IntCast K] [LT K] [DecidableLT K] [DecidableEq K]

theorem mem_siteMatches {s : Sys K} {p : V3 K} {atol : K} {i : Nat} :
    i ∈ siteMatches s p atol ↔ ∃ a, s.atoms[i]? = some a ∧ within s p atol a = true := by
  simp only [siteMatches, List.mem_filter, List.mem_range]
  cases ha : s.atoms[i]? with
  | none => simp
  -- the range condition `i < length` of the filter is what `s.atoms[i]? = some a` already says
  | some a => simpa using fun _ => (List.getElem?_eq_some_iff.mp ha).1

theorem siteMatches_eq_nil_iff (s : Sys K) (p : V3 K) (atol : K) :
    siteMatches s p atol = [] ↔ ∀ (j : Nat) b, s.atoms[j]? = some b → within s p atol b = false := by
  simp only [List.eq_nil_iff_forall_not_mem, mem_siteMatches, not_exists, not_and, Bool.not_eq_true]

theorem siteMatches_eq_singleton_iff (s : Sys K) (p : V3 K) (atol : K) (i : Nat) :
    siteMatches s p atol = [i] ↔
      (∃ a, s.atoms[i]? = some a ∧ within s p atol a = true) ∧
      ∀ j b, j ≠ i → s.atoms[j]? = some b → within s p atol b = false := by
  -- a filter of `List.range` lists every match once, so being `[i]` is a statement about membership
  have hnd : (siteMatches s p atol).Nodup := List.nodup_range.filter _
  rw [← List.perm_singleton, List.perm_ext_iff_of_nodup hnd (List.nodup_singleton i)]
  simp only [List.mem_singleton, mem_siteMatches]
  constructor
  · intro h
    refine ⟨(h i).mpr rfl, fun j b hne hb => ?_⟩
    cases hw : within s p atol b with
    | false => rfl
    | true => exact absurd ((h j).mp ⟨b, hb, hw⟩) hne
  · rintro ⟨hi, hu⟩ j
    refine ⟨fun ⟨b, hb, hw⟩ => ?_, fun hj => hj ▸ hi⟩
    by_contra hne
    rw [hu j b hne hb] at hw
    cases hw

theorem resolveSite_pos {s : Sys K} {p : V3 K} {scale : Bool} {atol : K} {i : Nat} :
    resolveSite s (some p) none scale atol = .ok i ↔ siteMatches s (toCart s scale p) atol = [i] := by
  simp only [resolveSite]
  split
  · rename_i k hk
    rw [hk, Except.ok.injEq, List.cons.injEq, and_iff_left rfl, eq_comm]
  · rename_i hne
    exact ⟨nofun, fun h => absurd h (hne i)⟩

theorem resolveSite_idx {s : Sys K} {k : Int} {scale : Bool} {atol : K} {i : Nat} :
    resolveSite s none (some k) scale atol = .ok i ↔ normIdx s.atoms.length k = some i := by
  simp only [resolveSite]
  cases normIdx s.atoms.length k <;> simp

theorem resolveSite_lt {s : Sys K} {pos : Option (V3 K)} {ptd : Option Int} {scale : Bool} {atol : K} {i : Nat}
    (h : resolveSite s pos ptd scale atol = .ok i) : i < s.atoms.length := by
  match pos, ptd with
  | some _, some _ => cases h
  | none, none => cases h
  | none, some k => exact pyNorm_lt (normIdx_eq ▸ resolveSite_idx.mp h)
  | some p, none =>
    obtain ⟨a, ha, _⟩ := mem_siteMatches.mp
      (by rw [resolveSite_pos.mp h]; exact List.mem_singleton_self i)
    exact (List.getElem?_eq_some_iff.mp ha).1

-- `rfl` lemmas that carry the instance arguments of this section although they use none
section
set_option linter.unusedSectionVars false
@[simp] theorem fixSym_atoms (s : Sys K) : (fixSym s).atoms = s.atoms := rfl
@[simp] theorem fixSym_old (s : Sys K) : (fixSym s).old = s.old := rfl
@[simp] theorem fixSym_box (s : Sys K) : (fixSym s).box = s.box := rfl
@[simp] theorem fixSym_pbc (s : Sys K) : (fixSym s).pbc = s.pbc := rfl
@[simp] theorem fixSym_keys (s : Sys K) : (fixSym s).keys = s.keys := rfl
end

theorem ok_eq_iff {ε α : Type} (x y : α) : (Except.ok x : Except ε α) = .ok y ↔ y = x := by
  rw [Except.ok.injEq, eq_comm]

/-! `vacancy_ok` … `dumbbell_ok`: when a call is accepted, and then exactly what it returns: `fixSym` of the input with the
  atoms of the index list (survivors in their order, the defect atom(s) last) and the `old_id` column of the same list. -/

theorem vacancy_ok {s s' : Sys K} {pos : Option (V3 K)} {ptd : Option Int} {scale : Bool} {atol : K} :
    vacancy s pos ptd scale atol = .ok s' ↔
      ∃ i, resolveSite s pos ptd scale atol = .ok i ∧ 2 ≤ s.atoms.length ∧
        s' = fixSym { s with atoms := s.atoms.eraseIdx i,
                             old := some (oldColumn s ((List.range s.atoms.length).eraseIdx i)) } := by
  unfold vacancy
  cases hr : resolveSite s pos ptd scale atol with
  | error e => simp
  | ok i =>
    have hi := resolveSite_lt hr
    have he : ((List.range s.atoms.length).eraseIdx i).isEmpty = true ↔ ¬ 2 ≤ s.atoms.length := by
      rw [List.isEmpty_iff_length_eq_zero, List.length_eraseIdx, List.length_range, if_pos hi]; omega
    simp only [vacancyAt, gather_eraseIdx_range, Except.ok.injEq, exists_eq_left']
    split_ifs with h
    · simp [he.mp h]
    · simp only [ok_eq_iff, not_not.mp (mt he.mpr h), true_and]

/-- the code builds the new atom as a copy of atom 0 (index list `range(natoms) + [0]`) and then overwrites it: hence an
    empty system is refused, an unrequested extra property is `zeros_like` of atom 0's value, and the default `old_id`
    is `max + 1` over the column that still contains the copy. -/
theorem interstitial_ok {s s' : Sys K} {pos : V3 K} {scale : Bool} {atol : K} {kw : Kw K} :
    interstitial s pos scale atol kw = .ok s' ↔
      siteMatches s (toCart s scale pos) atol = [] ∧ ∃ a0, s.atoms[0]? = some a0 ∧
        s' = fixSym { s with
          atoms := s.atoms ++ [{ atype := kw.atype.getD 1, pos := toCart s scale pos,
                                 props := overrideProps s.keys a0.props kw.extra zerosLike }],
          old := some (setLast (oldColumn s (List.range s.atoms.length ++ [0])) fun _ =>
            kw.oldId.getD (maxD (oldColumn s (List.range s.atoms.length ++ [0])) + 1)) } := by
  simp only [interstitial]
  cases hm : siteMatches s (toCart s scale pos) atol with
  | cons j t => simp
  | nil =>
    simp only [interstitialAt, true_and]
    cases hs : s.atoms with
    | nil => simp
    | cons a0 rest =>
      rw [← hs]
      have ha0 : s.atoms[0]? = some a0 := by rw [hs]; rfl
      have hne : s.atoms.isEmpty = false := by rw [hs]; rfl
      rw [gather_append, gather_range, gather_single s.atoms 0 a0 ha0, setLast_append_single]
      simp only [hne, ha0, Bool.false_eq_true, if_false, ok_eq_iff, Option.some.injEq, exists_eq_left']

theorem substitutional_ok {s s' : Sys K} {pos : Option (V3 K)} {ptd : Option Int} {scale : Bool} {atol : K}
    {kw : Kw K} :
    substitutional s pos ptd scale atol kw = .ok s' ↔
      ∃ i a, resolveSite s pos ptd scale atol = .ok i ∧ s.atoms[i]? = some a ∧ a.atype ≠ kw.atype.getD 1 ∧
        s' = fixSym { s with
          atoms := s.atoms.eraseIdx i ++
            [{ a with atype := kw.atype.getD 1, props := overrideProps s.keys a.props kw.extra id }],
          old := some (setLast (oldColumn s ((List.range s.atoms.length).eraseIdx i ++ [i])) fun o =>
            kw.oldId.getD o) } := by
  unfold substitutional
  cases hr : resolveSite s pos ptd scale atol with
  | error e => exact ⟨nofun, fun ⟨_, _, h, _⟩ => nomatch h⟩
  | ok i =>
    simp only [substitutionalAt, Except.ok.injEq, exists_and_left, exists_eq_left']
    cases ha : s.atoms[i]? with
    | none => exact ⟨nofun, fun ⟨_, h, _⟩ => nomatch h⟩
    | some a =>
      rw [gather_front, gather_single s.atoms i a ha, setLast_append_single]
      simp only [Option.some.injEq, exists_eq_left']
      split_ifs with ht
      · simp [ht]
      · simp only [ok_eq_iff, ne_eq, ht, not_false_eq_true, true_and]

theorem dumbbell_ok {s s' : Sys K} {pos : Option (V3 K)} {ptd : Option Int} {db : V3 K} {scale : Bool} {atol : K}
    {kw : Kw K} :
    dumbbell s pos ptd db scale atol kw = .ok s' ↔
      ∃ i a, resolveSite s pos ptd scale atol = .ok i ∧ s.atoms[i]? = some a ∧
        s' = fixSym { s with
          atoms := s.atoms.eraseIdx i ++
            [{ a with pos := a.pos - dbCart s scale db },
             { atype := kw.atype.getD a.atype, pos := a.pos + dbCart s scale db,
               props := overrideProps s.keys a.props kw.extra id }],
          old := some (setLast (oldColumn s ((List.range s.atoms.length).eraseIdx i ++ [i, i])) fun _ =>
            kw.oldId.getD (maxD (oldColumn s ((List.range s.atoms.length).eraseIdx i ++ [i, i])) + 1)) } := by
  unfold dumbbell
  cases hr : resolveSite s pos ptd scale atol with
  | error e => exact ⟨nofun, fun ⟨_, _, h, _⟩ => nomatch h⟩
  | ok i =>
    simp only [dumbbellAt, Except.ok.injEq, exists_and_left, exists_eq_left']
    cases ha : s.atoms[i]? with
    | none => exact ⟨nofun, fun ⟨_, h, _⟩ => nomatch h⟩
    | some a =>
      rw [gather_front, gather_cons s.atoms i [i] a ha, gather_single s.atoms i a ha, setLast2_append_pair,
        setLast_append_pair]
      simp only [ok_eq_iff, Option.some.injEq, exists_eq_left']

end any

section column
variable {K : Type}

theorem oldColumn_append (s : Sys K) (a b : List Nat) :
    oldColumn s (a ++ b) = oldColumn s a ++ oldColumn s b := by
  unfold oldColumn
  cases s.old with
  | none => exact List.map_append
  | some col => exact gather_append col a b

theorem oldAt_some (s : Sys K) (col : List Int) (h : s.old = some col) (j : Nat) : oldAt s j = col[j]? := by
  simp only [oldAt, h]

theorem oldAt_lt (s : Sys K) (hwf : WF s) (k : Nat) (hk : k < s.atoms.length) : ∃ v, oldAt s k = some v := by
  unfold oldAt
  unfold WF at hwf
  cases ho : s.old with
  | none => exact ⟨k, if_pos hk⟩
  | some col =>
    rw [ho] at hwf
    exact ⟨col[k]'(hwf ▸ hk), List.getElem?_eq_getElem _⟩

theorem oldColumn_single (s : Sys K) (i : Nat) (v : Int) (hv : oldAt s i = some v) : oldColumn s [i] = [v] := by
  unfold oldColumn
  unfold oldAt at hv
  cases ho : s.old with
  | none =>
    rw [ho] at hv
    split_ifs at hv
    cases hv; rfl
  | some col =>
    rw [ho] at hv
    exact gather_single col i v hv

theorem setLast_oldColumn_snoc (s : Sys K) (front : List Nat) (i : Nat) (v : Int) (hv : oldAt s i = some v)
    (f : Int → Int) : setLast (oldColumn s (front ++ [i])) f = oldColumn s front ++ [f v] := by
  rw [oldColumn_append, oldColumn_single s i v hv, setLast_append_single]

theorem setLast_oldColumn_pair (s : Sys K) (front : List Nat) (i : Nat) (v : Int) (hv : oldAt s i = some v)
    (f : Int → Int) : setLast (oldColumn s (front ++ [i, i])) f = oldColumn s front ++ [v, f v] := by
  rw [List.append_cons, setLast_oldColumn_snoc s _ i v hv, oldColumn_append, oldColumn_single s i v hv,
    List.append_assoc]
  rfl

theorem oldColumn_getElem? (s : Sys K) (hwf : WF s) (idx : List Nat) (h : ∀ x ∈ idx, x < s.atoms.length) (j : Nat) :
    (oldColumn s idx)[j]? = (idx[j]?).bind (oldAt s) := by
  unfold oldColumn oldAt
  unfold WF at hwf
  cases ho : s.old with
  | none =>
    rw [List.getElem?_map]
    cases hj : idx[j]? with
    | none => rfl
    | some k => exact (if_pos (h k (List.mem_of_getElem? hj))).symm
  | some col =>
    rw [ho] at hwf
    exact gather_getElem? col idx (fun x hx => hwf ▸ h x hx) j

/-- if the provenance entry `p` names atom `k` of `s`, the `old_id` entry `v` is the old index that `s` has for `k`. -/
def Recorded (s : Sys K) (p : Option Nat) (v : Int) : Prop :=
  ∀ k, p = some k → k < s.atoms.length ∧ oldAt s k = some v

theorem recorded_none (s : Sys K) (v : Int) : Recorded s none v := nofun

theorem recorded_some (s : Sys K) (k : Nat) (v : Int) (hk : k < s.atoms.length) (hv : oldAt s k = some v) :
    Recorded s (some k) v := by
  rintro _ ⟨⟩; exact ⟨hk, hv⟩

theorem recorded_front (s : Sys K) (hwf : WF s) :
    ∀ idx : List Nat, (∀ x ∈ idx, x < s.atoms.length) →
      List.Forall₂ (Recorded s) (idx.map some) (oldColumn s idx)
  | [], _ => by
    have : oldColumn s [] = [] := by unfold oldColumn; cases s.old <;> rfl
    rw [this]; exact .nil
  | x :: t, h => by
    have hx := h x List.mem_cons_self
    obtain ⟨v, hv⟩ := oldAt_lt s hwf x hx
    rw [← List.singleton_append, oldColumn_append, oldColumn_single s x v hv]
    exact .cons (recorded_some s x v hx hv) (recorded_front s hwf t fun y hy => h y (List.mem_cons_of_mem _ hy))

theorem oldColumn_length (s : Sys K) (hwf : WF s) (idx : List Nat) (h : ∀ x ∈ idx, x < s.atoms.length) :
    (oldColumn s idx).length = idx.length := by
  rw [← (recorded_front s hwf idx h).length_eq, List.length_map]

theorem forall₂_getElem? {α β : Type} {R : α → β → Prop} {l₁ : List α} {l₂ : List β} (h : List.Forall₂ R l₁ l₂)
    (j : Nat) (a : α) (ha : l₁[j]? = some a) : ∃ b, l₂[j]? = some b ∧ R a b := by
  induction h generalizing j with
  | nil => cases ha
  | cons hab _ ih =>
    cases j with
    | zero => cases ha; exact ⟨_, rfl, hab⟩
    | succ j => exact ih j ha

/-- `pv` maps the atoms of `s` to the atoms of `s0` they are (`none`: a created atom), and what `s` records as the old
    index of an atom is what `s0` records for the atom it is.  Identity (`provInv_init`) and composition
    (`provInv_trans`) have it, one accepted insertion too (`provInv_apply`, with the generators): so it holds along a history. -/
def ProvInv (s0 s : Sys K) (pv : List (Option Nat)) : Prop :=
  WF s ∧ pv.length = s.atoms.length ∧
  ∀ j k, pv[j]? = some (some k) → k < s0.atoms.length ∧ oldAt s j = oldAt s0 k

/-- a result whose column is related entry by entry to the provenance list. -/
theorem recorded_correct (s s' : Sys K) (pv : List (Option Nat)) (col : List Int) (hold : s'.old = some col)
    (hlen : pv.length = s'.atoms.length) (hrel : List.Forall₂ (Recorded s) pv col) : ProvInv s s' pv := by
  refine ⟨?_, hlen, fun j k hp => ?_⟩
  · unfold WF; rw [hold]; exact hrel.length_eq.symm.trans hlen
  · obtain ⟨v, hv, hr⟩ := forall₂_getElem? hrel j _ hp
    obtain ⟨hk, hk'⟩ := hr k rfl
    exact ⟨hk, by rw [oldAt_some s' col hold, hv, hk']⟩

theorem provInv_init (s0 : Sys K) (hwf : WF s0) : ProvInv s0 s0 (idProv s0) := by
  refine ⟨hwf, by simp [idProv], fun j k hp => ?_⟩
  -- entry `j` of the identity provenance is `some j`
  simp only [idProv, List.getElem?_map, Option.map_eq_some_iff, List.getElem?_eq_some_iff, List.getElem_range,
    List.length_range] at hp
  obtain ⟨_, ⟨hj, rfl⟩, hk⟩ := hp
  cases hk
  exact ⟨hj, rfl⟩

theorem provInv_trans (s0 s s' : Sys K) (pv st : List (Option Nat)) (hinv : ProvInv s0 s pv) (hst : ProvInv s s' st) :
    ProvInv s0 s' (composeProv pv st) := by
  obtain ⟨_, _, hmap⟩ := hinv
  obtain ⟨hwf', hplen, hstep⟩ := hst
  refine ⟨hwf', by simp [composeProv, hplen], fun j k hp => ?_⟩
  -- entry `j` of the composition is `pv[m]` for the entry `some m` of `st`
  simp only [composeProv, List.getElem?_map, Option.map_eq_some_iff, Option.bind_eq_some_iff,
    Option.join_eq_some_iff] at hp
  obtain ⟨_, ho, m, rfl, hpm⟩ := hp
  obtain ⟨_, h1⟩ := hstep j m ho
  obtain ⟨hk, h2⟩ := hmap m k hpm
  exact ⟨hk, h1.trans h2⟩

end column

theorem v3_add_x {K : Type} [Add K] (a b : V3 K) : (a + b).x = a.x + b.x := V3.add_x a b
theorem v3_add_y {K : Type} [Add K] (a b : V3 K) : (a + b).y = a.y + b.y := V3.add_y a b
theorem v3_add_z {K : Type} [Add K] (a b : V3 K) : (a + b).z = a.z + b.z := V3.add_z a b

end Atomman.C15
