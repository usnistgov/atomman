/-
  C18 — root of the property: the clauses restated on the definitions generated from the source (`Gen.gen_*`, tie in
  `C18_Gen`), and the examples at `K := ℚ` for all modules.  External routines are parameters throughout: the interpolant `f`
  (scipy Rbf), `lg` (log), `pi`, norms, the optimiser output `res` — every theorem holds for ALL of their values unless a
  hypothesis says otherwise.
-/
import Proofs.C18_Gamma
import Proofs.C18_Convert
import Proofs.C18_Elastic
import Proofs.C18_Object
import Proofs.C18_Refusals
import Proofs.C18_Profile
import Proofs.C18_Real
import Proofs.C18_Gen

namespace Atomman.C18
open Atomman
set_option linter.unusedSectionVars false

variable {K : Type} [Field K] [LinearOrder K] [IsStrictOrderedRing K]

/-- *The total energy is the sum of its documented terms, each equal to its formula*: `total_energy` of the source is the sum
    of the six term methods of the source (in the source's order), and each of those is the model's formula — misfit sum,
    elastic double sum with the χ/ψ kernel, long-range logarithm, both stress expressions reading the second row of `tau`,
    the nonlocal sum over any number of `α_m`, the surface contraction — for every profile, grid, setting and flag. -/
theorem source_total_is_sum_of_formulas (lg : K → K) (gam : V3 K → K) (s : Settings K) (τ : M3 K) (x : List K) (d : List (V3 K)) :
    Gen.gen_total_energy lg gam s τ x d
      = Gen.gen_misfit_energy gam s.T x d + Gen.gen_elastic_energy lg s.pi s.Kt s.cdiffelastic x d
        + Gen.gen_longrange_energy s.pi s.logL s.Kt s.burgers + Gen.gen_stress_energy s.fullstress s.cdiffstress τ x d
        + Gen.gen_nonlocal_energy s.αs x d + Gen.gen_surface_energy s.cdiffsurface s.β x d ∧
    Gen.gen_misfit_energy gam s.T x d = misfitEnergy gam s.T x d ∧
    Gen.gen_elastic_energy lg s.pi s.Kt s.cdiffelastic x d = elasticEnergy lg s.pi s.Kt s.cdiffelastic x d ∧
    Gen.gen_longrange_energy s.pi s.logL s.Kt s.burgers = longrangeEnergy s.pi s.logL s.Kt s.burgers ∧
    Gen.gen_stress_energy s.fullstress s.cdiffstress τ x d = stressEnergy s.fullstress s.cdiffstress τ.r1 x d ∧
    Gen.gen_nonlocal_energy s.αs x d = nonlocalEnergy s.αs x d ∧
    Gen.gen_surface_energy s.cdiffsurface s.β x d = surfaceEnergy s.cdiffsurface s.β x d :=
  ⟨rfl, gen_misfit_eq_model .., gen_elastic_eq_model .., gen_longrange_eq_model .., gen_stress_eq_model .., gen_nonlocal_eq_model ..,
    gen_surface_eq_model ..⟩

/-- *the elastic term is a symmetric quadratic form of the dislocation density*: the source's elastic term IS the
    symmetric bilinear form `elasticB` on the diagonal, evaluated at the source's own density. -/
theorem source_elastic_quadratic (lg : K → K) (pi : K) (Kt : M3 K) (hK : Kt.transpose = Kt) (cd : Bool) (x : List K) (d : List (V3 K)) :
    let ρ := (Gen.gen_disldensity cd x d).2
    Gen.gen_elastic_energy lg pi Kt cd x d
        = elasticB lg pi (gridStep x) Kt ρ.length (fun i => ρ.getD i v3zero) (fun i => ρ.getD i v3zero) ∧
      ∀ n (ρ σ : Nat → V3 K), elasticB lg pi (gridStep x) Kt n ρ σ = elasticB lg pi (gridStep x) Kt n σ ρ := by
  refine ⟨?_, fun n => elasticB_symm lg pi (gridStep x) Kt hK n⟩
  rw [gen_elastic_eq_model, gen_disldensity_eq_model]
  rfl

/-- *the elastic term is unchanged by a rigid shift of the disregistry*: for the source's density and the source's elastic term. -/
theorem source_shift_invariant (lg : K → K) (pi : K) (Kt : M3 K) (cd : Bool) (x : List K) (d : List (V3 K)) (c : V3 K) :
    Gen.gen_disldensity cd x (d.map (· + c)) = Gen.gen_disldensity cd x d ∧
    Gen.gen_elastic_energy lg pi Kt cd x (d.map (· + c)) = Gen.gen_elastic_energy lg pi Kt cd x d := by
  simp only [gen_disldensity_eq_model, gen_elastic_eq_model, density_shift_invariant, elastic_shift_invariant, and_self]

/-- each of the seven methods with the arguments resolved by the SOURCE's default block (`gen_args`), term by term from the source:
    the value of the model's `Obj.call` for every subset of `(x, disregistry)` (stress row `tau[1, :]`). -/
theorem source_call (lg : K → K) (gam : V3 K → K) (o : Obj K) (τ : M3 K) (hτ : o.s.τ1 = τ.r1) (xo : Option (List K))
    (dO : Option (List (V3 K))) :
    let a := Gen.gen_args o.x o.d xo dO
    Gen.gen_total_energy lg gam o.s τ a.1 a.2 = o.call lg gam .total xo dO ∧
    Gen.gen_misfit_energy gam o.s.T a.1 a.2 = o.call lg gam .misfit xo dO ∧
    Gen.gen_elastic_energy lg o.s.pi o.s.Kt o.s.cdiffelastic a.1 a.2 = o.call lg gam .elastic xo dO ∧
    Gen.gen_stress_energy o.s.fullstress o.s.cdiffstress τ a.1 a.2 = o.call lg gam .stress xo dO ∧
    Gen.gen_nonlocal_energy o.s.αs a.1 a.2 = o.call lg gam .nonlocal xo dO ∧
    Gen.gen_surface_energy o.s.cdiffsurface o.s.β a.1 a.2 = o.call lg gam .surface xo dO ∧
    Gen.gen_disldensity o.s.cdiffelastic a.1 a.2 = o.density xo dO o.s.cdiffelastic := by
  simp only [gen_args_eq_model, gen_total_eq_model lg gam o.s τ hτ, gen_misfit_eq_model, gen_elastic_eq_model, gen_stress_eq_model,
    gen_nonlocal_eq_model, gen_surface_eq_model, gen_disldensity_eq_model, stressEnergyT, ← hτ]
  exact ⟨rfl, rfl, rfl, rfl, rfl, rfl, rfl⟩

/-- *solving leaves the two end disregistries fixed*, from the source's `decompose`: the `first` / `last` rows it hands to
    `recompose` are the end rows of the guess, and they are the end rows of what `solve` stores, for every optimiser output. -/
theorem source_solve_ends (res : List K) (d : List (V3 K)) (hd : d ≠ []) :
    (solveResult res d) = recompose res (Gen.gen_decompose d).2.1 (Gen.gen_decompose d).2.2 ∧
    (Gen.gen_decompose d).1 = decompose d ∧
    (solveResult res d).head? = d.head? ∧ (solveResult res d).getLast? = d.getLast? := by
  rw [gen_decompose_eq_model]
  exact ⟨rfl, rfl, solve_ends_fixed res d hd⟩

section
variable [FloorRing K]

/-- *periodic in both shift vectors*, with the wrap the SOURCE performs (`wrap_cushion`, one element): the blended value at the
    source's wrapped coordinates is unchanged by integer periods, for every interpolant and cushion. -/
theorem source_wrap_periodic (f : K → K → K) (c1 c2 a1 a2 : K) (n1 n2 : Int) :
    evalE f c1 c2 (Gen.gen_wrap_cushion Int.floor (a1 + n1) c1) (Gen.gen_wrap_cushion Int.floor (a2 + n2) c2)
      = evalE f c1 c2 (Gen.gen_wrap_cushion Int.floor a1 c1) (Gen.gen_wrap_cushion Int.floor a2 c2) := by
  simp only [gen_wrap_cushion_eq_model, wrap_add_int]

/-- the value `E_gsf` / `delta` compute at the source's own wrapped coordinates IS the model's `E` / `deltaEval`: every theorem about
    `E` (periodicity, interpolation, scaling, many points) is a theorem about the source's wrap followed by the blend. -/
theorem source_E_eq_model (f : K → K → K) (c1 c2 a1 a2 : K) :
    evalE f c1 c2 (Gen.gen_wrap_cushion Int.floor a1 c1) (Gen.gen_wrap_cushion Int.floor a2 c2) = E Int.floor f c1 c2 a1 a2 ∧
    f (Gen.gen_wrap_unit Int.floor Int.ceil a1) (Gen.gen_wrap_unit Int.floor Int.ceil a2) = deltaEval Int.floor Int.ceil f a1 a2 := by
  simp only [gen_wrap_cushion_eq_model, gen_wrap_unit_eq_model, E, deltaEval, and_self]

end

/-- *those conversions are mutual inverses*, the composite `pos_to_a12 ∘ a12_to_pos` with the source's `a12_to_pos`: `pos_to_a12` of the model undoes it and the
    out-of-plane assertion passes, for any box and any crystal vectors whose Cartesian images are not parallel. -/
theorem source_a12_pos_inverse (B : M3 K) (v1 v2 : V3 K) (h : V3.cross (cartOf v1 B) (cartOf v2 B) ≠ v3zero) (a1 a2 : K) :
    posToA12? (cartOf v1 B) (cartOf v2 B) (Gen.gen_a12_to_pos B v1 v2 a1 a2) = some (a1, a2) := by
  rw [gen_a12_to_pos_eq_model]
  exact (a12_pos_inverse (cartOf v1 B) (cartOf v2 B) h).1 (a1, a2)

/-- the same composite with BOTH functions as the source writes them: the source's `pos_to_a12` (solve in the basis `[A1, A2, c/|c|^½]`, tolerance
    `1e-6 max(1, |a1|, |a2|)`) applied to the source's `a12_to_pos` returns the fractional coordinates and never raises, in any
    box, for any non-parallel shift vectors; `rn` is any positive number with `rn⁴ = |A1 × A2|²` (what `norm ** 0.5` computes). -/
theorem source_conversions_inverse (rn : K) (B : M3 K) (v1 v2 : V3 K) (hrn : 0 < rn)
    (h4 : (rn * rn) * (rn * rn) = V3.dot (V3.cross (cartOf v1 B) (cartOf v2 B)) (V3.cross (cartOf v1 B) (cartOf v2 B)))
    (h : V3.cross (cartOf v1 B) (cartOf v2 B) ≠ v3zero) (a1 a2 : K) :
    Gen.gen_pos_to_a12 rn B v1 v2 (Gen.gen_a12_to_pos B v1 v2 a1 a2) = some (a1, a2) := by
  rw [gen_pos_to_a12_eq_model rn B v1 v2 _ hrn h4 h]
  exact source_a12_pos_inverse B v1 v2 h a1 a2

/-! ## examples at `K := ℚ`: the hypotheses of the theorems are satisfiable, conclusions computed -/


section nonvacuity

def exD : List (Node ℚ) := [⟨0, 0, 1⟩, ⟨0, 1/2, 2⟩, ⟨1/2, 0, 3⟩, ⟨1/2, 1/2, 4⟩, ⟨1, 0, 1⟩, ⟨1, 1/2, 2⟩]

/-- a function that reproduces the tiled data (period 1 in both arguments on the half-integer lattice). -/
def exF (a b : ℚ) : ℚ :=
  1 + (if (2 * a).num % 2 = 0 then 0 else 2) + (if (2 * b).num % 2 = 0 then 0 else 1)

/-- the fit of `exD`, evaluated once for the examples below. -/
theorem exD_fit : ∃ N, fitNodes? exD = some N ∧ N.length = 25 ∧ (∀ n ∈ N, exF n.a1 n.a2 = n.e) := by
  have h : (fitNodes? exD).map (fun N => (N.length, N.all (fun n => decide (exF n.a1 n.a2 = n.e)))) = some (25, true) := by
    decide +kernel
  cases hN : fitNodes? exD with
  | none => rw [hN] at h; cases h
  | some N =>
    simp only [hN, Option.map_some, Option.some.injEq, Prod.mk.injEq, List.all_eq_true, decide_eq_true_eq] at h
    exact ⟨N, rfl, h⟩

example : ∃ N, fitNodes? exD = some N ∧ N.length = 25 ∧ (∀ n ∈ N, exF n.a1 n.a2 = n.e) := exD_fit

theorem exD_mem : (⟨1/2, 0, 3⟩ : Node ℚ) ∈ shortData exD := List.mem_filter.mpr ⟨by simp [exD], by decide +kernel⟩

example : ∀ s ∈ shortData exD,
    ((s.a1 = 0 ∨ (1/4 : ℚ) ≤ s.a1) ∧ s.a1 < 1 - 1/4) ∧ ((s.a2 = 0 ∨ (1/4 : ℚ) ≤ s.a2) ∧ s.a2 < 1 - 1/4) := by
  decide +kernel

/-- and the conclusion is then a computation: `E` at the sampled shift (½, 0) is the datum 3, also one
    period away. -/
example : E Int.floor exF (1/4) (1/4) (1/2 + 1) (0 - 2) = 3 := by
  obtain ⟨N, hN, -, hf⟩ := exD_fit
  have h := E_interpolates_edge exD N exF (1/4) (1/4) hN hf (by norm_num) (by norm_num)
    (by decide +kernel) ⟨1/2, 0, 3⟩ exD_mem 1 (-2)
  simpa using h

-- hypothesis `hK` of the elastic theorems and `h` of the conversion theorems hold for:
example : (⟨⟨2, 1, 1⟩, ⟨1, 3, 2⟩, ⟨1, 2, 4⟩⟩ : M3 ℚ).transpose = ⟨⟨2, 1, 1⟩, ⟨1, 3, 2⟩, ⟨1, 2, 4⟩⟩ := by decide +kernel
example : V3.cross (⟨1, 0, 0⟩ : V3 ℚ) ⟨1/2, 1, 0⟩ ≠ v3zero := by decide +kernel


/-! hexagonal cell (vects not symmetric), default axis: both directions pass the guard and invert each other; an
    alternative in-plane axis satisfies the hypothesis of `E_interchangeable`; an out-of-plane axis is refused. -/
example : xyToPosApi (K := ℚ) ⟨3, 0, 0⟩ ⟨-3/2, 13/5, 0⟩ (39/5) 3 3 1 none (1, 2) = some ⟨1, 2, 0⟩ := by decide +kernel
example : posToXYApi (K := ℚ) ⟨3, 0, 0⟩ ⟨-3/2, 13/5, 0⟩ (39/5) 3 3 1 none ⟨1, 2, 0⟩ = some (1, 2) := by decide +kernel
example : V3.dot (⟨-3/2, 13/5, 0⟩ : V3 ℚ) (planeNormal ⟨3, 0, 0⟩ ⟨-3/2, 13/5, 0⟩ (39/5)) = 0
    ∧ (⟨-3/2, 13/5, 0⟩ : V3 ℚ) ≠ v3zero := by decide +kernel
example : posToXYApi (K := ℚ) ⟨3, 0, 0⟩ ⟨-3/2, 13/5, 0⟩ (39/5) 3 3 1 (some ⟨3, 0, 1⟩) ⟨1, 2, 0⟩ = none := by decide +kernel
example : EofQuery (K := ℚ) (fun a b => a + 10 * b) ⟨3, 0, 0⟩ ⟨-3/2, 13/5, 0⟩ (39/5) 3 3 1
    (.xy (3 * (1/2) + (-3/2) * (1/4), (13/5) * (1/4)) none) = some (1/2 + 10 * (1/4)) := by decide +kernel


/-- an edit history on one object: the long-range term follows the last cut-off written. -/
example : let o : Obj ℚ := ⟨⟨⟨⟨2, 0, 0⟩, ⟨0, 3, 0⟩, ⟨0, 0, 1⟩⟩, ⟨1, 0, 2⟩, ⟨⟨1, 0, 0⟩, ⟨0, 1, 0⟩, ⟨0, 0, 1⟩⟩, ⟨0, 0, 0⟩, [0],
      ⟨⟨0, 0, 0⟩, ⟨0, 0, 0⟩, ⟨0, 0, 0⟩⟩, 7, 3, true, false, true, false⟩, [], []⟩
    let o' := o.run [.setLogL 5, .solve { logL := some 2 } [], .setCdT true]
    longrangeEnergy o'.s.pi o'.s.logL o'.s.Kt o'.s.burgers = (2 * 1 + 1 * 4) * 2 / (2 * 3) ∧ o'.s.cdiffstress = true
      ∧ o'.s.cdiffelastic = false := by decide +kernel

/-- a one-sided call on an object with a stored profile: `stress_energy(disregistry=d2)` is evaluated on the stored
    grid with `d2` — different from the stored profile's value. -/
example : let o : Obj ℚ := ⟨⟨⟨⟨2, 0, 0⟩, ⟨0, 3, 0⟩, ⟨0, 0, 1⟩⟩, ⟨1, 0, 2⟩, ⟨⟨1, 0, 0⟩, ⟨0, 1, 0⟩, ⟨0, 0, 1⟩⟩, ⟨1, 0, 0⟩, [0],
      ⟨⟨0, 0, 0⟩, ⟨0, 0, 0⟩, ⟨0, 0, 0⟩⟩, 7, 3, false, false, true, false⟩, [0, 1, 2], [⟨0, 0, 0⟩, ⟨1, 0, 0⟩, ⟨2, 0, 0⟩]⟩
    o.call (fun _ => 0) (fun _ => 0) .stress none (some [⟨0, 0, 0⟩, ⟨3, 0, 0⟩, ⟨4, 0, 0⟩]) = 5 ∧
    o.call (fun _ => 0) (fun _ => 0) .stress none none = 2 ∧
    o.call (fun _ => 0) (fun _ => 0) .stress (some [0, 2, 4]) none = 4 := by decide +kernel

/-- reload of a used object: hexagonal basal data first, then monoclinic data through a model in other units. -/
example : let r1 : GsfRecord ℚ := ⟨⟨⟨3, 0, 0⟩, ⟨-3/2, 13/5, 0⟩, ⟨0, 0, 5⟩⟩, ⟨1, 0, 0⟩, ⟨0, 1, 0⟩, [0, 1/2], [0, 0], [1, 2], none⟩
    let r2 : GsfRecord ℚ := ⟨⟨⟨3, 0, 0⟩, ⟨0, 4, 0⟩, ⟨-5/4, 0, 5⟩⟩, ⟨1, 0, 0⟩, ⟨0, 0, 1⟩, [0, 1/2], [0, 0], [1, 2], some [3, 4]⟩
    let o := (GObj.mk r1).run [.set r1, .loadModel (1/16) 10 (GObj.model (1/16) 10 ⟨r2⟩)]
    o.posToA12? (o.a12ToPos (1/4, 3)) = some (1/4, 3) ∧ o.A2 = ⟨-5/4, 0, 5⟩ ∧ o.r.delta = some [3, 4] := by decide +kernel
example : vec4to3? (2/3 : ℚ) (-1/3) (-1/3) 0 = some ⟨1, 0, 0⟩ ∧ vec4to3? (1 : ℚ) 1 1 0 = none := by decide +kernel


example : posToA12? (V3.smul (1/1024 : Rat) ⟨3, 0, 0⟩) (V3.smul (1/1024) ⟨1, 2, 0⟩) (V3.smul (1/1024) ⟨5, 4, 0⟩) = some (1, 2) ∧
    posToA12? (⟨3, 0, 0⟩ : V3 Rat) ⟨1, 2, 0⟩ ⟨5, 4, 1/2⟩ = none ∧
    posToA12? (V3.smul (1/1024 : Rat) ⟨3, 0, 0⟩) (V3.smul (1/1024) ⟨1, 2, 0⟩) (V3.smul (1/1024) ⟨5, 4, 1/2⟩) = none ∧
    xvectOk (V3.smul (1/1024 : Rat) ⟨1, 0, 1/2⟩) ⟨0, 0, 1⟩ = false ∧ xvectOk (⟨0, 0, 0⟩ : V3 Rat) ⟨0, 0, 1⟩ = false := by decide +kernel

/-- non-vacuity: a non-symmetric stress array whose transpose gives another stress energy (Shen-Cheng form, two points). -/
example : stressEnergyT (K := ℚ) false false ⟨⟨0, 1, 0⟩, ⟨0, 0, 0⟩, ⟨0, 0, 0⟩⟩ [0, 1] [⟨1, 0, 0⟩, ⟨1, 0, 0⟩]
    ≠ stressEnergyT (K := ℚ) false false (M3.transpose ⟨⟨0, 1, 0⟩, ⟨0, 0, 0⟩, ⟨0, 0, 0⟩⟩) [0, 1] [⟨1, 0, 0⟩, ⟨1, 0, 0⟩] := by
  decide +kernel

/-- refusals, decided on concrete profiles: a uniform grid accepted, one point moved by 1e-4 of the step refused, a decreasing grid
    refused, one point `IndexError`; a profile with y at 1e-9 of its largest entry accepted, at 1e-6 refused. -/
example : xSetter? ([0, 1/4, 1/2, 3/4] : List ℚ) = none ∧ xSetter? ([0, 1/4, 1/2 + 1/40000, 3/4] : List ℚ) = some .xAssert ∧
    xSetter? ([3/4, 1/2, 1/4] : List ℚ) = some .xAssert ∧ xSetter? ([1] : List ℚ) = some .xIndex ∧
    dSetter? ([⟨0, 0, 0⟩, ⟨1, 1/1000000000, 0⟩, ⟨2, 0, 0⟩] : List (V3 ℚ)) = none ∧
    dSetter? ([⟨0, 0, 0⟩, ⟨1, 1/1000000, 0⟩, ⟨2, 0, 0⟩] : List (V3 ℚ)) = some .dAssert := by decide +kernel

/-! each theorem named below has its hypotheses discharged at `K := ℚ`; where the conclusion can be computed, the theorem is applied -/


/-- a non-constant energy functional for the descent example. -/
private def exEtot (d : List (V3 ℚ)) : ℚ := (d.map (fun v => v.z * v.z)).sum

private theorem half_ne_int (z : Int) : (1/2 : ℚ) ≠ z := by
  intro h
  have h2 : (2 : ℚ) * (1/2) = 2 * (z : ℚ) := by rw [h]
  have h3 : ((1 : Int) : ℚ) = ((2 * z : Int) : ℚ) := by push_cast; linarith
  have := Int.cast_injective (α := ℚ) h3
  omega

-- `wrap_loop_spec`: -1/4 = 7/4 - 2 lies in the window of the cushion 1/4
example : (-1/4 : ℚ) = wrap Int.floor (1/4) (7/4) :=
  wrap_loop_spec (1/4) (7/4) (-1/4) 2 (by norm_num) (by norm_num) (by norm_num)
-- `hgrid_of_uniform`: 0 < n, k < n
example : (0 : Nat) < 4 ∧ (3 : Nat) < 4 := by decide
-- `delta_periodic_offlattice`: off-lattice point (1/2, 1/2), non-constant f, periods (3, -2)
example : deltaEval Int.floor Int.ceil (fun a b : ℚ => a + 10 * b) (1/2 + (3 : Int)) (1/2 + (-2 : Int))
    = deltaEval Int.floor Int.ceil (fun a b : ℚ => a + 10 * b) (1/2) (1/2) :=
  delta_periodic_offlattice _ (1/2) (1/2) 3 (-2) half_ne_int half_ne_int
-- `delta_interpolates`: the sampled shift (1/2, 0) of `exD`
example : deltaEval Int.floor Int.ceil exF (1/2) 0 = 3 := by
  obtain ⟨N, hN, -, hf⟩ := exD_fit
  exact delta_interpolates exD N exF hN hf ⟨1/2, 0, 3⟩
    exD_mem (by norm_num) (by norm_num)
-- `pos_xy_inverse(_many)`: oblique plot axis X = (3, 4, 0) in the plane normal to (0, 0, 2), row normalisations 5, 5, 2
example : posToXY (xyTransform (⟨3, 4, 0⟩ : V3 ℚ) ⟨0, 0, 2⟩ 5 5 2) (xyToPos (xyTransform ⟨3, 4, 0⟩ ⟨0, 0, 2⟩ 5 5 2) (7, -3)) = (7, -3) :=
  (pos_xy_inverse (⟨3, 4, 0⟩ : V3 ℚ) ⟨0, 0, 2⟩ 5 5 2 (by norm_num) (by norm_num) (by norm_num) (by decide +kernel)
    (by decide +kernel) (by decide +kernel)).1 (7, -3)
-- `planeNormal_perp`, `a12_pos_inverse`, `xy_default_inverse`, `E_interchangeable`, `E_other_basis`: the hexagonal pair
example : V3.cross (⟨3, 0, 0⟩ : V3 ℚ) ⟨-3/2, 13/5, 0⟩ ≠ v3zero ∧ (39/5 : ℚ) ≠ 0 := by decide +kernel
-- `frameK_symmetric`: symmetric non-diagonal K, rotation by the 3-4-5 angle about z
example : kform (frameK (⟨⟨3/5, 4/5, 0⟩, ⟨-4/5, 3/5, 0⟩, ⟨0, 0, 1⟩⟩ : M3 ℚ) ⟨⟨2, 1, 1⟩, ⟨1, 3, 2⟩, ⟨1, 2, 4⟩⟩)
      (frameB ⟨⟨3/5, 4/5, 0⟩, ⟨-4/5, 3/5, 0⟩, ⟨0, 0, 1⟩⟩ ⟨1, 2, 3⟩) (frameB ⟨⟨3/5, 4/5, 0⟩, ⟨-4/5, 3/5, 0⟩, ⟨0, 0, 1⟩⟩ ⟨1, 2, 3⟩)
    = kform (⟨⟨2, 1, 1⟩, ⟨1, 3, 2⟩, ⟨1, 2, 4⟩⟩ : M3 ℚ) ⟨1, 2, 3⟩ ⟨1, 2, 3⟩ :=
  (frameK_symmetric (⟨⟨3/5, 4/5, 0⟩, ⟨-4/5, 3/5, 0⟩, ⟨0, 0, 1⟩⟩ : M3 ℚ) ⟨⟨2, 1, 1⟩, ⟨1, 3, 2⟩, ⟨1, 2, 4⟩⟩
    (by decide +kernel)).2 (by decide +kernel) ⟨1, 2, 3⟩
-- `elastic_polarization` / `elastic_scaling` / `elastic_symmetric_quadratic` / `source_elastic_quadratic`: the same symmetric K
example : elasticOfDensity (fun t : ℚ => t - 1) 3 (1/2) ⟨⟨2, 1, 1⟩, ⟨1, 3, 2⟩, ⟨1, 2, 4⟩⟩ ([⟨1, 0, 2⟩, ⟨0, 1, 1⟩].map (V3.smul 3))
    = 3 * 3 * elasticOfDensity (fun t : ℚ => t - 1) 3 (1/2) ⟨⟨2, 1, 1⟩, ⟨1, 3, 2⟩, ⟨1, 2, 4⟩⟩ [⟨1, 0, 2⟩, ⟨0, 1, 1⟩] :=
  elastic_scaling _ 3 (1/2) _ (by decide +kernel) 3 _
-- `stress_second_row_only`: two different stress tensors with the same second row
example : stressEnergyT (K := ℚ) true false ⟨⟨1, 2, 3⟩, ⟨4, 5, 6⟩, ⟨7, 8, 9⟩⟩ [0, 1, 2] [⟨0, 0, 0⟩, ⟨1, 0, 1⟩, ⟨2, 0, 0⟩]
    = stressEnergyT true false ⟨⟨0, 0, 0⟩, ⟨4, 5, 6⟩, ⟨-1, 0, 0⟩⟩ [0, 1, 2] [⟨0, 0, 0⟩, ⟨1, 0, 1⟩, ⟨2, 0, 0⟩] :=
  stress_second_row_only true false _ _ rfl _ _
-- `recompose_decompose` / `solve_not_raises_of_descent`: a 4-point guess with planar interior; a minimiser that descends
example : recompose (decompose ([⟨0, 1, 0⟩, ⟨1, 0, 5⟩, ⟨2, 0, 6⟩, ⟨3, 1, 0⟩] : List (V3 ℚ))) ⟨0, 1, 0⟩ ⟨3, 1, 0⟩
    = [⟨0, 1, 0⟩, ⟨1, 0, 5⟩, ⟨2, 0, 6⟩, ⟨3, 1, 0⟩] :=
  recompose_decompose (⟨0, 1, 0⟩ : V3 ℚ) ⟨3, 1, 0⟩ [⟨1, 0, 5⟩, ⟨2, 0, 6⟩] (by decide +kernel)
example : exEtot (solveResult [1, 2, 1, 1] (⟨0, 1, 0⟩ :: [⟨1, 0, 5⟩, ⟨2, 0, 6⟩] ++ [⟨3, 1, 0⟩]))
    ≤ exEtot (⟨0, 1, 0⟩ :: [⟨1, 0, 5⟩, ⟨2, 0, 6⟩] ++ [⟨3, 1, 0⟩]) :=
  solve_not_raises_of_descent exEtot ⟨0, 1, 0⟩ ⟨3, 1, 0⟩
    [⟨1, 0, 5⟩, ⟨2, 0, 6⟩] (by decide +kernel) [1, 2, 1, 1] (by decide +kernel)
-- `dSetter_accepts_planar` / `solve_result_accepted`
example : dSetter? ([⟨0, 0, 0⟩, ⟨1, 0, 5⟩, ⟨3, 0, 0⟩] : List (V3 ℚ)) = none :=
  dSetter_accepts_planar _ (by decide) (by decide +kernel)
example : dSetter? (solveResult [1, 2, 1, 1] ([⟨0, 0, 0⟩, ⟨1, 7, 5⟩, ⟨3, 0, 0⟩] : List (V3 ℚ))) = none :=
  solve_result_accepted _ _ (by decide +kernel) (by decide +kernel)
-- `gen_pos_to_a12_eq_model` / `source_conversions_inverse`: an oblique basis in a non-identity box (|A1 x A2| = 4 = rn^2)
example : Gen.gen_pos_to_a12 (K := ℚ) 2 ⟨⟨2, 0, 0⟩, ⟨1, 2, 0⟩, ⟨0, 0, 3⟩⟩ ⟨1, 0, 0⟩ ⟨0, 1, 0⟩
      (Gen.gen_a12_to_pos ⟨⟨2, 0, 0⟩, ⟨1, 2, 0⟩, ⟨0, 0, 3⟩⟩ ⟨1, 0, 0⟩ ⟨0, 1, 0⟩ (1/4) (-3)) = some (1/4, -3) :=
  source_conversions_inverse 2 _ _ _ (by norm_num) (by decide +kernel) (by decide +kernel) _ _
-- `gen_pos_to_a12_eq_model`: the unit square in the identity box (`c = (0, 0, 1)`, `rn = 1`); a lifted position is refused
example : Gen.gen_pos_to_a12 (K := ℚ) 1 M3.one ⟨1, 0, 0⟩ ⟨0, 1, 0⟩ ⟨1/4, 1/2, 0⟩ = some (1/4, 1/2) ∧
    Gen.gen_pos_to_a12 (K := ℚ) 1 M3.one ⟨1, 0, 0⟩ ⟨0, 1, 0⟩ ⟨1/4, 1/2, 1/1000⟩ = none := by decide +kernel
-- `gamma_reload_conversions`: its hypothesis on the monoclinic record of the reload example
example : V3.cross (cartOf (⟨1, 0, 0⟩ : V3 ℚ) ⟨⟨3, 0, 0⟩, ⟨0, 4, 0⟩, ⟨-5/4, 0, 5⟩⟩) (cartOf ⟨0, 0, 1⟩ ⟨⟨3, 0, 0⟩, ⟨0, 4, 0⟩, ⟨-5/4, 0, 5⟩⟩)
    ≠ v3zero := by decide +kernel
-- `arctan_normalized_end_length`: `atan` is a parameter (here the identity), x = [0, 1, 2], b = (9, 12, 0), pi = 3:
-- the raw end-to-end vector is (6, 8, 0), of length 10
example : V3.normSq ((pnArctanDisregistry (fun t : ℚ => t) 3 [0, 1, 2] ⟨9, 12, 0⟩ 0 1 true true 15 10).getLastD v3zero) = 15 * 15 :=
  arctan_normalized_end_length (fun t : ℚ => t) 3 [0, 1, 2] ⟨9, 12, 0⟩ 0 1 15 10 (by norm_num) _ rfl (by decide +kernel)
    (by decide +kernel)
-- `energy_state_only`: two objects with equal settings and different stored profiles
example : let s : Settings ℚ := ⟨⟨⟨2, 0, 0⟩, ⟨0, 3, 0⟩, ⟨0, 0, 1⟩⟩, ⟨1, 0, 2⟩, ⟨⟨1, 0, 0⟩, ⟨0, 1, 0⟩, ⟨0, 0, 1⟩⟩, ⟨1, 0, 0⟩, [0],
      ⟨⟨0, 0, 0⟩, ⟨0, 0, 0⟩, ⟨0, 0, 0⟩⟩, 7, 3, false, false, true, false⟩
    (Obj.mk s [0, 1] [⟨0, 0, 0⟩, ⟨1, 0, 0⟩]).total (fun _ => 0) (fun _ => 0) [0, 2] [⟨0, 0, 0⟩, ⟨3, 0, 0⟩]
      = (Obj.mk s [5] []).total (fun _ => 0) (fun _ => 0) [0, 2] [⟨0, 0, 0⟩, ⟨3, 0, 0⟩] :=
  (energy_state_only _ _ _ _ rfl _ _).2


end nonvacuity

end Atomman.C18
