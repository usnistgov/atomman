/-
  C07 — reading back the cells of a written table row, and what `tableRows` / `propCells` put into a row (ids, types,
  positions, converted properties), through the `mapM` inversions of Proofs/Lists.lean.
-/
import Proofs.C07_Exp
import Proofs.Lists

namespace Atomman.C07
open Atomman

theorem parseNum_fmtNum (f : Fmt) (q : ℚ) : parseNum? (fmtNum f q) = some (fmtVal f q) := by
  cases f with
  | fixed n => exact parseNum_fmtFixed q n
  | exp n => exact parseNum_fmtExp q n

theorem fixedVal_zero (n : Nat) : fixedVal 0 n = 0 := by
  have : roundDiv 0 1 = 0 := by decide
  simp [fixedVal, fixedScaled, this]

theorem fmtVal_zero (f : Fmt) : fmtVal f 0 = 0 := by
  cases f with
  | fixed n => exact fixedVal_zero n
  | exp n => simp [fmtVal, expVal]

theorem parseUnsigned_natTok (m : Nat) : parseUnsigned? (natTok m) = some ((m : Nat) : ℚ) := by
  have h := parseUnsigned_fixed m 0 0 (by norm_num)
  simpa using h

theorem parseNum_intTok (i : Int) : parseNum? (intTok i) = some (i : ℚ) := by
  unfold parseNum? intTok
  by_cases h : i < 0
  · rw [if_pos h, splitSign_minus]
    simp only [parseUnsigned_natTok, if_true, Option.some.injEq]
    exact (cast_of_nonpos i h.le).symm
  · rw [if_neg h, splitSign_of_digits _ (all_isDigit_natTok _)]
    simp only [parseUnsigned_natTok, Bool.false_eq_true, if_false, Option.some.injEq]
    exact (cast_of_nonneg i (not_lt.mp h)).symm

theorem parseNum_cellTok (f : Fmt) (c : Cell) : parseNum? (c.tok f) = some (c.val f) := by
  cases c with
  | int i => exact parseNum_intTok i
  | num q => exact parseNum_fmtNum f q

theorem mapM_parseNum_row (f : Fmt) (row : List Cell) :
    (row.map (Cell.tok f)).mapM parseNum? = some (row.map (Cell.val f)) :=
  mapM_option_map _ _ _ row fun c _ => parseNum_cellTok f c

theorem forall₂_range {β : Type} (P : Nat → β → Prop) (n : Nat) (r : List β)
    (h : List.Forall₂ P (List.range n) r) : r.length = n ∧ ∀ k (hk : k < r.length), P k r[k] := by
  have hl := h.length_eq
  simp only [List.length_range] at hl
  refine ⟨hl.symm, ?_⟩
  intro k hk
  have := List.forall₂_iff_get.mp h
  have h2 := this.2 k (by simp; omega) hk
  simpa using h2

theorem tableRows_spec (s : Sys) (u : Units) (ids : List Int) (pos : List (V3 ℚ)) (cols : List ColSpec)
    (extra : List (List Cell)) (rows : List (List Cell)) (h : tableRows s u ids pos cols extra = .ok rows) :
    rows.length = s.natoms ∧
    ∀ k (hk : k < rows.length), ∃ cells, List.Forall₂ (fun c cs => propCells s u ids pos c k = .ok cs) cols cells ∧
      rows[k] = cells.flatten ++ (extra[k]?).getD [] := by
  unfold tableRows at h
  have h2 := forall₂_range _ _ _ (mapM_except_ok h)
  refine ⟨h2.1, fun k hk => ?_⟩
  obtain ⟨cells, hc, h3⟩ := bind_ok (h2.2 k hk)
  exact ⟨cells, mapM_except_ok hc, (Except.ok.inj h3).symm⟩

theorem propCells_id (s : Sys) (u : Units) (ids : List Int) (pos : List (V3 ℚ)) (c : ColSpec) (k : Nat)
    (hc : c.prop = "a_id" ∨ c.prop = "atom_id") (cs : List Cell) (h : propCells s u ids pos c k = .ok cs) :
    ∃ i, ids[k]? = some i ∧ cs = [.int i] := by
  unfold propCells at h
  rw [if_pos hc] at h
  cases hi : ids[k]? with
  | none => rw [hi] at h; cases h
  | some i =>
    rw [hi] at h
    simp only [exceptSimp, Except.ok.injEq] at h
    exact ⟨i, rfl, h.symm⟩

theorem propCells_atype (s : Sys) (u : Units) (ids : List Int) (pos : List (V3 ℚ)) (c : ColSpec) (k : Nat)
    (hc : c.prop = "atype") (cs : List Cell) (h : propCells s u ids pos c k = .ok cs) :
    ∃ t, s.atype[k]? = some t ∧ cs = [.int t] := by
  unfold propCells at h
  rw [if_neg (by rw [hc]; decide), if_pos hc] at h
  cases hi : s.atype[k]? with
  | none => rw [hi] at h; cases h
  | some i =>
    rw [hi] at h
    simp only [exceptSimp, Except.ok.injEq] at h
    exact ⟨i, rfl, h.symm⟩

theorem convert_kind_ok (u : Units) (kd : String) (q r : ℚ) (h : convert u (.kind kd) q = .ok r) :
    ∃ fo, u.factor? kd = some fo ∧ r = divBy fo q := by
  unfold convert at h
  simp only at h
  cases hf : u.factor? kd with
  | none => rw [hf] at h; cases h
  | some fo =>
    rw [hf] at h
    cases fo <;> exact ⟨_, rfl, (Except.ok.inj h).symm⟩

/-- a column other than id and type: the raw values `v` are the three coordinates or the stored row of the
    property, as many as the column has names; the cells follow from `v` by the unit rule. -/
theorem propCells_plain {s : Sys} {u : Units} {ids : List Int} {pos : List (V3 ℚ)} {c : ColSpec} {k : Nat}
    {cs : List Cell} (hid : ¬(c.prop = "a_id" ∨ c.prop = "atom_id")) (hat : c.prop ≠ "atype")
    (h : propCells s u ids pos c k = .ok cs) :
    ∃ isInt v, v.length = c.names.length ∧
      ((isPosLike c.prop = true ∧ isInt = false ∧ ∃ p, pos[k]? = some p ∧ v = [p.x, p.y, p.z]) ∨
       (isPosLike c.prop = false ∧ ∃ col, s.prop? c.prop = some col ∧ col.vals[k]? = some v ∧ isInt = col.isInt)) ∧
      ∀ spec, (if c.prop = "spos" ∨ c.prop = "supos" then UnitSpec.scaled else c.unit) = spec →
        match spec with
        | .none => cs = v.map fun q => if isInt then .int q.floor else .num q
        | .scaled => ∃ a b cc, v = [a, b, cc] ∧
            cs = [.num (s.box.cartToRel ⟨a, b, cc⟩).x, .num (s.box.cartToRel ⟨a, b, cc⟩).y, .num (s.box.cartToRel ⟨a, b, cc⟩).z]
        | .kind kd => ∃ w, v.mapM (convert u (.kind kd)) = .ok w ∧ cs = w.map .num := by
  unfold propCells at h
  rw [if_neg hid, if_neg hat] at h
  simp only at h
  split at h
  · cases h
  · rename_i isInt v hraw
    split at h
    · cases h
    · rename_i hlen
      refine ⟨isInt, v, not_not.mp hlen, ?_, ?_⟩
      · by_cases hp : isPosLike c.prop = true
        · rw [if_pos hp] at hraw
          obtain ⟨p, hk, e⟩ := Option.map_eq_some_iff.mp hraw
          cases e
          exact .inl ⟨hp, rfl, p, hk, rfl⟩
        · rw [if_neg hp] at hraw
          split at hraw
          · rename_i col hcol
            obtain ⟨v', hk, e⟩ := Option.map_eq_some_iff.mp hraw
            cases e
            exact .inr ⟨by simpa using hp, col, hcol, hk, rfl⟩
          · cases hraw
      · rintro spec rfl
        split at h
        · rename_i hs; rw [hs]; exact (Except.ok.inj h).symm
        · rename_i hs; rw [hs]
          split at h
          · cases h; exact ⟨_, _, _, rfl, rfl⟩
          · cases h
        · rename_i kd hs; rw [hs]
          obtain ⟨w, hw, e⟩ := bind_ok h
          exact ⟨w, hw, (Except.ok.inj e).symm⟩

theorem propCells_pos (s : Sys) (u : Units) (ids : List Int) (pos : List (V3 ℚ)) (c : ColSpec) (k : Nat)
    (hc : c.prop = "pos") (hu : c.unit = .kind "length") (cs : List Cell)
    (h : propCells s u ids pos c k = .ok cs) :
    ∃ p fo, pos[k]? = some p ∧ u.factor? "length" = some fo ∧
      cs = [.num (divBy fo p.x), .num (divBy fo p.y), .num (divBy fo p.z)] := by
  obtain ⟨_, v, _, hraw, hcs⟩ := propCells_plain (by rw [hc]; decide) (by rw [hc]; decide) h
  obtain ⟨w, hw, rfl⟩ := hcs (.kind "length") (by rw [if_neg (by rw [hc]; decide), hu])
  rcases hraw with ⟨_, _, p, hp, rfl⟩ | ⟨hpl, _⟩
  · cases mapM_except_ok hw with
    | cons hx h1 => cases h1 with
      | cons hy h2 => cases h2 with
        | cons hz h3 =>
          cases h3
          obtain ⟨fo, hfo, rfl⟩ := convert_kind_ok u _ _ _ hx
          obtain ⟨fo2, hfo2, rfl⟩ := convert_kind_ok u _ _ _ hy
          obtain ⟨fo3, hfo3, rfl⟩ := convert_kind_ok u _ _ _ hz
          cases hfo.symm.trans hfo2
          cases hfo.symm.trans hfo3
          exact ⟨p, fo, hp, hfo, rfl⟩
  · rw [hc] at hpl; exact absurd hpl (by decide)

/-- the id and type columns give one cell whatever their names; `h1` asks that they have one name, so that cells and
    names are equally many. -/
theorem propCells_length (s : Sys) (u : Units) (ids : List Int) (pos : List (V3 ℚ)) (c : ColSpec) (k : Nat)
    (h1 : (c.prop = "a_id" ∨ c.prop = "atom_id" ∨ c.prop = "atype") → c.names.length = 1)
    (cs : List Cell) (h : propCells s u ids pos c k = .ok cs) : cs.length = c.names.length := by
  by_cases hid : c.prop = "a_id" ∨ c.prop = "atom_id"
  · obtain ⟨i, _, rfl⟩ := propCells_id s u ids pos c k hid cs h
    rw [h1 (by tauto)]; rfl
  · by_cases hat : c.prop = "atype"
    · obtain ⟨i, _, rfl⟩ := propCells_atype s u ids pos c k hat cs h
      rw [h1 (by tauto)]; rfl
    · obtain ⟨_, v, hlen, _, hcs⟩ := propCells_plain hid hat h
      have hcs := hcs _ rfl
      split at hcs
      · rw [hcs, List.length_map, hlen]
      · obtain ⟨a, b, cc, rfl, rfl⟩ := hcs
        rw [← hlen]; rfl
      · obtain ⟨w, hw, rfl⟩ := hcs
        rw [List.length_map, ← (mapM_except_ok hw).length_eq, hlen]

end Atomman.C07
