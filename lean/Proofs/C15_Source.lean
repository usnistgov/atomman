/-
  C15 — the checked source tie.  `Atomman/Generated/PointSource.lean` is regenerated on every check from the
  current `atomman/defect/point.py` (statement by statement, with `ast`); here every regenerated function is
  proved equal to the hand model of `Atomman/C15.lean`, about which the property theorems speak.  A source edit that
  changes behaviour breaks one of the `gen_…_eq_model` obligations.
-/
import Proofs.C15_Lemmas
import Atomman.Generated.PointSource

namespace Atomman.C15
open Atomman.Generated

/-- signatures and defaults of the five functions are the ones the model's entry points assume. -/
theorem gen_signatures_eq_model : PointSource.signatures = signatures := rfl
/-- the default tolerance is `0.01 angstrom` in all four generators. -/
theorem gen_dflt_eq_model : PointSource.dfltLiterals = dfltLiterals := rfl
/-- the exception classes, in source order. -/
theorem gen_raises_eq_model : PointSource.raiseClasses = raiseClasses := rfl

section prims
variable {K : Type}

theorem sliced_ok (s : Sys K) (idx : List Nat) (h : ∀ x ∈ idx, x < s.atoms.length) (hne : idx ≠ []) :
    sliced s idx = .ok { s with atoms := gather s.atoms idx, old := s.old.map (gather · idx) } := by
  unfold sliced
  have h1 : idx.any (fun i => decide (s.atoms.length ≤ i)) = false := by
    rw [List.any_eq_false]
    intro x hx
    have := h x hx
    simp; omega
  have h2 : idx.isEmpty = false := by cases idx <;> simp_all
  simp [h1, h2]

theorem sliced_index (s : Sys K) (idx : List Nat) (x : Nat) (hx : x ∈ idx) (h : s.atoms.length ≤ x) :
    sliced s idx = .error .index := by
  unfold sliced
  have h1 : idx.any (fun i => decide (s.atoms.length ≤ i)) = true := by
    rw [List.any_eq_true]
    exact ⟨x, hx, by simpa using h⟩
  simp [h1]

theorem sliced_empty (s : Sys K) : sliced s [] = .error .value := by
  simp [sliced]

theorem idx_lt (n i : Nat) (tail : List Nat) (ht : ∀ x ∈ tail, x < n) :
    ∀ x ∈ (List.range n).eraseIdx i ++ tail, x < n :=
  fun x hx => (List.mem_append.mp hx).elim (mem_front_lt n i x) (ht x)

theorem ensureOld_eq (s : Sys K) (idx : List Nat) (A : List (Atom K)) :
    (if hasOldId ({ s with atoms := A, old := s.old.map (gather · idx) } : Sys K) = false
      then setOldColumn ({ s with atoms := A, old := s.old.map (gather · idx) } : Sys K) idx
      else ({ s with atoms := A, old := s.old.map (gather · idx) } : Sys K))
    = { s with atoms := A, old := some (oldColumn s idx) } := by
  cases ho : s.old <;> simp [hasOldId, setOldColumn, oldColumn, ho]

theorem count_zero_iff (kw : Kw K) : (((kw.count : Nat) : Int) = (0 : Int)) ↔ kw.isEmpty = true := by
  simp only [Kw.count, Kw.isEmpty, Int.natCast_eq_zero, Nat.add_eq_zero_iff, ite_eq_right_iff, Nat.one_ne_zero,
    imp_false, Bool.and_eq_true, Option.isNone_iff_eq_none, Option.not_isSome_iff_eq_none, List.length_eq_zero_iff,
    List.isEmpty_iff]

/-- the closing guard as written, `if atype[-1] < 1: raise`, where the last type is the requested one or else a
    valid type `t`. -/
theorem atypeOk_getD (kw : Kw K) (t : Int) (ht : 1 ≤ t) : kw.atype.getD t < 1 ↔ kw.atypeOk = false := by
  cases h : kw.atype with
  | none => simpa [Kw.atypeOk, h] using ht
  | some u => simp [Kw.atypeOk, h]

theorem guard_getD (kw : Kw K) (t : Int) (ht : 1 ≤ t) (X : Sys K) :
    (if kw.atype.getD t < 1 then (Except.error Err.value : Except Err (Sys K)) else .ok X) = guardAtype kw (.ok X) := by
  simp only [guardAtype, atypeOk_getD kw t ht]
  cases kw.atypeOk <;> rfl

end prims

section any
variable {K : Type} [Add K] [Sub K] [Mul K] [Zero K] [IntCast K] [LT K] [DecidableLT K] [DecidableEq K]

set_option linter.unusedSectionVars false in
theorem lastAtype_append (d : Sys K) (l : List (Atom K)) (a : Atom K) (h : d.atoms = l ++ [a]) :
    lastAtype d = .ok a.atype := by
  simp [lastAtype, h]

theorem hits_one (h : List Nat) :
    (((1 : Int) = (1 : Int)) ∧ (((h.length : Nat) : Int) = (1 : Int))) ↔ ∃ i, h = [i] := by
  simp only [true_and, Nat.cast_eq_one, List.length_eq_one_iff]

/-- the `pos` / `ptd_id` block as compiled from the source is `resolveSite`. -/
theorem gen_vacancy_site_eq_model (s : Sys K) (pos : Option (V3 K)) (ptd : Option Int) (scale : Bool) (atol : K) :
    PointSource.vacancy_ptd_id s pos ptd scale atol = resolveSite s pos ptd scale atol := by
  unfold PointSource.vacancy_ptd_id
  cases pos with
  | some p =>
    cases ptd with
    | some k => rfl
    | none =>
      simp only [resolveSite, toCart]
      generalize siteMatches s (if scale = true then s.box.relToCart p else p) atol = hits
      rcases hits with _ | ⟨i, _ | ⟨j, t⟩⟩
      · rfl
      · rfl
      · simp; omega
  | none =>
    cases ptd with
    | none => rfl
    | some k =>
      simp only [resolveSite, normIdx]
      split_ifs <;> rfl

/-- the generated blocks of `substitutional` and `dumbbell` are the term of `vacancy_ptd_id` (point.py repeats the block), so this
    and the next are that theorem. -/
theorem gen_substitutional_site_eq_model (s : Sys K) (pos : Option (V3 K)) (ptd : Option Int) (t : Int) (scale : Bool)
    (atol : K) (kw : Kw K) :
    PointSource.substitutional_ptd_id s pos ptd t scale atol kw = resolveSite s pos ptd scale atol :=
  gen_vacancy_site_eq_model s pos ptd scale atol

theorem gen_dumbbell_site_eq_model (s : Sys K) (pos : Option (V3 K)) (ptd : Option Int) (db : V3 K) (scale : Bool)
    (atol : K) (kw : Kw K) :
    PointSource.dumbbell_ptd_id s pos ptd db scale atol kw = resolveSite s pos ptd scale atol :=
  gen_vacancy_site_eq_model s pos ptd scale atol

/-- **`vacancy` as written in point.py is the model's `vacancyC`**, for every input. -/
theorem gen_vacancy_eq_model (dflt : K) (s : Sys K) (pos : Option (V3 K)) (ptd : Option Int) (scale : Bool)
    (atol : Option K) :
    PointSource.vacancy dflt s pos ptd scale atol = vacancyC dflt s pos ptd scale atol := by
  -- `atol=None` is resolved first and the tolerance read only afterwards: one proof for an explicit tolerance, and
  -- `None` is that call with the default (here and in the three generators below)
  have key : ∀ tol : K, PointSource.vacancy dflt s pos ptd scale (some tol) = vacancy s pos ptd scale tol := by
    intro tol
    unfold PointSource.vacancy vacancy
    dsimp only []
    rw [gen_vacancy_site_eq_model]
    cases resolveSite s pos ptd scale tol with
    | error e => rfl
    | ok i =>
      dsimp only []
      unfold vacancyAt
      by_cases he : ((List.range s.atoms.length).eraseIdx i).isEmpty = true
      · have : (List.range s.atoms.length).eraseIdx i = [] := by simpa using he
        simp [this, sliced_empty]
      · have hne : (List.range s.atoms.length).eraseIdx i ≠ [] := by simpa using he
        rw [sliced_ok s _ (fun x hx => mem_front_lt _ _ x hx) hne]
        simp only [he]
        rw [ensureOld_eq]
        simp
  cases atol with
  | none => exact key dflt
  | some a => exact key a

theorem gen_interstitial_eq_model (dflt : K) (s : Sys K) (pos : V3 K) (scale : Bool) (atol : Option K) (kw : Kw K) :
    PointSource.interstitial dflt s pos scale atol kw = interstitialC dflt s pos scale atol kw := by
  have key : ∀ tol : K, PointSource.interstitial dflt s pos scale (some tol) kw = guardAtype kw (interstitial s pos scale tol kw) := by
    intro tol
    unfold PointSource.interstitial interstitial
    dsimp only [toCart]
    generalize siteMatches s (if scale = true then s.box.relToCart pos else pos) _ = hits
    generalize (if scale = true then s.box.relToCart pos else pos) = p
    rcases hits with _ | ⟨i, t⟩
    · simp only [List.length_nil]
      unfold interstitialAt
      rcases hs : s.atoms with _ | ⟨a0, rest⟩
      · have : sliced s [0] = .error .index :=
          sliced_index s _ 0 List.mem_cons_self (by rw [hs]; exact Nat.le_refl 0)
        simp [this, guardAtype]
      · have ha0 : s.atoms[0]? = some a0 := by rw [hs]; rfl
        have hpos : 0 < s.atoms.length := by rw [hs]; exact Nat.succ_pos _
        rw [← hs]
        have hidx : ∀ x ∈ List.range s.atoms.length ++ [0], x < s.atoms.length := fun x hx =>
          (List.mem_append.mp hx).elim List.mem_range.mp fun h => List.mem_singleton.mp h ▸ hpos
        have hso := sliced_ok s (List.range s.atoms.length ++ [0]) hidx (by simp)
        have hG : gather s.atoms (List.range s.atoms.length ++ [0]) = s.atoms ++ [a0] := by
          rw [gather_append, gather_range, gather_single s.atoms 0 a0 ha0]
        rw [hG] at hso
        have hne : s.atoms.isEmpty = false := by rw [hs]; rfl
        simp only [hso, ensureOld_eq, hG, hne]
        simp [setLastAtype, setLastPos, setLastOld, setLastExtras, setLast_append_single, lastAtype, guard_getD kw 1 (le_refl 1)]
    · exact if_pos fun h => absurd h.2 (by rw [List.length_cons]; omega)
  cases atol with
  | none => exact key dflt
  | some a => exact key a

/-- `atype` is a named parameter of `substitutional` (default 1), every other keyword arrives in `**kwargs`: the model's
    `kw` is split accordingly. -/
theorem gen_substitutional_eq_model (dflt : K) (s : Sys K) (pos : Option (V3 K)) (ptd : Option Int) (scale : Bool)
    (atol : Option K) (kw : Kw K) :
    PointSource.substitutional dflt s pos ptd (kw.atype.getD 1) scale atol { kw with atype := none }
      = substitutionalC dflt s pos ptd scale atol kw := by
  have key : ∀ tol : K, PointSource.substitutional dflt s pos ptd (kw.atype.getD 1) scale (some tol) { kw with atype := none }
      = guardAtype kw (substitutional s pos ptd scale tol kw) := by
    intro tol
    unfold PointSource.substitutional substitutional
    dsimp only []
    rw [gen_substitutional_site_eq_model]
    cases resolveSite s pos ptd scale _ with
    | error e => simp [guardAtype]
    | ok i =>
      dsimp only []
      unfold substitutionalAt atypeAt
      cases ha : s.atoms[i]? with
      | none => simp [guardAtype]
      | some a =>
        dsimp only []
        by_cases ht : a.atype = kw.atype.getD 1
        · simp [ht, guardAtype]
        · have hi : i < s.atoms.length := (List.getElem?_eq_some_iff.mp ha).1
          have hso := sliced_ok s _ (idx_lt _ i [i] fun x hx => List.mem_singleton.mp hx ▸ hi) (by simp)
          have hG : gather s.atoms ((List.range s.atoms.length).eraseIdx i ++ [i]) = s.atoms.eraseIdx i ++ [a] := by
            rw [gather_front, gather_single s.atoms i a ha]
          rw [hG] at hso
          simp only [ht, if_false, hso, ensureOld_eq]
          simp [setLastAtype, setLastOld, setLastExtras, setLast_append_single, lastAtype, guard_getD kw 1 (le_refl 1), hG]
  cases atol with
  | none => exact key dflt
  | some a => exact key a

/-- every atom of the system has a type `≥ 1` (what `Atoms` enforces: 'atype values < 1 not allowed'). -/
def ValidTypes (s : Sys K) : Prop := ∀ a ∈ s.atoms, 1 ≤ a.atype

/-- the closing guard as written tests `atype[-1]`, which without an `atype` keyword is the SITE atom's type, while the
    model's `guardAtype` looks at the keyword only; they agree when the site atom has a type `≥ 1` (`ValidTypes`, what
    `Atoms` enforces) — `guard_getD`. -/
theorem gen_dumbbell_eq_model (dflt : K) (s : Sys K) (hv : ValidTypes s) (pos : Option (V3 K)) (ptd : Option Int)
    (db : V3 K) (scale : Bool) (atol : Option K) (kw : Kw K) :
    PointSource.dumbbell dflt s pos ptd db scale atol kw = dumbbellC dflt s pos ptd db scale atol kw := by
  have key : ∀ tol : K, PointSource.dumbbell dflt s pos ptd db scale (some tol) kw = guardAtype kw (dumbbell s pos ptd db scale tol kw) := by
    intro tol
    unfold PointSource.dumbbell dumbbell
    dsimp only []
    rw [gen_dumbbell_site_eq_model]
    cases hr : resolveSite s pos ptd scale tol with
    | error e => simp [guardAtype]
    | ok i =>
      dsimp only [dbCart]
      generalize (if scale = true then M3.vecMul db s.box.vects else db) = d
      unfold dumbbellAt
      have hi := resolveSite_lt hr
      obtain ⟨a, ha⟩ : ∃ a, s.atoms[i]? = some a := ⟨_, List.getElem?_eq_getElem hi⟩
      have hat : 1 ≤ a.atype := hv a (List.mem_of_getElem? ha)
      simp only [ha]
      have hii : (List.range s.atoms.length).eraseIdx i ++ [i] ++ [i] = (List.range s.atoms.length).eraseIdx i ++ [i, i] :=
        List.append_assoc ..
      have hso := sliced_ok s _ (idx_lt _ i [i, i] fun x hx => by
        rcases List.mem_pair.mp hx with rfl | rfl <;> exact hi) (by simp)
      have hG : gather s.atoms ((List.range s.atoms.length).eraseIdx i ++ [i, i]) = s.atoms.eraseIdx i ++ [a, a] := by
        rw [gather_front, gather_cons s.atoms i [i] a ha, gather_single s.atoms i a ha]
      rw [hG] at hso
      simp only [hii, hso, ensureOld_eq, hG]
      simp [setLastAtype, setLastPos, setLast2Pos, setLastOld, setLastExtras, setLast_append_pair,
        setLast2_append_pair, lastAtype, guard_getD kw a.atype hat]
  cases atol with
  | none => exact key dflt
  | some a => exact key a

/-- **the dispatcher as written is the model's `pointC`**: same routing, same assertions in the same order, every
    keyword handed on (`atol` included), `atype` bound to `substitutional`'s named parameter.  `ValidTypes s` is used by
    the `'db'` branch alone (`gen_dumbbell_eq_model`); the other three hold for every system. -/
theorem gen_point_eq_model (dflt : K) (s : Sys K) (hv : ValidTypes s) (t : String) (pos : Option (V3 K))
    (ptd : Option Int) (db : Option (V3 K)) (scale : Bool) (atol : Option K) (kw : Kw K) :
    PointSource.point dflt s t pos ptd db scale atol kw = pointC dflt s t pos ptd db scale atol kw := by
  unfold PointSource.point pointC
  simp only [gen_vacancy_eq_model, gen_interstitial_eq_model, gen_substitutional_eq_model,
    gen_dumbbell_eq_model dflt s hv, count_zero_iff]
  -- the two chains test the same conditions spelt differently (`db_vect is None` / `db.isSome`, `len(kwargs) == 0` /
  -- `kw.isEmpty`): for every combination of absent and present arguments they are the same term
  cases db <;> cases ptd <;> cases pos <;> cases kw.isEmpty <;> rfl

end any
end Atomman.C15
