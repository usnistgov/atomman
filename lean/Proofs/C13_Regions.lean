/-
  C13 — boundary regions: the coded plane and cylinder tests against their squared forms (`belowCoded`, `PlaneSetOutside`,
  `CylinderOutside`), which atoms the boundary step re-types, the cylinder radius as the distance to the nearest face (`planeDist2`).
-/
import Proofs.C13_Systems
import Mathlib.Tactic.LinearCombination

namespace Atomman.C13
open Atomman
set_option linter.unusedSectionVars false

variable {K : Type} [Field K] [LinearOrder K] [IsStrictOrderedRing K]

theorem get_smul (c : K) (v : V3 K) (i : Nat) : (V3.smul c v).get i = c * v.get i := by
  exact V3.get_smul c v i

/-- `Plane.below(pos, inclusive=True)` as coded, for a plane of `box_boundary` / `array_boundary`: unit normal
    `nrm / s` (`s = |nrm|`), point `pt - w * nrm / s`. -/
def belowCoded (s w : K) (pl : V3 K × V3 K) (p : V3 K) : Prop :=
  V3.dot (V3.smul (1 / s) pl.1) p ≤ V3.dot (V3.smul (1 / s) pl.1) (pl.2 - V3.smul w (V3.smul (1 / s) pl.1))

theorem belowCoded_iff (s w : K) (pl : V3 K × V3 K) (p : V3 K) (hs : 0 < s) (hss : s * s = V3.normSq pl.1) :
    belowCoded s w pl p ↔ V3.dot pl.1 (p - pl.2) ≤ -(w * s) := by
  have hnn : V3.dot pl.1 pl.1 = s * s := hss.symm
  have e : V3.dot (V3.smul (1 / s) pl.1) (pl.2 - V3.smul w (V3.smul (1 / s) pl.1))
      = 1 / s * (V3.dot pl.1 pl.2 - w * s) := by
    rw [V3.dot_smul_left, V3.dot_sub, V3.dot_smul_right, V3.dot_smul_right, hnn]
    field_simp
  unfold belowCoded
  rw [e, V3.dot_smul_left, mul_le_mul_iff_right₀ (one_div_pos.mpr hs), V3.dot_sub]
  constructor <;> intro h <;> linarith

theorem outsidePlane_iff (s w : K) (pl : V3 K × V3 K) (p : V3 K) (hs : 0 < s) (hss : s * s = V3.normSq pl.1)
    (hw : 0 < w) : outsidePlane w pl p = true ↔ ¬ belowCoded s w pl p := by
  rw [belowCoded_iff s w pl p hs hss, not_le]
  unfold outsidePlane
  simp only [Bool.or_eq_true, decide_eq_true_eq]
  set g := V3.dot pl.1 (p - pl.2)
  have hws : 0 < w * s := mul_pos hw hs
  have e : w * w * V3.normSq pl.1 = (w * s) * (w * s) := by rw [← hss]; ring
  rw [e]
  rcases le_or_gt 0 g with h0 | h0
  · exact ⟨fun _ => by linarith, fun _ => Or.inl h0⟩
  · -- for negative `g` the squared test compares `-g` with `w s`
    have e' : g * g = (-g) * (-g) := by ring
    rw [e', ← mul_self_lt_mul_self_iff (by linarith) hws.le]
    constructor
    · rintro (h | h) <;> linarith
    · intro h; right; linarith

theorem outsideCyl_iff (L p : V3 K) (r l t : K) (hl : 0 < l) (hll : l * l = V3.normSq L) (ht : 0 ≤ t)
    (htt : t * t = V3.normSq (V3.cross p (V3.smul (1 / l) L))) (hr : 0 ≤ r) :
    outsideCyl L r p = true ↔ ¬ (t ≤ r) := by
  unfold outsideCyl
  simp only [decide_eq_true_eq, not_le]
  have e : V3.normSq (V3.cross p L) = t * t * (l * l) := by
    rw [htt]
    obtain ⟨L0, L1, L2⟩ := L
    obtain ⟨p0, p1, p2⟩ := p
    simp only [V3.normSq, V3.dot, V3.cross, V3.smul]
    have : l ≠ 0 := hl.ne'
    field_simp
  rw [e, ← hll, mul_lt_mul_iff_left₀ (mul_pos hl hl)]
  exact (mul_self_lt_mul_self_iff hr ht).symm

/-- squared distance of the Cartesian origin from the plane with (un-normalised) normal `pl.1` through `pl.2`. -/
def planeDist2 (pl : V3 K × V3 K) : K := V3.dot pl.1 pl.2 * V3.dot pl.1 pl.2 / V3.normSq pl.1

theorem min4_eq_min (a b c d : K) : min4 a b c d = min (min (min a b) c) d := by
  have m : ∀ x y : K, (if y < x then y else x) = min x y := fun x y => by
    rcases lt_or_ge y x with h | h
    · rw [if_pos h, min_eq_right h.le]
    · rw [if_neg (not_lt.mpr h), min_eq_left h]
  simp only [min4, m]

theorem min4_spec {α : Type} (f : α → K) (p1 p2 p3 p4 : α) :
    (∀ p ∈ [p1, p2, p3, p4], min4 (f p1) (f p2) (f p3) (f p4) ≤ f p) ∧
    ∃ p ∈ [p1, p2, p3, p4], min4 (f p1) (f p2) (f p3) (f p4) = f p := by
  rw [min4_eq_min]
  constructor
  · simp only [List.forall_mem_cons, List.not_mem_nil, false_imp_iff, implies_true, and_true, min_le_iff, le_refl,
      true_or, or_true]
  · rcases min_choice (min (min (f p1) (f p2)) (f p3)) (f p4) with h | h <;> rw [h]
    · rcases min_choice (min (f p1) (f p2)) (f p3) with h | h <;> rw [h]
      · rcases min_choice (f p1) (f p2) with h | h <;> rw [h]
        · exact ⟨p1, by simp, rfl⟩
        · exact ⟨p2, by simp, rfl⟩
      · exact ⟨p3, by simp, rfl⟩
    · exact ⟨p4, by simp, rfl⟩

theorem planeDist2_cross_comm (u v pt : V3 K) : planeDist2 (V3.cross u v, pt) = planeDist2 (V3.cross v u, pt) := by
  obtain ⟨u0, u1, u2⟩ := u
  obtain ⟨v0, v1, v2⟩ := v
  simp only [planeDist2, V3.cross, V3.dot, V3.normSq]
  congr 1 <;> ring

/-- a face containing the line direction `L = l e_line` and the vector `v`: its squared distance from the line through
    the origin equals the 2D distance of `lineDist2` in the `(m, n)` projection. -/
theorem planeDist2_face (mi ni line : Nat) (hperm : (mi, ni, line) ∈ [(0, 1, 2), (1, 0, 2), (0, 2, 1), (2, 0, 1), (1, 2, 0), (2, 1, 0)])
    (L v pt : V3 K) (hm : L.get mi = 0) (hn : L.get ni = 0) (hl : L.get line ≠ 0)
    (hv : (proj2 mi ni v).1 * (proj2 mi ni v).1 + (proj2 mi ni v).2 * (proj2 mi ni v).2 ≠ 0) :
    planeDist2 (V3.cross v L, pt) = lineDist2 (proj2 mi ni pt) (proj2 mi ni v) := by
  obtain ⟨lx, ly, lz⟩ := L
  obtain ⟨a, b, c⟩ := v
  obtain ⟨p, q, r⟩ := pt
  simp only [List.mem_cons, Prod.mk.injEq, List.mem_nil_iff, or_false] at hperm
  rcases hperm with ⟨rfl, rfl, rfl⟩ | ⟨rfl, rfl, rfl⟩ | ⟨rfl, rfl, rfl⟩ | ⟨rfl, rfl, rfl⟩ | ⟨rfl, rfl, rfl⟩ | ⟨rfl, rfl, rfl⟩ <;>
  · simp only [V3.get, proj2, OfNat.ofNat_ne_zero, OfNat.ofNat_ne_one, one_ne_zero, ↓reduceIte] at hm hn hl hv ⊢
    subst hm; subst hn
    simp only [planeDist2, lineDist2, cross2, V3.cross, V3.dot, V3.normSq, mul_zero, zero_mul, sub_zero, zero_sub, add_zero,
      zero_add]
    have hd := mul_ne_zero (mul_ne_zero hl hl) hv
    rw [div_eq_div_iff (by intro h; apply hd; linear_combination h) hv]
    ring

theorem proj2_add (mi ni : Nat) (a b : V3 K) :
    proj2 mi ni (a + b) = ((proj2 mi ni a).1 + (proj2 mi ni b).1, (proj2 mi ni a).2 + (proj2 mi ni b).2) :=
  Prod.ext (V3.get_add a b mi) (V3.get_add a b ni)

theorem cylSmallest2_eq (mi ni line : Nat) (b : Box K) :
    cylSmallest2 mi ni line b =
      min4 (lineDist2 (proj2 mi ni b.origin) (proj2 mi ni (b.vects.row ((line + 1) % 3))))
           (lineDist2 (proj2 mi ni b.origin) (proj2 mi ni (b.vects.row ((line + 2) % 3))))
           (lineDist2 (proj2 mi ni (b.origin + b.vects.row ((line + 2) % 3))) (proj2 mi ni (b.vects.row ((line + 1) % 3))))
           (lineDist2 (proj2 mi ni (b.origin + b.vects.row ((line + 1) % 3))) (proj2 mi ni (b.vects.row ((line + 2) % 3)))) := by
  simp only [cylSmallest2, proj2_add]

theorem mem_boxBoundaryPlanes (line : Nat) (hl : line < 3) (b : Box K) (pl : V3 K × V3 K) :
    pl ∈ boxBoundaryPlanes line b ↔
      pl ∈ [(V3.cross (b.vects.row ((line + 1) % 3)) (b.vects.row line), b.origin),
            (V3.cross (b.vects.row line) (b.vects.row ((line + 2) % 3)), b.origin),
            (V3.cross (b.vects.row line) (b.vects.row ((line + 1) % 3)), b.origin + b.vects.row ((line + 2) % 3)),
            (V3.cross (b.vects.row ((line + 2) % 3)) (b.vects.row line), b.origin + b.vects.row ((line + 1) % 3))] := by
  obtain ⟨⟨a, bb, c⟩, o⟩ := b
  obtain rfl | rfl | rfl : line = 0 ∨ line = 1 ∨ line = 2 := by omega
  all_goals
    show pl ∈ [_, _, _, _] ↔ _
    simp only [boxPlanes, List.getD_eq_getElem?_getD, List.getElem?_cons_succ, List.getElem?_cons_zero, Option.getD_some,
      M3.row, Nat.reduceAdd, Nat.reduceMod, OfNat.ofNat_ne_zero, OfNat.ofNat_ne_one, one_ne_zero,
      ↓reduceIte, List.mem_cons, List.mem_nil_iff, or_false]
    -- the coded order (faces `i`, `i + 3` of the two directions other than the line) is a permutation of the four faces
    -- as the right side lists them relative to `line`
    exact Iff.of_eq (by ac_rfl)

/-- `PlaneSet.outside(pos)` as coded: *not* below (inclusive) every plane, each plane having the unit normal
    `nrm / norm nrm` and passing through `pt - width * nrm / norm nrm`.  `norm` is `numpy.linalg.norm`. -/
def PlaneSetOutside (norm : V3 K → K) (width : K) (pls : List (V3 K × V3 K)) (p : V3 K) : Prop :=
  ¬ ∀ pl ∈ pls, belowCoded (norm pl.1) width pl p

theorem outsidePlanes_iff (norm : V3 K → K) (width : K) (hw : 0 < width) (pls : List (V3 K × V3 K))
    (hn : ∀ pl ∈ pls, 0 < norm pl.1 ∧ norm pl.1 * norm pl.1 = V3.normSq pl.1) (p : V3 K) :
    outsidePlanes width pls p = true ↔ PlaneSetOutside norm width pls p := by
  unfold outsidePlanes PlaneSetOutside
  rw [List.any_eq_true]
  push Not
  exact exists_congr fun pl => and_congr_right fun hpl =>
    outsidePlane_iff (norm pl.1) width pl p (hn pl hpl).1 (hn pl hpl).2 hw

/-- `Cylinder(0, L, radius, endcaps=False).outside(pos)` as coded: the distance from the axis
    `norm(cross(pos, L / norm L))` is not `<= radius`. -/
def CylinderOutside (norm : V3 K → K) (L : V3 K) (radius : K) (p : V3 K) : Prop :=
  ¬ (norm (V3.cross p (V3.smul (1 / norm L) L)) ≤ radius)

/-- with a positive width, an atom of the dislocation system is re-typed (by the
    reference system's `natypes`) exactly when its *displaced, wrapped* position is outside the region bounded by the
    four faces of the *reference* box across the line, each moved inwards by `width`; every other atom is unchanged. -/
theorem boundary_iff_outside_box (norm : V3 K → K) (sqrt : K → K) (o : Orient) (width : K) (hw : 0 < width) (nsym : Nat)
    (base disl d : Sys K) (h : monopoleBoundary sqrt o .box width nsym base disl = some d)
    (hn : ∀ pl ∈ boxBoundaryPlanes o.line base.box, 0 < norm pl.1 ∧ norm pl.1 * norm pl.1 = V3.normSq pl.1) :
    ∀ (i : Nat) (a : Atom K), disl.atoms[i]? = some a →
      (PlaneSetOutside norm width (boxBoundaryPlanes o.line base.box) a.pos →
        d.atoms[i]? = some { a with atype := a.atype + natypes nsym base.atoms }) ∧
      (¬ PlaneSetOutside norm width (boxBoundaryPlanes o.line base.box) a.pos → d.atoms[i]? = some a) := by
  unfold monopoleBoundary at h
  rw [if_pos hw] at h
  simp only [Option.some.injEq] at h
  subst h
  exact fun i a ha => retype_getElem?_iff _ _ _ i a ha (outsidePlanes_iff norm width hw _ hn a.pos)

/-- the radius is `sqrt(smallest²) - width` (refused when not positive;
    `cylRadius sqrt mi ni line` takes the axis of `m`, here `o.motion`, the axis of `n`, here `o.cut`, and the line); an atom
    is re-typed exactly when its displaced position is farther than the radius from the line through the Cartesian
    origin along the box vector of the dislocation line.  `norm` (`numpy.linalg.norm`) has to be the Euclidean length
    only on the vectors the code applies it to: the box vector along the line and `pos × axis` of every atom
    (asked of every `v` it could be met by no function on ℚ). -/
theorem boundary_iff_outside_cylinder (norm : V3 K → K) (sqrt : K → K) (o : Orient) (width : K) (hw : 0 < width)
    (nsym : Nat) (base disl d : Sys K) (h : monopoleBoundary sqrt o .cylinder width nsym base disl = some d)
    (hL : 0 < norm (base.box.vects.row o.line) ∧
      norm (base.box.vects.row o.line) * norm (base.box.vects.row o.line) = V3.normSq (base.box.vects.row o.line))
    (hn : ∀ a ∈ disl.atoms,
      0 ≤ norm (V3.cross a.pos (V3.smul (1 / norm (base.box.vects.row o.line)) (base.box.vects.row o.line))) ∧
      norm (V3.cross a.pos (V3.smul (1 / norm (base.box.vects.row o.line)) (base.box.vects.row o.line))) *
        norm (V3.cross a.pos (V3.smul (1 / norm (base.box.vects.row o.line)) (base.box.vects.row o.line)))
        = V3.normSq (V3.cross a.pos (V3.smul (1 / norm (base.box.vects.row o.line)) (base.box.vects.row o.line)))) :
    0 < cylRadius sqrt o.motion o.cut o.line base.box width ∧
    ∀ (i : Nat) (a : Atom K), disl.atoms[i]? = some a →
      (CylinderOutside norm (base.box.vects.row o.line) (cylRadius sqrt o.motion o.cut o.line base.box width) a.pos →
        d.atoms[i]? = some { a with atype := a.atype + natypes nsym base.atoms }) ∧
      (¬ CylinderOutside norm (base.box.vects.row o.line) (cylRadius sqrt o.motion o.cut o.line base.box width) a.pos →
        d.atoms[i]? = some a) := by
  unfold monopoleBoundary at h
  rw [if_pos hw] at h
  simp only at h
  split_ifs at h with hr
  simp only [Option.some.injEq] at h
  subst h
  refine ⟨hr, fun i a ha => retype_getElem?_iff _ _ _ i a ha ?_⟩
  have ha' := hn a (List.mem_of_getElem? ha)
  exact outsideCyl_iff _ a.pos _ _ _ hL.1 hL.2 ha'.1 ha'.2 hr.le

/-- no boundary without a positive width. -/
theorem boundary_zero_width (sqrt : K → K) (o : Orient) (shape : Shape) (width : K) (hw : ¬ 0 < width) (nsym : Nat)
    (base disl : Sys K) : monopoleBoundary sqrt o shape width nsym base disl = some disl := by
  unfold monopoleBoundary
  rw [if_neg hw]

/-- non-vacuity of the plane predicate: the face `x = 0` of a unit cube moved inwards by 1/4 (normal `(-1,0,0)`). -/
example : outsidePlane (1 / 4 : ℚ) (⟨-1, 0, 0⟩, ⟨0, 0, 0⟩) ⟨1 / 8, 1 / 2, 1 / 2⟩ = true ∧
    outsidePlane (1 / 4 : ℚ) (⟨-1, 0, 0⟩, ⟨0, 0, 0⟩) ⟨1 / 4, 1 / 2, 1 / 2⟩ = false := by
  decide +kernel

/-- for an aligned cell (the box vector of the dislocation line lies along its
    Cartesian axis) `smallest²` of `cylinder_boundary` is the squared distance from the dislocation line (through the
    Cartesian origin) to the nearest of the four faces across the two non-periodic directions - whatever the tilt of
    the other two box vectors: no face is closer, and one face is exactly that far. -/
theorem cylinder_radius_nearest_face (mi ni line : Nat)
    (hperm : (mi, ni, line) ∈ [(0, 1, 2), (1, 0, 2), (0, 2, 1), (2, 0, 1), (1, 2, 0), (2, 1, 0)]) (b : Box K)
    (hm : (b.vects.row line).get mi = 0) (hn : (b.vects.row line).get ni = 0) (hl : (b.vects.row line).get line ≠ 0)
    (hv1 : (proj2 mi ni (b.vects.row ((line + 1) % 3))).1 * (proj2 mi ni (b.vects.row ((line + 1) % 3))).1 +
      (proj2 mi ni (b.vects.row ((line + 1) % 3))).2 * (proj2 mi ni (b.vects.row ((line + 1) % 3))).2 ≠ 0)
    (hv2 : (proj2 mi ni (b.vects.row ((line + 2) % 3))).1 * (proj2 mi ni (b.vects.row ((line + 2) % 3))).1 +
      (proj2 mi ni (b.vects.row ((line + 2) % 3))).2 * (proj2 mi ni (b.vects.row ((line + 2) % 3))).2 ≠ 0) :
    (∀ pl ∈ boxBoundaryPlanes line b, cylSmallest2 mi ni line b ≤ planeDist2 pl) ∧
    ∃ pl ∈ boxBoundaryPlanes line b, cylSmallest2 mi ni line b = planeDist2 pl := by
  have hline : line < 3 := by
    simp only [List.mem_cons, Prod.mk.injEq, List.mem_nil_iff, or_false] at hperm
    omega
  have face := fun v pt hv => planeDist2_face mi ni line hperm (b.vects.row line) v pt hm hn hl hv
  -- each of the four 2D distances is the distance of a face
  rw [cylSmallest2_eq, ← face _ b.origin hv1, ← face _ b.origin hv2, ← face _ (b.origin + _) hv1,
    ← face _ (b.origin + _) hv2, planeDist2_cross_comm (b.vects.row ((line + 2) % 3)) _ b.origin,
    planeDist2_cross_comm (b.vects.row ((line + 1) % 3)) _ (b.origin + _)]
  simp only [mem_boxBoundaryPlanes line hline]
  exact min4_spec planeDist2 _ _ _ _

/-- non-vacuity: a cell tilted in the m-n plane (`c = (0, 1, 6)`), line along x, symmetric about the origin: the nearest
    face is the tilted one (distance² 144/37 < 9). -/
example : cylSmallest2 1 2 0 (⟨⟨⟨2, 0, 0⟩, ⟨0, 4, 0⟩, ⟨0, 1, 6⟩⟩, ⟨0, -5/2, -3⟩⟩ : Box ℚ) = 144 / 37 := by
  decide +kernel

end Atomman.C13
