/-
  C08 — load ∘ dump for POSCAR files: the lines the C07 writer lays out, read by the loader.
-/
import Proofs.C08_Text
import Proofs.C07_Poscar
namespace Atomman.C08
open Atomman Atomman.C07
set_option linter.unusedSimpArgs false


theorem lexLine_v3line (f : Fmt) (v : V3 ℚ) : lexLine (joinSp (v3line f v)) = v3line f v :=
  lexLine_joinSp_ok _ (okTok_v3line f v)

theorem vec3Line_v3line {f : Fmt} (v : V3 ℚ) :
    vec3Line (joinSp (v3line f v)) = .ok ⟨fmtVal f v.x, fmtVal f v.y, fmtVal f v.z⟩ := by
  unfold vec3Line
  rw [lexLine_v3line f]
  simp [v3line, pyFloat_fmt, exceptSimp]

theorem coordLine_v3line {f : Fmt} (v : V3 ℚ) :
    coordLine (joinSp (v3line f v)) = .ok ⟨fmtVal f v.x, fmtVal f v.y, fmtVal f v.z⟩ := by
  unfold coordLine
  rw [lexLine_v3line f]
  simp [v3line, pyFloat_fmt, exceptSimp]

def fmtV3 (f : Fmt) (v : V3 ℚ) : V3 ℚ := ⟨fmtVal f v.x, fmtVal f v.y, fmtVal f v.z⟩

theorem mapM_coordLine {f : Fmt} (coords : List (V3 ℚ)) :
    ((coords.map (v3line f)).map joinSp).mapM coordLine = .ok (coords.map (fmtV3 f)) := by
  induction coords with
  | nil => rfl
  | cons v vs ih =>
    simp only [List.map_cons, List.mapM_cons, coordLine_v3line, ih]
    rfl

theorem mapM_parseInt_natToks (counts : List Nat) :
    (counts.map natTok).mapM parseInt? = some (counts.map fun (c : Nat) => (c : Int)) :=
  mapM_option_map natTok parseInt? _ counts fun c _ => parseInt_natTok c



/-- what the POSCAR loader returns for a file with the given printed numbers. -/
def poscarLoaded (f : Fmt) (scale : ℚ) (lat : M3 ℚ) (counts : List Nat) (coords : List (V3 ℚ)) (cart : Bool)
    (symbols : List (Option String)) : Loaded :=
  let sc := fmtVal f scale
  let box : Box ℚ := ⟨⟨V3.smul sc (fmtV3 f lat.r0), V3.smul sc (fmtV3 f lat.r1), V3.smul sc (fmtV3 f lat.r2)⟩, ⟨0, 0, 0⟩⟩
  let pos := (coords.map (fmtV3 f)).map fun v => if cart then V3.smul sc v else box.relToCart v
  { (Loaded.init box ⟨true, true, true⟩ (counts.foldr (· + ·) 0) symbols []) with
    props := [{ name := "atype", shape := [], isInt := true, vals := (atypeOfCounts counts).map fun (t : Int) => [(t : ℚ)] },
              { name := "pos", shape := [3], isInt := false, vals := pos.map fun p => [p.x, p.y, p.z] }] }

theorem all_nonneg_natCast (counts : List Nat) :
    ((counts.map fun (c : Nat) => (c : Int)).all fun x => decide (0 ≤ x)) = true := by
  apply List.all_eq_true.mpr
  intro x hx
  obtain ⟨c, _, rfl⟩ := List.mem_map.mp hx
  simp

theorem map_toNat_natCast (counts : List Nat) : (counts.map fun (c : Nat) => (c : Int)).map Int.toNat = counts := by
  rw [List.map_map]
  exact (List.map_congr_left fun c _ => by simp).trans (List.map_id _)

theorem countsOf_natToks (counts : List Nat) : countsOf (counts.map natTok) = some counts := by
  unfold countsOf
  rw [mapM_parseInt_natToks, Option.bind_some, all_nonneg_natCast, if_pos rfl, map_toNat_natCast]

/-- Cartesian mode as the writer decides it from `coordstyle`. -/
def isCartStyle (coordstyle : String) : Bool :=
  match coordstyle.toList with
  | c :: _ => c = 'c' || c = 'C' || c = 'k' || c = 'K'
  | [] => false

theorem isCartStyle_eq (coordstyle : String) : isCartStyle coordstyle = isCartTok (strTok coordstyle) := rfl

theorem isCartesianLine_strTok (w : String) : isCartesianLine (joinSp [strTok w]) = isCartStyle w := by
  unfold isCartesianLine joinSp strTok isCartStyle
  cases w.toList <;> rfl

/-- the symbols a written POSCAR file carries: those of its symbols line, or none per counted type. -/
def writtenSymbols (symbols : Option (List String)) (counts : List Nat) : List (Option String) :=
  match symbols with
  | some l => l.map some
  | none => counts.map fun _ => none

/-- the loader on the lines of a POSCAR file laid out like the writer's (`C07.poscarDoc`), with or without a symbols
    line; a symbols line must not consist of integers only, or the loader takes it for the counts. -/
theorem loadPoscarLines_written {f : Fmt} (l0 : RawLine) (scale : ℚ) (lat : M3 ℚ)
    (sym : Option (List String)) (counts : List Nat) (style : String) (coords : List (V3 ℚ))
    (hlen : coords.length = counts.foldr (· + ·) 0)
    (hsym : ∀ l, sym = some l → (∀ w ∈ l, CleanTok (strTok w)) ∧ (l.map strTok).mapM parseInt? = none)
    (symbols : Option (List (Option String))) :
    loadPoscarLines ([l0, joinSp [fmtNum f scale], joinSp (v3line f lat.r0), joinSp (v3line f lat.r1),
        joinSp (v3line f lat.r2)] ++ (symDoc sym).map joinSp ++
        [joinSp (counts.map natTok ++ [[]]), joinSp [strTok style]] ++ (coords.map (v3line f)).map joinSp) symbols =
      .ok (poscarLoaded f scale lat counts coords (isCartesianLine (joinSp [strTok style]))
        (symbols.getD (writtenSymbols sym counts))) := by
  unfold loadPoscarLines
  have hsc : lexLine (joinSp [fmtNum f scale]) = [fmtNum f scale] :=
    lexLine_joinSp _ (by intro t ht; simp at ht; subst ht; exact cleanTok_fmtNum f _)
  have htake : (List.map joinSp (List.map (v3line f) coords)).take (counts.foldr (· + ·) 0) =
      List.map joinSp (List.map (v3line f) coords) := by
    apply List.take_of_length_le
    simp [hlen]
  cases sym with
  | none =>
    simp only [symDoc, List.map_nil, List.append_nil, nthLine, List.cons_append, List.nil_append, List.getElem?_cons_zero,
      List.getElem?_cons_succ, bind, Except.bind, pure, Except.pure, hsc, pyFloat_fmt, vec3Line_v3line, lex_counts,
      mapM_parseInt_natToks]
    -- line 5 consists of integers only: it is the counts line, there is no symbols line
    simp only [all_nonneg_natCast, if_true, List.drop_succ_cons, List.drop_zero]
    rw [map_toNat_natCast, htake]
    simp only [List.length_map, hlen, ne_eq, not_true_eq_false, if_false, mapM_coordLine]
    unfold poscarLoaded writtenSymbols
    simp only [List.map_map, Function.comp]
    rfl
  | some syms =>
    -- line 5 is not all integers (`hnotint`): the loader takes it for the symbols line and line 6 for the counts
    obtain ⟨hsyms, hnotint⟩ := hsym syms rfl
    have hsy : lexLine (joinSp (syms.map strTok)) = syms.map strTok :=
      lexLine_joinSp _ (by intro t ht; simp only [List.mem_map] at ht; obtain ⟨w, hw, rfl⟩ := ht; exact hsyms w hw)
    simp only [symDoc, List.map_cons, List.map_nil, nthLine, List.cons_append, List.nil_append, List.getElem?_cons_zero,
      List.getElem?_cons_succ, bind, Except.bind, pure, Except.pure, hsc, pyFloat_fmt, vec3Line_v3line, lex_counts,
      hsy, hnotint, countsOf_natToks]
    simp only [List.drop_succ_cons, List.drop_zero]
    rw [htake]
    simp only [List.length_map, hlen, ne_eq, not_true_eq_false, if_false, mapM_coordLine]
    unfold poscarLoaded writtenSymbols
    have hstr : List.map (fun t => some (String.ofList t)) (List.map strTok syms) = syms.map some := by
      rw [List.map_map]
      apply List.map_congr_left
      intro w _
      simp [strTok, Function.comp]
    simp only [hstr, List.map_map, Function.comp]
    rfl


set_option linter.unusedVariables false in
/-- loading any POSCAR file the writer emits returns `poscarLoaded`: the cell is
    `scale × printed lattice rows` with origin 0, the atom types are `1, 2, …` repeated by the printed per-type
    counts (the writer's grouping by type), the symbols are those of the symbols line (or the caller's), positions are
    `scale × printed row` in Cartesian mode and `printed row · cell` in Direct mode.  With `C07.poscar_scale` the
    scaled rows are the system's cell vectors and positions up to the printing of each number. -/
theorem load_dump_roundtrip_poscar {f : Fmt} (hf : Readable f) (s : Sys) (header : List String)
    (symbols : Option (List String)) (coordstyle : String) (scale : ℚ) (text : List Char)
    (hw : writePoscar s header symbols coordstyle scale f = .ok text)
    (hh : ∀ w ∈ header, ∀ c ∈ strTok w, c ≠ '\n')
    (hsy : ∀ l, symbols = some l → (∀ w ∈ l, CleanTok (strTok w)) ∧ (l.map strTok).mapM parseInt? = none)
    (hcs : CleanTok (strTok coordstyle))
    (hlen : (poscarNums s (isCartStyle coordstyle) scale).coords.length =
      (poscarNums s (isCartStyle coordstyle) scale).counts.foldr (· + ·) 0)
    (hne : (poscarNums s (isCartStyle coordstyle) scale).coords ≠ [])
    (symArg : Option (List (Option String))) :
    loadPoscar text symArg =
      .ok (poscarLoaded f scale (poscarNums s (isCartStyle coordstyle) scale).lattice
        (poscarNums s (isCartStyle coordstyle) scale).counts (poscarNums s (isCartStyle coordstyle) scale).coords
        (isCartStyle coordstyle)
        (symArg.getD (writtenSymbols symbols (poscarNums s (isCartStyle coordstyle) scale).counts))) := by
  obtain ⟨doc, hd, rfl⟩ := map_ok hw
  obtain ⟨-, -, -, -, rfl⟩ := writePoscarDoc_ok s header symbols coordstyle scale f doc hd
  rw [← isCartStyle_eq]
  set p := poscarNums s (isCartStyle coordstyle) scale with hp
  unfold loadPoscar
  rw [C07.splitLines_poscarDoc f header symbols coordstyle scale p (fun w hw hc => hh w hw _ hc rfl)
    (fun l hl w hw hc => (((hsy l hl).1 w hw).2 _ hc).2 rfl) (fun hc => (hcs.2 _ hc).2 rfl) hcs.1]
  have := loadPoscarLines_written (f := f) (joinSp (header.map strTok)) scale p.lattice symbols p.counts coordstyle p.coords hlen
    hsy symArg
  rw [isCartesianLine_strTok] at this
  simpa only [poscarDoc, List.map_append, List.map_cons, List.map_nil] using this

end Atomman.C08
