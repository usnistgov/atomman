/-
  C16 — `fromstring`: every well-formed index string parses to the numbers it shows.
  Character-level lemmas about the model's reader (`fromChars`) and writer (`render`, `renderW`).
-/
import Atomman.C16
import Batteries.Lean.Except  -- `DecidableEq (Except ε α)`, for the examples
import Proofs.Lists

namespace Atomman.C16

/-- the characters an index string is made of outside its two brackets: digits, `-`, `/`, blank. -/
def plainChar (c : Char) : Bool := ('0' ≤ c && c ≤ '9') || c = '-' || c = '/' || c = ' '

theorem ne_of_test {f : Char → Bool} {c b : Char} (hc : f c = true) (hb : f b = false) : c ≠ b := by
  rintro rfl; rw [hc] at hb; cases hb

theorem digit_plain {c : Char} (h : c.isDigit = true) : plainChar c = true := by
  simp only [Char.isDigit, Bool.and_eq_true, decide_eq_true_eq] at h
  have h' : ('0' ≤ c && c ≤ '9') = true := by rw [Bool.and_eq_true, decide_eq_true_eq, decide_eq_true_eq]; exact ⟨h.1, h.2⟩
  unfold plainChar; simp only [h', Bool.true_or]

/-- the model's numeral writer is core's `Nat.toDigits 10`. -/
theorem natDigits_eq_toDigits (n : Nat) : natDigits n = Nat.toDigits 10 n := by
  induction n using Nat.strongRecOn with
  | ind n ih =>
    have hd : ∀ d, d < 10 → Char.ofNat (d + '0'.toNat) = Nat.digitChar d := by decide
    rw [natDigits, Nat.toDigits_eq_if (by decide)]
    by_cases h : n < 10
    · simp only [h, dite_true, if_true, hd n h]
    · simp only [h, dite_false, if_false]
      rw [ih (n / 10) (by omega), hd (n % 10) (by omega)]

theorem natDigits_digits (n : Nat) : ∀ c ∈ natDigits n, c.isDigit = true := by
  rw [natDigits_eq_toDigits]; exact fun c hc => Nat.isDigit_of_mem_toDigits (by decide) (by decide) hc

theorem natDigits_ne_nil (n : Nat) : natDigits n ≠ [] := by
  rw [natDigits_eq_toDigits]; exact Nat.toDigits_ne_nil

theorem parseNatAcc_append (xs ys : List Char) : ∀ acc : Nat,
    parseNatAcc acc (xs ++ ys) = (parseNatAcc acc xs).bind (fun m => parseNatAcc m ys) := by
  induction xs with
  | nil => intro acc; simp [parseNatAcc]
  | cons x xs ih =>
    intro acc
    simp only [List.cons_append, parseNatAcc]
    cases digitVal? x with
    | none => simp
    | some d => simpa using ih (acc * 10 + d)

/-- the model's reader on a digit string is core's `Nat.ofDigitChars 10`. -/
theorem parseNatAcc_digits : ∀ (cs : List Char) (acc : Nat), (∀ c ∈ cs, c.isDigit = true) →
    parseNatAcc acc cs = some (Nat.ofDigitChars 10 cs acc)
  | [], _, _ => rfl
  | c :: cs, acc, h => by
    have hc : digitVal? c = some (c.toNat - '0'.toNat) := by
      have := h c List.mem_cons_self
      simp only [Char.isDigit, Bool.and_eq_true, decide_eq_true_eq] at this
      rw [digitVal?, if_pos ⟨this.1, this.2⟩]
    rw [parseNatAcc, hc, Nat.ofDigitChars_cons, Nat.mul_comm]
    exact parseNatAcc_digits cs _ fun x hx => h x (List.mem_cons_of_mem _ hx)

theorem parseNat_natDigits (n : Nat) : parseNat? (natDigits n) = some n := by
  rw [natDigits_eq_toDigits]
  cases h : Nat.toDigits 10 n with
  | nil => exact absurd h Nat.toDigits_ne_nil
  | cons c cs =>
    rw [parseNat?, ← h, parseNatAcc_digits _ _ fun c hc => Nat.isDigit_of_mem_toDigits (by decide) (by decide) hc,
      Nat.ofDigitChars_ten_toDigits]
    intro h'; cases h'

theorem natDigits_plain (q : Nat) : ∀ c ∈ natDigits q, plainChar c = true ∧ c ≠ ' ' ∧ c ≠ '/' := fun c hc =>
  have h := natDigits_digits q c hc
  ⟨digit_plain h, ne_of_test h (by decide), ne_of_test h (by decide)⟩

theorem renderInt_plain (i : Int) : ∀ c ∈ renderInt i, plainChar c = true ∧ c ≠ ' ' ∧ c ≠ '/' := by
  intro c hc
  unfold renderInt at hc
  split at hc
  · rcases List.mem_cons.1 hc with rfl | hc
    · exact ⟨by decide, by decide, by decide⟩
    · exact natDigits_plain _ c hc
  · exact natDigits_plain _ c hc

theorem renderInt_no_blank (i : Int) : ∀ c ∈ renderInt i, c ≠ ' ' := fun c hc => (renderInt_plain i c hc).2.1

theorem renderInt_ne_nil (i : Int) : renderInt i ≠ [] := by
  unfold renderInt; split
  · exact List.cons_ne_nil _ _
  · exact natDigits_ne_nil _

/-- the model's numeral reader inverts its writer, for integers of any size and sign (base of `fromString_render`). -/
theorem parseInt_renderInt (i : Int) : parseInt? (renderInt i) = some i := by
  unfold renderInt
  split
  · rename_i h
    simp only [parseInt?, parseNat_natDigits]
    exact congrArg some (show -(i.natAbs : Int) = i by omega)
  · rename_i h
    have hne := natDigits_ne_nil i.natAbs
    have hp := parseNat_natDigits i.natAbs
    cases hd : natDigits i.natAbs with
    | nil => exact absurd hd hne
    | cons c cs =>
      have hc : c.isDigit = true := natDigits_digits i.natAbs c (by rw [hd]; exact List.mem_cons_self)
      rw [hd] at hp
      have : parseInt? (c :: cs) = (parseNat? (c :: cs)).map (fun n => (n : Int)) := by
        unfold parseInt?
        split
        · rename_i heq; injection heq with h1 _; exact absurd h1 (ne_of_test hc (by decide))
        · rename_i heq; injection heq with h1 _; exact absurd h1 (ne_of_test hc (by decide))
        · rfl
      rw [this, hp]
      exact congrArg some (show (i.natAbs : Int) = i by omega)


theorem findIdx_none {c : Char} : ∀ {xs : List Char}, (∀ x ∈ xs, x ≠ c) → findIdx c xs = none
  | [], _ => rfl
  | x :: xs, h => by
    have hx : x ≠ c := h x List.mem_cons_self
    simp only [findIdx, hx, if_false]
    rw [findIdx_none (fun y hy => h y (List.mem_cons_of_mem _ hy))]; rfl

theorem findIdx_append_hit {c : Char} : ∀ (xs ys : List Char), (∀ x ∈ xs, x ≠ c) →
    findIdx c (xs ++ c :: ys) = some xs.length
  | [], ys, _ => by simp [findIdx]
  | x :: xs, ys, h => by
    have hx : x ≠ c := h x List.mem_cons_self
    simp only [List.cons_append, findIdx, hx, if_false]
    rw [findIdx_append_hit xs ys (fun y hy => h y (List.mem_cons_of_mem _ hy))]
    simp

/-- the model's `splitOnChar` is core's `List.splitOn`. -/
theorem splitOnChar_eq_splitOn (c : Char) : ∀ xs : List Char, splitOnChar c xs = xs.splitOn c
  | [] => rfl
  | x :: xs => by
    rw [splitOnChar, List.splitOn_cons_eq_if_modifyHead, splitOnChar_eq_splitOn c xs]
    have := List.splitOn_ne_nil c xs
    cases h : xs.splitOn c with
    | nil => exact absurd h this
    | cons w ws => by_cases hx : x = c <;> simp [hx]

theorem splitOnChar_ne_nil (c : Char) (xs : List Char) : splitOnChar c xs ≠ [] := by
  rw [splitOnChar_eq_splitOn]; exact List.splitOn_ne_nil c xs

theorem splitOnChar_append_sep (c : Char) (xs ys : List Char) :
    splitOnChar c (xs ++ c :: ys) = splitOnChar c xs ++ splitOnChar c ys := by
  simp only [splitOnChar_eq_splitOn]; exact List.splitOn_append_cons_self xs ys

theorem splitOnChar_free (c : Char) (xs : List Char) (h : ∀ x ∈ xs, x ≠ c) : splitOnChar c xs = [xs] := by
  rw [splitOnChar_eq_splitOn]; exact List.splitOn_eq_singleton fun hc => h c hc rfl

theorem spaceTokens_nil : spaceTokens [] = [] := by simp [spaceTokens, splitOnChar]

theorem spaceTokens_append_space (xs ys : List Char) :
    spaceTokens (xs ++ ' ' :: ys) = spaceTokens xs ++ spaceTokens ys := by
  simp only [spaceTokens, splitOnChar_append_sep, List.filter_append]

theorem spaceTokens_word (w : List Char) (hne : w ≠ []) (hw : ∀ x ∈ w, x ≠ ' ') : spaceTokens w = [w] := by
  simp only [spaceTokens, splitOnChar_free ' ' w hw, List.filter_cons, List.filter_nil]
  cases w with
  | nil => exact absurd rfl hne
  | cons a as => simp

theorem spaceTokens_cons_space (ys : List Char) : spaceTokens (' ' :: ys) = spaceTokens ys := by
  have := spaceTokens_append_space [] ys
  simpa [spaceTokens_nil] using this

theorem spaces_succ (n : Nat) : spaces (n + 1) = ' ' :: spaces n := by simp [spaces, List.replicate_succ]

theorem spaceTokens_spaces_append (ys : List Char) : ∀ n : Nat, spaceTokens (spaces n ++ ys) = spaceTokens ys
  | 0 => by simp [spaces]
  | n + 1 => by
    rw [spaces_succ]
    have := spaceTokens_append_space [] (spaces n ++ ys)
    simp only [List.nil_append] at this
    rw [List.cons_append, this, spaceTokens_nil, List.nil_append, spaceTokens_spaces_append ys n]

theorem spaceTokens_spaces (n : Nat) : spaceTokens (spaces n) = [] := by
  have := spaceTokens_spaces_append [] n
  simpa [spaceTokens_nil] using this

theorem spaceTokens_word_space (w ys : List Char) (hne : w ≠ []) (hw : ∀ x ∈ w, x ≠ ' ') :
    spaceTokens (w ++ ' ' :: ys) = w :: spaceTokens ys := by
  rw [spaceTokens_append_space, spaceTokens_word w hne hw]; rfl

theorem spaces_mem {n : Nat} {c : Char} (h : c ∈ spaces n) : c = ' ' := by
  simp only [spaces, List.mem_replicate] at h; exact h.2

theorem spaceTokens_word_spaces (w : List Char) (hne : w ≠ []) (hw : ∀ x ∈ w, x ≠ ' ') : ∀ n : Nat,
    spaceTokens (w ++ spaces n) = [w]
  | 0 => by rw [spaces, List.replicate_zero, List.append_nil]; exact spaceTokens_word w hne hw
  | n + 1 => by rw [spaces_succ, spaceTokens_word_space w _ hne hw, spaceTokens_spaces]

theorem spaceTokens_words (pad2 : Nat) : ∀ (rest : List (Nat × Int)) (w : List Char), w ≠ [] → (∀ x ∈ w, x ≠ ' ') →
    spaceTokens (w ++ (rest.flatMap (fun ni => spaces (ni.1 + 1) ++ renderInt ni.2) ++ spaces pad2))
      = w :: rest.map (fun ni => renderInt ni.2)
  | [], w, hne, hw => spaceTokens_word_spaces w hne hw pad2
  | (n, i) :: rest, w, hne, hw => by
    rw [List.flatMap_cons, spaces_succ, List.cons_append, List.append_assoc, List.cons_append,
      spaceTokens_word_space w _ hne hw, List.append_assoc, spaceTokens_spaces_append,
      spaceTokens_words pad2 rest _ (renderInt_ne_nil i) (renderInt_no_blank i)]
    rfl

theorem spaceTokens_bodyW (pad1 : Nat) (first : Int) (rest : List (Nat × Int)) (pad2 : Nat) :
    spaceTokens (bodyW pad1 first rest pad2) = (first :: rest.map Prod.snd).map renderInt := by
  unfold bodyW
  rw [List.append_assoc, List.append_assoc, spaceTokens_spaces_append,
    spaceTokens_words pad2 rest _ (renderInt_ne_nil first) (renderInt_no_blank first), List.map_cons, List.map_map]
  rfl

theorem mapM_parseInt_render (idx : List Int) : (idx.map renderInt).mapM parseInt? = some idx := by
  simpa using mapM_option_map _ parseInt? id idx fun i _ => parseInt_renderInt i


theorem dropWhile_spaces_append (w : List Char) (hw : ∀ c, w.head? = some c → c ≠ ' ') : ∀ n : Nat,
    (spaces n ++ w).dropWhile (· = ' ') = w
  | 0 => by
    simp only [spaces, List.replicate_zero, List.nil_append]
    cases w with
    | nil => rfl
    | cons a as =>
      have := hw a rfl
      simp [this]
  | n + 1 => by
    rw [spaces_succ, List.cons_append, List.dropWhile_cons]
    simp only [decide_true, if_true]
    exact dropWhile_spaces_append w hw n

theorem spaces_reverse (n : Nat) : (spaces n).reverse = spaces n := by simp [spaces]

theorem trimSpaces_word (w : List Char) (hne : w ≠ []) (hw : ∀ x ∈ w, x ≠ ' ') (a b : Nat) :
    trimSpaces (spaces a ++ w ++ spaces b) = w := by
  unfold trimSpaces
  have h1 : ∀ c, (w ++ spaces b).head? = some c → c ≠ ' ' := by
    intro c hc
    cases w with
    | nil => exact absurd rfl hne
    | cons x xs => simp only [List.cons_append, List.head?_cons, Option.some.injEq] at hc
                   subst hc; exact hw _ List.mem_cons_self
  rw [List.append_assoc, dropWhile_spaces_append _ h1 a, List.reverse_append, spaces_reverse]
  have h2 : ∀ c, w.reverse.head? = some c → c ≠ ' ' := by
    intro c hc
    have : c ∈ w.reverse := List.mem_of_mem_head? hc
    exact hw c (List.mem_reverse.1 this)
  rw [dropWhile_spaces_append _ h2 b, List.reverse_reverse]

/-! ### the reader on a bracketed string

Throughout, the string is `P ++ o :: (B ++ c :: T)`: prefix `P` (the optional fraction), opening bracket `o`, body `B`,
closing bracket `c`, tail `T`; `_cs` = on a string of that shape. `plainChar` holds of every character of `P`, `B`, `T` and
of no bracket, which is what lets `findIdx` skip them. -/

theorem findIdx_cs_none (P B T : List Char) (o c b : Char) (hP : ∀ x ∈ P, plainChar x = true)
    (hB : ∀ x ∈ B, plainChar x = true) (hT : ∀ x ∈ T, plainChar x = true) (hb : plainChar b = false)
    (ho : o ≠ b) (hc : c ≠ b) : findIdx b (P ++ o :: (B ++ c :: T)) = none := by
  apply findIdx_none
  intro x hx
  simp only [List.mem_append, List.mem_cons] at hx
  rcases hx with hx | rfl | hx | rfl | hx
  · exact ne_of_test (hP x hx) hb
  · exact ho
  · exact ne_of_test (hB x hx) hb
  · exact hc
  · exact ne_of_test (hT x hx) hb

theorem findIdx_cs_close (P B T : List Char) (o c : Char) (hP : ∀ x ∈ P, plainChar x = true)
    (hB : ∀ x ∈ B, plainChar x = true) (hc : plainChar c = false) (ho : o ≠ c) :
    findIdx c (P ++ o :: (B ++ c :: T)) = some (P.length + 1 + B.length) := by
  have : P ++ o :: (B ++ c :: T) = (P ++ o :: B) ++ c :: T := by simp
  rw [this, findIdx_append_hit]
  · simp; omega
  · intro x hx
    simp only [List.mem_append, List.mem_cons] at hx
    rcases hx with hx | rfl | hx
    · exact ne_of_test (hP x hx) hc
    · exact ho
    · exact ne_of_test (hB x hx) hc

theorem take_cs (P B T : List Char) (o c : Char) : (P ++ o :: (B ++ c :: T)).take P.length = P := by
  simp

theorem inner_cs (P B T : List Char) (o c : Char) :
    ((P ++ o :: (B ++ c :: T)).take (P.length + 1 + B.length)).drop (P.length + 1) = B := by
  have : P ++ o :: (B ++ c :: T) = (P ++ o :: B) ++ c :: T := by simp
  rw [this]
  have hl : P.length + 1 + B.length = (P ++ o :: B).length := by simp; omega
  rw [hl, List.take_left' rfl]
  have : P ++ o :: B = (P ++ [o]) ++ B := by simp
  rw [this]
  have hl2 : P.length + 1 = (P ++ [o]).length := by simp
  rw [hl2, List.drop_left' rfl]

theorem findBracket_cs (P B T : List Char) (k : Char × Char) (hk : k ∈ bracketPairs)
    (hP : ∀ x ∈ P, plainChar x = true) (hB : ∀ x ∈ B, plainChar x = true) (hT : ∀ x ∈ T, plainChar x = true) :
    findBracket (P ++ k.1 :: (B ++ k.2 :: T)) bracketPairs = some (P.length, k.2) := by
  have hit : ∀ o : Char, plainChar o = false → ∀ ys, findIdx o (P ++ o :: ys) = some P.length := fun o ho ys =>
    findIdx_append_hit P ys fun x hx => ne_of_test (hP x hx) ho
  simp only [bracketPairs, List.mem_cons, List.mem_nil_iff, or_false] at hk
  rcases hk with rfl | rfl | rfl | rfl
  · simp only [bracketPairs, findBracket, hit '[' (by decide)]
  · simp only [bracketPairs, findBracket,
      findIdx_cs_none P B T '(' ')' '[' hP hB hT (by decide) (by decide) (by decide), hit '(' (by decide)]
  · simp only [bracketPairs, findBracket,
      findIdx_cs_none P B T '<' '>' '[' hP hB hT (by decide) (by decide) (by decide),
      findIdx_cs_none P B T '<' '>' '(' hP hB hT (by decide) (by decide) (by decide), hit '<' (by decide)]
  · simp only [bracketPairs, findBracket,
      findIdx_cs_none P B T '{' '}' '[' hP hB hT (by decide) (by decide) (by decide),
      findIdx_cs_none P B T '{' '}' '(' hP hB hT (by decide) (by decide) (by decide),
      findIdx_cs_none P B T '{' '}' '<' hP hB hT (by decide) (by decide) (by decide), hit '{' (by decide)]

theorem bracket_close : ∀ k ∈ bracketPairs, plainChar k.2 = false ∧ k.1 ≠ k.2 := by decide

theorem fromChars_cs (P B T : List Char) (k : Char × Char) (hk : k ∈ bracketPairs)
    (hP : ∀ x ∈ P, plainChar x = true) (hB : ∀ x ∈ B, plainChar x = true) (hT : ∀ x ∈ T, plainChar x = true)
    (fr : Rat) (hfr : fracOf P = .ok fr) (idx : List Int) (htok : (spaceTokens B).mapM parseInt? = some idx)
    (hlen : idx.length = 3 ∨ idx.length = 4) :
    fromChars (P ++ k.1 :: (B ++ k.2 :: T)) = .ok (idx.map fun (i : Int) => fr * (i : Rat)) := by
  unfold fromChars
  rw [findBracket_cs P B T k hk hP hB hT]
  simp only [findIdx_cs_close P B T _ _ hP hB (bracket_close k hk).1 (bracket_close k hk).2, take_cs, inner_cs, htok, hfr,
    hlen, if_true]

theorem spaces_plain (n : Nat) : ∀ x ∈ spaces n, plainChar x = true := by
  intro x hx; rw [spaces_mem hx]; decide

theorem natDigits_eq_renderInt (q : Nat) : natDigits q = renderInt (q : Int) := by
  unfold renderInt
  have : ¬ ((q : Int) < 0) := by omega
  simp only [this, if_false, Int.natAbs_natCast]

theorem prefixW_plain (frac : Option (Int × Nat)) (lead gap : Nat) : ∀ x ∈ prefixW frac lead gap, plainChar x = true := by
  intro x hx
  unfold prefixW at hx
  split at hx
  · simp at hx
  · simp only [List.mem_append, List.mem_cons] at hx
    rcases hx with ((hx | hx) | rfl | hx) | hx
    · exact spaces_plain _ x hx
    · exact (renderInt_plain _ x hx).1
    · decide
    · exact (natDigits_plain _ x hx).1
    · exact spaces_plain _ x hx

theorem bodyW_plain (pad1 : Nat) (first : Int) (rest : List (Nat × Int)) (pad2 : Nat) :
    ∀ x ∈ bodyW pad1 first rest pad2, plainChar x = true := by
  intro x hx
  unfold bodyW at hx
  simp only [List.mem_append, List.mem_flatMap] at hx
  rcases hx with ((hx | hx) | ⟨ni, _, hx | hx⟩) | hx
  · exact spaces_plain _ x hx
  · exact (renderInt_plain _ x hx).1
  · exact spaces_plain _ x hx
  · exact (renderInt_plain _ x hx).1
  · exact spaces_plain _ x hx

theorem fracOf_prefixW (frac : Option (Int × Nat)) (lead gap : Nat) (hq : ∀ p q, frac = some (p, q) → q ≠ 0) :
    fracOf (prefixW frac lead gap) = .ok (fracVal frac) := by
  cases frac with
  | none => simp [prefixW, fracOf, fracVal]
  | some pq =>
    obtain ⟨p, q⟩ := pq
    have hq0 : q ≠ 0 := hq p q rfl
    have hsplit : splitOnChar '/' (prefixW (some (p, q)) lead gap)
        = [spaces lead ++ renderInt p, natDigits q ++ spaces gap] := by
      have : prefixW (some (p, q)) lead gap = (spaces lead ++ renderInt p) ++ '/' :: (natDigits q ++ spaces gap) := by
        simp [prefixW]
      rw [this, splitOnChar_append_sep, splitOnChar_free, splitOnChar_free]
      · rfl
      · intro x hx
        rcases List.mem_append.1 hx with hx | hx
        · exact (natDigits_plain _ x hx).2.2
        · rw [spaces_mem hx]; decide
      · intro x hx
        rcases List.mem_append.1 hx with hx | hx
        · rw [spaces_mem hx]; decide
        · exact (renderInt_plain _ x hx).2.2
    have hlen : (prefixW (some (p, q)) lead gap).length > 0 := by simp [prefixW]; omega
    have hp : parseInt? (trimSpaces (spaces lead ++ renderInt p)) = some p := by
      have := trimSpaces_word (renderInt p) (renderInt_ne_nil p) (renderInt_no_blank p) lead 0
      simp only [spaces, List.replicate_zero, List.append_nil] at this ⊢
      rw [this, parseInt_renderInt]
    have hqq : parseInt? (trimSpaces (natDigits q ++ spaces gap)) = some (q : Int) := by
      have := trimSpaces_word (natDigits q) (natDigits_ne_nil q) (fun x hx => (natDigits_plain q x hx).2.1) 0 gap
      simp only [spaces, List.replicate_zero, List.nil_append] at this ⊢
      rw [this, natDigits_eq_renderInt, parseInt_renderInt]
    unfold fracOf
    simp only [hlen, if_true, hsplit, hp, hqq]
    have : ¬ ((q : Int) = 0) := by omega
    simp only [this, if_false, fracVal]

/-- **index strings parse to the numbers they show** (free spacing): for every optional fraction `p/q`
    (`q ≠ 0`), bracket kind, 3 or 4 integers of any size and sign, and any amount of blanks in the places
    where blanks may stand, the reader returns exactly `p/q` times the integers written. -/
theorem fromString_renderW (frac : Option (Int × Nat)) (lead gap : Nat) (k : Char × Char) (hk : k ∈ bracketPairs)
    (pad1 : Nat) (first : Int) (rest : List (Nat × Int)) (pad2 trail : Nat)
    (hlen : rest.length = 2 ∨ rest.length = 3) (hq : ∀ p q, frac = some (p, q) → q ≠ 0) :
    fromChars (renderW frac lead gap k pad1 first rest pad2 trail)
      = .ok ((first :: rest.map Prod.snd).map fun (i : Int) => fracVal frac * (i : Rat)) := by
  have hshape : renderW frac lead gap k pad1 first rest pad2 trail
      = prefixW frac lead gap ++ k.1 :: (bodyW pad1 first rest pad2 ++ k.2 :: spaces trail) := by
    simp [renderW]
  rw [hshape]
  apply fromChars_cs _ _ _ k hk (prefixW_plain _ _ _) (bodyW_plain _ _ _ _) (spaces_plain _) _
    (fracOf_prefixW frac lead gap hq)
  · rw [spaceTokens_bodyW]; exact mapM_parseInt_render _
  · simp only [List.length_cons, List.length_map]; omega

theorem intercalateSp_cons (w : List Char) : ∀ ws : List (List Char),
    intercalateSp (w :: ws) = w ++ ws.flatMap (fun v => ' ' :: v)
  | [] => by simp [intercalateSp]
  | v :: ws => by
    have ih := intercalateSp_cons v ws
    simp only [intercalateSp, ih, List.flatMap_cons, List.cons_append]

theorem render_eq_renderW (frac : Option (Int × Nat)) (k : Char × Char) (first : Int) (rest : List Int) :
    render frac k (first :: rest) = renderW frac 0 1 k 0 first (rest.map fun i => (0, i)) 0 0 := by
  unfold render renderW prefixW bodyW
  have hb : intercalateSp ((first :: rest).map renderInt)
      = renderInt first ++ (rest.map fun i => ((0 : Nat), i)).flatMap (fun ni => spaces (ni.1 + 1) ++ renderInt ni.2) := by
    rw [List.map_cons, intercalateSp_cons]
    congr 1
    induction rest with
    | nil => rfl
    | cons r rs ih => simp only [List.map_cons, List.flatMap_cons, ih]; rfl
  rw [hb]
  cases frac with
  | none => simp [spaces]
  | some pq => obtain ⟨p, q⟩ := pq; simp [spaces]

/-- `parse (render frac idx) = frac · idx`: the string written with single blanks (the documented form
    `1/3 [1 1 -2 0]`), any bracket kind, parses to the numbers it shows. -/
theorem fromString_render (frac : Option (Int × Nat)) (k : Char × Char) (hk : k ∈ bracketPairs) (idx : List Int)
    (hlen : idx.length = 3 ∨ idx.length = 4) (hq : ∀ p q, frac = some (p, q) → q ≠ 0) :
    fromChars (render frac k idx) = .ok (idx.map fun (i : Int) => fracVal frac * (i : Rat)) := by
  cases idx with
  | nil => simp at hlen
  | cons first rest =>
    rw [render_eq_renderW, fromString_renderW frac 0 1 k hk 0 first _ 0 0 _ hq]
    · simp [List.map_map, Function.comp_def]
    · simp only [List.length_cons, List.length_map] at hlen ⊢; omega

/-- multi-digit and signed indices are read whole (non-vacuity of the two theorems, by evaluation). -/
example : fromChars "[10 0 1]".toList = .ok [10, 0, 1] := by decide +kernel
example : fromChars "1/2 (1 -12 3)".toList = .ok [1 / 2, -6, 3 / 2] := by decide +kernel
example : render (some (1, 3)) ('[', ']') [11, -10, -1, 0] = "1/3 [11 -10 -1 0]".toList := by decide +kernel
example : renderW (some (-1, 12)) 1 0 ('{', '}') 2 10 [(1, -11), (0, 120)] 1 1 = " -1/12{  10  -11 120 } ".toList := by
  decide +kernel

end Atomman.C16
