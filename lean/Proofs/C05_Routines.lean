/-
  C05 — what is assumed of the numerical routines (`IsFloor` of `numpy.floor`, `SqrtOK` of `x**0.5`, `ArccosDeg` of
  `180·arccos/π`; defined in C05_Lemmas, C05_Cell, C05_Source, where they are first needed) holds for the real functions; for
  the driver's floor it is `isFloor_ratFloor`, beside `IsFloor`.  `sqrt_args_closed_form` is why `SqrtOK` only asks for roots of
  positive numbers.
-/
import Proofs.C05_Cell
import Proofs.C05_Source
import Mathlib.Analysis.SpecialFunctions.Trigonometric.Inverse

namespace Atomman.C05
open Atomman

variable {K : Type} [Field K] [LinearOrder K] [IsStrictOrderedRing K]

/-- the two inner square-root arguments of `set_abc` in closed form:
    `b² - xy² = |a×b|²/|a|²` and `c² - xz² - yz² = det²/|a×b|²`: positive for every non-singular cell,
    so that `SqrtOK` only asks for square roots of positive numbers. -/
theorem sqrt_args_closed_form (sqrt : K → K) (v : M3 K) (hdet : M3.det v ≠ 0)
    (ha : SqrtAt sqrt (V3.normSq v.r0)) (hb : SqrtAt sqrt (V3.normSq v.r1)) (hc : SqrtAt sqrt (V3.normSq v.r2)) :
    lyArg sqrt v = V3.normSq (V3.cross v.r0 v.r1) / V3.normSq v.r0 ∧ 0 < lyArg sqrt v ∧
    (SqrtAt sqrt (lyArg sqrt v) →
      lzArg sqrt v = M3.det v * M3.det v / V3.normSq (V3.cross v.r0 v.r1) ∧ 0 < lzArg sqrt v) := by
  obtain ⟨exy, exz, eyz⟩ := tilt_closed_form sqrt v hb hc
  have hW := normSq_cross_pos v hdet
  have eA : lenA sqrt v * lenA sqrt v = V3.normSq v.r0 := ha.1
  have eB : lenB sqrt v * lenB sqrt v = V3.normSq v.r1 := hb.1
  have eC : lenC sqrt v * lenC sqrt v = V3.normSq v.r2 := hc.1
  have hn0 : 0 < V3.normSq v.r0 := by rw [← eA]; exact mul_pos ha.2 ha.2
  -- products of two tilt factors have `|a|²` for a denominator
  have e2 : ∀ p q : K, p / lenA sqrt v * (q / lenA sqrt v) = p * q / V3.normSq v.r0 :=
    fun p q => by rw [div_mul_div_comm, eA]
  have ely : lyArg sqrt v = V3.normSq (V3.cross v.r0 v.r1) / V3.normSq v.r0 := by
    -- Lagrange's identity over `|a|²`
    rw [lyArg, eB, exy, e2, ← lagrange, sub_div, mul_div_cancel_left₀ _ hn0.ne']
  refine ⟨ely, by rw [ely]; exact div_pos hW hn0, fun hs => ?_⟩
  have eLY : lenLy sqrt v * lenLy sqrt v = lyArg sqrt v := hs.1
  have elz : lzArg sqrt v = M3.det v * M3.det v / V3.normSq (V3.cross v.r0 v.r1) := by
    rw [lzArg, eC, eyz, div_mul_div_comm, eLY, ely, exy, exz, e2, e2, ← det_gram, gram_entries]
    exact gram_schur _ _ _ _ _ _ _ hn0.ne' hW.ne' (lagrange _ _)
  exact ⟨elz, by rw [elz]; exact div_pos (mul_self_pos.mpr hdet) hW⟩

/-- over ℝ with the real square root the hypothesis `SqrtOK` holds for every non-singular cell. -/
theorem sqrtOK_real (v : M3 ℝ) (hdet : M3.det v ≠ 0) : SqrtOK Real.sqrt v := by
  have hs : ∀ x : ℝ, 0 < x → SqrtAt Real.sqrt x :=
    fun x hx => ⟨Real.mul_self_sqrt hx.le, Real.sqrt_pos.mpr hx⟩
  obtain ⟨h0, h1, h2⟩ := M3.normSq_rows_pos_of_det_ne_zero v hdet
  obtain ⟨_, hly, hlz⟩ := sqrt_args_closed_form Real.sqrt v hdet (hs _ h0) (hs _ h1) (hs _ h2)
  exact ⟨hs _ h0, hs _ h1, hs _ h2, hs _ hly, hs _ (hlz (hs _ hly)).2⟩

/-- over ℝ the function `vect_angle` applies to the clamped cosine, `180 · arccos(x) / π`, has the three properties
    `gen_abcGuard_eq_angleGuard` asks for: the arccos assumption of the model holds for the real function. -/
theorem arccosDeg_real : ArccosDeg (fun x : ℝ => 180 * Real.arccos x / Real.pi) := by
  refine ⟨?_, by simp, ?_⟩
  · intro x y hx hxy hy
    have h := Real.strictAntiOn_arccos ⟨hx, le_trans hxy.le hy⟩ ⟨le_trans hx hxy.le, hy⟩ hxy
    have hp := Real.pi_pos
    apply div_lt_div_of_pos_right _ hp
    linarith
  · show 180 * Real.arccos (-1) / Real.pi = 180
    rw [Real.arccos_neg_one]; field_simp

example : IsFloor (K := ℝ) (fun s => ⌊s⌋) := isFloor_iff_floor.mpr fun _ => rfl

example (b : Box ℚ) (hdet : M3.det b.vects ≠ 0) (pbc : V3 Bool) (pos : List (V3 ℚ)) :
    ∀ p' ∈ (wrap Rat.floor (1 / 1000) b pbc pos).pos,
      insideRel ((wrap Rat.floor (1 / 1000) b pbc pos).box.cartToRel p') :=
  wrap_inside Rat.floor isFloor_ratFloor _ (by norm_num) b hdet pbc pos

-- ArccosDeg is satisfiable in ℚ too (a linear stand-in), and the guard is not vacuous: the angles (90, 90, 0) are
-- refused, (90, 60, 120) are not
example : ArccosDeg (fun x : ℚ => 90 * (1 - x)) := ⟨fun x y _ h _ => by linarith, by ring, by ring⟩
example : Atomman.Generated.WrapSource.anglesRejected (90 : ℚ) 90 0 = true ∧
    Atomman.Generated.WrapSource.anglesRejected (90 : ℚ) 60 120 = false := by decide +kernel

end Atomman.C05
