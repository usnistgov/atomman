/-
  C01_Params — the four parameter sets at the level of the API, over any linearly ordered field `K` and any record `T : Trig K` of the
  float library routines meeting `Trig.Spec`: the executed (build + clean-up) round trips, `define?` / `defineRaw?` / `readAs?` in
  degrees, the pair theorems, the refusals, the crystal-family constructors, and the same on the object with its cache.
-/
import Proofs.C01_Object
import Proofs.C01_Trig
import Proofs.C01_Inside
import Proofs.C01_Clean

namespace Atomman.C01
open Atomman
set_option linter.unusedSectionVars false

variable {K : Type} [Field K] [LinearOrder K] [IsStrictOrderedRing K]

/-- the executed path (`set_lengths` = build + setter clean-up) on a box the setters produced. -/
theorem lengths_roundtrip_clean (thr : K) (b : Box K) (hc : IsClean thr b) (h : b.isLammpsNorm = true) :
    ∃ p, lengths? b = some p ∧ setLengths? thr p b.origin = some b := by
  obtain ⟨p, h1, h2⟩ := lengths_roundtrip b h
  exact ⟨p, h1, map_cleanBox_of_isClean h2 hc⟩

theorem hilos_roundtrip_clean (thr : K) (b : Box K) (hc : IsClean thr b) (h : b.isLammpsNorm = true) :
    ∃ p, hilos? b = some p ∧ setHiLos? thr p = some b := by
  obtain ⟨p, h1, h2⟩ := hilos_roundtrip b h
  exact ⟨p, h1, map_cleanBox_of_isClean h2 hc⟩

/-- the executed `set_abc` path on a clean LAMMPS-normal box fed with its own parameters. -/
theorem abc_rebuild_normal_clean (thr : K) (bx : Box K) (hcl : IsClean thr bx) (h : bx.isLammpsNorm = true)
    (a b c ca cb cg : K) (ha : 0 < a) (hb : 0 < b) (hc : 0 < c)
    (ha2 : a * a = a2 bx) (hb2 : b * b = b2 bx) (hc2 : c * c = c2 bx)
    (hca : b * c * ca = dotBC bx) (hcb : a * c * cb = dotAC bx) (hcg : a * b * cg = dotAB bx) :
    setAbc? thr a b c ca cb cg bx.vects.r1.y bx.vects.r2.z bx.origin = some bx :=
  map_cleanBox_of_isClean (abc_rebuild_normal bx h a b c ca cb cg ha hb hc ha2 hb2 hc2 hca hcb hcg) hcl

/-- on every object reached from `Box()` by any sequence of calls, `reciprocal_vects` (cached or
    not) is dual to the *current* vectors. -/
theorem obj_recip_dual (thr : K) (ops : List (Op K)) (m : M3 K)
    (h : ((CBox.fresh : CBox K).after thr ops |>.read .recip).2 = .mat m) :
    m.mul ((CBox.fresh : CBox K).after thr ops).box.vects.transpose = M3.one := by
  rw [read_refines _ (obj_after_coherent thr ops _ fresh_coherent), ReadOp.eval] at h
  split at h
  · cases h
  · rename_i hd
    cases h
    exact (reciprocal_dual _ hd).1

/-- on every such object with a non-degenerate cell, `position_cartesian_to_relative` undoes
    `position_relative_to_cartesian`, whatever was cached before. -/
theorem obj_c2r_r2c (thr : K) (ops : List (Op K)) (s : V3 K)
    (hd : ((CBox.fresh : CBox K).after thr ops).box.vects.det ≠ 0) :
    (((CBox.fresh : CBox K).after thr ops).read
      (.c2r (((CBox.fresh : CBox K).after thr ops).box.relToCart s))).2 = .vec s := by
  rw [read_refines _ (obj_after_coherent thr ops _ fresh_coherent), ReadOp.eval, if_neg hd, (rel_cart_inverse _ hd s s).1]

/-- non-vacuity: a history with a warm cache, a change of the cell and an origin move. -/
example : ((CBox.fresh : CBox ℚ).after (1/1000000000)
    [.set (.lengths ⟨2, 3, 4, 1/2, 0, 1⟩ ⟨1, 2, 3⟩), .read .recip, .set (.attrVects ⟨⟨2, 0, 0⟩, ⟨1, 3, 0⟩, ⟨0, 1, 5⟩⟩),
     .read (.c2r ⟨1, 1, 1⟩), .set (.attrOrigin ⟨0, 1, 0⟩)]).box.vects.det ≠ 0 := by decide +kernel

variable {T : Trig K}

/-- "the reported lengths and angles are those of the vectors", in one statement about what the six getters return for a
    non-degenerate cell (`alpha beta gamma`: rows 1-2, 0-2, 0-1). -/
theorem abc_getters_spec (hT : T.Spec) (bx : Box K) (hd : bx.vects.det ≠ 0) :
    ∃ a b c al be ga, readAs? T .abc bx = some (.abc a b c al be ga bx.origin) ∧
      0 < a ∧ 0 < b ∧ 0 < c ∧ a * a = a2 bx ∧ b * b = b2 bx ∧ c * c = c2 bx ∧
      0 < al ∧ al < 180 ∧ 0 < be ∧ be < 180 ∧ 0 < ga ∧ ga < 180 ∧
      cosDeg T al * (b * c) = dotBC bx ∧ cosDeg T be * (a * c) = dotAC bx ∧ cosDeg T ga * (a * b) = dotAB bx := by
  obtain ⟨x12, x02, x01⟩ := cross_pos_of_det bx.vects hd
  obtain ⟨p1, p2⟩ := cross_pos_parts _ _ x12
  obtain ⟨p0, _⟩ := cross_pos_parts _ _ x02
  obtain ⟨s1, s2, _, s4⟩ := angleDeg_spec hT _ _ x12
  obtain ⟨t1, t2, _, t4⟩ := angleDeg_spec hT _ _ x02
  obtain ⟨u1, u2, _, u4⟩ := angleDeg_spec hT _ _ x01
  exact ⟨_, _, _, _, _, _, rfl, lenOf_pos hT _ p0, lenOf_pos hT _ p1, lenOf_pos hT _ p2, lenOf_sq hT _, lenOf_sq hT _, lenOf_sq hT _,
    s1, s2, t1, t2, u1, u2, s4, t4, u4⟩

theorem anglesOk_iff (al be ga : K) :
    anglesOk al be ga = true ↔ 0 < al ∧ al < 180 ∧ 0 < be ∧ be < 180 ∧ 0 < ga ∧ ga < 180 := by
  simp only [anglesOk, Bool.and_eq_true, decide_eq_true_eq, and_assoc]

theorem defineRaw_abc_eq {a b c al be ga ly lz : K} {o : V3 K} (hok : anglesOk al be ga = true)
    (hly : T.sqrt (abcLySq b (cosDeg T ga)) = ly)
    (hlz : T.sqrt (abcLzSq b c (cosDeg T al) (cosDeg T be) (cosDeg T ga) ly) = lz) :
    defineRaw? T (.abc a b c al be ga o) = ofAbc? a b c (cosDeg T al) (cosDeg T be) (cosDeg T ga) ly lz o := by
  simp only [defineRaw?, hok, if_true, abcOfDeg, hly, hlz, ofAbc?]

/-- `define?` is `defineRaw?` followed by the clean-up of the `vects` setter. -/
theorem define_eq_clean_raw (thr : K) (x : Params K) : define? T thr x = (defineRaw? T x).map (cleanBox thr) := by
  cases x with
  | vectors a b' c o => rfl
  | abc a b' c al be ga o => simp only [define?, defineRaw?, setAbcDeg?]; split <;> rfl
  | lengths p o => rfl
  | hilos p => rfl

/-- **"the reported lengths and angles are those of the vectors" at the level of the API**: a cell accepted by
    `set_abc(a, b, c, alpha, beta, gamma, origin)` (positive lengths) reports, before the clean-up, exactly `a b c`, the three
    angles in degrees it was given, and the origin. -/
theorem abc_readback_degrees (hT : T.Spec) (a b c al be ga : K) (o : V3 K) (bx : Box K) (hb : 0 < b) (hc : 0 < c)
    (h : defineRaw? T (.abc a b c al be ga o) = some bx) :
    readAs? T .abc bx = some (.abc a b c al be ga o) := by
  have hok : anglesOk al be ga = true := by
    by_contra hno
    simp only [defineRaw?, hno, if_false, reduceCtorEq] at h
  obtain ⟨al1, al2, be1, be2, ga1, ga2⟩ := (anglesOk_iff al be ga).mp hok
  rw [defineRaw_abc_eq hok rfl rfl] at h
  -- `set_lengths` accepted, so `a` and both roots are positive, hence the roots square to their radicands
  obtain ⟨ha, pl, pz⟩ := ofLengthsP?_some_pos _ _ _ h
  obtain ⟨bx', e0, _, rfl, g1, g2, g3, g4, g5, g6⟩ := abc_gram a b c _ _ _ _ _ o ha pl
    (hT.sqrt_sq _ (hT.pos_of_sqrt_pos _ pl).le) pz (hT.sqrt_sq _ (hT.pos_of_sqrt_pos _ pz).le)
  obtain rfl : bx' = bx := Option.some.inj (e0.symm.trans h)
  have la : lenOf T bx'.vects.r0 = a := (congrArg T.sqrt g1).trans (hT.sqrt_mul_self a ha.le)
  have lb : lenOf T bx'.vects.r1 = b := (congrArg T.sqrt g2).trans (hT.sqrt_mul_self b hb.le)
  have lc : lenOf T bx'.vects.r2 = c := (congrArg T.sqrt g3).trans (hT.sqrt_mul_self c hc.le)
  have eal := angleDeg_of_dot hT bx'.vects.r1 bx'.vects.r2 b c al al1 al2 hb hc lb lc g6
  have ebe := angleDeg_of_dot hT bx'.vects.r0 bx'.vects.r2 a c be be1 be2 ha hc la lc g5
  have ega := angleDeg_of_dot hT bx'.vects.r0 bx'.vects.r1 a b ga ga1 ga2 ha hb la lb g4
  simp only [readAs?, la, lb, lc, eal, ebe, ega]

/-- **any right-handed cell read through `a b c alpha beta gamma` (+ origin) and handed to `set_abc`**: accepted, and what goes to
    the `vects` setter is LAMMPS-oriented, has the same origin, and is the cell turned by a proper rotation. -/
theorem read_abc_rebuild (hT : T.Spec) (bx : Box K) (hdet : 0 < bx.vects.det) :
    ∃ q b', readAs? T .abc bx = some q ∧ q.family = .abc ∧ defineRaw? T q = some b' ∧
      b'.isLammpsNorm = true ∧ b'.origin = bx.origin ∧
      ∃ r : M3 K, bx.vects.mul r = b'.vects ∧ r.mul r.transpose = M3.one ∧ r.det = 1 := by
  obtain ⟨a, b, c, al, be, ga, hq, pa, pb, pc, ha2, hb2, hc2, al1, al2, be1, be2, ga1, ga2, hca, hcb, hcg⟩ :=
    abc_getters_spec hT bx hdet.ne'
  -- the cosine of `gamma` is strictly inside (-1, 1): the first two cell vectors are not parallel
  have cgs : -1 < cosDeg T ga ∧ cosDeg T ga < 1 := by
    have e : cosDeg T ga = angleCos bx.vects.r0 bx.vects.r1 a b :=
      (eq_div_of_mul_eq (mul_pos pa pb).ne' hcg).trans (angleCos_eq _ _ _ _).symm
    rw [e]
    exact angleCos_strict _ _ _ _ pa pb ha2 hb2 (cross_pos_of_det bx.vects hdet.ne').2.2
  -- C01_Cell states the three products as `b * c * cα`, the getter spec (`abc_getters_spec`) as `cα * (b * c)`
  rw [mul_comm] at hca hcb hcg
  obtain ⟨r1pos, r2all⟩ := abc_radicands_pos bx hdet a b c _ _ _ pa pb ha2 hb2 hc2 hca hcb hcg cgs
  have ply := hT.sqrt_pos _ r1pos
  have hly2 := hT.sqrt_sq _ r1pos.le
  have r2pos := r2all _ ply hly2
  obtain ⟨b', e0, nb, ob, rot⟩ := abc_rebuild_rotation bx hdet a b c _ _ _ _ _ pa ha2 hb2 hc2 hca hcb hcg ply hly2
    (hT.sqrt_pos _ r2pos) (hT.sqrt_sq _ r2pos.le)
  exact ⟨_, b', hq, rfl,
    (defineRaw_abc_eq ((anglesOk_iff _ _ _).mpr ⟨al1, al2, be1, be2, ga1, ga2⟩) rfl rfl).trans e0, nb, ob, rot⟩

/-- reading a clean LAMMPS-oriented cell through `a b c alpha beta gamma` (+ origin) and handing that to `set_abc`. -/
theorem read_abc_rebuild_normal (hT : T.Spec) (thr : K) (bx : Box K) (hcl : IsClean thr bx) (h : bx.isLammpsNorm = true) :
    ∃ q, readAs? T .abc bx = some q ∧ q.family = .abc ∧ define? T thr q = some bx := by
  obtain ⟨q, b', hq, hf, raw, nb, ob, r, hr, hrr, _⟩ := read_abc_rebuild hT bx (Box.det_pos_of_normal bx h)
  -- a LAMMPS-oriented cell is the only LAMMPS-oriented member of its rotation class
  obtain rfl : b' = bx := Box.ext (normal_unique_of_gram b' bx nb h (hr ▸ rotation_preserves_gram _ r hrr)) ob
  refine ⟨q, hq, hf, ?_⟩
  rw [define_eq_clean_raw]
  exact map_cleanBox_of_isClean raw hcl

/-- whatever a cell-defining call stores is clean (the next setter's clean-up does nothing to it). -/
theorem defined_isClean (thr : K) (hthr : 0 ≤ thr) (x : Params K) (b : Box K) (h : define? T thr x = some b) :
    IsClean thr b := by
  rw [define_eq_clean_raw] at h
  obtain ⟨b0, _, rfl⟩ := Option.map_eq_some_iff.mp h
  exact clean_idem thr hthr _

theorem raw_normal (x : Params K) (hf : x.family ≠ .vectors) (b0 : Box K) (h : defineRaw? T x = some b0) :
    b0.isLammpsNorm = true := by
  cases x with
  | vectors a b' c o => exact absurd rfl hf
  | abc a b' c al be ga o =>
    simp only [defineRaw?] at h
    split at h
    · exact (lengths_readback _ _ _ h).1
    · cases h
  | lengths p o => exact (lengths_readback _ _ _ h).1
  | hilos p => exact (hilos_readback _ _ h).1

/-- **a cell defined through lengths/angles, LAMMPS lengths/tilts or LAMMPS bounds/tilts is LAMMPS-oriented** whenever it is
    non-degenerate (the clean-up has not flattened it). -/
theorem defined_normal_of_det (thr : K) (x : Params K) (hf : x.family ≠ .vectors) (b : Box K)
    (h : define? T thr x = some b) (hd : b.vects.det ≠ 0) : b.isLammpsNorm = true := by
  rw [define_eq_clean_raw] at h
  obtain ⟨b0, h0, rfl⟩ := Option.map_eq_some_iff.mp h
  exact clean_normal_of_det thr b0 (raw_normal x hf b0 h0) hd

/-- **read through Y, rebuild through Y**, for each of the four parameter sets Y, on a clean LAMMPS-oriented cell: the getters of
    Y hand out values, and giving exactly those back to Y's setter stores the same vectors and the same origin. -/
theorem read_rebuild_same (hT : T.Spec) (thr : K) (Y : Family) (b : Box K) (hc : IsClean thr b) (hn : b.isLammpsNorm = true) :
    ∃ q, readAs? T Y b = some q ∧ q.family = Y ∧ define? T thr q = some b := by
  cases Y with
  | vectors => exact ⟨_, rfl, rfl, map_cleanBox_of_isClean (o := some b) rfl hc⟩
  | abc => exact read_abc_rebuild_normal hT thr b hc hn
  | lengths =>
    obtain ⟨p, h1, h2⟩ := lengths_roundtrip_clean thr b hc hn
    exact ⟨.lengths p b.origin, by simp only [readAs?, h1, Option.map_some], rfl, h2⟩
  | hilos =>
    obtain ⟨p, h1, h2⟩ := hilos_roundtrip_clean thr b hc hn
    exact ⟨.hilos p, by simp only [readAs?, h1, Option.map_some], rfl, h2⟩

/-- **every ordered pair (X, Y) of the four parameter sets**: a cell defined through X (accepted, non-degenerate; for X = three
    vectors: given in LAMMPS-compatible orientation) can be read back through Y, and rebuilding from those values through Y
    returns the same vectors and origin. -/
theorem rebuild_any_pair (hT : T.Spec) (thr : K) (hthr : 0 ≤ thr) (x : Params K) (Y : Family) (b : Box K)
    (hx : define? T thr x = some b) (hd : b.vects.det ≠ 0) (hX : x.family ≠ .vectors ∨ b.isLammpsNorm = true) :
    ∃ q, readAs? T Y b = some q ∧ q.family = Y ∧ define? T thr q = some b := by
  have hn : b.isLammpsNorm = true := hX.elim (fun h => defined_normal_of_det thr x h b hx hd) id
  exact read_rebuild_same hT thr Y b (defined_isClean thr hthr x b hx) hn

/-- read back and rebuild succeed through Y and through Z on the same cell `b` (`rebuild_any_pair` twice): because the cell rebuilt
    through Y is `b` itself, a chain X → Y → Z never leaves `b`. -/
theorem rebuild_any_pair_fixpoint (hT : T.Spec) (thr : K) (hthr : 0 ≤ thr) (x : Params K) (Y Z : Family) (b : Box K)
    (hx : define? T thr x = some b) (hd : b.vects.det ≠ 0) (hX : x.family ≠ .vectors ∨ b.isLammpsNorm = true) :
    ∃ q, readAs? T Y b = some q ∧ define? T thr q = some b ∧
      ∃ q', readAs? T Z b = some q' ∧ define? T thr q' = some b := by
  obtain ⟨q, h1, _, h2⟩ := rebuild_any_pair hT thr hthr x Y b hx hd hX
  obtain ⟨q', h3, _, h4⟩ := rebuild_any_pair hT thr hthr x Z b hx hd hX
  exact ⟨q, h1, h2, q', h3, h4⟩

/-- **a cell NOT in LAMMPS-compatible orientation** (right-handed, clean): three vectors rebuild it exactly; the LAMMPS getters
    refuse; lengths and angles in degrees rebuild the same cell up to a proper rotation, in LAMMPS orientation, same origin
    (`b'` = what `set_abc` hands to the `vects` setter; the stored cell is its clean-up). -/
theorem rebuild_turned_cell (hT : T.Spec) (thr : K) (bx : Box K) (hcl : IsClean thr bx) (hdet : 0 < bx.vects.det)
    (hn : bx.isLammpsNorm = false) :
    (∃ q, readAs? T .vectors bx = some q ∧ define? T thr q = some bx) ∧
    readAs? T .lengths bx = none ∧ readAs? T .hilos bx = none ∧
    ∃ q b', readAs? T .abc bx = some q ∧ defineRaw? T q = some b' ∧ define? T thr q = some (cleanBox thr b') ∧
      b'.isLammpsNorm = true ∧ b'.origin = bx.origin ∧
      ∃ r : M3 K, bx.vects.mul r = b'.vects ∧ r.mul r.transpose = M3.one ∧ r.det = 1 := by
  obtain ⟨q, b', hq, _, raw, rest⟩ := read_abc_rebuild hT bx hdet
  exact ⟨⟨_, rfl, map_cleanBox_of_isClean (o := some bx) rfl hcl⟩, by simp only [readAs?, lengths?, hn]; rfl,
    by simp only [readAs?, hilos?, hn]; rfl, q, b', hq, raw, by rw [define_eq_clean_raw, raw]; rfl, rest⟩

/-- non-vacuity of the hypotheses that do not involve the library routines (any `T`): a tilted cell with non-zero origin given
    through LAMMPS lengths, through LAMMPS bounds, and through three vectors for a turned cell. -/
example : ∃ (x : Params ℚ) (b : Box ℚ), define? ⟨id, id, id, 3⟩ (1/1000000000) x = some b ∧ b.vects.det ≠ 0 ∧
    x.family = .lengths ∧ b.vects.r1.x ≠ 0 ∧ b.origin ≠ ⟨0, 0, 0⟩ :=
  ⟨.lengths ⟨2, 3, 4, 1/2, 0, 1⟩ ⟨1, 2, 3⟩, ⟨⟨⟨2, 0, 0⟩, ⟨1/2, 3, 0⟩, ⟨0, 1, 4⟩⟩, ⟨1, 2, 3⟩⟩, by decide +kernel⟩
example : ∃ (x : Params ℚ) (b : Box ℚ), define? ⟨id, id, id, 3⟩ (1/1000000000) x = some b ∧ b.vects.det ≠ 0 ∧
    x.family = .hilos ∧ b.vects.r2.y ≠ 0 :=
  ⟨.hilos ⟨1, 3, 2, 5, 3, 7, 1/2, 0, 1⟩, ⟨⟨⟨2, 0, 0⟩, ⟨1/2, 3, 0⟩, ⟨0, 1, 4⟩⟩, ⟨1, 2, 3⟩⟩, by decide +kernel⟩
example : ∃ (x : Params ℚ) (b : Box ℚ), define? ⟨id, id, id, 3⟩ (1/1000000000) x = some b ∧ 0 < b.vects.det ∧
    x.family = .vectors ∧ b.isLammpsNorm = false ∧ cleanVects (1/1000000000) b.vects = b.vects :=
  ⟨.vectors ⟨0, 2, 0⟩ ⟨0, 3, 4⟩ ⟨12, 5, 0⟩ ⟨1, 2, 3⟩, ⟨⟨⟨0, 2, 0⟩, ⟨0, 3, 4⟩, ⟨12, 5, 0⟩⟩, ⟨1, 2, 3⟩⟩, by decide +kernel⟩

/-- `set_abc` in degrees is the `SetOp.abc` call of the object model (the one the correspondence drives) with the cosines and
    roots the library routines return. -/
theorem setAbcDeg_eq_setOp (thr : K) (b0 : Box K) (a b c al be ga : K) (o : V3 K) :
    setAbcDeg? T thr a b c al be ga o =
      SetOp.apply? thr b0 (.abc al be ga a b c (cosDeg T al) (cosDeg T be) (cosDeg T ga)
        (T.sqrt (abcLySq b (cosDeg T ga)))
        (T.sqrt (abcLzSq b c (cosDeg T al) (cosDeg T be) (cosDeg T ga) (T.sqrt (abcLySq b (cosDeg T ga))))) o) := by
  simp only [setAbcDeg?, SetOp.apply?, setAbc?, ofAbc?, abcOfDeg]
  split <;> rfl

/-- **which definitions are refused**: three vectors never; LAMMPS lengths iff one of `lx ly lz` is not positive; LAMMPS bounds
    iff one `hi` is not above its `lo`; lengths and angles iff an angle is outside (0, 180) (ValueError) or `a` or one of the two
    roots is not positive (AssertionError of `set_lengths`: the angle triple is not realisable). -/
theorem define_refuses_iff (thr : K) :
    (∀ a b c o, (define? T thr (.vectors a b c o)).isSome = true) ∧
    (∀ p o, define? T thr (.lengths p o) = none ↔ ¬(0 < p.lx ∧ 0 < p.ly ∧ 0 < p.lz)) ∧
    (∀ p : HiLos K, define? T thr (.hilos p) = none ↔ ¬(p.xlo < p.xhi ∧ p.ylo < p.yhi ∧ p.zlo < p.zhi)) ∧
    (∀ a b c al be ga o, define? T thr (.abc a b c al be ga o) = none ↔
      (anglesOk al be ga = false ∨
       ¬(0 < a ∧ 0 < (abcOfDeg T a b c al be ga).ly ∧ 0 < (abcOfDeg T a b c al be ga).lz))) := by
  refine ⟨fun _ _ _ _ => rfl, fun p o => ?_, fun p => ?_, fun a b c al be ga o => ?_⟩
  · exact Option.map_eq_none_iff.trans (ofLengthsP?_eq_none_iff p o)
  · have h := ofLengthsP?_eq_none_iff ⟨p.xhi - p.xlo, p.yhi - p.ylo, p.zhi - p.zlo, p.xy, p.xz, p.yz⟩ ⟨p.xlo, p.ylo, p.zlo⟩
    simp only [sub_pos] at h
    exact Option.map_eq_none_iff.trans h
  · rw [define?, setAbcDeg?]
    cases anglesOk al be ga
    · simp only [Bool.false_eq_true, if_false, true_or]
    · simp only [if_true, reduceCtorEq, false_or]
      exact Option.map_eq_none_iff.trans (ofLengthsP?_eq_none_iff _ o)

/-- **which read-backs are refused**: exactly the LAMMPS lengths / bounds of a cell that is not LAMMPS-oriented. -/
theorem readAs_refuses_iff (Y : Family) (b : Box K) :
    readAs? T Y b = none ↔ (Y = .lengths ∨ Y = .hilos) ∧ b.isLammpsNorm = false := by
  cases Y <;> cases h : b.isLammpsNorm <;> simp [readAs?, lengths?, hilos?, h]

/-- the setter call a definition is. -/
def Params.toSetOp (T : Trig K) : Params K → SetOp K
  | .vectors a b c o => .vects ⟨a, b, c⟩ o
  | .abc a b c al be ga o => .abc al be ga a b c (cosDeg T al) (cosDeg T be) (cosDeg T ga)
      (T.sqrt (abcLySq b (cosDeg T ga)))
      (T.sqrt (abcLzSq b c (cosDeg T al) (cosDeg T be) (cosDeg T ga) (T.sqrt (abcLySq b (cosDeg T ga))))) o
  | .lengths p o => .lengths p o
  | .hilos p => .hilos p

theorem define_eq_setOp (thr : K) (b0 : Box K) (q : Params K) : define? T thr q = (q.toSetOp T).apply? thr b0 := by
  cases q with
  | vectors a b c o => rfl
  | abc a b c al be ga o => exact setAbcDeg_eq_setOp thr b0 a b c al be ga o
  | lengths p o => rfl
  | hilos p => rfl

/-- **read through Y, rebuild through Y, on the object with its cache and after any history**: for a Box object whose
    current cell is clean and LAMMPS-oriented, the values its Y-getters hand out, given to Y's setter, are accepted, leave the
    object with the same cell, and every later read (reciprocal vectors, both conversions, inside, outside) reports what it
    reported before — whatever was cached. -/
theorem obj_rebuild_any_pair (hT : T.Spec) (thr : K) (c : CBox K) (hc : c.Coherent) (Y : Family)
    (hcl : IsClean thr c.box) (hn : c.box.isLammpsNorm = true) :
    ∃ q, readAs? T Y c.box = some q ∧ (c.set thr (q.toSetOp T)).2 = .ok ∧ (c.set thr (q.toSetOp T)).1.box = c.box ∧
      ∀ r : ReadOp K, ((c.set thr (q.toSetOp T)).1.read r).2 = (c.read r).2 := by
  obtain ⟨q, h1, _, h2⟩ := read_rebuild_same hT thr Y c.box hcl hn
  rw [define_eq_setOp thr c.box q] at h2
  have e : c.set thr (q.toSetOp T) = (⟨c.box, if (q.toSetOp T).writesVects then none else c.cache⟩, .ok) := by
    simp only [CBox.set, h2]
  refine ⟨q, h1, by rw [e], by rw [e], ?_⟩
  intro r
  rw [read_refines _ (obj_set_coherent thr c hc _), read_refines c hc, e]

/-- which constructor calls are refused by the constructor itself. -/
theorem ctor_refuses_iff (a b c al be ga : K) :
    ((Ctor.cubic a).params? (K := K)).isSome = true ∧
    ((Ctor.hexagonal a c).params? = none ↔ a = c) ∧ ((Ctor.tetragonal a c).params? = none ↔ a = c) ∧
    ((Ctor.trigonal a al).params? = none ↔ 120 ≤ al) ∧
    ((Ctor.orthorhombic a b c).params? = none ↔ (a = b ∨ a = c)) ∧
    ((Ctor.monoclinic a b c be).params? = none ↔ (a = b ∨ a = c ∨ be ≤ 90)) ∧
    ((Ctor.triclinic a b c al be ga).params? = none ↔ (a = b ∨ a = c ∨ al = be ∨ al = ga)) := by
  simp only [Ctor.params?, ite_eq_left_iff, reduceCtorEq, imp_false, not_not, ← or_iff_not_imp_left, or_assoc,
    Option.isSome_some, true_and]

theorem ctor_params_abc (k : Ctor K) (q : Params K) (hq : k.params? = some q) :
    ∃ a b c al be ga, q = .abc a b c al be ga ⟨0, 0, 0⟩ := by
  -- each constructor, each outcome of its guards: refused, or `cls(a=…, …, gamma=…)` without `origin`
  cases k <;> simp only [Ctor.params?] at hq <;> (try split_ifs at hq) <;> cases hq <;> exact ⟨_, _, _, _, _, _, rfl⟩

/-- an accepted constructor call defines a cell through lengths and angles with origin `(0,0,0)`, and — like every such cell
    — a non-degenerate result is LAMMPS-oriented and can be read back and rebuilt through every parameter set. -/
theorem ctor_rebuild_any (hT : T.Spec) (thr : K) (hthr : 0 ≤ thr) (k : Ctor K) (q : Params K) (b : Box K) (Y : Family)
    (hq : k.params? = some q) (hb : define? T thr q = some b) (hd : b.vects.det ≠ 0) :
    q.family = .abc ∧ b.origin = ⟨0, 0, 0⟩ ∧ b.isLammpsNorm = true ∧
    ∃ q', readAs? T Y b = some q' ∧ q'.family = Y ∧ define? T thr q' = some b := by
  obtain ⟨a, b', c, al, be, ga, rfl⟩ := ctor_params_abc k q hq
  have hne : (Params.abc a b' c al be ga (⟨0, 0, 0⟩ : V3 K)).family ≠ .vectors := fun h => nomatch h
  have ho : b.origin = ⟨0, 0, 0⟩ := by
    rw [define_eq_clean_raw] at hb
    obtain ⟨b0, h0, rfl⟩ := Option.map_eq_some_iff.mp hb
    simp only [defineRaw?] at h0
    split at h0
    · exact (lengths_readback _ _ _ h0).2.2
    · cases h0
  exact ⟨rfl, ho, defined_normal_of_det thr _ hne b hb hd, rebuild_any_pair hT thr hthr _ Y b hb hd (Or.inl hne)⟩

/-- right angles: `set_abc(a, b, c, 90, 90, 90)` — what `Box.cubic`, `Box.tetragonal`, `Box.orthorhombic` call — hands the
    diagonal matrix `diag(a, b, c)` to the `vects` setter. -/
theorem define_right_angles (hT : T.Spec) (a b c : K) (ha : 0 < a) (hb : 0 < b) (hc : 0 < c) (o : V3 K) :
    defineRaw? T (.abc a b c 90 90 90 o) = some ⟨⟨⟨a, 0, 0⟩, ⟨0, b, 0⟩, ⟨0, 0, c⟩⟩, o⟩ := by
  have h90 : cosDeg T 90 = 0 := hT.cos_right
  have ok : anglesOk (90 : K) 90 90 = true := (anglesOk_iff _ _ _).mpr (by norm_num)
  have e1 : abcLySq b 0 = b * b := by simp only [abcLySq]; ring
  have s1 : T.sqrt (abcLySq b 0) = b := by rw [e1]; exact hT.sqrt_mul_self b hb.le
  have e2 : abcLzSq b c 0 0 0 b = c * c := by simp only [abcLzSq]; ring
  have s2 : T.sqrt (abcLzSq b c 0 0 0 b) = c := by rw [e2]; exact hT.sqrt_mul_self c hc.le
  simp only [defineRaw?, ok, if_true, abcOfDeg, h90, s1, s2, ofLengthsP?, abcLengths, Box.ofLengths?, ha, hb, hc, and_self,
    mul_zero, sub_zero, zero_div]

example : ∃ k : Ctor ℚ, ∃ q, k.params? = some q ∧ q.family = .abc :=
  ⟨.monoclinic 2 3 4 100, _, rfl, rfl⟩

/-- **building from a parameter set and reading the same set back returns the values given** (before the setter clean-up): three
    vectors + origin, LAMMPS lengths + tilts + origin, LAMMPS bounds + tilts, and lengths + angles in degrees + origin (positive
    `b`, `c`). -/
theorem raw_readback (hT : T.Spec) (x : Params K) (b : Box K) (h : defineRaw? T x = some b)
    (hpos : ∀ a b' c al be ga o, x = .abc a b' c al be ga o → 0 < b' ∧ 0 < c) :
    readAs? T x.family b = some x := by
  cases x with
  | vectors a b' c o =>
    simp only [defineRaw?, Option.some.injEq] at h
    subst h; rfl
  | abc a b' c al be ga o =>
    obtain ⟨hb, hc⟩ := hpos a b' c al be ga o rfl
    exact abc_readback_degrees hT a b' c al be ga o b hb hc h
  | lengths p o =>
    obtain ⟨_, h2, h3⟩ := lengths_readback p o b h
    simp only [Params.family, readAs?, h2, Option.map_some, h3]
  | hilos p =>
    obtain ⟨_, h2⟩ := hilos_readback p b h
    simp only [Params.family, readAs?, h2, Option.map_some]

/-- **uniqueness**: within one parameter set, two accepted definitions of the same cell are the same definition — the values
    read back are the only ones that rebuild the cell. -/
theorem raw_definition_unique (hT : T.Spec) (x y : Params K) (b : Box K) (hf : x.family = y.family)
    (hx : defineRaw? T x = some b) (hy : defineRaw? T y = some b)
    (hposx : ∀ a b' c al be ga o, x = .abc a b' c al be ga o → 0 < b' ∧ 0 < c)
    (hposy : ∀ a b' c al be ga o, y = .abc a b' c al be ga o → 0 < b' ∧ 0 < c) : x = y := by
  have e1 := raw_readback hT x b hx hposx
  have e2 := raw_readback hT y b hy hposy
  rw [hf, e2] at e1
  exact (Option.some.inj e1).symm

example : ∃ (x y : Params ℚ), x.family = y.family ∧ x.family = .hilos ∧
    defineRaw? ⟨id, id, id, 3⟩ x = defineRaw? ⟨id, id, id, 3⟩ y ∧ (defineRaw? ⟨id, id, id, 3⟩ x).isSome = true :=
  ⟨.hilos ⟨1, 3, 2, 5, 3, 7, 1/2, 0, 1⟩, .hilos ⟨1, 3, 2, 5, 3, 7, 1/2, 0, 1⟩, by decide +kernel⟩

end Atomman.C01
