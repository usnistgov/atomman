/-
  C14, object level: `FreeSurface` / `StackingFault` keep state between calls; `Atomman.C14.sfStep` mirrors which attribute
  every call assigns, in the coded order, including what a refused call leaves behind.  The cached mask never goes stale
  (`sfRun_coherent`, `fault_after_history`); an accepted `surface()` forgets the past (`surfaceSF_forgets`,
  `history_eq_fresh`); the stored system after any history is a build of the rotated cell (`sfRun_built`).
-/
import Atomman.C14
import Proofs.Lists
import Mathlib.Tactic.Ring

namespace Atomman.C14
open Atomman
set_option linter.unusedSectionVars false

section object
variable {K : Type} [Field K] [LinearOrder K] [IsStrictOrderedRing K]

/-- `fault()` with the mask the setters compute is `fault` with the plane itself. -/
theorem faultWith_maskOf (box : Box K) (pbc : V3 Bool) (fl : K → Int) (cut : Cut) (fp : K) (sh : V3 K)
    (atoms : List (C04.Atom K)) :
    faultWith box pbc fl (maskOf cut fp atoms) sh (atoms.map (·.pos))
      = fault box pbc fl cut fp sh (atoms.map (·.pos)) := by
  unfold faultWith maskOf fault
  rw [List.zip_map', List.map_map, List.map_map]
  apply List.map_congr_left
  intro a _
  simp only [Function.comp, faultPos]

/-! ### invariants of the object: what every setter and `surface()` keep, every call keeps -/
section invariant
variable (st : SFStatic K) (P : SFState K → Prop)

/-- a refusal of the first step stops the call in the state reached; otherwise the second step runs in it. -/
theorem andThen_cases {α : Type} (r : SFState K × Except String Unit) (f : SFState K → SFState K × Except String α)
    (hr : ∀ o e, r = (o, .error e) → P o) (hf : ∀ o, r = (o, .ok ()) → P (f o).1) : P (andThen r f).1 := by
  obtain ⟨o, e⟩ := r
  cases e with
  | error e => exact hr o e rfl
  | ok u => exact hf o rfl

theorem andThen_inv {α : Type} (r : SFState K × Except String Unit) (f : SFState K → SFState K × Except String α)
    (hr : P r.1) (hf : ∀ o, P o → P (f o).1) : P (andThen r f).1 :=
  andThen_cases P r f (fun o e h => by rw [h] at hr; exact hr) (fun o h => hf o (by rw [h] at hr; exact hr))

theorem setFaultpos_inv (hR : ∀ o r, P o → P (setFpRel st o r).1) (hC : ∀ o c, P o → P (setFpCart st o c).1)
    (o : SFState K) (d : Bool) (a : FaultPosArg K) (h : P o) : P (setFaultpos st o d a).1 := by
  cases a with
  | none =>
    simp only [setFaultpos]
    split
    · exact hR o _ h
    · exact h
  | rel r => exact hR o r h
  | cart c => exact hC o c h
  | both => exact h

theorem faultPrelude_inv (hR : ∀ o r, P o → P (setFpRel st o r).1) (hC : ∀ o c, P o → P (setFpCart st o c).1)
    (hA : ∀ o f u, P o → P (setAvect st o f u).1) (o : SFState K) (a1v a2v : Option (V3 K)) (fpos : FaultPosArg K)
    (h : P o) : P (faultPrelude st o a1v a2v fpos).1 := by
  have hO : ∀ o f (u : Option (V3 K)), P o → P (optAvect st o f u).1 := by
    intro o f u h
    cases u with
    | none => exact h
    | some u => exact hA o f u h
  exact andThen_inv P _ _ (hO o true a1v h) fun o1 h1 =>
    andThen_inv P _ _ (hO o1 false a2v h1) fun o2 h2 => setFaultpos_inv st P hR hC o2 false fpos h2

theorem sfStep_inv (hS : ∀ o a, P o → P (setShiftOp st o a).1) (hU : ∀ o a, P o → P (surfaceSF st o a).1)
    (hR : ∀ o r, P o → P (setFpRel st o r).1) (hC : ∀ o c, P o → P (setFpCart st o c).1)
    (hA : ∀ o f u, P o → P (setAvect st o f u).1) (o : SFState K) (op : SFOp K) (h : P o) :
    P (sfStep st o op).1 := by
  cases op with
  | setShift a => exact hS o a h
  | surface a => exact hU o a h
  | fpRel r => exact hR o r h
  | fpCart c => exact hC o c h
  | fault a =>
    show P (faultOp st o a).1
    exact andThen_inv P _ _ (faultPrelude_inv st P hR hC hA o _ _ _ h) fun o1 h1 => h1
  | faultMap a1v a2v fpos n1 n2 oop =>
    show P (iterFaultMap st o a1v a2v fpos n1 n2 oop).1
    exact andThen_inv P _ _ (faultPrelude_inv st P hR hC hA o _ _ _ h) fun o1 h1 => h1

/-- what every call keeps holds after any history of calls. -/
theorem sfRun_inv (hstep : ∀ o op, P o → P (sfStep st o op).1) (ops : List (SFOp K)) (o : SFState K) (h : P o) :
    P (sfRun st o ops).1 := by
  induction ops generalizing o with
  | nil => exact h
  | cons op t ih => exact ih _ (hstep o op h)

theorem sfNew_inv (hS : ∀ o a, P o → P (setShiftOp st o a).1)
    (h0 : ∀ a1 a2, P ⟨zeroV3, none, none, none, none, a1, a2⟩) (a : ShiftArg K) (o : SFState K)
    (h : sfNew st a = .ok o) : P o := by
  unfold sfNew at h
  simp only at h
  have := hS _ a (h0 (st.rbox.vects.row ((cutIndex st.cut + 1) % 3)) (st.rbox.vects.row ((cutIndex st.cut + 2) % 3)))
  split at h
  · rename_i o' he
    cases h
    rw [he] at this
    exact this
  · cases h

end invariant

/-- the cached mask, when there is one, is the mask of the *stored* system at the *stored* plane. -/
def Coherent (st : SFStatic K) (o : SFState K) : Prop :=
  ∀ m, o.above = some m → ∃ s fp, o.system = some s ∧ o.fpCart = some fp ∧ m = maskOf st.cut fp s.atoms

theorem coherent_of_above_none (st : SFStatic K) (o : SFState K) (h : o.above = none) : Coherent st o := by
  intro m hm; rw [h] at hm; cases hm

theorem coherent_congr (st : SFStatic K) (o o' : SFState K) (h1 : o'.system = o.system) (h2 : o'.fpCart = o.fpCart)
    (h3 : o'.above = o.above) (h : Coherent st o) : Coherent st o' := by
  intro m hm
  rw [h3] at hm
  obtain ⟨s, fp, a, b, c⟩ := h m hm
  exact ⟨s, fp, by rw [h1, a], by rw [h2, b], c⟩

theorem setShiftOp_coherent (st : SFStatic K) (o : SFState K) (a : ShiftArg K) (h : Coherent st o) :
    Coherent st (setShiftOp st o a).1 := by
  unfold setShiftOp
  cases a <;> simp only <;> split <;> exact h


theorem setFpRel_coherent (st : SFStatic K) (o : SFState K) (r : K) (h : Coherent st o) :
    Coherent st (setFpRel st o r).1 := by
  obtain ⟨sh, sys, fr, fc, ab, a1, a2⟩ := o
  unfold setFpRel
  split
  · exact h
  · cases sys with
    | none => exact h
    | some s =>
      intro m hm
      simp only [Option.some.injEq] at hm
      exact ⟨s, _, rfl, rfl, hm.symm⟩

theorem setFpCart_coherent (st : SFStatic K) (o : SFState K) (c : K) (h : Coherent st o) :
    Coherent st (setFpCart st o c).1 := by
  obtain ⟨sh, sys, fr, fc, ab, a1, a2⟩ := o
  unfold setFpCart
  cases sys with
  | none => exact h
  | some s =>
    simp only
    split
    · exact h
    · intro m hm
      simp only [Option.some.injEq] at hm
      exact ⟨s, _, rfl, rfl, hm.symm⟩

/-- a refused `FreeSurface.surface()` leaves system, plane and mask as they were. -/
theorem surfaceBase_error (st : SFStatic K) (o : SFState K) (a : SurfArgs K) (e : String)
    (h : (surfaceBase st o a).2 = .error e) :
    (surfaceBase st o a).1.system = o.system ∧ (surfaceBase st o a).1.fpCart = o.fpCart ∧
    (surfaceBase st o a).1.above = o.above ∧ (surfaceBase st o a).1.fpRel = o.fpRel := by
  obtain ⟨sh0, sys, fr, fc, ab, a1, a2⟩ := o
  unfold surfaceBase at h ⊢
  cases hsh : resolveShift st sh0 a.shift with
  | error e' => simp only [and_self]
  | ok sh =>
    simp only [hsh] at h ⊢
    cases hsz : sizesOf st.cut a with
    | error e' => simp only [and_self]
    | ok sz =>
      obtain ⟨s0, s1, s2⟩ := sz
      simp only [hsz] at h ⊢
      cases hv : a.vac with
      | none => simp only [hv] at h; cases h
      | some v =>
        simp only [hv] at h ⊢
        by_cases hneg : v < 0
        · simp only [if_pos hneg, and_self]
        · simp only [if_neg hneg] at h; cases h

theorem surfaceSF_coherent (st : SFStatic K) (o : SFState K) (a : SurfArgs K) (h : Coherent st o) :
    Coherent st (surfaceSF st o a).1 := by
  unfold surfaceSF
  apply andThen_cases
  · intro o1 e he
    have hb := surfaceBase_error st o a e (by rw [he])
    rw [he] at hb
    exact coherent_congr st o o1 hb.1 hb.2.1 hb.2.2.1 h
  · intro o1 _
    exact setFaultpos_inv st _ (setFpRel_coherent st) (setFpCart_coherent st) _ true a.fpos (coherent_of_above_none st _ rfl)

theorem setAvect_coherent (st : SFStatic K) (o : SFState K) (f : Bool) (u : V3 K) (h : Coherent st o) :
    Coherent st (setAvect st o f u).1 := by
  unfold setAvect
  simp only
  split
  · split <;> exact h
  · exact h

theorem sfStep_coherent (st : SFStatic K) (o : SFState K) (op : SFOp K) (h : Coherent st o) :
    Coherent st (sfStep st o op).1 := by
  exact sfStep_inv st _ (setShiftOp_coherent st) (surfaceSF_coherent st) (setFpRel_coherent st) (setFpCart_coherent st)
    (setAvect_coherent st) o op h

/-- **the cached mask never goes stale**: after any history of calls (refused ones included) the mask `fault()`
    will use is the mask of the stored system at the stored plane. -/
theorem sfRun_coherent (st : SFStatic K) (ops : List (SFOp K)) (o : SFState K) (h : Coherent st o) :
    Coherent st (sfRun st o ops).1 :=
  sfRun_inv st _ (sfStep_coherent st) ops o h

theorem sfNew_coherent (st : SFStatic K) (a : ShiftArg K) (o : SFState K) (h : sfNew st a = .ok o) : Coherent st o :=
  sfNew_inv st _ (setShiftOp_coherent st) (fun _ _ => coherent_of_above_none st _ rfl) a o h


/-- **what `fault()` computes in a coherent state**: the stored system shifted above the stored plane by the
    resolved vector and wrapped: the function `fault` the clause theorems `fault_below_fixed` /
    `fault_above_shifted` are about. -/
theorem faultCore_eq (st : SFStatic K) (o : SFState K) (fs : FShiftArg K) (ps : List (V3 K)) (h : Coherent st o)
    (hr : faultCore st o fs = .ok ps) :
    ∃ s fp sh, o.system = some s ∧ o.fpCart = some fp ∧ resolveFShift st.cut o fs = .ok sh ∧
      ps = fault s.box s.pbc st.fl st.cut fp sh (s.atoms.map (·.pos)) := by
  unfold faultCore at hr
  cases hsh : resolveFShift st.cut o fs with
  | error e => rw [hsh] at hr; cases hr
  | ok sh =>
    rw [hsh] at hr
    cases hs : o.system with
    | none => rw [hs] at hr; simp only at hr; cases hr
    | some s =>
      cases hm : o.above with
      | none => rw [hs, hm] at hr; simp only at hr; cases hr
      | some m =>
        rw [hs, hm] at hr
        simp only at hr
        obtain ⟨s', fp, e1, e2, e3⟩ := h m hm
        rw [hs] at e1
        cases e1
        split at hr
        · cases hr
          exact ⟨s, fp, sh, rfl, e2, rfl, by rw [e3, faultWith_maskOf]⟩
        · cases hr

/-- **`fault()` after any history**: whatever calls preceded (builds with other shifts / sizes / vacuum, refused
    calls, setters, earlier faults), a `fault()` that returns returns `fault` of the *current* system at the
    *current* plane. -/
theorem fault_after_history (st : SFStatic K) (o0 : SFState K) (h0 : Coherent st o0) (ops : List (SFOp K))
    (a : FaultArgs K) (o' : SFState K) (ps : List (V3 K))
    (hr : faultOp st (sfRun st o0 ops).1 a = (o', .ok ps)) :
    ∃ s fp sh, o'.system = some s ∧ o'.fpCart = some fp ∧ resolveFShift st.cut o' a.fshift = .ok sh ∧
      ps = fault s.box s.pbc st.fl st.cut fp sh (s.atoms.map (·.pos)) := by
  have hc := sfRun_coherent st ops o0 h0
  generalize (sfRun st o0 ops).1 = o at hr hc
  have hp := faultPrelude_inv st _ (setFpRel_coherent st) (setFpCart_coherent st) (setAvect_coherent st) o a.a1v a.a2v
    a.fpos hc
  unfold faultOp at hr
  generalize faultPrelude st o a.a1v a.a2v a.fpos = r at hr hp
  obtain ⟨o1, e1⟩ := r
  cases e1 with
  | error e => simp only [andThen] at hr; cases hr
  | ok u =>
    simp only [andThen, Prod.mk.injEq] at hr
    obtain ⟨rfl, h2⟩ := hr
    exact faultCore_eq st o1 a.fshift ps hp h2

/-- the settings a new `surface()` call keeps from the past: the shift in force and the two shift vectors. -/
def SameSettings (o₁ o₂ : SFState K) : Prop := o₁.shift = o₂.shift ∧ o₁.a1c = o₂.a1c ∧ o₁.a2c = o₂.a2c

/-- **an accepted build forgets the past**: the state after `surface(args)` — system, fault plane, mask, outcome —
    does not depend on the system, plane or mask the object held before. -/
theorem surfaceSF_forgets (st : SFStatic K) (o₁ o₂ : SFState K) (a : SurfArgs K) (hs : SameSettings o₁ o₂)
    (hok : (surfaceBase st o₁ a).2 = .ok ()) : surfaceSF st o₁ a = surfaceSF st o₂ a := by
  obtain ⟨sh1, sys1, fr1, fc1, ab1, a11, a21⟩ := o₁
  obtain ⟨sh2, sys2, fr2, fc2, ab2, a12, a22⟩ := o₂
  obtain ⟨e1, e2, e3⟩ := hs
  simp only at e1 e2 e3
  subst e1 e2 e3
  unfold surfaceSF
  unfold surfaceBase at hok ⊢
  cases hsh : resolveShift st sh1 a.shift with
  | error e' => simp only [hsh] at hok; cases hok
  | ok sh =>
    simp only [hsh] at hok ⊢
    cases hsz : sizesOf st.cut a with
    | error e' => simp only [hsz] at hok; cases hok
    | ok sz =>
      obtain ⟨s0, s1, s2⟩ := sz
      simp only [hsz] at hok ⊢
      cases hv : a.vac with
      | none => simp only [andThen, forgetFault]
      | some v =>
        simp only [hv] at hok ⊢
        by_cases hneg : v < 0
        · simp only [if_pos hneg] at hok; cases hok
        · simp only [if_neg hneg, andThen, forgetFault]

/-- **history independence**: two objects with different pasts but the same settings in force behave identically
    from an accepted `surface()` call on: same states, same returned values, call after call. -/
theorem sfRun_history_independent (st : SFStatic K) (o₁ o₂ : SFState K) (a : SurfArgs K) (tail : List (SFOp K))
    (hs : SameSettings o₁ o₂) (hok : (surfaceBase st o₁ a).2 = .ok ()) :
    sfRun st o₁ (.surface a :: tail) = sfRun st o₂ (.surface a :: tail) := by
  simp only [sfRun, sfStep, surfaceSF_forgets st o₁ o₂ a hs hok]

/-- in particular after any history `h`: the object answers like one that only ever saw the final arguments. -/
theorem history_eq_fresh (st : SFStatic K) (o0 : SFState K) (h : List (SFOp K)) (a : SurfArgs K)
    (tail : List (SFOp K)) (hok : (surfaceBase st (sfRun st o0 h).1 a).2 = .ok ()) :
    sfRun st (sfRun st o0 h).1 (.surface a :: tail) =
      sfRun st { o0 with shift := (sfRun st o0 h).1.shift, a1c := (sfRun st o0 h).1.a1c, a2c := (sfRun st o0 h).1.a2c }
        (.surface a :: tail) :=
  sfRun_history_independent st _ _ a tail ⟨rfl, rfl, rfl⟩ hok

/-- the default of `surface()`: with no fault position given, the plane is the middle of the NEW system's extent
    across the cut and the mask is computed on the NEW system, whatever plane was in force before. -/
theorem surfaceSF_default_plane (st : SFStatic K) (o o' : SFState K) (a : SurfArgs K) (hf : a.fpos = .none)
    (hr : surfaceSF st o a = (o', .ok ())) :
    ∃ s, o'.system = some s ∧ (surfaceBase st o a).1.system = some s ∧
      o'.fpRel = some (((1 : Int) : K) / ((2 : Int) : K)) ∧
      o'.fpCart = some (s.box.origin.get (cutIndex st.cut) +
        ((1 : Int) : K) / ((2 : Int) : K) * (s.box.vects.row (cutIndex st.cut)).get (cutIndex st.cut)) ∧
      o'.above = some (maskOf st.cut (s.box.origin.get (cutIndex st.cut) +
        ((1 : Int) : K) / ((2 : Int) : K) * (s.box.vects.row (cutIndex st.cut)).get (cutIndex st.cut)) s.atoms) := by
  unfold surfaceSF at hr
  generalize hb : surfaceBase st o a = r at hr
  obtain ⟨o1, e1⟩ := r
  cases e1 with
  | error e => simp only [andThen] at hr; cases hr
  | ok u =>
    simp only [andThen, hf, setFaultpos, if_true] at hr
    obtain ⟨sh, sys, fr, fc, ab, a1, a2⟩ := o1
    unfold setFpRel forgetFault at hr
    simp only at hr
    split at hr
    · cases hr
    · cases sys with
      | none => simp only [Prod.mk.injEq] at hr; obtain ⟨_, h2⟩ := hr; cases h2
      | some s =>
        simp only [Prod.mk.injEq] at hr
        obtain ⟨rfl, _⟩ := hr
        exact ⟨s, rfl, rfl, rfl, rfl, rfl⟩

end object
section built
variable {K : Type} [Field K] [LinearOrder K] [IsStrictOrderedRing K]

/-- the stored system, when there is one, is `buildSurface` of the rotated cell for some shift, sizes and vacuum. -/
def Built (st : SFStatic K) (o : SFState K) : Prop :=
  ∀ s, o.system = some s → ∃ sh s0 s1 s2 vac, s0.mult ≠ 0 ∧ s1.mult ≠ 0 ∧ s2.mult ≠ 0 ∧
    s = buildSurface st sh s0 s1 s2 vac

theorem size?_mult (m : MultArg) (s : C04.Size) (h : m.size? = .ok s) : s.mult ≠ 0 := by
  cases m with
  | int n =>
    simp only [MultArg.size?, C04.Size.ofInt?] at h
    split at h
    · rename_i s' hs
      cases h
      split at hs
      · cases hs; simp only [C04.Size.mult]; omega
      · split at hs
        · cases hs; simp only [C04.Size.mult]; omega
        · cases hs
    · cases h
  | pair lo hi =>
    simp only [MultArg.size?, C04.Size.ofPair?] at h
    split at h
    · rename_i s' hs
      cases h
      split at hs
      · rename_i hc; cases hs; simp only [C04.Size.mult]; exact hc.2.2
      · cases hs
    · split at h <;> cases h

theorem sizesOf_mult (cut : Cut) (a : SurfArgs K) (s0 s1 s2 : C04.Size) (h : sizesOf cut a = .ok (s0, s1, s2)) :
    s0.mult ≠ 0 ∧ s1.mult ≠ 0 ∧ s2.mult ≠ 0 := by
  -- whichever entry the cut selects, the call is: adjust that entry, then read the three sizes in order
  cases cut <;> simp only [sizesOf, cutIndex, ↓reduceIte, Nat.reduceEqDiff, pure_bind] at h <;>
    (obtain ⟨e, -, h⟩ := bind_ok h
     obtain ⟨t0, h0, h⟩ := bind_ok h
     obtain ⟨t1, h1, h⟩ := bind_ok h
     obtain ⟨t2, h2, h⟩ := bind_ok h
     cases h
     exact ⟨size?_mult _ _ h0, size?_mult _ _ h1, size?_mult _ _ h2⟩)

theorem built_congr (st : SFStatic K) (o o' : SFState K) (h1 : o'.system = o.system) (h : Built st o) : Built st o' := by
  intro s hs; rw [h1] at hs; exact h s hs

theorem surfaceBase_built (st : SFStatic K) (o : SFState K) (a : SurfArgs K) (h : Built st o) :
    Built st (surfaceBase st o a).1 := by
  obtain ⟨sh0, sys, fr, fc, ab, a1, a2⟩ := o
  unfold surfaceBase
  cases hsh : resolveShift st sh0 a.shift with
  | error e' => exact h
  | ok sh =>
    simp only
    cases hsz : sizesOf st.cut a with
    | error e' => exact h
    | ok sz =>
      obtain ⟨s0, s1, s2⟩ := sz
      simp only
      cases hv : a.vac with
      | none =>
        obtain ⟨m0, m1, m2⟩ := sizesOf_mult st.cut a s0 s1 s2 hsz
        intro s hs; simp only [Option.some.injEq] at hs; exact ⟨sh, s0, s1, s2, none, m0, m1, m2, hs.symm⟩
      | some v =>
        simp only
        by_cases hneg : v < 0
        · simp only [if_pos hneg]; exact h
        · simp only [if_neg hneg]
          obtain ⟨m0, m1, m2⟩ := sizesOf_mult st.cut a s0 s1 s2 hsz
          intro s hs; simp only [Option.some.injEq] at hs; exact ⟨sh, s0, s1, s2, some v, m0, m1, m2, hs.symm⟩

theorem setFpRel_system (st : SFStatic K) (o : SFState K) (r : K) : (setFpRel st o r).1.system = o.system := by
  obtain ⟨sh, sys, fr, fc, ab, a1, a2⟩ := o
  unfold setFpRel
  split
  · rfl
  · cases sys <;> rfl

theorem setFpCart_system (st : SFStatic K) (o : SFState K) (c : K) : (setFpCart st o c).1.system = o.system := by
  obtain ⟨sh, sys, fr, fc, ab, a1, a2⟩ := o
  unfold setFpCart
  cases sys with
  | none => rfl
  | some s => simp only; split <;> rfl

theorem setAvect_system (st : SFStatic K) (o : SFState K) (f : Bool) (u : V3 K) : (setAvect st o f u).1.system = o.system := by
  unfold setAvect
  simp only
  split
  · split <;> rfl
  · rfl

theorem setShiftOp_built (st : SFStatic K) (o : SFState K) (a : ShiftArg K) (h : Built st o) :
    Built st (setShiftOp st o a).1 := by
  unfold setShiftOp
  cases a <;> simp only <;> split <;> exact h

theorem sfStep_built (st : SFStatic K) (o : SFState K) (op : SFOp K) (h : Built st o) : Built st (sfStep st o op).1 := by
  have hR : ∀ o r, Built st o → Built st (setFpRel st o r).1 := fun o r => built_congr st o _ (setFpRel_system st o r)
  have hC : ∀ o c, Built st o → Built st (setFpCart st o c).1 := fun o c => built_congr st o _ (setFpCart_system st o c)
  refine sfStep_inv st _ (setShiftOp_built st) (fun o a h => ?_) hR hC
    (fun o f u => built_congr st o _ (setAvect_system st o f u)) o op h
  -- `surface()`: the base class builds, forgetting the fault plane and setting it again leave the system alone
  exact andThen_inv _ _ _ (surfaceBase_built st o a h) fun o1 h1 =>
    setFaultpos_inv st _ hR hC _ true a.fpos (built_congr st o1 _ rfl h1)

/-- **the stored system after any history is a build of the rotated cell** (`surface_same_crystal`, `surface_pbc`,
    `vacuum_same_crystal` then speak about it): no call other than an accepted `surface()` touches it. -/
theorem sfRun_built (st : SFStatic K) (ops : List (SFOp K)) (o : SFState K) (h : Built st o) :
    Built st (sfRun st o ops).1 :=
  sfRun_inv st _ (sfStep_built st) ops o h

theorem sfNew_built (st : SFStatic K) (a : ShiftArg K) (o : SFState K) (h : sfNew st a = .ok o) : Built st o :=
  sfNew_inv st _ (setShiftOp_built st) (fun _ _ s hs => by cases hs) a o h

end built

end Atomman.C14
