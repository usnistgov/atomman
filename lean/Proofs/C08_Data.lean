/-
  C08 — load ∘ dump for LAMMPS data files: the significant lines of what the C07 writer lays out, run through the
  first pass of the loader.
-/
import Proofs.C08_Text
import Proofs.C07_Data
namespace Atomman.C08
open Atomman Atomman.C07
set_option linter.unusedSimpArgs false


theorem sigOf_blank : sigOf (joinSp []) = ⟨[], none⟩ := by decide +kernel

/-- rendered words neither start nor end with white space: Python's `strip()` of ` w1 w2 …` gives them back
    (the atom_style comment of the `Atoms # style` line). -/
theorem pyStrip_blank_joinSp (ws : Line) (hc : ∀ t ∈ ws, CleanTok t) (hne : ws ≠ []) :
    pyStrip (' ' :: joinSp ws) = joinSp ws := by
  obtain ⟨w, ws', rfl⟩ := List.exists_cons_of_ne_nil hne
  unfold pyStrip
  have hw := hc w List.mem_cons_self
  obtain ⟨c0, cs0, hw0⟩ := List.exists_cons_of_ne_nil hw.1
  have hstart : (' ' :: joinSp (w :: ws')).dropWhile isSpace = joinSp (w :: ws') := by
    rw [List.dropWhile_cons_of_pos (by decide)]
    have : joinSp (w :: ws') = c0 :: (cs0 ++ (match ws' with | [] => [] | _ => ' ' :: joinSp ws')) := by
      cases ws' <;> simp [joinSp, hw0]
    rw [this, List.dropWhile_cons_of_neg]
    have := (hw.2 c0 (by rw [hw0]; exact List.mem_cons_self)).1
    simp [this]
  rw [hstart]
  -- the last character is the last character of the last word
  have hlast : ∀ (l : Line), l ≠ [] → (∀ t ∈ l, CleanTok t) →
      ∃ pre c, joinSp l = pre ++ [c] ∧ isSpace c = false := by
    intro l
    induction l with
    | nil => intro h; exact absurd rfl h
    | cons t ts ih =>
      intro _ hcl
      cases ts with
      | nil =>
        have ht := hcl t List.mem_cons_self
        have hpc : t = t.dropLast ++ [t.getLast ht.1] := (List.dropLast_append_getLast ht.1).symm
        refine ⟨t.dropLast, t.getLast ht.1, by simpa [joinSp] using hpc, ?_⟩
        exact (ht.2 _ (List.getLast_mem ht.1)).1
      | cons t2 ts2 =>
        obtain ⟨pre, c, hpc, hcs⟩ := ih (by simp) (fun x hx => hcl x (List.mem_cons_of_mem _ hx))
        refine ⟨t ++ ' ' :: pre, c, ?_, hcs⟩
        simp only [joinSp] at hpc ⊢
        rw [hpc]; simp
  obtain ⟨pre, c, hpc, hcs⟩ := hlast (w :: ws') (by simp) hc
  rw [hpc, List.reverse_append, List.reverse_cons, List.reverse_nil, List.nil_append, List.singleton_append,
    List.dropWhile_cons_of_neg (by simp [hcs])]
  simp

theorem sigOf_atoms_line (ws : Line) (hc : ∀ t ∈ ws, CleanTok t) (hne : ws ≠ []) :
    sigOf (joinSp ([cs!"Atoms", cs!"#"] ++ ws)) = ⟨[cs!"Atoms"], some (joinSp ws)⟩ := by
  have hj : joinSp ([cs!"Atoms", cs!"#"] ++ ws) = cs!"Atoms " ++ '#' :: ' ' :: joinSp ws := by
    obtain ⟨w, ws', rfl⟩ := List.exists_cons_of_ne_nil hne; rfl
  have hA : '#' ∉ cs!"Atoms " := by decide
  have hhash : hasHash (cs!"Atoms " ++ '#' :: ' ' :: joinSp ws) = true := by simp [hasHash]
  unfold sigOf termsC hintOf
  rw [hj, stripComment_hash _ _ hA, commentOf_hash _ _ hA, hhash, pyStrip_blank_joinSp ws hc hne,
    show lexLine (cs!"Atoms ") = [cs!"Atoms"] by decide +kernel]
  simp only [show classify [cs!"Atoms"] = .atoms from rfl, if_true]

theorem fpStepA_natoms (lf : Option ℚ) (n : Nat) (a : FPA) :
    fpStepA lf (plainSig [natTok n, cs!"atoms"]) a =
      .ok ⟨{ a.st with natoms := some (n : Int) }, a.rowsA.map (· ++ [[natTok n, cs!"atoms"]]),
           a.rowsV.map (· ++ [[natTok n, cs!"atoms"]])⟩ := by
  unfold fpStepA fpStepT plainSig
  have hc : classify [natTok n, cs!"atoms"] = .natoms (natTok n) := rfl
  simp [hc, pyInt_natTok, exceptSimp, setsVel]

theorem fpStepA_natypes (lf : Option ℚ) (n : Nat) (a : FPA) :
    fpStepA lf (plainSig [natTok n, cs!"atom", cs!"types"]) a =
      .ok ⟨{ a.st with natypes := some (n : Int) }, a.rowsA.map (· ++ [[natTok n, cs!"atom", cs!"types"]]),
           a.rowsV.map (· ++ [[natTok n, cs!"atom", cs!"types"]])⟩ := by
  unfold fpStepA fpStepT plainSig
  have hc : classify [natTok n, cs!"atom", cs!"types"] = .natypes (natTok n) := rfl
  simp [hc, pyInt_natTok, exceptSimp, setsVel]

theorem fpStepA_x {f : Fmt} (lf : Option ℚ) (lo hi : ℚ) (a : FPA) :
    fpStepA lf (plainSig [fmtNum f lo, fmtNum f hi, cs!"xlo", cs!"xhi"]) a =
      .ok ⟨{ a.st with x := some (mulBy lf (fmtVal f lo), mulBy lf (fmtVal f hi)) },
           a.rowsA.map (· ++ [[fmtNum f lo, fmtNum f hi, cs!"xlo", cs!"xhi"]]),
           a.rowsV.map (· ++ [[fmtNum f lo, fmtNum f hi, cs!"xlo", cs!"xhi"]])⟩ := by
  unfold fpStepA fpStepT plainSig
  have hc : classify [fmtNum f lo, fmtNum f hi, cs!"xlo", cs!"xhi"] = .xb (fmtNum f lo) (fmtNum f hi) := rfl
  simp [hc, pyFloat_fmt, exceptSimp, setsVel]

theorem fpStepA_y {f : Fmt} (lf : Option ℚ) (lo hi : ℚ) (a : FPA) :
    fpStepA lf (plainSig [fmtNum f lo, fmtNum f hi, cs!"ylo", cs!"yhi"]) a =
      .ok ⟨{ a.st with y := some (mulBy lf (fmtVal f lo), mulBy lf (fmtVal f hi)) },
           a.rowsA.map (· ++ [[fmtNum f lo, fmtNum f hi, cs!"ylo", cs!"yhi"]]),
           a.rowsV.map (· ++ [[fmtNum f lo, fmtNum f hi, cs!"ylo", cs!"yhi"]])⟩ := by
  unfold fpStepA fpStepT plainSig
  have hc : classify [fmtNum f lo, fmtNum f hi, cs!"ylo", cs!"yhi"] = .yb (fmtNum f lo) (fmtNum f hi) := rfl
  simp [hc, pyFloat_fmt, exceptSimp, setsVel]

theorem fpStepA_z {f : Fmt} (lf : Option ℚ) (lo hi : ℚ) (a : FPA) :
    fpStepA lf (plainSig [fmtNum f lo, fmtNum f hi, cs!"zlo", cs!"zhi"]) a =
      .ok ⟨{ a.st with z := some (mulBy lf (fmtVal f lo), mulBy lf (fmtVal f hi)) },
           a.rowsA.map (· ++ [[fmtNum f lo, fmtNum f hi, cs!"zlo", cs!"zhi"]]),
           a.rowsV.map (· ++ [[fmtNum f lo, fmtNum f hi, cs!"zlo", cs!"zhi"]])⟩ := by
  unfold fpStepA fpStepT plainSig
  have hc : classify [fmtNum f lo, fmtNum f hi, cs!"zlo", cs!"zhi"] = .zb (fmtNum f lo) (fmtNum f hi) := rfl
  simp [hc, pyFloat_fmt, exceptSimp, setsVel]

theorem fpStepA_tilt {f : Fmt} (lf : Option ℚ) (xy xz yz : ℚ) (a : FPA) :
    fpStepA lf (plainSig [fmtNum f xy, fmtNum f xz, fmtNum f yz, cs!"xy", cs!"xz", cs!"yz"]) a =
      .ok ⟨{ a.st with xy := mulBy lf (fmtVal f xy), xz := mulBy lf (fmtVal f xz), yz := mulBy lf (fmtVal f yz) },
           a.rowsA.map (· ++ [[fmtNum f xy, fmtNum f xz, fmtNum f yz, cs!"xy", cs!"xz", cs!"yz"]]),
           a.rowsV.map (· ++ [[fmtNum f xy, fmtNum f xz, fmtNum f yz, cs!"xy", cs!"xz", cs!"yz"]])⟩ := by
  unfold fpStepA fpStepT plainSig
  have hc : classify [fmtNum f xy, fmtNum f xz, fmtNum f yz, cs!"xy", cs!"xz", cs!"yz"] =
      .tilt (fmtNum f xy) (fmtNum f xz) (fmtNum f yz) := rfl
  simp [hc, pyFloat_fmt, exceptSimp, setsVel]

theorem fpStepA_atoms (lf : Option ℚ) (hint : Option (List Char)) (a : FPA) :
    fpStepA lf ⟨[cs!"Atoms"], hint⟩ a =
      .ok ⟨{ a.st with atomsStart := some 1, firstAtoms := true, hint := hint }, some [],
           a.rowsV.map (· ++ [[cs!"Atoms"]])⟩ := by
  unfold fpStepA fpStepT
  have hc : classify [cs!"Atoms"] = .atoms := rfl
  simp [hc, exceptSimp, setsVel]


def NumericRow (t : Line) : Prop := t ≠ [] ∧ ∀ x ∈ t, ∃ v, parseVal x = .ok v

theorem classify_numeric (t : Line) (h : NumericRow t) : classify t = .other := by
  obtain ⟨hne, hn⟩ := h
  match t, hne, hn with
  | [a], _, hn =>
    have ha := hn a (by simp)
    have h1 := numeric_ne_keyword a (cs!"Atoms") ha (by decide +kernel)
    have h2 := numeric_ne_keyword a (cs!"Masses") ha (by decide +kernel)
    have h3 := numeric_ne_keyword a (cs!"Velocities") ha (by decide +kernel)
    simp [classify, h1, h2, h3]
  | [a, b], _, hn =>
    have hb := numeric_ne_keyword b (cs!"atoms") (hn b (by simp)) (by decide +kernel)
    simp [classify, hb]
  | [a, b, c], _, hn =>
    have hb := numeric_ne_keyword b (cs!"atom") (hn b (by simp)) (by decide +kernel)
    simp [classify, hb]
  | [a, b, c, d], _, hn =>
    have h1 := numeric_ne_keyword c (cs!"xlo") (hn c (by simp)) (by decide +kernel)
    have h2 := numeric_ne_keyword c (cs!"ylo") (hn c (by simp)) (by decide +kernel)
    have h3 := numeric_ne_keyword c (cs!"zlo") (hn c (by simp)) (by decide +kernel)
    simp [classify, h1, h2, h3]
  | [a, b, c, d, e], _, _ => rfl
  | [a, b, c, d, e, g], _, hn =>
    have h1 := numeric_ne_keyword d (cs!"xy") (hn d (by simp)) (by decide +kernel)
    simp [classify, h1]
  | _ :: _ :: _ :: _ :: _ :: _ :: _ :: _, _, _ => rfl

theorem numericRow_cells {f : Fmt} (r : List Cell) (hr : r ≠ []) : NumericRow (r.map (Cell.tok f)) := by
  refine ⟨by simpa using hr, ?_⟩
  intro x hx
  simp only [List.mem_map] at hx
  obtain ⟨c, _, rfl⟩ := hx
  obtain ⟨v, hv, _⟩ := parseVal_cellTok f c
  exact ⟨v, hv⟩

theorem fpStepA_numeric (lf : Option ℚ) (t : Line) (ht : NumericRow t) (a : FPA) (hm : a.st.massesToRead = 0) :
    fpStepA lf (plainSig t) a =
      .ok ⟨if a.st.firstAtoms then { a.st with atomsColumns := t.length, firstAtoms := false } else a.st,
           a.rowsA.map (· ++ [t]), a.rowsV.map (· ++ [t])⟩ := by
  unfold fpStepA fpStepT plainSig
  have hc := classify_numeric t ht
  have hne : t.isEmpty = false := by
    cases t with
    | nil => exact absurd rfl ht.1
    | cons _ _ => rfl
  by_cases h1 : a.st.firstAtoms = true
  · simp [hc, hne, h1, hm, exceptSimp, setsVel]
  · simp [hc, hne, h1, hm, exceptSimp, setsVel]

theorem fpLoopA_numeric_rows (lf : Option ℚ) (rows : List Line) (hr : ∀ t ∈ rows, NumericRow t) (a : FPA)
    (hm : a.st.massesToRead = 0) (hf : a.st.firstAtoms = false) :
    fpLoopA lf (rows.map plainSig) a = .ok ⟨a.st, a.rowsA.map (· ++ rows), a.rowsV.map (· ++ rows)⟩ := by
  induction rows generalizing a with
  | nil => cases a with | mk st ra rv => cases ra <;> cases rv <;> simp [fpLoopA, exceptSimp]
  | cons t ts ih =>
    simp only [List.map_cons, fpLoopA]
    rw [fpStepA_numeric lf t (hr t List.mem_cons_self) a hm]
    simp only [hf, Bool.false_eq_true, if_false, exceptSimp]
    rw [ih (fun x hx => hr x (List.mem_cons_of_mem _ hx))
      ⟨a.st, a.rowsA.map (· ++ [t]), a.rowsV.map (· ++ [t])⟩ hm hf]
    cases a with | mk st ra rv => cases ra <;> cases rv <;> simp

theorem fpLoopA_atom_rows (lf : Option ℚ) (t : Line) (ts : List Line) (hr : ∀ x ∈ t :: ts, NumericRow x) (a : FPA)
    (hm : a.st.massesToRead = 0) (hf : a.st.firstAtoms = true) :
    fpLoopA lf ((t :: ts).map plainSig) a =
      .ok ⟨{ a.st with atomsColumns := t.length, firstAtoms := false }, a.rowsA.map (· ++ t :: ts),
           a.rowsV.map (· ++ t :: ts)⟩ := by
  simp only [List.map_cons, fpLoopA]
  rw [fpStepA_numeric lf t (hr t List.mem_cons_self) a hm]
  simp only [hf, if_true, exceptSimp]
  rw [fpLoopA_numeric_rows lf ts (fun x hx => hr x (List.mem_cons_of_mem _ hx))
    ⟨{ a.st with atomsColumns := t.length, firstAtoms := false }, a.rowsA.map (· ++ [t]), a.rowsV.map (· ++ [t])⟩ hm rfl]
  cases a with | mk st ra rv => cases ra <;> cases rv <;> simp

theorem fpStepA_velocities (lf : Option ℚ) (a : FPA) (hm : a.st.massesToRead = 0) (hf : a.st.firstAtoms = false) :
    fpStepA lf (plainSig [cs!"Velocities"]) a =
      .ok ⟨{ a.st with velStart := some 1 }, a.rowsA.map (· ++ [[cs!"Velocities"]]), some []⟩ := by
  unfold fpStepA fpStepT plainSig
  have hc : classify [cs!"Velocities"] = .velocities := rfl
  simp [hc, hm, hf, exceptSimp, setsVel]


theorem sig_append (a b : List RawLine) : sig (a ++ b) = sig a ++ sig b := by
  simp [sig, List.map_append, List.filter_append]

theorem sig_single (l : RawLine) : sig [l] = if (sigOf l).terms.isEmpty then [] else [sigOf l] := by
  unfold sig
  simp only [List.map_cons, List.map_nil, List.filter_cons, List.filter_nil]
  cases (sigOf l).terms.isEmpty <;> simp

theorem sig_cons' (l : RawLine) (ls : List RawLine) : sig (l :: ls) = sig [l] ++ sig ls := by
  have := sig_append [l] ls
  simpa using this

def boxSigs (f : Fmt) (h : HiLo) : List SigLine := (boxLines f h).map plainSig

theorem boxLines_filter (f : Fmt) (h : HiLo) : ((boxLines f h).filter fun l => !l.isEmpty) = boxLines f h := by
  unfold boxLines; split <;> rfl


/-- the significant lines of a written data file. -/
def dataSigs (f : Fmt) (words : Line) (p : DataParts) : List SigLine :=
  [plainSig [natTok p.natoms, cs!"atoms"], plainSig [natTok p.natypes, cs!"atom", cs!"types"]] ++ boxSigs f p.hilo ++
  [⟨[cs!"Atoms"], some (joinSp words)⟩] ++ (rowsDoc f p.rows).map plainSig ++
  (match p.vel with
   | some vr => plainSig [cs!"Velocities"] :: (rowsDoc f vr).map plainSig
   | none => [])

/-- the data document the writer lays out lexes back token for token, and its significant lines are `dataSigs`:
    plain lines throughout, but for the `Atoms # style` line. -/
theorem sig_dataDoc (f : Fmt) (style : String) (p : DataParts)
    (hw : (styleWords style).map strTok ≠ [] ∧ ∀ t ∈ (styleWords style).map strTok, CleanTok t)
    (hr : ∀ r ∈ p.rows, r ≠ []) (hv : ∀ vr, p.vel = some vr → ∀ r ∈ vr, r ≠ []) :
    CleanDoc (dataDocOf f style p) ∧
      sig ((dataDocOf f style p).map joinSp) = dataSigs f ((styleWords style).map strTok) p := by
  have hA : PlainDoc [[], [natTok p.natoms, cs!"atoms"], [natTok p.natypes, cs!"atom", cs!"types"]] := by
    simp only [PlainDoc, List.forall_mem_cons, List.not_mem_nil, false_imp_iff, implies_true, and_true, true_and]
    exact ⟨⟨okTok_natTok _, by decide⟩, okTok_natTok _, by decide, by decide⟩
  have hV : ∀ vr, PlainDoc ([[], [cs!"Velocities"], []] ++ rowsDoc f vr) := fun vr =>
    List.forall_mem_append.mpr ⟨by decide, okTok_rowsDoc f vr⟩
  have hblank : sig [joinSp []] = [] := by decide +kernel
  have h3 : sig [joinSp ([cs!"Atoms", cs!"#"] ++ (styleWords style).map strTok)] =
      [⟨[cs!"Atoms"], some (joinSp ((styleWords style).map strTok))⟩] := by
    rw [sig_single, sigOf_atoms_line _ hw.2 hw.1]
    simp
  -- `C07.dataDocOf`: blank, the two counts, the box lines, blank / `Atoms # style` / blank, the rows, and with velocities
  -- blank / `Velocities` / blank, the rows
  unfold dataDocOf dataSigs
  constructor
  · exact allToks_dataDoc f style p (by decide) (by decide) (fun _ => by decide)
      (fun c => cleanTok_of_okTok (okTok_cellTok f c)) (List.forall_mem_map.mp hw.2)
  · simp only [List.map_append]
    rw [sig_append, sig_append, sig_append, sig_append, sig_plainDoc _ hA, sig_plainDoc _ (okTok_boxLines f _),
      boxLines_filter, List.map_cons, List.map_cons, List.map_cons, List.map_nil, sig_cons', hblank, sig_cons', h3, hblank,
      sig_plainDoc _ (okTok_rowsDoc f _), filter_nonempty _ (rowsDoc_ne_nil _ hr)]
    cases hvl : p.vel with
    | none => rfl
    | some vr =>
      simp only []
      rw [sig_plainDoc _ (hV vr), List.filter_append, filter_nonempty _ (rowsDoc_ne_nil _ (hv vr hvl))]
      rfl

/-- the box is written with a tilt line (`C07.tilted`). -/
def hasTilt (h : HiLo) : Prop := h.xy ≠ 0 ∨ h.xz ≠ 0 ∨ h.yz ≠ 0
instance (h : HiLo) : Decidable (hasTilt h) := by unfold hasTilt; infer_instance

/-- the variables of the first pass after a written data file (offsets as in `FP.erase`). -/
def dataFP (f : Fmt) (lf : Option ℚ) (words : Line) (p : DataParts) : FP :=
  { natoms := some (p.natoms : Int), natypes := some (p.natypes : Int),
    x := some (mulBy lf (fmtVal f p.hilo.xlo), mulBy lf (fmtVal f p.hilo.xhi)),
    y := some (mulBy lf (fmtVal f p.hilo.ylo), mulBy lf (fmtVal f p.hilo.yhi)),
    z := some (mulBy lf (fmtVal f p.hilo.zlo), mulBy lf (fmtVal f p.hilo.zhi)),
    xy := if hasTilt p.hilo then mulBy lf (fmtVal f p.hilo.xy) else 0,
    xz := if hasTilt p.hilo then mulBy lf (fmtVal f p.hilo.xz) else 0,
    yz := if hasTilt p.hilo then mulBy lf (fmtVal f p.hilo.yz) else 0,
    atomsStart := some 1, hint := some (joinSp words), firstAtoms := false,
    atomsColumns := ((rowsDoc f p.rows).headD []).length,
    velStart := p.vel.map fun _ => 1 }

/-- all the rows pandas can see after the `Atoms` line of a written data file. -/
def dataRowsA (f : Fmt) (p : DataParts) : List Line :=
  rowsDoc f p.rows ++ (match p.vel with | some vr => [cs!"Velocities"] :: rowsDoc f vr | none => [])

theorem fpLoopA_dataSigs {f : Fmt} (lf : Option ℚ) (words : Line) (p : DataParts)
    (hne : p.rows ≠ []) (hr : ∀ r ∈ p.rows, r ≠ []) (hv : ∀ vr, p.vel = some vr → ∀ r ∈ vr, r ≠ []) :
    fpLoopA lf (dataSigs f words p) FPA.init =
      .ok ⟨dataFP f lf words p, some (dataRowsA f p), p.vel.map (rowsDoc f)⟩ := by
  have hnum : ∀ rows : List (List Cell), (∀ r ∈ rows, r ≠ []) → ∀ t ∈ rowsDoc f rows, NumericRow t := by
    intro rows hrows t ht
    simp only [rowsDoc, List.mem_map] at ht
    obtain ⟨r, hr', rfl⟩ := ht
    exact numericRow_cells r (hrows r hr')
  obtain ⟨r0, rs, hrows⟩ := List.exists_cons_of_ne_nil hne
  have hdoc : rowsDoc f p.rows = r0.map (Cell.tok f) :: rowsDoc f rs := by rw [hrows]; rfl
  unfold dataSigs boxSigs boxLines
  rw [fpLoopA_append, fpLoopA_append, fpLoopA_append]
  have hhead : fpLoopA lf ([plainSig [natTok p.natoms, cs!"atoms"], plainSig [natTok p.natypes, cs!"atom", cs!"types"]] ++
      List.map plainSig ([[fmtNum f p.hilo.xlo, fmtNum f p.hilo.xhi, cs!"xlo", cs!"xhi"],
        [fmtNum f p.hilo.ylo, fmtNum f p.hilo.yhi, cs!"ylo", cs!"yhi"],
        [fmtNum f p.hilo.zlo, fmtNum f p.hilo.zhi, cs!"zlo", cs!"zhi"]] ++
        if p.hilo.xy ≠ 0 ∨ p.hilo.xz ≠ 0 ∨ p.hilo.yz ≠ 0 then
          [[fmtNum f p.hilo.xy, fmtNum f p.hilo.xz, fmtNum f p.hilo.yz, cs!"xy", cs!"xz", cs!"yz"]] else [])) FPA.init =
      .ok ⟨{ dataFP f lf words p with atomsStart := none, hint := none, atomsColumns := 0, velStart := none },
           none, none⟩ := by
    unfold dataFP
    by_cases ht : p.hilo.xy ≠ 0 ∨ p.hilo.xz ≠ 0 ∨ p.hilo.yz ≠ 0
    · have ht' : hasTilt p.hilo := ht
      simp only [ht, ht', if_true, List.map_append, List.map_cons, List.map_nil, List.cons_append, List.nil_append, fpLoopA,
        fpStepA_natoms, fpStepA_natypes, fpStepA_x, fpStepA_y, fpStepA_z, fpStepA_tilt, bind, Except.bind,
        pure, Except.pure, FPA.init, Option.map_none]
    · have ht' : ¬ hasTilt p.hilo := ht
      simp only [ht, ht', if_false, List.map_append, List.map_cons, List.map_nil, List.cons_append, List.nil_append,
        List.append_nil, fpLoopA, fpStepA_natoms, fpStepA_natypes, fpStepA_x, fpStepA_y, fpStepA_z, bind,
        Except.bind, pure, Except.pure, FPA.init, Option.map_none]
  rw [hhead]
  simp only [Except.bind, fpLoopA, fpStepA_atoms, bind, pure, Except.pure, Option.map_none]
  rw [hdoc, fpLoopA_atom_rows lf _ _ (by rw [← hdoc]; exact hnum p.rows hr) _ rfl rfl]
  simp only [Option.map_some, Option.map_none, List.nil_append]
  cases hvl : p.vel with
  | none =>
    simp only [fpLoopA, pure, Except.pure, dataFP, dataRowsA, hvl, hdoc, List.headD_cons, List.append_nil, Option.map_none]
  | some vr =>
    simp only [fpLoopA]
    rw [fpStepA_velocities lf _ rfl rfl]
    simp only [bind, Except.bind, Option.map_some, Option.map_none]
    rw [fpLoopA_numeric_rows lf _ (hnum vr (hv vr hvl)) _ rfl rfl]
    simp only [dataFP, dataRowsA, hvl, hdoc, List.headD_cons, Option.map_some, List.nil_append, List.append_assoc,
      List.cons_append]


/-- the loader on the text of any data document laid out like the writer's (not only those of a system). -/
theorem loadData_dataDoc {f : Fmt} (style : String) (p : DataParts) (u : Units) (lf : Option ℚ)
    (hlf : lengthFactor u = .ok lf)
    (hwords : (styleWords style).map strTok ≠ [] ∧ ∀ t ∈ (styleWords style).map strTok, CleanTok t)
    (hne : p.rows ≠ []) (hr : ∀ r ∈ p.rows, r ≠ []) (hv : ∀ vr, p.vel = some vr → ∀ r ∈ vr, r ≠ [])
    (pbc : V3 Bool) (symbols : Option (List (Option String))) (styleArg : Option String) :
    loadData (renderLines (dataDocOf f style p)) pbc symbols styleArg u =
      (fpFinish (dataFP f lf ((styleWords style).map strTok) p) false).bind fun fp =>
        loadDataCore fp (dataRowsA f p) (p.vel.map (rowsDoc f)) pbc symbols styleArg u := by
  unfold loadData
  obtain ⟨hclean, hsig⟩ := sig_dataDoc f style p hwords hr hv
  rw [loadDataLines_eq_sig, splitLines_renderLines _ hclean.no_newline, hsig]
  have hshort : decide (((dataDocOf f style p).map joinSp).length ≤ 1) = false := by
    unfold dataDocOf; simp
  rw [hshort]
  unfold loadDataSig
  simp only [hlf, bind, Except.bind]
  rw [fpLoopA_dataSigs lf _ p hne hr hv]
  simp only [Option.getD_some]

set_option linter.unusedVariables false in
/-- loading any data file the writer emits ends the first pass in `dataFP`
    (atom count, bounds and tilts at their printed values times the length unit, the atom_style of the `Atoms`
    comment, the width of the first atom line, the `Velocities` offset when there are velocities) and reads exactly
    the written `Atoms` and `Velocities` rows. -/
theorem load_dump_roundtrip_data_partial {f : Fmt} (hf : Readable f) (s : Sys) (style : String) (u : Units)
    (text : List Char) (hw : writeData s style u f = .ok text)
    (hwords : (styleWords style).map strTok ≠ [] ∧ ∀ t ∈ (styleWords style).map strTok, CleanTok t) :
    ∃ lf p w, lengthFactor u = .ok lf ∧ dataParts s style u = .ok (p, w) ∧
      (p.rows ≠ [] → (∀ r ∈ p.rows, r ≠ []) → (∀ vr, p.vel = some vr → ∀ r ∈ vr, r ≠ []) →
        ∀ pbc symbols styleArg, loadData text pbc symbols styleArg u =
          (fpFinish (dataFP f lf ((styleWords style).map strTok) p) false).bind fun fp =>
            loadDataCore fp (dataRowsA f p) (p.vel.map (rowsDoc f)) pbc symbols styleArg u) := by
  obtain ⟨o, ho, rfl⟩ := map_ok hw
  obtain ⟨⟨p, w⟩, hp, rfl⟩ := map_ok ho
  obtain ⟨lf, hlf⟩ : ∃ lf, lengthFactor u = .ok lf := by
    cases h : lengthFactor u with
    | ok lf => exact ⟨lf, rfl⟩
    | error e =>
      exfalso
      unfold dataParts at hp
      by_cases hn : (wrap s.box s.pbc s.pos).box.isLammpsNorm = true
      · simp [hn, h, bind, Except.bind] at hp
      · simp [hn, bind, Except.bind, throw, throwThe, MonadExceptOf.throw] at hp
  exact ⟨lf, p, w, hlf, hp, fun hne hr hv pbc symbols styleArg =>
    loadData_dataDoc style p u lf hlf hwords hne hr hv pbc symbols styleArg⟩


/-- what the first pass hands on after a written data file: the printed atom count and the atom_style of the comment. -/
theorem fpFinish_dataFP {f : Fmt} {lf : Option ℚ} {words : Line} {p : DataParts} {fp : FirstPass}
    (h : fpFinish (dataFP f lf words p) false = .ok fp) : fp.natoms = p.natoms ∧ fp.hint = some (joinSp words) := by
  obtain ⟨⟨n, hn1, hn2⟩, hh⟩ := fpFinish_ok _ fp h
  cases hn1
  exact ⟨by simpa using hn2, hh⟩

end Atomman.C08
