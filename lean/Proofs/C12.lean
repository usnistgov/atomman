/-
  C12 — Volterra dislocation fields.  The property theorems stand in the modules imported here, one per group of clauses
  (DESIGN.md, `### C12`, "Proof modules").
-/
import Proofs.C12_Sums
import Proofs.C12_Mode
import Proofs.C12_Lemmas
import Proofs.C12_Order
import Proofs.C12_Stroh
import Proofs.C12_Cov
import Proofs.C12_Units
import Proofs.C12_World
import Proofs.C12_Analysis
import Proofs.C12_Iso
import Proofs.C12_Miller
import Proofs.C12_Source
import Proofs.C12_Entry
