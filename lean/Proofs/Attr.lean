import Lean.Meta.Tactic.Simp.RegisterCommand

/-- the `Except` monad read off its constructors: `bind`, `pure`, `throw`, `Except.map` on `.ok` / `.error`. -/
register_simp_attr exceptSimp
