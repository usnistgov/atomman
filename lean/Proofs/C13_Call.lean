/-
  C13 — the generator calls as a whole: `callHead`, `monopoleCall`, `arrayCall`.
-/
import Proofs.C13_Sizes
import Proofs.C13_Params
import Proofs.C13_Array

namespace Atomman.C13
open Atomman
set_option linter.unusedSectionVars false

variable {K : Type} [Field K] [LinearOrder K] [IsStrictOrderedRing K]

/-- a `sizemults` that is not three positive integers, even across the line — too
    short, too long, a float, a pair, a string among its entries, an odd / zero / negative entry — is refused with
    TypeError before anything else is looked at: whatever the other arguments are, and the shift the object holds is
    left as it was. -/
theorem call_refuses_bad_multipliers (ceil : K → Int) (mono : Bool) (line : Nat) (vects : M3 K) (lens : V3 K) (ucellA : K)
    (shifts : List (V3 K)) (cur : V3 K) (a : CallArgs K) (l : List MultEntry) (hm : a.mults = some l)
    (hbad : checkMultsRaw line l = none) :
    callHead ceil mono line vects lens ucellA shifts cur a = (cur, .error "type") := by
  simp [callHead, callSizes, hm, hbad]

/-- an accepted head — the multipliers are those of `callSizes`; the shift used is the shift
    the object holds afterwards, and it is the requested one when `shift` or `shiftindex` was given, the one the
    object held before otherwise; centre and width are converted as `centerscale` / `boundaryscale` say; the shape of
    a monopole is one of the two known ones. -/
theorem callHead_ok_spec (ceil : K → Int) (mono : Bool) (line : Nat) (vects : M3 K) (lens : V3 K) (ucellA : K)
    (shifts : List (V3 K)) (cur cur' : V3 K) (a : CallArgs K) (hd : Head K)
    (h : callHead ceil mono line vects lens ucellA shifts cur a = (cur', .ok hd)) :
    callSizes ceil line lens a.mults a.mins = some hd.sizes ∧ hd.shift = cur' ∧
    (if a.sh.given then setShift vects shifts a.sh = .ok hd.shift else hd.shift = cur) ∧
    hd.center = resolveCenter vects a.center a.centerscale ∧ hd.width = resolveWidth ucellA a.width a.widthscale ∧
    (mono = true → Shape.ofString? a.shape = some hd.shape) := by
  unfold callHead at h
  cases hs : callSizes ceil line lens a.mults a.mins with
  | none => rw [hs] at h; simp at h
  | some sz =>
    rw [hs] at h
    rcases step_gen_cases vects shifts cur a.sh with ⟨e, _, _, he⟩ | ⟨s, he, hreq⟩
    · rw [he] at h; simp at h
    · rw [he] at h
      cases mono
      · simp only [Bool.false_eq_true, if_false, Prod.mk.injEq, Except.ok.injEq] at h
        obtain ⟨rfl, rfl⟩ := h
        exact ⟨rfl, rfl, hreq, rfl, rfl, by simp⟩
      · simp only [if_true] at h
        cases hsh : Shape.ofString? a.shape with
        | none => rw [hsh] at h; simp at h
        | some shp =>
          rw [hsh] at h
          simp only [Prod.mk.injEq, Except.ok.injEq] at h
          obtain ⟨rfl, rfl⟩ := h
          exact ⟨rfl, rfl, hreq, rfl, rfl, fun _ => rfl⟩

/-- a call whose shift arguments are refused (vector and index together,
    index out of range) is refused with that class and leaves the shift of the object as it was. -/
theorem callHead_refused_shift_keeps_state (ceil : K → Int) (mono : Bool) (line : Nat) (vects : M3 K) (lens : V3 K)
    (ucellA : K) (shifts : List (V3 K)) (cur : V3 K) (a : CallArgs K) (sz : Sizes) (e : String)
    (hs : callSizes ceil line lens a.mults a.mins = some sz) (hg : a.sh.given = true)
    (he : setShift vects shifts a.sh = .error e) :
    callHead ceil mono line vects lens ucellA shifts cur a = (cur, .error e) := by
  simp [callHead, hs, ShiftCall.step, hg, he]

/-- `monopole` refuses an unknown `boundaryshape` with ValueError only AFTER the
    shift arguments have been handled: the refused call has already stored the requested shift in the object. -/
theorem callHead_bad_shape_after_shift (ceil : K → Int) (line : Nat) (vects : M3 K) (lens : V3 K)
    (ucellA : K) (shifts : List (V3 K)) (cur s : V3 K) (a : CallArgs K) (sz : Sizes)
    (hs : callSizes ceil line lens a.mults a.mins = some sz) (hg : a.sh.given = true)
    (he : setShift vects shifts a.sh = .ok s) (hshape : Shape.ofString? a.shape = none) :
    callHead ceil true line vects lens ucellA shifts cur a = (s, .error "value") ∧
    callHead ceil false line vects lens ucellA shifts cur a
      = (s, .ok ⟨sz, s, resolveCenter vects a.center a.centerscale, resolveWidth ucellA a.width a.widthscale, .box⟩) := by
  simp [callHead, hs, ShiftCall.step, hg, he, hshape]

/-- end to end: for every accepted call `monopole(sizemults, amin, bmin, cmin, shift, shiftindex,
    shiftscale, center, centerscale, boundaryshape, boundarywidth, boundaryscale)` on an object holding the shift `cur`
    the object afterwards holds the shift that was used; the reference system is the rotated cell replicated by the
    multipliers of `callSizes` (positive; `(0, s)` along the line, symmetric and even across it), shifted by the shift
    requested (or held) and wrapped; the dislocation system keeps every atom of it in order, each at
    `pos + u(pos − centre)` — centre as converted by `centerscale` — up to whole box vectors along the line only, with its
    type kept or raised by the reference `natypes`; it is periodic along the line only. -/
theorem monopoleCall_spec (fl : K → Int) (ceil : K → Int) (pad : K) (hpad : 0 < pad) (sqrt : K → K) (u : V3 K → V3 K)
    (o : Orient) (hl : o.line < 3) (rcell : Sys K) (hdet : M3.det rcell.box.vects ≠ 0) (lens : V3 K) (ucellA : K)
    (nsym : Nat) (shifts : List (V3 K)) (cur cur' : V3 K) (a : CallArgs K) (base d : Sys K)
    (h : monopoleCall fl ceil pad sqrt u o rcell lens ucellA nsym shifts cur a = (cur', .ok (base, d))) :
    ∃ hd : Head K, callHead ceil true o.line rcell.box.vects lens ucellA shifts cur a = (cur', .ok hd) ∧
      hd.shift = cur' ∧
      (if a.sh.given then setShift rcell.box.vects shifts a.sh = .ok hd.shift else hd.shift = cur) ∧
      (0 < hd.sizes.a.mult ∧ 0 < hd.sizes.b.mult ∧ 0 < hd.sizes.c.mult) ∧
      base = baseSystem fl pad rcell hd.sizes hd.shift ∧
      d.atoms.length = base.atoms.length ∧
      d.pbc = ⟨o.line = 0, o.line = 1, o.line = 2⟩ ∧
      ∀ (i : Nat) (at' : Atom K), base.atoms[i]? = some at' → ∃ (p' : V3 K) (f : V3 Int) (ty : Int),
        d.atoms[i]? = some { at' with pos := p', atype := ty } ∧
        (ty = at'.atype ∨ ty = at'.atype + natypes nsym base.atoms) ∧
        p' + C05.latticeVec base.box.vects f
          = at'.pos + u (at'.pos - resolveCenter rcell.box.vects a.center a.centerscale) ∧
        (o.line ≠ 0 → f.x = 0) ∧ (o.line ≠ 1 → f.y = 0) ∧ (o.line ≠ 2 → f.z = 0) := by
  unfold monopoleCall at h
  split at h
  · cases (Prod.mk.inj h).2
  · rename_i c' hd hh
    split at h
    · cases (Prod.mk.inj h).2
    · rename_i r hm
      obtain ⟨rfl, hr⟩ := Prod.mk.inj h
      obtain rfl := Except.ok.inj hr
      obtain ⟨hsz, hshift, hreq, hcen, hwid, hshape⟩ := callHead_ok_spec ceil true o.line rcell.box.vects lens ucellA shifts
        cur c' a hd hh
      obtain ⟨m, _, hsizes⟩ := callSizes_eq_sizes ceil o.line lens a.mins a.mults hd.sizes hsz
      have hpos := (sizes_even_symmetric o.line hl m _ _ _ hd.sizes hsizes).1
      obtain ⟨hb, hlen, hat⟩ := monopole_keeps_atoms fl pad hpad sqrt u o rcell hd.sizes hd.shift hd.center hd.shape hd.width
        nsym base d hm hdet hpos
      obtain ⟨hpbc, _⟩ := monopole_pbc fl pad sqrt u o rcell hd.sizes hd.shift hd.center hd.shape hd.width nsym base d hm hl
      refine ⟨hd, hh, hshift, hreq, hpos, hb, hlen, hpbc, ?_⟩
      rw [← hcen]
      exact hat

/-- end to end: for every accepted call `periodicarray(sizemults, amin, bmin, cmin, shift, shiftindex,
    shiftscale, center, centerscale, boundarywidth, boundaryscale, linear, cutoff)` the object afterwards holds the shift
    used; with `ref` the rotated cell replicated by the (positive) multipliers, shifted by the requested shift and wrapped:
    the number of atoms removed is the integer `expected` implied by the volume of the tilted box, the systems are
    periodic in the two in-plane directions only, `old_id` is increasing and lists exactly the non-duplicates, and both
    returned systems have one atom per entry (which atom: `array_old_id`).  These clauses stand under the hypothesis that the
    tilted box is non-degenerate; none of them needs it. -/
theorem arrayCall_spec (fl : K → Int) (rnd : K → Int) (ceil : K → Int) (pad : K) (u : V3 K → V3 K) (o : Orient) (hl : o.line < 3)
    (rcell : Sys K) (lens : V3 K) (ucellA : K) (nsym : Nat) (shifts : List (V3 K)) (cur cur' : V3 K) (a : CallArgs K)
    (burgers : V3 K) (linear : Bool) (cutoff : Option K) (atolSlip atolInt rtolInt : K) (r : ArrayOut K)
    (h : arrayCall fl rnd ceil pad u o rcell lens ucellA nsym shifts cur a burgers linear cutoff atolSlip atolInt rtolInt
      = (cur', .ok r)) :
    ∃ hd : Head K, callHead ceil false o.line rcell.box.vects lens ucellA shifts cur a = (cur', .ok hd) ∧
      hd.shift = cur' ∧
      (if a.sh.given then setShift rcell.box.vects shifts a.sh = .ok hd.shift else hd.shift = cur) ∧
      (0 < hd.sizes.a.mult ∧ 0 < hd.sizes.b.mult ∧ 0 < hd.sizes.c.mult) ∧
      periodicArray fl rnd pad u o (baseSystem fl pad rcell hd.sizes hd.shift) burgers
        (resolveCenter rcell.box.vects a.center a.centerscale) linear (resolveWidth ucellA a.width a.widthscale)
        (cutoff.getD half) atolSlip atolInt rtolInt nsym = .ok r ∧
      (M3.det (tiltedVects o (baseSystem fl pad rcell hd.sizes hd.shift).box.vects burgers) ≠ 0 →
        ((baseSystem fl pad rcell hd.sizes hd.shift).atoms.length : Int) - (r.disl.atoms.length : Int) = r.expected ∧
        r.disl.pbc = ⟨o.cut ≠ 0, o.cut ≠ 1, o.cut ≠ 2⟩ ∧
        r.oldId.Pairwise (· < ·) ∧
        (∀ i, i ∈ r.oldId ↔ i < (baseSystem fl pad rcell hd.sizes hd.shift).atoms.length ∧ i ∉ r.dups) ∧
        r.base.atoms.length = r.oldId.length ∧ r.disl.atoms.length = r.oldId.length) := by
  unfold arrayCall at h
  split at h
  · cases (Prod.mk.inj h).2
  · rename_i c' hd hh
    split at h
    iterate 3 cases (Prod.mk.inj h).2
    rename_i r' hp
    obtain ⟨rfl, hr⟩ := Prod.mk.inj h
    obtain rfl := Except.ok.inj hr
    obtain ⟨hsz, hshift, hreq, hcen, hwid, _⟩ := callHead_ok_spec ceil false o.line rcell.box.vects lens ucellA shifts
      cur c' a hd hh
    obtain ⟨m, _, hsizes⟩ := callSizes_eq_sizes ceil o.line lens a.mins a.mults hd.sizes hsz
    have hpos := (sizes_even_symmetric o.line hl m _ _ _ hd.sizes hsizes).1
    refine ⟨hd, hh, hshift, hreq, hpos, by rw [← hcen, ← hwid]; exact hp, ?_⟩
    intro hdet
    obtain ⟨h1, h2, h3, h4, _⟩ := array_old_id fl rnd pad u o _ burgers hd.center linear hd.width (cutoff.getD half)
      atolSlip atolInt rtolInt nsym r' hp hdet
    obtain ⟨hc, _, hpbc⟩ := array_deletion_count_partial fl rnd pad u o _ burgers hd.center linear hd.width
      (cutoff.getD half) atolSlip atolInt rtolInt nsym r' hp hdet
    exact ⟨hc, hpbc, h1, h2, h3, h4⟩

/-- refusals, exactly: the argument handling of a generator call is accepted if and only if
    the multipliers are acceptable (`callSizes`), the shift arguments — when any is given — resolve, and, for `monopole`,
    the shape is one of the two known ones. -/
theorem callHead_accepts_iff (ceil : K → Int) (mono : Bool) (line : Nat) (vects : M3 K) (lens : V3 K) (ucellA : K)
    (shifts : List (V3 K)) (cur : V3 K) (a : CallArgs K) :
    (∃ c' hd, callHead ceil mono line vects lens ucellA shifts cur a = (c', .ok hd)) ↔
      (∃ sz, callSizes ceil line lens a.mults a.mins = some sz) ∧
      (a.sh.given = true → ∃ s, setShift vects shifts a.sh = .ok s) ∧
      (mono = true → ∃ shp, Shape.ofString? a.shape = some shp) := by
  constructor
  · rintro ⟨c', hd, h⟩
    obtain ⟨h1, _, h3, _, _, h6⟩ := callHead_ok_spec ceil mono line vects lens ucellA shifts cur c' a hd h
    refine ⟨⟨_, h1⟩, ?_, fun hm => ⟨_, h6 hm⟩⟩
    intro hg
    rw [if_pos hg] at h3
    exact ⟨_, h3⟩
  · rintro ⟨⟨sz, hs⟩, hsh, hshape⟩
    unfold callHead
    rw [hs]
    rcases step_gen_cases vects shifts cur a.sh with ⟨e, hg, he, _⟩ | ⟨s, he, _⟩
    · obtain ⟨s, hs'⟩ := hsh hg
      rw [hs'] at he
      cases he
    · rw [he]
      cases mono
      · exact ⟨_, _, rfl⟩
      · obtain ⟨shp, hshp⟩ := hshape rfl
        simp only [if_true, hshp]
        exact ⟨_, _, rfl⟩

end Atomman.C13
