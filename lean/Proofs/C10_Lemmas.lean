/-
  C10 — helper lemmas for the data-model round trip: row-major chunking, `mapOpt`, parsing of written value lists, reading a
  written value node (also one stored with an uncertainty, `error=`), the unit conversions related to each other (`scaleFn_eq` …
  `rescale_self`, with the property theorems `inUnit_scaleFn`, `scaleFn_back`), dictionaries with distinct keys, the form of
  the trees `uc.model` and `ElasticConstants.model` return.
-/
import Proofs.C10_Spec
import Proofs.Folds
import Proofs.Lists
import Mathlib.Tactic.Ring
import Mathlib.Tactic.Linarith

namespace Atomman.C10
variable {α β γ : Type} {K : Type}

theorem prodNat_cons (n : Nat) (s : List Nat) : prodNat (n :: s) = n * prodNat s := rfl

theorem chunks_flatten (k : Nat) (ls : List (List α)) (h : ∀ l ∈ ls, l.length = k) :
    chunks k ls.length ls.flatten = ls := by
  induction ls with
  | nil => rfl
  | cons l r ih =>
    have hl : l.length = k := h l (by simp)
    simp only [List.length_cons, List.flatten_cons, chunks]
    rw [List.take_left' hl, List.drop_left' hl, ih (fun x hx => h x (by simp [hx]))]

theorem length_flatten_of_shape (s : List Nat) : ∀ (t : Nest α), t.HasShape s → (t.flatten s).length = prodNat s := by
  induction s with
  | nil => intro t h; cases t <;> simp_all [Nest.HasShape, Nest.flatten, prodNat]
  | cons n s ih =>
    intro t h
    cases t with
    | val a => simp [Nest.HasShape] at h
    | arr l =>
      obtain ⟨hn, hall⟩ := h
      simp only [Nest.flatten, prodNat_cons]
      rw [length_flatten_const _ (prodNat s)]
      · simp [hn]
      · intro x hx
        obtain ⟨y, hy, rfl⟩ := List.mem_map.mp hx
        exact ih y (hall y hy)

theorem chunks_spec (k : Nat) : ∀ (n : Nat) (d : List α), d.length = n * k →
    (chunks k n d).flatten = d ∧ (chunks k n d).length = n ∧ ∀ c ∈ chunks k n d, c.length = k := by
  intro n
  induction n with
  | zero => intro d h; simp at h; simp [chunks, h]
  | succ n ih =>
    intro d h
    have hk : k ≤ d.length := by rw [h]; nlinarith
    obtain ⟨h1, h2, h3⟩ := ih (d.drop k) (by simp [h]; ring_nf; omega)
    refine ⟨?_, ?_, ?_⟩
    · simp only [chunks, List.flatten_cons, h1, List.take_append_drop]
    · simp [chunks, h2]
    · intro c hc
      simp only [chunks, List.mem_cons] at hc
      rcases hc with rfl | hc
      · simp [hk]
      · exact h3 c hc

/-- the model's `mapOpt` is `List.mapM` into `Option` written out. -/
theorem mapOpt_eq_mapM (f : α → Option β) (l : List α) : mapOpt f l = l.mapM f := by
  induction l with
  | nil => rfl
  | cons a l ih => rw [mapOpt, ih, List.mapM_cons]; cases f a <;> cases l.mapM f <;> rfl

theorem mapOpt_map_some (f : α → Option β) (g : α → β) (l : List α) (h : ∀ x ∈ l, f x = some (g x)) :
    mapOpt f l = some (l.map g) := by
  rw [mapOpt_eq_mapM]; exact mapM_option_of_forall f g l h

theorem mapOpt_cons_none (f : α → Option β) (a : α) (l : List α) (h : f a = none) : mapOpt f (a :: l) = none := by
  simp [mapOpt, h]

theorem mapOpt_map_inv (f : β → Option α) (g : α → β) (h : ∀ x, f (g x) = some x) (l : List α) :
    mapOpt f (l.map g) = some l := by
  simpa [mapOpt_eq_mapM] using mapM_option_map g f id l fun x _ => h x

/-- a list cut in two anywhere (for the `value_list_*` theorems). -/
theorem mapOpt_append (f : α → Option β) (a b : List α) :
    mapOpt f (a ++ b) = (match mapOpt f a, mapOpt f b with
      | some x, some y => some (x ++ y)
      | _, _ => none) := by
  induction a with
  | nil =>
    simp only [List.nil_append, mapOpt]
    cases mapOpt f b <;> rfl
  | cons x a ih =>
    simp only [List.cons_append, mapOpt, ih]
    cases f x <;> cases mapOpt f a <;> cases mapOpt f b <;> rfl

theorem mapOpt_map {α β γ : Type} (f : β → Option γ) (g : α → β) (l : List α) :
    mapOpt f (l.map g) = mapOpt (fun x => f (g x)) l := by
  rw [mapOpt_eq_mapM, mapOpt_eq_mapM, List.mapM_map]; rfl

theorem mapOpt_congr {α β : Type} (f g : α → Option β) : ∀ (l : List α), (∀ x ∈ l, f x = g x) → mapOpt f l = mapOpt g l := by
  intro l
  induction l with
  | nil => intro _; rfl
  | cons a l ih =>
    intro h
    simp only [mapOpt, h a (by simp), ih (fun x hx => h x (List.mem_cons_of_mem _ hx))]

theorem mapOpt_length {α β : Type} (f : α → Option β) (l : List α) (r : List β) (h : mapOpt f l = some r) :
    r.length = l.length :=
  forall₂_length (mapM_option_some_iff.mp (mapOpt_eq_mapM f l ▸ h))

theorem mapOpt_exists (f : α → Option β) (P : α → β → Prop) (l : List α)
    (h : ∀ x ∈ l, ∃ y, f x = some y ∧ P x y) : ∃ ys, mapOpt f l = some ys ∧ List.Forall₂ P l ys := by
  induction l with
  | nil => exact ⟨[], rfl, List.Forall₂.nil⟩
  | cons a l ih =>
    obtain ⟨y, hy, hp⟩ := h a (by simp)
    obtain ⟨ys, hys, hf⟩ := ih (fun x hx => h x (by simp [hx]))
    exact ⟨y :: ys, by simp [mapOpt, hy, hys], List.Forall₂.cons hp hf⟩

theorem mapOpt_exists_right {α β : Type} (f : β → Option α) (R : α → α → Prop) (l : List α) (ys : List β)
    (h : List.Forall₂ (fun p x => ∃ q, f x = some q ∧ R q p) l ys) :
    ∃ qs, mapOpt f ys = some qs ∧ List.Forall₂ R qs l := by
  induction h with
  | nil => exact ⟨[], rfl, List.Forall₂.nil⟩
  | cons h1 _ ih =>
    obtain ⟨q, hq, hr⟩ := h1
    obtain ⟨qs, hqs, hf⟩ := ih
    exact ⟨q :: qs, by simp [mapOpt, hq, hqs], List.Forall₂.cons hr hf⟩

theorem mapOpt_some_mem (f : α → Option β) (l : List α) (ys : List β) (h : mapOpt f l = some ys) :
    ∀ x ∈ l, ∃ y, f x = some y := fun x hx =>
  let ⟨y, _, hy⟩ := forall₂_mem_left (mapM_option_some_iff.mp (mapOpt_eq_mapM f l ▸ h)) x hx
  ⟨y, hy⟩

theorem mapOpt_forall2 (f : β → Option γ) (g : α → γ) (l : List α) (ys : List β)
    (h : List.Forall₂ (fun x y => f y = some (g x)) l ys) : mapOpt f ys = some (l.map g) := by
  induction h with
  | nil => rfl
  | cons h1 _ ih => simp [mapOpt, h1, ih]

theorem leaves?_map_leaf (l : List (Sc K)) : leaves? (l.map DM.leaf) = some l := by
  induction l with
  | nil => rfl
  | cons a l ih => simp [leaves?, ih]

theorem natList?_ofNat (sh : List Nat) :
    natList? (sh.map (fun (k : Nat) => (Sc.int (Int.ofNat k) : Sc K))) = some sh := by
  induction sh with
  | nil => rfl
  | cons a l ih =>
    simp only [List.map_cons, natList?, ih]
    simp

section
variable [IntCast K]

theorem ofScs_flt (l : List K) : Data.ofScs (l.map Sc.flt) = some (Data.flt l) := by
  cases l with
  | nil => rfl
  | cons a l =>
    simp only [Data.ofScs, List.map_cons]
    rw [mapOpt_cons_none _ _ _ (by rfl), ← List.map_cons (f := Sc.flt), mapOpt_map_inv Sc.num? Sc.flt (fun _ => rfl)]

/-- `np.asarray` on a non-empty list, by the first conversion that accepts every entry: all integers … -/
theorem ofScs_of_int (l : List (Sc K)) (is : List Int) (h : mapOpt Sc.int? l = some is) (hne : l ≠ []) :
    Data.ofScs l = some (Data.int is) := by
  cases l with
  | nil => exact absurd rfl hne
  | cons x r => simp only [Data.ofScs, h]

/-- … numbers that are not all integers … -/
theorem ofScs_of_num (l : List (Sc K)) (xs : List K) (hi : mapOpt Sc.int? l = none) (h : mapOpt Sc.num? l = some xs) :
    Data.ofScs l = some (Data.flt xs) := by
  cases l with
  | nil => cases hi
  | cons x r => simp only [Data.ofScs, hi, h]

/-- … all strings (the head is one, so the two numeric conversions refuse). -/
theorem ofScs_of_str (l : List (Sc K)) (ss : List String) (h : mapOpt Sc.str? l = some ss) (hne : l ≠ []) :
    Data.ofScs l = some (Data.str ss) := by
  match l, hne with
  | Sc.str s :: r, _ =>
    simp only [Data.ofScs, mapOpt_cons_none Sc.int? (Sc.str s) r rfl, mapOpt_cons_none Sc.num? (Sc.str s) r rfl, h,
      Option.map]
  | Sc.flt _ :: r, _ | Sc.int _ :: r, _ | Sc.bool _ :: r, _ | Sc.null :: r, _ =>
    rw [mapOpt_cons_none _ _ _ rfl] at h; cases h

theorem ofScs_int (l : List Int) (h : l ≠ []) : Data.ofScs (l.map (Sc.int (K := K))) = some (Data.int l) :=
  ofScs_of_int _ l (mapOpt_map_inv Sc.int? Sc.int (fun _ => rfl) l) (by simpa using h)

theorem ofScs_str (l : List String) (h : l ≠ []) : Data.ofScs (l.map (Sc.str (K := K))) = some (Data.str l) :=
  ofScs_of_str _ l (mapOpt_map_inv Sc.str? Sc.str (fun _ => rfl) l) (by simpa using h)

/-- a flat list written by `tolist()` parses back to the same buffer (an empty list parses as float). -/
theorem ofScs_toScs (d : Data K) (h : d.length ≠ 0 ∨ ∃ l, d = Data.flt l) : Data.ofScs d.toScs = some d := by
  cases d with
  | flt l => exact ofScs_flt l
  | int l =>
    refine ofScs_int l ?_
    rintro rfl
    rcases h with h | ⟨l, h⟩
    · exact h rfl
    · cases h
  | str l =>
    refine ofScs_str l ?_
    rintro rfl
    rcases h with h | ⟨l, h⟩
    · exact h rfl
    · cases h
end
theorem scaleFn_none [Div K] [Mul K] [One K] (fac1 fac2 : String → K) :
    scaleFn fac1 fac2 none = fun x => x := funext (fun _ => rfl)
theorem scaleFn_some [Div K] [Mul K] [One K] (fac1 fac2 : String → K) (u : String) :
    scaleFn fac1 fac2 (some u) = fun x => x / factor fac1 u * factor fac2 u := funext (fun _ => rfl)

theorem toScs_length (d : Data K) : d.toScs.length = d.length := by
  cases d <;> simp [Data.toScs, Data.length]

section node
variable (v : DM K) (sh : List Nat) (units : Option String)

theorem node_get_value : (DM.node (("value", v) :: (shapeEntry sh ++ unitEntry units))).get? "value" = some v := by
  simp [DM.get?, List.lookup]

theorem node_unitOf : unitOf? (DM.node (("value", v) :: (shapeEntry (K := K) sh ++ unitEntry units))) = some units := by
  rcases sh with _ | ⟨n, _ | ⟨m, r⟩⟩ <;> cases units <;>
    simp [unitOf?, DM.get?, List.lookup, shapeEntry, unitEntry]

theorem node_get_shape : (DM.node (("value", v) :: (shapeEntry (K := K) sh ++ unitEntry units))).get? "shape" =
    (match sh with
     | [] => none
     | [_] => none
     | n :: m :: r => some (DM.list (((n :: m :: r).map (fun (k : Nat) => (Sc.int (Int.ofNat k) : Sc K))).map DM.leaf))) := by
  rcases sh with _ | ⟨n, _ | ⟨m, r⟩⟩ <;> cases units <;>
    simp [DM.get?, List.lookup, shapeEntry, unitEntry]

theorem node_getStr_unit :
    (DM.node (("value", v) :: (shapeEntry (K := K) sh ++ unitEntry units))).getStr? "unit" = units := by
  rcases sh with _ | ⟨n, _ | ⟨m, r⟩⟩ <;> cases units <;>
    simp [DM.getStr?, DM.get?, List.lookup, shapeEntry, unitEntry]

end node

theorem errTerm_node (sh : List Nat) (units : Option String) (v ve : DM K) :
    errTerm (DM.node (("value", v) :: ("error", ve) :: (shapeEntry sh ++ unitEntry units)))
      = some (DM.node (("value", ve) :: (shapeEntry sh ++ unitEntry units))) := by
  rcases sh with _ | ⟨n, _ | ⟨m, r⟩⟩ <;> cases units <;>
    simp [errTerm, List.lookup, shapeEntry, unitEntry, List.filter]

section
variable [Field K]

theorem applyUnit_length (fac : String → K) (units : Option String) (d d' : Data K)
    (h : applyUnit fac units d = some d') : d'.length = d.length := by
  cases units with
  | none => simp [applyUnit] at h; subst h; rfl
  | some u =>
    by_cases hu : u = "scaled"
    · cases d <;> simp [applyUnit, hu, Data.mulOne] at h <;> subst h <;> rfl
    · cases d <;> simp [applyUnit, hu, Data.mulBy] at h <;> subst h <;> simp [Data.length]

theorem valueUnit_node (fac : String → K) (sh : List Nat) (units : Option String) (d d' : Data K) (v : DM K)
    (hd : d.length = prodNat sh) (hne : d.length ≠ 0 ∨ ∃ l, d = Data.flt l)
    (hv : valueNode sh d.toScs = some v) (hu : applyUnit fac units d = some d') :
    valueUnit fac (DM.node (("value", v) :: (shapeEntry sh ++ unitEntry units))) = some ⟨sh, d'⟩ := by
  have hscs := ofScs_toScs d hne
  have hlen := applyUnit_length fac units d d' hu
  unfold valueUnit
  rw [node_get_value, node_unitOf, node_get_shape]
  rcases sh with _ | ⟨n, _ | ⟨m, r⟩⟩
  · have h1 : d.toScs.length = 1 := by rw [toScs_length, hd]; rfl
    obtain ⟨x, hx⟩ := List.length_eq_one_iff.mp h1
    rw [hx] at hv hscs
    simp only [valueNode, Option.some.injEq] at hv
    subst hv
    simp only [hscs, Option.map_some, hu]
  · simp only [valueNode, Option.some.injEq] at hv
    subst hv
    have hn : d.length = n := by simpa [prodNat] using hd
    simp only [leaves?_map_leaf, hscs, Option.map_some, hu, toScs_length, hn]
  · simp only [valueNode, Option.some.injEq] at hv
    subst hv
    simp only [leaves?_map_leaf, hscs, Option.map_some, hu, Option.bind_some, natList?_ofNat, hlen, hd, if_true]

theorem valueUnit_skip_error (fac : String → K) (v ve : DM K) (rest : List (String × DM K)) :
    valueUnit fac (DM.node (("value", v) :: ("error", ve) :: rest)) = valueUnit fac (DM.node (("value", v) :: rest)) := by
  -- the reader looks up `value`, `unit` and `shape`; none of them is `error`
  have h : ∀ k : String, (k == "error") = false →
      (DM.node (("value", v) :: ("error", ve) :: rest)).get? k = (DM.node (("value", v) :: rest)).get? k := by
    intro k hk
    simp only [DM.get?, List.lookup_cons, hk]
  unfold valueUnit unitOf?
  rw [h "value" rfl, h "unit" rfl, h "shape" rfl]

/-- written under `fac1`, read under `fac2`: out of the working units of the first, into those of the second. -/
theorem scaleFn_eq (fac1 fac2 : String → K) (u : Option String) (x : K) :
    scaleFn fac1 fac2 u x = inWorking fac2 u (inUnit fac1 u x) := by
  cases u <;> rfl

theorem inWorking_inUnit (fac : String → K) (u : Option String) (hf : ∀ s, u = some s → factor fac s ≠ 0) (x : K) :
    inWorking fac u (inUnit fac u x) = x := by
  cases u with
  | none => rfl
  | some s => exact div_mul_cancel₀ x (hf s rfl)

theorem inUnit_inWorking (fac : String → K) (u : Option String) (hf : ∀ s, u = some s → factor fac s ≠ 0) (x : K) :
    inUnit fac u (inWorking fac u x) = x := by
  cases u with
  | none => rfl
  | some s => exact mul_div_cancel_right₀ x (hf s rfl)

/-- on a float buffer `applyUnit` is `inWorking` entry by entry (`'scaled'` is the factor 1). -/
theorem applyUnit_flt (fac : String → K) (u : Option String) (l : List K) :
    applyUnit fac u (.flt l) = some (.flt (l.map (inWorking fac u))) := by
  cases u with
  | none => exact congrArg (fun l => some (Data.flt l)) (List.map_id' l).symm
  | some s =>
    have e : inWorking fac (some s) = fun x => x * factor fac s := funext fun _ => rfl
    rw [e]
    by_cases hs : s = "scaled" <;> simp [applyUnit, hs, factor, Data.mulOne, Data.mulBy]

theorem writeData_applyUnit (fac1 fac2 : String → K) (units : Option String) (d : Data K)
    (hs : ∀ l, d = Data.str l → units = none) :
    ∃ dw, writeData fac1 units d = some dw ∧ dw.length = d.length ∧
      applyUnit fac2 units dw = some (d.rescale fac1 fac2 units) := by
  cases units with
  | none =>
    refine ⟨d, rfl, rfl, ?_⟩
    cases d <;> simp [applyUnit, Data.rescale, scaleFn_none]
  | some u =>
    cases d with
    | str l => exact absurd (hs l rfl) (by simp)
    -- the buffer written is a float buffer of quotients; reading multiplies it back (`applyUnit_flt`): `scaleFn_eq`
    | flt l => exact ⟨_, rfl, by simp [Data.length], by rw [applyUnit_flt, List.map_map]; rfl⟩
    | int l => exact ⟨_, rfl, by simp [Data.length], by rw [applyUnit_flt, List.map_map]; rfl⟩

theorem scaleFn_self (fac : String → K) (units : Option String)
    (hf : ∀ u, units = some u → factor fac u ≠ 0) (x : K) : scaleFn fac fac units x = x := by
  rw [scaleFn_eq, inWorking_inUnit fac units hf]

/-- the value read under `fac2`, expressed in the stored unit, is the written value expressed in that unit under
    `fac1`: needs the READING factor to be non-zero (for a zero factor the left side is `… / 0 = 0`). -/
theorem inUnit_scaleFn (fac1 fac2 : String → K) (u : Option String)
    (h2 : ∀ s, u = some s → factor fac2 s ≠ 0) (x : K) :
    inUnit fac2 u (scaleFn fac1 fac2 u x) = inUnit fac1 u x := by
  rw [scaleFn_eq, inUnit_inWorking fac2 u h2]

/-- with both factors non-zero the rescaling is undone by the opposite one: nothing is lost. -/
theorem scaleFn_back (fac1 fac2 : String → K) (u : Option String)
    (h1 : ∀ s, u = some s → factor fac1 s ≠ 0) (h2 : ∀ s, u = some s → factor fac2 s ≠ 0) (x : K) :
    scaleFn fac2 fac1 u (scaleFn fac1 fac2 u x) = x := by
  rw [scaleFn_eq, scaleFn_eq, inUnit_inWorking fac2 u h2, inWorking_inUnit fac1 u h1]

theorem map_inUnit_scaleFn (fac1 fac2 : String → K) (u : Option String)
    (h2 : ∀ s, u = some s → factor fac2 s ≠ 0) (l : List K) :
    (l.map (scaleFn fac1 fac2 u)).map (inUnit fac2 u) = l.map (inUnit fac1 u) := by
  rw [List.map_map]
  exact List.map_congr_left (fun x _ => inUnit_scaleFn fac1 fac2 u h2 x)

theorem map_scaleFn_back (fac1 fac2 : String → K) (u : Option String)
    (h1 : ∀ s, u = some s → factor fac1 s ≠ 0) (h2 : ∀ s, u = some s → factor fac2 s ≠ 0) (l : List K) :
    (l.map (scaleFn fac1 fac2 u)).map (scaleFn fac2 fac1 u) = l := by
  rw [List.map_map]
  conv_rhs => rw [← List.map_id l]
  exact List.map_congr_left (fun x _ => scaleFn_back fac1 fac2 u h1 h2 x)

theorem fltD_flt (l : List K) : (Data.flt l).fltD = l := rfl

theorem scaleFn_self_eq (fac : String → K) (units : Option String)
    (hf : ∀ u, units = some u → factor fac u ≠ 0) : scaleFn fac fac units = fun x => x :=
  funext (scaleFn_self fac units hf)

theorem rescale_self (fac : String → K) (units : Option String)
    (hf : ∀ u, units = some u → factor fac u ≠ 0) (d : Data K) : d.rescale fac fac units = d.castU units := by
  have h := scaleFn_self_eq fac units hf
  cases d with
  | flt l => simp [Data.rescale, Data.castU, h]
  | int l => cases units <;> simp_all [Data.rescale, Data.castU]
  | str l => rfl

omit [Field K] in
theorem valueNode_isSome (sh : List Nat) (d : Data K) (hd : d.length = prodNat sh) :
    ∃ v, valueNode sh d.toScs = some v := by
  rcases sh with _ | ⟨n, r⟩
  · have h1 : d.toScs.length = 1 := by rw [toScs_length, hd]; rfl
    obtain ⟨x, hx⟩ := List.length_eq_one_iff.mp h1
    exact ⟨_, by rw [hx]; rfl⟩
  · exact ⟨_, rfl⟩

end
section lists

theorem lookup_of_mem_nodup (l : List (String × α)) (h : (l.map Prod.fst).Nodup) (p : String × α) (hp : p ∈ l) :
    l.lookup p.1 = some p.2 := by
  induction l with
  | nil => simp at hp
  | cons a l ih =>
    simp only [List.map_cons, List.nodup_cons] at h
    rcases List.mem_cons.mp hp with rfl | hp'
    · simp [List.lookup]
    · have hne : p.1 ≠ a.1 := by
        rintro heq
        exact h.1 (by rw [← heq]; exact List.mem_map_of_mem hp')
      have : (p.1 == a.1) = false := by simpa using hne
      obtain ⟨k, v⟩ := a
      simp only [List.lookup, this]
      exact ih h.2 hp'

theorem dictSet_append (d : List (String × α)) (k : String) (v : α) (h : k ∉ d.map Prod.fst) :
    dictSet d k v = d ++ [(k, v)] := by
  have : d.any (fun e => e.1 == k) = false := by
    rw [List.any_eq_false]
    intro e he heq
    exact h (by rw [← (by simpa using heq : e.1 = k)]; exact List.mem_map_of_mem he)
  simp [dictSet, this]

theorem foldl_dictSet (acc l : List (String × α)) (h : ((acc ++ l).map Prod.fst).Nodup) :
    l.foldl (fun d e => dictSet d e.1 e.2) acc = acc ++ l := by
  rw [List.map_append, List.nodup_append] at h
  exact foldl_append_of_fresh _ Prod.fst (fun d e he => dictSet_append d e.1 e.2 he) l acc h.2.1
    fun a ha hm => h.2.2 _ hm _ (List.mem_map_of_mem ha) rfl

theorem rep_one (d : Data K) : d.rep 1 = d := by
  cases d <;> simp [Data.rep]

theorem bcast_self (natoms : Nat) (a : Arr K) (t : List Nat) (h : a.shape = natoms :: t) : bcast natoms a = some a := by
  obtain ⟨sh, d⟩ := a
  simp only at h
  subst h
  by_cases h1 : natoms = 1
  · subst h1; simp [bcast, rep_one]
  · simp [bcast, h1]

theorem foldl_min_ge (l : List Int) (i : Int) (hi : 1 ≤ i) (h : ∀ j ∈ l, 1 ≤ j) : 1 ≤ l.foldl min i :=
  (foldl_min_mem l i).elim (fun e => e.symm ▸ hi) (h _)

theorem foldl_max_ge (l : List Int) (i : Int) : i ≤ l.foldl max i :=
  (le_foldl_max l i).1

theorem mem_of_lookup {α : Type} (l : List (String × α)) (k : String) (v : α) (h : l.lookup k = some v) : (k, v) ∈ l := by
  obtain ⟨l₁, l₂, rfl, _⟩ := List.lookup_eq_some_iff.mp h
  exact List.mem_append_right _ List.mem_cons_self

theorem read_unique {β γ : Type} {x y : Option β} {read : β → Option γ} {ea eb : γ}
    (ha : ∃ t, x = some t ∧ read t = some ea) (hb : ∃ t, y = some t ∧ read t = some eb) (h : x = y) : ea = eb := by
  obtain ⟨t, rfl, h1⟩ := ha
  obtain ⟨t', rfl, h2⟩ := hb
  cases h
  exact Option.some.inj (h1.symm.trans h2)

theorem lookup_filter {β : Type} (p : String → Bool) (k : String) (hk : p k = true) :
    ∀ kv : List (String × β), (kv.filter (fun e => p e.1)).lookup k = kv.lookup k
  | [] => rfl
  | (k', v) :: r => by
    by_cases hp : p k' = true
    · simp only [List.filter_cons, hp, if_true, List.lookup_cons]
      rw [lookup_filter p k hk r]
    · have hne : (k == k') = false := by
        apply beq_false_of_ne
        intro he; subst he; exact hp hk
      simp only [List.filter_cons, hp, List.lookup_cons, hne]
      simpa using lookup_filter p k hk r

theorem appendAll_keys (k : String) : ∀ l : List (DM K),
    (appendAll k l).map Prod.fst = if l.isEmpty then [] else [k]
  | [] => rfl
  | [_] => rfl
  | _ :: _ :: _ => rfl

end lists

section atoms
variable [Field K]

omit [Field K] in
theorem ucModel_some [Div K] [One K] [IntCast K] {fac : String → K} {units : Option String} {a : Arr K} {t : DM K}
    (h : ucModel fac units a = some t) :
    ∃ d v, writeData fac units a.data = some d ∧ valueNode a.shape d.toScs = some v ∧
      t = .node (("value", v) :: (shapeEntry a.shape ++ unitEntry units)) := by
  unfold ucModel at h
  split at h
  · cases h
  · rename_i d hd
    split at h
    · cases h
    · rename_i v hv
      cases h
      exact ⟨d, v, hd, hv, rfl⟩

omit [Field K] in
theorem ecModel_some [Div K] [One K] [IntCast K] {fac : String → K} {u : Option String} {norm : List K → List K}
    {c : List K} {t : DM K} (h : ecModel fac u norm c = some t) :
    ∃ m, t = .node [("elastic-constants", .node [("Cij", m)])] := by
  unfold ecModel at h
  split at h
  · cases h
  · cases h; exact ⟨_, rfl⟩

theorem ucModel_unit (fac : String → K) (units : Option String) (a : Arr K) (t : DM K)
    (h : ucModel fac units a = some t) : t.getStr? "unit" = units := by
  obtain ⟨_, _, _, _, rfl⟩ := ucModel_some h
  exact node_getStr_unit _ _ _

omit [Field K] in
theorem atype_nonempty (a : AtomsM K) (hw : a.Wf) (la : List Int) (rest : List (String × Arr K))
    (h : a.props = ("atype", ⟨[a.natoms], .int la⟩) :: rest) : la ≠ [] := by
  rintro rfl
  obtain ⟨_, h2, h3⟩ := hw.ok ("atype", ⟨[a.natoms], .int []⟩) (by rw [h]; simp)
  exact h3 (by rw [← h2]; rfl)

end atoms
end Atomman.C10
