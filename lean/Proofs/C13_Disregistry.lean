/-
  C13 — `disregistry`: plane selection, `np.unique`, `np.interp` at a node, the `disregistry_*` theorems.  `drows` is a
  definition the statements use.
-/
import Atomman.C13
import Proofs.Linear3
import Proofs.Lists

namespace Atomman.C13
open Atomman
set_option linter.unusedSectionVars false

variable {K : Type} [Field K] [LinearOrder K] [IsStrictOrderedRing K]

section selection

variable {α : Type} [LinearOrder α]

theorem minAbove_cases (mid : α) (ys : List α) :
    match minAbove mid ys with
    | none => ∀ z ∈ ys, ¬ mid < z
    | some a => a ∈ ys ∧ mid < a ∧ ∀ y ∈ ys, mid < y → a ≤ y := by
  induction ys with
  | nil => simp [minAbove]
  | cons y r ih =>
    unfold minAbove
    cases hr : minAbove mid r with
    | none =>
      rw [hr] at ih
      dsimp only at ih ⊢
      split_ifs with hy
      · exact ⟨List.mem_cons_self, hy, List.forall_mem_cons.mpr ⟨fun _ => le_rfl, fun z hz hm => absurd hm (ih z hz)⟩⟩
      · exact List.forall_mem_cons.mpr ⟨hy, ih⟩
    | some b =>
      rw [hr] at ih
      obtain ⟨hb1, hb2, hb3⟩ := ih
      dsimp only
      split_ifs with hy hyb
      · exact ⟨List.mem_cons_self, hy,
          List.forall_mem_cons.mpr ⟨fun _ => le_rfl, fun z hz hm => hyb.le.trans (hb3 z hz hm)⟩⟩
      · exact ⟨List.mem_cons_of_mem _ hb1, hb2, List.forall_mem_cons.mpr ⟨fun _ => not_lt.mp hyb, hb3⟩⟩
      · exact ⟨List.mem_cons_of_mem _ hb1, hb2, List.forall_mem_cons.mpr ⟨fun h => absurd h hy, hb3⟩⟩

theorem minAbove_eq_some_iff (mid : α) (ys : List α) (a : α) :
    minAbove mid ys = some a ↔ a ∈ ys ∧ mid < a ∧ ∀ y ∈ ys, mid < y → a ≤ y := by
  have hc := minAbove_cases mid ys
  constructor
  · intro h; rwa [h] at hc
  · rintro ⟨h1, h2, h3⟩
    cases h : minAbove mid ys with
    | none => rw [h] at hc; exact absurd h2 (hc a h1)
    | some b =>
      rw [h] at hc
      exact congrArg some (le_antisymm (hc.2.2 a h1 h2) (h3 b hc.1 hc.2.1))

theorem maxBelow_eq_dual (mid : α) (l : List α) : maxBelow mid l = minAbove (K := αᵒᵈ) mid l := by
  induction l with
  | nil => rfl
  | cons y r ih => unfold maxBelow; rw [ih]; rfl

theorem maxBelow_eq_some_iff (mid : α) (ys : List α) (a : α) :
    maxBelow mid ys = some a ↔ a ∈ ys ∧ a < mid ∧ ∀ y ∈ ys, y < mid → y ≤ a :=
  maxBelow_eq_dual mid ys ▸ minAbove_eq_some_iff (α := αᵒᵈ) mid ys a

end selection

/-- the rows `disregistry` works on, for lists of equal length. -/
def drows (m n : V3 K) (basepos disp : List (V3 K)) : List (DRow K) :=
  List.zipWith (fun p d => (⟨V3.dot p m, V3.dot p n, d⟩ : DRow K)) basepos disp

theorem drows_map_y (m n : V3 K) : ∀ (basepos disp : List (V3 K)), basepos.length = disp.length →
    (drows m n basepos disp).map (·.y) = basepos.map (fun p => V3.dot p n) := by
  intro basepos
  unfold drows
  induction basepos with
  | nil => intro disp _; simp
  | cons p r ih =>
    intro disp hl
    cases disp with
    | nil => simp at hl
    | cons d t =>
      simp only [List.zipWith_cons_cons, List.map_cons, List.cons.injEq, true_and]
      exact ih t (by simpa using hl)

theorem isInsert : IsInsert (insertSorted (K := K)) (· < ·) (fun x y => ¬ y < x) :=
  ⟨fun _ => rfl, fun x y t => by rw [insertSorted, ite_not]⟩

/-- where the walk stops without inserting, the entry met is the one being inserted. -/
theorem eq_of_not_lt {x y : K} (h1 : ¬ x < y) (h2 : ¬ y < x) : x = y := le_antisymm (not_lt.mp h2) (not_lt.mp h1)

theorem sortedUnique_sorted (xs : List K) : (sortedUnique xs).Pairwise (· < ·) :=
  isInsert.foldr_pairwise (hd := fun _ _ => eq_of_not_lt) (hr := fun _ _ h => h) (hn := fun _ _ _ h => not_not.mp h)
    (ht := fun _ _ _ => lt_trans) xs

theorem mem_sortedUnique (xs : List K) (y : K) : y ∈ sortedUnique xs ↔ y ∈ xs :=
  isInsert.mem_foldr (hd := fun _ _ => eq_of_not_lt) y xs

theorem interpGo_node : ∀ (xr : List K) (fr : List (V3 K)) (x0 : K) (f0 : V3 K) (i : Nat) (x : K) (f : V3 K),
    (x0 :: xr).Pairwise (· < ·) → xr.length = fr.length → xr[i]? = some x → fr[i]? = some f →
    interpGo x x0 f0 xr fr = f := by
  intro xr
  induction xr with
  | nil => intro fr x0 f0 i x f _ _ hx _; simp at hx
  | cons x1 xt ih =>
    intro fr x0 f0 i x f hs hl hx hf
    cases fr with
    | nil => simp at hl
    | cons f1 ft =>
      have hs' : (x1 :: xt).Pairwise (· < ·) := List.Pairwise.of_cons hs
      cases i with
      | zero =>
        simp only [List.getElem?_cons_zero, Option.some.injEq] at hx hf
        subst hx; subst hf
        unfold interpGo
        rw [if_neg (lt_irrefl _)]
        cases xt with
        | nil => cases ft <;> simp [interpGo]
        | cons x2 xt2 =>
          cases ft with
          | nil => simp [interpGo]
          | cons f2 ft2 =>
            unfold interpGo
            have h12 : x1 < x2 := List.rel_of_pairwise_cons hs' List.mem_cons_self
            rw [if_pos h12]
            -- AT the node the next segment is entered with weight `(x - x) / (x₂ - x) = 0`
            simp only [sub_self, zero_div]
            cases f1; cases f2
            show V3.add _ _ = _
            simp [V3.smul, V3.add]
      | succ j =>
        simp only [List.getElem?_cons_succ] at hx hf
        have hmem : x ∈ xt := List.mem_of_getElem? hx
        have h1x : x1 < x := List.rel_of_pairwise_cons hs' hmem
        unfold interpGo
        rw [if_neg (not_lt.mpr (le_of_lt h1x))]
        exact ih ft x1 f1 j x f hs' (by simpa using hl) hx hf

theorem interp_node (xp : List K) (fp : List (V3 K)) (i : Nat) (x : K) (f : V3 K)
    (hs : xp.Pairwise (· < ·)) (hl : xp.length = fp.length) (hx : xp[i]? = some x) (hf : fp[i]? = some f) :
    interp xp fp x = f := by
  cases xp with
  | nil => simp at hx
  | cons x0 xr =>
    cases fp with
    | nil => simp at hl
    | cons f0 fr =>
      unfold interp
      cases i with
      | zero =>
        simp only [List.getElem?_cons_zero, Option.some.injEq] at hx hf
        subst hx; subst hf
        simp
      | succ j =>
        simp only [List.getElem?_cons_succ] at hx hf
        have h0x : x0 < x := List.rel_of_pairwise_cons hs (List.mem_of_getElem? hx)
        simp only [if_neg (not_le.mpr h0x)]
        exact interpGo_node xr fr x0 f0 j x f hs (by simpa using hl) hx hf

theorem columnMeans_getElem? (atol rtol : K) (pl : List (DRow K)) (ux : List K) (i : Nat) (x : K)
    (h : ux[i]? = some x) :
    (columnMeans atol rtol pl ux)[i]? = some (meanV ((pl.filter fun r => isclose atol rtol r.x x).map (·.d))) := by
  simp [columnMeans, List.getElem?_map, h]

theorem disregistry_ok (atol rtol : K) (m n pp : V3 K) (basepos disp : List (V3 K)) (r : Disreg K)
    (h : disregistry atol rtol m n pp basepos disp = .ok r) :
    minAbove (V3.dot pp n) ((drows m n basepos disp).map (·.y)) = some r.above ∧
    maxBelow (V3.dot pp n) ((drows m n basepos disp).map (·.y)) = some r.below ∧
    isclose atol rtol r.above r.below = false ∧
    (let pa := planeRows atol rtol r.above (drows m n basepos disp)
     let pb := planeRows atol rtol r.below (drows m n basepos disp)
     let ua := sortedUnique (pa.map (·.x))
     let ub := sortedUnique (pb.map (·.x))
     r.coord = sortedUnique (ua ++ ub) ∧
     r.vals = r.coord.map fun x =>
       interp ua (columnMeans atol rtol pa ua) x - interp ub (columnMeans atol rtol pb ub) x) := by
  unfold disregistry at h
  dsimp only at h
  split at h
  · rename_i a b ha hb
    split_ifs at h with hc
    obtain rfl := Except.ok.inj h
    exact ⟨ha, hb, Bool.eq_false_iff.mpr hc, rfl, rfl⟩
  · cases h

/-- the two atomic planes whose displacements `disregistry` subtracts are the ones
    adjoining the slip plane through `planepos`: both are heights of atoms, the slip plane lies strictly between them
    and an atom strictly between them can only lie exactly on the slip plane (excluded by the documented precondition
    that `planepos` falls between two planes of atoms). -/
theorem disregistry_planes_adjoin (atol rtol : K) (m n pp : V3 K) (basepos disp : List (V3 K))
    (hl : basepos.length = disp.length) (r : Disreg K) (h : disregistry atol rtol m n pp basepos disp = .ok r) :
    r.below < V3.dot pp n ∧ V3.dot pp n < r.above ∧
    (∃ p ∈ basepos, V3.dot p n = r.above) ∧ (∃ p ∈ basepos, V3.dot p n = r.below) ∧
    ∀ p ∈ basepos, r.below < V3.dot p n → V3.dot p n < r.above → V3.dot p n = V3.dot pp n := by
  obtain ⟨ha, hb, _⟩ := disregistry_ok atol rtol m n pp basepos disp r h
  rw [drows_map_y m n basepos disp hl] at ha hb
  obtain ⟨a1, a2, a3⟩ := (minAbove_eq_some_iff _ _ _).mp ha
  obtain ⟨b1, b2, b3⟩ := (maxBelow_eq_some_iff _ _ _).mp hb
  refine ⟨b2, a2, List.mem_map.mp a1, List.mem_map.mp b1, ?_⟩
  intro p hp h1 h2
  have hm : V3.dot p n ∈ basepos.map fun p => V3.dot p n := List.mem_map.mpr ⟨p, hp, rfl⟩
  rcases lt_trichotomy (V3.dot pp n) (V3.dot p n) with hlt | heq | hgt
  · exact absurd (a3 _ hm hlt) (not_le.mpr h2)
  · exact heq.symm
  · exact absurd (b3 _ hm hgt) (not_le.mpr h1)

/-- the result depends on `planepos` only through the gap between atomic planes it selects:
    any other point whose height lies in the same (empty) gap gives the same profile.  In particular in-plane offsets
    of `planepos` (along `m` or the line) never matter. -/
theorem disregistry_same_gap (atol rtol : K) (m n pp pp' : V3 K) (basepos disp : List (V3 K))
    (hl : basepos.length = disp.length) (r : Disreg K) (h : disregistry atol rtol m n pp basepos disp = .ok r)
    (hgap : ∀ p ∈ basepos, ¬ (r.below < V3.dot p n ∧ V3.dot p n < r.above))
    (h1 : r.below < V3.dot pp' n) (h2 : V3.dot pp' n < r.above) :
    disregistry atol rtol m n pp' basepos disp = .ok r := by
  obtain ⟨ha, hb, _⟩ := disregistry_ok atol rtol m n pp basepos disp r h
  obtain ⟨a1, a2, a3⟩ := (minAbove_eq_some_iff _ _ _).mp ha
  obtain ⟨b1, b2, b3⟩ := (maxBelow_eq_some_iff _ _ _).mp hb
  have hgap' : ∀ y ∈ (drows m n basepos disp).map (·.y), ¬ (r.below < y ∧ y < r.above) := by
    rw [drows_map_y m n basepos disp hl]
    intro y hy
    obtain ⟨p, hp, rfl⟩ := List.mem_map.mp hy
    exact hgap p hp
  -- the same two planes are selected from `pp'`, and the rest of the computation only sees the planes
  have ha' := (minAbove_eq_some_iff (V3.dot pp' n) _ _).mpr ⟨a1, h2,
    fun y hy hmy => not_lt.mp fun hlt => hgap' y hy ⟨h1.trans hmy, hlt⟩⟩
  have hb' := (maxBelow_eq_some_iff (V3.dot pp' n) _ _).mpr ⟨b1, h1,
    fun y hy hmy => not_lt.mp fun hlt => hgap' y hy ⟨hlt, hmy.trans h2⟩⟩
  unfold disregistry at h ⊢
  unfold drows at ha hb ha' hb'
  dsimp only at h ⊢
  rw [ha, hb] at h
  rw [ha', hb']
  exact h

/-- the returned coordinates are strictly increasing; a coordinate is returned iff it
    is an atomic column of one of the two adjoining planes; and at a column present in both planes the value is the
    mean displacement of that column's atoms in the upper plane minus that in the lower plane (no interpolation). -/
theorem disregistry_common_column (atol rtol : K) (m n pp : V3 K) (basepos disp : List (V3 K)) (r : Disreg K)
    (h : disregistry atol rtol m n pp basepos disp = .ok r) :
    let pa := planeRows atol rtol r.above (drows m n basepos disp)
    let pb := planeRows atol rtol r.below (drows m n basepos disp)
    r.coord.Pairwise (· < ·) ∧ r.vals.length = r.coord.length ∧
    (∀ x, x ∈ r.coord ↔ (∃ q ∈ pa, q.x = x) ∨ (∃ q ∈ pb, q.x = x)) ∧
    ∀ (k : Nat) (x : K), r.coord[k]? = some x → (∃ q ∈ pa, q.x = x) → (∃ q ∈ pb, q.x = x) →
      r.vals[k]? = some (meanV ((pa.filter fun q => isclose atol rtol q.x x).map (·.d))
                          - meanV ((pb.filter fun q => isclose atol rtol q.x x).map (·.d))) := by
  obtain ⟨_, _, _, hcoord, hvals⟩ := disregistry_ok atol rtol m n pp basepos disp r h
  intro pa pb
  rw [hvals, hcoord]
  refine ⟨sortedUnique_sorted _, by simp, ?_, ?_⟩
  · intro x
    simp only [mem_sortedUnique, List.mem_append, List.mem_map]
    rfl
  · intro k x hk hxa hxb
    simp only [List.getElem?_map, hk, Option.map_some]
    -- `x` is a node of both grids, so neither interpolation does anything
    obtain ⟨i, hi⟩ := List.getElem?_of_mem ((mem_sortedUnique (pa.map (·.x)) x).mpr (List.mem_map.mpr hxa))
    obtain ⟨j, hj⟩ := List.getElem?_of_mem ((mem_sortedUnique (pb.map (·.x)) x).mpr (List.mem_map.mpr hxb))
    rw [interp_node _ _ i x _ (sortedUnique_sorted _) (by simp [columnMeans]) hi (columnMeans_getElem? atol rtol _ _ i x hi),
      interp_node _ _ j x _ (sortedUnique_sorted _) (by simp [columnMeans]) hj (columnMeans_getElem? atol rtol _ _ j x hj)]

/-- non-vacuity: two atoms above, two below the plane `y = 0`, one farther away (ℚ). -/
example : ((disregistry (1/100000000 : ℚ) (1/100000) ⟨1,0,0⟩ ⟨0,1,0⟩ ⟨0,0,0⟩
    [⟨0,1,0⟩, ⟨1,1,0⟩, ⟨0,-1,0⟩, ⟨1,-1,0⟩, ⟨0,3,0⟩] [⟨1,0,0⟩, ⟨0,0,0⟩, ⟨0,0,0⟩, ⟨0,0,0⟩, ⟨5,5,5⟩]).toOption.map
      (fun r => (r.above, r.below, r.coord, r.vals.map (·.x)))) = some (1, -1, [0, 1], [1, 0]) := by
  decide +kernel

end Atomman.C13
