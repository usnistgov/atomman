/-
  C07 — what the table and dump writers emit: rows of cells read back, the dump writer as an equation, the dump document
  and the independent dump reader on it (`table_parse_write`, `dump_parse_write` in Proofs/C07.lean put the pieces together).
-/
import Proofs.C07_Rows
import Proofs.C07_Bounds

namespace Atomman.C07
open Atomman

/-- the header line of a table. -/
def nameLine (cols : List ColSpec) : Line := (cols.map fun c => c.names.map strTok).flatten

/-- hypothesis on the column names handed to a writer: single words. -/
def NamesOk (cols : List ColSpec) : Prop := ∀ c ∈ cols, ∀ n ∈ c.names, okTok (strTok n)

/-- hypothesis on the column names handed to a writer: the one-valued id / type columns have one name. -/
def IdNamesOk (cols : List ColSpec) : Prop :=
  ∀ c ∈ cols, (c.prop = "a_id" ∨ c.prop = "atom_id" ∨ c.prop = "atype") → c.names.length = 1

theorem okTok_nameLine (cols : List ColSpec) (h : NamesOk cols) : ∀ t ∈ nameLine cols, okTok t := by
  intro t ht
  simp only [nameLine, List.mem_flatten, List.mem_map] at ht
  obtain ⟨l, ⟨c, hc, rfl⟩, ht⟩ := ht
  obtain ⟨n, hn, rfl⟩ := List.mem_map.mp ht
  exact h c hc n hn

theorem okTok_rowsDoc (f : Fmt) (rows : List (List Cell)) : ∀ l ∈ rowsDoc f rows, ∀ t ∈ l, okTok t := by
  intro l hl t ht
  simp only [rowsDoc, List.mem_map] at hl
  obtain ⟨r, _, rfl⟩ := hl
  obtain ⟨c, _, rfl⟩ := List.mem_map.mp ht
  exact okTok_cellTok f c

theorem length_flatten_cells (s : Sys) (u : Units) (ids : List Int) (pos : List (V3 ℚ)) (k : Nat) {cols : List ColSpec}
    {cells : List (List Cell)} (hid : IdNamesOk cols)
    (h : List.Forall₂ (fun c cs => propCells s u ids pos c k = .ok cs) cols cells) :
    cells.flatten.length = (nameLine cols).length := by
  induction h with
  | nil => rfl
  | @cons c cs _ _ h1 _ ih =>
    obtain ⟨hc, htl⟩ := List.forall_mem_cons.mp hid
    simp only [nameLine, List.flatten_cons, List.length_append, List.map_cons, List.length_map] at ih ⊢
    rw [propCells_length s u ids pos c k hc cs h1, ih htl]

theorem row_length (s : Sys) (u : Units) (ids : List Int) (pos : List (V3 ℚ)) (cols : List ColSpec)
    (hid : IdNamesOk cols) (rows : List (List Cell)) (h : tableRows s u ids pos cols [] = .ok rows) :
    ∀ r ∈ rows, r.length = (nameLine cols).length := by
  intro r hr
  obtain ⟨k, hk, rfl⟩ := List.getElem_of_mem hr
  obtain ⟨cells, hc, e⟩ := (tableRows_spec s u ids pos cols [] rows h).2 k hk
  rw [e, List.getElem?_nil, Option.getD_none, List.append_nil]
  exact length_flatten_cells s u ids pos k hid hc

theorem mapM_rows_checked (f : Fmt) (rows : List (List Cell)) (n : Nat) (h : ∀ r ∈ rows, r.length = n) :
    (rowsDoc f rows).mapM (fun l => if l.length ≠ n then none else l.mapM parseNum?)
      = some (rows.map (·.map (Cell.val f))) := by
  refine mapM_option_map _ _ _ rows fun r hr => ?_
  simp only [List.length_map, h r hr, ne_eq, not_true_eq_false, if_false]
  exact mapM_parseNum_row f r

theorem mapM_rows (f : Fmt) (rows : List (List Cell)) :
    (rowsDoc f rows).mapM (fun l => l.mapM parseNum?) = some (rows.map (·.map (Cell.val f))) :=
  mapM_option_map _ _ _ rows fun r _ => mapM_parseNum_row f r

theorem lengthFactor_ok {u : Units} {lf : Option ℚ} (h : lengthFactor u = .ok lf) : u.factor? "length" = some lf := by
  unfold lengthFactor at h
  split at h
  · rename_i f hf; exact hf.trans (congrArg some (Except.ok.inj h))
  · cases h

theorem hasDup_eq_false_iff (l : List Int) : hasDup l = false ↔ l.Nodup := by
  induction l with
  | nil => simp [hasDup]
  | cons x xs ih => simp [hasDup, ih]

theorem hasDup_seqIds (n : Nat) : hasDup (seqIds n) = false :=
  (hasDup_eq_false_iff _).mpr (List.nodup_range.map fun a b h => by simpa using h)

/-- the boundary word of a dump header: `pp` for a periodic direction, `fm` otherwise. -/
def bflagD (p : Bool) : Tok := if p then cs!"pp" else cs!"fm"

/-- the ids the dump writer prints: the system's own `atom_id` column if it has one, else `1..N`. -/
def dumpIds (s : Sys) : List Int := match s.prop? "atom_id" with
    | some c => c.vals.map fun v => (v.headD 0).floor
    | none => seqIds s.natoms

/-- no tilt: the dump header has no `xy xz yz`. -/
def orthoH (h : HiLo) : Prop := h.xy = 0 ∧ h.xz = 0 ∧ h.yz = 0
instance (h : HiLo) : Decidable (orthoH h) := by unfold orthoH; infer_instance

/-- the tilts an orthogonal file does not print are read as 0, and they are 0. -/
theorem fmtVal_tilts_of_orthoH (f : Fmt) {h : HiLo} (ho : orthoH h) :
    fmtVal f h.xy = 0 ∧ fmtVal f h.xz = 0 ∧ fmtVal f h.yz = 0 := by
  rw [ho.1, ho.2.1, ho.2.2, fmtVal_zero]
  exact ⟨rfl, rfl, rfl⟩

/-- the text layout of a dump file. -/
def dumpDoc (f : Fmt) (ts : Int) (natoms : Nat) (pbc : V3 Bool) (h : HiLo) (cols : List ColSpec)
    (rows : List (List Cell)) : Doc :=
  let bb := bboxOf h
  [[cs!"ITEM:", cs!"TIMESTEP"], [intTok ts], [cs!"ITEM:", cs!"NUMBER", cs!"OF", cs!"ATOMS"], [natTok natoms],
   [cs!"ITEM:", cs!"BOX", cs!"BOUNDS"] ++ (if orthoH h then [] else [cs!"xy", cs!"xz", cs!"yz"]) ++
     [bflagD pbc.x, bflagD pbc.y, bflagD pbc.z]] ++
  (if orthoH h then
      [[fmtNum f bb.xlo, fmtNum f bb.xhi], [fmtNum f bb.ylo, fmtNum f bb.yhi], [fmtNum f bb.zlo, fmtNum f bb.zhi]]
    else
      [[fmtNum f bb.xlo, fmtNum f bb.xhi, fmtNum f h.xy], [fmtNum f bb.ylo, fmtNum f bb.yhi, fmtNum f h.xz],
       [fmtNum f bb.zlo, fmtNum f bb.zhi, fmtNum f h.yz]]) ++
  [[cs!"ITEM:", cs!"ATOMS"] ++ nameLine cols] ++ rowsDoc f rows

/-- the four checks of the dump writer in the order it makes them, and the document it builds. -/
theorem writeDumpDoc_eq (s : Sys) (props : List (String × List Nat)) (u : Units) (f : Fmt) (ts : Int) :
    writeDumpDoc s props u f ts =
      if s.box.isLammpsNorm = false then .error "assert" else
        (lengthFactor u).bind fun lf =>
          if hasDup (dumpIds s) = true then .error "assert" else
            (tableRows s u (dumpIds s) s.pos (props.map fun p => dumpCol p.1 p.2) []).map
              (dumpDoc f ts s.natoms s.pbc ((hiLoOf s.box).map (divBy lf)) (props.map fun p => dumpCol p.1 p.2)) := by
  simp only [writeDumpDoc, dumpIds, decide_eq_true_eq, Bool.not_eq_true']
  rfl

theorem writeDumpDoc_ok (s : Sys) (props : List (String × List Nat)) (u : Units) (f : Fmt) (ts : Int) (doc : Doc)
    (h : writeDumpDoc s props u f ts = .ok doc) :
    ∃ lf rows, s.box.isLammpsNorm = true ∧ lengthFactor u = .ok lf ∧ hasDup (dumpIds s) = false ∧
      tableRows s u (dumpIds s) s.pos (props.map fun p => dumpCol p.1 p.2) [] = .ok rows ∧
      doc = dumpDoc f ts s.natoms s.pbc ((hiLoOf s.box).map (divBy lf)) (props.map fun p => dumpCol p.1 p.2) rows := by
  rw [writeDumpDoc_eq] at h
  split at h
  · cases h
  · rename_i hnorm
    obtain ⟨lf, hlf, h⟩ := bind_ok h
    split at h
    · cases h
    · rename_i hdup
      obtain ⟨rows, hrows, rfl⟩ := map_ok h
      exact ⟨lf, rows, Bool.not_eq_false _ ▸ hnorm, hlf, Bool.not_eq_true _ ▸ hdup, hrows, rfl⟩

/-- the dump reader on a document of the written shape, orthogonal (`tri = false`) or tilted: `flags` are three
    words, not the tilt keywords. -/
theorem parseDumpLines_written (f : Fmt) (ts : Int) (natoms : Nat) (tri : Bool) (flags names : Line)
    (a b c d e g xy xz yz : ℚ) (rest : Doc) (rows : List (List ℚ))
    (hfl : flags.length = 3) (hft : (flags == [cs!"xy", cs!"xz", cs!"yz"]) = false)
    (hlen : rest.length = natoms)
    (hrows : rest.mapM (fun l => if l.length ≠ names.length then none else l.mapM parseNum?) = some rows) :
    parseDumpLines ([cs!"ITEM:", cs!"TIMESTEP"] :: [intTok ts] :: [cs!"ITEM:", cs!"NUMBER", cs!"OF", cs!"ATOMS"] ::
        [natTok natoms] ::
        (cs!"ITEM:" :: cs!"BOX" :: cs!"BOUNDS" :: ((if tri then [cs!"xy", cs!"xz", cs!"yz"] else []) ++ flags)) ::
        (fmtNum f a :: fmtNum f b :: if tri then [fmtNum f xy] else []) ::
        (fmtNum f c :: fmtNum f d :: if tri then [fmtNum f xz] else []) ::
        (fmtNum f e :: fmtNum f g :: if tri then [fmtNum f yz] else []) ::
        (cs!"ITEM:" :: cs!"ATOMS" :: names) :: rest) =
      some { timestep := ts, natoms := natoms, triclinic := tri, boundary := flags,
             bbox := ⟨fmtVal f a, fmtVal f b, fmtVal f c, fmtVal f d, fmtVal f e, fmtVal f g⟩,
             hilo := hiLoOfBBox ⟨fmtVal f a, fmtVal f b, fmtVal f c, fmtVal f d, fmtVal f e, fmtVal f g⟩
               (if tri then fmtVal f xy else 0) (if tri then fmtVal f xz else 0) (if tri then fmtVal f yz else 0),
             columns := names, rows := rows } := by
  have htake : rest.take natoms = rest := List.take_of_length_le hlen.le
  have hdrop : rest.drop natoms = [] := List.drop_of_length_le hlen.le
  have hfl3 : flags.take 3 = flags := List.take_of_length_le hfl.le
  cases tri
  all_goals
    simp only [parseDumpLines, itemIs, parseInt_intTok, parseNat_natTok, parseNum_fmtNum, htake, hdrop, hlen, hrows,
      hfl, hft, hfl3, List.nil_append, List.cons_append, List.length_cons, List.length_nil, List.take_succ_cons,
      List.take_zero, List.drop_succ_cons, List.drop_zero, List.mapM_cons, List.mapM_nil, List.all_nil, bind, pure,
      Option.bind_some, decide_true, beq_self_eq_true, Bool.not_true, Bool.false_eq_true, if_true, if_false, ne_eq,
      not_true_eq_false]

theorem bflagD_ne_tilt (x y z : Bool) : ([bflagD x, bflagD y, bflagD z] == [cs!"xy", cs!"xz", cs!"yz"]) = false := by
  cases x <;> rfl

theorem parseDumpLines_dumpDoc (f : Fmt) (ts : Int) (natoms : Nat) (pbc : V3 Bool) (h : HiLo) (cols : List ColSpec)
    (rows : List (List Cell)) (hlen : rows.length = natoms) (hrl : ∀ r ∈ rows, r.length = (nameLine cols).length) :
    parseDumpLines (dumpDoc f ts natoms pbc h cols rows) =
      some { timestep := ts, natoms := natoms, triclinic := !decide (orthoH h),
             boundary := [bflagD pbc.x, bflagD pbc.y, bflagD pbc.z],
             bbox := (bboxOf h).map (fmtVal f),
             hilo := hiLoOfBBox ((bboxOf h).map (fmtVal f)) (fmtVal f h.xy) (fmtVal f h.xz) (fmtVal f h.yz),
             columns := nameLine cols, rows := rows.map (·.map (Cell.val f)) } := by
  have hw := parseDumpLines_written f ts natoms (!decide (orthoH h)) [bflagD pbc.x, bflagD pbc.y, bflagD pbc.z]
    (nameLine cols) (bboxOf h).xlo (bboxOf h).xhi (bboxOf h).ylo (bboxOf h).yhi (bboxOf h).zlo (bboxOf h).zhi
    h.xy h.xz h.yz (rowsDoc f rows) _ rfl (bflagD_ne_tilt _ _ _) (by rw [rowsDoc, List.length_map, hlen])
    (mapM_rows_checked f rows _ hrl)
  by_cases ho : orthoH h
  · simp only [ho, decide_true, Bool.not_true, Bool.false_eq_true, if_false] at hw
    obtain ⟨exy, exz, eyz⟩ := fmtVal_tilts_of_orthoH f ho
    simp only [dumpDoc, ho, if_true, exy, exz, eyz]
    exact hw
  · simp only [ho, decide_false, Bool.not_false, if_true] at hw
    simp only [dumpDoc, ho, if_false]
    exact hw

theorem okTok_bflagD (p : Bool) : okTok (bflagD p) := by cases p <;> decide

theorem okTok_dumpDoc (f : Fmt) (ts : Int) (natoms : Nat) (pbc : V3 Bool) (h : HiLo) (cols : List ColSpec)
    (rows : List (List Cell)) (hn : NamesOk cols) : ∀ l ∈ dumpDoc f ts natoms pbc h cols rows, ∀ t ∈ l, okTok t := by
  have hlit : ∀ t ∈ [cs!"ITEM:", cs!"TIMESTEP", cs!"NUMBER", cs!"OF", cs!"ATOMS", cs!"BOX", cs!"BOUNDS", cs!"xy",
      cs!"xz", cs!"yz"], okTok t := by decide
  simp only [List.forall_mem_cons] at hlit
  unfold dumpDoc
  -- token by token: a keyword (`hlit`), a printed number or flag, a column name, or a cell of a row
  by_cases ho : orthoH h <;>
  simp only [ho, if_true, if_false, List.forall_mem_append, List.forall_mem_cons, List.not_mem_nil, false_imp_iff,
    implies_true, okTok_intTok, okTok_natTok, okTok_fmtNum, okTok_bflagD, hlit, and_self, true_and, and_true]
  all_goals exact ⟨okTok_nameLine cols hn, okTok_rowsDoc f rows⟩

end Atomman.C07
