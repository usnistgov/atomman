/-
  C19 — `Log.flatten` on the selected tables: the merge loop as coded, with the style looked at once per merged run
  (`mergeStyle_*`, `mergeLoop_*`, `flattenStyle_*`), `flattenTables` as its chain of decisions (`flattenTables_eq`), which
  exception it raises (`flatten_refusals_iff` and its halves), the columns and rows of a merged table.
-/
import Proofs.C19_Lemmas
import Proofs.Lists
import Mathlib.Order.MinMax
namespace Atomman.C19
open Atomman List
set_option linter.unusedSimpArgs false

section
variable {α : Type} (step : α → Int)

def IsStyle (style : Str) : Prop := style = "first".toList ∨ style = "last".toList ∨ style = "all".toList

instance (style : Str) : Decidable (IsStyle style) := by unfold IsStyle; infer_instance

theorem mergeStyle_first (m t : List α) : mergeStyle step "first".toList m t = .ok (mergeFirst step m t) := by
  simp [mergeStyle]

theorem mergeStyle_last (m t : List α) : mergeStyle step "last".toList m t = .ok (mergeLast step m t) := by
  have : ("last".toList == "first".toList) = false := by decide
  simp [mergeStyle, this]

theorem mergeStyle_all (m t : List α) : mergeStyle step "all".toList m t = .ok (mergeAll m t) := by
  have h1 : ("all".toList == "first".toList) = false := by decide
  have h2 : ("all".toList == "last".toList) = false := by decide
  simp [mergeStyle, h1, h2]

theorem mergeStyle_bad (style : Str) (h : ¬ IsStyle style) (m t : List α) :
    mergeStyle step style m t = .error .value := by
  unfold IsStyle at h
  have h1 : style ≠ "first".toList := fun e => h (Or.inl e)
  have h2 : style ≠ "last".toList := fun e => h (Or.inr (Or.inl e))
  have h3 : style ≠ "all".toList := fun e => h (Or.inr (Or.inr e))
  have e1 : (style == "first".toList) = false := by simpa using h1
  have e2 : (style == "last".toList) = false := by simpa using h2
  have e3 : (style == "all".toList) = false := by simpa using h3
  unfold mergeStyle
  rw [e1, e2, e3]
  rfl

theorem mergeLoop_of (style : Str) (f : List α → List α → List α)
    (hf : ∀ m t, mergeStyle step style m t = .ok (f m t)) (m : List α) (ts : List (List α)) :
    mergeLoop step style m ts = .ok (ts.foldl f m) := by
  induction ts generalizing m with
  | nil => rfl
  | cons t ts ih => simp only [mergeLoop, hf, foldl_cons]; exact ih _

theorem mergeLoop_bad (style : Str) (h : ¬ IsStyle style) (m t : List α) (ts : List (List α)) :
    mergeLoop step style m (t :: ts) = .error .value := by
  simp only [mergeLoop, mergeStyle_bad step style h]

end

section FlattenStyle
variable {α : Type} (step : α → Int)

/-- **flattenStyle_first / _last / _all**: with a supported style the loop of the source (`Gen.LogSrc.merge`, proved equal
    to `mergeStyle`) computes the folds the `flatten_first…` / `flatten_last…` / `flatten_all` theorems are about. -/
theorem flattenStyle_first (runs : List (List α)) : flattenStyle step "first".toList runs =
    match flattenFirst step runs with | none => .error .index | some r => .ok r := by
  cases runs with
  | nil => rfl
  | cons t ts => exact mergeLoop_of step _ _ (mergeStyle_first step) t ts

theorem flattenStyle_last (runs : List (List α)) : flattenStyle step "last".toList runs =
    match flattenLast step runs with | none => .error .index | some r => .ok r := by
  cases runs with
  | nil => rfl
  | cons t ts => exact mergeLoop_of step _ _ (mergeStyle_last step) t ts

theorem flattenStyle_all (runs : List (List α)) : flattenStyle step "all".toList runs =
    match flattenAll runs with | none => .error .index | some r => .ok r := by
  cases runs with
  | nil => rfl
  | cons t ts => exact mergeLoop_of step _ _ (mergeStyle_all step) t ts

/-- **flattenStyle_refuses_iff**: the loop raises `ValueError` exactly when the style is unsupported AND there is a second
    record to merge; `IndexError` exactly on an empty selection; nothing else is raised by the loop. -/
theorem flattenStyle_refuses_iff (style : Str) (runs : List (List α)) :
    (flattenStyle step style runs = .error .value ↔ ¬ IsStyle style ∧ 2 ≤ runs.length) ∧
    (flattenStyle step style runs = .error .index ↔ runs = []) ∧
    (∀ e, flattenStyle step style runs = .error e → e = .value ∨ e = .index) := by
  cases runs with
  | nil => simp [flattenStyle]
  | cons t ts =>
    cases ts with
    | nil => simp [flattenStyle, mergeLoop]
    | cons t' ts =>
      by_cases hs : IsStyle style
      · obtain ⟨f, hf⟩ : ∃ f : List α → List α → List α, ∀ m t, mergeStyle step style m t = .ok (f m t) := by
          rcases hs with rfl | rfl | rfl
          · exact ⟨_, mergeStyle_first step⟩
          · exact ⟨_, mergeStyle_last step⟩
          · exact ⟨_, mergeStyle_all step⟩
        simp [flattenStyle, mergeLoop_of step style f hf, hs]
      · simp [flattenStyle, mergeLoop_bad step style hs, hs]

/-- **flattenStyle_single**: one selected record is returned as it is, whatever the style string. -/
theorem flattenStyle_single (style : Str) (t : List α) : flattenStyle step style [t] = .ok t := rfl

example : flattenStyle (fun r : Int × Nat => r.1) "latest".toList [[(0, 0)], [(1, 1)]] = .error .value := by decide_lines
example : flattenStyle (fun r : Int × Nat => r.1) "latest".toList [[(0, 0)]] = .ok [(0, 0)] := by decide_lines
end FlattenStyle

/-- the cells of a merged row laid out under the union of the columns (`nan` where the run did not print the keyword) -/
def projectRow (cols : List Str) (r : Row) : List Str :=
  cols.map (fun c => match r.cells.find? (fun x => x.1 == c) with | some x => x.2 | none => "nan".toList)

/-- with a supported style the loop of the source is the fold `flattenTables` picks for it. -/
theorem flattenStyle_of_isStyle {α : Type} (step : α → Int) {style : Str} (hs : IsStyle style) (runs : List (List α)) :
    flattenStyle step style runs =
      match (if style == "first".toList then flattenFirst step runs
        else if style == "last".toList then flattenLast step runs else flattenAll runs) with
      | none => .error .index
      | some r => .ok r := by
  have e : ("last".toList == "first".toList) = false ∧ ("all".toList == "first".toList) = false ∧
      ("all".toList == "last".toList) = false := by decide_lines
  rcases hs with rfl | rfl | rfl
  · rw [flattenStyle_first, beq_self_eq_true, if_pos rfl]
  · rw [flattenStyle_last, e.1, if_neg Bool.false_ne_true, beq_self_eq_true, if_pos rfl]
  · rw [flattenStyle_all, e.2.1, e.2.2, if_neg Bool.false_ne_true, if_neg Bool.false_ne_true]

/-- `Log.flatten` on the selected tables as the chain of decisions it is: the Step assertion, the empty and the
    one-record selection, the style, the `Step` attribute, the conversion of the rows, then the merge loop of the source
    (`flattenStyle`) with the result laid out under the union of the columns. -/
theorem flattenTables_eq (style : Str) (tabs : List Table) :
    flattenTables style tabs =
      if tabs.any (fun t => !t.rows.isEmpty && !t.cols.contains stepName) then .error .assert else
      match tabs with
      | [] => .error .index
      | [t] => .ok t
      | _ :: _ :: _ =>
        if ¬ IsStyle style then .error .value
        else if !(style == "all".toList) && tabs.any (fun t => !t.cols.contains stepName) then .error .attr
        else match tabs.mapM (tableRows (!(style == "all".toList))) with
          | .error e => .error e
          | .ok rows => (flattenStyle Row.step style rows).map
            fun rs => ⟨unionCols tabs, rs.map (projectRow (unionCols tabs))⟩ := by
  unfold flattenTables
  split
  · rfl
  match tabs with
  | [] => rfl
  | [t] => rfl
  | t :: t' :: ts =>
    by_cases hs : IsStyle style
    · have hb : (!(style == "first".toList || style == "last".toList || style == "all".toList)) = false := by
        rcases hs with rfl | rfl | rfl <;> decide_lines
      simp only [hb, Bool.false_eq_true, if_false, hs, not_true_eq_false, flattenStyle_of_isStyle Row.step hs]
      split
      · rfl
      cases (t :: t' :: ts).mapM (tableRows (!(style == "all".toList))) with
      | error e => rfl
      | ok rows =>
        dsimp only
        split <;> next h => rw [h]; rfl
    · have : (!(style == "first".toList || style == "last".toList || style == "all".toList)) = true := by
        simpa [IsStyle, not_or, and_assoc] using hs
      simp only [this, if_true, hs, not_false_eq_true]

/-- the Step assertion of `flattenTables` -/
def AssertFails (tabs : List Table) : Prop := ∃ t ∈ tabs, t.rows ≠ [] ∧ stepName ∉ t.cols

theorem assertFails_iff (tabs : List Table) :
    tabs.any (fun t => !t.rows.isEmpty && !t.cols.contains stepName) = true ↔ AssertFails tabs := by
  simp [AssertFails]

theorem assert_passes_iff (tabs : List Table) :
    tabs.any (fun t => !t.rows.isEmpty && !t.cols.contains stepName) = false ↔
      ∀ x ∈ tabs, x.rows = [] ∨ stepName ∈ x.cols := by
  simp [imp_iff_not_or]

theorem tableRows_error (b : Bool) (t : Table) (e : Err) (h : tableRows b t = .error e) : e = .type := by
  obtain ⟨r, _, he⟩ := mapM_except_error h
  simp only at he
  -- every error branch of `tableRows` is `.type`
  repeat' split at he
  all_goals first | (cases he; rfl) | cases he

theorem mapM_cons_ok {β γ : Type} (f : β → Except Err γ) (a : β) (l : List β) (h : (a :: l).mapM f = .ok []) : False := by
  rw [List.mapM_cons] at h
  simp only [bind, Except.bind, pure, Except.pure] at h
  repeat' split at h
  all_goals cases h

/-- **flatten_refusals_iff**: which exception `flatten` raises, exactly: AssertionError iff a selected record has rows
    and no `Step` column; otherwise IndexError iff the selection is empty; otherwise ValueError iff two or more records
    are selected and the style is none of `first` / `last` / `all`. -/
theorem flatten_refusals_iff (style : Str) (tabs : List Table) :
    (flattenTables style tabs = .error .assert ↔ AssertFails tabs) ∧
    (flattenTables style tabs = .error .index ↔ ¬ AssertFails tabs ∧ tabs = []) ∧
    (flattenTables style tabs = .error .value ↔ ¬ AssertFails tabs ∧ 2 ≤ tabs.length ∧ ¬ IsStyle style) := by
  rw [flattenTables_eq]
  by_cases ha : AssertFails tabs
  · rw [(assertFails_iff tabs).2 ha]
    simp [ha]
  · have h0 : tabs.any (fun t => !t.rows.isEmpty && !t.cols.contains stepName) = false := by
      rw [← Bool.not_eq_true, assertFails_iff]; exact ha
    rw [h0]
    simp only [ha, Bool.false_eq_true, if_false, not_false_eq_true, true_and, iff_false]
    match tabs with
    | [] => simp
    | [t] => simp
    | t :: t' :: ts =>
      by_cases hs : IsStyle style
      · simp only [hs, not_true_eq_false, if_false, and_false, iff_false, reduceCtorEq, length_cons]
        -- in the merge branch the errors are `.attr`, `.type` (a row that does not convert), and none from the loop
        suffices key : ∀ e, _ = Except.error e → e = Err.attr ∨ e = Err.type by
          refine ⟨?_, ?_, ?_⟩ <;> intro h <;> cases key _ h <;> contradiction
        intro e h
        split at h
        · cases h; exact Or.inl rfl
        split at h
        · next e' he =>
          cases h
          obtain ⟨x, _, hx⟩ := mapM_except_error he
          exact Or.inr (tableRows_error _ x _ hx)
        · next rows hrows =>
          cases hf : flattenStyle Row.step style rows with
          | ok rs => rw [hf] at h; cases h
          | error e' =>
            obtain ⟨h1, h2, h3⟩ := flattenStyle_refuses_iff Row.step style rows
            rcases h3 e' hf with rfl | rfl
            · exact absurd hs (h1.1 hf).1
            · rw [h2.1 hf] at hrows; exact (mapM_cons_ok _ _ _ hrows).elim
      · simp [hs]

example : AssertFails [⟨["Step".toList], [["0".toList]]⟩, ⟨["Time".toList], [["0.5".toList]]⟩] :=
  ⟨⟨["Time".toList], [["0.5".toList]]⟩, by simp, by decide, by decide⟩

/-- **flatten_refuses_missing_step**: a selected table that has rows but no `Step` column: `AssertionError`, whatever
    the style and whatever else is selected (the `←` direction of the first part of `flatten_refusals_iff`; the
    hypothesis is `AssertFails tabs` written out). -/
theorem flatten_refuses_missing_step (style : Str) (tabs : List Table)
    (h : ∃ t ∈ tabs, t.rows ≠ [] ∧ stepName ∉ t.cols) : flattenTables style tabs = .error .assert :=
  (flatten_refusals_iff style tabs).1.2 h

/-- **flatten_refuses_empty**: an empty selection: `IndexError` (the `←` direction of the second part of
    `flatten_refusals_iff`). -/
theorem flatten_refuses_empty (style : Str) : flattenTables style [] = .error .index := by
  rw [flattenTables_eq]
  rfl

/-- **flatten_refuses_style**: two or more selected tables and a style other than `first` / `last` / `all`:
    `ValueError` (the `←` direction of the third part of `flatten_refusals_iff`; `hs` is `¬ IsStyle style` written
    out). -/
theorem flatten_refuses_style (style : Str) (t t' : Table) (ts : List Table)
    (hstep : ∀ x ∈ t :: t' :: ts, x.rows = [] ∨ stepName ∈ x.cols)
    (hs : style ≠ "first".toList ∧ style ≠ "last".toList ∧ style ≠ "all".toList) :
    flattenTables style (t :: t' :: ts) = .error .value := by
  rw [flattenTables_eq, (assert_passes_iff _).2 hstep, if_neg Bool.false_ne_true]
  exact if_pos fun h => h.elim hs.1 fun h => h.elim hs.2.1 hs.2.2

/-- **flatten_single**: a single selected table is returned as it is (its columns, its rows in order), for every
    style — also an unsupported one: the style is only looked at when there is something to merge. -/
theorem flatten_single (style : Str) (t : Table) (h : t.rows = [] ∨ stepName ∈ t.cols) :
    flattenTables style [t] = .ok t := by
  rw [flattenTables_eq, (assert_passes_iff [t]).2 (by simpa using h)]
  rfl

example : flattenTables "latest".toList
    [⟨["Step".toList], [["0".toList]]⟩, ⟨["Step".toList], [["10".toList]]⟩] = .error .value := by decide_lines

example : flattenTables "all".toList
    [⟨["Step".toList], [["0".toList]]⟩, ⟨["Time".toList], [["0.5".toList]]⟩] = .error .assert := by decide_lines

theorem mem_unionCols_aux (acc : List Str) (tabs : List Table) (c : Str) :
    c ∈ tabs.foldl (fun acc t => acc ++ t.cols.filter (fun c => !acc.contains c)) acc ↔
      c ∈ acc ∨ ∃ t ∈ tabs, c ∈ t.cols := by
  induction tabs generalizing acc with
  | nil => simp
  | cons t ts ih =>
    rw [foldl_cons, ih]
    simp only [mem_append, mem_filter, mem_cons, exists_eq_or_imp]
    constructor
    · rintro ((h | ⟨h, _⟩) | h)
      · exact Or.inl h
      · exact Or.inr (Or.inl h)
      · exact Or.inr (Or.inr h)
    · rintro (h | h | h)
      · exact Or.inl (Or.inl h)
      · by_cases hc : c ∈ acc
        · exact Or.inl (Or.inl hc)
        · exact Or.inl (Or.inr ⟨h, by simpa using hc⟩)
      · exact Or.inr h

/-- the columns of a merged table are the keywords of the merged runs (each once: `nodup_unionCols`). -/
theorem mem_unionCols (tabs : List Table) (c : Str) : c ∈ unionCols tabs ↔ ∃ t ∈ tabs, c ∈ t.cols := by
  unfold unionCols
  rw [mem_unionCols_aux]
  simp

theorem nodup_unionCols_aux (acc : List Str) (tabs : List Table) (hacc : acc.Nodup)
    (h : ∀ t ∈ tabs, t.cols.Nodup) :
    (tabs.foldl (fun acc t => acc ++ t.cols.filter (fun c => !acc.contains c)) acc).Nodup := by
  induction tabs generalizing acc with
  | nil => simpa using hacc
  | cons t ts ih =>
    rw [foldl_cons]
    apply ih
    · rw [nodup_append]
      refine ⟨hacc, (h t mem_cons_self).filter _, ?_⟩
      intro a ha b hb hab
      subst hab
      simp only [mem_filter] at hb
      simp [ha] at hb
    · intro t' ht'; exact h t' (mem_cons_of_mem _ ht')

theorem nodup_unionCols (tabs : List Table) (h : ∀ t ∈ tabs, t.cols.Nodup) : (unionCols tabs).Nodup :=
  nodup_unionCols_aux [] tabs nodup_nil h

/-- what a merge of two or more records returns when it returns (behind `flatten_columns`, `flatten_rows_width`). -/
theorem flattenTables_ok (style : Str) (t t' : Table) (ts : List Table) (res : Table)
    (h : flattenTables style (t :: t' :: ts) = .ok res) :
    ∃ rs : List Row, res = ⟨unionCols (t :: t' :: ts), rs.map (projectRow (unionCols (t :: t' :: ts)))⟩ := by
  rw [flattenTables_eq] at h
  dsimp only at h
  -- only the last branch of the chain returns `.ok`
  split_ifs at h
  split at h
  · cases h
  · generalize flattenStyle Row.step style _ = r at h
    cases r <;> cases h
    exact ⟨_, rfl⟩

/-- **flatten_columns**: whenever `flatten` merges two or more records, the columns of the result are the union of their
    keyword lists in order of first appearance, whatever the style. -/
theorem flatten_columns (style : Str) (t t' : Table) (ts : List Table) (res : Table)
    (h : flattenTables style (t :: t' :: ts) = .ok res) : res.cols = unionCols (t :: t' :: ts) := by
  obtain ⟨rs, rfl⟩ := flattenTables_ok style t t' ts res h
  rfl

/-- every row of a merged table has one cell per column (a keyword a run did not print is filled in, with `nan`). -/
theorem flatten_rows_width (style : Str) (t t' : Table) (ts : List Table) (res : Table)
    (h : flattenTables style (t :: t' :: ts) = .ok res) : ∀ r ∈ res.rows, r.length = res.cols.length := by
  obtain ⟨rs, rfl⟩ := flattenTables_ok style t t' ts res h
  intro r hr
  obtain ⟨_, _, rfl⟩ := mem_map.1 hr
  exact length_map _

example : flattenTables "last".toList
    [⟨["Step".toList, "Temp".toList], [["0".toList, "1.5".toList], ["10".toList, "2.5".toList]]⟩,
     ⟨["Step".toList, "Press".toList], [["10".toList, "7".toList]]⟩]
    = .ok ⟨["Step".toList, "Temp".toList, "Press".toList],
        [["0".toList, "1.5".toList, "nan".toList], ["10".toList, "nan".toList, "7".toList]]⟩ := by decide_lines

/-- **flatten_uses_merge_loop**: for two or more selected tables that pass the Step assertion, a supported style, every
    table carrying `Step` (not needed for `all`) and rows that convert (`tableRows`), `flattenTables` is the merge loop
    of the source (`flattenStyle`; its dispatch `mergeStyle` is `Gen.LogSrc.merge` by `gen_merge_eq_model`) on the
    rows, laid out under the union of the columns.  The hypotheses are the conditions under which `flattenTables`
    reaches its merge branch; the refusals are `flatten_refusals_iff`. -/
theorem flatten_uses_merge_loop (style : Str) (t t' : Table) (ts : List Table) (rows : List (List Row))
    (hassert : (t :: t' :: ts).any (fun t => !t.rows.isEmpty && !t.cols.contains stepName) = false)
    (hstyle : IsStyle style)
    (hstep : style = "all".toList ∨ ∀ x ∈ t :: t' :: ts, stepName ∈ x.cols)
    (hrows : (t :: t' :: ts).mapM (tableRows (!(style == "all".toList))) = .ok rows) :
    flattenTables style (t :: t' :: ts) =
      (flattenStyle Row.step style rows).map
        (fun rs => ⟨unionCols (t :: t' :: ts), rs.map (projectRow (unionCols (t :: t' :: ts)))⟩) := by
  have hattr : (!(style == "all".toList) && (t :: t' :: ts).any (fun t => !t.cols.contains stepName)) = false := by
    rcases hstep with h | h
    · simp [h]
    · rw [any_eq_false.2 fun x hx => by simpa using h x hx, Bool.and_false]
  rw [flattenTables_eq, hassert]
  simp only [hstyle, not_true_eq_false, if_false, hattr, Bool.false_eq_true, hrows]

example : flattenTables "first".toList
    [⟨["Step".toList, "Temp".toList], [["0".toList, "1.5".toList], ["10".toList, "2.5".toList]]⟩,
     ⟨["Step".toList, "Press".toList], [["10".toList, "7".toList], ["20".toList, "8".toList]]⟩] =
    (flattenStyle Row.step "first".toList
      [[⟨0, [("Step".toList, "0".toList), ("Temp".toList, "1.5".toList)]⟩,
        ⟨10, [("Step".toList, "10".toList), ("Temp".toList, "2.5".toList)]⟩],
       [⟨10, [("Step".toList, "10".toList), ("Press".toList, "7".toList)]⟩,
        ⟨20, [("Step".toList, "20".toList), ("Press".toList, "8".toList)]⟩]]).map
      (fun rs => ⟨["Step".toList, "Temp".toList, "Press".toList],
        rs.map (projectRow ["Step".toList, "Temp".toList, "Press".toList])⟩) := by decide_lines

end Atomman.C19
