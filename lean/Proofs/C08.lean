/-
  C08 — property theorems: loading what was dumped returns the system.  Model: Atomman/C08.lean (the loaders as coded) on
  Atomman/C07.lean (text layer, writers, independent parsers); loader tables Atomman/Generated/LoadStyles.lean and source
  tie Atomman/Generated/LoadSource.lean, both regenerated from /repo on every run.  A theorem stands in the module that
  proves it; this file holds the loader tables, the property-level statements assembled from the other modules, and
  the non-vacuity instances of the loader theorems (the one of the routes is in C08_Routes).
-/
import Proofs.C08_Data
import Proofs.C08_Order
import Proofs.C08_Reshape
import Proofs.C08_Indep
import Proofs.C08_Table
import Proofs.C08_Routes
import Proofs.C08_Source
import Proofs.C08_Compose
namespace Atomman.C08
open Atomman Atomman.C07
set_option linter.unusedSimpArgs false

/-- per atom_style the `Atoms` and `Velocities` columns the loader expects
    (regenerated from `atomman/load/atom_data/*_prop_info.py`) are the ones the writer emits (regenerated from
    `atomman/dump/atom_data/*_prop_info.py`), with the same unit kinds; the same for the standard dump-file columns;
    every loader table — the `hybrid` composition included — uses the unit style it is asked for, and the dump
    conversions exist for the unit-less style `lj`. -/
theorem loader_tables_match_writer :
    Gen.LoadStyles.atomStyles = Gen.AtomStyles.atomStyles ∧ Gen.LoadStyles.velStyles = Gen.AtomStyles.velStyles ∧
    Gen.LoadStyles.dumpStandard = Gen.AtomStyles.dumpStandard ∧ Gen.LoadStyles.forwardsUnits = true ∧
    Gen.LoadStyles.dumpStandardLjOk = true :=
  ⟨rfl, rfl, rfl, rfl, rfl⟩

/-- for a per-atom property of shape `shape` the writer's column names are
    `name[i][j]…` over the index tuples in `indexstr` order (`C07.indexNames`, used by `dumpCol`), there are
    `∏ shape` of them, and the `k`-th column holds the component whose row-major (C-order) offset is `k` — which is
    where `values.reshape((natoms,) + shape)` of the loader reads component `[i][j]…` from.  So reshaping the cells
    of the columns written for a property gives the property back, component by component. -/
theorem table_reshape_roundtrip (name : String) (shape : List Nat) :
    indexNames name shape = (allIndices shape).map (indexName name) ∧
    (allIndices shape).length = shapeProd shape ∧
    (allIndices shape).map (flatIndex shape) = List.range (shapeProd shape) :=
  ⟨indexNames_eq_map name shape, length_allIndices shape, flatIndex_allIndices shape⟩

example : indexNames "stress" [2, 2] = ["stress[0][0]", "stress[0][1]", "stress[1][0]", "stress[1][1]"] := by decide +kernel
example : (allIndices [2, 3]).map (flatIndex [2, 3]) = [0, 1, 2, 3, 4, 5] := by decide +kernel

/-- on the values themselves, for every shape — the one-column shapes `()`, `(1,)`,
    `(1,1)`, `(1,1,1)` and the row / column shapes `(1,3)`, `(3,1)` are not special: the row-major cells of a value of
    shape `shape` reshape to that value; whatever `reshape shape cells` returns has exactly the shape `shape` and
    flattens back to the cells; and it exists exactly for `∏ shape` cells. -/
theorem reshape_flatten_roundtrip (shape : List Nat) :
    (∀ t : Tensor, t.hasShape shape = true → reshape shape t.flatten = some t) ∧
    (∀ (l : List Rat) (t : Tensor), reshape shape l = some t → t.hasShape shape = true ∧ t.flatten = l) ∧
    (∀ l : List Rat, (reshape shape l).isSome ↔ l.length = shapeProd shape) :=
  ⟨fun t h => reshape_flatten t shape h, reshape_hasShape_flatten shape, reshape_isSome_iff shape⟩

/-- a value has one shape only (no axis empty), so a property that comes back as `()` where
    `(1,)` or `(1,1)` was dumped is a different value even though its single number agrees. -/
theorem shape_told_apart (t : Tensor) (s₁ s₂ : List Nat) (h₁ : t.hasShape s₁ = true) (h₂ : t.hasShape s₂ = true)
    (hne : ∀ d ∈ s₁, d ≠ 0) : s₁ = s₂ :=
  hasShape_unique t s₁ s₂ h₁ h₂ hne

/-- one cell, reshaped to `()`, `(1,)`, `(1,1)`: the same number, three values of three different shapes; and the
    row `(1,3)` and the column `(3,1)` over the same three cells. -/
example :
    ([[], [1], [1, 1], [1, 1, 1]].map fun sh => (reshape sh [5]).map fun t =>
        (t.flatten, [[], [1], [1, 1], [1, 1, 1]].map t.hasShape)) =
      [some ([5], [true, false, false, false]), some ([5], [false, true, false, false]),
       some ([5], [false, false, true, false]), some ([5], [false, false, false, true])] ∧
    ([[3], [1, 3], [3, 1]].map fun sh => (reshape sh [1, 2, 3]).map fun t =>
        (t.flatten, [[3], [1, 3], [3, 1]].map t.hasShape, t.get? [0, 2], t.get? [2, 0])) =
      [some ([1, 2, 3], [true, false, false], none, none), some ([1, 2, 3], [false, true, false], some 3, none),
       some ([1, 2, 3], [false, false, true], none, some 3)] := by
  decide +kernel

/-- a table with a scalar, a `(1,)`, a `(1,1)` and a `(1,3)` property: four different shapes come back. -/
example :
    ((loadTable "1 2.5 7 1 2 3\n2 3.5 8 4 5 6\n".toList ⟨⟨⟨1, 0, 0⟩, ⟨0, 1, 0⟩, ⟨0, 0, 1⟩⟩, ⟨0, 0, 0⟩⟩
        [⟨"atype", ["type"], [], .none⟩, ⟨"w", ["w[0]"], [1], .none⟩, ⟨"k", ["k[0][0]"], [1, 1], .none⟩,
         ⟨"r", ["r[0][0]", "r[0][1]", "r[0][2]"], [1, 3], .none⟩] false).toOption.map
      fun s => s.props.map fun p => (p.name, p.shape, p.isInt)) =
    some [("atype", [], true), ("pos", [3], false), ("w", [1], false), ("k", [1, 1], true), ("r", [1, 3], true)] := by
  rw [String.toList_ofList]
  decide +kernel

/-- rows out of id order, a `(1,)` column with a unit factor 1/2 and a boolean `(1,1)` column. -/
def exTable : Option Loaded :=
  (loadTable "2 3.5 False\n1 2.5 True\n".toList ⟨⟨⟨1, 0, 0⟩, ⟨0, 1, 0⟩, ⟨0, 0, 1⟩⟩, ⟨0, 0, 0⟩⟩
    [⟨"a_id", ["id"], [], .none⟩, ⟨"w", ["w[0]"], [1], .factor (1 / 2)⟩, ⟨"b", ["b[0][0]"], [1, 1], .none⟩] false).toOption

/-- … the values come back in id order, converted, under the shapes `(1,)` and `(1,1)`; the boolean column is boolean. -/
example : (exTable.map fun s => (s.props.drop 2).map fun p => p.vals) = some [[[5 / 4], [7 / 4]], [[1], [0]]] := by
  unfold exTable
  rw [String.toList_ofList]
  decide +kernel
example : (exTable.map fun s => (s.props.drop 2).map fun p => (p.name, p.shape)) = some [("w", [1]), ("b", [1, 1])] := by
  unfold exTable
  rw [String.toList_ofList]
  decide +kernel
example : (exTable.map fun s => (s.props.drop 2).map fun p => (p.isInt, p.isBool)) = some [(false, false), (false, true)] := by
  unfold exTable
  rw [String.toList_ofList]
  decide +kernel

/-- the id is NOT the leading column (`type id w`, as LAMMPS `dump custom type id …` writes) … -/
def exTableIdSecond (text : String) : Option (List (String × List (List Rat))) :=
  (loadTable text.toList ⟨⟨⟨1, 0, 0⟩, ⟨0, 1, 0⟩, ⟨0, 0, 1⟩⟩, ⟨0, 0, 0⟩⟩
    [⟨"atype", ["type"], [], .none⟩, ⟨"a_id", ["id"], [], .none⟩, ⟨"w", ["w"], [], .none⟩] false).toOption.map
      fun s => s.props.map fun p => (p.name, p.vals)

/-- … the rows come back in id order whatever the order of the lines (non-vacuity of `load_perm_invariant_table` for
    `idIndex cols = some 1`). -/
example : exTableIdSecond "2 3 7.5\n1 1 2.5\n2 2 3.5\n" = exTableIdSecond "1 1 2.5\n2 2 3.5\n2 3 7.5\n" ∧
    exTableIdSecond "2 2 3.5\n2 3 7.5\n1 1 2.5\n" = exTableIdSecond "1 1 2.5\n2 2 3.5\n2 3 7.5\n" ∧
    idIndex [⟨"atype", ["type"], [], .none⟩, ⟨"a_id", ["id"], [], .none⟩, ⟨"w", ["w"], [], .none⟩] = some 1 := by
  unfold exTableIdSecond
  rw [String.toList_ofList, String.toList_ofList, String.toList_ofList]
  decide +kernel
example : exTableIdSecond "2 3 7.5\n1 1 2.5\n2 2 3.5\n" =
    some [("atype", [[1], [2], [2]]), ("pos", [[0, 0, 0], [0, 0, 0], [0, 0, 0]]), ("w", [[5 / 2], [7 / 2], [15 / 2]])] := by
  unfold exTableIdSecond
  rw [String.toList_ofList]
  decide +kernel


/-- two atom lines in either order: same system (the hypotheses of `load_perm_invariant` are satisfiable). -/
example :
    (loadData "\n2 atoms\n1 atom types\n0 4 xlo xhi\n0 4 ylo yhi\n0 4 zlo zhi\n\nAtoms\n\n2 1 1.5 0.5 0.5 1 0 0\n1 1 0.5 0.5 0.5 0 0 -1\n".toList
        ⟨true, true, true⟩ none none [("length", some 1)]) =
    (loadData "\n2 atoms\n1 atom types\n0 4 xlo xhi\n0 4 ylo yhi\n0 4 zlo zhi\n\nAtoms\n\n1 1 0.5 0.5 0.5 0 0 -1\n2 1 1.5 0.5 0.5 1 0 0\n".toList
        ⟨true, true, true⟩ none none [("length", some 1)]) := by
  rw [String.toList_ofList, String.toList_ofList]
  decide +kernel

/-- the data-file loader sees a file only through its significant lines — the
    terms left after cutting each line at `#`, and the comment of the `Atoms` line.  Two files with the same
    significant lines load identically (both error or both the same system). -/
theorem load_comment_blank_invariant (l₁ l₂ : List RawLine) (hs : sig l₁ = sig l₂)
    (hl : l₁.length ≤ 1 ↔ l₂.length ≤ 1) (pbc : V3 Bool) (symbols : Option (List (Option String)))
    (styleArg : Option String) (u : Units) :
    loadDataLines l₁ pbc symbols styleArg u = loadDataLines l₂ pbc symbols styleArg u := by
  rw [loadDataLines_eq_sig, loadDataLines_eq_sig, hs]
  congr 1
  exact decide_eq_decide.mpr hl

/-- a line without terms (blank, white space only, or a comment-only line, indented or not) can be inserted or
    removed anywhere. -/
theorem sig_insert_blank (a b : List RawLine) (l : RawLine) (h : termsC l = []) : sig (a ++ l :: b) = sig (a ++ b) := by
  unfold sig
  simp only [List.map_append, List.map_cons, List.filter_append, List.filter_cons]
  have : (sigOf l).terms = [] := h
  simp [this]

theorem lexLine_spaces (ws : List Char) (h : ws.all isSpace = true) : lexLine ws = [] := by
  induction ws with
  | nil => rfl
  | cons c cs ih =>
    simp only [List.all_cons, Bool.and_eq_true] at h
    unfold lexLine
    simp [h.1, ih h.2]

/-- white space followed by a comment has no terms. -/
theorem termsC_comment_only (ws c : List Char) (h : ws.all isSpace = true) : termsC (ws ++ '#' :: c) = [] := by
  have hw : '#' ∉ ws := fun hx => absurd (List.all_eq_true.mp h '#' hx) (by decide)
  rw [termsC, stripComment_hash ws c hw]
  exact lexLine_spaces ws h

/-- a trailing comment on a line that has none changes nothing, except on the `Atoms` line, whose comment is the
    atom_style. -/
theorem sigOf_trailing_comment (l c : List Char) (hl : l.all (· ≠ '#') = true) (hk : classify (termsC l) ≠ .atoms) :
    sigOf (l ++ '#' :: c) = sigOf l := by
  have h1 : '#' ∉ l := fun hx => by simpa using List.all_eq_true.mp hl '#' hx
  have ht : termsC (l ++ '#' :: c) = termsC l := by
    rw [termsC, termsC, stripComment_hash l c h1, stripComment_of_no_hash l h1]
  unfold sigOf
  rw [ht]
  simp [hk]

example : sig [cs!"  # 5 atoms", cs!"3 atoms # c", cs!"", cs!" \t"] = [⟨[cs!"3", cs!"atoms"], none⟩] := by decide +kernel

/-- `load_comment_blank_invariant` for dump files: the dump-file loader sees a file only through its lines that
    have terms; blank and white-space-only lines can be inserted or removed anywhere. -/
theorem load_blank_invariant_dump (l₁ l₂ : List RawLine) (h : rowsOf false l₁ = rowsOf false l₂)
    (symbols : Option (List (Option String))) (given : Option (List PCol)) (u : Units) :
    loadDumpLines l₁ symbols given u = loadDumpLines l₂ symbols given u := by
  rw [loadDumpLines_eq_rows, loadDumpLines_eq_rows, h]

/-- no significant line of the file is an atoms-count line, or none gives the x (y, z) bounds, or none is the
    `Atoms` section header. -/
def MissingRequired (sl : List SigLine) : Prop :=
  (∀ e ∈ sl, ∀ n, classify e.terms ≠ .natoms n) ∨ (∀ e ∈ sl, ∀ p q, classify e.terms ≠ .xb p q) ∨
  (∀ e ∈ sl, ∀ p q, classify e.terms ≠ .yb p q) ∨ (∀ e ∈ sl, ∀ p q, classify e.terms ≠ .zb p q) ∨
  (∀ e ∈ sl, classify e.terms ≠ .atoms)

/-- a data file in which no line gives the number of atoms, or the x, y or z bounds,
    or which has no `Atoms` section line, is never loaded; and whenever the first pass gets through the lines that
    are there (no malformed number, no malformed Masses entry) and the content is more than one line, the result is
    exactly the format error. -/
theorem missing_section_rejected (lines : List RawLine) (pbc : V3 Bool) (symbols : Option (List (Option String)))
    (styleArg : Option String) (u : Units) (h : MissingRequired (sig lines)) :
    (∀ sys, loadDataLines lines pbc symbols styleArg u ≠ .ok sys) ∧
    (∀ lf s, lengthFactor u = .ok lf → fpLoop lf 0 lines {} = .ok s → 2 ≤ lines.length →
      loadDataLines lines pbc symbols styleArg u = .error "format") := by
  have key : ∀ lf a, fpLoopA lf (sig lines) FPA.init = .ok a →
      a.st.natoms = none ∨ a.st.x = none ∨ a.st.y = none ∨ a.st.z = none ∨ a.st.atomsStart = none := by
    intro lf a ha
    obtain ⟨f1, f2, f3, f4, f5⟩ := fpLoopA_frame lf (sig lines) FPA.init a ha
    rcases h with h | h | h | h | h
    · left; rw [f1 h]; rfl
    · right; left; rw [f2 h]; rfl
    · right; right; left; rw [f3 h]; rfl
    · right; right; right; left; rw [f4 h]; rfl
    · right; right; right; right; rw [f5 h]; rfl
  constructor
  · intro sys hsys
    rw [loadDataLines_eq_sig] at hsys
    unfold loadDataSig at hsys
    cases hlf : lengthFactor u with
    | error e => simp [hlf, bind, Except.bind] at hsys
    | ok lf =>
      cases ha : fpLoopA lf (sig lines) FPA.init with
      | error e => simp [hlf, ha, bind, Except.bind] at hsys
      | ok a =>
        have hm := key lf a ha
        cases hshort : decide (lines.length ≤ 1) with
        | true => simp [hlf, ha, hshort, fpFinish_short, bind, Except.bind] at hsys
        | false => simp [hlf, ha, hshort, fpFinish_missing a.st hm, bind, Except.bind] at hsys
  · intro lf s hlf hs hlen
    rw [loadDataLines_eq_sig]
    unfold loadDataSig
    obtain ⟨a, ha, _⟩ := (hs ▸ fpLoop_sim lf lines).of_ok
    have hshort : decide (lines.length ≤ 1) = false := by simp; omega
    simp [hlf, ha, hshort, fpFinish_missing a.st (key lf a ha), bind, Except.bind]

/-- a file without any `… atoms` line: the hypothesis is not vacuous and the verdict is the format error. -/
example : loadData "\n0 1 xlo xhi\n0 1 ylo yhi\n0 1 zlo zhi\n\nAtoms\n\n1 1 0.5 0.5 0.5\n".toList ⟨true, true, true⟩ none none
    [("length", some 1)] = .error "format" := by
  rw [String.toList_ofList]
  decide +kernel


def exSysP : Sys :=
  { box := ⟨⟨⟨4, 0, 0⟩, ⟨0, 8, 0⟩, ⟨0, 0, 2⟩⟩, ⟨0, 0, 0⟩⟩, pbc := ⟨true, true, true⟩, natypes := 2,
    atype := [2, 1], pos := [⟨1, 2, 1⟩, ⟨3, 6, 1/2⟩], props := [] }

def exP : Option Loaded :=
  ((writePoscar exSysP ["x"] (some ["Al", "Cu"]) "cartesian" 2 (.fixed 3)).toOption).bind fun t => (loadPoscar t none).toOption

/-- the hypotheses of `load_dump_roundtrip_poscar` are satisfiable and the conclusion is what the loader computes:
    a two-atom system written in Cartesian mode with scale 2 comes back with its cell, symbols and positions (grouped
    by type). -/
example : exP.map (·.symbols) = some [some "Al", some "Cu"] := by decide +kernel
example : exP.map (fun l => (l.prop? "pos").map (·.vals)) = some (some [[3, 6, 1/2], [1, 2, 1]]) := by decide +kernel
example : exP.map (·.box.vects) = some ⟨⟨4, 0, 0⟩, ⟨0, 8, 0⟩, ⟨0, 0, 2⟩⟩ := by decide +kernel

set_option linter.unusedVariables false in
/-- loading any dump file the writer emits ends the header loop in
    `dumpState` — `NUMBER OF ATOMS`, the `pp` flags as periodic flags, the bounds with the tilt extents removed
    (`dump_bounds_eq_independent`: the inversion of the LAMMPS manual), every number at its printed value times the
    length unit — and reads exactly the written rows.  (`tableLoad_rowsDoc_sorted` then gives the numeric table:
    printed values, sorted by atom id.) -/
theorem load_dump_roundtrip_dump_partial {f : Fmt} (hf : Readable f) (s : Sys) (props : List (String × List Nat))
    (u : Units) (ts : Int) (text : List Char) (hw : writeDump s props u f ts = .ok text)
    (hnames : ∀ t ∈ dumpNames props, CleanTok t)
    (symbols : Option (List (Option String))) (given : Option (List PCol)) :
    ∃ lf rows, lengthFactor u = .ok lf ∧ tableRows s u (dumpIds s) s.pos (dumpCols props) [] = .ok rows ∧
      hasDup (dumpIds s) = false ∧
      ((∀ r ∈ rows, r ≠ []) →
        loadDump text symbols given u = loadDumpCore (dumpState f lf s props) (some (rowsDoc f rows)) symbols given u) :=
  let ⟨lf, rows, h1, h2, h3, h4⟩ := loadDump_writeDump s props u ts text hw hnames
  ⟨lf, rows, h1, h2, h3, fun hr => h4 hr symbols given⟩

/-- a dump file with its atom lines out of id order, a `(1,)` column with a unit factor, an unwrapped-position column
    group and a non-periodic direction, loaded with a column table. -/
def exDump : Option Loaded :=
  (loadDump "ITEM: TIMESTEP\n0\nITEM: NUMBER OF ATOMS\n2\nITEM: BOX BOUNDS pp pp fm\n0.0 4.0\n0.0 8.0\n0.0 2.0\nITEM: ATOMS id type x y z w[0]\n2 2 1.25 0.5 0.125 7.5\n1 1 0.5 1.25 1.0 2.5\n".toList
    none (some [⟨"a_id", ["id"], [], .none⟩, ⟨"atype", ["type"], [], .none⟩, ⟨"upos", ["x", "y", "z"], [3], .factor 1⟩,
      ⟨"w", ["w[0]"], [1], .factor (1 / 2)⟩]) [("length", some 1)]).toOption

/-- … atom count, flags, and the values in id order under the entry's shape (the conclusion of
    `load_dump_roundtrip_dump_values` on a concrete file). -/
example : exDump.map (fun l => (l.natoms, l.pbc)) = some (2, ⟨true, true, false⟩) := by
  unfold exDump
  rw [String.toList_ofList]
  decide +kernel
example : exDump.map (fun l => (l.prop? "w").map (fun p => (p.shape, p.vals))) = some (some ([1], [[5 / 4], [15 / 4]])) := by
  unfold exDump
  rw [String.toList_ofList]
  decide +kernel
example : exDump.map (fun l => (l.prop? "pos").map (·.vals)) = some (some [[1 / 2, 5 / 4, 1], [5 / 4, 1 / 2, 1 / 8]]) := by
  unfold exDump
  rw [String.toList_ofList]
  decide +kernel

/-- the column groups of a row for the entries `type | w[0] | r[0][0] r[0][1] r[0][2]`. -/
example : (List.range 3).map (fun j => groupG [⟨"atype", ["type"], [], .none⟩, ⟨"w", ["w[0]"], [1], .none⟩,
    ⟨"r", ["r[0][0]", "r[0][1]", "r[0][2]"], [1, 3], .none⟩] j [(1 : Rat), 7, 4, 5, 6]) = [[1], [7], [4, 5, 6]] := by
  decide +kernel

/-- `readable_all` at the `%.nf` formats (the default `'%.13f'` and every fixed-point `float_format`). -/
theorem fixed_formats_readable (n : Nat) : Readable (.fixed n) := readable_all (.fixed n)

/-- `readable_all`: the hypothesis `Readable f` of the round-trip theorems holds for every float format of the model. -/
theorem all_formats_readable (f : Fmt) : Readable f := readable_all f

/-- a data file as the writer lays it out, atom lines not in id order, one atom wrapped through the x and y faces. -/
def exText : List Char :=
  "\n2 atoms\n2 atom types\n0.0 4.0 xlo xhi\n0.0 8.0 ylo yhi\n0.0 2.0 zlo zhi\n\nAtoms # atomic\n\n2 2 1.25 0.5 0.125 1 -1 0\n1 1 0.5 1.25 1.0 0 0 0\n".toList

def exLoaded : Option Loaded := (loadData exText ⟨true, true, true⟩ none none [("length", some 1)]).toOption

/-- it loads, in id order, the wrapped atom back at its unwrapped position through the image flags. -/
example : exLoaded.map (·.natoms) = some 2 := by
  unfold exLoaded exText
  rw [String.toList_ofList]
  decide +kernel
example : exLoaded.map (fun l => (l.prop? "pos").map (·.vals)) = some (some [[1/2, 5/4, 1], [21/4, -15/2, 1/8]]) := by
  unfold exLoaded exText
  rw [String.toList_ofList]
  decide +kernel
example : exLoaded.map (fun l => (l.prop? "atype").map (·.vals)) = some (some [[1], [2]]) := by
  unfold exLoaded exText
  rw [String.toList_ofList]
  decide +kernel

/-- the POSCAR round trip through every route: the text the writer emits,
    dumped to a file named in any of the ways a file can be named (whatever the file held before) and loaded from that
    file named in any of the ways a source can be named, is the closed-form system of `load_dump_roundtrip_poscar`. -/
theorem load_dump_roundtrip_poscar_any_route {f : Fmt} (hf : Readable f) (s : Sys) (header : List String)
    (symbols : Option (List String)) (coordstyle : String) (scale : ℚ) (text : List Char)
    (hw : writePoscar s header symbols coordstyle scale f = .ok text)
    (hh : ∀ w ∈ header, ∀ c ∈ strTok w, c ≠ '\n')
    (hsy : ∀ l, symbols = some l → (∀ w ∈ l, CleanTok (strTok w)) ∧ (l.map strTok).mapM parseInt? = none)
    (hcs : CleanTok (strTok coordstyle))
    (hlen : (poscarNums s (isCartStyle coordstyle) scale).coords.length =
      (poscarNums s (isCartStyle coordstyle) scale).counts.foldr (· + ·) 0)
    (hne : (poscarNums s (isCartStyle coordstyle) scale).coords ≠ [])
    (symArg : Option (List (Option String)))
    (w : World) (k : Sink) (p : String) (hk : k.writesFile p) (src : Source) (hs : src.namesFile p) :
    ∃ w', dumpTo w k text = .ok (w', none) ∧
      loadVia (fun t => loadPoscar t symArg) w' src =
        .ok (poscarLoaded f scale (poscarNums s (isCartStyle coordstyle) scale).lattice
          (poscarNums s (isCartStyle coordstyle) scale).counts (poscarNums s (isCartStyle coordstyle) scale).coords
          (isCartStyle coordstyle)
          (symArg.getD (writtenSymbols symbols (poscarNums s (isCartStyle coordstyle) scale).counts))) := by
  obtain ⟨w', h1, h2⟩ := load_dump_roundtrip_any_route (fun t => loadPoscar t symArg) w k p text hk src hs
  exact ⟨w', h1, h2.trans (load_dump_roundtrip_poscar hf s header symbols coordstyle scale text hw hh hsy hcs hlen hne symArg)⟩

/-! ## non-vacuity: theorems applied with every hypothesis discharged on concrete, non-trivial values
    (the `decide +kernel` examples above evaluate the model; these show the hypotheses of the theorems can be met).
    Names: `ex…` are the values evaluated above, `au…` the inputs of the applications in this section, `j…` the
    systems, texts and facts of the joint instantiations of the round-trip theorems further down. -/

section NonVacuity

def auBox : Box Rat := ⟨⟨⟨1, 0, 0⟩, ⟨0, 1, 0⟩, ⟨0, 0, 1⟩⟩, ⟨0, 0, 0⟩⟩
/-- `type id w` (id not leading), a `(1,)` column with a unit factor -/
def auCols : List PCol := [⟨"atype", ["type"], [], .none⟩, ⟨"a_id", ["id"], [], .none⟩, ⟨"w", ["w[0]"], [1], .factor (1 / 2)⟩]
def auRows : List Line := [[cs!"2", cs!"3", cs!"7.5"], [cs!"1", cs!"1", cs!"2.5"], [cs!"2", cs!"2", cs!"3.5"]]
def auRows' : List Line := [[cs!"1", cs!"1", cs!"2.5"], [cs!"2", cs!"2", cs!"3.5"], [cs!"2", cs!"3", cs!"7.5"]]

theorem auTable : readTable auRows (colsWidth auCols) false =
    .ok [[.int 2, .int 3, .num (15/2)], [.int 1, .int 1, .num (5/2)], [.int 2, .int 2, .num (7/2)]] := by decide +kernel

-- `load_perm_invariant_table`: id column second, three lines out of order vs in order; `hd` discharged.
example : tableLoad (Loaded.init auBox ⟨true, true, true⟩ 3 [] []) auRows auCols false =
    tableLoad (Loaded.init auBox ⟨true, true, true⟩ 3 [] []) auRows' auCols false :=
  load_perm_invariant_table _ auCols false 1 (by decide) (by decide +kernel)
    (fun t ht => by rw [auTable] at ht; cases ht; decide +kernel)

-- `tableLoad_prop_shape`, `tableLoad_prop_values`, `tableLoad_frame`, `tableLoad_other`: the load succeeds, names are distinct.
theorem auLoad : ∃ s', tableLoad (Loaded.init auBox ⟨true, true, true⟩ 3 [] []) auRows auCols false = .ok s' := by
  cases h : tableLoad (Loaded.init auBox ⟨true, true, true⟩ 3 [] []) auRows auCols false with
  | ok s' => exact ⟨s', rfl⟩
  | error e =>
    have : (tableLoad (Loaded.init auBox ⟨true, true, true⟩ 3 [] []) auRows auCols false).toOption.isSome = true := by
      decide +kernel
    rw [h] at this; cases this
example : ∃ s' q, tableLoad (Loaded.init auBox ⟨true, true, true⟩ 3 [] []) auRows auCols false = .ok s' ∧
    s'.prop? "w" = some q ∧ q.shape = [1] ∧ s'.natoms = 3 ∧ s'.prop? "pos" = (Loaded.init auBox ⟨true, true, true⟩ 3 [] []).prop? "pos" := by
  obtain ⟨s', h⟩ := auLoad
  obtain ⟨q, hq, hs, _⟩ := tableLoad_prop_shape _ s' auRows auCols false (by decide) h ⟨"w", ["w[0]"], [1], .factor (1 / 2)⟩
    (by unfold auCols; simp) (by decide)
  obtain ⟨tbl, _, _⟩ := tableLoad_prop_values _ s' auRows auCols false (by decide) h
  exact ⟨s', q, h, hq, hs, (tableLoad_frame _ s' auRows auCols false h).1,
    tableLoad_other _ s' auRows auCols false h "pos" (by decide)⟩

-- `shape_told_apart`, `sortBy_eq_of_perm`, `unit_roundtrip_error`
example : ([1, 3] : List Nat) = [1, 3] ∧ ∀ t, reshape [1, 3] [1, 2, 3] = some t → t.hasShape [3, 1] = true → False := by
  refine ⟨rfl, fun t ht h2 => ?_⟩
  have h1 := ((reshape_flatten_roundtrip [1, 3]).2.1 [1, 2, 3] t ht).1
  have := shape_told_apart t [1, 3] [3, 1] h1 h2 (by decide)
  cases this
example : sortBy (fun x : Rat × Nat => x.1) [(3, 0), (1, 1), (2, 2)] = sortBy (fun x : Rat × Nat => x.1) [(1, 1), (2, 2), (3, 0)] :=
  sortBy_eq_of_perm _ (by decide) (by decide +kernel)
example := unit_roundtrip_error (7 / 3) (1 / 10) 4 (by norm_num)

-- comments and blank lines: `termsC_comment_only`, `sig_insert_blank`, `sigOf_trailing_comment`,
-- `load_comment_blank_invariant`, `load_blank_invariant_dump`
example : termsC (cs!" \t" ++ '#' :: cs!" 5 atoms") = [] := termsC_comment_only _ _ (by decide)
example : sig ([cs!"3 atoms"] ++ cs!"  # 5 atoms" :: [cs!"Atoms # atomic"]) = sig ([cs!"3 atoms"] ++ [cs!"Atoms # atomic"]) :=
  sig_insert_blank _ _ _ (by decide +kernel)
example : sigOf (cs!"0 4 xlo xhi " ++ '#' :: cs!" 5 atoms") = sigOf (cs!"0 4 xlo xhi ") :=
  sigOf_trailing_comment _ _ (by decide) (by decide +kernel)
example (pbc : V3 Bool) (u : Units) :
    loadDataLines [cs!"title", cs!"", cs!"2 atoms # two", cs!"# c", cs!"0 4 xlo xhi"] pbc none none u =
      loadDataLines [cs!"title # other", cs!"2 atoms", cs!"0 4 xlo xhi", cs!"   "] pbc none none u :=
  load_comment_blank_invariant _ _ (by decide +kernel) (by decide) pbc none none u
example (u : Units) :
    loadDumpLines [cs!"ITEM: TIMESTEP", cs!"", cs!"0", cs!"  "] none none u =
      loadDumpLines [cs!"ITEM: TIMESTEP", cs!"0"] none none u :=
  load_blank_invariant_dump _ _ (by decide +kernel) none none u

-- `missing_section_rejected`: counts and bounds present, no `Atoms` line (last disjunct of `MissingRequired`).
example : ∀ sys, loadDataLines [cs!"", cs!"1 atoms", cs!"0 1 xlo xhi", cs!"0 1 ylo yhi", cs!"0 1 zlo zhi", cs!"", cs!"Masses", cs!"",
    cs!"1 26.98"] ⟨true, true, true⟩ none none [("length", some 1)] ≠ .ok sys :=
  (missing_section_rejected _ _ none none _ (Or.inr (Or.inr (Or.inr (Or.inr (by decide +kernel)))))).1

-- text layer: `lexLine_joinSp`, `splitLines_renderLines`, `readTable_rowsDoc`
example : lexLine (joinSp [cs!"ITEM:", cs!"ATOMS", cs!"id", cs!"c_pe[1]"]) = [cs!"ITEM:", cs!"ATOMS", cs!"id", cs!"c_pe[1]"] :=
  lexLine_joinSp _ (by
    intro t ht
    simp only [List.mem_cons, List.not_mem_nil, or_false] at ht
    rcases ht with rfl | rfl | rfl | rfl <;> (unfold CleanTok; decide))
example : splitLines (renderLines [[cs!"2", cs!"atoms"], [], [cs!"Atoms", cs!"#", cs!"atomic"]]) =
    [[cs!"2", cs!"atoms"], [], [cs!"Atoms", cs!"#", cs!"atomic"]].map joinSp :=
  splitLines_renderLines _ (by decide +kernel)
example : ∃ tbl, readTable (rowsDoc (.fixed 3) [[.int 2, .num (7 / 2), .num 1], [.int 1, .num (5 / 2), .num 0]]) 2 true = .ok tbl ∧
    tbl.map (·.map Val.toRat) = [[.int 2, .num (7 / 2), .num 1], [.int 1, .num (5 / 2), .num 0]].map
      fun r => (r.take 2).map (cellRat (.fixed 3)) :=
  readTable_rowsDoc (fixed_formats_readable 3) _ 3 2 true (by decide) (by decide) (by decide)

-- routes: a dump through a `pathlib.Path` over a file that held an earlier, longer dump, loaded back by name
example : ∃ w', dumpTo ⟨[("a.dat", cs!"old old old")], []⟩ (.pathObj "a.dat") (cs!"new") = .ok (w', none) ∧
    loadVia (fun t => (.ok t : Res (List Char))) w' (.str "a.dat".toList) = .ok (cs!"new") :=
  load_dump_roundtrip_any_route _ _ (.pathObj "a.dat") "a.dat" _ (Or.inr (Or.inl rfl)) _ (Or.inl rfl)
example := dump_target_holds_content ⟨[("a.dat", cs!"old old old")], []⟩ (.textFile "a.dat") "a.dat" (cs!"new")
  (Or.inr (Or.inr (Or.inr rfl)))
example := dump_twice_last_wins ⟨[], []⟩ (.path "a.dat") "a.dat" (cs!"first, long") (cs!"2nd") (Or.inl rfl)
example := sourceTextRead_eq ⟨[("a.dat", cs!"x")], []⟩ (.pathObj "a.dat") (by intro p h; cases h)
example : sourceTextRead ⟨[("a.dat", cs!"1 atoms")], []⟩ (.textFile "a.dat") = .ok (cs!"1 atoms") :=
  sourceTextRead_textFile _ _ _ (by decide +kernel) (by decide +kernel)

def auAtomic : List PCol := [⟨"a_id", ["id"], [], .none⟩, ⟨"atype", ["type"], [], .none⟩, ⟨"pos", ["x", "y", "z"], [3], .factor 1⟩]
def auU : Units := [("length", some 1)]
theorem auLookup : lookupCols Gen.LoadStyles.atomStyles "atomic" auU = .ok auAtomic := by decide +kernel
def auAtomRows : List Line :=
  [[cs!"2", cs!"1", cs!"1.5", cs!"0.5", cs!"0.5", cs!"1", cs!"0", cs!"0"], [cs!"1", cs!"1", cs!"0.5", cs!"0.5", cs!"0.5", cs!"0", cs!"0", cs!"-1"]]

-- `load_perm_invariant`: two `Atoms` lines of style `atomic` with image flags, either order; `hd`, `hdf` discharged.
example (s : Loaded) : readAtoms auAtomRows 8 s "atomic" auU = readAtoms auAtomRows.reverse 8 s "atomic" auU :=
  load_perm_invariant 8 s "atomic" auU (by decide)
    (fun cols t h ht => by
      rw [auLookup] at h; cases h
      have : readTable auAtomRows (colsWidth auAtomic) true =
          .ok [[.int 2, .int 1, .num (3/2), .num (1/2), .num (1/2)], [.int 1, .int 1, .num (1/2), .num (1/2), .num (1/2)]] := by
        decide +kernel
      rw [this] at ht; cases ht; decide +kernel)
    (fun cols fl h hf => by
      rw [auLookup] at h; cases h
      have : auAtomRows.mapM (readFlagRow (colsWidth auAtomic)) = .ok [(2, ⟨1, 0, 0⟩), (1, ⟨0, 0, -1⟩)] := by decide +kernel
      rw [this] at hf; cases hf; decide +kernel)


/-! ### joint instantiations of the round-trip theorems: every premise discharged on ONE concrete system
    (tilted cell, origin off zero, a non-periodic direction, two or three atoms, a `(2,)` property `w` whose value 1/3 is
    not printable exactly, unit factors 2 / 3 / 5; dump file with ids 2, 1) -/

instance jDecOk (t : Tok) : Decidable (okTok t) := by unfold okTok okChars; infer_instance
theorem ok_of_toOption {α : Type} {r : Res α} {a : α} (h : r.toOption = some a) : r = .ok a := by
  cases r with
  | ok b => simp [Except.toOption] at h; rw [h]
  | error e => simp [Except.toOption] at h
theorem ok_of_isSome {α : Type} {r : Res α} (h : r.toOption.isSome = true) : ∃ a, r = .ok a := by
  cases r with
  | ok b => exact ⟨b, rfl⟩
  | error e => simp [Except.toOption] at h

def jSys : Sys :=
  { box := ⟨⟨⟨4, 0, 0⟩, ⟨1, 3, 0⟩, ⟨0, 0, 5⟩⟩, ⟨-1, 0, 0⟩⟩, pbc := ⟨true, true, false⟩, natypes := 2,
    atype := [1, 2], pos := [⟨0, 0, 0⟩, ⟨9/2, 1, 6⟩], props := [⟨"w", false, 2, [[7/2, -1/4], [5/2, 1/3]]⟩] }
def jU : Units := [("length", some 2)]
def jCols : List ColSpec := [⟨"a_id", ["id"], .none⟩, ⟨"atype", ["type"], .none⟩, ⟨"pos", ["x", "y", "z"], .kind "length"⟩, ⟨"w", ["w[0]", "w[1]"], .none⟩]
def jP : List PCol := [⟨"a_id", ["id"], [], .none⟩, ⟨"atype", ["type"], [], .none⟩, ⟨"pos", ["x", "y", "z"], [3], .factor 2⟩,
  ⟨"w", ["w[0]", "w[1]"], [2], .none⟩]
def jTableText : List Char := "id type x y z w[0] w[1]\n1 1 0.000 0.000 0.000 3.500 -0.250\n2 2 2.250 0.500 3.000 2.500 0.333\n".toList
def jRows : List (List Cell) := [[.int 1, .int 1, .num 0, .num 0, .num 0, .num (7/2), .num (-1/4)], [.int 2, .int 2, .num (9/4), .num (1/2), .num 3, .num (5/2), .num (1/3)]]

theorem jWriteTable : writeTable jSys jCols jU (.fixed 3) true = .ok jTableText := by
  unfold jTableText
  rw [String.toList_ofList]
  exact ok_of_toOption (by decide +kernel)
theorem jTableRows : tableRows jSys jU (seqIds jSys.natoms) jSys.pos jCols [] = .ok jRows := ok_of_toOption (by decide +kernel)
theorem jLoadTable : ∃ s', loadTable jTableText auBox jP true = .ok s' := by
  unfold jTableText
  rw [String.toList_ofList]
  exact ok_of_isSome (by decide +kernel)

example : ∃ s' qw qp, loadTable jTableText auBox jP true = .ok s' ∧ s'.natoms = 2 ∧
    s'.prop? "w" = some qw ∧ qw.shape = [2] ∧ qw.vals = [[7/2, -1/4], [5/2, 333/1000]] ∧
    s'.prop? "pos" = some qp ∧ qp.shape = [3] ∧ qp.vals = [[0, 0, 0], [9/2, 1, 6]] := by
  obtain ⟨s', hl⟩ := jLoadTable
  obtain ⟨rows, hr, H⟩ := load_dump_roundtrip_table_values (all_formats_readable (.fixed 3)) jSys jCols jU true jTableText
    jWriteTable (by decide +kernel) (by decide +kernel)
  rw [jTableRows] at hr; cases hr
  obtain ⟨hn, hv⟩ := H auBox jP s' (by decide) (by decide +kernel) (by decide)
    (fun i hi => by
      have : i = 0 := by
        have h0 : idIndex jP = some 0 := by decide +kernel
        rw [h0] at hi; cases hi; rfl
      subst this; decide +kernel)
    (by decide) hl
  obtain ⟨qw, hqw, hsw, hvw, _⟩ := hv 3 (by decide) (by decide)
  obtain ⟨qp, hqp, hsp, _, hvp⟩ := hv 2 (by decide) (by decide)
  refine ⟨s', qw, qp, hl, hn, hqw, hsw, ?_, hqp, hsp, ?_⟩
  · rw [hvw rfl]; decide +kernel
  · rw [hvp 2 rfl]; decide +kernel

def jSysD : Sys :=
  { box := ⟨⟨⟨4, 0, 0⟩, ⟨1, 3, 0⟩, ⟨0, 0, 5⟩⟩, ⟨-1, 0, 0⟩⟩, pbc := ⟨true, true, false⟩, natypes := 2,
    atype := [1, 2], pos := [⟨0, 0, 0⟩, ⟨9/2, 1, 6⟩],
    props := [⟨"atom_id", true, 1, [[2], [1]]⟩, ⟨"w", false, 2, [[7/2, -1/4], [5/2, 1/3]]⟩] }
def jProps : List (String × List Nat) := [("atom_id", []), ("atype", []), ("pos", [3]), ("w", [2])]
def jPU : List PCol := [⟨"a_id", ["id"], [], .none⟩, ⟨"atype", ["type"], [], .none⟩, ⟨"upos", ["x", "y", "z"], [3], .factor 2⟩,
  ⟨"w", ["w[0]", "w[1]"], [2], .none⟩]
def jDumpText : List Char := "ITEM: TIMESTEP\n7\nITEM: NUMBER OF ATOMS\n2\nITEM: BOX BOUNDS xy xz yz pp pp fm\n-0.500 2.000 0.500\n0.000 1.500 0.000\n0.000 2.500 0.000\nITEM: ATOMS id type x y z w[0] w[1]\n2 1 0.000 0.000 0.000 3.500 -0.250\n1 2 2.250 0.500 3.000 2.500 0.333\n".toList
def jRowsD : List (List Cell) := [[.int 2, .int 1, .num 0, .num 0, .num 0, .num (7/2), .num (-1/4)], [.int 1, .int 2, .num (9/4), .num (1/2), .num 3, .num (5/2), .num (1/3)]]
theorem jWriteDump : writeDump jSysD jProps jU (.fixed 3) 7 = .ok jDumpText := by
  unfold jDumpText
  rw [String.toList_ofList]
  exact ok_of_toOption (by decide +kernel)
theorem jDumpRows : tableRows jSysD jU (dumpIds jSysD) jSysD.pos (dumpCols jProps) [] = .ok jRowsD := ok_of_toOption (by decide +kernel)
theorem jLoadDump : ∃ s', loadDump jDumpText none (some jPU) jU = .ok s' := by
  unfold jDumpText
  rw [String.toList_ofList]
  exact ok_of_isSome (by decide +kernel)

example : ∃ s' qw qp, loadDump jDumpText none (some jPU) jU = .ok s' ∧ s'.natoms = 2 ∧ s'.pbc = ⟨true, true, false⟩ ∧
    s'.box = ⟨⟨⟨4, 0, 0⟩, ⟨1, 3, 0⟩, ⟨0, 0, 5⟩⟩, ⟨-1, 0, 0⟩⟩ ∧
    s'.prop? "w" = some qw ∧ qw.shape = [2] ∧ qw.vals = [[5/2, 333/1000], [7/2, -1/4]] ∧
    s'.prop? "pos" = some qp ∧ qp.shape = [3] ∧ qp.vals = [[9/2, 1, 6], [0, 0, 0]] := by
  obtain ⟨s', hl⟩ := jLoadDump
  obtain ⟨lf, rows, hlf, hr, hlen, H⟩ := load_dump_roundtrip_dump_values (all_formats_readable (.fixed 3)) jSysD jProps jU 7
    jDumpText jWriteDump (by decide +kernel)
  rw [jDumpRows] at hr; cases hr
  have : lf = some 2 := by
    have h2 : lengthFactor jU = .ok (some 2) := by decide +kernel
    rw [h2] at hlf; cases hlf; rfl
  subst this
  obtain ⟨hn, hp, _, ⟨xlo, xhi, ylo, yhi, zlo, zhi, h1, h2, h3, h4, h5, h6, hb⟩, hv⟩ :=
    H none jPU s' 0 (by decide) (by decide +kernel) (by decide) (by decide +kernel) (by decide +kernel) (by decide) hl
  obtain ⟨qw, hqw, hsw, hvw, _⟩ := hv 3 (by decide) (by decide)
  obtain ⟨qp, hqp, hsp, _, hvp⟩ := hv 2 (by decide) (by decide)
  have e1 : (dumpState (.fixed 3) (some 2) jSysD jProps).xlo = some (-1) := by decide +kernel
  have e2 : (dumpState (.fixed 3) (some 2) jSysD jProps).xhi = some 3 := by decide +kernel
  have e3 : (dumpState (.fixed 3) (some 2) jSysD jProps).ylo = some 0 := by decide +kernel
  have e4 : (dumpState (.fixed 3) (some 2) jSysD jProps).yhi = some 3 := by decide +kernel
  have e5 : (dumpState (.fixed 3) (some 2) jSysD jProps).zlo = some 0 := by decide +kernel
  have e6 : (dumpState (.fixed 3) (some 2) jSysD jProps).zhi = some 5 := by decide +kernel
  rw [e1] at h1; rw [e2] at h2; rw [e3] at h3; rw [e4] at h4; rw [e5] at h5; rw [e6] at h6
  cases h1; cases h2; cases h3; cases h4; cases h5; cases h6
  have hbox : Box.ofHiLos? (-1 : ℚ) 3 0 3 0 5 (dumpState (.fixed 3) (some 2) jSysD jProps).xy (dumpState (.fixed 3) (some 2) jSysD jProps).xz
      (dumpState (.fixed 3) (some 2) jSysD jProps).yz = some ⟨⟨⟨4, 0, 0⟩, ⟨1, 3, 0⟩, ⟨0, 0, 5⟩⟩, ⟨-1, 0, 0⟩⟩ := by decide +kernel
  rw [hbox] at hb
  refine ⟨s', qw, qp, hl, hn, hp, (Option.some.inj hb).symm, hqw, hsw, ?_, hqp, hsp, ?_⟩
  · rw [hvw rfl]; decide +kernel
  · rw [hvp 2 rfl]; decide +kernel

def jUQ : Units := [("length", some 2), ("charge", some 3), ("velocity", some 5)]
def jSysQ : Sys :=
  { box := ⟨⟨⟨4, 0, 0⟩, ⟨1, 3, 0⟩, ⟨0, 0, 5⟩⟩, ⟨-1, 0, 0⟩⟩, pbc := ⟨true, true, false⟩, natypes := 2,
    atype := [1, 2], pos := [⟨0, 0, 0⟩, ⟨9/2, 1, 6⟩],
    props := [⟨"charge", false, 1, [[7/2], [-1/3]]⟩, ⟨"velocity", false, 3, [[1, 2, 3], [-4, 5/2, 0]]⟩] }
def jDataText : List Char := "\n2 atoms\n2 atom types\n-0.500 1.500 xlo xhi\n0.000 1.500 ylo yhi\n-0.002 3.002 zlo zhi\n0.500 0.000 0.000 xy xz yz\n\nAtoms # charge\n\n1 1 1.167 0.000 0.000 0.000 0 0 0\n2 2 -0.111 0.250 0.500 3.000 1 0 0\n\nVelocities\n\n1 0.200 0.400 0.600\n2 -0.800 0.500 0.000\n".toList
def jCharge : List PCol := [⟨"a_id", ["id"], [], .none⟩, ⟨"atype", ["type"], [], .none⟩, ⟨"charge", ["q"], [], .factor 3⟩, ⟨"pos", ["x", "y", "z"], [3], .factor 2⟩]
def jChargeVel : List PCol := [⟨"a_id", ["id"], [], .none⟩, ⟨"velocity", ["vx", "vy", "vz"], [3], .factor 5⟩]
def jDataRows : List (List Cell) := [[.int 1, .int 1, .num (7/6), .num 0, .num 0, .num 0, .int 0, .int 0, .int 0],
  [.int 2, .int 2, .num (-1/9), .num (1/4), .num (1/2), .num 3, .int 1, .int 0, .int 0]]
def jVelRows : List (List Cell) := [[.int 1, .num (1/5), .num (2/5), .num (3/5)], [.int 2, .num (-4/5), .num (1/2), .num 0]]
theorem jSW : styleWords "charge" = ["charge"] := by
  simp [styleWords, String.splitOn]
  repeat (rw [String.splitOnAux]; simp (config := {decide := true}))
theorem jWriteData : writeData jSysQ "charge" jUQ (.fixed 3) = .ok jDataText := by
  refine ok_of_toOption ?_
  unfold writeData writeDataDoc dataParts atomCols velCols styleCols dataDocOf
  simp only [jSW]
  unfold jDataText
  rw [String.toList_ofList]
  decide +kernel
theorem jDataParts : ∃ p w, dataParts jSysQ "charge" jUQ = .ok (p, w) ∧ p.rows = jDataRows ∧ p.vel = some jVelRows := by
  have h : (dataParts jSysQ "charge" jUQ).toOption.map (fun a => (a.1.rows, a.1.vel)) = some (jDataRows, some jVelRows) := by
    unfold dataParts atomCols velCols styleCols; simp only [jSW]; decide +kernel
  cases ha : dataParts jSysQ "charge" jUQ with
  | error e => rw [ha] at h; cases h
  | ok a =>
    rw [ha] at h
    have h' := Prod.mk.inj (Option.some.inj h)
    exact ⟨a.1, a.2, rfl, h'.1, h'.2⟩
theorem jLookupQ : lookupCols Gen.LoadStyles.atomStyles "charge" jUQ = .ok jCharge := by decide +kernel
theorem jLookupQV : lookupCols Gen.LoadStyles.velStyles "charge" jUQ = .ok jChargeVel := by decide +kernel
theorem jLoadData : ∃ s', loadData jDataText ⟨true, true, false⟩ none none jUQ = .ok s' := by
  unfold jDataText
  rw [String.toList_ofList]
  exact ok_of_isSome (by decide +kernel)

example : ∃ s' qq qt, loadData jDataText ⟨true, true, false⟩ none none jUQ = .ok s' ∧ s'.natoms = 2 ∧
    s'.prop? "charge" = some qq ∧ qq.shape = [] ∧ qq.vals = [[3501/1000], [-333/1000]] ∧
    s'.prop? "atype" = some qt ∧ qt.shape = [] ∧ qt.vals = [[1], [2]] := by
  obtain ⟨s', hl⟩ := jLoadData
  obtain ⟨lf, p, w, hlf, hp, hlen, H⟩ := load_dump_roundtrip_data_values (all_formats_readable (.fixed 3)) jSysQ "charge" jUQ
    jDataText jWriteData ⟨by rw [jSW]; decide, by rw [jSW]; decide +kernel⟩
  obtain ⟨p', w', hp', hrows, hvel⟩ := jDataParts
  rw [hp'] at hp; cases hp
  obtain ⟨hn, hv⟩ := H ⟨true, true, false⟩ none none s' "charge" jCharge 9 0
    (by rw [hrows]; decide) (by rw [hrows]; decide +kernel) (by decide)
    (fun vr hvr => by rw [hvel] at hvr; cases hvr; decide +kernel)
    (by rw [jSW]; decide +kernel) jLookupQ (by decide +kernel) (by decide +kernel) (by rw [hrows]; decide +kernel) (by decide) hl
  have hvc : ∀ (nm : String), nm ≠ "a_id" → nm ≠ "velocity" →
      ∀ vc, lookupCols Gen.LoadStyles.velStyles "charge" jUQ = .ok vc → ∀ c ∈ vc, c.prop ≠ nm := by
    intro nm h1 h2 vc hvc c hc
    rw [jLookupQV] at hvc; cases hvc
    simp only [jChargeVel, List.mem_cons, List.not_mem_nil, or_false] at hc
    rcases hc with rfl | rfl
    · exact fun h => h1 h.symm
    · exact fun h => h2 h.symm
  obtain ⟨qq, hqq, hsq, _, hvq⟩ := hv 2 (by decide) (by decide) (by decide) (hvc _ (by decide) (by decide))
  obtain ⟨qt, hqt, hst, hvt, _⟩ := hv 1 (by decide) (by decide) (by decide) (hvc _ (by decide) (by decide))
  refine ⟨s', qq, qt, hl, hn, hqq, hsq, ?_, hqt, hst, ?_⟩
  · rw [hvq 3 rfl, hrows]; decide +kernel
  · rw [hvt rfl, hrows]; decide +kernel

def jSysP : Sys :=
  { box := ⟨⟨⟨4, 0, 0⟩, ⟨1, 3, 0⟩, ⟨0, 0, 5⟩⟩, ⟨0, 0, 0⟩⟩, pbc := ⟨true, true, true⟩, natypes := 2,
    atype := [2, 1, 2], pos := [⟨1, 2, 1⟩, ⟨9/2, 1, 6⟩, ⟨1/3, 1/3, 1/3⟩], props := [] }
def jPoscarText : List Char := "a title\n2.0000\n2.0000 0.0000 0.0000\n0.5000 1.5000 0.0000\n0.0000 0.0000 2.5000\nAl Cu\n1 2 \nDirect\n1.0417 0.3333 1.2000\n0.0833 0.6667 0.2000\n0.0556 0.1111 0.0667".toList
theorem jWritePoscar : writePoscar jSysP ["a", "title"] (some ["Al", "Cu"]) "Direct" 2 (.fixed 4) = .ok jPoscarText := by
  unfold jPoscarText
  rw [String.toList_ofList]
  exact ok_of_toOption (by decide +kernel)
/-- what `load_dump_roundtrip_poscar` says the loader returns for `jPoscarText` -/
def jPoscarLoaded : Loaded :=
  poscarLoaded (.fixed 4) 2 (poscarNums jSysP (isCartStyle "Direct") 2).lattice (poscarNums jSysP (isCartStyle "Direct") 2).counts
    (poscarNums jSysP (isCartStyle "Direct") 2).coords (isCartStyle "Direct")
    ((none : Option (List (Option String))).getD (writtenSymbols (some ["Al", "Cu"]) (poscarNums jSysP (isCartStyle "Direct") 2).counts))

theorem jPoscar : loadPoscar jPoscarText none = .ok jPoscarLoaded :=
  load_dump_roundtrip_poscar (all_formats_readable (.fixed 4)) jSysP ["a", "title"] (some ["Al", "Cu"]) "Direct" 2 jPoscarText
    jWritePoscar (by decide +kernel)
    (fun l hl => by cases hl; exact ⟨by decide +kernel, by decide +kernel⟩)
    (by decide +kernel) (by decide +kernel) (by decide +kernel) none
example : jPoscarLoaded.natoms = 3 ∧ jPoscarLoaded.symbols = [some "Al", some "Cu"] ∧
    jPoscarLoaded.box = ⟨⟨⟨4, 0, 0⟩, ⟨1, 3, 0⟩, ⟨0, 0, 5⟩⟩, ⟨0, 0, 0⟩⟩ ∧
    (jPoscarLoaded.prop? "atype").map (·.vals) = some [[1], [2], [2]] ∧
    (jPoscarLoaded.prop? "pos").map (·.vals) = some [[45001/10000, 9999/10000, 6], [9999/10000, 20001/10000, 1],
      [667/2000, 3333/10000, 667/2000]] := by decide +kernel

example : ∃ w', dumpTo ⟨[("POSCAR", cs!"old old old")], []⟩ (.pathObj "POSCAR") jPoscarText = .ok (w', none) ∧
    loadVia (fun t => loadPoscar t none) w' (.str "POSCAR".toList) = .ok jPoscarLoaded :=
  load_dump_roundtrip_poscar_any_route (all_formats_readable (.fixed 4)) jSysP ["a", "title"] (some ["Al", "Cu"]) "Direct" 2 jPoscarText
    jWritePoscar (by decide +kernel)
    (fun l hl => by cases hl; exact ⟨by decide +kernel, by decide +kernel⟩)
    (by decide +kernel) (by decide +kernel) (by decide +kernel) none _ (.pathObj "POSCAR") "POSCAR" (Or.inr (Or.inl rfl)) _ (Or.inl rfl)

example : ∃ pp, parsePoscar jPoscarText = some pp ∧ loadPoscar jPoscarText none = .ok (loadedOfParsed pp none) :=
  load_eq_independent_parse_poscar jSysP ["a", "title"] (some ["Al", "Cu"]) "Direct" 2 (.fixed 4) jPoscarText jWritePoscar
    ⟨by decide +kernel, by decide +kernel, fun c r h => by
        have : "Direct".toList = ['D', 'i', 'r', 'e', 'c', 't'] := by decide
        rw [this] at h; cases h; decide,
      fun l hl => by cases hl; exact ⟨by decide +kernel, "Al", ["Cu"], rfl, by decide +kernel⟩⟩
    (by decide +kernel) (by decide) (by decide +kernel)
    (fun l hl => by cases hl; decide +kernel) none

def jInit : Loaded := Loaded.init auBox ⟨true, true, false⟩ 2 [] []

-- `tableLoad_rowsDoc`, `table_values_of_rows`: written rows in id order (`jRows`), read without `usecols`
example : ∃ s' tbl q, tableLoad jInit (rowsDoc (.fixed 3) jRows) jP false = .ok s' ∧
    tableLoad jInit (rowsDoc (.fixed 3) jRows) jP false = assignCols jInit.box jP (columnCells jP tbl) jInit ∧
    s'.prop? "w" = some q ∧ q.shape = [2] ∧ q.vals = [[7/2, -1/4], [5/2, 333/1000]] := by
  obtain ⟨s', h⟩ := ok_of_isSome (r := tableLoad jInit (rowsDoc (.fixed 3) jRows) jP false) (by decide +kernel)
  have hs : ∀ i, idIndex jP = some i →
      (jRows.map fun r => (r.take (colsWidth jP)).map (cellRat (.fixed 3))).Pairwise fun a b => (a[i]?).getD 0 ≤ (b[i]?).getD 0 := by
    intro i hi
    have h0 : idIndex jP = some 0 := by decide +kernel
    rw [h0] at hi; cases hi; decide +kernel
  obtain ⟨tbl, ht, _⟩ := tableLoad_rowsDoc (all_formats_readable (.fixed 3)) jInit jRows jP 7 false (by decide) (by decide +kernel)
    (by decide +kernel) hs
  obtain ⟨q, hq, hsq, hv, _⟩ := table_values_of_rows (all_formats_readable (.fixed 3)) jInit s' jRows jP 7 false (by decide)
    (by decide +kernel) (by decide +kernel) hs (by decide) (by decide) h 3 (by decide) (by decide)
  exact ⟨s', tbl, q, h, ht, hq, hsq, by rw [hv rfl]; decide +kernel⟩

-- `tableLoad_rowsDoc_sorted`, `table_values_of_rows_sorted`: written rows with ids 2, 1 (`jRowsD`)
example : ∃ s' tbl q, tableLoad jInit (rowsDoc (.fixed 3) jRowsD) jP false = .ok s' ∧
    tableLoad jInit (rowsDoc (.fixed 3) jRowsD) jP false = assignCols jInit.box jP (columnCells jP tbl) jInit ∧
    s'.prop? "pos" = some q ∧ q.shape = [3] ∧ q.vals = [[9/2, 1, 6], [0, 0, 0]] := by
  obtain ⟨s', h⟩ := ok_of_isSome (r := tableLoad jInit (rowsDoc (.fixed 3) jRowsD) jP false) (by decide +kernel)
  obtain ⟨tbl, ht, _⟩ := tableLoad_rowsDoc_sorted (all_formats_readable (.fixed 3)) jInit jRowsD jP 7 false 0 (by decide)
    (by decide +kernel) (by decide +kernel) (by decide +kernel) (by decide +kernel)
  obtain ⟨q, hq, hsq, _, hv⟩ := table_values_of_rows_sorted (all_formats_readable (.fixed 3)) jInit s' jRowsD jP 7 false 0 (by decide)
    (by decide +kernel) (by decide +kernel) (by decide +kernel) (by decide +kernel) (by decide) (by decide) h 2 (by decide) (by decide)
  exact ⟨s', tbl, q, h, ht, hq, hsq, by rw [hv 2 rfl]; decide +kernel⟩

-- `loadDumpCore_given`: the header state of the written dump file, the written rows, the caller's column table
example : ∃ s' box s1, loadDumpCore (dumpState (.fixed 3) (some 2) jSysD jProps) (some (rowsDoc (.fixed 3) jRowsD)) none (some jPU) jU = .ok s' ∧
    Box.ofHiLos? (-1 : ℚ) 3 0 3 0 5 1 0 0 = some box ∧
    tableLoad (Loaded.init box ⟨true, true, false⟩ 2 [] []) ((rowsDoc (.fixed 3) jRowsD).take 2) (jPU.map renamePos) false = .ok s1 ∧
    s'.natoms = 2 ∧ s'.box = box ∧ s'.props = s1.props := by
  obtain ⟨s', h⟩ := ok_of_isSome
    (r := loadDumpCore (dumpState (.fixed 3) (some 2) jSysD jProps) (some (rowsDoc (.fixed 3) jRowsD)) none (some jPU) jU) (by decide +kernel)
  obtain ⟨box, s1, h1, h2, h3, _, h5, h6, _⟩ := loadDumpCore_given _ _ none jPU jU s' 2 ⟨true, true, false⟩ (-1) 3 0 3 0 5
    (by decide +kernel) (by decide +kernel) (by decide +kernel) h
  have e : (dumpState (.fixed 3) (some 2) jSysD jProps).xy = 1 ∧ (dumpState (.fixed 3) (some 2) jSysD jProps).xz = 0 ∧
      (dumpState (.fixed 3) (some 2) jSysD jProps).yz = 0 := by decide +kernel
  rw [e.1, e.2.1, e.2.2] at h1
  exact ⟨s', box, s1, h, h1, h2, h3, h5, h6⟩

-- `propOfColumn_shape`, `propOfColumn_vals`: a `(2,)` entry with a unit factor over an integer and a real cell
example : ∃ p, propOfColumn auBox ⟨"w", ["w[0]", "w[1]"], [2], .factor (1 / 2)⟩ [[.num (7/2), .int 1], [.num 1, .num 3]] = .ok p ∧
    p.name = "w" ∧ p.shape = [2] ∧ p.vals.length = 2 ∧ p.vals = [[7/4, 1/2], [1/2, 3/2]] := by
  obtain ⟨p, h⟩ := ok_of_isSome
    (r := propOfColumn auBox ⟨"w", ["w[0]", "w[1]"], [2], .factor (1 / 2)⟩ [[.num (7/2), .int 1], [.num 1, .num 3]]) (by decide +kernel)
  obtain ⟨h1, h2, _, h4⟩ := propOfColumn_shape _ _ _ p h
  exact ⟨p, h, h1, h2, h4, by rw [(propOfColumn_vals _ _ _ p h).2 (1 / 2) rfl]; decide +kernel⟩

def jInitQ : Loaded := Loaded.init ⟨⟨⟨4, 0, 0⟩, ⟨1, 3, 0⟩, ⟨0, 0, 5⟩⟩, ⟨-1, 0, 0⟩⟩ ⟨true, true, false⟩ 2 [] []

example : ∃ p w, dataParts jSysQ "charge" jUQ = .ok (p, w) ∧ p.rows.length = 2 ∧ p.natoms = 2 := by
  obtain ⟨p, w, hp, _, _⟩ := jDataParts
  exact ⟨p, w, hp, dataParts_rows_length jSysQ "charge" jUQ p w hp⟩

-- `atoms_section_values`, `applyFlags_other`: the written `Atoms` rows of `jSysQ` (9 cells: 6 columns + image flags)
example : ∃ s' q, readAtoms (rowsDoc (.fixed 3) jDataRows) 9 jInitQ "charge" jUQ = .ok s' ∧ s'.natoms = 2 ∧
    s'.prop? "charge" = some q ∧ q.shape = [] ∧ q.vals = [[3501/1000], [-333/1000]] := by
  obtain ⟨s', h⟩ := ok_of_isSome (r := readAtoms (rowsDoc (.fixed 3) jDataRows) 9 jInitQ "charge" jUQ) (by decide +kernel)
  obtain ⟨hn, hv⟩ := atoms_section_values (all_formats_readable (.fixed 3)) jInitQ s' jDataRows "charge" jUQ jCharge 9 9 0
    (by decide) (by decide +kernel) jLookupQ (by decide +kernel) (by decide +kernel) (by decide +kernel) (by decide) (by decide) h
  obtain ⟨q, hq, hs, _, hvq⟩ := hv 2 (by decide) (by decide) (by decide)
  exact ⟨s', q, h, hn, hq, hs, by rw [hvq 3 rfl]; decide +kernel⟩

def jTabled : Option Loaded := (tableLoad jInitQ (rowsDoc (.fixed 3) jDataRows) jCharge true).toOption
example : ∃ s1 s' q, jTabled = some s1 ∧ applyFlags s1 (rowsDoc (.fixed 3) jDataRows) 6 = .ok s' ∧
    s'.prop? "charge" = s1.prop? "charge" ∧ s1.prop? "charge" = some q ∧ s'.prop? "pos" ≠ s1.prop? "pos" := by
  have h : (jTabled.bind fun s1 => (applyFlags s1 (rowsDoc (.fixed 3) jDataRows) 6).toOption.map fun s' =>
      ((s1.prop? "charge").isSome, decide (s'.prop? "pos" ≠ s1.prop? "pos"))) = some (true, true) := by decide +kernel
  cases h1 : jTabled with
  | none => rw [h1] at h; cases h
  | some s1 =>
    rw [h1] at h
    simp only [Option.bind_some] at h
    cases h2 : applyFlags s1 (rowsDoc (.fixed 3) jDataRows) 6 with
    | error e => rw [h2] at h; cases h
    | ok s' =>
      rw [h2] at h
      simp only [Except.toOption, Option.map_some, Option.some.injEq, Prod.mk.injEq, decide_eq_true_eq] at h
      obtain ⟨q, hq⟩ := Option.isSome_iff_exists.mp h.1
      exact ⟨s1, s', q, rfl, h2, applyFlags_other s1 s' _ 6 h2 "charge" (by decide), hq, h.2⟩

-- `loadDataCore_values`: what the first pass hands on for the written file of `jSysQ`, the written `Atoms` rows followed by
-- the `Velocities` header line, and the `Velocities` rows
def jFP : FirstPass :=
  { natoms := 2, hilo := ⟨-1, 3, 0, 3, -1/250, 751/125, 1, 0, 0⟩,
    box := ⟨⟨⟨4, 0, 0⟩, ⟨1, 3, 0⟩, ⟨0, 0, 751/125⟩⟩, ⟨-1, 0, -1/250⟩⟩, atomsColumns := 9, hint := some (cs!"charge"), masses := [] }
example : ∃ s' q, loadDataCore jFP (rowsDoc (.fixed 3) jDataRows ++ [[cs!"Velocities"]]) (some (rowsDoc (.fixed 3) jVelRows))
      ⟨true, true, false⟩ none none jUQ = .ok s' ∧ s'.natoms = 2 ∧
    s'.prop? "charge" = some q ∧ q.shape = [] ∧ q.vals = [[3501/1000], [-333/1000]] := by
  obtain ⟨s', h⟩ := ok_of_isSome (r := loadDataCore jFP (rowsDoc (.fixed 3) jDataRows ++ [[cs!"Velocities"]])
    (some (rowsDoc (.fixed 3) jVelRows)) ⟨true, true, false⟩ none none jUQ) (by decide +kernel)
  obtain ⟨hn, hv⟩ := loadDataCore_values (all_formats_readable (.fixed 3)) jFP jDataRows [[cs!"Velocities"]]
    (some (rowsDoc (.fixed 3) jVelRows)) ⟨true, true, false⟩ none none jUQ s' "charge" jCharge 9 0
    (by decide) (by decide) (by decide +kernel) (by decide +kernel) jLookupQ (by decide +kernel) (by decide +kernel)
    (by decide +kernel) (by decide) h
  obtain ⟨q, hq, hs, _, hvq⟩ := hv 2 (by decide) (by decide) (by decide) (fun vc hvc c hc => by
    rw [jLookupQV] at hvc; cases hvc
    simp only [jChargeVel, List.mem_cons, List.not_mem_nil, or_false] at hc
    rcases hc with rfl | rfl <;> decide)
  exact ⟨s', q, h, hn, hq, hs, by rw [hvq 3 rfl]; decide +kernel⟩

-- `load_perm_invariant_data_file`: the written parts of `jSysQ` and the same with the two atom lines swapped
def jParts : DataParts := ⟨2, 2, ⟨-1/2, 3/2, 0, 3/2, -1/400, 1201/400, 1/2, 0, 0⟩, jDataRows, some jVelRows⟩
def jParts' : DataParts := { jParts with rows := jDataRows.reverse }
example : loadData (renderLines (dataDocOf (.fixed 3) "charge" jParts)) ⟨true, true, false⟩ none none jUQ =
    loadData (renderLines (dataDocOf (.fixed 3) "charge" jParts')) ⟨true, true, false⟩ none none jUQ := by
  have hpos : ∀ st cols, lookupCols Gen.LoadStyles.atomStyles st jUQ = .ok cols → ∃ k, colsWidth cols = k + 1 := by
    intro st cols h
    have h0 := lookupCols_id_first st jUQ cols h
    rw [colsWidth_eq_names]
    unfold idIndex at h0
    simp only at h0
    split at h0
    · rename_i hlt; exact ⟨_, (Nat.succ_pred_eq_of_pos (by omega)).symm⟩
    · cases h0
  refine load_perm_invariant_data_file (all_formats_readable (.fixed 3)) "charge" jParts jParts' jUQ
    ⟨by rw [jSW]; decide, by rw [jSW]; decide +kernel⟩ ⟨rfl, rfl, rfl, rfl⟩ (List.reverse_perm jDataRows) (by decide) 9 (by decide +kernel)
    (by decide) (by decide) (fun vr hvr => by cases hvr; decide +kernel) _ none none ?_ ?_
  · intro st cols t hc ht
    obtain ⟨k, hk⟩ := hpos st cols hc
    rw [hk] at ht
    by_cases hle : k + 1 ≤ 9
    · obtain ⟨tbl, h1, h2⟩ := readTable_rowsDoc (all_formats_readable (.fixed 3)) jDataRows 9 (k + 1) true (by decide)
        (by decide +kernel) (by simpa using hle)
      have e : jParts.rows = jDataRows := rfl
      rw [e, h1] at ht; cases ht
      have : t.map (rowKey 0) = (t.map (·.map Val.toRat)).map (fun r => (r[0]?).getD 0) := by
        rw [List.map_map]; exact List.map_congr_left fun r _ => rowKey_toRat 0 r
      rw [this, h2]
      simp only [jDataRows, List.map, List.take_succ_cons, List.getElem?_cons_zero, Option.getD_some]
      decide +kernel
    · rw [readTable_uniform (n := 9) (by decide +kernel) (by decide +kernel), if_neg (by simp only [if_true]; omega)] at ht
      cases ht
  · intro st cols fl hc hfl
    have e : rowsDoc (.fixed 3) jParts.rows =
        [[cs!"1", cs!"1", cs!"1.167", cs!"0.000", cs!"0.000", cs!"0.000", cs!"0", cs!"0", cs!"0"],
         [cs!"2", cs!"2", cs!"-0.111", cs!"0.250", cs!"0.500", cs!"3.000", cs!"1", cs!"0", cs!"0"]] := by decide +kernel
    rw [e] at hfl
    simp only [List.mapM_cons, List.mapM_nil, bind, Except.bind, pure, Except.pure] at hfl
    generalize colsWidth cols = n at hfl
    cases h1 : readFlagRow n [cs!"1", cs!"1", cs!"1.167", cs!"0.000", cs!"0.000", cs!"0.000", cs!"0", cs!"0", cs!"0"] with
    | error e1 => simp [h1] at hfl
    | ok x1 =>
      cases h2 : readFlagRow n [cs!"2", cs!"2", cs!"-0.111", cs!"0.250", cs!"0.500", cs!"3.000", cs!"1", cs!"0", cs!"0"] with
      | error e2 => simp [h1, h2] at hfl
      | ok x2 =>
        simp only [h1, h2, Except.ok.injEq] at hfl
        subst hfl
        obtain ⟨t1, i1, a1, b1, c1⟩ := readFlagRow_fst _ _ _ h1
        obtain ⟨t2, i2, a2, b2, c2⟩ := readFlagRow_fst _ _ _ h2
        simp only [List.head?_cons, Option.some.injEq] at a1 a2
        subst a1; subst a2
        have d1 : pyInt (cs!"1") = .ok 1 := by decide +kernel
        have d2 : pyInt (cs!"2") = .ok 2 := by decide +kernel
        rw [d1] at b1; rw [d2] at b2; cases b1; cases b2
        simp only [List.map_cons, List.map_nil, c1, c2]
        decide +kernel

end NonVacuity

end Atomman.C08
