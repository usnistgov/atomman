/-
  C08 — results that agree up to a relation (`ResRel`), sorting by id, permutations through `mapM` and `readTable`.
-/
import Atomman.C08
import Proofs.Lists
import Mathlib.Data.List.Perm.Basic
import Mathlib.Algebra.Order.Field.Rat

namespace Atomman.C08
open Atomman Atomman.C07
set_option linter.unusedSimpArgs false

/-- two results agree up to `R`: both succeed with related values, or both fail with the same error. -/
def ResRel {α β : Type} (R : α → β → Prop) : Res α → Res β → Prop
  | .ok a, .ok b => R a b
  | .error e, .error e' => e = e'
  | _, _ => False

theorem ResRel.bind {α β γ δ : Type} {R : α → β → Prop} {Q : γ → δ → Prop} {x : Res α} {y : Res β}
    {f : α → Res γ} {g : β → Res δ} (h : ResRel R x y) (hfg : ∀ a b, R a b → ResRel Q (f a) (g b)) :
    ResRel Q (x >>= f) (y >>= g) := by
  cases x <;> cases y <;> first | exact h.elim | exact h | exact hfg _ _ h

theorem ResRel.bind_same {α γ δ : Type} {Q : γ → δ → Prop} {x : Res α} {f : α → Res γ} {g : α → Res δ}
    (hfg : ∀ a, x = .ok a → ResRel Q (f a) (g a)) : ResRel Q (x >>= f) (x >>= g) := by
  cases x with
  | error e => rfl
  | ok a => exact hfg a rfl

theorem ResRel.of_eq {α : Type} {x y : Res α} (h : x = y) : ResRel Eq x y := by
  subst h; cases x <;> rfl

theorem ResRel.eq {α : Type} {x y : Res α} (h : ResRel Eq x y) : x = y := by
  cases x <;> cases y <;> first | exact h.elim | exact congrArg _ h

theorem ResRel.of_ok {α β : Type} {R : α → β → Prop} {a : α} {y : Res β} (h : ResRel R (.ok a) y) :
    ∃ b, y = .ok b ∧ R a b := by
  cases y with
  | error e => exact h.elim
  | ok b => exact ⟨b, rfl, h⟩

theorem ResRel.of_error {α β : Type} {R : α → β → Prop} {e : String} {y : Res β} (h : ResRel R (.error e) y) :
    y = .error e := by
  cases y with
  | error e' => exact congrArg _ (Eq.symm h)
  | ok b => exact h.elim

theorem isInsert {α : Type} (key : α → Rat) :
    IsInsert (insertBy key) (fun x y => key x ≤ key y) (fun _ _ => False) :=
  ⟨fun _ => rfl, fun x y t => by rw [insertBy, if_neg not_false]⟩

theorem sortBy_eq_foldr {α : Type} (key : α → Rat) : ∀ l, sortBy key l = l.foldr (insertBy key) []
  | [] => rfl
  | x :: l => by rw [sortBy, sortBy_eq_foldr key l, List.foldr_cons]

theorem sortBy_perm {α : Type} (key : α → Rat) (l : List α) : (sortBy key l).Perm l := by
  rw [sortBy_eq_foldr]; exact (isInsert key).foldr_perm l

theorem sortBy_sorted {α : Type} (key : α → Rat) (l : List α) : (sortBy key l).Pairwise fun a b => key a ≤ key b := by
  rw [sortBy_eq_foldr]
  exact (isInsert key).foldr_sorted (hr := fun _ _ h => h) (hn := fun _ _ h => (not_le.mp h).le) (ht := fun _ _ _ => le_trans) l

/-- sorting by distinct keys does not depend on the order of the input. -/
theorem sortBy_eq_of_perm {α : Type} (key : α → Rat) {l₁ l₂ : List α} (h : l₁.Perm l₂)
    (hk : (l₁.map key).Nodup) : sortBy key l₁ = sortBy key l₂ := by
  have p : (sortBy key l₁).Perm (sortBy key l₂) := (sortBy_perm key l₁).trans (h.trans (sortBy_perm key l₂).symm)
  have strict : ∀ l : List α, (l.map key).Nodup → (sortBy key l).Pairwise fun a b => key a < key b := by
    intro l hl
    have hn : ((sortBy key l).map key).Nodup := ((sortBy_perm key l).map key).nodup_iff.mpr hl
    have hne : (sortBy key l).Pairwise fun a b => key a ≠ key b := by
      rw [List.Nodup, List.pairwise_map] at hn
      exact hn
    exact ((sortBy_sorted key l).and hne).imp fun ⟨h1, h2⟩ => lt_of_le_of_ne h1 h2
  have hk2 : (l₂.map key).Nodup := (h.map key).nodup_iff.mp hk
  exact List.Perm.eq_of_pairwise (le := fun a b => key a < key b)
    (fun a b _ _ h1 h2 => absurd h1 (not_lt.mpr (le_of_lt h2))) (strict l₁ hk) (strict l₂ hk2) p

theorem mapM_error_const {α β : Type} (f : α → Except String β) (e0 : String)
    (hall : ∀ a e, f a = .error e → e = e0) (l : List α) (e : String) (h : l.mapM f = .error e) : e = e0 :=
  let ⟨a, _, ha⟩ := mapM_except_error h; hall a e ha

/-- a function of a list whose failures all carry one error and whose successes are carried along a permutation of the
    list (up to `R`) agrees with itself on permuted lists. -/
theorem resRel_of_perm {α β : Type} {F : List α → Res β} {R : β → β → Prop} (e0 : String)
    (herr : ∀ l e, F l = .error e → e = e0)
    (hok : ∀ l₁ l₂ r, l₁.Perm l₂ → F l₁ = .ok r → ∃ r', F l₂ = .ok r' ∧ R r r')
    {l₁ l₂ : List α} (hp : l₁.Perm l₂) : ResRel R (F l₁) (F l₂) := by
  cases h1 : F l₁ with
  | ok r => obtain ⟨r', h2, hr⟩ := hok _ _ r hp h1; rw [h2]; exact hr
  | error e =>
    cases h2 : F l₂ with
    | ok r' => obtain ⟨r, h3, _⟩ := hok _ _ r' hp.symm h2; rw [h3] at h1; cases h1
    | error e' => exact (herr _ _ h1).trans (herr _ _ h2).symm

theorem mapM_perm {α β : Type} (f : α → Except String β) (e0 : String)
    (hall : ∀ a e, f a = .error e → e = e0) {l₁ l₂ : List α} (hp : l₁.Perm l₂) :
    ResRel List.Perm (l₁.mapM f) (l₂.mapM f) :=
  resRel_of_perm e0 (mapM_error_const f e0 hall) (fun l₁ l₂ r hp h => by
    obtain ⟨r₂, h2, h3⟩ := List.perm_comp_forall₂ hp.symm (mapM_except_ok_iff.mp h)
    exact ⟨r₂, mapM_except_ok_iff.mpr h2, h3.symm⟩) hp

theorem parseVal_error (t : Tok) (e : String) (h : parseVal t = .error e) : e = "value" := by
  unfold parseVal at h
  split at h
  · cases h
  · injection h with h; exact h.symm

theorem parseRow_error (w : Nat) (r : Line) (e : String) (h : (r.take w).mapM parseVal = .error e) : e = "value" :=
  mapM_error_const parseVal "value" parseVal_error _ e h

/-- "every row is as long as the first" (the check of `readTable` and of `applyFlags`): the rows have one length. -/
theorem uniform_iff (rows : List Line) :
    (rows.all fun r => decide (r.length = (rows.headD []).length)) = true ↔ ∃ n, ∀ r ∈ rows, r.length = n := by
  constructor
  · exact fun h => ⟨_, fun r hr => by simpa using List.all_eq_true.mp h r hr⟩
  · rintro ⟨n, hn⟩
    refine List.all_eq_true.mpr fun r hr => ?_
    cases rows with
    | nil => cases hr
    | cons r0 rs => simp [hn r hr, hn r0 List.mem_cons_self]

theorem uniform_perm {rows₁ rows₂ : List Line} (hp : rows₁.Perm rows₂) :
    (rows₁.all fun r => r.length = (rows₁.headD []).length) = (rows₂.all fun r => r.length = (rows₂.headD []).length) := by
  rw [Bool.eq_iff_iff, uniform_iff, uniform_iff]
  exact ⟨fun ⟨n, h⟩ => ⟨n, fun r hr => h r (hp.symm.subset hr)⟩, fun ⟨n, h⟩ => ⟨n, fun r hr => h r (hp.subset hr)⟩⟩

theorem readTable_uniform {rows : List Line} {n : Nat} (hne : rows ≠ []) (hn : ∀ r ∈ rows, r.length = n) (w : Nat)
    (u : Bool) :
    readTable rows w u =
      if (if u then w ≤ n else n = w) then rows.mapM fun r => (r.take w).mapM parseVal else .error "value" := by
  obtain ⟨r0, rs, rfl⟩ := List.exists_cons_of_ne_nil hne
  obtain rfl : r0.length = n := hn r0 List.mem_cons_self
  have hall : ((r0 :: rs).all fun r => decide (r.length = r0.length)) = true := (uniform_iff (r0 :: rs)).mpr ⟨_, hn⟩
  unfold readTable
  simp only [hall, Bool.not_true, Bool.false_eq_true, if_false]
  cases u
  · by_cases h : r0.length = w
    · simp [h]
    · simp [h]; rfl
  · by_cases h : r0.length < w
    · simp [h, Nat.not_le.mpr]; rfl
    · simp [h, Nat.le_of_not_lt]

theorem readTable_ok {rows : List Line} {w : Nat} {u : Bool} {tbl : List (List Val)} (h : readTable rows w u = .ok tbl) :
    rows ≠ [] ∧ ∃ n, ∀ r ∈ rows, r.length = n := by
  cases rows with
  | nil => cases h
  | cons r0 rs =>
    refine ⟨by simp, (uniform_iff (r0 :: rs)).mp ?_⟩
    by_contra hall
    simp [readTable, show ((r0 :: rs).all fun r => decide (r.length = r0.length)) = false by simpa using hall, exceptSimp] at h

theorem readTable_error {rows : List Line} {w : Nat} {u : Bool} {e : String} (h : readTable rows w u = .error e) :
    e = "value" := by
  unfold readTable at h
  split at h
  · exact (Except.error.inj h).symm
  · repeat' split at h
    all_goals first | exact (Except.error.inj h).symm | exact mapM_error_const _ "value" (parseRow_error w) _ e h

theorem readTable_perm {rows₁ rows₂ : List Line} (hp : rows₁.Perm rows₂) (w : Nat) (u : Bool) :
    ResRel List.Perm (readTable rows₁ w u) (readTable rows₂ w u) :=
  resRel_of_perm (F := fun rows => readTable rows w u) "value" (fun _ _ => readTable_error) (fun l₁ l₂ t hp h => by
    obtain ⟨hne, n, hn⟩ := readTable_ok h
    have hne₂ : l₂ ≠ [] := fun e => hne (by subst e; exact hp.eq_nil)
    rw [readTable_uniform hne hn] at h
    rw [readTable_uniform hne₂ fun r hr => hn r (hp.symm.subset hr)]
    by_cases c : (if u then w ≤ n else n = w)
    · simp only [c, if_true] at h ⊢
      exact (h ▸ mapM_perm _ "value" (parseRow_error w) hp).of_ok
    · simp only [c, if_false] at h
      cases h) hp

/-- a table that has an `id` column with distinct ids loads to the same system for
    every order of its rows (the body of `load('table')`, used by every LAMMPS loader). -/
theorem load_perm_invariant_table (s : Loaded) {rows₁ rows₂ : List Line} (cols : List PCol) (usecols : Bool) (i : Nat)
    (hp : rows₁.Perm rows₂) (hid : idIndex cols = some i)
    (hd : ∀ t, readTable rows₁ (colsWidth cols) usecols = .ok t → (t.map (rowKey i)).Nodup) :
    tableLoad s rows₁ cols usecols = tableLoad s rows₂ cols usecols := by
  unfold tableLoad
  have h := readTable_perm hp (colsWidth cols) usecols
  cases h1 : readTable rows₁ (colsWidth cols) usecols with
  | error e => rw [h1] at h; rw [h.of_error]
  | ok t₁ =>
    rw [h1] at h
    obtain ⟨t₂, h2, hperm⟩ := h.of_ok
    rw [h2]
    simp only [exceptSimp, sortRows, hid]
    rw [sortBy_eq_of_perm (rowKey i) hperm (hd t₁ h1)]

end Atomman.C08
