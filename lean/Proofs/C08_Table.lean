/-
  C08 — the table reader on written rows: the numeric table is the table of the printed values, sorted by the printed id
  whatever the order of the rows (the stable sort commutes with reading the values: `sortBy_map`, `tableLoad_written`),
  and every listed property holds its own column group of that table (`assignCols_holds`).
-/
import Proofs.C08_Text
import Proofs.C08_Shape
namespace Atomman.C08
open Atomman Atomman.C07
set_option linter.unusedSimpArgs false

theorem mapM_exists {α β γ : Type} (f : α → Except String β) (g : α → γ) (h : β → γ) (l : List α)
    (H : ∀ a ∈ l, ∃ b, f a = .ok b ∧ h b = g a) : ∃ bs, l.mapM f = .ok bs ∧ bs.map h = l.map g := by
  induction l with
  | nil => exact ⟨[], rfl, rfl⟩
  | cons a as ih =>
    obtain ⟨b, hb1, hb2⟩ := H a List.mem_cons_self
    obtain ⟨bs, hbs1, hbs2⟩ := ih (fun x hx => H x (List.mem_cons_of_mem _ hx))
    refine ⟨b :: bs, ?_, by simp [hb2, hbs2]⟩
    rw [List.mapM_cons, hb1, hbs1]
    rfl

set_option linter.unusedVariables false in
/-- **reading back a written table**: the numeric table pandas delivers for the rows `rowsDoc f rows` is the
    written table with every float at its printed value; with `usecols=range(w)` its first `w` columns. -/
theorem readTable_rowsDoc {f : Fmt} (hf : Readable f) (rows : List (List Cell)) (n w : Nat) (usecols : Bool)
    (hne : rows ≠ []) (hn : ∀ r ∈ rows, r.length = n) (hw : if usecols then w ≤ n else n = w) :
    ∃ tbl, readTable (rowsDoc f rows) w usecols = .ok tbl ∧
      tbl.map (·.map Val.toRat) = rows.map fun r => (r.take w).map (cellRat f) := by
  have hrow : ∀ r : List Cell, ∃ vs, ((r.map (Cell.tok f)).take w).mapM parseVal = .ok vs ∧
      vs.map Val.toRat = (r.take w).map (cellRat f) := by
    intro r
    rw [← List.map_take, List.mapM_map]
    exact mapM_exists _ _ _ _ fun c _ => parseVal_cellTok f c
  have hlen : ∀ r ∈ rowsDoc f rows, r.length = n := by
    intro r hr
    obtain ⟨r0, hr0, rfl⟩ := List.mem_map.mp hr
    rw [List.length_map, hn r0 hr0]
  rw [readTable_uniform (rows := rowsDoc f rows) (fun e => hne (List.map_eq_nil_iff.mp e)) hlen, if_pos hw]
  unfold rowsDoc
  rw [List.mapM_map]
  exact mapM_exists _ _ _ rows fun r _ => hrow r

theorem insertBy_head {α : Type} (key : α → ℚ) (x : α) (l : List α) (h : ∀ y ∈ l, key x ≤ key y) :
    insertBy key x l = x :: l := by
  cases l with
  | nil => rfl
  | cons y ys => unfold insertBy; simp [h y List.mem_cons_self]

theorem sortBy_sorted_id {α : Type} (key : α → ℚ) (l : List α) (h : l.Pairwise fun a b => key a ≤ key b) :
    sortBy key l = l := by
  induction l with
  | nil => rfl
  | cons x xs ih =>
    have hx := List.pairwise_cons.mp h
    unfold sortBy
    rw [ih hx.2, insertBy_head key x xs hx.1]

theorem insertBy_map {α β : Type} (g : α → β) (k : β → ℚ) (x : α) (l : List α) :
    (insertBy (k ∘ g) x l).map g = insertBy k (g x) (l.map g) := by
  induction l with
  | nil => rfl
  | cons y ys ih =>
    simp only [insertBy, List.map_cons, Function.comp]
    split
    · rfl
    · rw [List.map_cons, ih]

theorem sortBy_map {α β : Type} (g : α → β) (k : β → ℚ) (l : List α) :
    (sortBy (k ∘ g) l).map g = sortBy k (l.map g) := by
  induction l with
  | nil => rfl
  | cons x xs ih => rw [sortBy, insertBy_map, ih]; rfl

theorem rowKey_toRat (i : Nat) (r : List Val) : rowKey i r = ((r.map Val.toRat)[i]?).getD 0 := by
  unfold rowKey
  simp only [List.getElem?_map]
  cases r[i]? <;> rfl

/-- `sortRows` on the table of values: by the entry of the id column, when there is one. -/
def sortQ (cols : List PCol) (T : List (List ℚ)) : List (List ℚ) :=
  match idIndex cols with
  | some i => sortBy (fun r => (r[i]?).getD 0) T
  | none => T

theorem sortRows_rat (cols : List PCol) (tbl : List (List Val)) :
    (sortRows cols tbl).map (·.map Val.toRat) = sortQ cols (tbl.map (·.map Val.toRat)) := by
  unfold sortRows sortQ
  cases idIndex cols with
  | none => rfl
  | some i =>
    show (sortBy (rowKey i) tbl).map _ = sortBy _ _
    rw [← sortBy_map, show rowKey i = (fun r : List ℚ => (r[i]?).getD 0) ∘ (·.map Val.toRat) from funext (rowKey_toRat i)]

theorem sortRows_length (cols : List PCol) (tbl : List (List Val)) : (sortRows cols tbl).length = tbl.length := by
  unfold sortRows
  cases idIndex cols with
  | none => rfl
  | some i => exact (sortBy_perm _ tbl).length_eq

/-- rows written in ANY order, ids distinct or not: the numeric table the loader assigns from is the table of the printed
    values sorted by the printed id. -/
theorem tableLoad_written {f : Fmt} (s : Loaded) (rows : List (List Cell)) (cols : List PCol)
    (n : Nat) (usecols : Bool) (hne : rows ≠ []) (hn : ∀ r ∈ rows, r.length = n)
    (hw : if usecols then colsWidth cols ≤ n else n = colsWidth cols) :
    ∃ tbl, tableLoad s (rowsDoc f rows) cols usecols = assignCols s.box cols (columnCells cols tbl) s ∧
      tbl.map (·.map Val.toRat) = sortQ cols (rows.map fun r => (r.take (colsWidth cols)).map (cellRat f)) := by
  obtain ⟨tbl, h1, h2⟩ := readTable_rowsDoc (readable_all f) rows n (colsWidth cols) usecols hne hn hw
  refine ⟨sortRows cols tbl, ?_, by rw [sortRows_rat, h2]⟩
  unfold tableLoad
  rw [h1]
  rfl

set_option linter.unusedVariables false in
/-- **load ∘ dump, table body**: rows written by a C07 writer in ascending id order are read back as the table of
    their printed values and assigned column group by column group, in the written order. -/
theorem tableLoad_rowsDoc {f : Fmt} (hf : Readable f) (s : Loaded) (rows : List (List Cell)) (cols : List PCol)
    (n : Nat) (usecols : Bool) (hne : rows ≠ []) (hn : ∀ r ∈ rows, r.length = n)
    (hw : if usecols then colsWidth cols ≤ n else n = colsWidth cols)
    (hs : ∀ i, idIndex cols = some i →
      (rows.map fun r => (r.take (colsWidth cols)).map (cellRat f)).Pairwise fun a b => (a[i]?).getD 0 ≤ (b[i]?).getD 0) :
    ∃ tbl, tableLoad s (rowsDoc f rows) cols usecols = assignCols s.box cols (columnCells cols tbl) s ∧
      tbl.map (·.map Val.toRat) = rows.map fun r => (r.take (colsWidth cols)).map (cellRat f) := by
  obtain ⟨tbl, h1, h2⟩ := tableLoad_written s rows cols n usecols hne hn hw
  refine ⟨tbl, h1, h2.trans ?_⟩
  unfold sortQ
  cases hi : idIndex cols with
  | none => rfl
  | some i => exact sortBy_sorted_id _ _ (hs i hi)

/-- the id a written row carries (the printed value of column `i` among the first `w`). -/
def cellKey (f : Fmt) (w i : Nat) (r : List Cell) : ℚ := (((r.take w).map (cellRat f))[i]?).getD 0

set_option linter.unusedVariables false in
/-- **load ∘ dump, table body, any id order**: rows written in any order are read back as the table of their printed
    values *sorted by id*, and assigned column group by column group (the hypothesis `hd`, distinct ids, is not used). -/
theorem tableLoad_rowsDoc_sorted {f : Fmt} (hf : Readable f) (s : Loaded) (rows : List (List Cell)) (cols : List PCol)
    (n : Nat) (usecols : Bool) (i : Nat) (hne : rows ≠ []) (hn : ∀ r ∈ rows, r.length = n)
    (hw : if usecols then colsWidth cols ≤ n else n = colsWidth cols)
    (hid : idIndex cols = some i) (hd : (rows.map (cellKey f (colsWidth cols) i)).Nodup) :
    ∃ tbl, tableLoad s (rowsDoc f rows) cols usecols = assignCols s.box cols (columnCells cols tbl) s ∧
      tbl.map (·.map Val.toRat) =
        (sortBy (cellKey f (colsWidth cols) i) rows).map fun r => (r.take (colsWidth cols)).map (cellRat f) := by
  obtain ⟨tbl, h1, h2⟩ := tableLoad_written s rows cols n usecols hne hn hw
  refine ⟨tbl, h1, h2.trans ?_⟩
  unfold sortQ
  rw [hid]
  exact (sortBy_map _ _ rows).symm

/-- `splitCols` on any kind of cell. -/
def splitG {α : Type} : List PCol → List α → List (List α)
  | [], _ => []
  | c :: cs, r => r.take c.names.length :: splitG cs (r.drop c.names.length)

/-- the entries of column group `j` in one row; `groupCells` is the instance at `Val`, see
    `groupCells_map`. -/
def groupG {α : Type} (cols : List PCol) (j : Nat) (r : List α) : List α := ((splitG cols r)[j]?).getD []

theorem splitCols_eq_splitG (cols : List PCol) (r : List Val) : splitCols cols r = splitG cols r := by
  induction cols generalizing r with
  | nil => rfl
  | cons c cs ih => simp [splitCols, splitG, ih]

theorem splitG_map {α β : Type} (g : α → β) (cols : List PCol) (r : List α) :
    (splitG cols r).map (·.map g) = splitG cols (r.map g) := by
  induction cols generalizing r with
  | nil => rfl
  | cons c cs ih => simp [splitG, ih, List.map_take, List.map_drop]

/-- the cells of column group `j` in one row of the numeric table. -/
def groupCells (cols : List PCol) (j : Nat) (r : List Val) : List Val := ((splitCols cols r)[j]?).getD []

theorem groupCells_map (g : Val → Rat) (cols : List PCol) (j : Nat) (r : List Val) :
    (groupCells cols j r).map g = groupG cols j (r.map g) := by
  unfold groupCells groupG
  rw [splitCols_eq_splitG, ← splitG_map g cols r, List.getElem?_map]
  cases (splitG cols r)[j]? <;> rfl

theorem groupCells_rat (cols : List PCol) (j : Nat) (tbl : List (List Val)) :
    (tbl.map (groupCells cols j)).map (·.map Val.toRat) = (tbl.map (·.map Val.toRat)).map (groupG cols j) := by
  rw [List.map_map, List.map_map]
  exact List.map_congr_left fun r _ => groupCells_map Val.toRat cols j r

/-- written rows whose cells all belong to the table: `usecols` cuts nothing. -/
theorem map_take_width {α β : Type} {rows : List (List α)} {w : Nat} (h : ∀ r ∈ rows, r.length = w) (c : α → β) :
    (rows.map fun r => (r.take w).map c) = rows.map fun r => r.map c :=
  List.map_congr_left fun r hr => by rw [← h r hr, List.take_length]

/-- the table reader in closed form over the table of values: with `tbl` read as the rows `R` seen through `g`, one row
    per atom, every listed property holds its own column group of every row. -/
theorem assignCols_holds {ρ : Type} (g : ρ → List ℚ) (R : List ρ) (box : Box ℚ) (cols : List PCol) (tbl : List (List Val))
    (s s' : Loaded) (hT : tbl.map (·.map Val.toRat) = R.map g) (hnd : (cols.map (·.prop)).Nodup)
    (hlen : tbl.length = s.natoms) (h : assignCols box cols (columnCells cols tbl) s = .ok s')
    (j : Nat) (hj : j < cols.length) (hid : cols[j].prop ≠ "a_id") :
    Holds s' cols[j] R fun r => groupG cols j (g r) := by
  have hjc : j < (columnCells cols tbl).length := by rw [columnCells_length]; exact hj
  have hcell : (columnCells cols tbl)[j] = tbl.map (groupCells cols j) := by simp [columnCells, groupCells]
  obtain ⟨q, hq1, hq2, hq3⟩ := assignCols_vals box cols _ s s' hnd h j hj hjc hid
    (by rw [hcell, List.length_map, hlen])
  have key : (tbl.map (groupCells cols j)).map (·.map Val.toRat) = R.map fun r => groupG cols j (g r) := by
    rw [groupCells_rat, hT, List.map_map]; rfl
  refine ⟨q, hq1, hq2, fun hu => ?_⟩
  rw [hq3 hu, hcell]
  simpa only [List.map_map, Function.comp_def] using congrArg (List.map (List.map (unitScale cols[j].unit))) key

/-- ("… every carried per-atom property … with unit conversions undone"): the table
    reader in closed form, property by property.  With one table row per atom, every listed property holds, in
    atom-id order (`sortRows`), the cells of its own column group (`groupCells`: the columns after those of the
    entries before it) exactly as read — or each times the unit factor of the entry — under the entry's shape. -/
theorem tableLoad_prop_values (s s' : Loaded) (rows : List Line) (cols : List PCol) (usecols : Bool)
    (hnd : (cols.map (·.prop)).Nodup) (h : tableLoad s rows cols usecols = .ok s') :
    ∃ tbl, readTable rows (colsWidth cols) usecols = .ok tbl ∧
      (tbl.length = s.natoms → ∀ (j : Nat) (hj : j < cols.length), cols[j].prop ≠ "a_id" →
        ∃ q, s'.prop? cols[j].prop = some q ∧ q.shape = cols[j].shape ∧
          (cols[j].unit = .none → q.vals = (sortRows cols tbl).map fun r => (groupCells cols j r).map Val.toRat) ∧
          (∀ f, cols[j].unit = .factor f →
            q.vals = (sortRows cols tbl).map fun r => (groupCells cols j r).map fun v => v.toRat * f)) := by
  unfold tableLoad at h
  obtain ⟨tbl, ht, h1⟩ := bind_ok h
  refine ⟨tbl, ht, fun hn => ?_⟩
  intro j hj hid
  have := (assignCols_holds (·.map Val.toRat) (sortRows cols tbl) s.box cols _ s s' rfl hnd (by rw [sortRows_length, hn]) h1
    j hj hid).unfold
  simpa only [← groupCells_map, List.map_map, Function.comp_def] using this

/-- rows written by a C07 writer in ascending id order, one per atom: every listed property comes back as the
    printed values of its column group (times its unit factor), under the shape of its `prop_info` entry. -/
theorem table_values_of_rows {f : Fmt} (hf : Readable f) (s s' : Loaded) (rows : List (List Cell)) (cols : List PCol)
    (n : Nat) (usecols : Bool) (hne : rows ≠ []) (hn : ∀ r ∈ rows, r.length = n)
    (hw : if usecols then colsWidth cols ≤ n else n = colsWidth cols)
    (hs : ∀ i, idIndex cols = some i →
      (rows.map fun r => (r.take (colsWidth cols)).map (cellRat f)).Pairwise fun a b => (a[i]?).getD 0 ≤ (b[i]?).getD 0)
    (hnd : (cols.map (·.prop)).Nodup) (hrows : rows.length = s.natoms)
    (h : tableLoad s (rowsDoc f rows) cols usecols = .ok s') :
    ∀ (j : Nat) (hj : j < cols.length), cols[j].prop ≠ "a_id" →
      ∃ q, s'.prop? cols[j].prop = some q ∧ q.shape = cols[j].shape ∧
        (cols[j].unit = .none →
          q.vals = rows.map fun r => groupG cols j ((r.take (colsWidth cols)).map (cellRat f))) ∧
        (∀ u, cols[j].unit = .factor u →
          q.vals = rows.map fun r => (groupG cols j ((r.take (colsWidth cols)).map (cellRat f))).map (· * u)) := by
  obtain ⟨tbl, h1, h2⟩ := tableLoad_rowsDoc hf s rows cols n usecols hne hn hw hs
  rw [h1] at h
  exact fun j hj hid => (assignCols_holds _ rows s.box cols tbl s s' h2 hnd
    (by rw [← hrows, ← List.length_map, h2, List.length_map]) h j hj hid).unfold

/-- rows written in ANY order, one per atom (`hd`, distinct ids, is carried and not used): every listed property comes back as the printed values
    of its column group (times its unit factor) **in id order**, under the shape of its `prop_info` entry. -/
theorem table_values_of_rows_sorted {f : Fmt} (hf : Readable f) (s s' : Loaded) (rows : List (List Cell))
    (cols : List PCol) (n : Nat) (usecols : Bool) (i : Nat) (hne : rows ≠ []) (hn : ∀ r ∈ rows, r.length = n)
    (hw : if usecols then colsWidth cols ≤ n else n = colsWidth cols)
    (hid : idIndex cols = some i) (hd : (rows.map (cellKey f (colsWidth cols) i)).Nodup)
    (hnd : (cols.map (·.prop)).Nodup) (hrows : rows.length = s.natoms)
    (h : tableLoad s (rowsDoc f rows) cols usecols = .ok s') :
    ∀ (j : Nat) (hj : j < cols.length), cols[j].prop ≠ "a_id" →
      ∃ q, s'.prop? cols[j].prop = some q ∧ q.shape = cols[j].shape ∧
        (cols[j].unit = .none →
          q.vals = (sortBy (cellKey f (colsWidth cols) i) rows).map fun r =>
            groupG cols j ((r.take (colsWidth cols)).map (cellRat f))) ∧
        (∀ u, cols[j].unit = .factor u →
          q.vals = (sortBy (cellKey f (colsWidth cols) i) rows).map fun r =>
            (groupG cols j ((r.take (colsWidth cols)).map (cellRat f))).map (· * u)) := by
  obtain ⟨tbl, h1, h2⟩ := tableLoad_rowsDoc_sorted hf s rows cols n usecols i hne hn hw hid hd
  rw [h1] at h
  exact fun j hj hid => (assignCols_holds _ _ s.box cols tbl s s' h2 hnd
    (by rw [← hrows, ← (sortBy_perm _ rows).length_eq, ← List.length_map, h2, List.length_map]) h j hj hid).unfold

theorem tableLoad_frame (s s' : Loaded) (rows : List Line) (cols : List PCol) (usecols : Bool)
    (h : tableLoad s rows cols usecols = .ok s') :
    s'.natoms = s.natoms ∧ s'.pbc = s.pbc ∧ s'.box = s.box ∧ s'.symbols = s.symbols ∧ s'.masses = s.masses := by
  unfold tableLoad at h
  obtain ⟨tbl, _, h1⟩ := bind_ok h
  exact assignCols_frame _ _ _ _ _ h1

theorem tableLoad_other (s s' : Loaded) (rows : List Line) (cols : List PCol) (usecols : Bool)
    (h : tableLoad s rows cols usecols = .ok s') (name : String) (hn : ∀ c ∈ cols, c.prop ≠ name) :
    s'.prop? name = s.prop? name := by
  unfold tableLoad at h
  obtain ⟨tbl, _, h1⟩ := bind_ok h
  exact assignCols_other _ _ _ _ _ h1 name hn

theorem colsWidth_eq_names (cols : List PCol) : colsWidth cols = ((cols.map (·.names)).flatten).length := by
  induction cols with
  | nil => rfl
  | cons c cs ih => simp [colsWidth] at ih ⊢; omega
-- the header line and the rows lex back whatever the float format: `hf` is not used
set_option linter.unusedVariables false in
/-- the text `table.dump` writes is read back as exactly the written rows,
    one atom per row; with `tableLoad_rowsDoc` (ids `1..N` are already in order) the numeric table is the printed
    values, assigned column group by column group. -/
theorem load_dump_roundtrip_table_partial {f : Fmt} (hf : Readable f) (s : Sys) (cols : List ColSpec) (u : Units)
    (header : Bool) (text : List Char) (hw : writeTable s cols u f header = .ok text)
    (hnames : ∀ t ∈ (cols.map fun c => c.names.map strTok).flatten, CleanTok t)
    (hn0 : (cols.map fun c => c.names.map strTok).flatten ≠ []) :
    ∃ rows, tableRows s u (seqIds s.natoms) s.pos cols [] = .ok rows ∧
      ((∀ r ∈ rows, r ≠ []) → ∀ box pcols,
        loadTable text box pcols header =
          tableLoad (Loaded.init box ⟨true, true, true⟩ rows.length [] []) (rowsDoc f rows) pcols false) := by
  obtain ⟨doc, hd, rfl⟩ := map_ok hw
  obtain ⟨rows, hr, hdoc⟩ := bind_ok hd
  cases hdoc
  refine ⟨rows, hr, fun hrows box pcols => ?_⟩
  have hdr : CleanDoc (if header = true then [(cols.map fun c => c.names.map strTok).flatten] else []) ∧
      ∀ l ∈ (if header = true then [(cols.map fun c => c.names.map strTok).flatten] else []), l ≠ [] := by
    cases header
    · exact ⟨List.forall_mem_nil _, List.forall_mem_nil _⟩
    · exact ⟨List.forall_mem_singleton.mpr hnames, List.forall_mem_singleton.mpr hn0⟩
  unfold loadTable selectRows
  rw [List.drop_zero, rowsOfN_render _ (cleanDoc_append _ _ hdr.1 (cleanDoc_rowsDoc f rows)),
    filter_nonempty _ (List.forall_mem_append.mpr ⟨hdr.2, rowsDoc_ne_nil rows hrows⟩)]
  cases header <;> simp [rowsDoc]


/-- undoing the unit conversion: a value written in file units (`q / L`), printed with `n` decimals and multiplied
    back by the unit factor differs from the original by at most half a unit of the last place times the factor. -/
theorem unit_roundtrip_error (q L : ℚ) (n : Nat) (hL : L ≠ 0) :
    |fixedVal (q / L) n * L - q| ≤ |L| / (2 * 10 ^ n) := by
  have h := fixedVal_error (q / L) n
  have e : fixedVal (q / L) n * L - q = (fixedVal (q / L) n - q / L) * L := by field_simp
  rw [e, abs_mul]
  have hp : (0 : ℚ) ≤ |L| := abs_nonneg L
  calc |fixedVal (q / L) n - q / L| * |L| ≤ 1 / (2 * 10 ^ n) * |L| := mul_le_mul_of_nonneg_right h hp
    _ = |L| / (2 * 10 ^ n) := by ring


end Atomman.C08
