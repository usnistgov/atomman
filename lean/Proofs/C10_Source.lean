/-
  C10 — the tie between `Atomman/Generated/ModelSource.lean` (regenerated from /repo's current source by
  `harness/props/c10.py: translate()` on every run) and the hand model `Atomman/C10.lean`: a generated definition equals
  the model's, or the model's behaviour on ALL inputs is what the generated table says.  A source edit that changes one
  of the extracted facts changes the generated file and breaks the named theorem here.
  Next to the tie of `dump`'s option handling and of the old elastic format stand the plain facts about the two model
  definitions it speaks of (`dumpEncoding_spec` / `_explicit` / `_encodes`, `legacyForm_refuses_count`).
-/
import Atomman.Generated.ModelSource
import Proofs.C10_Lemmas

namespace Atomman.C10
open Atomman Atomman.Generated

variable {K : Type}

/-- The 36 entries `normalized_as(cs)` hands to the `Cij` setter, regenerated from the `c_dict` formulas of every branch
    of `normalized_as` run through `ElasticConstants.__init__` and the constructor it dispatches to, are the model's
    `normForm` — every crystal system, every entry, `isotropic` through the two Hill estimates, unknown names refused. -/
theorem gen_normForm_eq_model [Add K] [Sub K] [Mul K] [Div K] [Neg K] [OfNat K 0] [IntCast K]
    (muK : Option (K × K)) (cs : String)
    (a00 a01 a02 a03 a04 a05 a10 a11 a12 a13 a14 a15 a20 a21 a22 a23 a24 a25
     a30 a31 a32 a33 a34 a35 a40 a41 a42 a43 a44 a45 a50 a51 a52 a53 a54 a55 : K) :
    normForm muK cs [a00, a01, a02, a03, a04, a05, a10, a11, a12, a13, a14, a15, a20, a21, a22, a23, a24, a25,
      a30, a31, a32, a33, a34, a35, a40, a41, a42, a43, a44, a45, a50, a51, a52, a53, a54, a55]
      = ModelSource.normEntries muK cs a00 a01 a02 a03 a04 a05 a10 a11 a12 a13 a14 a15 a20 a21 a22 a23 a24 a25
          a30 a31 a32 a33 a34 a35 a40 a41 a42 a43 a44 a45 a50 a51 a52 a53 a54 a55 := by
  -- the same chain of tests on both sides; in each branch the entries agree by unfolding the constructor's form
  rfl

private theorem len2 (n m : Nat) (r : List Nat) : (n :: m :: r).length ≠ 0 ∧ (n :: m :: r).length ≠ 1 := by
  simp

/-- For EVERY value, unit and working-unit configuration: the keys of the tree `uc.model(value, units)` returns are, in
    order, what the source's stores say for that rank (`value`, then `shape` for rank ≥ 2, then `unit` when given). -/
theorem gen_ucModel_keys_eq_model [Div K] [One K] [IntCast K] (fac : String → K) (u : Option String) (a : Arr K)
    (t : DM K) (h : ucModel fac u a = some t) :
    t.keys = ModelSource.ucModelKeys a.shape.length false u.isSome := by
  obtain ⟨_, _, _, _, rfl⟩ := ucModel_some h
  rcases hs : a.shape with _ | ⟨n, _ | ⟨m, r⟩⟩ <;> cases u <;> rfl

/-- the same with `error=`: `error` right after `value`. -/
theorem gen_ucModelE_keys_eq_model [Div K] [One K] [IntCast K] (fac : String → K) (u : Option String) (a : Arr K)
    (e : List K) (t : DM K) (h : ucModelE fac u a e = some t) :
    t.keys = ModelSource.ucModelKeys a.shape.length true u.isSome := by
  unfold ucModelE at h
  split at h
  · split at h
    · cases h
      rcases hs : a.shape with _ | ⟨n, _ | ⟨m, r⟩⟩ <;> cases u <;>
        simp [DM.keys, ModelSource.ucModelKeys, shapeEntry, unitEntry]
    · cases h
  · cases h

/-- the uncertainty is packed like the value in every rank branch of the source. -/
theorem gen_error_pack_eq_value_pack (n : Nat) : ModelSource.ucModelPackError n = ModelSource.ucModelPack n := by
  unfold ModelSource.ucModelPackError ModelSource.ucModelPack
  rfl

/-- packing: the `value` entry of the model's tree is a scalar exactly in the rank branch where the source calls
    `.item()`, a list otherwise (`.tolist()` / `.flatten().tolist()`); `shape` is there exactly where the source stores
    `list(value.shape)`. -/
theorem gen_ucModel_pack_eq_model [Div K] [One K] [IntCast K] (fac : String → K) (u : Option String) (a : Arr K)
    (t : DM K) (h : ucModel fac u a = some t) :
    ((ModelSource.ucModelPack a.shape.length = "item") ↔ ∃ x, t.get? "value" = some (.leaf x))
    ∧ (ModelSource.ucModelStoresShape a.shape.length = (t.get? "shape").isSome) := by
  obtain ⟨d, v, _, hv, rfl⟩ := ucModel_some h
  rw [node_get_value, node_get_shape]
  generalize a.shape = sh at hv ⊢
  rcases sh with _ | ⟨n, _ | ⟨m, r⟩⟩
  · obtain ⟨x, rfl⟩ : ∃ x, v = .leaf x := by
      simp only [valueNode] at hv
      split at hv
      · exact ⟨_, (Option.some.inj hv).symm⟩
      · cases hv
    exact ⟨⟨fun _ => ⟨_, rfl⟩, fun _ => rfl⟩, rfl⟩
  · cases hv
    exact ⟨⟨fun h => absurd h (by simp [ModelSource.ucModelPack]), fun ⟨_, h⟩ => nomatch h⟩, rfl⟩
  · cases hv
    exact ⟨⟨fun h => absurd h (by simp [ModelSource.ucModelPack]), fun ⟨_, h⟩ => nomatch h⟩, rfl⟩

/-- `value_unit` reads nothing but the keys the source looks up (`unit`, `value`, `shape`): removing every other entry
    of the term does not change the result, for every term. -/
theorem gen_valueUnit_reads_only [Mul K] [One K] [IntCast K] (fac : String → K) (kv : List (String × DM K)) :
    valueUnit fac (.node (kv.filter (fun e => ModelSource.valueUnitReads.contains e.1))) = valueUnit fac (.node kv) := by
  have h := fun k hk => lookup_filter (β := DM K) (fun k => ModelSource.valueUnitReads.contains k) k hk kv
  unfold valueUnit unitOf?
  simp only [DM.get?, h "value" (by decide), h "unit" (by decide), h "shape" (by decide)]

/-- the source has three rank branches (0, 1, more): the keys of any rank are those of rank 0, 1 or 2. -/
private theorem ucModelKeys_rank (n : Nat) (e u : Bool) :
    ∃ m ∈ [0, 1, 2], ModelSource.ucModelKeys n e u = ModelSource.ucModelKeys m e u := by
  rcases n with _ | _ | n
  · exact ⟨0, by decide, rfl⟩
  · exact ⟨1, by decide, rfl⟩
  · exact ⟨2, by decide, rfl⟩

/-- every key `uc.model` can write is one `value_unit` or `error_unit` looks up: writer keys ⊆ reader keys. -/
theorem gen_uc_writer_keys_sub_reader_keys (n : Nat) (e u : Bool) :
    ∀ k ∈ ModelSource.ucModelKeys n e u, k ∈ ModelSource.valueUnitReads ∨ k ∈ ModelSource.errorUnitReads := by
  obtain ⟨m, hm, h⟩ := ucModelKeys_rank n e u
  rw [h]
  clear h
  revert m e u
  decide

/-- and without `error=` the reader `value_unit` alone covers them. -/
theorem gen_uc_writer_keys_sub_valueUnit_reads (n : Nat) (u : Bool) :
    ∀ k ∈ ModelSource.ucModelKeys n false u, k ∈ ModelSource.valueUnitReads := by
  obtain ⟨m, hm, h⟩ := ucModelKeys_rank n false u
  rw [h]
  clear h
  revert m u
  decide

/-- the keys `Box.model` writes are the keys its reader looks up, in the same order, under the same root; each key
    holds the attribute of the same name, written with the method's `length_unit`; each value read goes to the `set`
    keyword of the same name; `set_vectors` stacks `avect, bvect, cvect` in that order. -/
theorem gen_box_writer_keys_eq_reader_keys :
    ModelSource.boxWrites.map (·.1) = ModelSource.boxReads.map (·.1) ∧ ModelSource.boxRoot = ModelSource.boxFind
    ∧ ModelSource.boxWrites.all (fun e => e.1 == e.2.1 && e.2.2 == "length_unit") = true
    ∧ ModelSource.boxReads.all (fun e => e.1 == e.2) = true
    ∧ (ModelSource.boxReads.map (·.2)).take 3 = ModelSource.boxSetVectorsRows
    ∧ ModelSource.boxSetTaken = "self.set_vectors(**kwargs)"
    ∧ ModelSource.boxModelParams.lookup "length_unit" = some (some "'angstrom'") := by
  decide

/-- For EVERY box, unit and configuration: the model's `Box.model` tree is `{root: {keys of the source, in order}}`. -/
theorem gen_boxModel_keys_eq_model [Div K] [One K] [IntCast K] (fac : String → K) (u : Option String) (b : Box K)
    (t : DM K) (h : boxModel fac u b = some t) :
    ∃ kv, t = .node [(ModelSource.boxRoot, .node kv)] ∧ kv.map Prod.fst = ModelSource.boxWrites.map (·.1) := by
  unfold boxModel at h
  split at h
  · cases h; exact ⟨_, rfl, rfl⟩
  · cases h

/-- the model's `Box(model=…)` depends on exactly the four entries the source's reader looks up under the root it
    finds: every other entry of the box node can be dropped, for every tree. -/
theorem gen_boxRead_reads_only [Mul K] [Div K] [Neg K] [One K] [OfNat K 0] [IntCast K] [LT K] [DecidableLT K]
    (fac : String → K) (eps : K) (kv : List (String × DM K)) :
    boxRead fac eps (.node [(ModelSource.boxFind,
        .node (kv.filter (fun e => (ModelSource.boxReads.map (·.1)).contains e.1)))])
      = boxRead fac eps (.node [(ModelSource.boxFind, .node kv)]) := by
  have h := fun k hk => lookup_filter (β := DM K) (fun k => (ModelSource.boxReads.map (·.1)).contains k) k hk kv
  have hf : ModelSource.boxFind = "box" := rfl
  simp only [boxRead, hf, DM.get?, List.lookup_cons_self, h "avect" (by decide), h "bvect" (by decide),
    h "cvect" (by decide), h "origin" (by decide)]

/-- the tolerances of the two setters in the source are the model's (and the driver's) `setterAtol`. -/
theorem gen_setter_atol_eq_model :
    ModelSource.vectsAtol = setterAtol ∧ ModelSource.cijZeroAtol = setterAtol ∧ ModelSource.cijSymAtol = setterAtol
    ∧ ModelSource.cijShape = [6, 6] ∧ ModelSource.vectsSetterDropsKept = true := by
  decide

theorem gen_atoms_writer_keys_eq_reader_keys :
    ModelSource.atomsRoot = ModelSource.atomsFind ∧ ModelSource.atomsCountKey = ModelSource.atomsReadCountKey
    ∧ ModelSource.atomsAppendKey = ModelSource.atomsReadAslist
    ∧ ModelSource.atomsPropKeys = ModelSource.atomsReadPropKeys := by
  decide

/-- every property entry of the model has the keys of the source's `propmodel`, in order. -/
theorem gen_propModel_keys_eq_model [Div K] [One K] [IntCast K] (fac : String → K) (a : AtomsM K)
    (pu : String × Option String) (t : DM K) (h : propModel fac a pu = some t) :
    t.keys = ModelSource.atomsPropKeys := by
  unfold propModel at h
  split at h
  · cases h
  · split at h
    · cases h
    · cases h; rfl

/-- For EVERY Atoms object and unit dictionary: the model's tree is `{root: {natoms, property?}}` with the source's
    key names, `property` present exactly when a property is written. -/
theorem gen_atomsModel_keys_eq_model [Div K] [One K] [IntCast K] (fac : String → K)
    (pu : List (String × Option String)) (a : AtomsM K) (t : DM K) (h : atomsModel fac pu a = some t) :
    ∃ kv, t = .node [(ModelSource.atomsRoot, .node kv)]
      ∧ kv.map Prod.fst = ModelSource.atomsCountKey :: (if pu.isEmpty then [] else [ModelSource.atomsAppendKey]) := by
  unfold atomsModel at h
  split at h
  · cases h
  · rename_i ps hps
    cases h
    refine ⟨_, rfl, ?_⟩
    have hl := mapOpt_length _ _ _ hps
    simp only [List.map_cons, appendAll_keys]
    cases pu <;> cases ps <;> simp_all [ModelSource.atomsCountKey, ModelSource.atomsAppendKey]

/-- the default unit of the source (`pos` without a unit is written in angstrom, in a copy of the dictionary) is the
    model's `effUnit`; a given unit and every other name are left alone. -/
theorem gen_atoms_default_unit_eq_model :
    effUnit ModelSource.atomsDefaultUnit.1 none = some ModelSource.atomsDefaultUnit.2
    ∧ (∀ p v, effUnit p (some v) = some v)
    ∧ (∀ p u, p ≠ ModelSource.atomsDefaultUnit.1 → effUnit p u = u) := by
  refine ⟨rfl, ?_, ?_⟩
  · intro p v; unfold effUnit; split <;> rfl
  · intro p u hp
    have : ModelSource.atomsDefaultUnit.1 = "pos" := rfl
    rw [this] at hp
    simp [effUnit, hp]

/-- `Atoms.__init__` takes `atype` and `pos` out of the dictionary first: whatever `Atoms(model=…)` accepts starts
    with these two names, in the model as in the source. -/
theorem gen_atoms_first_eq_model [OfNat K 0] (n : Nat) (ps : List (String × Arr K)) (a : AtomsM K)
    (h : atomsOfProps n ps = some a) : (a.props.map Prod.fst).take 2 = ModelSource.atomsFirst := by
  unfold atomsOfProps at h
  simp only at h
  split at h
  · split at h
    · split at h
      · split at h
        · split at h
          · cases h
          · cases h; rfl
        · cases h
      · cases h
    · cases h
  · cases h

/-- For EVERY System, box unit and unit dictionary: the entries under the root of the model's tree are the source's,
    in the source's order; `atom-type-symbol` exactly when there is a symbol, `atom-type-mass` exactly when some mass
    is not `None`. -/
theorem gen_systemModel_keys_eq_model [Add K] [Sub K] [Mul K] [Div K] [One K] [IntCast K]
    (fac : String → K) (bu : Option String) (pu : List (String × Option String)) (s : SystemM K) (t : DM K)
    (h : systemModel fac bu pu s = some t) :
    ∃ kv, t = .node [(ModelSource.systemRoot, .node kv)]
      ∧ kv.map Prod.fst = ModelSource.systemKeys (!s.symbols.isEmpty) (s.masses.any Option.isSome) := by
  unfold systemModel at h
  split at h
  · cases h
    refine ⟨_, rfl, ?_⟩
    simp only [List.map_append, List.map_cons, List.map_nil, appendAll_keys, ModelSource.systemKeys]
    cases hs : s.symbols <;> cases hm : s.masses.any Option.isSome <;> simp
    all_goals
      have hne : s.masses ≠ [] := by
        intro hm'
        rw [hm'] at hm
        simp at hm
      simp [hne]
  · cases h

/-- reader side of `System`: what the source's reader looks up is what its writer stores (same root, same keys); the
    keywords `dump` hands to `System.model` and `System.model` hands to `Atoms.model` go to the parameter of the same
    name, and are exactly the parameters of the callee. -/
theorem gen_system_writer_keys_eq_reader_keys :
    ModelSource.systemRoot = ModelSource.systemFind
    ∧ (ModelSource.systemReads.map (·.1)) = [ModelSource.systemPbcKey, ModelSource.systemSymbolKey, ModelSource.systemMassKey]
    ∧ ModelSource.systemKeys true true = [ModelSource.systemBoxKey, ModelSource.systemPbcKey,
        ModelSource.systemSymbolKey, ModelSource.systemMassKey, ModelSource.systemAtomsKey]
    ∧ ModelSource.systemBoxKey = ModelSource.boxRoot ∧ ModelSource.systemAtomsKey = ModelSource.atomsRoot
    ∧ ModelSource.dumpPasses.all (fun e => e.1 == e.2) = true
    ∧ ModelSource.dumpPasses.map (·.1) = ModelSource.systemModelParams.map (·.1)
    ∧ ModelSource.systemPasses.map (·.1) = ModelSource.atomsModelParams.map (·.1)
    ∧ ModelSource.systemModelParams.all (fun e => e.2 == some "None") = true
    ∧ ModelSource.atomsModelParams.all (fun e => e.2 == some "None") = true
    ∧ (ModelSource.systemModelParams.map (·.1)).all (fun n => (ModelSource.dumpParams.map (·.1)).contains n) = true := by
  decide

/-- only the properties whose (effective) unit is the source's `'scaled'` are re-written box-relative; `'scaled'`
    itself is the factor 1. -/
theorem gen_system_scaled_eq_model [Add K] [Sub K] [Mul K] [Div K] [One K] [IntCast K]
    (fac : String → K) (s : SystemM K) (pu : String × Option String)
    (h : effUnit pu.1 pu.2 ≠ some ModelSource.systemScaledUnit) :
    sysPropModel fac s pu = propModel fac s.atoms pu ∧ factor fac ModelSource.systemScaledUnit = 1 := by
  have hs : ModelSource.systemScaledUnit = "scaled" := rfl
  rw [hs] at h ⊢
  refine ⟨?_, by simp [factor]⟩
  unfold sysPropModel
  cases propModel fac s.atoms pu <;> simp [h]

theorem gen_ec_writer_keys_eq_reader_keys :
    ModelSource.ecRoot = ModelSource.ecFind ∧ ModelSource.ecKey = ModelSource.ecReadKey
    ∧ ModelSource.ecModelParams.lookup "crystal_system" = some (some "'triclinic'")
    ∧ ModelSource.ecModelParams.lookup "unit" = some (some "None") := by
  decide

theorem gen_ecModel_keys_eq_model [Div K] [One K] [IntCast K] (fac : String → K) (u : Option String)
    (norm : List K → List K) (c : List K) (t : DM K) (h : ecModel fac u norm c = some t) :
    ∃ m, t = .node [(ModelSource.ecRoot, .node [(ModelSource.ecKey, m)])] :=
  ecModel_some h

/-- the crystal systems the source's `normalized_as` knows, the constructor each goes to and the keywords it hands
    over: every closed-form system goes to the constructor of its own name. -/
theorem gen_norm_branches :
    ModelSource.normBranches.all (fun e => e.1 == e.2.1) = true
    ∧ ModelSource.normBranches.map (·.1) = ["isotropic", "cubic", "hexagonal", "tetragonal", "rhombohedral",
        "orthorhombic", "monoclinic"]
    ∧ ModelSource.normBranches.map (·.2.2.length) = [2, 3, 5, 7, 7, 9, 13] := by
  decide

/-- The model's `dumpEncoding` IS the source's option handling: whatever the target, a given format name goes through
    the generated `if format.lower() == …` chain of that target (value returned / handle / path); without a format
    name the value is returned as the tree, a handle gets the source's fallback name, a path its extension. -/
theorem gen_dumpEncoding_eq_model (f ext : String) :
    dumpEncoding (some f) .returned = ModelSource.dumpChainReturned f
    ∧ dumpEncoding (some f) .handle = ModelSource.dumpChainHandle f
    ∧ dumpEncoding (some f) (.path ext) = ModelSource.dumpChainPath f
    ∧ dumpEncoding none .returned = some "tree"
    ∧ dumpEncoding none .handle = ModelSource.dumpChainHandle ModelSource.dumpFallbackFormat
    ∧ dumpEncoding none (.path ext) = ModelSource.dumpChainPath ext
    ∧ ModelSource.dumpFormats.map (·.1) = ["format is None", "format.lower() == 'xml'", "format.lower() == 'json'"] :=
  ⟨rfl, rfl, rfl, rfl, rfl, rfl, rfl⟩

/-- refusal-free but lossy: `dump` produces text of a kind exactly when the effective format name is that kind in some
    spelling of upper / lower case; the tree exactly when neither a target nor a format is given; and NOTHING for
    every other name (no exception: the chain has no `else`). -/
theorem dumpEncoding_spec (format : Option String) (tgt : DumpTarget) :
    (dumpEncoding format tgt = some "tree" ↔ dumpFormatName format tgt = none)
    ∧ (∀ f, dumpFormatName format tgt = some f →
        (dumpEncoding format tgt = some "xml" ↔ f.toLower = "xml")
        ∧ (dumpEncoding format tgt = some "json" ↔ f.toLower = "json")
        ∧ (dumpEncoding format tgt = none ↔ f.toLower ≠ "xml" ∧ f.toLower ≠ "json")) := by
  unfold dumpEncoding
  constructor
  · cases h : dumpFormatName format tgt with
    | none => simp
    | some f =>
      simp only [reduceCtorEq, iff_false]
      split <;> [skip; split] <;> simp
  · intro f hf
    rw [hf]
    by_cases hx : f.toLower = "xml"
    · simp [hx]
    · by_cases hj : f.toLower = "json"
      · simp [hj]
      · simp [hx, hj]

/-- a given format name wins over the target; the target matters only through the defaulting. -/
theorem dumpEncoding_explicit (f : String) (tgt : DumpTarget) :
    dumpEncoding (some f) tgt = dumpEncoding (some f) .returned := by
  cases tgt <;> rfl

/-- what `dump` produces is always something `encode` accepts: the encodings compose. -/
theorem dumpEncoding_encodes (format : Option String) (tgt : DumpTarget) (e : String) (t : DM K)
    (h : dumpEncoding format tgt = some e) : encode e t ≠ none := by
  unfold dumpEncoding at h
  split at h
  · cases h; simp [encode]
  · split at h
    · cases h; simp [encode]
    · split at h
      · cases h; simp [encode]
      · cases h

/-- `Atoms(model=…)` reads, under the root it finds, nothing but the count and the property list. -/
theorem gen_atomsRead_reads_only [Mul K] [One K] [OfNat K 0] [IntCast K] (fac : String → K)
    (kv : List (String × DM K)) :
    atomsRead fac (.node [(ModelSource.atomsFind, .node (kv.filter (fun e =>
        [ModelSource.atomsReadCountKey, ModelSource.atomsReadAslist].contains e.1)))])
      = atomsRead fac (.node [(ModelSource.atomsFind, .node kv)]) := by
  have h := fun k hk => lookup_filter (β := DM K)
    (fun k => [ModelSource.atomsReadCountKey, ModelSource.atomsReadAslist].contains k) k hk kv
  have hf : ModelSource.atomsFind = "atoms" := rfl
  simp only [atomsRead, hf, DM.get?, DM.aslist, List.lookup_cons_self, h "natoms" (by decide), h "property" (by decide)]

/-- every property entry is read through `name` and `data` only. -/
theorem gen_propRead_reads_only [Mul K] [One K] [IntCast K] (fac : String → K) (kv : List (String × DM K)) :
    propRead fac (.node (kv.filter (fun e => ModelSource.atomsReadPropKeys.contains e.1))) = propRead fac (.node kv) := by
  have h := fun k hk => lookup_filter (β := DM K) (fun k => ModelSource.atomsReadPropKeys.contains k) k hk kv
  simp only [propRead, DM.getStr?, DM.get?, h "name" (by decide), h "data" (by decide)]

/-- `System(model=…)` — with the `Box(model=)` and `Atoms(model=)` it calls on the same node — reads, under the root
    it finds, nothing but the five entries `System.model` writes. -/
theorem gen_systemRead_reads_only [Add K] [Sub K] [Mul K] [Div K] [Neg K] [One K] [OfNat K 0] [IntCast K] [LT K]
    [DecidableLT K] (fac : String → K) (eps : K) (kv : List (String × DM K)) :
    systemRead fac eps (.node [(ModelSource.systemFind,
        .node (kv.filter (fun e => (ModelSource.systemKeys true true).contains e.1)))])
      = systemRead fac eps (.node [(ModelSource.systemFind, .node kv)]) := by
  have h := fun k hk => lookup_filter (β := DM K) (fun k => (ModelSource.systemKeys true true).contains k) k hk kv
  have hf : ModelSource.systemFind = "atomic-system" := rfl
  simp only [systemRead, boxRead, atomsRead, hf, DM.get?, DM.aslist, List.lookup_cons_self, h "box" (by decide),
    h "periodic-boundary-condition" (by decide), h "atom-type-symbol" (by decide), h "atom-type-mass" (by decide),
    h "atoms" (by decide)]

/-- `ElasticConstants(model=…)` reads the one entry the writer stores. -/
theorem gen_ecRead_reads_only [Add K] [Sub K] [Mul K] [Div K] [Neg K] [One K] [OfNat K 0] [IntCast K] [LT K]
    [DecidableLT K] (fac : String → K) (eps atol rtol : K) (kv : List (String × DM K)) :
    ecRead fac eps atol rtol (.node [(ModelSource.ecFind, .node (kv.filter (fun e => [ModelSource.ecReadKey].contains e.1)))])
      = ecRead fac eps atol rtol (.node [(ModelSource.ecFind, .node kv)]) := by
  have h1 := lookup_filter (β := DM K) (fun k => [ModelSource.ecReadKey].contains k) "Cij" (by decide) kv
  have hf : ModelSource.ecFind = "elastic-constants" := rfl
  simp only [ecRead, hf, DM.get?, List.lookup_cons_self, h1]

/-- the keyword of an old-format entry as the source forms it (`prefix + C[ik][i] + C[ik][j]`, an `IndexError` when the
    string is too short) is the model's `legacyKey`. -/
theorem gen_legacyKey_eq_model (ij : String) :
    legacyKey ij =
      match ij.toList[ModelSource.ecLegacyIndexChars.getD 0 0]?, ij.toList[ModelSource.ecLegacyIndexChars.getD 1 0]? with
      | some a, some b => some (ModelSource.ecLegacyPrefix ++ String.ofList [a, b])
      | _, _ => none := by
  unfold legacyKey
  rcases h : ij.toList with _ | ⟨a, _ | ⟨b, _ | ⟨c, r⟩⟩⟩ <;> rfl

/-- root, list key, index key, value key of the old format are the ones the model's `ecReadLegacy` /
    `legacyEntryRead` look up; exactly two characters are taken from the index string. -/
theorem gen_ecLegacy_keys_eq_model :
    ModelSource.ecFind = "elastic-constants" ∧ ModelSource.ecLegacyListKey = "C" ∧ ModelSource.ecLegacyIndexKey = "ij"
    ∧ ModelSource.ecLegacyValueKey = "stiffness" ∧ ModelSource.ecLegacyIndexChars.length = 2
    ∧ ModelSource.ecLegacyListKey ≠ ModelSource.ecReadKey := by
  decide

/-- `ElasticConstants(**c_dict)` for every keyword set of a standard representation: the 36 entries regenerated from
    `__init__`'s dispatch on the number of keywords and the constructor it reaches ARE the model's `legacyForm` of the
    dictionary with these keywords, whatever their values. -/
theorem gen_legacyForm_eq_model [Add K] [Sub K] [Mul K] [Div K] [Neg K] [OfNat K 0] [IntCast K]
    (keys : List String) (g : String → K) (h : keys ∈ ModelSource.legacyBranches.map Prod.fst) :
    legacyForm (keys.map (fun k => (k, g k))) = ModelSource.legacyEntries keys g := by
  simp only [ModelSource.legacyBranches, List.map_cons, List.map_nil, List.mem_cons, List.not_mem_nil, or_false] at h
  rcases h with h | h | h | h | h | h | h | h | h | h <;> subst h <;> rfl

/-- the dispatch of `__init__` on the number of keywords: each standard set reaches the constructor of its name, and
    the model refuses every dictionary whose size is none of 2, 3, 5, 6, 7, 9, 13, 21 (the source: `TypeError`; 8 — a
    rhombohedral set with the redundant `C66` — is outside the model). -/
theorem gen_legacy_branches :
    ModelSource.legacyBranches.map (fun b => (b.1.length, b.2)) =
      [(2, "isotropic"), (3, "cubic"), (5, "hexagonal"), (6, "tetragonal"), (7, "tetragonal"), (6, "rhombohedral"),
       (7, "rhombohedral"), (9, "orthorhombic"), (13, "monoclinic"), (21, "triclinic")] := by
  decide

theorem legacyForm_refuses_count [Add K] [Sub K] [Mul K] [Div K] [Neg K] [OfNat K 0] [IntCast K]
    (kw : List (String × K)) (h : kw.length ∉ [2, 3, 5, 6, 7, 9, 13, 21]) : legacyForm kw = none := by
  simp only [List.mem_cons, List.not_mem_nil, or_false, not_or] at h
  obtain ⟨h2, h3, h5, h6, h7, h9, h13, h21⟩ := h
  simp [legacyForm, h2, h3, h5, h6, h7, h9, h13, h21]

/-- The statement `if prop_unit is None: … elif …: raise` at the top of `Atoms.model`, regenerated as a Lean definition
    (defaults of the two lists, the refusals in their order, the dictionary filled from `zip(prop_name, unit)`), IS the
    model's `resolveCall` — for every form of the three arguments and every object. -/
theorem gen_resolveCall_eq_model (own : List String) (pn : Option (List String)) (un : Option (List (Option String)))
    (pu : Option (List (String × Option String))) :
    resolveCall own pn un pu = ModelSource.atomsResolveCall own pn un pu := by
  cases pu with
  | some d => cases pn <;> cases un <;> simp [resolveCall, ModelSource.atomsResolveCall]
  | none =>
    cases pn <;> cases un <;>
      simp [resolveCall, ModelSource.atomsResolveCall, List.map_const', eq_comm]

/-- The flag loop in front of the masses (`addmasses`), regenerated as a `List.any`, is the guard the model's
    `systemModel` uses: the masses are written iff one of them is not `None` — a mass of exactly 0 counts. -/
theorem gen_massesGuard_eq_model [OfNat K 0] [DecidableEq K] (ms : List (Option K)) :
    ModelSource.massesGuard ms = ms.any Option.isSome := by
  rfl

/-- `load('system_model')`: the defaults `key='atomic-system'`, `index=0`; the lookup is `finds`; an entry with the
    box key is wrapped under the root `System(model=)` looks for — the model's `loadSystem`. -/
theorem gen_load_eq_model :
    ModelSource.loadParams.lookup "key" = some (some ("'" ++ ModelSource.systemFind ++ "'"))
    ∧ ModelSource.loadParams.lookup "index" = some (some "0")
    ∧ ModelSource.loadLookup = "finds" ∧ ModelSource.loadBoxTest = ModelSource.systemBoxKey
    ∧ ModelSource.loadBoxTest = "box" ∧ ModelSource.loadWrapKey = ModelSource.systemFind
    ∧ ModelSource.loadWrapKey = "atomic-system" := by
  decide

end Atomman.C10
