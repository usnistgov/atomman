/-
  C05 — the property theorems for the model of `System.wrap` / `atomman.lammps.normalize`, over any linearly ordered field,
  and the root module the check audits (it imports C05_Source and C05_Heap only to put their theorems in scope).  In order:
  `wrap_*`, `normalize_*` on the functions; one coherent object and any point of a history (`wrapC_*` / `normalizeC_full` with their
  `hist_*` instances, the margin condition); lengths, angles, refusals; `box_set(scale=…)`; uniqueness; the entry points (`api_*`).
  The test vectors over ℚ come first; each instance of the hypotheses stands after its theorem.
-/
import Proofs.C05_Lemmas
import Proofs.C05_Cell
import Proofs.C05_Hist
import Proofs.C05_Source
import Proofs.C05_Clean
import Proofs.C05_Heap
import Proofs.C05_Routines

namespace Atomman.C05
open Atomman

-- where a statement does not need all three, `linter.unusedSectionVars` is switched off for it
variable {K : Type} [Field K] [LinearOrder K] [IsStrictOrderedRing K]

-- test vectors over ℚ for the instances that stand beside the theorems
/-- a rational square root good enough for the 3-4-5 example cell. -/
def sqrtQ (x : ℚ) : ℚ := if x = 9 then 3 else if x = 16 then 4 else if x = 25 then 5 else 0

/-- left-handed cell (det = -60), non-zero origin. -/
def exBox : Box ℚ := ⟨⟨⟨0, 3, 0⟩, ⟨4, 0, 0⟩, ⟨0, 0, 5⟩⟩, ⟨1, 1, 1⟩⟩
def exPos : List (V3 ℚ) := [⟨1, 1, 1⟩, ⟨-7, 9/2, 23/2⟩, ⟨3, 2, 7/2⟩]

-- over ℚ the square-root hypotheses are decidable: the instances below check them by evaluation
instance (sqrt : ℚ → ℚ) (x : ℚ) : Decidable (SqrtAt sqrt x) := inferInstanceAs (Decidable (_ ∧ _))
instance (sqrt : ℚ → ℚ) (v : M3 ℚ) : Decidable (SqrtOK sqrt v) :=
  decidable_of_iff (SqrtAt sqrt (V3.normSq v.r0) ∧ SqrtAt sqrt (V3.normSq v.r1) ∧ SqrtAt sqrt (V3.normSq v.r2) ∧
      SqrtAt sqrt (lyArg sqrt v) ∧ SqrtAt sqrt (lzArg sqrt v))
    ⟨fun ⟨a, b, c, d, e⟩ => ⟨a, b, c, d, e⟩, fun h => ⟨h.a, h.b, h.c, h.ly, h.lz⟩⟩

/-- floor, padding 1/1000, `tiny` 1e-9, the 3-4-5 square root. -/
def exPar : Params ℚ := ⟨Rat.floor, 1/1000, 1/1000000000, sqrtQ⟩
/-- a history on one object: read the scaled positions, `box_set(scale=True)` with the same vectors and the origin moved
    by 1/1000 along z, wrap, normalize, make y non-periodic, wrap again. -/
def exHist : List (Op ℚ) :=
  [.spos, .boxSet true ⟨⟨0, 3, 0⟩, ⟨4, 0, 0⟩, ⟨0, 0, 5⟩⟩ ⟨1, 1, 1001/1000⟩, .wrap, .normalize, .setPbc ⟨true, false, true⟩, .wrap]
def exSys : CSys ℚ := ⟨exBox, none, ⟨true, true, true⟩, exPos⟩

/-- a history with an edit of the positions, ending fully periodic: the hypotheses of `hist_normalize_full` hold. -/
def exHist2 : List (Op ℚ) := [.spos, .setPos [⟨1, 1, 1⟩, ⟨-7, 9/2, 23/2⟩], .wrap, .setOrigin ⟨0, 1/2, 0⟩]

/-- **wrap_reconstruct**: the returned image flags reconstruct the original positions with the original
    cell vectors, and are zero along non-periodic directions (atoms are not moved there). -/
theorem wrap_reconstruct (fl : K → Int) (pad : K) (b : Box K) (hdet : M3.det b.vects ≠ 0) (pbc : V3 Bool)
    (pos : List (V3 K)) :
    List.zipWith (fun p' f => p' + latticeVec b.vects f) (wrap fl pad b pbc pos).pos (wrap fl pad b pbc pos).flags
      = pos ∧
    (wrap fl pad b pbc pos).pos.length = pos.length ∧ (wrap fl pad b pbc pos).flags.length = pos.length ∧
    ∀ f ∈ (wrap fl pad b pbc pos).flags,
      (pbc.x = false → f.x = 0) ∧ (pbc.y = false → f.y = 0) ∧ (pbc.z = false → f.z = 0) := by
  refine ⟨?_, by simp [wrap], by simp [wrap], ?_⟩
  · simp only [wrap, List.zipWith_map_left, List.zipWith_map_right, List.zipWith_self]
    exact (List.map_congr_left fun p _ => atom_reconstruct fl b hdet pbc p).trans (List.map_id' pos)
  · intro f hf
    simp only [wrap, List.mem_map] at hf
    obtain ⟨p, _, rfl⟩ := hf
    exact atomFlags_nonperiodic fl b pbc p

/-- **wrap_periodic_axes_fixed**: periodic cell vectors are untouched; every new cell vector is the old
    one times a factor `≥ 1` (non-periodic ones are only lengthened); the origin moves only along
    non-periodic directions and only backwards; a fully periodic box is returned unchanged; the old
    cell is contained in the new one. -/
theorem wrap_periodic_axes_fixed (fl : K → Int) (pad : K) (hpad : 0 < pad) (b : Box K) (pbc : V3 Bool)
    (pos : List (V3 K)) :
    ((pbc.x = true → (wrap fl pad b pbc pos).box.vects.r0 = b.vects.r0) ∧
     (pbc.y = true → (wrap fl pad b pbc pos).box.vects.r1 = b.vects.r1) ∧
     (pbc.z = true → (wrap fl pad b pbc pos).box.vects.r2 = b.vects.r2)) ∧
    (∃ kx ky kz : K, 1 ≤ kx ∧ 1 ≤ ky ∧ 1 ≤ kz ∧
      (wrap fl pad b pbc pos).box.vects = ⟨V3.smul kx b.vects.r0, V3.smul ky b.vects.r1, V3.smul kz b.vects.r2⟩) ∧
    (∃ m : V3 K, m.x ≤ 0 ∧ m.y ≤ 0 ∧ m.z ≤ 0 ∧ (pbc.x = true → m.x = 0) ∧ (pbc.y = true → m.y = 0) ∧
      (pbc.z = true → m.z = 0) ∧ (wrap fl pad b pbc pos).box.origin = b.origin + M3.vecMul m b.vects) ∧
    (pbc = ⟨true, true, true⟩ → (wrap fl pad b pbc pos).box = b) ∧
    (M3.det b.vects ≠ 0 → ∀ t : V3 K, insideRel t →
      insideRel ((wrap fl pad b pbc pos).box.cartToRel (b.relToCart t))) := by
  obtain ⟨wx, wy, wz⟩ := bounds_width pad hpad pbc (pos.map b.cartToRel)
  obtain ⟨x1, x2, _⟩ := axisBounds_spec pad hpad pbc.x ((pos.map b.cartToRel).map (·.x))
  obtain ⟨y1, y2, _⟩ := axisBounds_spec pad hpad pbc.y ((pos.map b.cartToRel).map (·.y))
  obtain ⟨z1, z2, _⟩ := axisBounds_spec pad hpad pbc.z ((pos.map b.cartToRel).map (·.z))
  -- the factors are the widths `maxs_i - mins_i` of `bounds`, the origin moves by `mins·vects` (both by `rfl` from `paddedBox`)
  refine ⟨⟨smul_width_periodic _ _ _, smul_width_periodic _ _ _, smul_width_periodic _ _ _⟩, ⟨_, _, _, wx, wy, wz, rfl⟩,
    ⟨⟨_, _, _⟩, x1, y1, z1, axisBounds_lo_periodic _ _, axisBounds_lo_periodic _ _, axisBounds_lo_periodic _ _, rfl⟩,
    ?_, ?_⟩
  · rintro rfl
    exact wrap_box_full fl pad b pos
  · intro hdet t ⟨t0, t1, t2, t3, t4, t5⟩
    obtain ⟨px, py, pz⟩ := bounds_width_pos pad hpad pbc (pos.map b.cartToRel)
    rw [show (wrap fl pad b pbc pos).box = paddedBox b (bounds pad pbc (pos.map b.cartToRel)) from rfl,
      cartToRel_paddedBox b hdet _ t px.ne' py.ne' pz.ne']
    obtain ⟨ax, bx⟩ := unit_rescale x1 x2 t0 t1
    obtain ⟨ay, by'⟩ := unit_rescale y1 y2 t2 t3
    obtain ⟨az, bz⟩ := unit_rescale z1 z2 t4 t5
    exact ⟨ax, bx, ay, by', az, bz⟩

/-- **wrap_idem**: wrapping a wrapped system changes nothing: same box, same positions, all flags zero. -/
theorem wrap_idem (fl : K → Int) (hfl : IsFloor fl) (pad : K) (hpad : 0 < pad) (b : Box K)
    (hdet : M3.det b.vects ≠ 0) (pbc : V3 Bool) (pos : List (V3 K)) :
    (wrap fl pad (wrap fl pad b pbc pos).box pbc (wrap fl pad b pbc pos).pos).box = (wrap fl pad b pbc pos).box ∧
    (wrap fl pad (wrap fl pad b pbc pos).box pbc (wrap fl pad b pbc pos).pos).pos = (wrap fl pad b pbc pos).pos ∧
    ∀ f ∈ (wrap fl pad (wrap fl pad b pbc pos).box pbc (wrap fl pad b pbc pos).pos).flags, f = ⟨0, 0, 0⟩ := by
  have hd := det_wrap_ne_zero fl pad hpad b hdet pbc pos
  -- every new position is seen by the new box at `newRel`: in `[0, 1)`, and off the face on non-periodic axes
  have key : ∀ p' ∈ (wrap fl pad b pbc pos).pos, ∃ p ∈ pos,
      (wrap fl pad b pbc pos).box.cartToRel p' = newRel fl pad b pbc pos p := by
    intro p' hp'
    obtain ⟨p, hp, rfl⟩ := List.mem_map.mp hp'
    exact ⟨p, hp, wrap_cartToRel fl pad hpad b hdet pbc pos p⟩
  have hin : ∀ p' ∈ (wrap fl pad b pbc pos).pos, insidePeriodic (wrap fl pad b pbc pos).box pbc p' := fun p' hp' => by
    obtain ⟨x0, x1, y0, y1, z0, z1⟩ := wrap_inside_strict fl hfl pad hpad b hdet pbc pos p' hp'
    exact ⟨fun _ => ⟨x0, x1⟩, fun _ => ⟨y0, y1⟩, fun _ => ⟨z0, z1⟩⟩
  refine ⟨?_, ?_, ?_⟩
  · show paddedBox _ (bounds pad pbc ((wrap fl pad b pbc pos).pos.map (wrap fl pad b pbc pos).box.cartToRel)) = _
    rw [bounds_of_strict, paddedBox_unit]
    refine List.forall_mem_map.mpr (fun p' hp' => ?_)
    obtain ⟨p, hp, e⟩ := key p' hp'
    obtain ⟨⟨_, x1, x2⟩, ⟨_, y1, y2⟩, ⟨_, z1, z2⟩⟩ := newRel_facts fl hfl pad hpad b pbc pos p hp
    rw [e]
    exact ⟨fun h => ⟨x2 h, x1⟩, fun h => ⟨y2 h, y1⟩, fun h => ⟨z2 h, z1⟩⟩
  · show (wrap fl pad b pbc pos).pos.map (atomPos fl (wrap fl pad b pbc pos).box pbc) = (wrap fl pad b pbc pos).pos
    exact (List.map_congr_left fun p' hp' => atomPos_of_inside fl hfl _ hd pbc p' (hin p' hp')).trans (List.map_id' _)
  · intro f hf
    obtain ⟨p', hp', rfl⟩ := List.mem_map.mp hf
    exact atomFlags_of_inside fl hfl _ pbc p' (hin p' hp')

/-- **flip_same_points**: reversing the third vector of a cell and moving the origin to its tip
    describes the same points (`s_c ↦ 1 - s_c`), the same parallelepiped, the same lattice, with the
    opposite handedness; `flip` therefore always yields a right-handed cell. -/
theorem flip_same_points (b : Box K) :
    (∀ s : V3 K, (flipC b).relToCart ⟨s.x, s.y, 1 - s.z⟩ = b.relToCart s) ∧
    (∀ s : V3 K, insideRel s ↔ insideRel (⟨s.x, s.y, 1 - s.z⟩ : V3 K)) ∧
    (∀ f : V3 Int, latticeVec (flipC b).vects f = latticeVec b.vects ⟨f.x, f.y, -f.z⟩) ∧
    M3.det (flipC b).vects = - M3.det b.vects ∧
    (M3.det b.vects ≠ 0 → 0 < M3.det (flip b).vects) ∧
    (M3.det b.vects ≠ 0 → ∀ p : V3 K, (flipC b).cartToRel p
        = ⟨(b.cartToRel p).x, (b.cartToRel p).y, 1 - (b.cartToRel p).z⟩) := by
  refine ⟨relToCart_flipC b, ?_, latticeVec_flipC b, det_flipC b, flip_det_pos b, ?_⟩
  · -- `0 ≤ 1 - z ↔ z ≤ 1` and `1 - z ≤ 1 ↔ 0 ≤ z`: the two conditions on `z` change places
    intro s
    simp only [insideRel, sub_nonneg, sub_le_self_iff]
    exact ⟨fun ⟨h0, h1, h2, h3, h4, h5⟩ => ⟨h0, h1, h2, h3, h5, h4⟩, fun ⟨h0, h1, h2, h3, h5, h4⟩ => ⟨h0, h1, h2, h3, h4, h5⟩⟩
  · intro hdet p
    have hd : M3.det (flipC b).vects ≠ 0 := by rw [det_flipC]; exact neg_ne_zero.mpr hdet
    apply Box.relToCart_inj (flipC b) hd
    rw [Box.relToCart_cartToRel _ hd, relToCart_flipC, Box.relToCart_cartToRel _ hdet]

/-- **normalize_lammps_normal**: a fully periodic system is returned in a right-handed LAMMPS-compatible
    cell (`a ∥ x`, `b` in the xy plane, positive diagonal) at origin 0 — and `normalize` is defined. -/
theorem normalize_lammps_normal (fl : K → Int) (pad : K) (sqrt : K → K) (b : Box K)
    (hs : SqrtOK sqrt (flip b).vects) (pos : List (V3 K)) :
    ∃ r, normalize? fl pad sqrt b ⟨true, true, true⟩ pos = some r ∧
      Box.isLammpsNorm r.box = true ∧ 0 < M3.det r.box.vects ∧ r.box.origin = ⟨0, 0, 0⟩ ∧
      r.pos.length = pos.length := by
  obtain ⟨b2, _, ho, hn, _, hd, hr⟩ := normalize_full_form fl pad sqrt b hs pos
  exact ⟨_, hr, hn, hd, ho, by simp⟩

/-- at ℝ (real floor, real square root) every non-singular cell meets all hypotheses: normalize is
    defined and yields a right-handed LAMMPS cell. -/
example (b : Box ℝ) (hdet : M3.det b.vects ≠ 0) (pos : List (V3 ℝ)) :
    ∃ r, normalize? (fun s => ⌊s⌋) (1 / 1000) Real.sqrt b ⟨true, true, true⟩ pos = some r ∧
      Box.isLammpsNorm r.box = true ∧ 0 < M3.det r.box.vects ∧ r.box.origin = ⟨0, 0, 0⟩ ∧
      r.pos.length = pos.length :=
  normalize_lammps_normal _ _ _ b (sqrtOK_real _ (ne_of_gt (flip_det_pos b hdet))) pos

/-- **normalize_gram**: the new cell has the Gram matrix of the (reversed, if left-handed) old cell:
    the same squared lengths `a·a, b·b, c·c`, the same dot products (hence the same angles), and the
    same volume: `det new = |det old|`. -/
theorem normalize_gram (fl : K → Int) (pad : K) (sqrt : K → K) (b : Box K) (hdet : M3.det b.vects ≠ 0)
    (hs : SqrtOK sqrt (flip b).vects) (pos : List (V3 K)) (r : Normalized K)
    (hr : normalize? fl pad sqrt b ⟨true, true, true⟩ pos = some r) :
    gram r.box.vects = gram (flip b).vects ∧
    (V3.normSq r.box.vects.r0 = V3.normSq b.vects.r0 ∧ V3.normSq r.box.vects.r1 = V3.normSq b.vects.r1 ∧
      V3.normSq r.box.vects.r2 = V3.normSq b.vects.r2 ∧
      V3.dot r.box.vects.r0 r.box.vects.r1 = V3.dot b.vects.r0 b.vects.r1) ∧
    (0 < triple b.vects → V3.dot r.box.vects.r0 r.box.vects.r2 = V3.dot b.vects.r0 b.vects.r2 ∧
      V3.dot r.box.vects.r1 r.box.vects.r2 = V3.dot b.vects.r1 b.vects.r2) ∧
    (triple b.vects < 0 → V3.dot r.box.vects.r0 r.box.vects.r2 = - V3.dot b.vects.r0 b.vects.r2 ∧
      V3.dot r.box.vects.r1 r.box.vects.r2 = - V3.dot b.vects.r1 b.vects.r2) ∧
    M3.det r.box.vects = |M3.det b.vects| := by
  obtain ⟨_, _, hg, hd, _⟩ := normalize_full_spec fl pad sqrt b hs pos r hr
  have hdd := det_eq_of_gram_eq hg (flip_det_pos b hdet) hd
  have hge := hg
  rw [gram_entries, gram_entries] at hge
  simp only [M3.mk.injEq, V3.mk.injEq] at hge
  obtain ⟨⟨g00, g01, g02⟩, ⟨_, g11, g12⟩, ⟨_, _, g22⟩⟩ := hge
  by_cases hneg : triple b.vects < 0
  · have hdn : M3.det b.vects < 0 := by rwa [← triple_eq_det]
    -- the rows of the reversed cell are `a`, `b`, `-c`
    rw [flip_of_neg hneg] at g00 g01 g02 g11 g12 g22 hdd
    simp only [flipC, V3.normSq_neg, V3.dot_neg_right] at g00 g01 g02 g11 g12 g22
    exact ⟨hg, ⟨g00, g11, g22, g01⟩, fun hp => absurd hneg (not_lt.mpr hp.le), fun _ => ⟨g02, g12⟩,
      by rw [hdd, det_flipC, abs_of_neg hdn]⟩
  · have hdn : 0 ≤ M3.det b.vects := by rw [← triple_eq_det]; exact not_lt.mp hneg
    rw [flip_of_not_neg hneg] at g00 g01 g02 g11 g12 g22 hdd
    exact ⟨hg, ⟨g00, g11, g22, g01⟩, fun _ => ⟨g02, g12⟩, fun h => absurd h hneg, by rw [hdd, abs_of_nonneg hdn]⟩

/-- **normalize_proper_rotation**: the returned transformation `T` is a proper rotation
    (`T Tᵀ = 1 = Tᵀ T`, `det T = 1`) and takes every (reversed, if left-handed) old cell vector to the
    new one: `T · vᵢ = vᵢ'`  (row form: `V_old · Tᵀ = V_new`). -/
theorem normalize_proper_rotation (fl : K → Int) (pad : K) (sqrt : K → K) (b : Box K)
    (hdet : M3.det b.vects ≠ 0) (hs : SqrtOK sqrt (flip b).vects) (pos : List (V3 K)) (r : Normalized K)
    (hr : normalize? fl pad sqrt b ⟨true, true, true⟩ pos = some r) :
    M3.mul r.transform r.transform.transpose = M3.one ∧
    M3.mul r.transform.transpose r.transform = M3.one ∧
    M3.det r.transform = 1 ∧
    M3.mul (flip b).vects r.transform.transpose = r.box.vects ∧
    (M3.mulVec r.transform (flip b).vects.r0 = r.box.vects.r0 ∧
     M3.mulVec r.transform (flip b).vects.r1 = r.box.vects.r1 ∧
     M3.mulVec r.transform (flip b).vects.r2 = r.box.vects.r2) := by
  obtain ⟨_, _, hg, hd, _, _, ht⟩ := normalize_full_spec fl pad sqrt b hs pos r hr
  have hdet1 := flip_det_pos b hdet
  obtain ⟨e1, e2, e3, e4⟩ := gram_eq_rotation (flip b).vects r.box.vects hdet1.ne' hg
  -- `det V · det R = det V'` with both cells right-handed, and `(det R)² = 1`
  have hRpos : 0 < M3.det (M3.mul (M3.inv (flip b).vects) r.box.vects) :=
    (mul_pos_iff_of_pos_left hdet1).mp (by rw [← M3.det_mul, e1]; exact hd)
  have hdR : M3.det (M3.mul (M3.inv (flip b).vects) r.box.vects) = 1 :=
    (mul_self_inj hRpos.le zero_le_one).mp (by rw [e4, mul_one])
  simp only [ht, M3.transpose_transpose, M3.det_transpose, M3.mulVec_transpose]
  -- the rows of `V · R` are the rows of `V` times `R`
  exact ⟨e3, e2, hdR, e1, congrArg M3.r0 e1, congrArg M3.r1 e1, congrArg M3.r2 e1⟩

/-- **normalize_inside**: every atom of the normalized (fully periodic) system is inside the new cell. -/
theorem normalize_inside (fl : K → Int) (hfl : IsFloor fl) (pad : K) (hpad : 0 < pad) (sqrt : K → K) (b : Box K)
    (hs : SqrtOK sqrt (flip b).vects) (pos : List (V3 K)) (r : Normalized K)
    (hr : normalize? fl pad sqrt b ⟨true, true, true⟩ pos = some r) :
    ∀ p' ∈ r.pos, insideRel (r.box.cartToRel p') := by
  obtain ⟨b2, h2, ho, hn, hg, hd, _⟩ := normalize_full_form fl pad sqrt b hs pos
  rw [normalize_eq fl pad sqrt b _ pos b2 h2] at hr
  obtain rfl := Option.some.inj hr
  exact wrap_inside fl hfl pad hpad b2 (ne_of_gt hd) _ _

set_option linter.unusedSectionVars false in
/-- **dist_depends_on_gram**: `|c·V|² = cᵀ (V Vᵀ) c`; so two cells with the same Gram matrix give the same
    length to every combination `c·V` with coefficients in `K` (not only integer ones). -/
theorem dist_depends_on_gram (V : M3 K) (c : V3 K) :
    V3.normSq (M3.vecMul c V) = V3.dot c (M3.mulVec (gram V) c) :=
  M3.normSq_vecMul_gram V c

/-- the step that carries distances from the old cell to the new one. -/
theorem normSq_eq_of_gram_eq (V N : M3 K) (h : gram N = gram V) (c : V3 K) :
    V3.normSq (M3.vecMul c N) = V3.normSq (M3.vecMul c V) := by
  rw [dist_depends_on_gram, dist_depends_on_gram, h]

/-- **normalize_rel_mod_one**: in a fully periodic system the relative coordinates of every atom in the
    new cell are its relative coordinates in the (reversed, if left-handed) old cell minus its integer
    image flags; atoms, flags and positions correspond one to one. -/
theorem normalize_rel_mod_one (fl : K → Int) (pad : K) (sqrt : K → K) (b : Box K)
    (hs : SqrtOK sqrt (flip b).vects) (pos : List (V3 K)) (r : Normalized K)
    (hr : normalize? fl pad sqrt b ⟨true, true, true⟩ pos = some r) :
    r.pos = pos.map (normPos fl (flip b) r.box) ∧ r.flags = pos.map (normFlags fl (flip b) r.box) ∧
    ∀ p : V3 K, r.box.cartToRel (normPos fl (flip b) r.box p)
      = subFlags ((flip b).cartToRel p) (normFlags fl (flip b) r.box p) := by
  obtain ⟨_, _, _, hd, hp, hf, _⟩ := normalize_full_spec fl pad sqrt b hs pos r hr
  refine ⟨hp, hf, fun p => ?_⟩
  rw [normPos_eq fl _ _ hd.ne', Box.cartToRel_relToCart _ hd.ne']

/-- **normalize_image_distances**: for any two atoms `p`, `q` and any image shift `n ∈ ℤ³`, the squared
    distance between the new positions shifted by `n` new cell vectors equals the squared distance
    between the old positions shifted by `n - f_q + f_p` old cell vectors.  As `n ↦ n - f_q + f_p` is a
    bijection of `ℤ³`, the whole spectrum of image distances of every pair — in particular the true
    nearest-image distance — is unchanged. -/
theorem normalize_image_distances (fl : K → Int) (pad : K) (sqrt : K → K) (b : Box K)
    (hdet : M3.det b.vects ≠ 0) (hs : SqrtOK sqrt (flip b).vects) (pos : List (V3 K)) (r : Normalized K)
    (hr : normalize? fl pad sqrt b ⟨true, true, true⟩ pos = some r) (p q : V3 K) (n : V3 Int) :
    V3.normSq (normPos fl (flip b) r.box q - normPos fl (flip b) r.box p + latticeVec r.box.vects n)
      = V3.normSq (q - p + latticeVec (flip b).vects
          ⟨n.x - (normFlags fl (flip b) r.box q).x + (normFlags fl (flip b) r.box p).x,
           n.y - (normFlags fl (flip b) r.box q).y + (normFlags fl (flip b) r.box p).y,
           n.z - (normFlags fl (flip b) r.box q).z + (normFlags fl (flip b) r.box p).z⟩) := by
  obtain ⟨_, _, hg, hd, _⟩ := normalize_full_spec fl pad sqrt b hs pos r hr
  have hd1 := (flip_det_pos b hdet).ne'
  -- old and new positions in relative terms
  have hold := sep_rel (flip b) ((flip b).cartToRel p) ((flip b).cartToRel q)
  simp only [Box.relToCart_cartToRel (flip b) hd1] at hold
  rw [hold, normPos_eq fl _ _ hd.ne', normPos_eq fl _ _ hd.ne', sep_rel, ← normSq_eq_of_gram_eq (flip b).vects r.box.vects hg]
  congr 2
  simp only [subFlags, V3.mk.injEq, Int.cast_add, Int.cast_sub]
  refine ⟨?_, ?_, ?_⟩ <;> ring

/-- **normalize_distance_spectrum**: the set of squared image distances of any pair of atoms is the same
    before and after (both inclusions; the old lattice may equally be taken unreversed, see
    `flip_same_points`). -/
theorem normalize_distance_spectrum (fl : K → Int) (pad : K) (sqrt : K → K) (b : Box K)
    (hdet : M3.det b.vects ≠ 0) (hs : SqrtOK sqrt (flip b).vects) (pos : List (V3 K)) (r : Normalized K)
    (hr : normalize? fl pad sqrt b ⟨true, true, true⟩ pos = some r) (p q : V3 K) (d : K) :
    (∃ n : V3 Int, d = V3.normSq (normPos fl (flip b) r.box q - normPos fl (flip b) r.box p
        + latticeVec r.box.vects n)) ↔
    (∃ m : V3 Int, d = V3.normSq (q - p + latticeVec (flip b).vects m)) := by
  constructor
  · rintro ⟨n, rfl⟩
    exact ⟨_, normalize_image_distances fl pad sqrt b hdet hs pos r hr p q n⟩
  · rintro ⟨m, rfl⟩
    refine ⟨⟨m.x + (normFlags fl (flip b) r.box q).x - (normFlags fl (flip b) r.box p).x,
             m.y + (normFlags fl (flip b) r.box q).y - (normFlags fl (flip b) r.box p).y,
             m.z + (normFlags fl (flip b) r.box q).z - (normFlags fl (flip b) r.box p).z⟩, ?_⟩
    rw [normalize_image_distances fl pad sqrt b hdet hs pos r hr p q]
    congr 3
    obtain ⟨mx, my, mz⟩ := m
    simp only [V3.mk.injEq]
    refine ⟨?_, ?_, ?_⟩ <;> omega

/-! One coherent object `c`: what a call does, in terms of `c` alone.  The `hist_*` and `api_*` theorems are these at
    `(runC P c0 ops).1`, which is coherent (`runC_erase`) and, if `c0` is, clean (`clean_runC`); `hist_normalize` is
    `normalizeC_spec` followed by `normalizeS_eq_normalize`, which are already about any object. -/

theorem wrapC_reconstruct (P : Params K) (c : CSys K) (hc : Coherent c) (hdet : M3.det c.box.vects ≠ 0) :
    List.zipWith (fun p' f => p' + latticeVec c.box.vects f) (c.wrapC P).2.pos (c.wrapC P).1 = c.pos ∧
    ∀ f ∈ (c.wrapC P).1, (c.pbc.x = false → f.x = 0) ∧ (c.pbc.y = false → f.y = 0) ∧ (c.pbc.z = false → f.z = 0) := by
  obtain ⟨e1, e2, _⟩ := wrapC_visible P c hc
  obtain ⟨r1, _, _, r4⟩ := wrap_reconstruct P.fl P.pad c.box hdet c.pbc c.pos
  rw [e1, e2]
  exact ⟨r1, r4⟩

theorem wrapC_inside (P : Params K) (hfl : IsFloor P.fl) (hpad : 0 < P.pad) (c : CSys K) (hc : Coherent c)
    (hdet : M3.det c.box.vects ≠ 0) (hclean : WrapClean P c) :
    ∀ p' ∈ (c.wrapC P).2.pos, insideRel ((c.wrapC P).2.box.cartToRel p') := by
  obtain ⟨_, e2, e3⟩ := wrapC_visible P c hc
  rw [e2, e3, hclean.eq]
  exact wrap_inside P.fl hfl P.pad hpad c.box hdet c.pbc c.pos

theorem wrapC_full (P : Params K) (hfl : IsFloor P.fl) (hpad : 0 < P.pad) (c : CSys K) (hc : Coherent c)
    (hcl : Clean P.tiny c) (hdet : M3.det c.box.vects ≠ 0) (hp : c.pbc = ⟨true, true, true⟩) :
    (c.wrapC P).2.box = c.box ∧ (∀ p' ∈ (c.wrapC P).2.pos, insideRel (c.box.cartToRel p')) ∧
    List.zipWith (fun p' f => p' + latticeVec c.box.vects f) (c.wrapC P).2.pos (c.wrapC P).1 = c.pos := by
  have hw := wrapClean_of_full P c hcl hp
  have e3 : (c.wrapC P).2.box = c.box := by
    rw [(wrapC_visible P c hc).2.2, hw.eq, hp, wrap_box_full]
  have hin := wrapC_inside P hfl hpad c hc hdet hw
  rw [e3] at hin
  exact ⟨e3, hin, (wrapC_reconstruct P c hc hdet).1⟩

/-- **hist_wrap_reconstruct**: a `wrap` issued at any point of any history on a coherent object returns image
    flags that reconstruct the positions held just before it, with the cell vectors held just before it, and
    vanish along non-periodic directions. -/
theorem hist_wrap_reconstruct (P : Params K) (ops : List (Op K)) (c0 : CSys K) (h0 : Coherent c0)
    (hdet : M3.det (runC P c0 ops).1.box.vects ≠ 0) :
    let c := (runC P c0 ops).1
    let w := c.wrapC P
    List.zipWith (fun p' f => p' + latticeVec c.box.vects f) w.2.pos w.1 = c.pos ∧
    ∀ f ∈ w.1, (c.pbc.x = false → f.x = 0) ∧ (c.pbc.y = false → f.y = 0) ∧ (c.pbc.z = false → f.z = 0) :=
  wrapC_reconstruct P _ (runC_erase P ops c0 h0).2.2 hdet

theorem wrapC_pbc_edited (P : Params K) (c : CSys K) (hc : Coherent c) (k : Nat) (hdet : M3.det c.box.vects ≠ 0) :
    let c' := (stepC P c (.editPbc k false)).1
    c'.box = c.box ∧ c'.pos = c.pos ∧ c'.pbc = setAxis c.pbc k false ∧
    List.zipWith (fun p' f => p' + latticeVec c'.box.vects f) (c'.wrapC P).2.pos (c'.wrapC P).1 = c'.pos ∧
    ∀ f ∈ (c'.wrapC P).1, (k = 0 → f.x = 0) ∧ (k = 1 → f.y = 0) ∧ (k = 2 → f.z = 0) := by
  intro c'
  -- the edit keeps box, positions and cache; the wrap then sees direction `k` as non-periodic
  obtain ⟨r1, r2⟩ := wrapC_reconstruct P c' (stepC_erase P c hc _).2.2 hdet
  obtain ⟨sx, sy, sz⟩ := setAxis_false c.pbc k
  exact ⟨rfl, rfl, rfl, r1, fun f hf => ⟨fun h => (r2 f hf).1 (sx h), fun h => (r2 f hf).2.1 (sy h), fun h => (r2 f hf).2.2 (sz h)⟩⟩

/-- **hist_wrap_pbc_edited**: the periodicity setting edited IN PLACE (`system.pbc[k] = False`, no setter runs) at any
    point of any history — whatever the setting was when the object was created or last assigned — is what the next
    `wrap` follows: the edit itself touches neither the box nor the positions, and the wrap then moves no atom along
    direction `k` (image flag 0) while its flags still reconstruct the positions held before it.  (That the atoms end
    up inside the enlarged cell is `hist_wrap_inside` for the history `ops ++ [editPbc k false]`.) -/
theorem hist_wrap_pbc_edited (P : Params K) (ops : List (Op K)) (c0 : CSys K) (h0 : Coherent c0) (k : Nat)
    (hdet : M3.det (runC P c0 ops).1.box.vects ≠ 0) :
    let c := (runC P c0 (ops ++ [.editPbc k false])).1
    let w := c.wrapC P
    c.box = (runC P c0 ops).1.box ∧ c.pos = (runC P c0 ops).1.pos ∧
    c.pbc = setAxis (runC P c0 ops).1.pbc k false ∧
    List.zipWith (fun p' f => p' + latticeVec c.box.vects f) w.2.pos w.1 = c.pos ∧
    ∀ f ∈ w.1, (k = 0 → f.x = 0) ∧ (k = 1 → f.y = 0) ∧ (k = 2 → f.z = 0) := by
  rw [runC_snoc]
  exact wrapC_pbc_edited P _ (runC_erase P ops c0 h0).2.2 k hdet

/-- **hist_wrap_inside**: a `wrap` issued at any point of any history leaves every atom inside the cell the
    object then has — unless the clean-up of the `vects` setter removes a component of the lengthened cell
    (`hclean`; it never does for a fully periodic system whose cell is already clean). -/
theorem hist_wrap_inside (P : Params K) (hfl : IsFloor P.fl) (hpad : 0 < P.pad) (ops : List (Op K)) (c0 : CSys K)
    (h0 : Coherent c0) (hdet : M3.det (runC P c0 ops).1.box.vects ≠ 0)
    (hclean : let c := (runC P c0 ops).1
      zeroSmall P.tiny (wrap P.fl P.pad c.box c.pbc c.pos).box.vects = (wrap P.fl P.pad c.box c.pbc c.pos).box.vects) :
    let c := (runC P c0 ops).1
    let w := c.wrapC P
    ∀ p' ∈ w.2.pos, insideRel (w.2.box.cartToRel p') :=
  wrapC_inside P hfl hpad _ (runC_erase P ops c0 h0).2.2 hdet hclean

/-- **hist_wrap_full**: on an object whose cell went through the setter (`Clean`: true of every cell atomman's `Box` class can
    hold, since the setter stored it; here the hypothesis `hc0` on the initial object), a `wrap`
    of a fully periodic system at any point of any history leaves the box exactly as it was, every atom inside it,
    and the flags reconstruct the old positions — no clean-up hypothesis needed (the cell stays clean along the history,
    `clean_runC`, and a fully periodic wrap returns the box unchanged, `wrap_box_full`). -/
theorem hist_wrap_full (P : Params K) (hfl : IsFloor P.fl) (hpad : 0 < P.pad) (ht0 : 0 ≤ P.tiny) (ht1 : P.tiny < 1)
    (ops : List (Op K)) (c0 : CSys K) (h0 : Coherent c0) (hc0 : Clean P.tiny c0)
    (hdet : M3.det (runC P c0 ops).1.box.vects ≠ 0) (hp : (runC P c0 ops).1.pbc = ⟨true, true, true⟩) :
    let c := (runC P c0 ops).1
    let w := c.wrapC P
    w.2.box = c.box ∧ (∀ p' ∈ w.2.pos, insideRel (c.box.cartToRel p')) ∧
    List.zipWith (fun p' f => p' + latticeVec c.box.vects f) w.2.pos w.1 = c.pos :=
  wrapC_full P hfl hpad _ (runC_erase P ops c0 h0).2.2 (clean_runC P ht0 ht1 ops c0 hc0) hdet hp

set_option linter.unusedSectionVars false in
/-- **normalizeS_eq_normalize**: `normalize` on the object is the function `normalize?` of the visible state
    whenever the clean-up of the `vects` setter is inactive at its three writes (reversed cell, rebuilt cell,
    wrapped cell): every `normalize_*` theorem then holds for the object at any point of any history. -/
theorem normalizeS_eq_normalize (P : Params K) (s : Sys K)
    (hc1 : triple s.box.vects < 0 → zeroSmall P.tiny (flipC s.box).vects = (flipC s.box).vects)
    (hc2 : ∀ b2, abcBox? P.sqrt (flip s.box).vects = some b2 → zeroSmall P.tiny b2.vects = b2.vects)
    (hc3 : ∀ b2, abcBox? P.sqrt (flip s.box).vects = some b2 →
      zeroSmall P.tiny (wrap P.fl P.pad b2 s.pbc (s.pos.map (fun p => b2.relToCart ((flip s.box).cartToRel p)))).box.vects
        = (wrap P.fl P.pad b2 s.pbc (s.pos.map (fun p => b2.relToCart ((flip s.box).cartToRel p)))).box.vects) :
    s.normalizeS P = normalize? P.fl P.pad P.sqrt s.box s.pbc s.pos := by
  -- the system after the optional reversal has the box `flip s.box`
  have hs1 : (if triple s.box.vects < 0 then s.setBox P.tiny (flipC s.box).vects (flipC s.box).origin else s)
      = (⟨flip s.box, s.pbc, s.pos⟩ : Sys K) := by
    by_cases ht : triple s.box.vects < 0
    · simp only [ht, if_true, Sys.setBox, flip, hc1 ht]
    · simp only [ht, if_false, flip]
  unfold Sys.normalizeS normalize?
  rw [hs1]
  simp only [Sys.rebuild]
  cases hb : abcBox? P.sqrt (flip s.box).vects with
  | none => rfl
  | some b2 =>
    have e2 : (⟨zeroSmall P.tiny b2.vects, b2.origin⟩ : Box K) = b2 := by rw [hc2 b2 hb]
    simp only [e2, Sys.spos, List.map_map, Sys.wrapS]
    -- `hc3` is `Sys.wrapS` of the rebuilt system with `wrapS` unfolded: the cell `wrap` installs on `b2` with the
    -- relative coordinates held
    have hw := hc3 b2 hb
    simp only [Function.comp_def] at hw ⊢
    rw [hw]

/-- of the three writes of the cell vectors in a fully periodic `normalize` of a clean object only the rebuilt cell can be
    altered by the setter: the reversal never is (`zeroSmall_flipC`), the wrap does not change the cell (`wrap_box_full`). -/
theorem normalizeC_full (P : Params K) (c : CSys K) (hc : Coherent c) (hcl : Clean P.tiny c)
    (hp : c.pbc = ⟨true, true, true⟩) (hc2 : RebuildClean P c.erase) :
    c.normalizeC P = normalize? P.fl P.pad P.sqrt c.box c.pbc c.pos := by
  rw [normalizeC_spec P c hc]
  refine normalizeS_eq_normalize P c.erase (fun _ => zeroSmall_flipC P.tiny c.box hcl.eq) hc2 fun b2 hb => ?_
  rw [show c.erase.pbc = _ from hp, wrap_box_full]
  exact hc2 b2 hb

/-- **hist_normalize**: at any point of any history on a coherent object, `normalize` returns what the
    function `normalize?` returns for the visible state (clean-up inactive), and leaves the object as it was. -/
theorem hist_normalize (P : Params K) (ops : List (Op K)) (c0 : CSys K) (h0 : Coherent c0)
    (hc1 : let s := (runC P c0 ops).1.erase
      triple s.box.vects < 0 → zeroSmall P.tiny (flipC s.box).vects = (flipC s.box).vects)
    (hc2 : let s := (runC P c0 ops).1.erase
      ∀ b2, abcBox? P.sqrt (flip s.box).vects = some b2 → zeroSmall P.tiny b2.vects = b2.vects)
    (hc3 : let s := (runC P c0 ops).1.erase
      ∀ b2, abcBox? P.sqrt (flip s.box).vects = some b2 →
      zeroSmall P.tiny (wrap P.fl P.pad b2 s.pbc (s.pos.map (fun p => b2.relToCart ((flip s.box).cartToRel p)))).box.vects
        = (wrap P.fl P.pad b2 s.pbc (s.pos.map (fun p => b2.relToCart ((flip s.box).cartToRel p)))).box.vects) :
    let c := (runC P c0 ops).1
    c.normalizeC P = normalize? P.fl P.pad P.sqrt c.box c.pbc c.pos ∧ (stepC P c .normalize).1 = c :=
  ⟨(normalizeC_spec P _ (runC_erase P ops c0 h0).2.2).trans (normalizeS_eq_normalize P _ hc1 hc2 hc3),
    stepC_normalize_fst P _⟩

/-- **hist_normalize_full**: `normalize` of a FULLY PERIODIC system at any point of any history on an object whose
    cell went through the setter (`Clean`, the hypothesis `hc0` as in `hist_wrap_full`): of the three writes of the cell vectors only the
    rebuilt cell (`hc2`: no tilt factor of the LAMMPS cell below `tiny` of its largest component) can be altered by
    the clean-up of the setter — the reversal of a left-handed cell never is (`zeroSmall_flipC`), the wrap of a
    fully periodic system does not change the cell (`wrap_box_full`). -/
theorem hist_normalize_full (P : Params K) (ht0 : 0 ≤ P.tiny) (ht1 : P.tiny < 1)
    (ops : List (Op K)) (c0 : CSys K) (h0 : Coherent c0) (hc0 : Clean P.tiny c0)
    (hp : (runC P c0 ops).1.pbc = ⟨true, true, true⟩)
    (hc2 : let s := (runC P c0 ops).1.erase
      ∀ b2, abcBox? P.sqrt (flip s.box).vects = some b2 → zeroSmall P.tiny b2.vects = b2.vects) :
    let c := (runC P c0 ops).1
    c.normalizeC P = normalize? P.fl P.pad P.sqrt c.box c.pbc c.pos ∧ (stepC P c .normalize).1 = c :=
  ⟨normalizeC_full P _ (runC_erase P ops c0 h0).2.2 (clean_runC P ht0 ht1 ops c0 hc0) hp hc2, stepC_normalize_fst P _⟩

/-- **hist_wrap_inside_margin**: `hist_wrap_inside` with `hclean` discharged by the margin condition: at any point of
    any history, a `wrap` of a system with ANY periodicity leaves every atom inside the cell the object then has, provided
    the cell it had before has no component within `tiny · kmax` of zero (relative to its largest) and no direction needs
    to be lengthened by more than `kmax`. -/
theorem hist_wrap_inside_margin (P : Params K) (hfl : IsFloor P.fl) (hpad : 0 < P.pad) (ht : 0 ≤ P.tiny)
    (ops : List (Op K)) (c0 : CSys K) (h0 : Coherent c0) (hdet : M3.det (runC P c0 ops).1.box.vects ≠ 0) (kmax : K)
    (hk : let c := (runC P c0 ops).1
      let bd := bounds P.pad c.pbc (c.pos.map c.box.cartToRel)
      bd.x.2 - bd.x.1 ≤ kmax ∧ bd.y.2 - bd.y.1 ≤ kmax ∧ bd.z.2 - bd.z.1 ≤ kmax)
    (hmargin : let c := (runC P c0 ops).1
      ∀ x ∈ c.box.vects.toList, x = 0 ∨ P.tiny * kmax * maxAbs c.box.vects < |x|) :
    let c := (runC P c0 ops).1
    let w := c.wrapC P
    ∀ p' ∈ w.2.pos, insideRel (w.2.box.cartToRel p') :=
  hist_wrap_inside P hfl hpad ops c0 h0 hdet
    (wrap_clean_of_margin P.fl P.pad P.tiny hpad ht _ _ _ kmax hk hmargin)

-- wrap_clean_of_margin / hist_wrap_inside_margin: a partially periodic system whose atom sticks out 1.25 cells along the
-- non-periodic direction; both hypotheses hold with kmax = 3 and tiny = 1e-9 (and the conclusion is not trivial: the cell grew)
example : let b : Box ℚ := ⟨⟨⟨3, 0, 0⟩, ⟨1/1000, 4, 0⟩, ⟨0, 0, 5⟩⟩, ⟨0, 0, 0⟩⟩
    let pbc : V3 Bool := ⟨true, false, true⟩
    let pos : List (V3 ℚ) := [⟨1, 9, 1⟩, ⟨-2, 1, 7⟩]
    let bd := bounds (1/1000) pbc (pos.map b.cartToRel)
    (bd.x.2 - bd.x.1 ≤ 3 ∧ bd.y.2 - bd.y.1 ≤ 3 ∧ bd.z.2 - bd.z.1 ≤ 3) ∧
    (∀ x ∈ b.vects.toList, x = 0 ∨ (1/1000000000 : ℚ) * 3 * maxAbs b.vects < |x|) ∧
    (wrap Rat.floor (1/1000) b pbc pos).box.vects ≠ b.vects := by
  decide +kernel

/-- **hist_normalize_full_explicit**: `hist_normalize_full` with the clean-up hypothesis spelled out on the numbers of
    the rebuilt cell. -/
theorem hist_normalize_full_explicit (P : Params K) (ht0 : 0 ≤ P.tiny) (ht1 : P.tiny < 1)
    (ops : List (Op K)) (c0 : CSys K) (h0 : Coherent c0) (hc0 : Clean P.tiny c0)
    (hp : (runC P c0 ops).1.pbc = ⟨true, true, true⟩)
    (hc2 : let s := (runC P c0 ops).1.erase
      ∀ b2, abcBox? P.sqrt (flip s.box).vects = some b2 →
        ∀ x ∈ b2.vects.toList, x = 0 ∨ P.tiny * maxAbs b2.vects < |x|) :
    let c := (runC P c0 ops).1
    c.normalizeC P = normalize? P.fl P.pad P.sqrt c.box c.pbc c.pos ∧ (stepC P c .normalize).1 = c :=
  hist_normalize_full P ht0 ht1 ops c0 h0 hc0 hp ((hc2_iff P _).mpr hc2)

-- `exSys` under the histories `exHist`, `exHist2`: the hypotheses of the `hist_*` theorems
example : Coherent exSys := coherent_fresh _ _ _
example : (runC exPar exSys exHist).2.length = 6 := by decide +kernel
example : M3.det (runC exPar exSys exHist).1.box.vects ≠ 0 := by decide +kernel
/-- the clean-up hypothesis of `hist_wrap_inside` holds on this history … -/
example : let c := (runC exPar exSys exHist).1
    zeroSmall exPar.tiny (wrap exPar.fl exPar.pad c.box c.pbc c.pos).box.vects
      = (wrap exPar.fl exPar.pad c.box c.pbc c.pos).box.vects := by decide +kernel
/-- … and fails where a component is below `tiny` of the largest one: the setter does remove it. -/
example : zeroSmall exPar.tiny ⟨⟨4, 0, 0⟩, ⟨1/1000000000, 4, 0⟩, ⟨0, 0, 4⟩⟩ = (⟨⟨4, 0, 0⟩, ⟨0, 4, 0⟩, ⟨0, 0, 4⟩⟩ : M3 ℚ) := by
  decide +kernel
-- hist_wrap_pbc_edited: an in-place edit of pbc[2] is followed by the next wrap
example : (runC exPar exSys (exHist ++ [.editPbc 2 false])).1.pbc = ⟨true, false, false⟩ := by decide +kernel
example : ((runC exPar exSys [.editPbc 2 false]).1.wrapC exPar).1 = [⟨0, 0, 0⟩, ⟨1, -2, 0⟩, ⟨0, 0, 0⟩] := by
  decide +kernel
example : Clean exPar.tiny exSys := by unfold Clean; decide +kernel
example : (0 : ℚ) ≤ exPar.tiny ∧ exPar.tiny < 1 := by decide +kernel
/-- normalize on the fresh object `exSys` is the function `normalize?` of its visible state (all four outputs). -/
example : (exSys.normalizeC exPar).map (fun z => (z.box, z.pos, z.flags, z.transform)) =
    (normalize? exPar.fl exPar.pad exPar.sqrt exSys.box exSys.pbc exSys.pos).map
      (fun z => (z.box, z.pos, z.flags, z.transform)) := by
  decide +kernel
example : (exSys.normalizeC exPar).isSome = true := by decide +kernel

example : (runC exPar exSys exHist2).1.pbc = ⟨true, true, true⟩ := by decide +kernel
example : (runC exPar exSys exHist2).1.pos.length = 2 := by decide +kernel
example : triple (runC exPar exSys exHist2).1.box.vects < 0 := by decide +kernel
example : ((abcBox? exPar.sqrt (flip (runC exPar exSys exHist2).1.erase.box).vects).map
    (fun b2 => decide (zeroSmall exPar.tiny b2.vects = b2.vects))) = some true := by decide +kernel

-- hist_boxSet_scale / api_boxSet_scale: the hypothesis `hdet` for the `boxSet` of `exHist`
example : M3.det (zeroSmall exPar.tiny (⟨⟨0, 3, 0⟩, ⟨4, 0, 0⟩, ⟨0, 0, 5⟩⟩ : M3 ℚ)) ≠ 0 := by decide +kernel

/-- lengths, cosines and angles are functions of the Gram matrix alone — whatever `sqrt` and `arccos` are. -/
theorem lengths_angles_of_gram (sqrt arccos : K → K) (v w : M3 K) (h : gram w = gram v) :
    lenA sqrt w = lenA sqrt v ∧ lenB sqrt w = lenB sqrt v ∧ lenC sqrt w = lenC sqrt v ∧
    cosAlpha sqrt w = cosAlpha sqrt v ∧ cosBeta sqrt w = cosBeta sqrt v ∧ cosGamma sqrt w = cosGamma sqrt v ∧
    arccos (cosAlpha sqrt w) = arccos (cosAlpha sqrt v) ∧ arccos (cosBeta sqrt w) = arccos (cosBeta sqrt v) ∧
    arccos (cosGamma sqrt w) = arccos (cosGamma sqrt v) := by
  rw [gram_entries, gram_entries] at h
  simp only [M3.mk.injEq, V3.mk.injEq] at h
  obtain ⟨⟨g00, g01, g02⟩, ⟨_, g11, g12⟩, ⟨_, _, g22⟩⟩ := h
  simp only [lenA, lenB, lenC, cosAlpha, cosBeta, cosGamma, g00, g01, g02, g11, g12, g22, and_self]

/-- **normalize_lengths_angles**: "the same lengths, angles and volume" in the code's own terms: `Box.a/b/c`
    (`sqrt` of the squared norms) and `Box.alpha/beta/gamma` (`arccos` of the cosines `vect_angle` forms) of the new
    cell are those of the (reversed, if left-handed) old cell, for EVERY pair of functions `sqrt`, `arccos`; in terms
    of the cell handed in: `a, b, c, gamma` are kept, `alpha, beta` are kept for a right-handed cell and their
    cosines change sign for a left-handed one (third vector reversed); the volume is `|det|`. -/
theorem normalize_lengths_angles (fl : K → Int) (pad : K) (sqrt arccos : K → K) (b : Box K) (hdet : M3.det b.vects ≠ 0)
    (hs : SqrtOK sqrt (flip b).vects) (pos : List (V3 K)) (r : Normalized K)
    (hr : normalize? fl pad sqrt b ⟨true, true, true⟩ pos = some r) :
    lenA sqrt r.box.vects = lenA sqrt (flip b).vects ∧ lenB sqrt r.box.vects = lenB sqrt (flip b).vects ∧
    lenC sqrt r.box.vects = lenC sqrt (flip b).vects ∧
    arccos (cosAlpha sqrt r.box.vects) = arccos (cosAlpha sqrt (flip b).vects) ∧
    arccos (cosBeta sqrt r.box.vects) = arccos (cosBeta sqrt (flip b).vects) ∧
    arccos (cosGamma sqrt r.box.vects) = arccos (cosGamma sqrt (flip b).vects) ∧
    lenA sqrt r.box.vects = lenA sqrt b.vects ∧ lenB sqrt r.box.vects = lenB sqrt b.vects ∧
    lenC sqrt r.box.vects = lenC sqrt b.vects ∧ cosGamma sqrt r.box.vects = cosGamma sqrt b.vects ∧
    (0 < triple b.vects → cosAlpha sqrt r.box.vects = cosAlpha sqrt b.vects ∧
      cosBeta sqrt r.box.vects = cosBeta sqrt b.vects) ∧
    (triple b.vects < 0 → cosAlpha sqrt r.box.vects = - cosAlpha sqrt b.vects ∧
      cosBeta sqrt r.box.vects = - cosBeta sqrt b.vects) ∧
    M3.det r.box.vects = |M3.det b.vects| := by
  obtain ⟨hg, ⟨n0, n1, n2, d01⟩, hpos, hneg, hvol⟩ := normalize_gram fl pad sqrt b hdet hs pos r hr
  obtain ⟨l1, l2, l3, _, _, _, a1, a2, a3⟩ := lengths_angles_of_gram sqrt arccos _ _ hg
  refine ⟨l1, l2, l3, a1, a2, a3, ?_, ?_, ?_, ?_, ?_, ?_, hvol⟩
  · simp only [lenA, n0]
  · simp only [lenB, n1]
  · simp only [lenC, n2]
  · simp only [cosGamma, lenA, lenB, n0, n1, d01]
  · intro h
    obtain ⟨d02, d12⟩ := hpos h
    simp only [cosAlpha, cosBeta, lenA, lenB, lenC, n0, n1, n2, d02, d12, and_self]
  · intro h
    obtain ⟨d02, d12⟩ := hneg h
    simp only [cosAlpha, cosBeta, lenA, lenB, lenC, n0, n1, n2, d02, d12, neg_div, and_self]

/-- **normalize_never_refuses**: a non-singular cell — however strongly tilted (a lattice angle a fraction of a degree
    from 0 or 180), of either handedness, in any orientation — is never refused by `normalize`: neither the angle check
    of `set_abc` (`ValueError('lattice angles must be between 0 and 180 degrees')`) nor the `lx, ly, lz > 0` assertion
    of `set_lengths` fires, for every periodicity setting and every list of positions.  (`SqrtOK` is what is assumed of
    `x**0.5` at the five arguments met; it holds at `ℝ` for every non-singular cell: `sqrtOK_real`.) -/
theorem normalize_never_refuses (fl : K → Int) (pad : K) (sqrt : K → K) (b : Box K) (hdet : M3.det b.vects ≠ 0)
    (hs : SqrtOK sqrt (flip b).vects) (pbc : V3 Bool) (pos : List (V3 K)) :
    angleGuard sqrt (flip b).vects = true ∧
    ∃ r, normalize? fl pad sqrt b pbc pos = some r ∧ normalizeG? fl pad sqrt b pbc pos = some r := by
  have hd : M3.det (flip b).vects ≠ 0 := ne_of_gt (flip_det_pos b hdet)
  have hg := angleGuard_of_det_ne_zero sqrt (flip b).vects hd hs.a hs.b hs.c
  obtain ⟨b2, h2, _⟩ := abcBox_spec sqrt (flip b).vects hs
  refine ⟨hg, _, normalize_eq fl pad sqrt b pbc pos b2 h2, ?_⟩
  simp only [normalizeG?, hg, if_true]
  exact normalize_eq fl pad sqrt b pbc pos b2 h2

/-- **angleGuard_refuses_parallel**: the refusal is not vacuous — a cell two of whose vectors are parallel (the angle
    between them is exactly 0 or 180 degrees) is refused by the angle check, whatever the third vector is. -/
theorem angleGuard_refuses_parallel (sqrt : K → K) (v : M3 K)
    (ha : SqrtAt sqrt (V3.normSq v.r0)) (hb : SqrtAt sqrt (V3.normSq v.r1)) (hc : SqrtAt sqrt (V3.normSq v.r2))
    (hpar : V3.normSq (V3.cross v.r1 v.r2) = 0 ∨ V3.normSq (V3.cross v.r0 v.r2) = 0 ∨
      V3.normSq (V3.cross v.r0 v.r1) = 0) :
    angleGuard sqrt v = false := by
  rw [Bool.eq_false_iff, Ne, angleGuard_iff sqrt v ha hb hc]
  rintro ⟨p1, p2, p3⟩
  rcases hpar with h | h | h
  · rw [h] at p1; exact lt_irrefl _ p1
  · rw [h] at p2; exact lt_irrefl _ p2
  · rw [h] at p3; exact lt_irrefl _ p3

-- the left-handed 3-4-5 cell `exBox` meets the hypotheses; two parallel vectors are refused
example : M3.det exBox.vects = -60 := by decide +kernel
example : SqrtOK sqrtQ (flip exBox).vects := by decide +kernel
example : (normalize? Rat.floor (1/1000) sqrtQ exBox ⟨true, true, true⟩ exPos).isSome = true := by decide +kernel
example : (normalizeG? Rat.floor (1/1000) sqrtQ exBox ⟨true, false, true⟩ exPos).isSome = true := by decide +kernel
example : angleGuard sqrtQ (⟨⟨3, 0, 0⟩, ⟨-4, 0, 0⟩, ⟨0, 0, 5⟩⟩ : M3 ℚ) = false := by decide +kernel
example : (wrap Rat.floor (1/1000) exBox ⟨true, false, true⟩ exPos).flags = [⟨0, 0, 0⟩, ⟨1, 0, 2⟩, ⟨0, 0, 0⟩] := by
  decide +kernel

set_option linter.unusedSectionVars false in
/-- **boxSet_scale_spec**: `box_set(…, scale=True)` holds the relative coordinates fixed (the same list with respect to
    the new box as with respect to the old one, whenever the new cell — after the clean-up of the setter — is
    non-singular); `box_set(…, scale=False)` holds the Cartesian positions fixed. Either way the box is the one asked
    for (after the clean-up) and pbc is untouched. -/
theorem boxSet_scale_spec (tiny : K) (s : Sys K) (v : M3 K) (o : V3 K) :
    (M3.det (zeroSmall tiny v) ≠ 0 → (s.boxSet tiny true v o).spos = s.spos) ∧
    (s.boxSet tiny false v o).pos = s.pos ∧
    (∀ sc, (s.boxSet tiny sc v o).box = ⟨zeroSmall tiny v, o⟩ ∧ (s.boxSet tiny sc v o).pbc = s.pbc) := by
  refine ⟨?_, rfl, ?_⟩
  · intro hdet
    simp only [Sys.boxSet, if_true, Sys.spos, List.map_map]
    apply List.map_congr_left
    intro p _
    simp only [Function.comp]
    exact Box.cartToRel_relToCart (⟨zeroSmall tiny v, o⟩ : Box K) hdet _
  · intro sc
    cases sc <;> simp [Sys.boxSet, Sys.setBox]

theorem stepC_boxSet_spos (P : Params K) (c : CSys K) (hc : Coherent c) (v : M3 K) (o : V3 K)
    (hdet : M3.det (zeroSmall P.tiny v) ≠ 0) :
    (stepC P (stepC P c (.boxSet true v o)).1 .spos).2 = (stepC P c .spos).2 := by
  obtain ⟨e1, _, hc1⟩ := stepC_erase P c hc (.boxSet true v o)
  obtain ⟨_, o2, _⟩ := stepC_erase P _ hc1 .spos
  obtain ⟨_, o3, _⟩ := stepC_erase P c hc .spos
  rw [o2, o3, e1]
  simp only [step]
  rw [(boxSet_scale_spec P.tiny c.erase v o).1 hdet]

/-- **hist_boxSet_scale**: on the object with its cache, at any point of any history: reading the scaled positions
    after `box_set(vects=v, origin=o, scale=True)` gives what reading them before it gave. -/
theorem hist_boxSet_scale (P : Params K) (ops : List (Op K)) (c0 : CSys K) (h0 : Coherent c0) (v : M3 K) (o : V3 K)
    (hdet : M3.det (zeroSmall P.tiny v) ≠ 0) :
    let c := (runC P c0 ops).1
    (stepC P (stepC P c (.boxSet true v o)).1 .spos).2 = (stepC P c .spos).2 :=
  stepC_boxSet_spos P _ (runC_erase P ops c0 h0).2.2 v o hdet

theorem flagOf_unique (fl : K → Int) (hfl : IsFloor fl) (p : Bool) (t : K) (n : Int) (hnp : p = false → n = 0)
    (hin : p = true → 0 ≤ t ∧ t < 1) : n = flagOf fl p (t + (n : K)) := by
  cases p with
  | false => rw [hnp rfl]; rfl
  | true =>
    obtain ⟨a0, a1⟩ := hin rfl
    exact hfl.unique (by rwa [add_sub_cancel_right]) (by rwa [add_sub_cancel_right])

/-- **wrap_flags_unique** ("moves each atom by whole cell vectors along periodic directions only … leaves every atom inside",
    read as *exactly*): if `q` differs from the atom's position `p` by whole cell vectors `f` along periodic directions only
    and lies in the half-open cell `0 ≤ s < 1` along every periodic direction, then `f` are the image flags `wrap` returns
    and `q` is the position `wrap` stores.  So the result of `wrap` is determined by the clauses of the property. -/
theorem wrap_flags_unique (fl : K → Int) (hfl : IsFloor fl) (b : Box K) (hdet : M3.det b.vects ≠ 0) (pbc : V3 Bool)
    (p q : V3 K) (f : V3 Int) (hq : q + latticeVec b.vects f = p)
    (hnp : (pbc.x = false → f.x = 0) ∧ (pbc.y = false → f.y = 0) ∧ (pbc.z = false → f.z = 0))
    (hin : (pbc.x = true → 0 ≤ (b.cartToRel q).x ∧ (b.cartToRel q).x < 1) ∧
           (pbc.y = true → 0 ≤ (b.cartToRel q).y ∧ (b.cartToRel q).y < 1) ∧
           (pbc.z = true → 0 ≤ (b.cartToRel q).z ∧ (b.cartToRel q).z < 1)) :
    f = atomFlags fl b pbc p ∧ q = atomPos fl b pbc p := by
  -- relative coordinates of p are those of q plus f
  have hp : b.cartToRel p = ⟨(b.cartToRel q).x + (f.x : K), (b.cartToRel q).y + (f.y : K), (b.cartToRel q).z + (f.z : K)⟩ := by
    rw [← hq]
    conv_lhs => rw [← Box.relToCart_cartToRel b hdet q]
    rw [← relToCart_add_lattice, Box.cartToRel_relToCart b hdet]
  have hf : f = atomFlags fl b pbc p := by
    rw [atomFlags, hp]
    exact V3.ext (flagOf_unique fl hfl _ _ _ hnp.1 hin.1) (flagOf_unique fl hfl _ _ _ hnp.2.1 hin.2.1)
      (flagOf_unique fl hfl _ _ _ hnp.2.2 hin.2.2)
  refine ⟨hf, ?_⟩
  have h1 := atom_reconstruct fl b hdet pbc p
  rw [← hf] at h1
  rw [← V3.add_sub_cancel' q (latticeVec b.vects f), hq,
    ← V3.add_sub_cancel' (atomPos fl b pbc p) (latticeVec b.vects f), h1]

-- wrap_flags_unique: the second atom of `exPos`, pbc (T, F, T): q = p - (1 a + 2 c) meets every hypothesis
example : (⟨-7, 3/2, 3/2⟩ : V3 ℚ) + latticeVec exBox.vects ⟨1, 0, 2⟩ = ⟨-7, 9/2, 23/2⟩ := by decide +kernel
example : let s := exBox.cartToRel (⟨-7, 3/2, 3/2⟩ : V3 ℚ); 0 ≤ s.x ∧ s.x < 1 ∧ 0 ≤ s.z ∧ s.z < 1 := by decide +kernel
example : atomFlags Rat.floor exBox ⟨true, false, true⟩ (⟨-7, 9/2, 23/2⟩ : V3 ℚ) = ⟨1, 0, 2⟩ := by decide +kernel

/-- **lammps_normal_unique** (uniqueness of the Cholesky factor): two LAMMPS-compatible cells (`a` along +x, `b` in the xy
    plane with positive y, `c` with positive z) with the same lengths and angles (Gram matrix) are the same cell. -/
theorem lammps_normal_unique (L M : Box K) (hL : Box.isLammpsNorm L = true) (hM : Box.isLammpsNorm M = true)
    (hg : gram L.vects = gram M.vects) : L.vects = M.vects := by
  obtain ⟨l00, l10, l11, l20, l21, l22, eL, hl0, hl1, hl2⟩ := lammpsNorm_form L hL
  obtain ⟨m00, m10, m11, m20, m21, m22, eM, hm0, hm1, hm2⟩ := lammpsNorm_form M hM
  rw [eL, eM, gram_lower, gram_lower] at hg
  rw [eL, eM]
  simp only [M3.mk.injEq, V3.mk.injEq] at hg
  obtain ⟨⟨g00, g01, g02⟩, ⟨_, g11, g12⟩, ⟨_, _, g22⟩⟩ := hg
  -- forward substitution through the six equations of the Cholesky factorisation
  obtain rfl : l00 = m00 := (mul_self_inj hl0.le hm0.le).mp g00
  obtain rfl : l10 = m10 := mul_left_cancel₀ hl0.ne' g01
  obtain rfl : l20 = m20 := mul_left_cancel₀ hl0.ne' g02
  obtain rfl : l11 = m11 := (mul_self_inj hl1.le hm1.le).mp (add_left_cancel g11)
  obtain rfl : l21 = m21 := mul_left_cancel₀ hl1.ne' (add_left_cancel g12)
  obtain rfl : l22 = m22 := (mul_self_inj hl2.le hm2.le).mp (add_left_cancel g22)
  rfl

-- the proof does not use `hdet`: `hs` and `hr` carry everything
set_option linter.unusedVariables false in
/-- **normalize_cell_unique** ("a new right-handed LAMMPS-compatible cell with the same lengths, angles", read as *the*):
    the cell `normalize` returns for a fully periodic system is the ONLY LAMMPS-compatible cell with the lengths and angles
    of the (reversed, if left-handed) input cell. -/
theorem normalize_cell_unique (fl : K → Int) (pad : K) (sqrt : K → K) (b : Box K) (hdet : M3.det b.vects ≠ 0)
    (hs : SqrtOK sqrt (flip b).vects) (pos : List (V3 K)) (r : Normalized K)
    (hr : normalize? fl pad sqrt b ⟨true, true, true⟩ pos = some r)
    (N : Box K) (hN : Box.isLammpsNorm N = true) (hg : gram N.vects = gram (flip b).vects) :
    r.box.vects = N.vects := by
  obtain ⟨_, hn, hg', _⟩ := normalize_full_spec fl pad sqrt b hs pos r hr
  exact lammps_normal_unique r.box N hn hN (by rw [hg', hg])

/-- the hypotheses of `lammps_normal_unique` / `normalize_cell_unique` are met by two DIFFERENT boxes
    (a tilted LAMMPS-normal cell at two origins; the conclusion is about the vectors only), and a cell with the same
    lengths and angles that is NOT LAMMPS-normal (the same cell turned a quarter about z) has the same Gram matrix and
    other vectors — so `isLammpsNorm` cannot be dropped. -/
example :
    let L : Box ℚ := ⟨⟨⟨3, 0, 0⟩, ⟨1, 4, 0⟩, ⟨-1, 1/2, 5⟩⟩, ⟨0, 0, 0⟩⟩
    let M : Box ℚ := ⟨⟨⟨3, 0, 0⟩, ⟨1, 4, 0⟩, ⟨-1, 1/2, 5⟩⟩, ⟨7, -2, 1/3⟩⟩
    let R : Box ℚ := ⟨⟨⟨0, 3, 0⟩, ⟨-4, 1, 0⟩, ⟨-1/2, -1, 5⟩⟩, ⟨0, 0, 0⟩⟩
    Box.isLammpsNorm L = true ∧ Box.isLammpsNorm M = true ∧ L ≠ M ∧ gram L.vects = gram M.vects ∧
    gram R.vects = gram L.vects ∧ Box.isLammpsNorm R = false ∧ R.vects ≠ L.vects := by
  decide +kernel

/-- **normalize_of_lammps_normal** (idempotence on the cell): a fully periodic system whose cell is already
    LAMMPS-compatible keeps its cell vectors, gets origin 0, and the returned transformation is the identity. -/
theorem normalize_of_lammps_normal (fl : K → Int) (pad : K) (sqrt : K → K) (b : Box K)
    (hn : Box.isLammpsNorm b = true) (hs : SqrtOK sqrt b.vects) (pos : List (V3 K)) :
    ∃ r, normalize? fl pad sqrt b ⟨true, true, true⟩ pos = some r ∧ r.box.vects = b.vects ∧
      r.box.origin = ⟨0, 0, 0⟩ ∧ r.transform = M3.one := by
  have hdpos : 0 < M3.det b.vects := by
    obtain ⟨lx, xy, ly, xz, yz, lz, e, h0, h1, h2⟩ := lammpsNorm_form b hn
    rw [e, M3.det_lower]
    exact mul_pos (mul_pos h0 h1) h2
  have hdet : M3.det b.vects ≠ 0 := ne_of_gt hdpos
  have hf : flip b = b := flip_of_not_neg (by rw [triple_eq_det]; exact not_lt.mpr hdpos.le)
  have hs' : SqrtOK sqrt (flip b).vects := by rw [hf]; exact hs
  obtain ⟨b2, _, ho, _, _, _, hr⟩ := normalize_full_form fl pad sqrt b hs' pos
  have e : b2.vects = b.vects := normalize_cell_unique fl pad sqrt b hdet hs' pos _ hr b hn (by rw [hf])
  refine ⟨_, hr, e, ho, ?_⟩
  show (M3.mul (M3.inv (flip b).vects) b2.vects).transpose = M3.one
  rw [hf, e, M3.inv_mul_cancel _ hdet, M3.transpose_one]

-- normalize_of_lammps_normal: a LAMMPS-compatible cell with every hypothesis true
example : Box.isLammpsNorm (⟨⟨⟨3, 0, 0⟩, ⟨0, 4, 0⟩, ⟨0, 0, 5⟩⟩, ⟨1, 2, 3⟩⟩ : Box ℚ) = true := by decide +kernel
example : SqrtOK sqrtQ (⟨⟨3, 0, 0⟩, ⟨0, 4, 0⟩, ⟨0, 0, 5⟩⟩ : M3 ℚ) := by decide +kernel

set_option linter.unusedSectionVars false in
/-- **boxSetApi_refuses_iff**: `box_set(…, scale=x)` refuses exactly when `x` is given and is not a Python `bool` (an `int`,
    a numpy bool, a string, `None`, a float), always with `TypeError`; omitted it is `False`; `True` holds the relative
    coordinates, `False` the Cartesian ones. -/
theorem boxSetApi_refuses_iff (tiny : K) (c : CSys K) (scale : Option PyVal) (v : M3 K) (o : V3 K) :
    (c.boxSetApi tiny scale v o = .error .typeError ↔ ∃ x, scale = some x ∧ x.isBool = false) ∧
    (∀ e, c.boxSetApi tiny scale v o = .error e → e = .typeError) ∧
    (∀ b, scale = some (.bool b) → c.boxSetApi tiny scale v o = .ok (c.boxSet tiny b v o)) ∧
    (scale = none → c.boxSetApi tiny scale v o = .ok (c.boxSet tiny false v o)) := by
  refine ⟨?_, ?_, ?_, ?_⟩
  · rcases scale with _ | (_ | b | n | s | b | b) <;>
      simp [CSys.boxSetApi, boxSetScaleDefault, PyVal.isBool]
  · intro e
    rcases scale with _ | (_ | b | n | s | b | b) <;>
      simp [CSys.boxSetApi, boxSetScaleDefault, PyVal.isBool] <;> intro h <;> exact h.symm
  · rintro b rfl
    cases b <;> rfl
  · rintro rfl
    rfl

theorem boxSetApi_scale (P : Params K) (c : CSys K) (hc : Coherent c) (v : M3 K) (o : V3 K)
    (hdet : M3.det (zeroSmall P.tiny v) ≠ 0) (scale : Option PyVal) :
    (scale = some (.bool true) →
      ∃ c', c.boxSetApi P.tiny scale v o = .ok c' ∧ (stepC P c' .spos).2 = (stepC P c .spos).2) ∧
    ((scale = none ∨ scale = some (.bool false)) →
      ∃ c', c.boxSetApi P.tiny scale v o = .ok c' ∧ c'.pos = c.pos ∧ c'.box = ⟨zeroSmall P.tiny v, o⟩) ∧
    ((∃ x, scale = some x ∧ x.isBool = false) → c.boxSetApi P.tiny scale v o = .error .typeError) := by
  obtain ⟨hr, _, hb, hn⟩ := boxSetApi_refuses_iff P.tiny c scale v o
  refine ⟨fun hs => ⟨_, hb true hs, stepC_boxSet_spos P c hc v o hdet⟩, ?_, fun h => hr.mpr h⟩
  rintro (hs | hs)
  · exact ⟨_, hn hs, rfl, rfl⟩
  · exact ⟨_, hb false hs, rfl, rfl⟩

/-- **api_boxSet_scale** (end to end: `hist_boxSet_scale` behind the option handling of `box_set`): at any point of any history on one
    object, `box_set(vects=v, origin=o, scale=True)` is accepted and reading the scaled positions afterwards gives what
    reading them before gave; with `scale=False` or no `scale` it is accepted and the Cartesian positions are untouched;
    any non-`bool` scale is refused with `TypeError` (and, the call being refused, nothing is written). -/
theorem api_boxSet_scale (P : Params K) (ops : List (Op K)) (c0 : CSys K) (h0 : Coherent c0) (v : M3 K) (o : V3 K)
    (hdet : M3.det (zeroSmall P.tiny v) ≠ 0) (scale : Option PyVal) :
    let c := (runC P c0 ops).1
    (scale = some (.bool true) →
      ∃ c', c.boxSetApi P.tiny scale v o = .ok c' ∧ (stepC P c' .spos).2 = (stepC P c .spos).2) ∧
    ((scale = none ∨ scale = some (.bool false)) →
      ∃ c', c.boxSetApi P.tiny scale v o = .ok c' ∧ c'.pos = c.pos ∧ c'.box = ⟨zeroSmall P.tiny v, o⟩) ∧
    ((∃ x, scale = some x ∧ x.isBool = false) → c.boxSetApi P.tiny scale v o = .error .typeError) :=
  boxSetApi_scale P _ (runC_erase P ops c0 h0).2.2 v o hdet scale

set_option linter.unusedSectionVars false in
/-- **wrapApi_spec**: `wrap(<flag>)` does the same work whatever is passed; the image flags are handed back exactly when
    the flag is truthy (so `1` and `numpy.True_` count, `0`, `None`, `''` and an omitted flag do not). -/
theorem wrapApi_spec (P : Params K) (c : CSys K) (flag : Option PyVal) :
    (c.wrapApi P flag).2 = (c.wrapC P).2 ∧
    ((flag.getD (.bool false)).truthy = true → (c.wrapApi P flag).1 = some (c.wrapC P).1) ∧
    ((flag.getD (.bool false)).truthy = false → (c.wrapApi P flag).1 = none) := by
  refine ⟨rfl, ?_, ?_⟩ <;> intro h <;> simp [CSys.wrapApi, wrapFlagDefault, h]

theorem wrapApi_reconstruct (P : Params K) (c : CSys K) (hc : Coherent c) (hdet : M3.det c.box.vects ≠ 0)
    (flag : Option PyVal) :
    let r := c.wrapApi P flag
    (∃ f : List (V3 Int), List.zipWith (fun p' g => p' + latticeVec c.box.vects g) r.2.pos f = c.pos ∧
      ∀ g ∈ f, (c.pbc.x = false → g.x = 0) ∧ (c.pbc.y = false → g.y = 0) ∧ (c.pbc.z = false → g.z = 0)) ∧
    (∀ f, r.1 = some f → List.zipWith (fun p' g => p' + latticeVec c.box.vects g) r.2.pos f = c.pos) ∧
    (r.1.isSome = (flag.getD (.bool false)).truthy) := by
  intro r
  obtain ⟨h1, h2⟩ := wrapC_reconstruct P c hc hdet
  -- the object after the call is the one `wrapC` leaves; what is returned is its flags or nothing
  have hr : r.1 = if (flag.getD (.bool false)).truthy then some (c.wrapC P).1 else none := rfl
  refine ⟨⟨_, h1, h2⟩, fun f hf => ?_, ?_⟩
  · rw [hr] at hf
    split at hf
    · cases hf; exact h1
    · cases hf
  · rw [hr]
    cases (flag.getD (.bool false)).truthy <;> rfl

/-- **api_wrap_reconstruct** (end to end): at any point of any history on one object, `system.wrap(<anything>)` moves every
    atom by whole old cell vectors (zero along non-periodic directions) whether or not the image flags are asked for, and
    whenever flags are returned they reconstruct the positions held before the call. -/
theorem api_wrap_reconstruct (P : Params K) (ops : List (Op K)) (c0 : CSys K) (h0 : Coherent c0)
    (hdet : M3.det (runC P c0 ops).1.box.vects ≠ 0) (flag : Option PyVal) :
    let c := (runC P c0 ops).1
    let r := c.wrapApi P flag
    (∃ f : List (V3 Int), List.zipWith (fun p' g => p' + latticeVec c.box.vects g) r.2.pos f = c.pos ∧
      ∀ g ∈ f, (c.pbc.x = false → g.x = 0) ∧ (c.pbc.y = false → g.y = 0) ∧ (c.pbc.z = false → g.z = 0)) ∧
    (∀ f, r.1 = some f → List.zipWith (fun p' g => p' + latticeVec c.box.vects g) r.2.pos f = c.pos) ∧
    (r.1.isSome = (flag.getD (.bool false)).truthy) :=
  wrapApi_reconstruct P _ (runC_erase P ops c0 h0).2.2 hdet flag

set_option linter.unusedSectionVars false in
/-- **normalizeApi_style_iff**: `System.normalize(style, …)` goes on to `atomman.lammps.normalize` exactly when `style` is
    omitted or is the string `'lammps'`; every other value (another string, `None`, a number, a bool) is refused with
    `ValueError` before anything is computed. -/
theorem normalizeApi_style_iff (P : Params K) (c : CSys K) (style flag : Option PyVal) :
    ((style = none ∨ style = some (.str "lammps")) → c.normalizeApi P style flag = c.lmpNormalizeApi P flag) ∧
    (¬ (style = none ∨ style = some (.str "lammps")) → c.normalizeApi P style flag = .error .valueError) := by
  refine ⟨?_, ?_⟩
  · rintro (rfl | rfl) <;> rfl
  · intro h
    have hne : style.getD normStyleDefault ≠ normStyleAccepted := by
      rcases style with _ | x
      · exact absurd (Or.inl rfl) h
      · intro hx
        apply h; right
        simp only [Option.getD_some, normStyleAccepted] at hx
        rw [hx]
    simp [CSys.normalizeApi, hne]

theorem normalizeApi_never_refuses (P : Params K) (c : CSys K) (hc : Coherent c) (hcl : Clean P.tiny c)
    (hp : c.pbc = ⟨true, true, true⟩) (hdet : M3.det c.box.vects ≠ 0) (hs : SqrtOK P.sqrt (flip c.box).vects)
    (hc2 : RebuildClean P c.erase) (style flag : Option PyVal) (hstyle : style = none ∨ style = some (.str "lammps")) :
    ∃ z, normalize? P.fl P.pad P.sqrt c.box c.pbc c.pos = some z ∧
      c.normalizeApi P style flag = .ok (z, (flag.getD (.bool false)).truthy) ∧
      c.lmpNormalizeApi P flag = .ok (z, (flag.getD (.bool false)).truthy) := by
  have hn := normalizeC_full P c hc hcl hp hc2
  obtain ⟨hg, z, hz, _⟩ := normalize_never_refuses P.fl P.pad P.sqrt c.box hdet hs c.pbc c.pos
  -- the cell the angle check sees is `flip c.box`: the setter does not alter the reversed cell of a clean one
  have hfl : (c.flipped P).box.vects = (flip c.box).vects := by
    unfold CSys.flipped flip
    by_cases ht : triple c.box.vects < 0
    · simp only [ht, if_true, setBox_eq]
      exact zeroSmall_flipC P.tiny c.box hcl.eq
    · simp only [ht, if_false]
  have hl : c.lmpNormalizeApi P flag = .ok (z, (flag.getD (.bool false)).truthy) := by
    unfold CSys.lmpNormalizeApi
    rw [hfl, hg, if_pos rfl, hn, hz]
    rfl
  exact ⟨z, hz, by rw [(normalizeApi_style_iff P c style flag).1 hstyle]; exact hl, hl⟩

/-- **api_normalize_never_refuses** (end to end): at any point of any history on one object whose cell went through the
    setter, a fully periodic system with a non-singular cell is accepted by `system.normalize()` /
    `system.normalize('lammps', <any flag>)` / `lammps.normalize(system, <any flag>)`: no `ValueError` from the style test
    or the angle check, no assertion; the system handed back is `normalize?` of the visible state (to which all
    `normalize_*` clauses apply) whatever the flag, and the transformation is part of the result exactly when the flag is
    truthy.  `hc2` (`RebuildClean`) is the clean-up hypothesis of `hist_normalize_full`. -/
theorem api_normalize_never_refuses (P : Params K) (ht0 : 0 ≤ P.tiny) (ht1 : P.tiny < 1)
    (ops : List (Op K)) (c0 : CSys K) (h0 : Coherent c0) (hc0 : Clean P.tiny c0)
    (hp : (runC P c0 ops).1.pbc = ⟨true, true, true⟩)
    (hdet : M3.det (runC P c0 ops).1.box.vects ≠ 0)
    (hs : SqrtOK P.sqrt (flip (runC P c0 ops).1.box).vects)
    (hc2 : let s := (runC P c0 ops).1.erase
      ∀ b2, abcBox? P.sqrt (flip s.box).vects = some b2 → zeroSmall P.tiny b2.vects = b2.vects)
    (style flag : Option PyVal) (hstyle : style = none ∨ style = some (.str "lammps")) :
    let c := (runC P c0 ops).1
    ∃ z, normalize? P.fl P.pad P.sqrt c.box c.pbc c.pos = some z ∧
      c.normalizeApi P style flag = .ok (z, (flag.getD (.bool false)).truthy) ∧
      c.lmpNormalizeApi P flag = .ok (z, (flag.getD (.bool false)).truthy) :=
  normalizeApi_never_refuses P _ (runC_erase P ops c0 h0).2.2 (clean_runC P ht0 ht1 ops c0 hc0) hp hdet hs hc2 style flag
    hstyle

-- the entry points: flag / scale / style values that are not Python bools
example : (exSys.wrapApi exPar (some (.int 1))).1 = some [⟨0, 0, 0⟩, ⟨1, -2, 2⟩, ⟨0, 0, 0⟩] := by decide +kernel
example : (exSys.wrapApi exPar (some (.npbool true))).1.isSome = true ∧ (exSys.wrapApi exPar (some (.int 0))).1 = none ∧
    (exSys.wrapApi exPar none).1 = none := by decide +kernel
example : (match exSys.boxSetApi exPar.tiny (some (.int 1)) exBox.vects exBox.origin with
    | .error .typeError => true | _ => false) = true := by decide +kernel
example : (match exSys.boxSetApi exPar.tiny (some (.npbool true)) exBox.vects exBox.origin with
    | .error .typeError => true | _ => false) = true := by decide +kernel
example : (match exSys.normalizeApi exPar (some (.str "LAMMPS")) none with
    | .error .valueError => true | _ => false) = true := by decide +kernel
example : (match exSys.normalizeApi exPar none (some (.int 1)) with | .ok (_, true) => true | _ => false) = true := by
  decide +kernel
example : (match exSys.normalizeApi exPar (some (.str "lammps")) none with | .ok (_, false) => true | _ => false) = true := by
  decide +kernel
-- api_normalize_never_refuses: its hypotheses on `exSys` after `exHist2` (left-handed, fully periodic, clean)
example : SqrtOK exPar.sqrt (flip (runC exPar exSys exHist2).1.box).vects := by decide +kernel

end Atomman.C05
