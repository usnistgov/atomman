/-
  C02 — objects with state (`World`: mutable Box and System objects, a Box may be shared): queries read what the objects
  hold at the time of the call, in-place edits reach the next read and every holder of a shared Box; and the clean-up of
  the `Box.vects` setter (C01's `cleanVects`) on clean-stable cells.
-/
import Proofs.C02_Calls
import Atomman.C01  -- for `C01.cleanVects` (the clean-up of the `Box.vects` setter), see `cleanVects_noop`

namespace Atomman.C02
open Atomman

variable {K : Type} [Field K] [LinearOrder K] [IsStrictOrderedRing K]

/-! The `_history` and `_source` theorems quantify over a history `w.run ops = some w'` only to state that nothing of it is
  remembered: they hold for every world `w'`, and their proofs never use `_hrun`. -/

namespace World

set_option linter.unusedSectionVars false in
/-- `System.dvect` reads the System's current positions and flags and its Box's current vectors, nothing else. -/
theorem sysDvect_current (w : World K) (s : Nat) (v : Sys K) (hv : w.sysView s = some v) (s0 s1 : Sel K) :
    w.sysDvect s s0 s1 = C02.sysDvect v.pos v.vects v.px v.py v.pz s0 s1 ∧
    w.sysDmag2 s s0 s1 = C02.sysDmag2 v.pos v.vects v.px v.py v.pz s0 s1 := by
  simp [World.sysDvect, World.sysDmag2, hv]

/-- after ANY history of in-place changes, every row `System.dvect` returns is `dvect` of a point SELECTED by `sel0` and a
    point SELECTED by `sel1` from the positions the System holds now, an admissible image (flags as they are now) of their
    direct separation under the cell as it is now, not longer than any of the 27 candidates; the result is squeezed exactly
    when there is one row; and `System.dmag` returns the lengths of exactly these rows. -/
theorem sysDvect_history (w : World K) (ops : List (Op K)) (w' : World K) (_hrun : w.run ops = some w')
    (s : Nat) (s0 s1 : Sel K) (sq : Bool) (rows : List (V3 K)) (h : w'.sysDvect s s0 s1 = .ok (sq, rows)) :
    ∃ v, w'.sysView s = some v ∧
      w'.sysDmag2 s s0 s1 = .ok (sq, rows.map V3.normSq) ∧
      ∃ a b, select v.pos s0 = .ok a ∧ select v.pos s1 = .ok b ∧ sq = (rows.length == 1) ∧
      ∀ r ∈ rows, ∃ p0 ∈ a, ∃ p1 ∈ b, r = dvect v.vects v.px v.py v.pz p0 p1 ∧
        (∃ n : Shift, n.admissible v.px v.py v.pz ∧ r = (p1 - p0) + latticeVec v.vects n) ∧
        ∀ m : Shift, m.admissible v.px v.py v.pz → V3.normSq r ≤ V3.normSq ((p1 - p0) + latticeVec v.vects m) := by
  cases hv : w'.sysView s with
  | none => simp [World.sysDvect, hv] at h
  | some v =>
    obtain ⟨e1, e2⟩ := sysDvect_current w' s v hv s0 s1
    rw [e1] at h
    refine ⟨v, rfl, ?_, ?_⟩
    · rw [e2, sysDmag2_eq, h]; rfl
    · obtain ⟨a, b, ha, hb, hd, hsq⟩ := sysDvect_rows v.pos v.vects v.px v.py v.pz s0 s1 sq rows h
      refine ⟨a, b, ha, hb, hsq, ?_⟩
      intro r hr
      exact dvectArr_rows v.vects v.px v.py v.pz a b rows hd r hr

/-- the module-level scalar distance with a Box OBJECT is, at any time, the length of the module-level separation
    with the same object (no memory of an earlier call or an earlier cell). -/
theorem arrDmag2_history (w : World K) (ops : List (Op K)) (w' : World K) (_hrun : w.run ops = some w')
    (b : Nat) (px py pz : Bool) (as bs : List (V3 K)) :
    w'.arrDmag2 b px py pz as bs = (w'.arrDvect b px py pz as bs).map (List.map V3.normSq) := by
  unfold World.arrDmag2 World.arrDvect
  cases w'.boxes[b]? with
  | none => rfl
  | some bx =>
    simp only [dmag2Arr_eq]
    cases dvectArr bx.vects px py pz as bs <;> rfl

set_option linter.unusedSectionVars false in
/-- `displacement` of two System objects is `displacement` of what they hold now. -/
theorem disp_history (w : World K) (ops : List (Op K)) (w' : World K) (_hrun : w.run ops = some w')
    (s0 s1 : Nat) (ref : String) (l : List (V3 K)) (h : w'.disp s0 s1 ref = .ok l) :
    ∃ a b, w'.sysView s0 = some a ∧ w'.sysView s1 = some b ∧ displacement a b ref = .ok l := by
  unfold World.disp at h
  cases ha : w'.sysView s0 with
  | none => simp [ha] at h
  | some a =>
    cases hb : w'.sysView s1 with
    | none => simp [ha, hb] at h
    | some b => simp only [ha, hb] at h; exact ⟨a, b, rfl, rfl, h⟩

open Atomman.Generated in
/-- after ANY history, `atomman.displacement(S0, S1, ref)` on the live objects is the `displacement` function AS THE SOURCE
    READS NOW (generated), applied to what the two objects hold at the time of the call. -/
theorem disp_source (w : World K) (ops : List (Op K)) (w' : World K) (_hrun : w.run ops = some w')
    (s0 s1 : Nat) (a b : Sys K) (ha : w'.sysView s0 = some a) (hb : w'.sysView s1 = some b) (ref : String) :
    w'.disp s0 s1 ref = DvectSource.displacement a b ref := by
  rw [Source.gen_displacement_eq_model]
  simp [World.disp, ha, hb]

open Atomman.Generated in
/-- after ANY history, `S.dvect(sel0, sel1)` / `S.dmag(sel0, sel1)` on the live object are the methods AS THE SOURCE READS NOW
    (generated), applied to the positions, cell and flags the object holds at the time of the call. -/
theorem sysDvect_source (w : World K) (ops : List (Op K)) (w' : World K) (_hrun : w.run ops = some w')
    (s : Nat) (v : Sys K) (hv : w'.sysView s = some v) (s0 s1 : Sel K) :
    w'.sysDvect s s0 s1 = DvectSource.sysDvect v.pos v.vects v.px v.py v.pz s0 s1 ∧
    w'.sysDmag2 s s0 s1 = DvectSource.sysDmag v.pos v.vects v.px v.py v.pz s0 s1 := by
  rw [Source.gen_sysDvect_eq_model, Source.gen_sysDmag_eq_model]
  simp [World.sysDvect, World.sysDmag2, hv]

theorem getElem?_setAt {α : Type} (l l' : List α) (i : Nat) (a : α) (h : setAt l i a = some l') :
    l'[i]? = some a ∧ (∀ j, j ≠ i → l'[j]? = l[j]?) ∧ l'.length = l.length := by
  unfold setAt at h
  split at h
  · rename_i hi
    injection h with h; subst h
    exact ⟨List.getElem?_set_self hi, fun j hj => List.getElem?_set_ne (Ne.symm hj), by simp⟩
  · cases h

omit [Field K] [LinearOrder K] [IsStrictOrderedRing K] in
theorem sysView_eq {w : World K} {s : Nat} {st : SysSt K} {bx : Box K} (hs : w.systems[s]? = some st)
    (hb : w.boxes[st.box]? = some bx) : w.sysView s = some ⟨bx.vects, st.px, st.py, st.pz, st.pos⟩ := by
  simp only [World.sysView, hs, hb, Option.bind_eq_bind, Option.bind_some, Option.pure_def]

omit [Field K] [LinearOrder K] [IsStrictOrderedRing K] in
/-- Box object `b` replaced in place by `⟨v, o⟩`: a System holding `b` views the new vectors with its own flags and
    positions, whatever else happened to the list of Systems. -/
theorem sysView_setAt_box {boxes bs : List (Box K)} {b : Nat} {v : M3 K} {o : V3 K} (hbs : setAt boxes b ⟨v, o⟩ = some bs)
    {ss : List (SysSt K)} {t : Nat} {st : SysSt K} (ht : ss[t]? = some st) (hb : st.box = b) :
    World.sysView ⟨bs, ss⟩ t = some ⟨v, st.px, st.py, st.pz, st.pos⟩ :=
  sysView_eq (w := ⟨bs, ss⟩) ht (hb ▸ (getElem?_setAt _ _ _ _ hbs).1)

omit [Field K] [LinearOrder K] [IsStrictOrderedRing K] in
theorem setFlag_eq {st st' : SysSt K} {k : Nat} {f : Bool} (h : st.setFlag k f = some st') :
    st'.box = st.box ∧ st'.pos = st.pos ∧ st'.px = (if k = 0 then f else st.px) ∧
      st'.py = (if k = 1 then f else st.py) ∧ st'.pz = (if k = 2 then f else st.pz) := by
  unfold SysSt.setFlag at h
  split at h <;> cases h <;> simp

set_option linter.unusedSectionVars false in
/-- `system.pbc[k] = flag` (in place): the very next read by `System.dvect/dmag` sees the new flag on axis `k`,
    the other two flags, the cell and the positions as before. -/
theorem pbcEdit_read (w w' : World K) (s k : Nat) (f : Bool) (v : Sys K) (hv : w.sysView s = some v)
    (h : w.step (.pbcEdit s k f) = some w') :
    ∃ v', w'.sysView s = some v' ∧ v'.vects = v.vects ∧ v'.pos = v.pos ∧
      v'.px = (if k = 0 then f else v.px) ∧ v'.py = (if k = 1 then f else v.py) ∧ v'.pz = (if k = 2 then f else v.pz) := by
  simp only [World.step, Option.bind_eq_bind, Option.bind_eq_some_iff, Option.pure_def, Option.some.injEq] at h
  obtain ⟨st, hst, st', hf, ss, hss, rfl⟩ := h
  simp only [World.sysView, hst, Option.bind_eq_bind, Option.bind_some, Option.bind_eq_some_iff, Option.pure_def,
    Option.some.injEq] at hv
  obtain ⟨bx, hb, rfl⟩ := hv
  obtain ⟨hbox, hpos, hx, hy, hz⟩ := setFlag_eq hf
  exact ⟨_, sysView_eq (getElem?_setAt _ _ _ _ hss).1 (hbox ▸ hb), rfl, hpos, hx, hy, hz⟩

set_option linter.unusedSectionVars false in
/-- `B.vects = v` on a Box object: EVERY System holding that object reads the new vectors at its next query
    (flags and positions untouched). -/
theorem boxVects_shared (w w' : World K) (b : Nat) (v : M3 K) (h : w.step (.boxVects b v) = some w')
    (t : Nat) (st : SysSt K) (ht : w.systems[t]? = some st) (hb : st.box = b) :
    w'.sysView t = some ⟨v, st.px, st.py, st.pz, st.pos⟩ := by
  simp only [World.step, Option.bind_eq_bind, Option.bind_eq_some_iff, Option.pure_def, Option.some.injEq] at h
  obtain ⟨old, _, bs, hbs, rfl⟩ := h
  exact sysView_setAt_box hbs ht hb

set_option linter.unusedSectionVars false in
/-- `S.box_set(vects=v, origin=o)` without `scale`: the Box object is changed in place, so every OTHER System
    holding the same Box reads the new vectors too, with its own positions and flags. -/
theorem sysBoxSet_shared (w w' : World K) (s : Nat) (v : M3 K) (o : V3 K)
    (h : w.step (.sysBoxSet s v o false) = some w')
    (st : SysSt K) (hs : w.systems[s]? = some st)
    (t : Nat) (st' : SysSt K) (ht : w.systems[t]? = some st') (hb : st'.box = st.box) :
    w'.sysView t = some ⟨v, st'.px, st'.py, st'.pz, st'.pos⟩ := by
  simp only [World.step, Option.bind_eq_bind, hs, Option.bind_some, Option.bind_eq_some_iff, Bool.false_eq_true, if_false,
    Option.pure_def, Option.some.injEq] at h
  obtain ⟨old, _, bs, hbs, rfl⟩ := h
  exact sysView_setAt_box hbs ht hb

end World

/-- the state theorems are not vacuous: a history with an in-place flag edit and a shared Box that is replaced,
    after which the query follows the new flags and the new cell. -/
example :
    let w0 : World ℚ := World.empty
    let ops : List (Op ℚ) := [.newBox ⟨⟨4, 0, 0⟩, ⟨0, 4, 0⟩, ⟨0, 0, 4⟩⟩ ⟨0, 0, 0⟩,
      .newSys 0 true true true [⟨0, 0, 0⟩, ⟨3, 0, 0⟩], .newSys 0 false false false [⟨1, 1, 1⟩]]
    (w0.run ops).map (fun w => w.sysDvect 0 (.idx 0) (.idx 1)) = some (.ok (true, [⟨-1, 0, 0⟩])) ∧
    (w0.run (ops ++ [.pbcEdit 0 0 false])).map (fun w => w.sysDvect 0 (.idx 0) (.idx 1)) = some (.ok (true, [⟨3, 0, 0⟩])) ∧
    (w0.run (ops ++ [.sysBoxSet 1 ⟨⟨2, 0, 0⟩, ⟨0, 4, 0⟩, ⟨0, 0, 4⟩⟩ ⟨0, 0, 0⟩ false])).map
      (fun w => w.sysDvect 0 (.idx 0) (.idx 1)) = some (.ok (true, [⟨1, 0, 0⟩])) := by
  decide +kernel

/-- a history for the example below: two Systems hold Box 0, then `B.vects = …`. -/
def auditOps : List (Op ℚ) := [.newBox ⟨⟨4, 0, 0⟩, ⟨0, 4, 0⟩, ⟨0, 0, 4⟩⟩ ⟨0, 0, 0⟩,
  .newSys 0 true true true [⟨0, 0, 0⟩, ⟨3, 0, 0⟩], .newSys 0 true false false [⟨0, 0, 0⟩, ⟨0, 3, 0⟩, ⟨3, 3, 0⟩],
  .boxVects 0 ⟨⟨2, 0, 0⟩, ⟨1, 5, 0⟩, ⟨0, 0, 4⟩⟩]

/-- `World.boxVects_shared` / `World.pbcEdit_read` are not vacuous: two Systems hold Box 0; `B.vects = …` is read by both at
    their next query, each with its own flags; an in-place flag edit of System 0 is not seen by System 1. -/
example :
    ((World.empty : World ℚ).run auditOps).map (fun w => w.sysDvect 0 (.idx 0) (.idx 1)) = some (.ok (true, [⟨1, 0, 0⟩])) ∧
    ((World.empty : World ℚ).run auditOps).map (fun w => w.sysDvect 1 (.idx 0) (.list [1, 2]))
      = some (.ok (false, [⟨0, 3, 0⟩, ⟨1, 3, 0⟩])) := by
  decide +kernel

example :
    ((World.empty : World ℚ).run (auditOps ++ [.pbcEdit 0 0 false])).map (fun w => w.sysDvect 1 (.idx 0) (.idx 2))
      = some (.ok (true, [⟨1, 3, 0⟩])) ∧
    ((World.empty : World ℚ).run (auditOps ++ [.pbcEdit 0 0 false])).map (fun w => w.sysDvect 0 (.idx 0) (.idx 1))
      = some (.ok (true, [⟨3, 0, 0⟩])) := by
  decide +kernel

/-- every entry is exactly `0` or fails the clean-up test `|x| ≤ thr · max|entry|` of `C01.cleanEntry`. -/
def CleanStable (thr : K) (v : M3 K) : Prop :=
  ∀ x ∈ [v.r0.x, v.r0.y, v.r0.z, v.r1.x, v.r1.y, v.r1.z, v.r2.x, v.r2.y, v.r2.z],
    x = 0 ∨ thr * C01.maxAbs v < C01.absK x

omit [IsStrictOrderedRing K] in
theorem cleanEntry_noop (thr M x : K) (h : x = 0 ∨ thr * M < C01.absK x) : C01.cleanEntry thr M x = x := by
  unfold C01.cleanEntry
  split
  · rcases h with h | h
    · exact h.symm
    · exact absurd ‹_› (not_le.mpr h)
  · rfl

set_option linter.unusedSectionVars false in
/-- **the `Box.vects` clean-up does nothing on a clean-stable cell** (C01's model of the setter statement, the one its
    `gen_cleanup_eq_model` ties to the source): what the `World` model stores for `B.vects = v`, `Box(vects=v)`,
    `B.set(...)`, `S.box_set(...)` is then what atomman stores. -/
theorem cleanVects_noop (thr : K) (v : M3 K) (h : CleanStable thr v) : C01.cleanVects thr v = v := by
  unfold CleanStable at h
  simp only [List.mem_cons, List.not_mem_nil, or_false, forall_eq_or_imp, forall_eq] at h
  obtain ⟨h1, h2, h3, h4, h5, h6, h7, h8, h9⟩ := h
  unfold C01.cleanVects C01.cleanV
  simp only [cleanEntry_noop _ _ _ h1, cleanEntry_noop _ _ _ h2, cleanEntry_noop _ _ _ h3, cleanEntry_noop _ _ _ h4,
    cleanEntry_noop _ _ _ h5, cleanEntry_noop _ _ _ h6, cleanEntry_noop _ _ _ h7, cleanEntry_noop _ _ _ h8,
    cleanEntry_noop _ _ _ h9]

/-- a tiny entry IS removed (non-vacuity of the hypothesis and of its failure:
    `1e-12`-type residue next to entries of order 4). -/
example : C01.cleanVects (1/1000000000 : ℚ) ⟨⟨4, 1/1000000000000, 0⟩, ⟨1, 4, 0⟩, ⟨0, 0, 4⟩⟩ = ⟨⟨4, 0, 0⟩, ⟨1, 4, 0⟩, ⟨0, 0, 4⟩⟩ ∧
    C01.cleanVects (1/1000000000 : ℚ) ⟨⟨4, 0, 0⟩, ⟨1, 4, 0⟩, ⟨0, 0, 4⟩⟩ = ⟨⟨4, 0, 0⟩, ⟨1, 4, 0⟩, ⟨0, 0, 4⟩⟩ := by
  decide +kernel

namespace World

open Atomman.Generated in
/-- `S.box_set(vects=v, origin=o, scale=True)` AS THE SOURCE READS NOW (generated `sysBoxSet`): the Box object is changed in
    place; System `S` itself then holds the positions with the relative coordinates it had under the OLD cell, re-expressed
    under the new one; every OTHER System holding the same Box reads the new vectors with its Cartesian positions untouched
    (its relative coordinates change) — the asymmetry a caller of `box_set(scale=True)` on a shared Box has to know. -/
theorem sysBoxSet_scaled (w w' : World K) (s : Nat) (v : M3 K) (o : V3 K)
    (h : DvectSource.sysBoxSet w s v o true = some w')
    (st : SysSt K) (hs : w.systems[s]? = some st) (old : Box K) (ho : w.boxes[st.box]? = some old) :
    w'.sysView s = some ⟨v, st.px, st.py, st.pz, st.pos.map fun p => Box.relToCart ⟨v, o⟩ (old.cartToRel p)⟩ ∧
    ∀ (t : Nat) (st' : SysSt K), t ≠ s → w.systems[t]? = some st' → st'.box = st.box →
      w'.sysView t = some ⟨v, st'.px, st'.py, st'.pz, st'.pos⟩ := by
  rw [Source.gen_sysBoxSet_eq_model] at h
  simp only [World.step, Option.bind_eq_bind, hs, ho, Option.bind_some, Option.bind_eq_some_iff, if_true, Option.pure_def,
    Option.some.injEq] at h
  obtain ⟨bs, hbs, ss, hss, rfl⟩ := h
  obtain ⟨hget, _, _⟩ := getElem?_setAt _ _ _ _ hbs
  obtain ⟨hsget, hsother, _⟩ := getElem?_setAt _ _ _ _ hss
  refine ⟨sysView_eq (w := ⟨bs, ss⟩) hsget hget, fun t st' hts ht hb => ?_⟩
  exact sysView_setAt_box hbs ((hsother t hts).trans ht) hb

end World

/-- non-vacuity of `World.sysBoxSet_scaled`: two Systems on one Box, the cell doubled through the first with `scale=True`:
    its atom moves from (1,1,1) to (2,2,2), the other System's atom stays at (2,2,2) (relative 1/2 → 1/4). -/
example :
    let w : World ℚ := ⟨[⟨⟨⟨4, 0, 0⟩, ⟨0, 4, 0⟩, ⟨0, 0, 4⟩⟩, ⟨0, 0, 0⟩⟩],
      [⟨0, true, true, true, [⟨1, 1, 1⟩]⟩, ⟨0, true, false, true, [⟨2, 2, 2⟩]⟩]⟩
    let w' := Atomman.Generated.DvectSource.sysBoxSet w 0 ⟨⟨8, 0, 0⟩, ⟨0, 8, 0⟩, ⟨0, 0, 8⟩⟩ ⟨0, 0, 0⟩ true
    (w'.bind fun x => (x.sysView 0).map (·.pos)) = some [⟨2, 2, 2⟩] ∧
    (w'.bind fun x => (x.sysView 1).map (·.pos)) = some [⟨2, 2, 2⟩] ∧
    (w'.bind fun x => (x.sysView 1).map (·.vects.r0)) = some ⟨8, 0, 0⟩ := by
  decide +kernel

end Atomman.C02
