/-
  Rotating the whole problem (`C`, `m`, `n`, `b`, the modes' `A`, `L`, the field point) by `R` with `RᵀR = 1` rotates every
  quantity of the Stroh formalism.  `rotC` is a nest of four single-index sums; `rotC1/2/3` name the inner levels so that each
  contraction with a rotated vector is one application of `orth_contract`.  A rotated tensor is never unfolded down to `C`:
  sums are exchanged with opaque summands (`Proofs/C12_Sums`), rotated matrices and vectors are compared as functions.
  The covariance theorems of the property stand at the end.
-/
import Proofs.C12_Mode
import Mathlib.Tactic.LinearCombination
set_option linter.unusedSectionVars false
set_option linter.unusedSimpArgs false

namespace Atomman.C12
variable {F : Type} [Field F]

/-- `RᵀR = 1` -/
def Orth (R : Mat F) : Prop := ∀ a b, (sum3 fun i => R i a * R i b) = kron a b

theorem orth_contract {R : Mat F} (h : Orth R) (v X : Vec F) :
    (sum3 fun i => rotVec R v i * sum3 fun g => R i g * X g) = sum3 fun g => v g * X g := by
  have h00 := h 0 0; have h11 := h 1 1; have h22 := h 2 2; have h01 := h 0 1; have h02 := h 0 2; have h12 := h 1 2
  simp [sum3, kron] at h00 h11 h22 h01 h02 h12
  simp only [sum3, rotVec, matVec]
  linear_combination (v 0 * X 0) * h00 + (v 1 * X 1) * h11 + (v 2 * X 2) * h22 + (v 0 * X 1 + v 1 * X 0) * h01
    + (v 0 * X 2 + v 2 * X 0) * h02 + (v 1 * X 2 + v 2 * X 1) * h12

theorem dot_rot {R : Mat F} (h : Orth R) (v w : Vec F) : dot (rotVec R v) (rotVec R w) = dot v w := by
  have := orth_contract h v w
  simpa [dot, rotVec, matVec] using this

def rotC1 (R : Mat F) (C : Ten4 F) : Ten4 F := fun g h m l => sum3 fun n => R l n * C g h m n
def rotC2 (R : Mat F) (C : Ten4 F) : Ten4 F := fun g h k l => sum3 fun m => R k m * rotC1 R C g h m l
def rotC3 (R : Mat F) (C : Ten4 F) : Ten4 F := fun g j k l => sum3 fun h => R j h * rotC2 R C g h k l
theorem rotC_eq (R : Mat F) (C : Ten4 F) (i j k l : Fin 3) :
    rotC R C i j k l = sum3 fun g => R i g * rotC3 R C g j k l := rfl

theorem rotC1_contract {R : Mat F} (h : Orth R) (C : Ten4 F) (w : Vec F) (g h' m : Fin 3) :
    (sum3 fun l => rotC1 R C g h' m l * rotVec R w l) = sum3 fun n => C g h' m n * w n := by
  have := orth_contract h w (fun n => C g h' m n)
  simp only [sum3, rotC1] at this ⊢
  linear_combination this


theorem contract_left (a b : Vec F) (C : Ten4 F) (j k : Fin 3) :
    contract a C b j k = sum3 fun l => (sum3 fun g => a g * C g j k l) * b l := by
  simp only [contract, sum3]; ring
theorem contract_right (a b : Vec F) (C : Ten4 F) (j k : Fin 3) :
    contract a C b j k = sum3 fun g => a g * sum3 fun l => C g j k l * b l := by
  simp only [contract, sum3]; ring

theorem contract_rot {R : Mat F} (h : Orth R) (C : Ten4 F) (a b : Vec F) :
    contract (rotVec R a) (rotC R C) (rotVec R b) = rotMat R (contract a C b) := by
  funext j k
  -- first index by `orth_contract`, then the last one is moved inwards level by level to meet `rotC1_contract`
  rw [contract_left]
  simp only [rotC_eq, orth_contract h, rotC3, rotC2, sum3_pull, rotC1_contract h, rotMat, contract_right]
  exact sum3_exch a (R j) (R k) _

theorem rotVec_apply (R : Mat F) (v : Vec F) (i : Fin 3) : rotVec R v i = sum3 fun j => R i j * v j := rfl
theorem rotVec_add (R : Mat F) (v w : Vec F) (i : Fin 3) :
    rotVec R (fun g => v g + w g) i = rotVec R v i + rotVec R w i := by
  simp only [rotVec, matVec, sum3]; ring
theorem rotVec_smul (R : Mat F) (c : F) (v : Vec F) (i : Fin 3) :
    rotVec R (fun g => c * v g) i = c * rotVec R v i := by
  simp only [rotVec, matVec, sum3]; ring

theorem rotVec_sub (R : Mat F) (v w : Vec F) (i : Fin 3) :
    rotVec R (fun g => v g - w g) i = rotVec R v i - rotVec R w i := by
  simp only [rotVec, matVec, sum3]; ring

theorem matVec_rot {R : Mat F} (h : Orth R) (M : Mat F) (v : Vec F) :
    matVec (rotMat R M) (rotVec R v) = rotVec R (matVec M v) := by
  funext i
  -- row `g` of `M Rᵀ` meets `R v`: `orth_contract` with the factors in the order the definitions produce
  have c : ∀ g, (sum3 fun j => (sum3 fun h' => R j h' * M g h') * rotVec R v j) = sum3 fun h' => M g h' * v h' := by
    intro g
    have := orth_contract h v (M g)
    simp only [sum3] at this ⊢
    linear_combination this
  simp only [matVec, rotMat, sum3_pull, c]
  rfl

/-- column `j` of `R N Rᵀ` is `R` applied to the vector `N Rᵀeⱼ`. -/
theorem matMul_rot {R : Mat F} (h : Orth R) (M N : Mat F) (i j : Fin 3) :
    matMul (rotMat R M) (rotMat R N) i j = rotMat R (matMul M N) i j := by
  refine (congrFun (matVec_rot h M fun g => sum3 fun h' => R j h' * N g h') i).trans ?_
  simp only [rotVec_apply, matVec, rotMat, matMul, sum3]; ring

theorem rotMat_neg (R : Mat F) (M : Mat F) (i j : Fin 3) :
    -(rotMat R M i j) = rotMat R (fun a b => -(M a b)) i j := by
  simp only [rotMat, sum3]; ring
theorem rotMat_add (R : Mat F) (M N : Mat F) (i j : Fin 3) :
    rotMat R M i j + rotMat R N i j = rotMat R (fun a b => M a b + N a b) i j := by
  simp only [rotMat, sum3]; ring
theorem rotMat_smul (R : Mat F) (c : F) (M : Mat F) (i j : Fin 3) :
    c * rotMat R M i j = rotMat R (fun a b => c * M a b) i j := by
  simp only [rotMat, sum3]; ring

theorem rotVec_sum6 (R : Mat F) (v : Fin 6 → Vec F) (c : Fin 6 → F) (i : Fin 3) :
    (sum6 fun a => rotVec R (v a) i * c a) = rotVec R (fun g => sum6 fun a => v a g * c a) i := by
  simp only [rotVec_apply, sum6_sum3_mul, mul_assoc, ← mul_sum6]
theorem rotMat_sum6 (R : Mat F) (M : Fin 6 → Mat F) (c : Fin 6 → F) (i j : Fin 3) :
    (sum6 fun a => rotMat R (M a) i j * c a) = rotMat R (fun g h => sum6 fun a => M a g h * c a) i j := by
  simp only [rotMat, sum6_sum3_mul, mul_assoc, ← mul_sum6]

theorem rotMat_sum6_outer (R : Mat F) (w : Fin 6 → F) (u v : Fin 6 → Vec F) (i j : Fin 3) :
    (sum6 fun a => w a * rotVec R (u a) i * rotVec R (v a) j)
      = rotMat R (fun g h => sum6 fun a => w a * u a g * v a h) i j := by
  have e : ∀ a, w a * rotVec R (u a) i * rotVec R (v a) j = rotMat R (fun g h => u a g * v a h) i j * w a := by
    intro a; simp only [rotVec_apply, rotMat, sum3]; ring
  simp only [e, rotMat_sum6]
  congr 1; funext g h; congr 1; funext a; ring

theorem symOuter_rot (R : Mat F) (D d : Vec F) (i j : Fin 3) :
    symOuter (rotVec R D) (rotVec R d) i j = rotMat R (symOuter D d) i j := by
  simp only [symOuter, rotVec_apply, rotMat, sum3]; ring


theorem rotMat_kron (R : Mat F) (i j : Fin 3) : rotMat R (fun a b => kron a b) i j = sum3 fun g => R i g * R j g := by
  simp only [rotMat, kron, sum3]
  fin_cases j <;> simp

theorem matVec_matMul (M N : Mat F) (v : Vec F) : matVec (matMul M N) v = matVec M (matVec N v) := by
  funext i; simp only [matVec, matMul, sum3]; ring

theorem matVec_add_left (M N : Mat F) (v : Vec F) :
    matVec (fun i j => M i j + N i j) v = fun i => matVec M v i + matVec N v i := by
  funext i; simp only [matVec, sum3]; ring

section setup
variable {R : Mat F} (h : Orth R) (s : Setup F)
include h

omit h in
theorem NB_rot (nnInv : Mat F) : NB (rotMat R nnInv) = rotMat R (NB nnInv) :=
  funext fun i => funext fun j => rotMat_neg R nnInv i j

/-- every product `(R M Rᵀ)(R v)` is `R (M v)`, and what is left is the linearity of `R`. -/
theorem eigResTop_rot (nnInv : Mat F) (μ : Mode F) (i : Fin 3) :
    eigResTop (rotSetup R s) (rotMat R nnInv) (rotMode R μ) i = rotVec R (eigResTop s nnInv μ) i := by
  unfold eigResTop NA
  simp only [matVec_matMul, Setup.nm, rotSetup, rotMode, contract_rot h, NB_rot, matVec_rot h, rotVec_sub, rotVec_add,
    rotVec_smul]

theorem eigResBot_rot (nnInv : Mat F) (μ : Mode F) (i : Fin 3) :
    eigResBot (rotSetup R s) (rotMat R nnInv) (rotMode R μ) i = rotVec R (eigResBot s nnInv μ) i := by
  unfold eigResBot NC ND NA
  simp only [matVec_add_left, matVec_matMul, Setup.nm, Setup.mn, Setup.mm, rotSetup, rotMode, contract_rot h, NB_rot,
    matVec_rot h, rotVec_sub, rotVec_add, rotVec_smul]

theorem kOf_rot (μ : Mode F) : kOf (rotMode R μ) = kOf μ := by
  simp only [kOf, rotMode, dot_rot h]

omit h in
theorem mpn_rot (μ : Mode F) : mpn (rotSetup R s) (rotMode R μ) = rotVec R (mpn s μ) := by
  funext i; simp only [mpn, rotSetup, rotMode, rotVec, matVec, sum3]; ring

theorem eta_rot (μ : Mode F) (x : Vec F) : eta (rotSetup R s) (rotMode R μ) (rotVec R x) = eta s μ x := by
  simp only [eta, rotSetup, rotMode, dot_rot h]

theorem kLb_rot (μ : Fin 6 → Mode F) (k : Fin 6 → F) (a : Fin 6) :
    kLb (rotSetup R s) (fun a => rotMode R (μ a)) k a = kLb s μ k a := by
  simp only [kLb, rotSetup, rotMode, dot_rot h]

theorem dispCoef_rot (pi I : F) (μ : Fin 6 → Mode F) (k : Fin 6 → F) (a : Fin 6) :
    dispCoef pi I (rotSetup R s) (fun a => rotMode R (μ a)) k a = rotVec R (dispCoef pi I s μ k a) := by
  funext i
  simp only [dispCoef, kLb_rot h s μ k a]
  simp only [rotMode, rotVec, matVec, sum3, dispCoef]
  ring

theorem strainCoef_rot [CharZero F] (pi I : F) (μ : Fin 6 → Mode F) (k : Fin 6 → F) (a : Fin 6) (i j : Fin 3) :
    strainCoef pi I (rotSetup R s) (fun a => rotMode R (μ a)) k a i j = rotMat R (strainCoef pi I s μ k a) i j := by
  rw [strainCoef_eq, strainCoef_eq, dispCoef_rot h, mpn_rot, symOuter_rot]

theorem rotC2_contract (C : Ten4 F) (v w : Vec F) (g h' : Fin 3) :
    (sum3 fun k => sum3 fun l => rotC2 R C g h' k l * (rotVec R w l * rotVec R v k))
      = sum3 fun m => sum3 fun n => C g h' m n * (w n * v m) := by
  -- the last index meets `R w` (`rotC1_contract`), then the third one meets `R v` (`orth_contract`)
  have e : ∀ k, (sum3 fun l => rotC2 R C g h' k l * (rotVec R w l * rotVec R v k))
      = rotVec R v k * sum3 fun m => R k m * sum3 fun n => C g h' m n * w n := by
    intro k
    simp only [rotC2, ← mul_assoc, ← sum3_mul, sum3_pull, rotC1_contract h]
    exact mul_comm _ _
  simp only [e, orth_contract h]
  simp only [mul_sum3]
  congr 1; funext m; congr 1; funext n; ring

/-- the two free indices of `rotC` are moved out of the double contraction, which then is `rotC2_contract`. -/
theorem hooke_rot (C : Ten4 F) (D d : Vec F) (i j : Fin 3) :
    hooke (rotC R C) (rotVec R D) (rotVec R d) i j = rotMat R (hooke C D d) i j := by
  simp only [hooke, rotC_eq, rotC3, sum3_pull2, rotC2_contract h, rotMat]

theorem stressCoef_rot (pi I : F) (μ : Fin 6 → Mode F) (k : Fin 6 → F) (a : Fin 6) (i j : Fin 3) :
    stressCoef pi I (rotSetup R s) (fun a => rotMode R (μ a)) k a i j = rotMat R (stressCoef pi I s μ k a) i j := by
  rw [stressCoef_eq, stressCoef_eq, dispCoef_rot h, mpn_rot]
  exact hooke_rot h s.C _ _ i j

omit h in
theorem kTensor_rot (I : F) (μ : Fin 6 → Mode F) (k : Fin 6 → F) (i j : Fin 3) :
    kTensor I (fun a => rotMode R (μ a)) k i j = rotMat R (kTensor I μ k) i j := by
  simp only [kTensor, rotMode, rotMat_sum6_outer, rotMat_smul]
  rfl
end setup
section covariance
variable [CharZero F] {R : Mat F}

/-! `R` is any matrix with `RᵀR = 1` (`Orth R`); the rotated problem is `rotSetup R s` (stiffness
  `C'_ijkl = R_ig R_jh R_km R_ln C_ghmn` exactly as `ElasticConstants.transform` computes it, `m' = Rm`, `n' = Rn`,
  `b' = Rb`), the eigen-solver output of the rotated problem is `rotMode R μₐ` (same `pₐ`, rotated `Aₐ`, `Lₐ`). -/
/-- the eigen equation is covariant: the residual `N'v' − p v'` of the rotated problem is the rotated residual, so
    `(p, RA, RL)` is an eigen-pair of the rotated `N` whenever `(p, A, L)` is one of `N`
    (`nnInv' = R nnInv Rᵀ`; see `inverse_covariant`). -/
theorem eigen_covariant (h : Orth R) (s : Setup F) (nnInv : Mat F) (μ : Mode F) :
    (∀ i, eigResTop (rotSetup R s) (rotMat R nnInv) (rotMode R μ) i = rotVec R (eigResTop s nnInv μ) i)
    ∧ (∀ i, eigResBot (rotSetup R s) (rotMat R nnInv) (rotMode R μ) i = rotVec R (eigResBot s nnInv μ) i)
    ∧ ((∀ i, eigResTop s nnInv μ i = 0) → (∀ i, eigResBot s nnInv μ i = 0) →
        (∀ i, eigResTop (rotSetup R s) (rotMat R nnInv) (rotMode R μ) i = 0)
        ∧ ∀ i, eigResBot (rotSetup R s) (rotMat R nnInv) (rotMode R μ) i = 0) := by
  refine ⟨eigResTop_rot h s nnInv μ, eigResBot_rot h s nnInv μ, fun ht hb => ⟨fun i => ?_, fun i => ?_⟩⟩
  · rw [eigResTop_rot h s nnInv μ i]; simp only [rotVec, matVec, sum3, ht]; ring
  · rw [eigResBot_rot h s nnInv μ i]; simp only [rotVec, matVec, sum3, hb]; ring

/-- `(R nn Rᵀ)(R nnInv Rᵀ) = 1`; this is the one place where `R Rᵀ = 1` is needed besides `RᵀR = 1`. -/
theorem inverse_covariant (h : Orth R) (h' : ∀ i j, (sum3 fun g => R i g * R j g) = kron i j)
    (s : Setup F) (nnInv : Mat F) (hinv : ∀ i j, matMul s.nn nnInv i j = kron i j) (i j : Fin 3) :
    matMul (rotSetup R s).nn (rotMat R nnInv) i j = kron i j := by
  have e : matMul (rotSetup R s).nn (rotMat R nnInv) i j = rotMat R (matMul s.nn nnInv) i j := by
    rw [← matMul_rot h]; simp only [matMul, Setup.nn, rotSetup, contract_rot h]
  rw [e, show matMul s.nn nnInv = fun a b => kron a b from funext fun a => funext fun b => hinv a b, rotMat_kron]
  exact h' i j

/-- the fields are covariant: at the rotated point the displacement is the rotated vector, strain and stress the
    rotated tensors (`ln ηₐ` and `1/ηₐ` are invariant because `ηₐ` is, `eta_rot`). -/
theorem fields_covariant (h : Orth R) (pi I : F) (s : Setup F) (μ : Fin 6 → Mode F) (k : Fin 6 → F) (x : Vec F) :
    (∀ a, eta (rotSetup R s) (rotMode R (μ a)) (rotVec R x) = eta s (μ a) x)
    ∧ (∀ lnη i, dispAt pi I (rotSetup R s) (fun a => rotMode R (μ a)) k lnη i = rotVec R (dispAt pi I s μ k lnη) i)
    ∧ (∀ i j, strainAt pi I (rotSetup R s) (fun a => rotMode R (μ a)) k (rotVec R x) i j
          = rotMat R (strainAt pi I s μ k x) i j)
    ∧ (∀ i j, stressAt pi I (rotSetup R s) (fun a => rotMode R (μ a)) k (rotVec R x) i j
          = rotMat R (stressAt pi I s μ k x) i j)
    ∧ ∀ i, dispJump pi I (rotSetup R s) (fun a => rotMode R (μ a)) k i = rotVec R (dispJump pi I s μ k) i := by
  have hd : ∀ lnη i, dispAt pi I (rotSetup R s) (fun a => rotMode R (μ a)) k lnη i
      = rotVec R (dispAt pi I s μ k lnη) i := by
    intro lnη i
    simp only [dispAt, dispCoef_rot h]
    exact rotVec_sum6 R _ lnη i
  refine ⟨fun a => eta_rot h s (μ a) x, hd, ?_, ?_, fun i => hd _ i⟩
  · intro i j
    simp only [strainAt, strainCoef_rot h, eta_rot h]
    exact rotMat_sum6 R _ _ i j
  · intro i j
    simp only [stressAt, stressCoef_rot h, eta_rot h]
    exact rotMat_sum6 R _ _ i j

/-- the energy coefficients are covariant: `K' = R K Rᵀ`, the normalisation factors `kₐ` do not change, and the
    scalars `K_coeff`, `preln` of any tensor rotated together with the Burgers vector are invariant. -/
theorem K_covariant (h : Orth R) (I : F) (μ : Fin 6 → Mode F) (k : Fin 6 → F) :
    (∀ i j, kTensor I (fun a => rotMode R (μ a)) k i j = rotMat R (kTensor I μ k) i j)
    ∧ (∀ a, kOf (rotMode R (μ a)) = kOf (μ a))
    ∧ (∀ (K : Mat F) (b : Vec F), kCoeff (rotMat R K) (rotVec R b) = kCoeff K b)
    ∧ ∀ (pi : F) (K : Mat F) (b : Vec F), preln pi (rotMat R K) (rotVec R b) = preln pi K b := by
  have q : ∀ (K : Mat F) (b : Vec F), dot (rotVec R b) (matVec (rotMat R K) (rotVec R b)) = dot b (matVec K b) := by
    intro K b
    rw [matVec_rot h, dot_rot h]
  refine ⟨kTensor_rot I μ k, fun a => kOf_rot h (μ a), fun K b => ?_, fun pi K b => ?_⟩
  · simp only [kCoeff, q, dot_rot h]
  · simp only [preln, q]

example : Orth (F := ℚ) (fun i j => if (i, j) = (0, 1) then -1 else if (i, j) = (1, 0) ∨ (i, j) = (2, 2) then 1 else 0) := by
  intro a b; fin_cases a <;> fin_cases b <;> simp [sum3, kron]


/-- the rotation by 90° about z of the example above satisfies `R Rᵀ = 1` as well (the extra hypothesis of `inverse_covariant`). -/
example : ∀ i j, (sum3 fun g => (fun (i j : Fin 3) => if (i, j) = (0, 1) then (-1 : ℚ) else
    if (i, j) = (1, 0) ∨ (i, j) = (2, 2) then 1 else 0) i g * (fun (i j : Fin 3) => if (i, j) = (0, 1) then (-1 : ℚ) else
    if (i, j) = (1, 0) ∨ (i, j) = (2, 2) then 1 else 0) j g) = kron i j := by
  intro a b; fin_cases a <;> fin_cases b <;> simp [sum3, kron]
end covariance

end Atomman.C12
