/-
  C14, `System.wrap` on one atom and `StackingFault.fault`: `wrap` moves an atom by an integer combination of the periodic
  cell vectors, into the cell, and does not see lattice translations; atoms at or below the fault plane stay, atoms above
  move by the requested vector modulo the periodic cell vectors; a periodic cell vector, a symmetry of the upper half, a
  translation whose orbits make up the atom list restore the crystal; `wrap` leaves the coordinate along a flat cut alone.
-/
import Proofs.C14_Cart
import Proofs.C05_Lemmas

namespace Atomman.C14
open Atomman
set_option linter.unusedSectionVars false

section fault
variable {K : Type} [Field K] [LinearOrder K] [IsStrictOrderedRing K]

theorem wrapPos_eq_C05 (box : Box K) (pbc : V3 Bool) (fl : K → Int) (p : V3 K) :
    wrapPos box pbc fl p = C05.atomPos fl box pbc p ∧ imageFlags box pbc fl p = C05.atomFlags fl box pbc p :=
  ⟨rfl, rfl⟩

/-- C05's `wrap_reconstruct` for one atom: `wrap` moves an atom by an integer combination of the cell
    vectors, with zero coefficients along non-periodic directions. -/
theorem wrapPos_reconstruct (box : Box K) (hdet : M3.det box.vects ≠ 0) (pbc : V3 Bool) (fl : K → Int) (p : V3 K) :
    wrapPos box pbc fl p + C05.latticeVec box.vects (imageFlags box pbc fl p) = p ∧
    (pbc.x = false → (imageFlags box pbc fl p).x = 0) ∧ (pbc.y = false → (imageFlags box pbc fl p).y = 0) ∧
    (pbc.z = false → (imageFlags box pbc fl p).z = 0) :=
  ⟨C05.atom_reconstruct fl box hdet pbc p, C05.atomFlags_nonperiodic fl box pbc p⟩

/-- a point is inside the cell along the periodic directions (`0 ≤ s < 1` there); `C05.insidePeriodic` (`insidePeriodic_iff_C05`). -/
def insidePeriodic (box : Box K) (pbc : V3 Bool) (p : V3 K) : Prop :=
  (pbc.x = true → 0 ≤ (box.cartToRel p).x ∧ (box.cartToRel p).x < 1) ∧
  (pbc.y = true → 0 ≤ (box.cartToRel p).y ∧ (box.cartToRel p).y < 1) ∧
  (pbc.z = true → 0 ≤ (box.cartToRel p).z ∧ (box.cartToRel p).z < 1)

theorem insidePeriodic_iff_C05 (box : Box K) (pbc : V3 Bool) (p : V3 K) :
    insidePeriodic box pbc p ↔ C05.insidePeriodic box pbc p := Iff.rfl

/-- an atom that is already inside along the periodic directions is not moved by `wrap`. -/
theorem wrapPos_inside (box : Box K) (hdet : M3.det box.vects ≠ 0) (pbc : V3 Bool) (fl : K → Int)
    (hfl : C05.IsFloor fl) (p : V3 K) (hin : insidePeriodic box pbc p) : wrapPos box pbc fl p = p :=
  C05.atomPos_of_inside fl hfl box hdet pbc p ((insidePeriodic_iff_C05 box pbc p).mp hin)

/-- `wrap` does not see lattice translations along periodic directions:
    `wrap(p + m·vects) = wrap(p)` when `m` vanishes on the non-periodic axes. -/
theorem wrapPos_add_lattice (box : Box K) (hdet : M3.det box.vects ≠ 0) (pbc : V3 Bool) (fl : K → Int)
    (hfl : C05.IsFloor fl) (p : V3 K) (m : IV)
    (hx : pbc.x = false → m.x = 0) (hy : pbc.y = false → m.y = 0) (hz : pbc.z = false → m.z = 0) :
    wrapPos box pbc fl (p + C05.latticeVec box.vects m) = wrapPos box pbc fl p :=
  C05.atomPos_add_lattice fl hfl box hdet pbc p m hx hy hz

/-- the mask is the strict comparison of the cut coordinate with the fault plane: an atom exactly on
    the plane belongs to the lower half. -/
theorem isAbove_iff (cut : Cut) (fp : K) (p : V3 K) : isAbove cut fp p = true ↔ fp < p.get (cutIndex cut) := by
  simp only [isAbove, decide_eq_true_eq]

/-- **fault_below_fixed**: an atom at or below the fault plane is not shifted: it is only re-wrapped, i.e.
    moved by an integer combination of the *periodic* cell vectors, and not at all if it was inside. -/
theorem fault_below_fixed (box : Box K) (hdet : M3.det box.vects ≠ 0) (pbc : V3 Bool) (fl : K → Int)
    (hfl : C05.IsFloor fl) (cut : Cut) (fp : K) (shift p : V3 K) (hb : p.get (cutIndex cut) ≤ fp) :
    faultPos box pbc fl cut fp shift p = wrapPos box pbc fl p ∧
    faultPos box pbc fl cut fp shift p + C05.latticeVec box.vects (imageFlags box pbc fl p) = p ∧
    (insidePeriodic box pbc p → faultPos box pbc fl cut fp shift p = p) := by
  have hna : isAbove cut fp p = false := by
    rw [Bool.eq_false_iff, ne_eq, isAbove_iff]; exact not_lt.mpr hb
  have e : faultPos box pbc fl cut fp shift p = wrapPos box pbc fl p := by
    simp only [faultPos, hna, Bool.false_eq_true, if_false]
  refine ⟨e, ?_, ?_⟩
  · rw [e]; exact (wrapPos_reconstruct box hdet pbc fl p).1
  · intro hin; rw [e]; exact wrapPos_inside box hdet pbc fl hfl p hin

/-- **fault_above_shifted**: an atom above the fault plane ends at `p + shift` minus an integer
    combination `n` of the cell vectors with `n = 0` along every non-periodic direction (the cut
    direction of a surface system): exactly the requested vector modulo the periodic in-plane cell
    vectors. -/
theorem fault_above_shifted (box : Box K) (hdet : M3.det box.vects ≠ 0) (pbc : V3 Bool) (fl : K → Int)
    (cut : Cut) (fp : K) (shift p : V3 K) (ha : fp < p.get (cutIndex cut)) :
    ∃ n : IV, faultPos box pbc fl cut fp shift p + C05.latticeVec box.vects n = p + shift ∧
      (pbc.x = false → n.x = 0) ∧ (pbc.y = false → n.y = 0) ∧ (pbc.z = false → n.z = 0) := by
  have hab : isAbove cut fp p = true := (isAbove_iff cut fp p).mpr ha
  have e : faultPos box pbc fl cut fp shift p = wrapPos box pbc fl (p + shift) := by
    simp only [faultPos, hab, if_true]
  obtain ⟨h1, h2⟩ := wrapPos_reconstruct box hdet pbc fl (p + shift)
  exact ⟨imageFlags box pbc fl (p + shift), by rw [e]; exact h1, h2⟩

/-- the requested vector: `a1·a1vect + a2·a2vect + outofplane·ê_cut`; when the two shift vectors lie in
    the fault plane its out-of-plane component is exactly `outofplane`. -/
theorem faultShift_cut (a1 a2 oop : K) (a1c a2c : V3 K) (cut : Cut)
    (h1 : a1c.get (cutIndex cut) = 0) (h2 : a2c.get (cutIndex cut) = 0) :
    (faultShift a1 a2 oop a1c a2c cut).get (cutIndex cut) = oop := by
  have hu : (unitV (K := K) (cutIndex cut)).get (cutIndex cut) = 1 := by
    cases cut <;> exact Int.cast_one
  rw [faultShift, V3.get_add, V3.get_add, V3.get_smul, V3.get_smul, V3.get_smul, h1, h2, hu]
  ring

/-- **fault_lattice_vector_restores**, cell-vector form: a shift by an integer combination of the
    periodic cell vectors leaves every atom of a wrapped system exactly where it was. -/
theorem fault_box_vector_restores (box : Box K) (hdet : M3.det box.vects ≠ 0) (pbc : V3 Bool) (fl : K → Int)
    (hfl : C05.IsFloor fl) (cut : Cut) (fp : K) (m : IV)
    (hx : pbc.x = false → m.x = 0) (hy : pbc.y = false → m.y = 0) (hz : pbc.z = false → m.z = 0)
    (ps : List (V3 K)) (hin : ∀ p ∈ ps, insidePeriodic box pbc p) :
    fault box pbc fl cut fp (C05.latticeVec box.vects m) ps = ps := by
  unfold fault
  conv_rhs => rw [← List.map_id ps]
  apply List.map_congr_left
  intro p hp
  simp only [faultPos, id]
  split_ifs
  · rw [wrapPos_add_lattice box hdet pbc fl hfl p m hx hy hz]
    exact wrapPos_inside box hdet pbc fl hfl p (hin p hp)
  · exact wrapPos_inside box hdet pbc fl hfl p (hin p hp)

/-- **fault_lattice_vector_restores**: if the translation `t` is a symmetry of the half-crystal above the
    fault plane modulo the periodic cell (the wrapped images of the shifted upper atoms are the upper
    atoms again, as a multiset), the faulted system is the unfaulted one as a multiset of positions. -/
theorem fault_lattice_vector_restores (box : Box K) (hdet : M3.det box.vects ≠ 0) (pbc : V3 Bool)
    (fl : K → Int) (hfl : C05.IsFloor fl) (cut : Cut) (fp : K) (t : V3 K) (ps : List (V3 K))
    (hin : ∀ p ∈ ps, insidePeriodic box pbc p)
    (hsym : ((ps.filter (isAbove cut fp)).map (fun p => wrapPos box pbc fl (p + t))).Perm
      (ps.filter (isAbove cut fp))) :
    (fault box pbc fl cut fp t ps).Perm ps := by
  have hsplit : ps.Perm (ps.filter (isAbove cut fp) ++ ps.filter (fun p => !isAbove cut fp p)) :=
    (List.filter_append_perm (isAbove cut fp) ps).symm
  have h1 : (fault box pbc fl cut fp t ps).Perm
      ((ps.filter (isAbove cut fp) ++ ps.filter (fun p => !isAbove cut fp p)).map (faultPos box pbc fl cut fp t)) :=
    hsplit.map _
  refine h1.trans (List.Perm.trans ?_ hsplit.symm)
  rw [List.map_append]
  have ea : (ps.filter (isAbove cut fp)).map (faultPos box pbc fl cut fp t)
      = (ps.filter (isAbove cut fp)).map (fun p => wrapPos box pbc fl (p + t)) := by
    apply List.map_congr_left
    intro p hp
    have := (List.mem_filter.mp hp).2
    simp only [faultPos, this, if_true]
  have eb : (ps.filter (fun p => !isAbove cut fp p)).map (faultPos box pbc fl cut fp t)
      = ps.filter (fun p => !isAbove cut fp p) := by
    conv_rhs => rw [← List.map_id (ps.filter (fun p => !isAbove cut fp p))]
    apply List.map_congr_left
    intro p hp
    obtain ⟨hp1, hp2⟩ := List.mem_filter.mp hp
    simp only [Bool.not_eq_true'] at hp2
    simp only [faultPos, hp2, Bool.false_eq_true, if_false, id]
    exact wrapPos_inside box hdet pbc fl hfl p (hin p hp1)
  rw [ea, eb]
  exact List.Perm.append_right _ hsym


/-- every output of `wrap` is inside the cell along the periodic directions. -/
theorem wrapPos_insidePeriodic (box : Box K) (hdet : M3.det box.vects ≠ 0) (pbc : V3 Bool) (fl : K → Int)
    (hfl : C05.IsFloor fl) (p : V3 K) : insidePeriodic box pbc (wrapPos box pbc fl p) :=
  (insidePeriodic_iff_C05 box pbc _).mpr (C05.atomPos_inside fl hfl box hdet pbc p)


theorem latticeVec_neg (V : M3 K) (n : IV) (p : V3 K) :
    p + C05.latticeVec V n + C05.latticeVec V ⟨-n.x, -n.y, -n.z⟩ = p := by
  ext <;> simp only [C05.latticeVec, M3.vecMul, V3.add_def] <;> push_cast <;> ring

theorem wrapPos_wrapPos_add (box : Box K) (hdet : M3.det box.vects ≠ 0) (pbc : V3 Bool) (fl : K → Int)
    (hfl : C05.IsFloor fl) (x t : V3 K) :
    wrapPos box pbc fl (wrapPos box pbc fl x + t) = wrapPos box pbc fl (x + t) :=
  C05.atomPos_atomPos_add fl hfl box hdet pbc x t

/-- the `M` images `wrap(q + k·t)`, `k = 0 … M-1`, of one atom under a translation `t` with `M·t` a periodic
    cell vector. -/
def orbit (box : Box K) (pbc : V3 Bool) (fl : K → Int) (t : V3 K) (M : ℕ) (q : V3 K) : List (V3 K) :=
  (List.range M).map fun (k : ℕ) => wrapPos box pbc fl (q + V3.smul ((k : ℤ) : K) t)

theorem map_succ_perm {α : Type} (f : ℕ → α) (N : ℕ) (h : f (N + 1) = f 0) :
    ((List.range (N + 1)).map fun k => f (k + 1)).Perm ((List.range (N + 1)).map f) := by
  have e : (List.range (N + 1)).map f = f 0 :: (List.range N).map fun k => f (k + 1) := by
    rw [List.range_succ_eq_map, List.map_cons, List.map_map]; rfl
  rw [e, List.range_succ, List.map_append, List.map_singleton, h]
  exact List.perm_append_singleton _ _

/-- translating every image of an orbit by `t` and wrapping permutes the orbit cyclically: image `k` goes to image
    `k + 1`, and image `M` is image `0` because `M·t` is a periodic cell vector. -/
theorem orbit_shift_perm (box : Box K) (hdet : M3.det box.vects ≠ 0) (pbc : V3 Bool) (fl : K → Int)
    (hfl : C05.IsFloor fl) (t : V3 K) (M : ℕ) (m : IV)
    (hM : V3.smul ((M : ℤ) : K) t = C05.latticeVec box.vects m)
    (hx : pbc.x = false → m.x = 0) (hy : pbc.y = false → m.y = 0) (hz : pbc.z = false → m.z = 0) (q : V3 K) :
    ((orbit box pbc fl t M q).map (fun p => wrapPos box pbc fl (p + t))).Perm (orbit box pbc fl t M q) := by
  cases M with
  | zero => exact List.Perm.refl _
  | succ N =>
    have step : ∀ k : ℕ, wrapPos box pbc fl (wrapPos box pbc fl (q + V3.smul ((k : ℤ) : K) t) + t)
        = wrapPos box pbc fl (q + V3.smul (((k + 1 : ℕ) : ℤ) : K) t) := by
      intro k
      rw [wrapPos_wrapPos_add box hdet pbc fl hfl]
      congr 1
      ext <;> simp only [V3.add_def, V3.smul] <;> push_cast <;> ring
    have hlast : wrapPos box pbc fl (q + V3.smul (((N + 1 : ℕ) : ℤ) : K) t)
        = wrapPos box pbc fl (q + V3.smul (((0 : ℕ) : ℤ) : K) t) := by
      rw [hM, wrapPos_add_lattice box hdet pbc fl hfl q m hx hy hz]
      congr 1
      ext <;> simp only [V3.add_def, V3.smul] <;> push_cast <;> ring
    have e : (orbit box pbc fl t (N + 1) q).map (fun p => wrapPos box pbc fl (p + t))
        = (List.range (N + 1)).map fun k : ℕ => wrapPos box pbc fl (q + V3.smul (((k + 1 : ℕ) : ℤ) : K) t) := by
      rw [orbit, List.map_map]
      exact List.map_congr_left fun k _ => step k
    rw [e]
    exact map_succ_perm (fun k : ℕ => wrapPos box pbc fl (q + V3.smul ((k : ℤ) : K) t)) N hlast


/-- the cut component of `s · V` when the other two cell vectors have none: `s_cut` cell heights, for any real
    coefficients `s`. -/
theorem vecMul_get_cut (V : M3 K) (cut : Cut)
    (hrows : ∀ i, i < 3 → i ≠ cutIndex cut → (V.row i).get (cutIndex cut) = 0) (s : V3 K) :
    (M3.vecMul s V).get (cutIndex cut) = s.get (cutIndex cut) * (V.row (cutIndex cut)).get (cutIndex cut) := by
  cases cut
  · have r1 : V.r1.x = 0 := hrows 1 (by norm_num) (by decide)
    have r2 : V.r2.x = 0 := hrows 2 (by norm_num) (by decide)
    show s.x * V.r0.x + s.y * V.r1.x + s.z * V.r2.x = s.x * V.r0.x
    rw [r1, r2]; ring
  · have r0 : V.r0.y = 0 := hrows 0 (by norm_num) (by decide)
    have r2 : V.r2.y = 0 := hrows 2 (by norm_num) (by decide)
    show s.x * V.r0.y + s.y * V.r1.y + s.z * V.r2.y = s.y * V.r1.y
    rw [r0, r2]; ring
  · have r0 : V.r0.z = 0 := hrows 0 (by norm_num) (by decide)
    have r1 : V.r1.z = 0 := hrows 1 (by norm_num) (by decide)
    show s.x * V.r0.z + s.y * V.r1.z + s.z * V.r2.z = s.z * V.r2.z
    rw [r0, r1]; ring

/-- for a lattice vector: `n_cut` cell heights. -/
theorem latticeVec_get_cut (V : M3 K) (cut : Cut)
    (hrows : ∀ i, i < 3 → i ≠ cutIndex cut → (V.row i).get (cutIndex cut) = 0) (n : IV) :
    (C05.latticeVec V n).get (cutIndex cut)
      = ((n.get (cutIndex cut) : ℤ) : K) * (V.row (cutIndex cut)).get (cutIndex cut) := by
  have h := vecMul_get_cut V cut hrows (toK n)
  cases cut <;> exact h

/-- `wrap` does not change the coordinate along a non-periodic direction to which the periodic cell vectors
    are perpendicular (the cut direction of a surface system). -/
theorem wrapPos_cut (box : Box K) (hdet : M3.det box.vects ≠ 0) (pbc : V3 Bool) (fl : K → Int) (cut : Cut)
    (hnp : pbc.get (cutIndex cut) = false)
    (hrows : ∀ i, i < 3 → i ≠ cutIndex cut → (box.vects.row i).get (cutIndex cut) = 0) (p : V3 K) :
    (wrapPos box pbc fl p).get (cutIndex cut) = p.get (cutIndex cut) := by
  obtain ⟨h1, h2, h3, h4⟩ := wrapPos_reconstruct box hdet pbc fl p
  have hn : (imageFlags box pbc fl p).get (cutIndex cut) = 0 := by
    cases cut
    exacts [h2 hnp, h3 hnp, h4 hnp]
  have h := congrArg (fun v => v.get (cutIndex cut)) h1
  simp only [V3.get_add, latticeVec_get_cut _ cut hrows, hn, Int.cast_zero, zero_mul, add_zero] at h
  exact h

/-- **fault_orbit_restores**: a system whose atoms come in orbits of the translation `t` (`M·t` a periodic
    cell vector, as in any supercell holding `M` unit cells along a lattice vector `t` of the crystal) is
    restored, as a multiset of positions, by a stacking-fault shift `t` in the fault plane. -/
theorem fault_orbit_restores (box : Box K) (hdet : M3.det box.vects ≠ 0) (pbc : V3 Bool) (fl : K → Int)
    (hfl : C05.IsFloor fl) (cut : Cut) (fp : K) (t : V3 K) (M : ℕ) (m : IV)
    (hM : V3.smul ((M : ℤ) : K) t = C05.latticeVec box.vects m)
    (hx : pbc.x = false → m.x = 0) (hy : pbc.y = false → m.y = 0) (hz : pbc.z = false → m.z = 0)
    (hnp : pbc.get (cutIndex cut) = false)
    (hrows : ∀ i, i < 3 → i ≠ cutIndex cut → (box.vects.row i).get (cutIndex cut) = 0)
    (ht : t.get (cutIndex cut) = 0)
    (base ps : List (V3 K)) (hps : ps.Perm (base.flatMap (orbit box pbc fl t M))) :
    (fault box pbc fl cut fp t ps).Perm ps := by
  set os := base.flatMap (orbit box pbc fl t M) with hos
  have hin : ∀ p ∈ os, insidePeriodic box pbc p := by
    intro p hp
    simp only [hos, List.mem_flatMap, orbit, List.mem_map] at hp
    obtain ⟨q, _, k, _, rfl⟩ := hp
    exact wrapPos_insidePeriodic box hdet pbc fl hfl _
  have habove : ∀ p, isAbove cut fp (wrapPos box pbc fl (p + t)) = isAbove cut fp p := by
    intro p
    simp only [isAbove, wrapPos_cut box hdet pbc fl cut hnp hrows, V3.get_add, ht, add_zero]
  have hmap : (os.map (fun p => wrapPos box pbc fl (p + t))).Perm os := by
    rw [hos, List.map_flatMap]
    exact List.Perm.flatMap_left _ (fun q _ => orbit_shift_perm box hdet pbc fl hfl t M m hM hx hy hz q)
  have hsym : ((os.filter (isAbove cut fp)).map (fun p => wrapPos box pbc fl (p + t))).Perm
      (os.filter (isAbove cut fp)) := by
    have e : (os.filter (isAbove cut fp)).map (fun p => wrapPos box pbc fl (p + t))
        = (os.map (fun p => wrapPos box pbc fl (p + t))).filter (isAbove cut fp) := by
      rw [List.filter_map]
      congr 1
      apply List.filter_congr
      intro p _
      simp only [Function.comp, habove]
    rw [e]
    exact hmap.filter _
  have h1 := fault_lattice_vector_restores box hdet pbc fl hfl cut fp t os hin hsym
  have h2 : (fault box pbc fl cut fp t ps).Perm (fault box pbc fl cut fp t os) := hps.map _
  exact h2.trans (h1.trans hps.symm)

end fault

end Atomman.C14
