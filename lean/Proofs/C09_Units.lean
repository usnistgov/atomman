/-
  C09 — numbers and tables: integer powers, the scaling factor `m^a kg^b s^c C^d K^e`, what `tableOK` states about a unit
  table, the base-unit scale and the radicand of `reset_units` (value, positivity), and its entry point (`resetPath`,
  `choiceOf`).
-/
import Atomman.C09
import Mathlib.Tactic.Ring
import Mathlib.Tactic.Positivity

namespace Atomman.C09

variable {K : Type} [Field K]

theorem powNat_eq (a : K) (n : Nat) : powNat a n = a ^ n := by
  induction n with
  | zero => simp [powNat]
  | succ n ih => simp [powNat, ih, pow_succ]

theorem powInt_eq (a : K) (n : Int) : powInt a n = a ^ n := by
  unfold powInt
  split
  · rename_i h
    rw [powNat_eq]
    conv_rhs => rw [← Int.toNat_of_nonneg h]
    rw [zpow_natCast]
  · rename_i h
    rw [powNat_eq]
    have h' : 0 ≤ -n := by omega
    conv_rhs => rw [← neg_neg n, zpow_neg, ← Int.toNat_of_nonneg h', zpow_natCast]
    simp

def Scales.Nonzero (sc : Scales K) : Prop := sc.m ≠ 0 ∧ sc.kg ≠ 0 ∧ sc.s ≠ 0 ∧ sc.c ≠ 0 ∧ sc.k ≠ 0

theorem factor_eq (sc : Scales K) (d : D5) :
    factor sc d = sc.m ^ d.m * sc.kg ^ d.kg * sc.s ^ d.s * sc.c ^ d.c * sc.k ^ d.k := by
  simp [factor, powInt_eq]

theorem factor_zero (sc : Scales K) : factor sc D5.zero = 1 := by
  simp [factor_eq, D5.zero]

theorem factor_ne_zero {sc : Scales K} (h : sc.Nonzero) (d : D5) : factor sc d ≠ 0 := by
  obtain ⟨h1, h2, h3, h4, h5⟩ := h
  rw [factor_eq]
  have := zpow_ne_zero d.m h1; have := zpow_ne_zero d.kg h2; have := zpow_ne_zero d.s h3
  have := zpow_ne_zero d.c h4; have := zpow_ne_zero d.k h5
  simp_all

theorem factor_add {sc : Scales K} (h : sc.Nonzero) (a b : D5) :
    factor sc (D5.add a b) = factor sc a * factor sc b := by
  obtain ⟨h1, h2, h3, h4, h5⟩ := h
  simp only [factor_eq, D5.add, zpow_add₀ h1, zpow_add₀ h2, zpow_add₀ h3, zpow_add₀ h4, zpow_add₀ h5]
  ring

theorem factor_sub {sc : Scales K} (h : sc.Nonzero) (a b : D5) :
    factor sc (D5.sub a b) = factor sc a / factor sc b := by
  obtain ⟨h1, h2, h3, h4, h5⟩ := h
  simp only [factor_eq, D5.sub, zpow_sub₀ h1, zpow_sub₀ h2, zpow_sub₀ h3, zpow_sub₀ h4, zpow_sub₀ h5]
  ring

theorem factor_smul (sc : Scales K) (n : Int) (a : D5) :
    factor sc (D5.smul n a) = factor sc a ^ n := by
  simp only [factor_eq, D5.smul, zpow_mul', mul_zpow]

theorem envOf_lookup {tab : List UnitEntry} {n : List Char} {e : UnitEntry} (h : lookup tab n = some e) (sc : Scales K) :
    envOf tab sc n = some (e.si * factor sc e.dim) := by
  simp [envOf, h]

theorem factor_kind (sc : Scales K) (k : Kind) :
    factor sc k.dim = match k with
      | .length => sc.m | .mass => sc.kg | .time => sc.s | .charge => sc.c
      | .energy => sc.m ^ 2 * sc.kg / sc.s ^ 2 := by
  cases k <;> simp [Kind.dim, factor_eq, zpow_neg, div_eq_mul_inv]

section table
variable [CharZero K]

theorem lookup_mem {tab : List UnitEntry} {n : List Char} {e : UnitEntry} (h : lookup tab n = some e) : e ∈ tab :=
  List.mem_of_find?_eq_some h

/-- what `tableOK` says, as propositions. -/
structure TableFacts (tab : List UnitEntry) : Prop where
  pos : ∀ e ∈ tab, 0 < e.num ∧ 0 < e.den
  m : ∃ e, lookup tab ['m'] = some e ∧ e.num = 1 ∧ e.den = 1 ∧ e.dim = ⟨1, 0, 0, 0, 0⟩
  kg : ∃ e, lookup tab ['k', 'g'] = some e ∧ e.num = 1 ∧ e.den = 1 ∧ e.dim = ⟨0, 1, 0, 0, 0⟩
  s : ∃ e, lookup tab ['s'] = some e ∧ e.num = 1 ∧ e.den = 1 ∧ e.dim = ⟨0, 0, 1, 0, 0⟩
  c : ∃ e, lookup tab ['C'] = some e ∧ e.num = 1 ∧ e.den = 1 ∧ e.dim = ⟨0, 0, 0, 1, 0⟩
  j : ∃ e, lookup tab ['J'] = some e ∧ e.num = 1 ∧ e.den = 1 ∧ e.dim = ⟨2, 1, -2, 0, 0⟩

theorem isOne_facts {tab : List UnitEntry} {n : List Char} {d : D5}
    (h : (match lookup tab n with
      | some e => e.num == 1 && e.den == 1 && e.dim == d
      | none => false) = true) :
    ∃ e, lookup tab n = some e ∧ e.num = 1 ∧ e.den = 1 ∧ e.dim = d := by
  cases hl : lookup tab n with
  | none => simp [hl] at h
  | some e =>
    simp only [hl, Bool.and_eq_true, beq_iff_eq] at h
    exact ⟨e, rfl, h.1.1, h.1.2, h.2⟩

theorem TableFacts.of_tableOK {tab : List UnitEntry} (h : tableOK tab = true) : TableFacts tab := by
  simp only [tableOK, Bool.and_eq_true, List.all_eq_true, decide_eq_true_eq] at h
  obtain ⟨⟨⟨⟨⟨h1, h2⟩, h3⟩, h4⟩, h5⟩, h6⟩ := h
  exact ⟨h6, isOne_facts h1, isOne_facts h2, isOne_facts h3, isOne_facts h4, isOne_facts h5⟩

theorem si_ne_zero {tab : List UnitEntry} (hf : TableFacts tab) {e : UnitEntry} (he : e ∈ tab) : (e.si : K) ≠ 0 := by
  obtain ⟨h1, h2⟩ := hf.pos e he
  have a : ((e.num : Int) : K) ≠ 0 := Int.cast_ne_zero.mpr (by omega)
  have b : ((e.den : Nat) : K) ≠ 0 := Nat.cast_ne_zero.mpr (by omega)
  simp only [UnitEntry.si]
  exact div_ne_zero a b

theorem si_one {e : UnitEntry} (h1 : e.num = 1) (h2 : e.den = 1) : (e.si : K) = 1 := by
  simp [UnitEntry.si, h1, h2]

theorem baseScale_spec [DecidableEq K] {tab : List UnitEntry} (hf : TableFacts tab) {base : List Char} {d : D5}
    (hb : ∃ b, lookup tab base = some b ∧ b.num = 1 ∧ b.den = 1 ∧ b.dim = d) (o : Option (List Char))
    (ho : ∀ n, o = some n → ∃ e, lookup tab n = some e) :
    ∃ x : K, baseScale (envSI tab) base o = some x ∧ x ≠ 0
      ∧ ∀ n e, o = some n → lookup tab n = some e → (e.si : K) * x = 1 := by
  obtain ⟨b, hb, hb1, hb2, -⟩ := hb
  cases o with
  | none => exact ⟨1, rfl, one_ne_zero, nofun⟩
  | some n =>
    obtain ⟨e, he⟩ := ho n rfl
    have hne : (e.si : K) ≠ 0 := si_ne_zero hf (lookup_mem he)
    refine ⟨1 / e.si, ?_, one_div_ne_zero hne, ?_⟩
    · simp [baseScale, envSI, hb, he, hne, si_one (K := K) hb1 hb2]
    · rintro _ e' ⟨⟩ h2
      rw [he] at h2; cases h2
      exact mul_one_div_cancel hne

end table

theorem ratToInt_sound (x : Rat) (n : Int) (h : ratToInt? x = some n) : x = (n : Rat) := by
  unfold ratToInt? at h
  split at h
  · rename_i hd
    cases h
    exact ((Rat.den_eq_one_iff x).mp hd).symm
  · cases h

section positive
variable {F : Type} [Field F] [LinearOrder F] [IsStrictOrderedRing F] [DecidableEq F]

theorem baseScale_pos (si : List Char → Option F) (hsi : ∀ n v, si n = some v → 0 < v) (b : List Char)
    (o : Option (List Char)) (y : F) (h : baseScale si b o = some y) : 0 < y := by
  cases o with
  | none => cases h; exact one_pos
  | some n =>
    simp only [baseScale] at h
    split at h
    · split at h
      · cases h
      · cases h; exact div_pos (hsi _ _ ‹_›) (hsi _ _ ‹_›)
    · cases h

theorem radicand_pos (si : List Char → Option F) (hsi : ∀ n v, si n = some v → 0 < v) (ch : Choice) (x : F)
    (h : radicand si ch = some x) : 0 < x := by
  unfold radicand at h
  split at h
  · cases h
  · split at h
    · rename_i m kg s j hm hkg hs hj
      have pm := baseScale_pos si hsi _ _ _ hm
      have pkg := baseScale_pos si hsi _ _ _ hkg
      have ps := baseScale_pos si hsi _ _ _ hs
      have pj := baseScale_pos si hsi _ _ _ hj
      split at h
      · cases h
      · split at h
        · cases h; positivity
        · split at h
          · cases h; positivity
          · cases h
    · cases h

omit [DecidableEq F] in
theorem envSI_pos {tab : List UnitEntry} (htab : tableOK tab = true) (n : List Char) (v : F)
    (h : envSI (K := F) tab n = some v) : 0 < v := by
  simp only [envSI, Option.map_eq_some_iff] at h
  obtain ⟨e, he, rfl⟩ := h
  obtain ⟨h1, h2⟩ := (TableFacts.of_tableOK htab).pos e (lookup_mem he)
  simp only [UnitEntry.si]
  exact div_pos (Int.cast_pos.mpr (by omega)) (Nat.cast_pos.mpr (by omega))

end positive

theorem resetPath_cases (a : ResetArgs) :
    (a.kw = [] ∧ resetPath a = .seeded) ∨ (a.kw ≠ [] ∧ a.seedGiven = true ∧ resetPath a = .refuseSeed) ∨
    (a.kw ≠ [] ∧ a.seedGiven = false ∧ 4 < a.kw.length ∧ resetPath a = .refuseCount) ∨
    (a.kw ≠ [] ∧ a.seedGiven = false ∧ a.kw.length ≤ 4 ∧ resetPath a = .named (choiceOf a.kw)) := by
  rcases a with ⟨sg, kw⟩
  unfold resetPath
  by_cases h0 : kw.length = 0
  · exact .inl ⟨List.length_eq_zero_iff.mp h0, if_pos h0⟩
  · have hne : kw ≠ [] := fun h => h0 (by simp [h])
    cases sg <;> by_cases h : 4 < kw.length <;> simp [h0, h, hne]
    omega

theorem resetPath_named_iff (a : ResetArgs) :
    resetPath a = .named (choiceOf a.kw) ↔ a.seedGiven = false ∧ a.kw ≠ [] ∧ a.kw.length ≤ 4 := by
  rcases resetPath_cases a with ⟨h, e⟩ | ⟨h, hs, e⟩ | ⟨h, hs, hl, e⟩ | ⟨h, hs, hl, e⟩ <;> simp [*]

theorem kwGet_cons_length (k : String) (n : List Char) (rest : List (String × List Char)) (key : String) :
    (kwGet ((k, n) :: rest) key).toList.length ≤ (kwGet rest key).toList.length + if k = key then 1 else 0 := by
  simp only [kwGet, List.find?_cons]
  by_cases h : k = key <;> simp [h]

/-- a keyword is at most one of the five that `reset_units` looks at. -/
theorem keyword_once (k : String) :
    (if k = "length" then 1 else 0) + (if k = "mass" then 1 else 0) + (if k = "time" then 1 else 0)
      + (if k = "energy" then 1 else 0) + (if k = "charge" then 1 else 0) ≤ 1 := by
  by_cases h1 : k = "length"
  · subst h1; decide
  by_cases h2 : k = "mass"
  · subst h2; decide
  by_cases h3 : k = "time"
  · subst h3; decide
  by_cases h4 : k = "energy"
  · subst h4; decide
  by_cases h5 : k = "charge"
  · subst h5; decide
  simp only [if_neg h1, if_neg h2, if_neg h3, if_neg h4, if_neg h5]; decide

theorem choiceOf_count_cons (p : String × List Char) (rest : List (String × List Char)) :
    (choiceOf (p :: rest)).count ≤ (choiceOf rest).count + 1 := by
  rcases p with ⟨k, n⟩
  have h := kwGet_cons_length k n rest
  have h1 := h "length"; have h2 := h "mass"; have h3 := h "time"; have h4 := h "energy"; have h5 := h "charge"
  have := keyword_once k
  simp only [choiceOf, Choice.count]
  omega

end Atomman.C09
