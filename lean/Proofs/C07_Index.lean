/-
  C07 — per-atom tensors: column names are row-major and each column holds the component its name says.
-/
import Atomman.C07
import Proofs.Lists

namespace Atomman.C07
open Atomman

/-- number of components of a per-atom property of the given shape. -/
def shapeSize : List Nat → Nat
  | [] => 1
  | d :: ds => d * shapeSize ds

theorem indexNames_length (name : String) (shape : List Nat) :
    (indexNames name shape).length = shapeSize shape := by
  induction shape generalizing name with
  | nil => simp [indexNames, shapeSize]
  | cons d ds ih =>
    rw [indexNames, length_flatten_const _ (shapeSize ds) (by simp [ih]), List.length_map, List.length_range]; rfl

/-- the column names of a per-atom tensor are row-major — name number `i·(size of the rest) + k`
    of a property of shape `d :: ds` is name number `k` of the sub-tensor `name[i]` (so for a rank-2 property of shape
    `(m, n)` column `i·n + j` is called `name[i][j]`: `index_names_rank2`). -/
theorem index_names_row_major (name : String) (d : Nat) (ds : List Nat) (i k : Nat) (hi : i < d)
    (hk : k < shapeSize ds) :
    (indexNames name (d :: ds))[i * shapeSize ds + k]?
      = (indexNames (name ++ "[" ++ toString i ++ "]") ds)[k]? := by
  simp only [indexNames]
  rw [getElem?_flatten_const (shapeSize ds) _ (by
    intro b hb
    simp only [List.mem_map, List.mem_range] at hb
    obtain ⟨j, _, rfl⟩ := hb
    exact indexNames_length _ _) i k hk]
  simp [hi]

theorem index_names_rank2 (name : String) (m n i j : Nat) (hi : i < m) (hj : j < n) :
    (indexNames name [m, n])[i * n + j]? = some (name ++ "[" ++ toString i ++ "]" ++ "[" ++ toString j ++ "]") := by
  have h := index_names_row_major name m [n] i j hi (by simpa [shapeSize] using hj)
  simp only [shapeSize, Nat.mul_one] at h
  rw [h]
  have h2 := index_names_row_major (name ++ "[" ++ toString i ++ "]") n [] j 0 hj (by simp [shapeSize])
  simp only [shapeSize, Nat.mul_one, Nat.add_zero] at h2
  rw [h2]
  simp [indexNames]

example : indexNames "p" [2, 3] = ["p[0][0]", "p[0][1]", "p[0][2]", "p[1][0]", "p[1][1]", "p[1][2]"] := by decide

/-- a per-atom property that is not one of LAMMPS' own dump attributes is written without
    conversion, one cell per component in the stored (row-major) order, under the names `indexNames prop shape`:
    with `index_names_row_major` / `index_names_rank2`, the column called `prop[i][j]` holds component `(i, j)`. -/
theorem tensor_cells (s : Sys) (u : Units) (ids : List Int) (pos : List (V3 Rat)) (prop : String) (shape : List Nat)
    (k : Nat) (col : Column) (v : List Rat) (hstd : dumpStdCol prop = none) (hpos : isPosLike prop = false)
    (hid : prop ≠ "a_id" ∧ prop ≠ "atom_id" ∧ prop ≠ "atype") (hcol : s.prop? prop = some col)
    (hv : col.vals[k]? = some v) (cells : List Cell)
    (h : propCells s u ids pos (dumpCol prop shape) k = .ok cells) :
    (dumpCol prop shape).names = indexNames prop shape ∧ v.length = shapeSize shape ∧
    cells = v.map (fun q => if col.isInt then Cell.int q.floor else Cell.num q) := by
  have hc : dumpCol prop shape = { prop := prop, names := indexNames prop shape, unit := .none } := by
    simp [dumpCol, hstd]
  rw [hc] at h ⊢
  have hsp : ¬ (prop = "spos" ∨ prop = "supos") := by
    intro hh
    rcases hh with hh | hh <;> simp [isPosLike, hh] at hpos
  simp only [propCells, hid.1, hid.2.1, hid.2.2, or_self, if_false, hpos, Bool.false_eq_true, hcol, hv, Option.map_some,
    hsp] at h
  split at h
  · cases h
  · rename_i hl
    simp only [exceptSimp, Except.ok.injEq] at h
    refine ⟨rfl, ?_, h.symm⟩
    have := indexNames_length prop shape
    simp only [ne_eq, Decidable.not_not] at hl
    omega

end Atomman.C07
