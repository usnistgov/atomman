/-
  Linear3 — algebra of the prelude's 3-vectors `V3` and 3 x 3 matrices `M3` (rows = cell vectors): components, dot
  and cross products, squared lengths, row and column products, transpose, determinant, the cofactor matrix `M3.cof`,
  the adjugate inverse `M3.inv` as a two-sided inverse, orthogonal matrices, the cell with all lengths scaled
  (`M3.smul`), and for a `Box` the two coordinate maps as mutually inverse, the reciprocal vectors and the
  LAMMPS-normal form.  Polynomial identities hold over a commutative ring (so for integer vectors too), everything
  with `inv` over a field, sign facts over a linearly ordered commutative ring; what unfolds a definition needs the
  operation only.
  Sums, differences and negatives are unfolded in two ways.  `add_x … neg_z`, `smul_x …` give one component and are
  meant for `simp only` after `ext`; `add_def' … neg_def'` give the whole vector as an anonymous constructor and are
  meant for `simp only` together with `V3.mk.injEq` or with definitions that match on the constructor.  None of them
  is a global simp lemma, except `add_def`, `sub_def`, `neg_def`: the same three statements over a field (`section
  field` also holds `dot_comm … cross_anticomm`, the field instances of `dot_comm' … cross_anticomm'`).
  `Box.relToCart` is a row product (`vecMul`), `Box.cartToRel` a column product with `recip = (V⁻¹)ᵀ` (`mulVec`);
  `mulVec_transpose` / `Box.cartToRel_eq` bring everything to row products.
  A prime marks the same cancellation with the inverse on the other side (`vecMul_inv_cancel'`, `mulVec_inv_cancel'`),
  the ring form of a lemma stated over a field (`dot_comm'`), or keeps clear of a Mathlib root name
  (`add_sub_cancel'`, `sub_zero'`, `det_def'`).
-/
import Atomman.Prelude
import Atomman.Box
import Mathlib.Tactic.Ring

namespace Atomman

namespace V3

section components
variable {K : Type}

theorem add_x [Add K] (a b : V3 K) : (a + b).x = a.x + b.x := rfl
theorem add_y [Add K] (a b : V3 K) : (a + b).y = a.y + b.y := rfl
theorem add_z [Add K] (a b : V3 K) : (a + b).z = a.z + b.z := rfl
theorem sub_x [Sub K] (a b : V3 K) : (a - b).x = a.x - b.x := rfl
theorem sub_y [Sub K] (a b : V3 K) : (a - b).y = a.y - b.y := rfl
theorem sub_z [Sub K] (a b : V3 K) : (a - b).z = a.z - b.z := rfl
theorem neg_x [Neg K] (a : V3 K) : (-a).x = -a.x := rfl
theorem neg_y [Neg K] (a : V3 K) : (-a).y = -a.y := rfl
theorem neg_z [Neg K] (a : V3 K) : (-a).z = -a.z := rfl
theorem smul_x [Mul K] (c : K) (a : V3 K) : (smul c a).x = c * a.x := rfl
theorem smul_y [Mul K] (c : K) (a : V3 K) : (smul c a).y = c * a.y := rfl
theorem smul_z [Mul K] (c : K) (a : V3 K) : (smul c a).z = c * a.z := rfl

theorem add_def' [Add K] (a b : V3 K) : a + b = ⟨a.x + b.x, a.y + b.y, a.z + b.z⟩ := rfl
theorem sub_def' [Sub K] (a b : V3 K) : a - b = ⟨a.x - b.x, a.y - b.y, a.z - b.z⟩ := rfl
theorem neg_def' [Neg K] (a : V3 K) : -a = ⟨-a.x, -a.y, -a.z⟩ := rfl

theorem get_add [Add K] (a b : V3 K) (i : Nat) : (a + b).get i = a.get i + b.get i := by
  unfold get; split_ifs <;> rfl
theorem get_smul [Mul K] (c : K) (v : V3 K) (i : Nat) : (smul c v).get i = c * v.get i := by
  unfold get; split_ifs <;> rfl

end components

section ring
variable {K : Type} [CommRing K]

theorem add_sub_cancel' (a b : V3 K) : (a + b) - b = a := by
  ext <;> simp only [add_x, add_y, add_z, sub_x, sub_y, sub_z, add_sub_cancel_right]
theorem sub_add_cancel' (a b : V3 K) : (a - b) + b = a := by
  ext <;> simp only [add_x, add_y, add_z, sub_x, sub_y, sub_z, sub_add_cancel]

theorem add_sub_cancel_left' (a b : V3 K) : (a + b) - a = b := by
  ext <;> simp only [add_x, add_y, add_z, sub_x, sub_y, sub_z, add_sub_cancel_left]

theorem add_sub_add_comm (a b c d : V3 K) : (a + b) - (c + d) = (a - c) + (b - d) := by
  ext <;> simp only [add_x, add_y, add_z, sub_x, sub_y, sub_z, _root_.add_sub_add_comm]
theorem add_right_comm (a b c : V3 K) : a + b + c = a + c + b := by
  ext <;> simp only [add_x, add_y, add_z, _root_.add_right_comm]

theorem add_sub_add_right (a b t : V3 K) : (a + t) - (b + t) = a - b := by
  ext <;> simp only [add_x, add_y, add_z, sub_x, sub_y, sub_z, add_sub_add_right_eq_sub]
theorem sub_zero' (p : V3 K) : p - ⟨0, 0, 0⟩ = p := by
  ext <;> simp only [sub_x, sub_y, sub_z, sub_zero]
theorem add_sub_assoc' (a b c : V3 K) : a + b - c = a + (b - c) := by
  ext <;> simp only [add_x, add_y, add_z, sub_x, sub_y, sub_z, add_sub_assoc]
theorem add_sub_right_comm' (a b c : V3 K) : a + b - c = a - c + b := by
  ext <;> simp only [add_x, add_y, add_z, sub_x, sub_y, sub_z, add_sub_right_comm]

theorem dot_comm' (a b : V3 K) : dot a b = dot b a := by
  simp only [dot, mul_comm]
theorem dot_add' (n p q : V3 K) : dot n (p + q) = dot n p + dot n q := by
  simp only [dot, add_x, add_y, add_z]; ring
theorem dot_cross_left' (a b : V3 K) : dot a (cross a b) = 0 := by
  simp only [dot, cross]; ring
theorem dot_cross_right' (a b : V3 K) : dot b (cross a b) = 0 := by
  simp only [dot, cross]; ring
theorem cross_anticomm' (a b : V3 K) : cross a b = -(cross b a) := by
  simp only [cross, neg_def', neg_sub, mul_comm]

theorem dot_zero (w : V3 K) : dot w ⟨0, 0, 0⟩ = 0 := by
  simp only [dot, mul_zero, add_zero]
theorem zero_dot (w : V3 K) : dot ⟨0, 0, 0⟩ w = 0 := by
  simp only [dot, zero_mul, add_zero]
theorem dot_sub (n p q : V3 K) : dot n (p - q) = dot n p - dot n q := by
  simp only [dot, sub_x, sub_y, sub_z]; ring
theorem sub_dot (p q n : V3 K) : dot (p - q) n = dot p n - dot q n := by
  simp only [dot, sub_x, sub_y, sub_z]; ring
theorem dot_neg_left (a b : V3 K) : dot (-a) b = -dot a b := by
  simp only [dot, neg_x, neg_y, neg_z]; ring
theorem dot_neg_right (a b : V3 K) : dot a (-b) = -dot a b := by
  simp only [dot, neg_x, neg_y, neg_z]; ring
theorem dot_smul_left (c : K) (a b : V3 K) : dot (smul c a) b = c * dot a b := by
  simp only [dot, smul]; ring
theorem dot_smul_right (c : K) (a b : V3 K) : dot a (smul c b) = c * dot a b := by
  simp only [dot, smul]; ring

/-- the triple product is invariant under rotating its arguments. -/
theorem dot_cross_rotate (a b c : V3 K) : dot b (cross c a) = dot a (cross b c) := by
  simp only [dot, cross]; ring

theorem smul_sub (c : K) (a b : V3 K) : smul c a - smul c b = smul c (a - b) := by
  ext <;> simp only [smul, sub_x, sub_y, sub_z, mul_sub]
theorem smul_add (c : K) (a b : V3 K) : smul c (a + b) = smul c a + smul c b := by
  ext <;> simp only [smul, add_x, add_y, add_z, mul_add]
theorem smul_sub_smul (c d : K) (v : V3 K) : smul c v - smul d v = smul (c - d) v := by
  ext <;> simp only [smul, sub_x, sub_y, sub_z, sub_mul]

-- `smul_smul`, `one_smul`, `neg_one_smul` of `V3` hide Mathlib's inside this namespace.
theorem smul_smul (a b : K) (v : V3 K) : smul a (smul b v) = smul (a * b) v := by
  simp only [smul, mul_assoc]
theorem one_smul (v : V3 K) : smul 1 v = v := by
  simp only [smul, one_mul]
theorem neg_one_smul (v : V3 K) : smul (-1) v = -v := by
  simp only [smul, neg_one_mul, neg_def']

theorem normSq_smul (c : K) (v : V3 K) : normSq (smul c v) = c * c * normSq v := by
  simp only [normSq, dot, smul]; ring
theorem normSq_neg (a : V3 K) : normSq (-a) = normSq a := by
  simp only [normSq, dot, neg_x, neg_y, neg_z, neg_mul_neg]

theorem cross_smul (c : K) (a b : V3 K) : cross (smul c a) (smul c b) = smul (c * c) (cross a b) := by
  ext <;> simp only [cross, smul] <;> ring

theorem normSq_add (a w : V3 K) : normSq (a + w) = normSq a + 2 * dot w a + normSq w := by
  simp only [normSq, dot, add_x, add_y, add_z]; ring

/-- Lagrange's identity. -/
theorem lagrange (u v : V3 K) : normSq u * normSq v - dot u v * dot u v = normSq (cross u v) := by
  simp only [normSq, dot, cross]; ring

/-- for `a`, `b` in the plane with normal `n`, `a × b` is parallel to `n`: a triple product with `a × b` is the
    product of the two components along `n`. -/
theorem normSq_mul_triple (a b c n : V3 K) (ha : dot a n = 0) (hb : dot b n = 0) :
    normSq n * dot (cross a b) c = dot (cross a b) n * dot c n := by
  have e : normSq n * dot (cross a b) c - dot (cross a b) n * dot c n
      = dot (cross n b) c * dot a n - dot (cross n a) c * dot b n := by
    simp only [normSq, dot, cross]; ring
  rwa [ha, hb, mul_zero, mul_zero, sub_zero, sub_eq_zero] at e

end ring

section field
variable {K : Type} [Field K]

@[simp] theorem add_def (a b : V3 K) : a + b = ⟨a.x + b.x, a.y + b.y, a.z + b.z⟩ := rfl
@[simp] theorem sub_def (a b : V3 K) : a - b = ⟨a.x - b.x, a.y - b.y, a.z - b.z⟩ := rfl
@[simp] theorem neg_def (a : V3 K) : -a = ⟨-a.x, -a.y, -a.z⟩ := rfl

theorem dot_comm (a b : V3 K) : dot a b = dot b a := dot_comm' a b
theorem dot_add (n p q : V3 K) : dot n (p + q) = dot n p + dot n q := dot_add' n p q
theorem dot_cross_left (a b : V3 K) : dot a (cross a b) = 0 := dot_cross_left' a b
theorem dot_cross_right (a b : V3 K) : dot b (cross a b) = 0 := dot_cross_right' a b
theorem cross_anticomm (a b : V3 K) : cross a b = -(cross b a) := cross_anticomm' a b

end field

section ordered
variable {K : Type} [CommRing K] [LinearOrder K] [IsStrictOrderedRing K]

theorem normSq_nonneg (v : V3 K) : 0 ≤ normSq v :=
  add_nonneg (add_nonneg (mul_self_nonneg v.x) (mul_self_nonneg v.y)) (mul_self_nonneg v.z)

theorem normSq_eq_zero (v : V3 K) (h : normSq v = 0) : v = ⟨0, 0, 0⟩ := by
  have h1 := (add_eq_zero_iff_of_nonneg (add_nonneg (mul_self_nonneg v.x) (mul_self_nonneg v.y))
    (mul_self_nonneg v.z)).mp h
  obtain ⟨hx, hy⟩ := mul_self_add_mul_self_eq_zero.mp h1.1
  exact V3.ext hx hy (mul_self_eq_zero.mp h1.2)

theorem normSq_pos (v : V3 K) (h : v ≠ ⟨0, 0, 0⟩) : 0 < normSq v :=
  lt_of_le_of_ne (normSq_nonneg v) fun e => h (normSq_eq_zero v e.symm)

theorem normSq_pos_of_dot_ne_zero_left {u w : V3 K} (h : dot u w ≠ 0) : 0 < normSq u :=
  normSq_pos u fun e => h (e ▸ zero_dot w)
theorem normSq_pos_of_dot_ne_zero_right {u w : V3 K} (h : dot u w ≠ 0) : 0 < normSq w :=
  normSq_pos w fun e => h (e ▸ dot_zero u)

/-- Cauchy–Schwarz, from Lagrange's identity. -/
theorem cauchy_schwarz (u v : V3 K) : dot u v * dot u v ≤ normSq u * normSq v :=
  sub_nonneg.mp (lagrange u v ▸ normSq_nonneg (cross u v))

end ordered
end V3

namespace M3

theorem transpose_transpose {K : Type} (a : M3 K) : a.transpose.transpose = a := rfl

theorem toList_inj {K : Type} (a b : M3 K) (h : a.toList = b.toList) : a = b := by
  obtain ⟨⟨a1, a2, a3⟩, ⟨a4, a5, a6⟩, ⟨a7, a8, a9⟩⟩ := a
  obtain ⟨⟨b1, b2, b3⟩, ⟨b4, b5, b6⟩, ⟨b7, b8, b9⟩⟩ := b
  simp only [toList, V3.toList, List.cons_append, List.nil_append, List.cons.injEq, and_true] at h
  obtain ⟨rfl, rfl, rfl, rfl, rfl, rfl, rfl, rfl, rfl⟩ := h
  rfl

section ring
variable {K : Type} [CommRing K]

theorem vecMul_add (p q : V3 K) (m : M3 K) : vecMul (p + q) m = vecMul p m + vecMul q m := by
  ext <;> simp only [vecMul, V3.add_x, V3.add_y, V3.add_z] <;> ring
theorem vecMul_sub (p q : V3 K) (m : M3 K) : vecMul (p - q) m = vecMul p m - vecMul q m := by
  ext <;> simp only [vecMul, V3.sub_x, V3.sub_y, V3.sub_z] <;> ring
theorem vecMul_smul (c : K) (v : V3 K) (m : M3 K) : vecMul (V3.smul c v) m = V3.smul c (vecMul v m) := by
  ext <;> simp only [vecMul, V3.smul] <;> ring
theorem vecMul_zero (m : M3 K) : vecMul (⟨0, 0, 0⟩ : V3 K) m = ⟨0, 0, 0⟩ := by
  simp only [vecMul, zero_mul, add_zero]
/-- a row product is the combination of the rows. -/
theorem vecMul_rows (s : V3 K) (m : M3 K) :
    vecMul s m = V3.smul s.x m.r0 + V3.smul s.y m.r1 + V3.smul s.z m.r2 := rfl

theorem vecMul_vecMul (s : V3 K) (a b : M3 K) : vecMul (vecMul s a) b = vecMul s (a.mul b) := by
  ext <;> simp only [mul, vecMul] <;> ring

theorem vecMul_one (s : V3 K) : vecMul s (one : M3 K) = s := by
  simp only [vecMul, one, _root_.mul_one, mul_zero, add_zero, zero_add]

-- `mul_assoc`, `one_mul`, `mul_one` of `M3` hide the scalar lemmas inside this namespace: those are `_root_.…` here.
theorem mul_assoc (a b c : M3 K) : (a.mul b).mul c = a.mul (b.mul c) :=
  M3.ext (vecMul_vecMul _ _ _) (vecMul_vecMul _ _ _) (vecMul_vecMul _ _ _)

theorem one_mul (a : M3 K) : (one : M3 K).mul a = a := by
  simp only [mul, vecMul, one, _root_.one_mul, zero_mul, add_zero, zero_add]
theorem mul_one (a : M3 K) : a.mul (one : M3 K) = a :=
  M3.ext (vecMul_one _) (vecMul_one _) (vecMul_one _)

theorem transpose_mul (a b : M3 K) : (a.mul b).transpose = b.transpose.mul a.transpose := by
  simp only [mul, vecMul, transpose, mul_comm]

theorem transpose_one : (one : M3 K).transpose = one := rfl

/-- `Mᵀ v` as a column product is `v M` as a row product. -/
theorem mulVec_transpose (m : M3 K) (v : V3 K) : mulVec m.transpose v = vecMul v m := by
  simp only [mulVec, vecMul, transpose, V3.dot, mul_comm]

theorem mulVec_eq_vecMul (m : M3 K) (v : V3 K) : mulVec m v = vecMul v m.transpose := mulVec_transpose m.transpose v

theorem one_mulVec (v : V3 K) : mulVec (one : M3 K) v = v := by
  simp only [mulVec, one, V3.dot, _root_.one_mul, zero_mul, add_zero, zero_add]

theorem mulVec_sub (m : M3 K) (u w : V3 K) : mulVec m (u - w) = mulVec m u - mulVec m w := by
  simp only [mulVec_eq_vecMul, vecMul_sub]
theorem mulVec_zero (m : M3 K) : mulVec m ⟨0, 0, 0⟩ = ⟨0, 0, 0⟩ := by
  simp only [mulVec, V3.dot_zero]

theorem dot_vecMul (c v : V3 K) (m : M3 K) : V3.dot (vecMul c m) v = V3.dot c (mulVec m v) := by
  simp only [vecMul, mulVec, V3.dot]; ring

theorem dot_vecMul_rows (u t : V3 K) (m : M3 K) :
    V3.dot u (vecMul t m) = t.x * V3.dot u m.r0 + t.y * V3.dot u m.r1 + t.z * V3.dot u m.r2 := by
  simp only [V3.dot, vecMul]; ring

/-- the squared length of a combination of the rows, in the entries of the Gram matrix. -/
theorem normSq_vecMul (m : M3 K) (t : V3 K) :
    V3.normSq (vecMul t m)
      = t.x^2 * V3.normSq m.r0 + t.y^2 * V3.normSq m.r1 + t.z^2 * V3.normSq m.r2
        + 2 * (t.x * t.y * V3.dot m.r0 m.r1) + 2 * (t.x * t.z * V3.dot m.r0 m.r2)
        + 2 * (t.y * t.z * V3.dot m.r1 m.r2) := by
  simp only [V3.normSq, V3.dot, vecMul]; ring

theorem mul_transpose_eq_one_iff (a b : M3 K) : a.mul b.transpose = one ↔
    V3.dot a.r0 b.r0 = 1 ∧ V3.dot a.r0 b.r1 = 0 ∧ V3.dot a.r0 b.r2 = 0 ∧
    V3.dot a.r1 b.r0 = 0 ∧ V3.dot a.r1 b.r1 = 1 ∧ V3.dot a.r1 b.r2 = 0 ∧
    V3.dot a.r2 b.r0 = 0 ∧ V3.dot a.r2 b.r1 = 0 ∧ V3.dot a.r2 b.r2 = 1 := by
  simp only [mul, vecMul, transpose, one, V3.dot, M3.mk.injEq, V3.mk.injEq, and_assoc]

theorem det_mul (a b : M3 K) : det (a.mul b) = det a * det b := by
  simp only [det, mul, vecMul, V3.dot, V3.cross]; ring

theorem det_transpose (a : M3 K) : det a.transpose = det a := by
  simp only [det, transpose, V3.dot, V3.cross]; ring

theorem det_one : det (one : M3 K) = 1 := by
  simp only [det, one, V3.dot, V3.cross, _root_.mul_one, mul_zero, sub_zero, add_zero]

theorem det_rotate (m : M3 K) : det m = V3.dot m.r1 (V3.cross m.r2 m.r0) := (V3.dot_cross_rotate _ _ _).symm
theorem det_rotate' (m : M3 K) : det m = V3.dot m.r2 (V3.cross m.r0 m.r1) := V3.dot_cross_rotate _ _ _

theorem det_lower (lx ly lz xy xz yz : K) : det ⟨⟨lx, 0, 0⟩, ⟨xy, ly, 0⟩, ⟨xz, yz, lz⟩⟩ = lx * ly * lz := by
  simp only [det, V3.dot, V3.cross]; ring

/-- the determinant of a product, read for the rows `p, q, r`. -/
theorem triple_vecMul (m : M3 K) (p q r : V3 K) :
    V3.dot (vecMul p m) (V3.cross (vecMul q m) (vecMul r m)) = det m * V3.dot p (V3.cross q r) := by
  rw [mul_comm]
  exact det_mul ⟨p, q, r⟩ m

theorem det_mul_self_of_orth {r : M3 K} (h : r.mul r.transpose = one) : det r * det r = 1 := by
  have e := det_mul r r.transpose
  rwa [h, det_one, det_transpose, eq_comm] at e

/-- `|v M|² = v · (M Mᵀ) v`: the length of a combination of the rows depends on the Gram matrix only. -/
theorem normSq_vecMul_gram (m : M3 K) (v : V3 K) :
    V3.normSq (vecMul v m) = V3.dot v (mulVec (m.mul m.transpose) v) := by
  rw [V3.normSq, dot_vecMul, mulVec_eq_vecMul m, vecMul_vecMul, mulVec_eq_vecMul (m.mul m.transpose), transpose_mul]
  rfl

theorem mulVec_mulVec' (a b : M3 K) (v : V3 K) : mulVec a (mulVec b v) = mulVec (a.mul b) v := by
  rw [mulVec_eq_vecMul, mulVec_eq_vecMul b, mulVec_eq_vecMul, vecMul_vecMul, transpose_mul]

/-- an isometry keeps the scalar product. -/
theorem dot_mulVec_of_orth {f : M3 K} (h : f.transpose.mul f = one) (u v : V3 K) :
    V3.dot (mulVec f u) (mulVec f v) = V3.dot u v := by
  rw [mulVec_eq_vecMul f u, dot_vecMul, mulVec_mulVec', h, one_mulVec]

theorem normSq_mulVec_of_orth {f : M3 K} (h : f.transpose.mul f = one) (v : V3 K) :
    V3.normSq (mulVec f v) = V3.normSq v := dot_mulVec_of_orth h v v

/-- `(R A Rᵀ)(R v) = R (A v)`. -/
theorem mulVec_conj_of_orth {r : M3 K} (h : r.transpose.mul r = one) (a : M3 K) (v : V3 K) :
    mulVec ((r.mul a).mul r.transpose) (mulVec r v) = mulVec r (mulVec a v) := by
  rw [mulVec_mulVec', mul_assoc, h, mul_one, ← mulVec_mulVec']

/-- `(R A Rᵀ)(R B Rᵀ) = R (A B) Rᵀ`. -/
theorem conj_mul_conj_of_orth {r : M3 K} (h : r.transpose.mul r = one) (a b : M3 K) :
    ((r.mul a).mul r.transpose).mul ((r.mul b).mul r.transpose) = (r.mul (a.mul b)).mul r.transpose := by
  rw [mul_assoc (r.mul a), ← mul_assoc r.transpose, ← mul_assoc r.transpose, h, one_mul, ← mul_assoc, mul_assoc r]

/-- `det` unfolded to the cofactor expansion along the first row (definitional; for `rw` where
    `simp only [det, dot, cross]` would unfold too much). -/
theorem det_def' (m : M3 K) : det m =
    m.r0.x * (m.r1.y * m.r2.z - m.r1.z * m.r2.y) + m.r0.y * (m.r1.z * m.r2.x - m.r1.x * m.r2.z)
      + m.r0.z * (m.r1.x * m.r2.y - m.r1.y * m.r2.x) := rfl

end ring

/-- the cofactor matrix: row `i` is the cross product of the two rows after row `i`. -/
def cof {K : Type} [Sub K] [Mul K] (m : M3 K) : M3 K := ⟨V3.cross m.r1 m.r2, V3.cross m.r2 m.r0, V3.cross m.r0 m.r1⟩

/-- all lengths of the cell multiplied by `c`. -/
def smul {K : Type} [Mul K] (c : K) (m : M3 K) : M3 K := ⟨V3.smul c m.r0, V3.smul c m.r1, V3.smul c m.r2⟩

section cof
variable {K : Type} [CommRing K]

theorem cross_vecMul (m : M3 K) (p q : V3 K) :
    V3.cross (vecMul p m) (vecMul q m) = vecMul (V3.cross p q) (cof m) := by
  ext <;> simp only [V3.cross, vecMul, cof] <;> ring

/-- `m (cof m)ᵀ = det m · 1`, read on vectors. -/
theorem dot_vecMul_cof (m : M3 K) (x p : V3 K) :
    V3.dot (vecMul x (cof m)) (vecMul p m) = det m * V3.dot x p := by
  simp only [V3.dot, V3.cross, vecMul, det, cof]; ring

/-- a non-degenerate cell has independent rows: with `x m = 0` the cofactor identity gives `det m * (u · x) = 0`
    for every `u`. -/
theorem vecMul_eq_zero [NoZeroDivisors K] (m : M3 K) (h : det m ≠ 0) (x : V3 K) (hx : vecMul x m = ⟨0, 0, 0⟩) :
    x = ⟨0, 0, 0⟩ := by
  have e : ∀ u : V3 K, V3.dot u x = 0 := fun u => by
    have := dot_vecMul_cof m u x
    rw [hx, V3.dot_zero] at this
    exact (mul_eq_zero.mp this.symm).resolve_left h
  have ex := e ⟨1, 0, 0⟩
  have ey := e ⟨0, 1, 0⟩
  have ez := e ⟨0, 0, 1⟩
  simp only [V3.dot, _root_.one_mul, zero_mul, add_zero, zero_add] at ex ey ez
  exact V3.ext ex ey ez

theorem vecMul_smul_right (c : K) (m : M3 K) (x : V3 K) : vecMul x (smul c m) = V3.smul c (vecMul x m) := by
  ext <;> simp only [vecMul, V3.smul, smul] <;> ring

theorem det_smul (c : K) (m : M3 K) : det (smul c m) = c * c * c * det m := by
  simp only [det, smul, V3.cross_smul, V3.dot_smul_left, V3.dot_smul_right]; ring

theorem cof_smul (c : K) (m : M3 K) : cof (smul c m) = smul (c * c) (cof m) := by
  simp only [cof, smul, V3.cross_smul]

end cof

section ordered
variable {K : Type} [CommRing K] [LinearOrder K] [IsStrictOrderedRing K]

/-- the rows of a non-degenerate cell are pairwise non-parallel: `det m` is, up to sign, the inner product of each
    row with the cross product of the other two. -/
theorem normSq_cross_pos_of_det_ne_zero (m : M3 K) (h : det m ≠ 0) :
    0 < V3.normSq (V3.cross m.r1 m.r2) ∧ 0 < V3.normSq (V3.cross m.r0 m.r2) ∧ 0 < V3.normSq (V3.cross m.r0 m.r1) := by
  have h1 : V3.dot m.r1 (V3.cross m.r0 m.r2) = -det m := by simp only [det, V3.dot, V3.cross]; ring
  exact ⟨V3.normSq_pos_of_dot_ne_zero_right (u := m.r0) h,
    V3.normSq_pos_of_dot_ne_zero_right (u := m.r1) (h1 ▸ neg_ne_zero.mpr h),
    V3.normSq_pos_of_dot_ne_zero_right (u := m.r2) (det_rotate' m ▸ h)⟩

theorem normSq_rows_pos_of_det_ne_zero (m : M3 K) (h : det m ≠ 0) :
    0 < V3.normSq m.r0 ∧ 0 < V3.normSq m.r1 ∧ 0 < V3.normSq m.r2 :=
  ⟨V3.normSq_pos_of_dot_ne_zero_left h, V3.normSq_pos_of_dot_ne_zero_left (det_rotate m ▸ h),
   V3.normSq_pos_of_dot_ne_zero_left (det_rotate' m ▸ h)⟩

end ordered

section field
variable {K : Type} [Field K]

/-- a row times the adjugate inverse: its triple products with the pairs of rows of `m`, over the determinant. -/
theorem vecMul_inv (u : V3 K) (m : M3 K) : vecMul u (inv m) =
    ⟨V3.dot u (V3.cross m.r1 m.r2) / det m, V3.dot u (V3.cross m.r2 m.r0) / det m,
     V3.dot u (V3.cross m.r0 m.r1) / det m⟩ := by
  ext <;> simp only [vecMul, inv, V3.dot] <;> ring

/-- row `i` of `m` against column `j` of the adjugate is the determinant for `i = j` and a triple product with a repeated
    vector otherwise. -/
theorem mul_inv_cancel (m : M3 K) (h : det m ≠ 0) : m.mul (inv m) = one := by
  have h0 : V3.dot m.r0 (V3.cross m.r1 m.r2) / det m = 1 := div_self h
  have h1 : V3.dot m.r1 (V3.cross m.r2 m.r0) / det m = 1 := by rw [V3.dot_cross_rotate]; exact h0
  have h2 : V3.dot m.r2 (V3.cross m.r0 m.r1) / det m = 1 := by rw [V3.dot_cross_rotate]; exact h1
  simp only [mul, vecMul_inv, h0, h1, h2, V3.dot_cross_left, V3.dot_cross_right, zero_div]
  rfl

theorem inv_transpose (m : M3 K) : inv m.transpose = (inv m).transpose := by
  simp only [inv, det_transpose m]
  simp only [transpose, V3.cross, mul_comm]

/-- the left inverse from the right inverse of the transpose: `(mᵀ (mᵀ)⁻¹)ᵀ = m⁻¹ m`. -/
theorem inv_mul_cancel (m : M3 K) (h : det m ≠ 0) : (inv m).mul m = one := by
  have e := mul_inv_cancel m.transpose (by rwa [det_transpose])
  rw [inv_transpose, ← transpose_mul] at e
  exact congrArg transpose e

theorem det_inv (m : M3 K) (h : det m ≠ 0) : det (inv m) = (det m)⁻¹ := by
  have e : det (inv m) * det m = 1 := by rw [← det_mul, inv_mul_cancel m h, det_one]
  exact eq_inv_of_mul_eq_one_left e

/-- a right inverse is a left inverse: `a = a (b b⁻¹) = (a b) b⁻¹ = b⁻¹`. -/
theorem mul_eq_one_comm {a b : M3 K} (h : a.mul b = one) : b.mul a = one := by
  have hd : det a * det b = 1 := by rw [← det_mul, h, det_one]
  have hb : det b ≠ 0 := right_ne_zero_of_mul_eq_one hd
  have ha : a = inv b := by rw [← mul_one a, ← mul_inv_cancel b hb, ← mul_assoc, h, one_mul]
  rw [ha, mul_inv_cancel b hb]

/-- two bases with the same Gram matrix `V Vᵀ` differ by `R = M⁻¹ N`, which is orthogonal. -/
theorem rotation_of_gram_eq (M N : M3 K) (hM : det M ≠ 0) (hg : N.mul N.transpose = M.mul M.transpose) :
    M.mul ((inv M).mul N) = N ∧ ((inv M).mul N).mul ((inv M).mul N).transpose = one ∧
    ((inv M).mul N).transpose.mul ((inv M).mul N) = one ∧ det ((inv M).mul N) * det ((inv M).mul N) = 1 := by
  have e1 : M.mul ((inv M).mul N) = N := by rw [← mul_assoc, mul_inv_cancel M hM, one_mul]
  -- `R Rᵀ = M⁻¹ (N Nᵀ) M⁻¹ᵀ = M⁻¹ (M Mᵀ) M⁻¹ᵀ = (M⁻¹ M) (M⁻¹ M)ᵀ`
  have e2 : ((inv M).mul N).mul ((inv M).mul N).transpose = one := by
    rw [transpose_mul, mul_assoc, ← mul_assoc N, hg, mul_assoc M, ← transpose_mul, ← mul_assoc,
      inv_mul_cancel M hM, one_mul, transpose_one]
  exact ⟨e1, e2, mul_eq_one_comm e2, det_mul_self_of_orth e2⟩

/-- `Rᵀ = (R⁻¹ R) Rᵀ = R⁻¹ (R Rᵀ) = R⁻¹`. -/
theorem inv_eq_transpose_of_orth {r : M3 K} (h : r.mul r.transpose = one) : inv r = r.transpose := by
  have hd : det r ≠ 0 := left_ne_zero_of_mul_eq_one (det_mul_self_of_orth h)
  rw [← one_mul r.transpose, ← inv_mul_cancel r hd, mul_assoc, h, mul_one]

theorem det_one_ne_zero : det (one : M3 K) ≠ 0 := det_one (K := K) ▸ one_ne_zero

theorem inv_transpose_one : inv (one : M3 K).transpose = one := inv_eq_transpose_of_orth (r := one) (one_mul _)

theorem eq_inv_mul_of_mul_eq {a g b : M3 K} (h : det a ≠ 0) (hg : a.mul g = b) : g = (inv a).mul b := by
  rw [← hg, ← mul_assoc, inv_mul_cancel a h, one_mul]

/-- the rows of `cof m` are `det m` times the reciprocal vectors. -/
theorem cof_eq (m : M3 K) (h : det m ≠ 0) : cof m = smul (det m) (inv m).transpose := by
  simp only [cof, smul, inv, transpose, V3.smul, mul_div_cancel₀ _ h]

theorem inv_smul (c : K) (hc : c ≠ 0) (m : M3 K) : inv (smul c m) = smul c⁻¹ (inv m) := by
  have e : ∀ a d : K, c * c * a / (c * c * c * d) = c⁻¹ * (a / d) := fun a d => by
    rw [_root_.mul_assoc (c * c) c d, mul_div_mul_left _ _ (mul_ne_zero hc hc), div_mul_eq_div_div_swap, div_eq_inv_mul]
  simp only [inv, det_smul]
  simp only [smul, V3.cross_smul]
  simp only [V3.smul, e]

/-- `(s V) V⁻¹ = s`. -/
theorem vecMul_inv_cancel (s : V3 K) (m : M3 K) (h : det m ≠ 0) : vecMul (vecMul s m) (inv m) = s := by
  rw [vecMul_vecMul, mul_inv_cancel m h, vecMul_one]

/-- `(p V⁻¹) V = p`. -/
theorem vecMul_inv_cancel' (p : V3 K) (m : M3 K) (h : det m ≠ 0) : vecMul (vecMul p (inv m)) m = p := by
  rw [vecMul_vecMul, inv_mul_cancel m h, vecMul_one]

theorem mulVec_mulVec (a b : M3 K) (v : V3 K) : mulVec a (mulVec b v) = mulVec (a.mul b) v := mulVec_mulVec' a b v

/-- `V⁻¹ (V v) = v`. -/
theorem mulVec_inv_cancel (v : V3 K) (m : M3 K) (h : det m ≠ 0) : mulVec (inv m) (mulVec m v) = v := by
  rw [mulVec_mulVec, inv_mul_cancel m h, one_mulVec]

/-- `V (V⁻¹ v) = v`. -/
theorem mulVec_inv_cancel' (v : V3 K) (m : M3 K) (h : det m ≠ 0) : mulVec m (mulVec (inv m) v) = v := by
  rw [mulVec_mulVec, mul_inv_cancel m h, one_mulVec]

end field
end M3

namespace Box

section ring
variable {K : Type} [CommRing K]

theorem relToCart_add (b : Box K) (s t : V3 K) : b.relToCart (s + t) = b.relToCart s + M3.vecMul t b.vects := by
  rw [relToCart, relToCart, M3.vecMul_add]
  exact V3.ext (add_right_comm ..) (add_right_comm ..) (add_right_comm ..)

theorem relToCart_sub (b : Box K) (s t : V3 K) : b.relToCart t - b.relToCart s = M3.vecMul (t - s) b.vects := by
  rw [relToCart, relToCart, V3.add_sub_add_right, M3.vecMul_sub]

end ring

section normal
variable {K : Type}

theorem isLammpsNorm_iff [Zero K] [LT K] [DecidableEq K] [DecidableLT K] (b : Box K) :
    b.isLammpsNorm = true ↔
      b.vects.r0.y = 0 ∧ b.vects.r0.z = 0 ∧ b.vects.r1.z = 0 ∧
      0 < b.vects.r0.x ∧ 0 < b.vects.r1.y ∧ 0 < b.vects.r2.z := by
  simp only [isLammpsNorm, Bool.and_eq_true, decide_eq_true_eq, and_assoc]

theorem ofLengths?_eq_some_iff [Zero K] [LT K] [DecidableLT K] (lx ly lz xy xz yz : K) (o : V3 K) (b : Box K) :
    ofLengths? lx ly lz xy xz yz o = some b ↔
      (0 < lx ∧ 0 < ly ∧ 0 < lz) ∧ b = ⟨⟨⟨lx, 0, 0⟩, ⟨xy, ly, 0⟩, ⟨xz, yz, lz⟩⟩, o⟩ := by
  unfold ofLengths?
  split
  · rename_i h; simp only [Option.some.injEq, h, true_and, eq_comm]
  · rename_i h; simp only [reduceCtorEq, h, false_and]

/-- a LAMMPS-normal cell is lower triangular. -/
theorem vects_eq_of_normal [Zero K] [LT K] [DecidableEq K] [DecidableLT K] (b : Box K) (h : b.isLammpsNorm = true) :
    b.vects = ⟨⟨b.vects.r0.x, 0, 0⟩, ⟨b.vects.r1.x, b.vects.r1.y, 0⟩, ⟨b.vects.r2.x, b.vects.r2.y, b.vects.r2.z⟩⟩ := by
  obtain ⟨h1, h2, h3, -⟩ := (isLammpsNorm_iff b).mp h
  exact M3.ext (V3.ext rfl h1 h2) (V3.ext rfl rfl h3) rfl

theorem det_pos_of_normal [CommRing K] [LinearOrder K] [IsStrictOrderedRing K] (b : Box K)
    (h : b.isLammpsNorm = true) : 0 < M3.det b.vects := by
  obtain ⟨-, -, -, hx, hy, hz⟩ := (isLammpsNorm_iff b).mp h
  rw [vects_eq_of_normal b h, M3.det_lower]
  exact mul_pos (mul_pos hx hy) hz

end normal

variable {K : Type} [Field K]

/-- `cartToRel` written with the inverse matrix: `(p - o) V⁻¹`. -/
theorem cartToRel_eq (b : Box K) (p : V3 K) : b.cartToRel p = M3.vecMul (p - b.origin) (M3.inv b.vects) :=
  M3.mulVec_transpose _ _

theorem cartToRel_relToCart (b : Box K) (h : M3.det b.vects ≠ 0) (s : V3 K) : b.cartToRel (b.relToCart s) = s := by
  rw [cartToRel_eq, relToCart, V3.add_sub_cancel', M3.vecMul_inv_cancel s _ h]

theorem relToCart_cartToRel (b : Box K) (h : M3.det b.vects ≠ 0) (p : V3 K) : b.relToCart (b.cartToRel p) = p := by
  rw [cartToRel_eq, relToCart, M3.vecMul_inv_cancel' _ _ h, V3.sub_add_cancel']

theorem relToCart_inj (b : Box K) (h : M3.det b.vects ≠ 0) (s t : V3 K) (e : b.relToCart s = b.relToCart t) : s = t := by
  rw [← cartToRel_relToCart b h s, ← cartToRel_relToCart b h t, e]

theorem cartToRel_add_vecMul (b : Box K) (h : M3.det b.vects ≠ 0) (p s : V3 K) :
    b.cartToRel (p + M3.vecMul s b.vects) = b.cartToRel p + s := by
  rw [← relToCart_cartToRel b h p, ← relToCart_add, cartToRel_relToCart b h, cartToRel_relToCart b h]

/-- `reciprocal_vects[i] · vects[j] = δᵢⱼ`; `M3.mul_transpose_eq_one_iff` gives the nine dot products. -/
theorem recip_dual (b : Box K) (h : M3.det b.vects ≠ 0) :
    b.recip.mul b.vects.transpose = M3.one ∧ b.vects.mul b.recip.transpose = M3.one := by
  constructor
  · rw [recip, ← M3.transpose_mul, M3.mul_inv_cancel _ h, M3.transpose_one]
  · rw [recip, M3.transpose_transpose, M3.mul_inv_cancel _ h]

end Box
end Atomman
