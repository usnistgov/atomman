/-
  C19 — the performance bookkeeping of the single pass as a step function on its own fields (`pstStep`);
  what it records over quiet stretches and timing blocks of either layout (`Blk`), and that the recorded tables are
  read and assigned; the `MPI task timing breakdown` block as such a block.
-/
import Proofs.C19_Pass
set_option linter.unusedSimpArgs false
namespace Atomman.C19
open List

/-- a timing table is assigned to a record without touching any thermo table. -/
theorem assignPerf_thermo (nb : List Str) (isOld : Bool) (j : Nat) (hs ks fs : List Int) (sims sims' : List Sim)
    (h : assignPerf nb isOld j hs ks fs sims = .ok sims') :
    sims'.map Sim.thermo = sims.map Sim.thermo := by
  fun_induction assignPerf nb isOld j hs ks fs sims with
  | case1 => cases h; rfl
  | case2 => cases h
  | case3 => cases h
  | case4 _ _ _ _ _ _ sims p _ idx _ ih =>
    rw [ih h]
    apply ext_getElem?
    intro n
    simp only [getElem?_map, getElem?_modify]
    cases sims[n]? with
    | none => rfl
    | some s => by_cases hn : idx = n <;> simp [hn]
  | case5 => cases h

/-- the fields of `Scan` the performance bookkeeping reads and writes (`nh = len(thermo_headers)`). -/
structure PS where
  i : Nat
  nh : Nat
  ph : List Int
  ps : List Int
  pf : List Int
  old : Bool

def Scan.pst (s : Scan) : PS :=
  ⟨s.i, s.thermoHeaders.length, s.perfHeaders, s.perfSims, s.perfFooters, s.isOld⟩

/-- the body of the loop of `Log.read` seen from these fields. -/
def pstStep (p : PS) (l : Str) : PS :=
  if isBlank l then p else
  let nh := if hasAny thermoStart l then p.nh + 1 else p.nh
  let p := if hasAny perfStart l then
      { p with ph := p.ph ++ [(p.i : Int) + Gen.Log.perfHeaderOffset], ps := p.ps ++ [(nh : Int) - 1] } else p
  let p := if hasAny perfStartOld l then
      { p with ph := p.ph ++ [(p.i : Int) + Gen.Log.perfHeaderOldOffset], ps := p.ps ++ [(nh : Int) - 1], old := true }
    else if hasAny perfEnd l && decide (p.pf.length < p.ph.length) then
      { p with pf := p.pf ++ [(p.i : Int) + Gen.Log.perfFooterOffset] }
    else p
  { p with i := p.i + 1, nh := nh }

/-- Projections first (`apply_ite`), as for `step_ts`: both sides then have the same shape. -/
theorem step_pst (s : Scan) (l : Str) : (Scan.step s l).pst = pstStep s.pst l := by
  cases s
  unfold Scan.step pstStep Scan.pst
  by_cases hb : isBlank l = true
  · simp only [hb, if_true]
  · simp only [hb, Bool.false_eq_true, if_false, apply_ite Scan.i, apply_ite Scan.thermoHeaders,
      apply_ite Scan.perfHeaders, apply_ite Scan.perfSims, apply_ite Scan.perfFooters, apply_ite Scan.isOld,
      apply_ite PS.i, apply_ite PS.nh, apply_ite PS.ph, apply_ite PS.ps, apply_ite PS.pf, apply_ite PS.old,
      apply_ite List.length, length_append, length_cons, length_nil, ite_self]

theorem scan_pst (s : Scan) (ls : List Str) : (scan s ls).pst = ls.foldl pstStep s.pst := by
  induction ls generalizing s with
  | nil => rfl
  | cons l ls ih => rw [scan_cons, ih, step_pst, foldl_cons]

theorem pstStep_blank (p : PS) (l : Str) (hb : isBlank l = true) : pstStep p l = p := by
  simp [pstStep, hb]

theorem pstStep_quiet (p : PS) (l : Str) (hb : isBlank l = false)
    (h1 : hasAny perfStart l = false) (h2 : hasAny perfStartOld l = false)
    (h3 : hasAny perfEnd l = false ∨ p.pf.length = p.ph.length) :
    pstStep p l = ⟨p.i + 1, if hasAny thermoStart l then p.nh + 1 else p.nh, p.ph, p.ps, p.pf, p.old⟩ := by
  rcases h3 with h3 | h3 <;> simp [pstStep, hb, h1, h2, h3]

theorem pstStep_stop (p : PS) (l : Str) (hb : isBlank l = false) (ht : hasAny thermoStart l = false)
    (h1 : hasAny perfStart l = false) (h2 : hasAny perfStartOld l = false) (h3 : hasAny perfEnd l = true)
    (hopen : p.pf.length < p.ph.length) :
    pstStep p l = ⟨p.i + 1, p.nh, p.ph, p.ps, p.pf ++ [(p.i : Int) - 1], p.old⟩ := by
  simp [pstStep, hb, ht, h1, h2, h3, hopen, Gen.Log.perfFooterOffset, Int.sub_eq_add_neg]

def InBlock (l : Str) : Prop :=
  isBlank l = false ∧ hasAny thermoStart l = false ∧ hasAny perfStart l = false ∧
    hasAny perfStartOld l = false ∧ hasAny perfEnd l = false

instance (l : Str) : Decidable (InBlock l) := by unfold InBlock; infer_instance

/-- a counted line that closes an open timing block and does nothing else (the `Nlocal:` line). -/
def StopLine (l : Str) : Prop :=
  isBlank l = false ∧ hasAny thermoStart l = false ∧ hasAny perfStart l = false ∧
    hasAny perfStartOld l = false ∧ hasAny perfEnd l = true

/-- the line that opens a timing block of the layout (`old` or not): counted, no memory banner, the start trigger of that
    layout and not the other one; the new layout's line must not also hold the end trigger (for the old layout the
    `elif` of the end trigger is not reached). -/
def StartLine (old : Bool) (l : Str) : Prop :=
  isBlank l = false ∧ hasAny thermoStart l = false ∧ hasAny perfStart l = !old ∧ hasAny perfStartOld l = old ∧
    (old = false → hasAny perfEnd l = false)

/-- which line the pass records as the header of a block, counted from its opening line: `1`, the line after
    `MPI task timing breakdown`; `0` in the old layout, whose trigger line is also the first row of its table. -/
def hoff (old : Bool) : Nat := if old then 0 else 1

theorem pstStep_startLine (old : Bool) (p : PS) (l : Str) (h : StartLine old l) :
    pstStep p l =
      ⟨p.i + 1, p.nh, p.ph ++ [(p.i : Int) + hoff old], p.ps ++ [(p.nh : Int) - 1], p.pf, p.old || old⟩ := by
  obtain ⟨hb, ht, h1, h2, h3⟩ := h
  cases old
  · simp [pstStep, hb, ht, h1, h2, h3 rfl, hoff, Gen.Log.perfHeaderOffset]
  · simp [pstStep, hb, ht, h1, h2, hoff, Gen.Log.perfHeaderOldOffset]

def starts : List Str → Nat
  | [] => 0
  | l :: ls => (if isBlank l then 0 else if hasAny thermoStart l then 1 else 0) + starts ls

theorem starts_eq_countP (ls : List Str) :
    starts ls = ls.countP (fun l => !isBlank l && hasAny thermoStart l) := by
  induction ls with
  | nil => rfl
  | cons l ls ih =>
    rw [starts, ih, countP_cons, Nat.add_comm]
    cases isBlank l <;> cases hasAny thermoStart l <;> rfl

theorem starts_append (a b : List Str) : starts (a ++ b) = starts a + starts b := by
  rw [starts_eq_countP, starts_eq_countP, starts_eq_countP, countP_append]

/-- a memory banner among the lines: a timing block after them has a run to belong to. -/
theorem starts_pos (ls : List Str) (l : Str) (hl : l ∈ ls) (hb : isBlank l = false)
    (ht : hasAny thermoStart l = true) : 1 ≤ starts ls := by
  rw [starts_eq_countP]
  exact countP_pos_iff.2 ⟨l, hl, by simp [hb, ht]⟩

theorem foldl_pst_quiet (p : PS) (ls : List Str) (h : ∀ l ∈ ls, PerfQuiet l) (hc : p.pf.length = p.ph.length) :
    ls.foldl pstStep p = ⟨p.i + (nonBlank ls).length, p.nh + starts ls, p.ph, p.ps, p.pf, p.old⟩ := by
  induction ls generalizing p with
  | nil => simp [nonBlank, starts]
  | cons l ls ih =>
    have hls : ∀ l' ∈ ls, PerfQuiet l' := fun l' hl' => h l' (mem_cons_of_mem _ hl')
    rw [foldl_cons]
    by_cases hb : isBlank l = true
    · rw [pstStep_blank p l hb, ih p hls hc]
      simp [nonBlank_cons_blank _ _ hb, starts, hb]
    · simp only [Bool.not_eq_true] at hb
      rcases h l mem_cons_self with hq | ⟨h1, h2⟩
      · rw [hq] at hb; cases hb
      · rw [pstStep_quiet p l hb h1 h2 (Or.inr hc)]
        refine (ih _ hls (by exact hc)).trans ?_
        simp only [nonBlank_cons_nb _ _ hb, starts, hb, Bool.false_eq_true, if_false, length_cons, PS.mk.injEq,
          and_true]
        split <;> omega

theorem perfPart_quiet (st : LogState) (app : Bool) (lines : List Str) (tables : List Table)
    (h : ∀ l ∈ lines, PerfQuiet l) :
    perfPart st app lines tables = .ok ((startState st app).sims ++ tables.map (fun t => ({ thermo := t } : Sim))) := by
  have := (scan_pst _ lines).trans
    (foldl_pst_quiet (Scan.pst { haveVersion := (startState st app).version.isSome }) lines h rfl)
  simp only [Scan.pst, PS.mk.injEq] at this
  -- the three lists handed to `assignPerf` are empty: no table is read, none assigned
  obtain ⟨-, -, hph, hps, hpf, -⟩ := this
  unfold perfPart passOf
  rw [hph, hps, hpf]
  rfl

theorem foldl_pst_rows (p : PS) (ls : List Str) (h : ∀ l ∈ ls, InBlock l) :
    ls.foldl pstStep p = ⟨p.i + ls.length, p.nh, p.ph, p.ps, p.pf, p.old⟩ := by
  induction ls generalizing p with
  | nil => rfl
  | cons l ls ih =>
    obtain ⟨hb, ht, h1, h2, h3⟩ := h l mem_cons_self
    rw [foldl_cons, pstStep_quiet p l hb h1 h2 (Or.inl h3)]
    refine (ih _ (fun l' hl' => h l' (mem_cons_of_mem _ hl'))).trans ?_
    simp only [ht, Bool.false_eq_true, if_false, length_cons, PS.mk.injEq, and_true]
    omega

/-- a timing block of either layout as the pass sees it: the line that opens it, counted lines without any trigger, the
    line that closes it. -/
structure Blk where
  first : Str
  mid : List Str
  stop : Str

def Blk.lines (b : Blk) : List Str := b.first :: (b.mid ++ [b.stop])

theorem Blk.length_lines (b : Blk) : b.lines.length = b.mid.length + 2 := by
  simp [Blk.lines]

/-- the three kinds of line are where they belong, and the reader of the layout reads the block wherever it stands among
    the counted lines. -/
structure Blk.OK (old : Bool) (b : Blk) : Prop where
  first : StartLine old b.first
  mid : ∀ l ∈ b.mid, InBlock l
  stop : StopLine b.stop
  read : ∀ nb pre rest, nb = pre ++ (b.lines ++ rest) →
    ∃ q, (if old then readPerfOld nb ((pre.length : Int) + hoff old) ((pre.length : Int) + b.mid.length)
      else readPerfNew nb ((pre.length : Int) + hoff old) ((pre.length : Int) + b.mid.length)) = .ok q

theorem Blk.OK.nb {old : Bool} {b : Blk} (h : b.OK old) : nonBlank b.lines = b.lines := by
  unfold nonBlank
  rw [filter_eq_self]
  intro l hl
  simp only [Blk.lines, mem_cons, mem_append, not_mem_nil, or_false] at hl
  rcases hl with rfl | hl | rfl
  · simp [h.first.1]
  · simp [(h.mid l hl).1]
  · simp [h.stop.1]

/-- the recorded header is `hoff old` lines after the first line of the block, the recorded footer its last line but one. -/
theorem Blk.OK.pass {old : Bool} {b : Blk} (h : b.OK old) (p : PS) (hc : p.pf.length = p.ph.length) :
    b.lines.foldl pstStep p =
      ⟨p.i + b.lines.length, p.nh, p.ph ++ [(p.i : Int) + hoff old], p.ps ++ [(p.nh : Int) - 1],
        p.pf ++ [(p.i : Int) + b.mid.length], p.old || old⟩ := by
  obtain ⟨z1, z2, z3, z4, z5⟩ := h.stop
  rw [b.length_lines, Blk.lines, foldl_cons, pstStep_startLine old p _ h.first, foldl_append,
    foldl_pst_rows _ _ h.mid, foldl_cons, foldl_nil, pstStep_stop _ _ z1 z2 z3 z4 z5 (by simp [hc])]
  simp only [PS.mk.injEq, true_and, and_true, append_cancel_left_eq, cons.injEq]
  refine ⟨by omega, ?_⟩
  push_cast
  omega

/-- a segment of a log of either layout: a stretch of lines that start no block, or a block (`Seg` of `read_breakdown` and `OSeg` of
    `read_breakdown_old` map into it). -/
abbrev GSeg := List Str ⊕ Blk

def GSeg.lines : GSeg → List Str
  | .inl ls => ls
  | .inr b => b.lines

/-- the segments are well-formed from a state in which `nh` memory banners were seen: a stretch starts no timing
    block (its banners are added to `nh`), a block is a `Blk.OK old` and has a run to belong to (`1 ≤ nh`). -/
def gsegsWF (old : Bool) (nh : Nat) : List GSeg → Prop
  | [] => True
  | .inl ls :: rest => (∀ l ∈ ls, PerfQuiet l) ∧ gsegsWF old (nh + starts ls) rest
  | .inr b :: rest => b.OK old ∧ 1 ≤ nh ∧ gsegsWF old nh rest

/-- (header, simulation index, footer) recorded for the blocks by a pass that has counted `p` lines and seen `nh` memory
    banners so far (the timing bookkeeping reads both: `i` and `len(thermo_headers)`). -/
def pEntries (old : Bool) (p nh : Nat) : List GSeg → List (Int × Int × Int)
  | [] => []
  | .inl ls :: rest => pEntries old (p + (nonBlank ls).length) (nh + starts ls) rest
  | .inr b :: rest =>
    ((p : Int) + hoff old, (nh : Int) - 1, (p : Int) + b.mid.length) :: pEntries old (p + b.lines.length) nh rest

/-- the number of memory banners seen after the segments, from `nh` before them. -/
def finalNh (nh : Nat) : List GSeg → Nat
  | [] => nh
  | .inl ls :: rest => finalNh (nh + starts ls) rest
  | .inr _ :: rest => finalNh nh rest

theorem le_finalNh (nh : Nat) (segs : List GSeg) : nh ≤ finalNh nh segs := by
  induction segs generalizing nh with
  | nil => exact Nat.le_refl _
  | cons sg rest ih =>
    cases sg with
    | inl ls => exact Nat.le_trans (Nat.le_add_right _ _) (ih _)
    | inr b => exact ih _

theorem foldl_pst_segs (old : Bool) (p : PS) (segs : List GSeg) (h : gsegsWF old p.nh segs)
    (hc : p.pf.length = p.ph.length) :
    (segs.flatMap GSeg.lines).foldl pstStep p =
      ⟨p.i + (nonBlank (segs.flatMap GSeg.lines)).length, finalNh p.nh segs,
        p.ph ++ (pEntries old p.i p.nh segs).map (·.1), p.ps ++ (pEntries old p.i p.nh segs).map (·.2.1),
        p.pf ++ (pEntries old p.i p.nh segs).map (·.2.2), p.old || (old && !(pEntries old p.i p.nh segs).isEmpty)⟩ := by
  induction segs generalizing p with
  | nil => simp [nonBlank, finalNh, pEntries]
  | cons sg rest ih =>
    rw [flatMap_cons, foldl_append]
    cases sg with
    | inl ls =>
      obtain ⟨hq, hrest⟩ := h
      simp only [GSeg.lines]
      rw [foldl_pst_quiet p ls hq hc]
      refine (ih _ (by exact hrest) (by exact hc)).trans ?_
      simp only [nonBlank_append, length_append, finalNh, pEntries, PS.mk.injEq, and_true, true_and]
      omega
    | inr b =>
      obtain ⟨hb, _, hrest⟩ := h
      simp only [GSeg.lines]
      rw [hb.pass p hc]
      refine (ih _ (by exact hrest) (by simp [hc])).trans ?_
      have hcnt : (nonBlank b.lines).length = b.lines.length := by rw [hb.nb]
      simp only [nonBlank_append, length_append, hcnt, finalNh, pEntries, map_cons, append_assoc, singleton_append, isEmpty_cons,
        Bool.not_false, Bool.and_true, PS.mk.injEq, and_true, true_and]
      refine ⟨by omega, ?_⟩
      cases p.old <;> cases old <;> simp

theorem entries_ok (old : Bool) (nb : List Str) (segs : List GSeg) (pre : List Str) (nh : Nat)
    (h : gsegsWF old nh segs) (hnb : nb = pre ++ nonBlank (segs.flatMap GSeg.lines)) :
    ∀ e ∈ pEntries old pre.length nh segs,
      (∃ q, (if old then readPerfOld nb e.1 e.2.2 else readPerfNew nb e.1 e.2.2) = .ok q) ∧
        0 ≤ e.2.1 ∧ e.2.1 < (finalNh nh segs : Int) := by
  induction segs generalizing pre nh with
  | nil => simp [pEntries]
  | cons sg rest ih =>
    intro e he
    rw [flatMap_cons, nonBlank_append] at hnb
    cases sg with
    | inl ls =>
      have := ih (pre ++ nonBlank ls) (nh + starts ls) h.2 (by rw [hnb, append_assoc]; rfl) e
        (by simpa [pEntries] using he)
      simpa [finalNh] using this
    | inr b =>
      obtain ⟨hb, hnh, hrest⟩ := h
      have hnb' : nb = pre ++ (b.lines ++ nonBlank (rest.flatMap GSeg.lines)) := by
        rw [hnb]; show pre ++ (nonBlank b.lines ++ _) = _; rw [hb.nb]
      simp only [pEntries, mem_cons] at he
      rcases he with rfl | he
      · have := le_finalNh nh rest
        exact ⟨hb.read nb pre _ hnb', by show (0 : Int) ≤ (nh : Int) - 1; omega,
          by show (nh : Int) - 1 < (finalNh nh rest : Int); omega⟩
      · have := ih (pre ++ b.lines) nh hrest (by rw [hnb', append_assoc]) e (by simpa using he)
        simpa [finalNh] using this

theorem assignPerf_ok (old : Bool) (nb : List Str) (j : Nat) (es : List (Int × Int × Int)) (sims : List Sim)
    (h : ∀ e ∈ es, (∃ q, (if old then readPerfOld nb e.1 e.2.2 else readPerfNew nb e.1 e.2.2) = .ok q) ∧
      0 ≤ e.2.1 ∧ e.2.1 + j < sims.length) :
    ∃ sims', assignPerf nb old j (es.map (·.1)) (es.map (·.2.1)) (es.map (·.2.2)) sims = .ok sims' := by
  induction es generalizing sims with
  | nil => exact ⟨sims, by simp [assignPerf]⟩
  | cons e es ih =>
    obtain ⟨⟨q, hq⟩, h0, hlt⟩ := h e mem_cons_self
    have hidx : pyIndex? sims.length (e.2.1 + j) = some (e.2.1 + j).toNat := by
      unfold pyIndex?
      rw [if_pos (by omega), if_pos (by omega)]
    simp only [map_cons, assignPerf, hq, hidx]
    apply ih
    intro e' he'
    obtain ⟨hq', h0', hlt'⟩ := h e' (mem_cons_of_mem _ he')
    exact ⟨hq', h0', by simpa using hlt'⟩

theorem perf_ok_segs (old : Bool) (L : Layout) (h : L.WF) (segs : List GSeg)
    (hsegs : L.lines = segs.flatMap GSeg.lines) (hwf : gsegsWF old 0 segs) (st : LogState) (app : Bool)
    (tables : List Table) (hlen : tables.length = L.runs.length) :
    ∃ sims, perfPart st app L.lines tables = .ok sims := by
  have hp : (passOf st app L.lines).pst = _ := (scan_pst _ L.lines).trans
    (hsegs ▸ foldl_pst_segs old ⟨0, 0, [], [], [], false⟩ segs hwf rfl)
  simp only [Scan.pst, PS.mk.injEq, nil_append, Bool.false_or] at hp
  -- the three lists handed to `assignPerf` are the three components of the recorded entries
  obtain ⟨-, hnh, hph, hps, hpf, hold⟩ := hp
  unfold perfPart
  rw [hph, hps, hpf, hold]
  cases he : pEntries old 0 0 segs with
  | nil => exact ⟨_, rfl⟩
  | cons e es =>
    rw [isEmpty_cons, Bool.not_false, Bool.and_true, ← he]
    apply assignPerf_ok
    intro e he
    obtain ⟨h1, h2, h3⟩ := entries_ok old (nonBlank L.lines) segs [] 0 hwf (by rw [hsegs]; rfl) e he
    refine ⟨h1, h2, ?_⟩
    rw [← hnh, passOf_nh L h st app] at h3
    simp only [length_append, length_map, hlen]
    omega

/-- a breakdown block: trigger line, `Section | …` header, the dashes line and the section rows, `Nlocal:` line. -/
structure Breakdown where
  start : Str
  hdr : Str
  rows : List Str
  stop : Str

def Breakdown.lines (b : Breakdown) : List Str := b.start :: b.hdr :: (b.rows ++ [b.stop])

structure Breakdown.WF (b : Breakdown) : Prop where
  start_nb : isBlank b.start = false
  start_thermo : hasAny thermoStart b.start = false
  start_trig : hasAny perfStart b.start = true
  start_old : hasAny perfStartOld b.start = false
  start_end : hasAny perfEnd b.start = false
  hdr_in : InBlock b.hdr
  rows_in : ∀ l ∈ b.rows, InBlock l
  stop_nb : isBlank b.stop = false
  stop_thermo : hasAny thermoStart b.stop = false
  stop_start : hasAny perfStart b.stop = false
  stop_old : hasAny perfStartOld b.stop = false
  stop_end : hasAny perfEnd b.stop = true
  rows_ne : b.rows ≠ []
  section_col : ((splitOnChar '|' b.hdr).map strip).head? = some "Section".toList
  widths : ∀ l ∈ b.rows, (splitOnChar '|' l).length ≤ (splitOnChar '|' b.hdr).length

theorem readPerfNew_block (nb pre rest : List Str) (b : Breakdown) (h : b.WF)
    (hnb : nb = pre ++ (b.lines ++ rest)) :
    ∃ p, readPerfNew nb ((pre.length : Int) + (1 : Nat)) ((pre.length : Int) + (b.rows.length + 1 : Nat)) = .ok p := by
  obtain ⟨g1, g2, g3, g4, -⟩ := window_at nb (pre ++ [b.start]) b.rows (b.stop :: rest) b.hdr
    ((pre.length : Int) + (1 : Nat)) ((pre.length : Int) + (b.rows.length + 1 : Nat)) b.rows.length
    (by rw [hnb]; simp [Breakdown.lines]) (by simp) (by omega) (Or.inl rfl)
  unfold readPerfNew
  rw [if_neg g1, if_neg g2, g3]
  simp only [g4]
  have hw : ((b.rows.map (splitOnChar '|')).any
      (fun r => decide (((splitOnChar '|' b.hdr).map strip).length < r.length))) = false := by
    rw [any_eq_false]
    intro r hr
    obtain ⟨l, hl, rfl⟩ := mem_map.1 hr
    have := h.widths l hl
    simp only [length_map, decide_eq_true_eq, Nat.not_lt]
    exact this
  rw [hw]
  simp only [Bool.false_eq_true, if_false]
  cases hrows : b.rows with
  | nil => exact absurd hrows h.rows_ne
  | cons r rs =>
    simp only [map_cons]
    have hs : (((splitOnChar '|' b.hdr).map strip).head? != some "Section".toList) = false := by
      rw [h.section_col]; simp
    rw [hs]
    exact ⟨_, rfl⟩

inductive Seg
  | quiet (ls : List Str)
  | block (b : Breakdown)

def Seg.lines : Seg → List Str
  | .quiet ls => ls
  | .block b => b.lines

/-- segments are well-formed from a state in which `nh` memory banners have been seen: quiet stretches start no
    breakdown, blocks are well-formed and come after at least one banner. -/
def segsWF (nh : Nat) : List Seg → Prop
  | [] => True
  | .quiet ls :: rest => (∀ l ∈ ls, PerfQuiet l) ∧ segsWF (nh + starts ls) rest
  | .block b :: rest => b.WF ∧ 1 ≤ nh ∧ segsWF nh rest

/-- a breakdown block as a block: the `Section | …` line is the first of the trigger-free lines. -/
def Breakdown.blk (b : Breakdown) : Blk := ⟨b.start, b.hdr :: b.rows, b.stop⟩

theorem Breakdown.WF.blk_ok {b : Breakdown} (h : b.WF) : b.blk.OK false where
  first := ⟨h.start_nb, h.start_thermo, h.start_trig, h.start_old, fun _ => h.start_end⟩
  mid := forall_mem_cons.2 ⟨h.hdr_in, h.rows_in⟩
  stop := ⟨h.stop_nb, h.stop_thermo, h.stop_start, h.stop_old, h.stop_end⟩
  read := fun nb pre rest hnb => by
    rw [if_neg Bool.false_ne_true]
    exact readPerfNew_block nb pre rest b h hnb

def Seg.toG : Seg → GSeg
  | .quiet ls => .inl ls
  | .block b => .inr b.blk

theorem flatMap_toG (segs : List Seg) : (segs.map Seg.toG).flatMap GSeg.lines = segs.flatMap Seg.lines := by
  induction segs with
  | nil => rfl
  | cons sg rest ih => cases sg <;> simp [Seg.toG, GSeg.lines, Seg.lines, Breakdown.blk, Blk.lines, Breakdown.lines, ih]

theorem segsWF_toG (nh : Nat) (segs : List Seg) (h : segsWF nh segs) : gsegsWF false nh (segs.map Seg.toG) := by
  induction segs generalizing nh with
  | nil => trivial
  | cons sg rest ih =>
    cases sg with
    | quiet ls => exact ⟨h.1, ih _ h.2⟩
    | block b => exact ⟨h.1.blk_ok, h.2.1, ih _ h.2.2⟩

end Atomman.C19
