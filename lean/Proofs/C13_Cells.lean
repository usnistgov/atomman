/-
  C13 — `__set_cells`: the comparison of signed squared cosines (`cosKey`), the selection fold (`bestOf_spec`), gcd reduction,
  zone law, handedness, optimality of the two searches.
-/
import Atomman.C13
import Proofs.C14_C04
import Proofs.C14_Gcd
import Proofs.Lattice
import Proofs.Lists
import Mathlib.Data.List.Induction
import Mathlib.Tactic.Linarith

namespace Atomman.C13
open Atomman
set_option linter.unusedSectionVars false

variable {K : Type} [Field K] [LinearOrder K] [IsStrictOrderedRing K]

/-- the quantity the two searches of `__set_cells` maximise, without square roots: the signed squared cosine of the angle
    between the candidate and the target direction, times the squared length of the target (`d = c·t`, `m2 = |c|²`:
    `sign(d) d² / m2 = |t|² cos|cos|`), a strictly increasing function of the cosine, i.e. strictly decreasing in the
    angle `vect_angle` returns. -/
def cosKey (c : Cand K) : K := if c.d < 0 then -(c.d * c.d / c.m2) else c.d * c.d / c.m2

theorem cosLt_iff (a b : Cand K) (ha : 0 < a.m2) (hb : 0 < b.m2) : cosLt a b = true ↔ cosKey a < cosKey b := by
  unfold cosLt cosKey
  by_cases hbd : b.d < 0 <;> by_cases had : a.d < 0 <;> simp only [hbd, had, if_true, if_false, decide_eq_true_eq]
  · rw [neg_lt_neg_iff, div_lt_div_iff₀ hb ha]
  · simp only [Bool.false_eq_true, false_iff, not_lt]
    have h1 : 0 < b.d * b.d / b.m2 := div_pos (mul_pos_of_neg_of_neg hbd hbd) hb
    have h2 : 0 ≤ a.d * a.d / a.m2 := div_nonneg (mul_self_nonneg _) ha.le
    linarith
  · simp only [true_iff]
    have h1 : 0 < a.d * a.d / a.m2 := div_pos (mul_pos_of_neg_of_neg had had) ha
    have h2 : 0 ≤ b.d * b.d / b.m2 := div_nonneg (mul_self_nonneg _) hb.le
    linarith
  · rw [div_lt_div_iff₀ ha hb]

theorem cosKey_pos_iff (c : Cand K) (hm : 0 < c.m2) : 0 < cosKey c ↔ 0 < c.d := by
  unfold cosKey
  split_ifs with h
  · have : 0 ≤ c.d * c.d / c.m2 := div_nonneg (mul_self_nonneg _) hm.le
    constructor <;> intro h' <;> linarith
  · rcases (not_lt.mp h).eq_or_lt with h0 | h0
    · simp [← h0]
    · exact ⟨fun _ => h0, fun _ => div_pos (mul_pos h0 h0) hm⟩

theorem bestOf_concat (l : List (Cand K)) (x : Cand K) : bestOf (l ++ [x]) = bestStep (bestOf l) x := by
  simp [bestOf, List.foldl_append]

theorem bestOf_mem (l : List (Cand K)) (c : Cand K) (h : bestOf l = some c) : c ∈ l := by
  induction l using List.reverseRecOn generalizing c with
  | nil => cases h
  | append_singleton l x ih =>
    rw [bestOf_concat] at h
    cases hb : bestOf l with
    | none =>
      rw [hb] at h
      exact List.mem_append_right _ (List.mem_singleton.mpr (Option.some.inj h).symm)
    | some b =>
      rw [hb] at h
      simp only [bestStep] at h
      split_ifs at h <;> obtain rfl := Option.some.inj h
      · exact List.mem_append_right _ (List.mem_singleton_self _)
      · exact List.mem_append_left _ (ih b hb)

theorem bestOf_spec (l : List (Cand K)) (hm : ∀ c ∈ l, 0 < c.m2) :
    match bestOf l with
    | none => l = []
    | some c => ∃ l1 l2, l = l1 ++ c :: l2 ∧ (∀ x ∈ l1, cosKey x < cosKey c) ∧ ∀ x ∈ l2, cosKey x ≤ cosKey c := by
  induction l using List.reverseRecOn with
  | nil => rfl
  | append_singleton l x ih =>
    have hx : 0 < x.m2 := hm x (by simp)
    have ih := ih (fun c hc => hm c (by simp [hc]))
    rw [bestOf_concat]
    cases hb : bestOf l with
    | none =>
      rw [hb] at ih
      subst ih
      exact ⟨[], [], rfl, by simp, by simp⟩
    | some b =>
      rw [hb] at ih
      obtain ⟨l1, l2, rfl, h1, h2⟩ := ih
      have hbm : 0 < b.m2 := hm b (by simp)
      simp only [bestStep]
      by_cases hlt : cosLt b x = true
      · rw [if_pos hlt]
        have hbx := (cosLt_iff b x hbm hx).mp hlt
        refine ⟨l1 ++ b :: l2, [], rfl, ?_, by simp⟩
        intro y hy
        rcases List.mem_append.mp hy with hy | hy
        · exact (h1 y hy).trans hbx
        · rcases List.mem_cons.mp hy with rfl | hy
          · exact hbx
          · exact (h2 y hy).trans_lt hbx
      · rw [if_neg hlt]
        have hbx : cosKey x ≤ cosKey b := not_lt.mp fun hh => hlt ((cosLt_iff b x hbm hx).mpr hh)
        refine ⟨l1, l2 ++ [x], by simp, h1, ?_⟩
        intro y hy
        rcases List.mem_append.mp hy with hy | hy
        · exact h2 y hy
        · rw [List.mem_singleton.mp hy]; exact hbx

/-- of several candidates of equally small angle the FIRST in the enumeration order is taken
    (`arr[np.isclose(angle, angle.min())][0]` with the tolerance read as exact): every candidate before the selected one
    has a strictly smaller cosine. -/
theorem bestOf_first (l : List (Cand K)) (hm : ∀ c ∈ l, 0 < c.m2) (c : Cand K) (h : bestOf l = some c) :
    ∃ l1 l2, l = l1 ++ c :: l2 ∧ ∀ x ∈ l1, cosKey x < cosKey c := by
  have hs := bestOf_spec l hm
  rw [h] at hs
  obtain ⟨l1, l2, e, h1, _⟩ := hs
  exact ⟨l1, l2, e, h1⟩

theorem bestOf_optimal (l : List (Cand K)) (hm : ∀ c ∈ l, 0 < c.m2) (c : Cand K) (h : bestOf l = some c) :
    ∀ x ∈ l, cosKey x ≤ cosKey c := by
  have hs := bestOf_spec l hm
  rw [h] at hs
  obtain ⟨l1, l2, rfl, h1, h2⟩ := hs
  intro x hx
  rcases List.mem_append.mp hx with hx | hx
  · exact (h1 x hx).le
  · rcases List.mem_cons.mp hx with rfl | hx
    · exact le_rfl
    · exact h2 x hx

theorem bestOf_pos (l : List (Cand K)) (hm : ∀ c ∈ l, 0 < c.m2) (h : ∃ c ∈ l, 0 < c.d) (b : Cand K)
    (hb : bestOf l = some b) : 0 < b.d := by
  obtain ⟨c, hc, hd⟩ := h
  exact (cosKey_pos_iff b (hm b (bestOf_mem l b hb))).mp
    (((cosKey_pos_iff c (hm c hc)).mpr hd).trans_le (bestOf_optimal l hm b hb c hc))

theorem cart_neg (pv : M3 K) (v : IV) : cart pv (-v) = -cart pv v :=
  M3.latticeVec_neg pv v

theorem cart_reduceGcd (pv : M3 K) (v : IV) :
    cart pv v = V3.smul ((C14.gcd3 v : Int) : K) (cart pv (C14.reduceGcd v)) := by
  conv_lhs => rw [← C14.reduceGcd_smul v]
  exact M3.latticeVec_smul pv _ _

theorem dot_reduceGcd_eq_zero (pv : M3 K) (N : V3 K) (v : IV) (hv : v ≠ ⟨0, 0, 0⟩)
    (h : V3.dot (cart pv v) N = 0) : V3.dot (cart pv (C14.reduceGcd v)) N = 0 := by
  rw [cart_reduceGcd, V3.dot_smul_left] at h
  exact (mul_eq_zero.mp h).resolve_left (by exact_mod_cast (C14.gcd3_pos v hv).ne')

theorem triple_identity (Xi Mu Nu N : V3 K) (hXi : V3.dot Xi N = 0) (hMu : V3.dot Mu N = 0) :
    V3.dot Xi (V3.cross Mu Nu) * V3.normSq N = V3.dot Mu (V3.cross N Xi) * V3.dot Nu N := by
  -- `V3.normSq_mul_triple` with the triple products rotated
  have h := V3.normSq_mul_triple Xi Mu Nu N hXi hMu
  rw [V3.dot_comm (V3.cross Xi Mu) Nu, V3.dot_comm (V3.cross Xi Mu) N, V3.dot_cross_rotate Mu Nu Xi,
    V3.dot_cross_rotate Xi Mu Nu, V3.dot_cross_rotate Mu N Xi] at h
  rw [mul_comm, h]

theorem newVects_rows (U : M3 Int) (pv : M3 K) :
    C04.newVects U pv = ⟨cart pv U.r0, cart pv U.r1, cart pv U.r2⟩ := rfl

theorem det_orderUvws (cut line : Nat) (xi mu nu : IV) (pv : M3 K) :
    M3.det (C04.newVects (orderUvws cut line xi mu nu) pv)
      = V3.dot (cart pv xi) (V3.cross (cart pv mu) (cart pv nu)) := by
  rw [newVects_rows]
  unfold orderUvws
  split_ifs <;> simp only [M3.det, cart_neg] <;>
    (generalize cart pv xi = X; generalize cart pv mu = Y; generalize cart pv nu = Z
     obtain ⟨x0, x1, x2⟩ := X; obtain ⟨y0, y1, y2⟩ := Y; obtain ⟨z0, z1, z2⟩ := Z
     simp only [V3.dot, V3.cross, V3.neg_def]; ring)

theorem mem_allUvws (n : Int) (v : IV) :
    v ∈ allUvws n ↔ (-n ≤ v.x ∧ v.x ≤ n) ∧ (-n ≤ v.y ∧ v.y ≤ n) ∧ (-n ≤ v.z ∧ v.z ≤ n) ∧ v ≠ ⟨0, 0, 0⟩ := by
  obtain ⟨x, y, z⟩ := v
  simp only [allUvws, List.mem_flatMap, List.mem_filterMap, mem_intRange]
  constructor
  · rintro ⟨u, hu, w, hw, t, ht, h⟩
    split_ifs at h with hc
    simp only [Option.some.injEq, V3.mk.injEq] at h
    obtain ⟨rfl, rfl, rfl⟩ := h
    refine ⟨⟨hu.1, by omega⟩, ⟨hw.1, by omega⟩, ⟨ht.1, by omega⟩, ?_⟩
    intro h0
    simp only [V3.mk.injEq] at h0
    exact hc h0
  · rintro ⟨⟨h1, h2⟩, ⟨h3, h4⟩, ⟨h5, h6⟩, hne⟩
    refine ⟨x, ⟨h1, by omega⟩, y, ⟨h3, by omega⟩, z, ⟨h5, by omega⟩, ?_⟩
    rw [if_neg]
    intro hc
    apply hne
    simp only [V3.mk.injEq]; exact hc

theorem mem_allUvws_ne_zero (n : Int) (v : IV) (h : v ∈ allUvws n) : v ≠ ⟨0, 0, 0⟩ :=
  ((mem_allUvws n v).mp h).2.2.2

theorem neg_mem_allUvws (n : Int) (v : IV) (h : v ∈ allUvws n) : -v ∈ allUvws n := by
  obtain ⟨x, y, z⟩ := v
  show (⟨-x, -y, -z⟩ : IV) ∈ allUvws n
  simp only [mem_allUvws, ne_eq, V3.mk.injEq] at h ⊢
  omega

theorem cart_normSq_pos (pv : M3 K) (hdet : M3.det pv ≠ 0) (v : IV) (hv : v ≠ ⟨0, 0, 0⟩) :
    0 < V3.normSq (cart pv v) :=
  V3.normSq_pos _ (M3.latticeVec_ne_zero pv hdet v hv)

theorem orient_cases (m n : Ax) (o : Orient) (h : orient m n = some o) :
    (o.cut = 2 ∧ o.line = 0 ∧ o.motion = 1) ∨ (o.cut = 2 ∧ o.line = 1 ∧ o.motion = 0) ∨
    (o.cut = 1 ∧ o.line = 2 ∧ o.motion = 0) ∨ (o.cut = 1 ∧ o.line = 0 ∧ o.motion = 2) ∨
    (o.cut = 0 ∧ o.line = 1 ∧ o.motion = 2) ∨ (o.cut = 0 ∧ o.line = 2 ∧ o.motion = 1) := by
  cases m <;> cases n <;> cases h <;> decide

theorem orderUvws_rows (m n : Ax) (o : Orient) (h : orient m n = some o) (xi mu nu : IV) :
    ((orderUvws o.cut o.line xi mu nu).row o.line = xi ∨ (orderUvws o.cut o.line xi mu nu).row o.line = -xi) ∧
    (orderUvws o.cut o.line xi mu nu).row o.motion = mu := by
  rcases orient_cases m n o h with ⟨a, b, c⟩ | ⟨a, b, c⟩ | ⟨a, b, c⟩ | ⟨a, b, c⟩ | ⟨a, b, c⟩ | ⟨a, b, c⟩ <;> rw [a, b, c]
  exacts [⟨.inl rfl, rfl⟩, ⟨.inr rfl, rfl⟩, ⟨.inl rfl, rfl⟩, ⟨.inr rfl, rfl⟩, ⟨.inl rfl, rfl⟩, ⟨.inr rfl, rfl⟩]

theorem setCells_ok (tol2 : K) (pv : M3 K) (N Xi : V3 K) (xiP : IV) (m n : Ax) (mi : Int) (r : Cells)
    (h : setCells tol2 pv N Xi xiP m n mi = .ok r) :
    ∃ (cm cn : Cand K), orient m n = some r.o ∧ searchM pv N (V3.cross N Xi) mi = some cm ∧
      searchN pv N mi = some cn ∧
      r.uvws = orderUvws r.o.cut r.o.line xiP (C14.reduceGcd cm.v) (C14.reduceGcd cn.v) ∧ M3.det r.uvws ≠ 0 := by
  unfold setCells at h
  split at h
  · cases h
  · rename_i o ho
    dsimp only at h
    split at h
    · rename_i cm cn hm hn
      split_ifs at h with hd ha
      obtain rfl := Except.ok.inj h
      exact ⟨cm, cn, ho, hm, hn, rfl, hd⟩
    · cases h

theorem searchM_spec (pv : M3 K) (N M : V3 K) (mi : Int) (cm : Cand K) (h : searchM pv N M mi = some cm) :
    cm.v ∈ allUvws mi ∧ V3.dot (cart pv cm.v) N = 0 ∧ cm.d = V3.dot (cart pv cm.v) M := by
  have hmem := bestOf_mem _ cm h
  simp only [List.mem_map, List.mem_filter, inPlane, decide_eq_true_eq] at hmem
  obtain ⟨v, ⟨hv, hin⟩, rfl⟩ := hmem
  exact ⟨hv, hin, rfl⟩

theorem searchN_spec (pv : M3 K) (N : V3 K) (mi : Int) (cn : Cand K) (h : searchN pv N mi = some cn) :
    cn.v ∈ allUvws mi ∧ cn.d = V3.dot (cart pv cn.v) N := by
  have hmem := bestOf_mem _ cn h
  simp only [List.mem_map] at hmem
  obtain ⟨v, hv, rfl⟩ := hmem
  exact ⟨hv, rfl⟩

/-- orthogonality: in an accepted orientation the two box vectors that are to span the slip plane
    — the one along the line (`±ξ`) and the one found by the in-plane search — satisfy the zone law of the slip plane
    (their Cartesian images are perpendicular to the plane normal `N`), for every one of the six `m, n` assignments. -/
theorem uvws_zone_law (tol2 : K) (pv : M3 K) (N Xi : V3 K) (xiP : IV) (m n : Ax) (mi : Int) (r : Cells)
    (h : setCells tol2 pv N Xi xiP m n mi = .ok r) (hXi : cart pv xiP = Xi) (hplane : V3.dot Xi N = 0) :
    V3.dot (cart pv (r.uvws.row r.o.line)) N = 0 ∧ V3.dot (cart pv (r.uvws.row r.o.motion)) N = 0 := by
  obtain ⟨cm, cn, ho, hm, hn, hU, hdet⟩ := setCells_ok tol2 pv N Xi xiP m n mi r h
  obtain ⟨hv, hin, _⟩ := searchM_spec pv N _ mi cm hm
  have hmu := dot_reduceGcd_eq_zero pv N cm.v (mem_allUvws_ne_zero mi cm.v hv) hin
  have hxi : V3.dot (cart pv xiP) N = 0 := by rw [hXi]; exact hplane
  have hnxi : V3.dot (cart pv (-xiP)) N = 0 := by rw [cart_neg, V3.dot_neg_left, hxi, neg_zero]
  rw [hU]
  obtain ⟨hl | hl, hmo⟩ := orderUvws_rows m n r.o ho xiP (C14.reduceGcd cm.v) (C14.reduceGcd cn.v)
  · rw [hl, hmo]; exact ⟨hxi, hmu⟩
  · rw [hl, hmo]; exact ⟨hnxi, hmu⟩

theorem mkCand_m2_pos (pv : M3 K) (T : V3 K) (vs : List IV) (h : ∀ v ∈ vs, 0 < V3.normSq (cart pv v)) :
    ∀ c ∈ vs.map (mkCand pv T), 0 < c.m2 := by
  intro c hc
  obtain ⟨w, hw, rfl⟩ := List.mem_map.mp hc
  exact h w hw

/-- the candidates of both searches are enumerated together with their negatives, so the selected one never makes
    an obtuse angle with the target direction; the gcd reduction keeps the direction. -/
theorem bestOf_reduced_nonneg (pv : M3 K) (hpv : M3.det pv ≠ 0) (T : V3 K) (vs : List IV) (hne : ∀ v ∈ vs, v ≠ ⟨0, 0, 0⟩)
    (hneg : ∀ v ∈ vs, -v ∈ vs) (c : Cand K) (h : bestOf (vs.map (mkCand pv T)) = some c) :
    0 ≤ V3.dot (cart pv (C14.reduceGcd c.v)) T := by
  obtain ⟨v, hv, rfl⟩ := List.mem_map.mp (bestOf_mem _ c h)
  have hg : (0 : K) < ((C14.gcd3 v : Int) : K) := by exact_mod_cast C14.gcd3_pos v (hne v hv)
  refine (mul_nonneg_iff_of_pos_left hg).mp ?_
  show 0 ≤ _ * V3.dot (cart pv (C14.reduceGcd v)) T
  rw [← V3.dot_smul_left, ← cart_reduceGcd]
  by_contra hlt
  refine hlt (bestOf_pos _ (mkCand_m2_pos pv T vs fun w hw => cart_normSq_pos pv hpv w (hne w hw)) ⟨mkCand pv T (-v), List.mem_map_of_mem (hneg v hv), ?_⟩ _ h).le
  show 0 < V3.dot (cart pv (-v)) T
  rw [cart_neg, V3.dot_neg_left]
  exact neg_pos.mpr (not_le.mp hlt)

/-- for a non-degenerate primitive cell and a line direction lying in the slip plane, the
    three Cartesian box vectors chosen by an accepted `__set_cells` are right handed (`det > 0`) in every one of the
    six row orders, and the integer matrix has positive determinant when the primitive cell is right handed. -/
theorem uvws_right_handed (tol2 : K) (pv : M3 K) (N Xi : V3 K) (xiP : IV) (m n : Ax) (mi : Int) (r : Cells)
    (h : setCells tol2 pv N Xi xiP m n mi = .ok r) (hXi : cart pv xiP = Xi) (hplane : V3.dot Xi N = 0)
    (hpv : M3.det pv ≠ 0) (hN : 0 < V3.normSq N) :
    0 < M3.det (C04.newVects r.uvws pv) ∧ (0 < M3.det pv → 0 < M3.det r.uvws) := by
  obtain ⟨cm, cn, ho, hm, hn, hU, hdet⟩ := setCells_ok tol2 pv N Xi xiP m n mi r h
  obtain ⟨hvm, hin, _⟩ := searchM_spec pv N _ mi cm hm
  set Mu := cart pv (C14.reduceGcd cm.v) with hMu
  set Nu := cart pv (C14.reduceGcd cn.v) with hNu
  have hmu0 : V3.dot Mu N = 0 := dot_reduceGcd_eq_zero pv N cm.v (mem_allUvws_ne_zero mi cm.v hvm) hin
  have hxi0 : V3.dot (cart pv xiP) N = 0 := by rw [hXi]; exact hplane
  -- the determinant is the same in all six orders, and non-zero
  have hD : M3.det (C04.newVects r.uvws pv) = V3.dot (cart pv xiP) (V3.cross Mu Nu) := by
    rw [hU, det_orderUvws]
  have hDne : M3.det (C04.newVects r.uvws pv) ≠ 0 := by
    rw [C04.newVects_det]
    exact mul_ne_zero (by exact_mod_cast hdet) hpv
  -- neither selected vector makes an obtuse angle with its target
  have hM0 : 0 ≤ V3.dot Mu (V3.cross N Xi) :=
    bestOf_reduced_nonneg pv hpv (V3.cross N Xi) _ (fun v hv => mem_allUvws_ne_zero mi v (List.mem_filter.mp hv).1)
      (fun v hv => List.mem_filter.mpr ⟨neg_mem_allUvws mi v (List.mem_filter.mp hv).1, by
        have := (List.mem_filter.mp hv).2
        simp only [inPlane, decide_eq_true_eq] at this ⊢
        rw [cart_neg, V3.dot_neg_left, this, neg_zero]⟩) cm hm
  have hN0 : 0 ≤ V3.dot Nu N :=
    bestOf_reduced_nonneg pv hpv N _ (mem_allUvws_ne_zero mi) (neg_mem_allUvws mi) cn hn
  -- `det · |N|² = (Mu · M)(Nu · N)` is non-negative and non-zero
  have hid := triple_identity (cart pv xiP) Mu Nu N hxi0 hmu0
  rw [← hD, hXi] at hid
  have hpos : 0 < M3.det (C04.newVects r.uvws pv) :=
    (mul_pos_iff_of_pos_right hN).mp
      (lt_of_le_of_ne (by rw [hid]; exact mul_nonneg hM0 hN0) (mul_ne_zero hDne hN.ne').symm)
  refine ⟨hpos, fun hpvpos => ?_⟩
  rw [C04.newVects_det] at hpos
  exact_mod_cast (mul_pos_iff_of_pos_right hpvpos).mp hpos

/-- among ALL lattice vectors within the index bound that lie in the slip plane, the one
    `__set_cells` selects for the in-plane box vector makes the smallest angle with the edge direction `m` (no candidate
    has a larger cosine). -/
theorem searchM_optimal (pv : M3 K) (N M : V3 K) (mi : Int)
    (hpos : ∀ v ∈ allUvws mi, 0 < V3.normSq (cart pv v)) (cm : Cand K) (h : searchM pv N M mi = some cm) :
    ∀ v ∈ allUvws mi, V3.dot (cart pv v) N = 0 → cosKey (mkCand pv M v) ≤ cosKey cm := by
  intro v hv hin
  exact bestOf_optimal _ (mkCand_m2_pos pv M _ fun w hw => hpos w (List.mem_filter.mp hw).1) cm h _
    (List.mem_map.mpr ⟨v, List.mem_filter.mpr ⟨hv, by simp [inPlane, hin]⟩, rfl⟩)

/-- the vector selected for the out-of-plane box vector makes the smallest angle with the slip-plane
    normal among all lattice vectors within the index bound. -/
theorem searchN_optimal (pv : M3 K) (N : V3 K) (mi : Int)
    (hpos : ∀ v ∈ allUvws mi, 0 < V3.normSq (cart pv v)) (cn : Cand K) (h : searchN pv N mi = some cn) :
    ∀ v ∈ allUvws mi, cosKey (mkCand pv N v) ≤ cosKey cn := by
  intro v hv
  exact bestOf_optimal _ (mkCand_m2_pos pv N _ hpos) cn h _ (List.mem_map.mpr ⟨v, hv, rfl⟩)

end Atomman.C13
