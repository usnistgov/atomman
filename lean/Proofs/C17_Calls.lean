/-
  C17 — the calls as a whole: which arguments `displacement()`, `slip_vector()`, `Strain(...)`, `disregistry()` accept, where
  the neighbour list of a call comes from (`pickNeighbors`), what each refusal is, and the end-to-end statements of the
  rigid-slip clause for `displacement()`, `slip_vector()` and `disregistry()`.
-/
import Proofs.C17_Object
import Proofs.C17_Disreg

namespace Atomman.C17
open Atomman


variable {K : Type} [Field K] [LinearOrder K] [IsStrictOrderedRing K]

set_option linter.unusedSectionVars false in
/-- the model of `displacement()` returns values iff the atom counts agree and `box_reference` is `'final'`, `'initial'` or `None`. -/
theorem displacementCall_accepts_iff (n0 n1 : Nat) (c0 c1 : Cell K) (ref : BoxRef) (pos0 pos1 : Nat → V3 K) :
    (∃ d, displacementCall n0 n1 c0 c1 ref pos0 pos1 = .ok d) ↔ (n0 = n1 ∧ ref ≠ .other) := by
  unfold displacementCall
  by_cases h : n0 = n1 <;> cases ref <;> simp [h]

set_option linter.unusedSectionVars false in
/-- every refusal of `displacement()` is a `ValueError`, raised for unequal atom counts or an unknown `box_reference`. -/
theorem displacementCall_refusal_is_value (n0 n1 : Nat) (c0 c1 : Cell K) (ref : BoxRef) (pos0 pos1 : Nat → V3 K) (e : NbrErr)
    (h : displacementCall n0 n1 c0 c1 ref pos0 pos1 = .error e) : e = .value ∧ (n0 ≠ n1 ∨ ref = .other) := by
  unfold displacementCall at h
  by_cases hn : n0 = n1 <;> cases ref <;> simp [hn] at h <;> simp [← h, hn]

set_option linter.unusedSectionVars false in
/-- `'final'` is system_1's cell, `'initial'` system_0's, `None` the plain difference of the positions. -/
theorem displacementCall_values (n : Nat) (c0 c1 : Cell K) (pos0 pos1 : Nat → V3 K) :
    displacementCall n n c0 c1 .final pos0 pos1 = .ok (displacement c1 pos0 pos1) ∧
    displacementCall n n c0 c1 .initial pos0 pos1 = .ok (displacement c0 pos0 pos1) ∧
    displacementCall n n c0 c1 .none pos0 pos1 = .ok (fun i => pos1 i - pos0 i) := by
  simp [displacementCall]

/-- END TO END, displacement: for an accepted call with `'final'`, every atom moved by `u i` plus a lattice vector the loops undo,
    `u i` strictly shortest among its images: the returned array is `u` at every atom. -/
theorem displacementCall_is_imposed (n : Nat) (c0 c1 : Cell K) (pos0 pos1 u : Nat → V3 K) (s : Nat → Shift)
    (hs : ∀ i < n, s i ∈ cands c1.px c1.py c1.pz)
    (hu : ∀ i < n, shiftBy c1.vects (pos1 i - pos0 i) (s i) = u i)
    (hmin : ∀ i < n, ∀ t ∈ cands c1.px c1.py c1.pz, shiftBy c1.vects (pos1 i - pos0 i) t = u i ∨
      V3.normSq (u i) < V3.normSq (shiftBy c1.vects (pos1 i - pos0 i) t)) :
    ∃ d, displacementCall n n c0 c1 .final pos0 pos1 = .ok d ∧ ∀ i < n, d i = u i := by
  refine ⟨displacement c1 pos0 pos1, by simp [displacementCall], fun i hi => ?_⟩
  exact displacement_is_imposed c1 pos0 pos1 i (u i) (s i) (hs i hi) (hu i hi) (hmin i hi)

/-- `displacement()` as a whole — every `box_reference`, the refusals
    included — is unchanged by a joint translation and carried along by a consistent renumbering. -/
theorem displacementCall_translated (n0 n1 : Nat) (c0 c1 : Cell K) (ref : BoxRef) (pos0 pos1 : Nat → V3 K) (t : V3 K) :
    displacementCall n0 n1 c0 c1 ref (fun i => pos0 i + t) (fun i => pos1 i + t)
      = displacementCall n0 n1 c0 c1 ref pos0 pos1 := by
  unfold displacementCall
  split
  · rfl
  · have hd : ∀ c : Cell K, displacement c (fun i => pos0 i + t) (fun i => pos1 i + t) = displacement c pos0 pos1 := by
      intro c; funext i; simp only [displacement, dv_translate]
    have hn : (fun i => (pos1 i + t) - (pos0 i + t)) = fun i => pos1 i - pos0 i := by
      funext i; exact V3.add_sub_add_right _ _ _
    cases ref <;> simp only [hd, hn]

set_option linter.unusedSectionVars false in
theorem displacementCall_renumbered (n0 n1 : Nat) (c0 c1 : Cell K) (ref : BoxRef) (pos0 pos1 : Nat → V3 K) (σ : Nat → Nat) :
    displacementCall n0 n1 c0 c1 ref (fun i => pos0 (σ i)) (fun i => pos1 (σ i))
      = (displacementCall n0 n1 c0 c1 ref pos0 pos1).map (fun d i => d (σ i)) := by
  unfold displacementCall
  split
  · rfl
  · cases ref <;> rfl

def okAt (r : Except NbrErr (Nat → V3 ℚ)) (i : Nat) : Option (V3 ℚ) :=
  match r with
  | .ok d => some (d i)
  | .error _ => none

/-- `displacementCall`: the accepted forms evaluated on the boundary-crossing atom of `displacement_is_imposed`'s example
    (`'final'` / `'initial'` undo the box vector, `None` does not), both refusals, and the refusal ORDER (a wrong atom
    count is reported also for an unknown `box_reference`). -/
example :
    let pos0 : Nat → V3 ℚ := fun _ => ⟨1/2, 1, 1⟩
    let pos1 : Nat → V3 ℚ := fun _ => ⟨1/2 - 1 + 4, 1 + 1/4, 1⟩
    let free : Cell ℚ := ⟨exV, false, true, true⟩
    okAt (displacementCall 1 1 free exCell .final pos0 pos1) 0 = some ⟨-1, 1/4, 0⟩ ∧
    okAt (displacementCall 1 1 free exCell .initial pos0 pos1) 0 = some ⟨3, 1/4, 0⟩ ∧
    okAt (displacementCall 1 1 free exCell .none pos0 pos1) 0 = some ⟨3, 1/4, 0⟩ ∧
    okAt (displacementCall 1 1 free exCell .other pos0 pos1) 0 = none ∧
    okAt (displacementCall 1 2 free exCell .final pos0 pos1) 0 = none := by
  decide +kernel

/-- the neighbour source: `AssertionError` iff list and cutoff are both given, `ValueError` iff nothing is given, a list otherwise. -/
theorem pickNeighbors_refuses_iff {L : Type} (n c a : Option L) :
    (pickNeighbors n c a = .error .assert ↔ (n.isSome ∧ c.isSome)) ∧
    (pickNeighbors n c a = .error .value ↔ (n = none ∧ c = none ∧ a = none)) ∧
    ((∃ l, pickNeighbors n c a = .ok l) ↔ ((n.isSome ∧ c = none) ∨ (n = none ∧ (c.isSome ∨ a.isSome)))) := by
  cases n <;> cases c <;> cases a <;> simp [pickNeighbors]

/-- An explicit list is used (never together with `cutoff`: refusal); otherwise the list
    built for an explicit `cutoff` — WHATEVER `neighbors` attribute the system carries —; only without both the
    attribute; with none of the three the call refuses. -/
theorem nbrSource_precedence {L : Type} (nl cl al : L) (attr : Option L) :
    pickNeighbors (some nl) none attr = .ok nl ∧
    pickNeighbors (some nl) (some cl) attr = .error .assert ∧
    pickNeighbors none (some cl) attr = .ok cl ∧
    pickNeighbors none none (some al) = .ok al ∧
    pickNeighbors (none : Option L) none none = .error .value := by
  cases attr <;> simp [pickNeighbors]

/-- `Strain(...)`: both lists follow the same rule independently (the base list with `baseneighbors`, the shared
    `cutoff`, the base system's attribute); the system's list is looked up first. -/
theorem strainSources_spec {L : Type} (nb cu att : Option L) (bn bc ba : Option L) :
    strainSources nb cu att none = (pickNeighbors nb cu att).map (fun nl => (nl, none)) ∧
    strainSources nb cu att (some (bn, bc, ba)) =
      (match pickNeighbors nb cu att, pickNeighbors bn bc ba with
       | .error e, _ => .error e
       | .ok _, .error e => .error e
       | .ok nl, .ok pl => .ok (nl, some pl)) := by
  constructor
  · unfold strainSources; cases pickNeighbors nb cu att <;> rfl
  · unfold strainSources
    cases pickNeighbors nb cu att with
    | error e => rfl
    | ok nl =>
      simp only
      cases pickNeighbors bn bc ba <;> rfl

set_option linter.unusedSectionVars false in
/-- the slip vector of a call with `cutoff=` is the one over the cutoff's list, whatever the attribute holds; with
    nothing but the attribute it is the one over the attribute's list. -/
theorem slipVectorCall_sources (c : Cell K) (pos0 pos1 : Nat → V3 K) (nl cl al : Nat → List Nat)
    (attr : Option (Nat → List Nat)) (i : Nat) :
    slipVectorCall c pos0 pos1 (some nl) none attr i = .ok (slipVector c pos0 pos1 (nl i) i) ∧
    slipVectorCall c pos0 pos1 none (some cl) attr i = .ok (slipVector c pos0 pos1 (cl i) i) ∧
    slipVectorCall c pos0 pos1 none none (some al) i = .ok (slipVector c pos0 pos1 (al i) i) := by
  cases attr <;> simp [slipVectorCall, pickNeighbors]

set_option linter.unusedSectionVars false in
/-- `slip_vector` refuses with `ValueError` iff the atom counts differ (checked FIRST) or no neighbour source is given, with
    `AssertionError` iff list and cutoff are both given; values otherwise. -/
theorem slipVectorEntry_refuses_iff (n0 n1 : Nat) (c : Cell K) (pos0 pos1 : Nat → V3 K)
    (nb cu at_ : Option (Nat → List Nat)) (i : Nat) :
    ((∃ v, slipVectorEntry n0 n1 c pos0 pos1 nb cu at_ i = .ok v) ↔
      (n0 = n1 ∧ ((nb.isSome ∧ cu = none) ∨ (nb = none ∧ (cu.isSome ∨ at_.isSome))))) ∧
    (slipVectorEntry n0 n1 c pos0 pos1 nb cu at_ i = .error .assert ↔ (n0 = n1 ∧ nb.isSome ∧ cu.isSome)) ∧
    (slipVectorEntry n0 n1 c pos0 pos1 nb cu at_ i = .error .value ↔ (n0 ≠ n1 ∨ (nb = none ∧ cu = none ∧ at_ = none))) := by
  unfold slipVectorEntry slipVectorCall
  by_cases h : n0 = n1 <;> cases nb <;> cases cu <;> cases at_ <;> simp [h, pickNeighbors]

/-- End to end, `slip_vector(system_0, system_1, …)` for a rigid slip, whichever source the call designates (explicit list /
    `cutoff=` / attribute): no image flips on THAT list ⇒ count across in that list × relative displacement. -/
theorem slipVectorCall_rigid (c : Cell K) (pos0 pos1 : Nat → V3 K) (neighbors cutoff attr : Option (Nat → List Nat))
    (nl : Nat → List Nat) (hsrc : pickNeighbors neighbors cutoff attr = .ok nl) (i : Nat)
    (side : Nat → Bool) (uA uB : V3 K)
    (hst : ∀ j ∈ nl i, c.dv (pos1 i) (pos1 j)
      = c.dv (pos0 i) (pos0 j) + (twoValued side uA uB j - twoValued side uA uB i)) :
    slipVectorCall c pos0 pos1 neighbors cutoff attr i
      = .ok (V3.smul (((nl i).countP (fun j => side j != side i) : Nat) : K)
          (twoValued side uA uB i - otherHalf side uA uB i)) := by
  unfold slipVectorCall
  rw [hsrc]
  simp only [slip_rigid c pos0 pos1 (nl i) i side uA uB hst]

/-- `slipVector_perm` / `slipVectorCall_rigid` on the four-atom chain: the slip vector of atom 0 over `[3, 1]` and over
    `[1, 3]`, through the `cutoff=` source with an attribute present. -/
example :
    let pos1 : Nat → V3 ℚ := fun k => exPos0 k + twoValued exSide exUA exUB k
    slipVector exCell exPos0 pos1 [3, 1] 0 = slipVector exCell exPos0 pos1 [1, 3] 0 ∧
    (match slipVectorCall exCell exPos0 pos1 none (some fun _ => [3, 1]) (some fun _ => [1]) 0 with
      | .ok v => v | .error _ => zero3) = V3.smul 1 (exUB - exUA) := by
  decide +kernel

def errOf {α : Type} : Except NbrErr α → Option NbrErr
  | .ok _ => none
  | .error e => some e

/-- `slipVectorEntry`, and `asdictPlan` / `SObj.asdict` (theorems in Proofs/C17_Object.lean): the atom count is checked before the neighbour block; an unknown key
    stops `asdict` AFTER the keys before it were read (and cached); without p vectors the first read refuses. -/
example :
    errOf (slipVectorEntry 4 3 exCell exPos0 exPos0 (some fun _ => [1]) (some fun _ => [1]) none 0) = some .value ∧
    errOf (slipVectorEntry 4 4 exCell exPos0 exPos0 (some fun _ => [1]) (some fun _ => [1]) none 0) = some .assert ∧
    errOf (slipVectorEntry 4 4 exCell exPos0 exPos0 none (some fun _ => [1]) (some fun _ => [3]) 0) = none ∧
    asdictPlan (some ["rotation", "G", "bogus", "nye"]) = ([.rotation, .G], true) ∧
    asdictPlan (some ["nye", "strain"]) = ([.nye, .strain], false) ∧
    errOf ((SObj.fresh apiIn).asdict apiMag 10000000000000000 (some ["strain", "Strain"])).2 = some .assert ∧
    (((SObj.fresh apiIn).asdict apiMag 10000000000000000 (some ["strain", "Strain"])).1.cache .strain).isSome = true ∧
    errOf ((SObj.fresh apiIn).asdict apiMag 10000000000000000 none).2 = none ∧
    errOf ((SObj.fresh { apiIn with pvec := none }).asdict apiMag 10000000000000000 none).2 = some .value ∧
    errOf ((SObj.fresh { apiIn with pvec := none }).asdict apiMag 10000000000000000 (some ["bogus", "G"])).2 = some .assert := by
  decide +kernel

set_option linter.unusedSectionVars false in
/-- The call raises before any plane is looked at exactly when the atom counts differ
    (the `ValueError` of `displacement`); otherwise it is the plane selection of `disregistry_refuses_iff`. -/
theorem disregistryCall_refuses_iff (atol rtol : K) (n0 n1 : Nat) (c0 c1 : Cell K) (pos0 pos1 : Nat → V3 K)
    (m n planepos : V3 K) :
    (disregistryCall atol rtol n0 n1 c0 c1 pos0 pos1 m n planepos = .error .value ↔ n0 ≠ n1) ∧
    (n0 = n1 → disregistryCall atol rtol n0 n1 c0 c1 pos0 pos1 m n planepos =
      .ok (disregistry atol rtol ((List.range n0).map fun i =>
        (V3.dot (pos0 i) m, V3.dot (pos0 i) n, c1.dv (pos0 i) (pos1 i))) (V3.dot planepos n))) := by
  unfold disregistryCall disregistryInputs displacementCall
  by_cases h : n0 = n1 <;> simp [h, displacement]

/-- End to end: two systems with the same number of atoms, every atom moved by `u i` plus a
    lattice vector the image loops undo (`u i` strictly shortest), the atoms of every plane above `planepos·n` carrying
    `uA` and those below `uB` ⇒ the call is accepted by `displacement`, and whenever the plane selection returns a profile
    every entry of it is `uA - uB` — for any `m`, `n`, `planepos`, any cells. -/
theorem disregistryCall_rigid (atol rtol : K) (ha : 0 ≤ atol) (hr : 0 ≤ rtol) (nat : Nat) (c0 c1 : Cell K)
    (pos0 pos1 u : Nat → V3 K) (s : Nat → Shift) (m n planepos uA uB : V3 K)
    (hs : ∀ i < nat, s i ∈ cands c1.px c1.py c1.pz)
    (hu : ∀ i < nat, shiftBy c1.vects (pos1 i - pos0 i) (s i) = u i)
    (hmin : ∀ i < nat, ∀ t ∈ cands c1.px c1.py c1.pz, shiftBy c1.vects (pos1 i - pos0 i) t = u i ∨
      V3.normSq (u i) < V3.normSq (shiftBy c1.vects (pos1 i - pos0 i) t))
    (hA : ∀ i < nat, ∀ y, V3.dot planepos n < y → isclose atol rtol (V3.dot (pos0 i) n) y = true → u i = uA)
    (hB : ∀ i < nat, ∀ y, y < V3.dot planepos n → isclose atol rtol (V3.dot (pos0 i) n) y = true → u i = uB) :
    ∃ res, disregistryCall atol rtol nat nat c0 c1 pos0 pos1 m n planepos = .ok res ∧
      ∀ r, res = some r → ∀ e ∈ r, e.2 = uA - uB := by
  obtain ⟨d, hd, hdi⟩ := displacementCall_is_imposed nat c0 c1 pos0 pos1 u s hs hu hmin
  unfold disregistryCall disregistryInputs
  rw [hd]
  refine ⟨_, rfl, fun r hres e he => ?_⟩
  refine disregistry_rigid_full atol rtol ha hr _ _ uA uB r ?_ ?_ hres e he
  · intro y hy a hmem hc
    obtain ⟨i, hi, rfl⟩ := List.mem_map.1 hmem
    have hi' : i < nat := List.mem_range.1 hi
    simp only at hc ⊢
    rw [hdi i hi']
    exact hA i hi' y hy hc
  · intro y hy a hmem hc
    obtain ⟨i, hi, rfl⟩ := List.mem_map.1 hmem
    have hi' : i < nat := List.mem_range.1 hi
    simp only at hc ⊢
    rw [hdi i hi']
    exact hB i hi' y hy hc

end Atomman.C17
