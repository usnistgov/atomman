/-
  C15 — what an accepted insertion returns, read off the closed forms `vacancy_ok` … `dumbbell_ok`: the keywords of the
  defect atom (`overrideProps_congr`, `loop_branches_commute`), per generator `*_spec`, `*_last`, `*_old`, `*_ok_iff` and its own
  refusals, for any insertion `Op` the cell, symbols and masses (`apply_shape`), `count_change`, `old_id_correct`, and over a
  history of insertions whatever every accepted one preserves (`run_invariant`), the count, the round trip.
-/
import Proofs.C15_Site

namespace Atomman.C15

section keywords
variable {K : Type}

theorem overrideProps_getElem? (keys : List String) (cur : List (List K)) (kw : List (String × List K))
    (dflt : List K → List K) (j : Nat) (k : String) (v : List K) (hk : keys[j]? = some k) (hv : cur[j]? = some v) :
    (overrideProps keys cur kw dflt)[j]? = some ((kw.lookup k).getD (dflt v)) := by
  simp [overrideProps, List.getElem?_zipWith, hk, hv]

theorem overrideProps_congr (keys : List String) (cur : List (List K)) (kw kw' : List (String × List K))
    (dflt : List K → List K) (h : ∀ k ∈ keys, kw.lookup k = kw'.lookup k) :
    overrideProps keys cur kw dflt = overrideProps keys cur kw' dflt := by
  unfold overrideProps
  induction keys generalizing cur with
  | nil => rfl
  | cons key t ih =>
    cases cur with
    | nil => rfl
    | cons c ct =>
      rw [List.zipWith_cons_cons, List.zipWith_cons_cons, ih ct fun k hk => h k (List.mem_cons_of_mem _ hk),
        h key List.mem_cons_self]

theorem lookup_perm (l l' : List (String × List K)) (k : String) (h : l.Perm l')
    (nd : (l.map Prod.fst).Nodup) : l.lookup k = l'.lookup k := by
  induction h with
  | nil => rfl
  | cons x _ ih =>
    simp only [List.lookup]
    split
    · rfl
    · exact ih (List.nodup_cons.mp nd).2
  | swap x y l =>
    -- two adjacent entries with different keys: at most one of them answers `k`
    have hxy : y.1 ≠ x.1 := fun h => (List.nodup_cons.mp nd).1 (h ▸ List.mem_cons_self)
    obtain ⟨xk, xv⟩ := x
    obtain ⟨yk, yv⟩ := y
    simp only [List.lookup]
    cases h1 : k == xk <;> cases h2 : k == yk <;> try rfl
    exact absurd ((beq_iff_eq.mp h2).symm.trans (beq_iff_eq.mp h1)) hxy
  | trans h1 _ ih1 ih2 => exact (ih1 nd).trans (ih2 ((h1.map Prod.fst).nodup_iff.mp nd))

end keywords

section any
variable {K : Type} [Add K] [Sub K] [Mul K] [Zero K] [IntCast K] [LT K] [DecidableLT K] [DecidableEq K]

set_option linter.unusedSectionVars false in
/-- `np.zeros_like`: same shape, every entry zero. -/
theorem zerosLike_spec (v : List K) : (zerosLike v).length = v.length ∧ ∀ x ∈ zerosLike v, x = 0 :=
  ⟨List.length_map _, fun x hx => by obtain ⟨_, _, rfl⟩ := List.mem_map.mp hx; rfl⟩

set_option linter.unusedSectionVars false in
/-- a keyword that names no property of the system is ignored (what `kwargs.pop(prop, …)` over the
    system's own properties does). -/
theorem unknown_keyword_ignored (keys : List String) (cur : List (List K)) (kw : List (String × List K))
    (dflt : List K → List K) (k : String) (v : List K) (hk : k ∉ keys) :
    overrideProps keys cur ((k, v) :: kw) dflt = overrideProps keys cur kw dflt :=
  overrideProps_congr keys cur _ kw dflt fun key hkey => by
    have hne : (key == k) = false := beq_eq_false_iff_ne.mpr fun h => hk (h ▸ hkey)
    simp only [List.lookup, hne]

set_option linter.unusedSectionVars false in
/-- `**kwargs` is a dictionary: with distinct keys the ORDER in which the keywords are written is irrelevant. -/
theorem keyword_order_irrelevant (keys : List String) (cur : List (List K)) (kw kw' : List (String × List K))
    (dflt : List K → List K) (h : kw.Perm kw') (nd : (kw.map Prod.fst).Nodup) :
    overrideProps keys cur kw dflt = overrideProps keys cur kw' dflt :=
  overrideProps_congr keys cur kw kw' dflt fun k _ => lookup_perm kw kw' k h nd

set_option linter.unusedSectionVars false in
/-- **the iterations of the per-property loop commute**: each branch reads and writes only its own property of the
    last atom (`atype`, `pos`, `old_id`, the extra properties), so the order in which `atoms_prop()` lists the
    properties does not matter — whatever the functions assigned. -/
theorem loop_branches_commute (d : Sys K) (fa : Int → Int) (fp : V3 K → V3 K) (fo : List Int → Int → Int)
    (kw : Kw K) (dflt : List K → List K) :
    setLastAtype (setLastPos d fp) fa = setLastPos (setLastAtype d fa) fp ∧
    setLastAtype (setLastOld d fo) fa = setLastOld (setLastAtype d fa) fo ∧
    setLastAtype (setLastExtras d kw dflt) fa = setLastExtras (setLastAtype d fa) kw dflt ∧
    setLastPos (setLastOld d fo) fp = setLastOld (setLastPos d fp) fo ∧
    setLastPos (setLastExtras d kw dflt) fp = setLastExtras (setLastPos d fp) kw dflt ∧
    setLastOld (setLastExtras d kw dflt) fo = setLastExtras (setLastOld d fo) kw dflt := by
  refine ⟨?_, ?_, ?_, ?_, ?_, ?_⟩ <;>
    simp [setLastAtype, setLastPos, setLastOld, setLastExtras, setLast_setLast]

/-- **vacancy**: one atom fewer; the result is the input list with atom `i` erased (every other atom
    identical, original relative order).  (The cell: `same_cell`.) -/
theorem vacancy_spec (s s' : Sys K) (pos : Option (V3 K)) (ptd : Option Int) (scale : Bool) (atol : K)
    (h : vacancy s pos ptd scale atol = .ok s') :
    ∃ i, resolveSite s pos ptd scale atol = .ok i ∧ i < s.atoms.length ∧
      s'.atoms = s.atoms.eraseIdx i ∧
      s'.atoms.length + 1 = s.atoms.length ∧
      (∀ j, j < i → s'.atoms[j]? = s.atoms[j]?) ∧
      (∀ j, i ≤ j → s'.atoms[j]? = s.atoms[j + 1]?) ∧
      s'.old = some (oldColumn s ((List.range s.atoms.length).eraseIdx i)) := by
  obtain ⟨i, hr, _, rfl⟩ := vacancy_ok.mp h
  have hi := resolveSite_lt hr
  refine ⟨i, hr, hi, rfl, length_eraseIdx_succ _ i hi, fun j hj => ?_, fun j hj => ?_, rfl⟩
  · exact List.getElem?_eraseIdx.trans (if_pos hj)
  · exact List.getElem?_eraseIdx.trans (if_neg (Nat.not_lt.mpr hj))

/-- **interstitial**: one atom more; the input atoms first, unchanged and in order, the new atom last; accepted only
    on a free site. -/
theorem interstitial_spec (s s' : Sys K) (pos : V3 K) (scale : Bool) (atol : K) (kw : Kw K)
    (h : interstitial s pos scale atol kw = .ok s') :
    siteMatches s (toCart s scale pos) atol = [] ∧
    ∃ a0, s.atoms[0]? = some a0 ∧
      s'.atoms = s.atoms ++ [{ atype := kw.atype.getD 1, pos := toCart s scale pos,
                               props := overrideProps s.keys a0.props kw.extra zerosLike }] ∧
      s'.atoms.length = s.atoms.length + 1 ∧
      (∀ j, j < s.atoms.length → s'.atoms[j]? = s.atoms[j]?) := by
  obtain ⟨hm, a0, ha0, rfl⟩ := interstitial_ok.mp h
  exact ⟨hm, a0, ha0, rfl, List.length_append, fun j hj => List.getElem?_append_left hj⟩

/-- **substitutional**: same count; atom `i` moves to the end with the new type, the others close up in order. -/
theorem substitutional_spec (s s' : Sys K) (pos : Option (V3 K)) (ptd : Option Int) (scale : Bool) (atol : K)
    (kw : Kw K) (h : substitutional s pos ptd scale atol kw = .ok s') :
    ∃ i a, resolveSite s pos ptd scale atol = .ok i ∧ s.atoms[i]? = some a ∧ a.atype ≠ kw.atype.getD 1 ∧
      s'.atoms = s.atoms.eraseIdx i ++
        [{ a with atype := kw.atype.getD 1, props := overrideProps s.keys a.props kw.extra id }] ∧
      s'.atoms.length = s.atoms.length ∧
      (∀ j, j + 1 < s.atoms.length → s'.atoms[j]? = if j < i then s.atoms[j]? else s.atoms[j + 1]?) := by
  obtain ⟨i, a, hr, ha, hne, rfl⟩ := substitutional_ok.mp h
  have hi := (List.getElem?_eq_some_iff.mp ha).1
  exact ⟨i, a, hr, ha, hne, rfl, List.length_append.trans (length_eraseIdx_succ _ i hi),
    fun j hj => others_unchanged _ _ i j hj hi⟩

/-- **dumbbell**: one atom more; atom `i` leaves its place, the pair `a.pos ∓ db_vect` is last. -/
theorem dumbbell_spec (s s' : Sys K) (pos : Option (V3 K)) (ptd : Option Int) (db : V3 K) (scale : Bool)
    (atol : K) (kw : Kw K) (h : dumbbell s pos ptd db scale atol kw = .ok s') :
    ∃ i a, resolveSite s pos ptd scale atol = .ok i ∧ s.atoms[i]? = some a ∧
      s'.atoms = s.atoms.eraseIdx i ++
        [{ a with pos := a.pos - dbCart s scale db },
         { atype := kw.atype.getD a.atype, pos := a.pos + dbCart s scale db,
           props := overrideProps s.keys a.props kw.extra id }] ∧
      s'.atoms.length = s.atoms.length + 1 ∧
      (∀ j, j + 1 < s.atoms.length → s'.atoms[j]? = if j < i then s.atoms[j]? else s.atoms[j + 1]?) := by
  obtain ⟨i, a, hr, ha, rfl⟩ := dumbbell_ok.mp h
  have hi := (List.getElem?_eq_some_iff.mp ha).1
  exact ⟨i, a, hr, ha, rfl, List.length_append.trans (congrArg (· + 1) (length_eraseIdx_succ _ i hi)),
    fun j hj => others_unchanged _ _ i j hj hi⟩

/-- **interstitial: the new atom is last**, at the requested position (Cartesian, or converted from box-relative),
    of the requested type (default 1); a requested property value is stored, an unrequested one is all zeros. -/
theorem interstitial_last (s s' : Sys K) (pos : V3 K) (scale : Bool) (atol : K) (kw : Kw K)
    (h : interstitial s pos scale atol kw = .ok s') :
    ∃ a, s'.atoms.getLast? = some a ∧ a.pos = toCart s scale pos ∧ a.atype = kw.atype.getD 1 ∧
      ∀ (j : Nat) k a0 v0, s.keys[j]? = some k → s.atoms[0]? = some a0 → a0.props[j]? = some v0 →
        a.props[j]? = some ((kw.extra.lookup k).getD (zerosLike v0)) := by
  obtain ⟨_, a0, ha0, rfl⟩ := interstitial_ok.mp h
  refine ⟨_, List.getLast?_concat .., rfl, rfl, fun j k a0' v0 hk ha0' hv => ?_⟩
  obtain rfl : a0 = a0' := Option.some.inj (ha0.symm.trans ha0')
  exact overrideProps_getElem? s.keys a0.props kw.extra zerosLike j k v0 hk hv

/-- **substitutional: the substituted atom is last**, where it was, with the requested type; a requested property
    value is stored, an unrequested one is unchanged. -/
theorem substitutional_last (s s' : Sys K) (pos : Option (V3 K)) (ptd : Option Int) (scale : Bool) (atol : K)
    (kw : Kw K) (h : substitutional s pos ptd scale atol kw = .ok s') :
    ∃ i a b, resolveSite s pos ptd scale atol = .ok i ∧ s.atoms[i]? = some a ∧ s'.atoms.getLast? = some b ∧
      b.pos = a.pos ∧ b.atype = kw.atype.getD 1 ∧
      ∀ (j : Nat) k v0, s.keys[j]? = some k → a.props[j]? = some v0 →
        b.props[j]? = some ((kw.extra.lookup k).getD v0) := by
  obtain ⟨i, a, hr, ha, _, rfl⟩ := substitutional_ok.mp h
  exact ⟨i, a, _, hr, ha, List.getLast?_concat .., rfl, rfl,
    fun j k v0 hk hv => overrideProps_getElem? s.keys a.props kw.extra id j k v0 hk hv⟩

/-- **dumbbell: the two dumbbell atoms are last**: the site atom moved by `-db_vect` (otherwise unchanged) and the
    new atom at `+db_vect` with the requested type / property values (default: those of the site atom). -/
theorem dumbbell_last (s s' : Sys K) (pos : Option (V3 K)) (ptd : Option Int) (db : V3 K) (scale : Bool) (atol : K)
    (kw : Kw K) (h : dumbbell s pos ptd db scale atol kw = .ok s') :
    ∃ i a b c, resolveSite s pos ptd scale atol = .ok i ∧ s.atoms[i]? = some a ∧
      s'.atoms[s.atoms.length - 1]? = some b ∧ s'.atoms[s.atoms.length]? = some c ∧ s'.atoms.getLast? = some c ∧
      b = { a with pos := a.pos - dbCart s scale db } ∧
      c.pos = a.pos + dbCart s scale db ∧ c.atype = kw.atype.getD a.atype ∧
      ∀ (j : Nat) k v0, s.keys[j]? = some k → a.props[j]? = some v0 →
        c.props[j]? = some ((kw.extra.lookup k).getD v0) := by
  obtain ⟨i, a, hr, ha, rfl⟩ := dumbbell_ok.mp h
  -- the survivors fill the indices below `natoms - 1`
  have hl := length_eraseIdx_succ s.atoms i (List.getElem?_eq_some_iff.mp ha).1
  refine ⟨i, a, { a with pos := a.pos - dbCart s scale db },
    { atype := kw.atype.getD a.atype, pos := a.pos + dbCart s scale db,
      props := overrideProps s.keys a.props kw.extra id }, hr, ha, ?_, ?_, ?_, rfl, rfl, rfl,
    fun j k v0 hk hv => overrideProps_getElem? s.keys a.props kw.extra id j k v0 hk hv⟩
  · rw [← hl, Nat.add_sub_cancel]
    exact (List.getElem?_append_right (le_refl _)).trans (by rw [Nat.sub_self]; rfl)
  · rw [← hl]
    exact (List.getElem?_append_right (Nat.le_add_right _ 1)).trans (by rw [Nat.add_sub_cancel_left]; rfl)
  · exact List.getLast?_append_cons ..

/-- the `old_id` column of the result, explicitly (likewise `substitutional_old`, `dumbbell_old`). -/
theorem interstitial_old (s s' : Sys K) (hwf : WF s) (pos : V3 K) (scale : Bool) (atol : K) (kw : Kw K)
    (h : interstitial s pos scale atol kw = .ok s') :
    ∃ v, s'.old = some (oldColumn s (List.range s.atoms.length) ++ [v]) ∧
      v = kw.oldId.getD (maxD (oldColumn s (List.range s.atoms.length ++ [0])) + 1) := by
  obtain ⟨_, a0, ha0, rfl⟩ := interstitial_ok.mp h
  obtain ⟨v0, hv0⟩ := oldAt_lt s hwf 0 (List.getElem?_eq_some_iff.mp ha0).1
  exact ⟨_, congrArg some (setLast_oldColumn_snoc s _ 0 v0 hv0 _), rfl⟩

theorem substitutional_old (s s' : Sys K) (hwf : WF s) (pos : Option (V3 K)) (ptd : Option Int) (scale : Bool)
    (atol : K) (kw : Kw K) (h : substitutional s pos ptd scale atol kw = .ok s') :
    ∃ i v, resolveSite s pos ptd scale atol = .ok i ∧ oldAt s i = some v ∧
      s'.old = some (oldColumn s ((List.range s.atoms.length).eraseIdx i) ++ [kw.oldId.getD v]) := by
  obtain ⟨i, a, hr, ha, _, rfl⟩ := substitutional_ok.mp h
  obtain ⟨v, hv⟩ := oldAt_lt s hwf i (List.getElem?_eq_some_iff.mp ha).1
  exact ⟨i, v, hr, hv, congrArg some (setLast_oldColumn_snoc s _ i v hv _)⟩

theorem dumbbell_old (s s' : Sys K) (hwf : WF s) (pos : Option (V3 K)) (ptd : Option Int) (db : V3 K)
    (scale : Bool) (atol : K) (kw : Kw K) (h : dumbbell s pos ptd db scale atol kw = .ok s') :
    ∃ i v w, resolveSite s pos ptd scale atol = .ok i ∧ oldAt s i = some v ∧
      s'.old = some (oldColumn s ((List.range s.atoms.length).eraseIdx i) ++ [v, w]) ∧
      w = kw.oldId.getD (maxD (oldColumn s ((List.range s.atoms.length).eraseIdx i ++ [i, i])) + 1) := by
  obtain ⟨i, a, hr, ha, rfl⟩ := dumbbell_ok.mp h
  obtain ⟨v, hv⟩ := oldAt_lt s hwf i (List.getElem?_eq_some_iff.mp ha).1
  exact ⟨i, v, _, hr, hv, congrArg some (setLast_oldColumn_pair s _ i v hv _), rfl⟩

/-- **`vacancy` refuses exactly when** the site is refused or the atom is the only one. -/
theorem vacancy_ok_iff (s : Sys K) (pos : Option (V3 K)) (ptd : Option Int) (scale : Bool) (atol : K) :
    (∃ s', vacancy s pos ptd scale atol = .ok s') ↔
      (∃ i, resolveSite s pos ptd scale atol = .ok i) ∧ 2 ≤ s.atoms.length := by
  simp only [vacancy_ok, exists_comm (α := Sys K), exists_and_left, exists_eq, and_true, exists_and_right]

/-- **`substitutional` refuses exactly when** the site is refused or the atom already has the requested type. -/
theorem substitutional_ok_iff (s : Sys K) (pos : Option (V3 K)) (ptd : Option Int) (scale : Bool) (atol : K)
    (kw : Kw K) :
    (∃ s', substitutional s pos ptd scale atol kw = .ok s') ↔
      ∃ i a, resolveSite s pos ptd scale atol = .ok i ∧ s.atoms[i]? = some a ∧ a.atype ≠ kw.atype.getD 1 := by
  simp only [substitutional_ok, exists_comm (α := Sys K), exists_and_left, exists_eq, and_true]

/-- **`dumbbell` refuses exactly when** the site is refused. -/
theorem dumbbell_ok_iff (s : Sys K) (pos : Option (V3 K)) (ptd : Option Int) (db : V3 K) (scale : Bool) (atol : K)
    (kw : Kw K) :
    (∃ s', dumbbell s pos ptd db scale atol kw = .ok s') ↔ ∃ i, resolveSite s pos ptd scale atol = .ok i := by
  constructor
  · rintro ⟨s', h⟩
    obtain ⟨i, a, hr, _⟩ := dumbbell_ok.mp h
    exact ⟨i, hr⟩
  · rintro ⟨i, hr⟩
    have ha := List.getElem?_eq_getElem (resolveSite_lt hr)
    exact ⟨_, dumbbell_ok.mpr ⟨i, _, hr, ha, rfl⟩⟩

/-- **interstitial, completely:** in a non-empty system the insertion is accepted exactly when no atom
    is within the tolerance of the requested position. -/
theorem interstitial_ok_iff_free (s : Sys K) (p : V3 K) (scale : Bool) (atol : K) (kw : Kw K) (hne : s.atoms ≠ []) :
    (∃ s', interstitial s p scale atol kw = .ok s') ↔
      ∀ (j : Nat) b, s.atoms[j]? = some b → within s (toCart s scale p) atol b = false := by
  rw [← siteMatches_eq_nil_iff]
  obtain ⟨a0, ha0⟩ : ∃ a0, s.atoms[0]? = some a0 := by
    cases hs : s.atoms with
    | nil => exact absurd hs hne
    | cons a t => exact ⟨a, rfl⟩
  exact ⟨fun ⟨s', h⟩ => (interstitial_ok.mp h).1,
    fun hm => ⟨_, interstitial_ok.mpr ⟨hm, a0, ha0, rfl⟩⟩⟩

theorem refuse_occupied_interstitial (s : Sys K) (p : V3 K) (scale : Bool) (atol : K) (kw : Kw K) (i : Nat)
    (a : Atom K) (ha : s.atoms[i]? = some a) (hw : within s (toCart s scale p) atol a = true) :
    interstitial s p scale atol kw = .error .value := by
  have hi : i ∈ siteMatches s (toCart s scale p) atol := mem_siteMatches.mpr ⟨a, ha, hw⟩
  simp only [interstitial]
  split
  · rename_i hk
    rw [hk] at hi
    cases hi
  · rfl

theorem refuse_same_type (s : Sys K) (pos : Option (V3 K)) (ptd : Option Int) (scale : Bool) (atol : K)
    (kw : Kw K) (i : Nat) (a : Atom K) (hr : resolveSite s pos ptd scale atol = .ok i)
    (ha : s.atoms[i]? = some a) (ht : a.atype = kw.atype.getD 1) :
    substitutional s pos ptd scale atol kw = .error .value := by
  simp only [substitutional, hr, substitutionalAt, ha, ht, if_true]

/-- every accepted insertion builds its result as `System(box, pbc, atoms, symbols, masses)` over the input:
    new atoms and an `old_id` column, everything else the input's. -/
theorem apply_shape (s s' : Sys K) (op : Op K) (h : op.apply s = .ok s') :
    ∃ atoms col, s' = fixSym { s with atoms := atoms, old := some col } := by
  cases op with
  | vac pos ptd scale atol =>
    obtain ⟨i, _, _, rfl⟩ := vacancy_ok.mp h; exact ⟨_, _, rfl⟩
  | int pos scale atol kw =>
    obtain ⟨_, a0, _, rfl⟩ := interstitial_ok.mp h; exact ⟨_, _, rfl⟩
  | sub pos ptd scale atol kw =>
    obtain ⟨i, a, _, _, _, rfl⟩ := substitutional_ok.mp h; exact ⟨_, _, rfl⟩
  | db pos ptd dbv scale atol kw =>
    obtain ⟨i, a, _, _, rfl⟩ := dumbbell_ok.mp h; exact ⟨_, _, rfl⟩

theorem same_cell (s s' : Sys K) (op : Op K) (h : op.apply s = .ok s') :
    s'.box = s.box ∧ s'.pbc = s.pbc ∧ s'.keys = s.keys := by
  obtain ⟨_, _, rfl⟩ := apply_shape s s' op h
  exact ⟨rfl, rfl, rfl⟩

theorem old_id_present (s s' : Sys K) (op : Op K) (h : op.apply s = .ok s') : s'.old.isSome := by
  obtain ⟨_, _, rfl⟩ := apply_shape s s' op h; rfl

/-- **symbols and masses survive.** The result has at least the input's symbols, enough of them for
    every atom type present (a new type pads with `None`), and the input's per-type masses, entry by
    entry, padded with `None` up to the number of symbols. -/
theorem symbols_masses_kept (s s' : Sys K) (op : Op K) (h : op.apply s = .ok s') :
    s.nsym ≤ s'.nsym ∧ (maxAtype s'.atoms).toNat ≤ s'.nsym ∧
    s'.masses = padNone s.masses s'.nsym ∧
    (∀ i, i < s.masses.length → s'.masses[i]? = s.masses[i]?) := by
  obtain ⟨_, _, rfl⟩ := apply_shape s s' op h
  exact ⟨Nat.le_max_left _ _, Nat.le_max_right _ _, rfl, fun i hi => List.getElem?_append_left hi⟩

/-- The model is a pure function, so this is `rfl` and says nothing about the implementation; there the clause is
    checked by snapshot and shared-memory tests in `harness/props/c15.py` (PARTIAL). -/
theorem input_unchanged_partial (s : Sys K) (op : Op K) :
    (fun t : Sys K => (op.apply t, t)) s = (op.apply s, s) := rfl

/-- the net change in the number of atoms of each kind of insertion. -/
def Op.delta : Op K → Int
  | .vac .. => -1
  | .int .. => 1
  | .sub .. => 0
  | .db .. => 1

/-- **exactly the documented change in atom count**, for every accepted insertion. -/
theorem count_change (s s' : Sys K) (op : Op K) (h : op.apply s = .ok s') :
    (s'.atoms.length : Int) = (s.atoms.length : Int) + op.delta := by
  cases op with
  | vac pos ptd scale atol =>
    obtain ⟨i, _, _, _, hl, _⟩ := vacancy_spec s s' pos ptd scale atol h
    simp only [Op.delta]; omega
  | int pos scale atol kw =>
    obtain ⟨_, a0, _, _, hl, _⟩ := interstitial_spec s s' pos scale atol kw h
    simp only [Op.delta]; omega
  | sub pos ptd scale atol kw =>
    obtain ⟨i, a, _, _, _, _, hl, _⟩ := substitutional_spec s s' pos ptd scale atol kw h
    simp only [Op.delta]; omega
  | db pos ptd dbv scale atol kw =>
    obtain ⟨i, a, _, _, _, hl, _⟩ := dumbbell_spec s s' pos ptd dbv scale atol kw h
    simp only [Op.delta]; omega

theorem provInv_apply (s s' : Sys K) (op : Op K) (hwf : WF s) (h : op.apply s = .ok s') : ProvInv s s' (op.prov s) := by
  -- in every case the column is `oldColumn s front ++ tail` against the provenance `front.map some ++ …`
  have hfront := fun i => recorded_front s hwf _ (mem_front_lt s.atoms.length i)
  cases op with
  | vac pos ptd scale atol =>
    obtain ⟨i, hr, _, rfl⟩ := vacancy_ok.mp h
    have hi := resolveSite_lt hr
    simp only [Op.prov, hr]
    exact recorded_correct s _ _ _ rfl
      (by simp only [fixSym_atoms, List.length_map, List.length_eraseIdx, List.length_range, if_pos hi]) (hfront i)
  | int pos scale atol kw =>
    obtain ⟨_, a0, ha0, rfl⟩ := interstitial_ok.mp h
    obtain ⟨v0, hv0⟩ := oldAt_lt s hwf 0 (List.getElem?_eq_some_iff.mp ha0).1
    exact recorded_correct s _ _ _ (congrArg some (setLast_oldColumn_snoc s _ 0 v0 hv0 _)) (by simp [Op.prov])
      (List.rel_append (recorded_front s hwf _ fun x hx => List.mem_range.mp hx) (.cons (recorded_none s _) .nil))
  | sub pos ptd scale atol kw =>
    obtain ⟨i, a, hr, ha, _, rfl⟩ := substitutional_ok.mp h
    have hi := (List.getElem?_eq_some_iff.mp ha).1
    obtain ⟨v, hv⟩ := oldAt_lt s hwf i hi
    simp only [Op.prov, hr]
    refine recorded_correct s _ _ _ (congrArg some (setLast_oldColumn_snoc s _ i v hv _))
      (by simp only [fixSym_atoms, List.length_append, List.length_map, List.length_eraseIdx, List.length_range,
        if_pos hi, List.length_cons, List.length_nil]) (List.rel_append (hfront i) (.cons ?_ .nil))
    cases kw.oldId with
    | none => exact recorded_some s i v hi hv
    | some o => exact recorded_none s _
  | db pos ptd dbv scale atol kw =>
    obtain ⟨i, a, hr, ha, rfl⟩ := dumbbell_ok.mp h
    have hi := (List.getElem?_eq_some_iff.mp ha).1
    obtain ⟨v, hv⟩ := oldAt_lt s hwf i hi
    simp only [Op.prov, hr]
    exact recorded_correct s _ _ _ (congrArg some (setLast_oldColumn_pair s _ i v hv _))
      (by simp only [fixSym_atoms, List.length_append, List.length_map, List.length_eraseIdx, List.length_range,
        if_pos hi, List.length_cons, List.length_nil])
      (List.rel_append (hfront i) (.cons (recorded_some s i v hi hv) (.cons (recorded_none s _) .nil)))

/-- **old_id of one insertion.** For a well-formed input, the result always carries an `old_id`
    column with one entry per atom, and for every atom `j` of the result that *is* atom `k` of the
    input (`Op.prov`), the recorded old index is the input's (`old_id[k]` if the input had the
    property, `k` itself if it was created now). -/
theorem old_id_correct (s s' : Sys K) (op : Op K) (hwf : WF s) (h : op.apply s = .ok s') :
    WF s' ∧ s'.old.isSome ∧ (op.prov s).length = s'.atoms.length ∧
    ∀ j k, (op.prov s)[j]? = some (some k) → k < s.atoms.length ∧ oldAt s' j = oldAt s k := by
  obtain ⟨h1, h2, h3⟩ := provInv_apply s s' op hwf h
  exact ⟨h1, old_id_present s s' op h, h2, h3⟩

/-- induction over a history: a relation between the current system and its provenance list that every ACCEPTED
    insertion preserves (refused ones change neither) holds after `run`. -/
theorem run_invariant (R : Sys K → List (Option Nat) → Prop)
    (hstep : ∀ s pv (op : Op K) s', R s pv → op.apply s = .ok s' → R s' (composeProv pv (op.prov s)))
    (ops : List (Op K)) (s : Sys K) (pv : List (Option Nat)) (h0 : R s pv) : R (run s pv ops).1 (run s pv ops).2 := by
  induction ops generalizing s pv with
  | nil => exact h0
  | cons op rest ih =>
    simp only [run]
    cases h : op.apply s with
    | error e => exact ih s pv h0
    | ok s' => exact ih s' _ (hstep s pv op s' h0 h)

theorem provInv_run (s0 : Sys K) (ops : List (Op K)) (s : Sys K) (pv : List (Option Nat))
    (hinv : ProvInv s0 s pv) : ProvInv s0 (run s pv ops).1 (run s pv ops).2 :=
  run_invariant (ProvInv s0) (fun s pv op s' hi h => provInv_trans s0 s s' pv _ hi (provInv_apply s s' op hi.1 h))
    ops s pv hinv

/-- **old_id composes.** After ANY history of insertions (refused ones leave the system as it was)
    started from a well-formed system `s0`, every atom `j` of the final system that is atom `k` of
    `s0` records `s0`'s old index of `k` (`old_id[k]` if `s0` already had the property, else `k`). -/
theorem old_id_composes (s0 : Sys K) (hwf : WF s0) (ops : List (Op K)) (j k : Nat)
    (hp : (run s0 (idProv s0) ops).2[j]? = some (some k)) :
    k < s0.atoms.length ∧ oldAt (run s0 (idProv s0) ops).1 j = oldAt s0 k :=
  (provInv_run s0 ops s0 (idProv s0) (provInv_init s0 hwf)).2.2 j k hp

theorem run_old (ops : List (Op K)) (s : Sys K) (pv : List (Option Nat)) :
    (run s pv ops).1 = s ∨ (run s pv ops).1.old.isSome :=
  run_invariant (fun t _ => t = s ∨ t.old.isSome) (fun t _ op t' _ h => .inr (old_id_present t t' op h)) ops s pv
    (.inl rfl)

/-- the case the property text speaks of: the first system has no `old_id`.  Then after any history
    either nothing was inserted, or the final system has an `old_id` column whose entry for every
    survivor is its index in the first system. -/
theorem old_id_composes_fresh (s0 : Sys K) (hno : s0.old = none) (ops : List (Op K)) :
    (run s0 (idProv s0) ops).1 = s0 ∨
    ∃ col, (run s0 (idProv s0) ops).1.old = some col ∧
      ∀ (j k : Nat), (run s0 (idProv s0) ops).2[j]? = some (some k) → k < s0.atoms.length ∧ col[j]? = some (k : Int) := by
  refine (run_old ops s0 (idProv s0)).imp_right fun h => ?_
  obtain ⟨col, hcol⟩ := Option.isSome_iff_exists.mp h
  refine ⟨col, hcol, fun j k hp => ?_⟩
  obtain ⟨hk, ho⟩ := old_id_composes s0 (by simp [WF, hno]) ops j k hp
  rw [oldAt_some _ col hcol] at ho
  exact ⟨hk, ho.trans (by simp [oldAt, hno, hk])⟩

theorem run_same_cell (ops : List (Op K)) (s : Sys K) (pv : List (Option Nat)) :
    (run s pv ops).1.box = s.box ∧ (run s pv ops).1.pbc = s.pbc ∧ (run s pv ops).1.keys = s.keys :=
  run_invariant (fun t _ => t.box = s.box ∧ t.pbc = s.pbc ∧ t.keys = s.keys)
    (fun t _ op t' ⟨g1, g2, g3⟩ h =>
      let ⟨h1, h2, h3⟩ := same_cell t t' op h
      ⟨h1.trans g1, h2.trans g2, h3.trans g3⟩) ops s pv ⟨rfl, rfl, rfl⟩

/-- the accepted insertions of a history (a refused one leaves the system as it was). -/
def accepted (s : Sys K) : List (Op K) → List (Op K)
  | [] => []
  | op :: rest =>
    match op.apply s with
    | .error _ => accepted s rest
    | .ok s' => op :: accepted s' rest

/-- **atom count after ANY history**: the initial count plus the documented change of every accepted insertion. -/
theorem run_count (ops : List (Op K)) (s : Sys K) (pv : List (Option Nat)) :
    ((run s pv ops).1.atoms.length : Int) = (s.atoms.length : Int) + ((accepted s ops).map Op.delta).sum := by
  induction ops generalizing s pv with
  | nil => simp [run, accepted]
  | cons op rest ih =>
    simp only [run, accepted]
    cases h : op.apply s with
    | error e => exact ih s pv
    | ok s' =>
      simp only [List.map_cons, List.sum_cons]
      rw [ih s' _, count_change s s' op h, Int.add_assoc]

/-- **an interstitial followed by the vacancy of the last atom gives back the atoms of the input**, in order. -/
theorem interstitial_vacancy_roundtrip (s s1 s2 : Sys K) (pos : V3 K) (scale : Bool) (atol atol' : K) (kw : Kw K)
    (h1 : interstitial s pos scale atol kw = .ok s1)
    (h2 : vacancy s1 none (some (-1)) false atol' = .ok s2) : s2.atoms = s.atoms := by
  obtain ⟨_, a0, _, hat, hl, _⟩ := interstitial_spec s s1 pos scale atol kw h1
  obtain ⟨i, hr, _, hat2, _⟩ := vacancy_spec s1 s2 none (some (-1)) false atol' h2
  -- `-1` names the last atom of `s1`, the one just inserted
  have := index_negative s1 s.atoms.length (by omega) false atol'
  rw [show ((s.atoms.length : Int) - (s1.atoms.length : Int)) = -1 by omega, hr] at this
  obtain rfl := Except.ok.inj this
  rw [hat2, hat, List.eraseIdx_append_of_length_le (le_refl _), Nat.sub_self]
  exact List.append_nil _

end any

end Atomman.C15
