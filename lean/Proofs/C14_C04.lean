/-
  C14: the three facts about C04's supercell model that `surface_same_crystal` uses, under C14 names, taken from
  `Proofs/C04_Lemmas.lean` (`supersize_length`, `replicaPos_eq`, `superBox_volume`), which does not depend on C04's
  regenerated source tie (importing `Proofs/C04.lean` would).  And what wrapping a shifted replica into the supercell gives
  (`latticeVec_superBox`, `replica_wrapped`), which C13's reference system uses as well.
-/
import Proofs.C04_Lemmas
import Atomman.C05

namespace Atomman.C14
open Atomman
variable {K : Type} [Field K]

theorem c04_supersize_length (b : Box K) (sa sb sc : C04.Size) (atoms : List (C04.Atom K)) :
    (C04.supersizeAtoms b sa sb sc atoms).length
      = sc.mult.toNat * (sb.mult.toNat * (sa.mult.toNat * atoms.length)) :=
  C04.supersize_length b sa sb sc atoms

theorem c04_replicaPos_eq (b : Box K) (sa sb sc : C04.Size) (p : V3 K) (r0 r1 r2 : Nat)
    (hdet : M3.det b.vects ≠ 0)
    (ha : ((sa.mult : Int) : K) ≠ 0) (hb : ((sb.mult : Int) : K) ≠ 0) (hc : ((sc.mult : Int) : K) ≠ 0) :
    C04.replicaPos b sa sb sc p r0 r1 r2
      = p + M3.vecMul ⟨(((r0 : Int) + sa.lo : Int) : K), (((r1 : Int) + sb.lo : Int) : K),
                        (((r2 : Int) + sc.lo : Int) : K)⟩ b.vects :=
  C04.replicaPos_eq b sa sb sc p r0 r1 r2 hdet ha hb hc

theorem c04_superBox_volume (b : Box K) (sa sb sc : C04.Size) :
    M3.det (C04.superBox b sa sb sc).vects
      = ((sa.mult : Int) : K) * ((sb.mult : Int) : K) * ((sc.mult : Int) : K) * M3.det b.vects :=
  C04.superBox_volume b sa sb sc

/-- a lattice vector of the supercell is a lattice vector of the cell. -/
theorem latticeVec_superBox (b : Box K) (sa sb sc : C04.Size) (n : V3 Int) :
    C05.latticeVec (C04.superBox b sa sb sc).vects n
      = C05.latticeVec b.vects ⟨n.x * sa.mult, n.y * sb.mult, n.z * sc.mult⟩ := by
  simp only [C05.latticeVec, C04.superBox, M3.vecMul, V3.smul, V3.mk.injEq]
  push_cast
  refine ⟨by ring, by ring, by ring⟩

/-- replica `(r0, r1, r2)` of a point `p`, shifted, and brought back into the supercell by the supercell's lattice vector
    `n` (what a periodic `wrap` does) is `p + shift` plus a lattice vector of the original cell. -/
theorem replica_wrapped (b : Box K) (sa sb sc : C04.Size) (p shift w : V3 K) (r0 r1 r2 : Nat) (n : V3 Int)
    (hdet : M3.det b.vects ≠ 0)
    (ha : ((sa.mult : Int) : K) ≠ 0) (hb : ((sb.mult : Int) : K) ≠ 0) (hc : ((sc.mult : Int) : K) ≠ 0)
    (h : w + C05.latticeVec (C04.superBox b sa sb sc).vects n = C04.replicaPos b sa sb sc p r0 r1 r2 + shift) :
    w = p + shift + C05.latticeVec b.vects
      ⟨(r0 : Int) + sa.lo - n.x * sa.mult, (r1 : Int) + sb.lo - n.y * sb.mult, (r2 : Int) + sc.lo - n.z * sc.mult⟩ := by
  rw [latticeVec_superBox, C04.replicaPos_eq b sa sb sc p r0 r1 r2 hdet ha hb hc] at h
  rw [← V3.add_sub_cancel' w (C05.latticeVec b.vects ⟨n.x * sa.mult, n.y * sb.mult, n.z * sc.mult⟩), h]
  ext <;> simp only [C05.latticeVec, M3.vecMul, V3.add_def, V3.sub_def] <;> push_cast <;> ring

end Atomman.C14
