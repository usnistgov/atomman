/-
  C17 — slip vector and differential displacement: both are sums / differences of the separations `Cell.dv` of the listed
  pairs, so wherever those are image-stable they return the imposed relative displacements (a rigid half-crystal slip:
  count across × relative displacement; a homogeneous deformation: `(F - 1) d_ij`).
-/
import Proofs.C17_Image
import Mathlib.Data.List.Basic

namespace Atomman.C17
open Atomman
set_option linter.unusedSectionVars false


variable {K : Type} [Field K] [LinearOrder K] [IsStrictOrderedRing K]

/-- the displacement field of a rigid half-crystal slip: `uA` on the half `side = true`, `uB` on the other. -/
def twoValued (side : Nat → Bool) (uA uB : V3 K) (j : Nat) : V3 K := if side j then uA else uB

/-- the displacement of the *other* half. -/
def otherHalf (side : Nat → Bool) (uA uB : V3 K) (i : Nat) : V3 K := if side i then uB else uA

theorem slip_fold (c : Cell K) (pos0 pos1 : Nat → V3 K) (u : Nat → V3 K) (i : Nat) (nbrs : List Nat) (acc : V3 K)
    (h : ∀ j ∈ nbrs, c.dv (pos1 i) (pos1 j) = c.dv (pos0 i) (pos0 j) + (u j - u i)) :
    nbrs.foldl (slipStep c pos0 pos1 i) acc = nbrs.foldl (fun a j => a + (u i - u j)) acc :=
  List.foldl_ext _ _ acc fun a j hj => by
    simp only [slipStep, h j hj]
    ext <;> simp only [sub_x, sub_y, sub_z, add_x, add_y, add_z] <;> ring

theorem rigid_fold (side : Nat → Bool) (uA uB : V3 K) (i : Nat) :
    ∀ (nbrs : List Nat) (acc : V3 K),
      nbrs.foldl (fun a j => a + (twoValued side uA uB i - twoValued side uA uB j)) acc
        = acc + V3.smul ((nbrs.countP (fun j => side j != side i) : Nat) : K)
            (twoValued side uA uB i - otherHalf side uA uB i)
  | [], acc => by
    ext <;> simp
  | j :: l, acc => by
    simp only [List.foldl_cons]
    rw [rigid_fold side uA uB i l, List.countP_cons]
    by_cases h : side j = side i
    · have e : twoValued side uA uB j = twoValued side uA uB i := by simp only [twoValued, h]
      rw [e]
      ext <;> simp [h]
    · have hb : (side j != side i) = true := by simpa using h
      have e : twoValued side uA uB j = otherHalf side uA uB i := by
        simp only [twoValued, otherHalf]
        cases hj : side j <;> cases hi : side i <;> simp_all
      rw [e]
      ext <;> simp only [hb, if_true, Nat.cast_add, Nat.cast_one, add_x, add_y, add_z, smul_x, smul_y, smul_z,
        sub_x, sub_y, sub_z] <;> ring

/-- For a two-valued (rigid half-crystal) displacement and no image flips on the reference
    neighbour list, the slip vector of atom `i` is the number of its neighbours in the other half times the
    displacement of its own half relative to the other half. -/
theorem slip_rigid (c : Cell K) (pos0 pos1 : Nat → V3 K) (nbrs : List Nat) (i : Nat)
    (side : Nat → Bool) (uA uB : V3 K)
    (hst : ∀ j ∈ nbrs, c.dv (pos1 i) (pos1 j)
      = c.dv (pos0 i) (pos0 j) + (twoValued side uA uB j - twoValued side uA uB i)) :
    slipVector c pos0 pos1 nbrs i
      = V3.smul ((nbrs.countP (fun j => side j != side i) : Nat) : K)
          (twoValued side uA uB i - otherHalf side uA uB i) := by
  unfold slipVector
  rw [slip_fold c pos0 pos1 (twoValued side uA uB) i nbrs zero3 hst, rigid_fold]
  ext <;> simp

/-- ... in particular it vanishes for an atom none of whose neighbours lies across the plane. -/
theorem slip_zero_away (c : Cell K) (pos0 pos1 : Nat → V3 K) (nbrs : List Nat) (i : Nat)
    (side : Nat → Bool) (uA uB : V3 K)
    (hst : ∀ j ∈ nbrs, c.dv (pos1 i) (pos1 j)
      = c.dv (pos0 i) (pos0 j) + (twoValued side uA uB j - twoValued side uA uB i))
    (hno : ∀ j ∈ nbrs, side j = side i) :
    slipVector c pos0 pos1 nbrs i = zero3 := by
  rw [slip_rigid c pos0 pos1 nbrs i side uA uB hst]
  have : nbrs.countP (fun j => side j != side i) = 0 := by
    rw [List.countP_eq_zero]
    intro j hj
    simp [hno j hj]
  rw [this]
  ext <;> simp

/-- slip vector of a rigid slip, directly from the image-stability hypotheses on every reference neighbour pair. -/
theorem slip_rigid_of_stable (c : Cell K) (pos0 : Nat → V3 K) (nbrs : List Nat) (i : Nat)
    (side : Nat → Bool) (uA uB : V3 K) (sh : Nat → Shift)
    (hs : ∀ j ∈ nbrs, sh j ∈ cands c.px c.py c.pz)
    (hgap : ∀ j ∈ nbrs, ∀ t ∈ cands c.px c.py c.pz, t = sh j ∨
      2 * |V3.dot (twoValued side uA uB j - twoValued side uA uB i)
            (shiftBy c.vects (pos0 j - pos0 i) t - shiftBy c.vects (pos0 j - pos0 i) (sh j))|
        < V3.normSq (shiftBy c.vects (pos0 j - pos0 i) t) - V3.normSq (shiftBy c.vects (pos0 j - pos0 i) (sh j))) :
    slipVector c pos0 (fun k => pos0 k + twoValued side uA uB k) nbrs i
      = V3.smul ((nbrs.countP (fun j => side j != side i) : Nat) : K)
          (twoValued side uA uB i - otherHalf side uA uB i) := by
  apply slip_rigid
  intro j hj
  exact image_stable c.vects c.px c.py c.pz (pos0 i) (pos0 j) _ _ (sh j) (hs j hj) (hgap j hj)

/-- the slip vector does not depend on the order in which an atom's neighbours are listed. -/
theorem slipVector_perm (c : Cell K) (pos0 pos1 : Nat → V3 K) (l l' : List Nat) (h : l.Perm l') (i : Nat) :
    slipVector c pos0 pos1 l i = slipVector c pos0 pos1 l' i := by
  unfold slipVector
  apply h.foldl_eq'
  intro x _ y _ z
  ext <;> simp only [slipStep, sub_x, sub_y, sub_z] <;> exact sub_right_comm _ _ _

/-- Each system with its own cell: whenever the two periodic separations differ by the
    difference of the imposed displacements, that difference is the dd vector. -/
theorem dd_of_stable (c0 c1 : Cell K) (pos0 pos1 : Nat → V3 K) (i j : Nat) (w : V3 K)
    (h : c1.dv (pos1 i) (pos1 j) = c0.dv (pos0 i) (pos0 j) + w) :
    ddvector c0 c1 pos0 pos1 i j = w := by
  rw [ddvector, h, V3.add_sub_cancel_left']

/-- With positions `pos1 = pos0 + u`, the same cell for both systems and an image-stable
    pair (hypotheses of `image_stable`), the differential displacement of the pair is `u_j - u_i`. -/
theorem dd_is_difference (c : Cell K) (pos0 u : Nat → V3 K) (i j : Nat) (s : Shift)
    (hs : s ∈ cands c.px c.py c.pz)
    (hgap : ∀ t ∈ cands c.px c.py c.pz, t = s ∨
      2 * |V3.dot (u j - u i) (shiftBy c.vects (pos0 j - pos0 i) t - shiftBy c.vects (pos0 j - pos0 i) s)|
        < V3.normSq (shiftBy c.vects (pos0 j - pos0 i) t) - V3.normSq (shiftBy c.vects (pos0 j - pos0 i) s)) :
    ddvector c c pos0 (fun k => pos0 k + u k) i j = u j - u i :=
  dd_of_stable c c pos0 _ i j _ (image_stable c.vects c.px c.py c.pz (pos0 i) (pos0 j) (u i) (u j) s hs hgap)

/-- the differential displacement of a neighbour pair under a homogeneous deformation of positions and box is
    `F d_ij - d_ij`, the difference `(F - I) x_j - (F - I) x_i` of the imposed displacements through the boundaries. -/
theorem dd_homogeneous (F : M3 K) (c0 : Cell K) (pos0 : Nat → V3 K) (i j : Nat) (s : Shift)
    (hs : s ∈ cands c0.px c0.py c0.pz)
    (hmin0 : ∀ t ∈ cands c0.px c0.py c0.pz,
      shiftBy c0.vects (pos0 j - pos0 i) t = shiftBy c0.vects (pos0 j - pos0 i) s ∨
      V3.normSq (shiftBy c0.vects (pos0 j - pos0 i) s) < V3.normSq (shiftBy c0.vects (pos0 j - pos0 i) t))
    (hmin1 : ∀ t ∈ cands c0.px c0.py c0.pz,
      M3.mulVec F (shiftBy c0.vects (pos0 j - pos0 i) t) = M3.mulVec F (shiftBy c0.vects (pos0 j - pos0 i) s) ∨
      V3.normSq (M3.mulVec F (shiftBy c0.vects (pos0 j - pos0 i) s))
        < V3.normSq (M3.mulVec F (shiftBy c0.vects (pos0 j - pos0 i) t))) :
    ddvector c0 ⟨M3.mul c0.vects F.transpose, c0.px, c0.py, c0.pz⟩ pos0 (fun k => M3.mulVec F (pos0 k)) i j
      = M3.mulVec F (c0.dv (pos0 i) (pos0 j)) - c0.dv (pos0 i) (pos0 j) := by
  unfold ddvector Cell.dv
  simp only
  rw [dv_homogeneous F c0.vects c0.px c0.py c0.pz (pos0 i) (pos0 j) s hs hmin0 hmin1]

/-- The whole array `DifferentialDisplacement.ddvectors` (atoms ascending, neighbours in
    list order): if no pair of the neighbour list flips its image, entry `(i, j)` is `u_j - u_i`. -/
theorem ddvectors_are_differences (c : Cell K) (pos0 u : Nat → V3 K) (nlist : List (List Nat))
    (hst : ∀ i nbrs, nlist[i]? = some nbrs → ∀ j ∈ nbrs,
      c.dv (pos0 i + u i) (pos0 j + u j) = c.dv (pos0 i) (pos0 j) + (u j - u i)) :
    ddvectors c c pos0 (fun k => pos0 k + u k) nlist
      = (nlist.zipIdx).flatMap fun (e : List Nat × Nat) => e.1.map fun j => u j - u e.2 := by
  unfold ddvectors
  rw [List.flatMap_def, List.flatMap_def]
  congr 1
  apply List.map_congr_left
  intro e he
  have hi := List.mem_zipIdx_iff_getElem?.mp he
  apply List.map_congr_left
  intro j hj
  exact dd_of_stable c c pos0 _ e.2 j _ (hst e.2 e.1 hi j hj)

/-- the stored array has one vector per listed pair (atoms without neighbours contribute none). -/
theorem ddvectors_length (c0 c1 : Cell K) (pos0 pos1 : Nat → V3 K) (nlist : List (List Nat)) :
    (ddvectors c0 c1 pos0 pos1 nlist).length = (nlist.map List.length).sum := by
  unfold ddvectors
  rw [List.length_flatMap]
  simp only [List.length_map]
  conv_rhs => rw [← List.zipIdx_map_fst 0 nlist, List.map_map]
  rfl

/-- an atom without neighbours has slip vector zero and contributes no differential-displacement vector; with
    exactly one neighbour the slip vector is minus that pair's differential displacement, and the pair's vector
    is stored (the shape special case of the implementation). -/
theorem single_and_no_neighbour (c : Cell K) (pos0 pos1 : Nat → V3 K) (i j : Nat) :
    slipVector c pos0 pos1 [] i = zero3 ∧
    slipVector c pos0 pos1 [j] i = zero3 - ddvector c c pos0 pos1 i j ∧
    ddvectors c c pos0 pos1 [[]] = [] ∧
    ddvectors c c pos0 pos1 [[j]] = [ddvector c c pos0 pos1 0 j] := by
  refine ⟨rfl, rfl, rfl, rfl⟩

/-- a chain of four atoms along x in the 4-periodic cell, slip plane between atoms 1 and 2 (and, through the
    boundary, between 3 and 0); the upper half `{2,3}` is displaced by `uA`. -/
def exPos0 : Nat → V3 ℚ
  | 0 => ⟨1/2, 1, 1⟩ | 1 => ⟨3/2, 1, 1⟩ | 2 => ⟨5/2, 1, 1⟩ | _ => ⟨7/2, 1, 1⟩

def exSide : Nat → Bool := fun k => decide (2 ≤ k)

def exUA : V3 ℚ := ⟨0, 1/4, -1/8⟩

def exUB : V3 ℚ := ⟨0, 0, 1/8⟩

def exSh : Nat → Shift := fun j => if j = 3 then (-1, 0, 0) else (0, 0, 0)

/-- hypotheses of `slip_rigid_of_stable` (hence of `slip_rigid`) for atoms 0 (neighbour 3 across, through the
    boundary) and 1 (neighbour 2 across), of `slip_zero_away` for an atom whose listed neighbours are on its side;
    the conclusions evaluated. -/
example :
    (∀ i ∈ [0, 1], ∀ j ∈ (if i = 0 then [3, 1] else [0, 2]), exSh j ∈ cands true true true ∧
      ∀ t ∈ cands true true true, t = exSh j ∨
        2 * |V3.dot (twoValued exSide exUA exUB j - twoValued exSide exUA exUB i)
              (shiftBy exV (exPos0 j - exPos0 i) t - shiftBy exV (exPos0 j - exPos0 i) (exSh j))|
          < V3.normSq (shiftBy exV (exPos0 j - exPos0 i) t) - V3.normSq (shiftBy exV (exPos0 j - exPos0 i) (exSh j))) ∧
    slipVector exCell exPos0 (fun k => exPos0 k + twoValued exSide exUA exUB k) [3, 1] 0 = ⟨0, -1/4, 1/4⟩ ∧
    slipVector exCell exPos0 (fun k => exPos0 k + twoValued exSide exUA exUB k) [0, 2] 1 = ⟨0, -1/4, 1/4⟩ ∧
    slipVector exCell exPos0 (fun k => exPos0 k + twoValued exSide exUA exUB k) [1, 3] 2 = ⟨0, 1/4, -1/4⟩ ∧
    ([0].countP (fun j => exSide j != exSide 1) = 0 ∧
      slipVector exCell exPos0 (fun k => exPos0 k + twoValued exSide exUA exUB k) [0] 1 = zero3) := by
  decide +kernel

end Atomman.C17
