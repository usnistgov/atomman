/-
  C10 — helper lemmas: the near-zero clean-up of the `Box.vects` and `ElasticConstants.Cij` setters is idempotent: objects
  that were built through the setters satisfy the invariants the exact round-trip theorems assume.
-/
import Atomman.C10
import Proofs.Folds
import Proofs.Abs
import Proofs.Linear3
import Mathlib.Algebra.Order.Field.Basic
namespace Atomman.C10
variable {K : Type}

section
variable [LinearOrder K]

theorem maxK_eq (a b : K) : maxK a b = max a b := (max_def_lt a b).symm

theorem foldl_maxK_ge (l : List K) (a : K) : a ≤ l.foldl maxK a ∧ ∀ v ∈ l, v ≤ l.foldl maxK a :=
  le_foldl_ite_max l a

theorem foldl_maxK_mem (l : List K) (a : K) : l.foldl maxK a = a ∨ l.foldl maxK a ∈ l :=
  foldl_ite_max_mem l a

end

variable [Field K] [LinearOrder K] [IsStrictOrderedRing K]

theorem absK_eq (x : K) : absK x = |x| := ite_neg_eq_abs x

omit [IsStrictOrderedRing K] in
theorem zeroSmall_idem (eps mx : K) (l : List K) :
    zeroSmall eps mx (zeroSmall eps mx l) = zeroSmall eps mx l := by
  simp only [zeroSmall, List.map_map]
  apply List.map_congr_left
  intro v _
  simp only [Function.comp]
  -- an entry that is zeroed stays zero whichever branch the second pass takes
  by_cases h : eps < absK (v / mx) <;> simp [h]

theorem maxAbs_zeroSmall (eps : K) (heps : eps < 1) (l : List K) :
    ((zeroSmall eps ((l.map absK).foldl maxK 0) l).map absK).foldl maxK 0 = (l.map absK).foldl maxK 0 := by
  set mx := (l.map absK).foldl maxK 0 with hmx
  obtain ⟨g1, g2⟩ := foldl_maxK_ge (l.map absK) 0
  rw [← hmx] at g1 g2
  apply foldl_ite_max_eq_of _ _ _ g1
  · -- entries only shrink
    intro w hw
    obtain ⟨c, hc, rfl⟩ := List.mem_map.mp hw
    simp only [zeroSmall] at hc
    obtain ⟨v, hv, rfl⟩ := List.mem_map.mp hc
    split
    · exact g2 _ (List.mem_map_of_mem hv)
    · simpa [absK_eq] using g1
  · -- the largest component itself survives the pass: `|v / mx| = 1 > eps`
    rcases foldl_maxK_mem (l.map absK) 0 with h | h
    · left; rw [hmx, h]
    · rw [← hmx] at h
      by_cases h0 : mx = 0
      · left; exact h0
      · right
        obtain ⟨v, hv, hvm⟩ := List.mem_map.mp h
        refine List.mem_map.mpr ⟨v, ?_, hvm⟩
        simp only [zeroSmall]
        refine List.mem_map.mpr ⟨v, hv, ?_⟩
        have : absK (v / mx) = 1 := by
          rw [absK_eq, abs_div, ← absK_eq v, hvm, abs_of_nonneg g1, div_self h0]
        simp [this, heps]

/-- the `max|v|` that `cleanVects` divides by. -/
def maxAbs9 (m : M3 K) : K := (m.toList.map absK).foldl maxK 0

omit [IsStrictOrderedRing K] in
theorem cleanVects_eq (eps : K) (m : M3 K) :
    (cleanVects eps m).toList = zeroSmall eps (maxAbs9 m) m.toList := by
  obtain ⟨⟨a, b, c⟩, ⟨d, e, f⟩, ⟨g, h, i⟩⟩ := m
  simp [cleanVects, maxAbs9, M3.toList, V3.toList, zeroSmall, M3.ofList?]

/-- the clean-up keeps the `max|v|` it divides by. -/
theorem maxAbs9_cleanVects (eps : K) (h1 : eps < 1) (m : M3 K) : maxAbs9 (cleanVects eps m) = maxAbs9 m := by
  unfold maxAbs9; rw [cleanVects_eq]; exact maxAbs_zeroSmall eps h1 m.toList

set_option linter.unusedVariables false in
/-- **the `vects` setter is idempotent** (`eps < 1`; the hypothesis `0 ≤ eps` is not used): a `Box`'s vectors, having gone through the setter, satisfy
    the invariant `cleanVects eps vects = vects` that the exact round-trip theorems assume. -/
theorem cleanVects_idem (eps : K) (h0 : 0 ≤ eps) (h1 : eps < 1) (m : M3 K) :
    cleanVects eps (cleanVects eps m) = cleanVects eps m := by
  apply M3.toList_inj
  rw [cleanVects_eq eps (cleanVects eps m), maxAbs9_cleanVects eps h1, cleanVects_eq eps m, zeroSmall_idem eps _]

theorem max_zeroSmall (eps : K) (heps : eps < 1) (x : K) (r : List K) (hpos : 0 < r.foldl maxK x) :
    (zeroSmall eps (r.foldl maxK x) r).foldl maxK (if eps < absK (x / r.foldl maxK x) then x else 0) = r.foldl maxK x := by
  set mx := r.foldl maxK x with hmx
  obtain ⟨g1, g2⟩ := foldl_maxK_ge r x
  rw [← hmx] at g1 g2
  have hself : (if eps < absK (mx / mx) then mx else 0) = mx := by
    simp [div_self (ne_of_gt hpos), absK_eq, heps]
  apply foldl_ite_max_eq_of
  · split
    · exact g1
    · exact le_of_lt hpos
  · intro w hw
    simp only [zeroSmall] at hw
    obtain ⟨v, hv, rfl⟩ := List.mem_map.mp hw
    split
    · exact g2 v hv
    · exact le_of_lt hpos
  · rcases foldl_maxK_mem r x with h | h
    · left; rw [← hmx] at h; rw [← h, hself]
    · right
      rw [← hmx] at h
      simp only [zeroSmall]
      exact List.mem_map.mpr ⟨mx, h, hself⟩

set_option linter.unusedVariables false in
/-- **the `Cij` setter is idempotent** (`eps < 1`; the hypothesis `0 ≤ eps` is not used): constants that went through the setter pass it unchanged —
    the invariant the exact ElasticConstants round trip assumes. -/
theorem cijSet_idem (eps atol rtol : K) (h0 : 0 ≤ eps) (h1 : eps < 1) (l c : List K)
    (h : cijSet eps atol rtol l = some c) : cijSet eps atol rtol c = some c := by
  cases l with
  | nil => simp [cijSet] at h
  | cons x r =>
    simp only [cijSet] at h
    split at h
    · cases h
    · rename_i hlen
      split at h
      · cases h
      · rename_i hpos
        simp only [not_not] at hpos
        split at h
        · rename_i hok
          simp only [Option.some.injEq] at h
          have hc : c = (if eps < absK (x / r.foldl maxK x) then x else 0) :: zeroSmall eps (r.foldl maxK x) r := by
            rw [← h]; simp [zeroSmall]
          have hmx := max_zeroSmall eps h1 x r hpos
          have hlen' : c.length = 36 := by rw [← h]; simpa [zeroSmall] using hlen
          have hidem : zeroSmall eps (r.foldl maxK x) c = c := by
            rw [← h]; exact zeroSmall_idem eps _ _
          rw [hc] at hlen' hidem ⊢
          simp only [cijSet, hlen', hmx, hpos, hidem, ne_eq, not_true_eq_false, if_false]
          rw [← hc, ← h]
          simp only [hok, if_true]
        · cases h


omit [IsStrictOrderedRing K] in
theorem cijSet_length (eps atol rtol : K) (l c : List K) (h : cijSet eps atol rtol l = some c) : c.length = 36 := by
  cases l with
  | nil => simp [cijSet] at h
  | cons x r =>
    simp only [cijSet] at h
    split at h
    · cases h
    · rename_i hlen
      split at h
      · cases h
      · split at h
        · simp only [Option.some.injEq] at h
          rw [← h]; simpa [zeroSmall] using hlen
        · cases h
end Atomman.C10
