/-
  C08 — "every carried per-atom property with its shape": the table reader assigns every listed property from its own
  column (`assignCols_spec`) under exactly the shape of its `prop_info` entry (degenerate shapes `(1,)`, `(1,1)`, `(1,3)`,
  `(3,1)`, … included: nothing is squeezed), with the values converted by the unit of the entry (`Holds`).
-/
import Atomman.C08
import Proofs.Lists
import Mathlib.Data.List.Forall2
import Mathlib.Algebra.Order.Field.Rat
namespace Atomman.C08
open Atomman Atomman.C07
set_option linter.unusedSimpArgs false

theorem propOfColumn_ok (box : Box Rat) (c : PCol) (cells : List (List Val)) (p : LProp)
    (h : propOfColumn box c cells = .ok p) :
    shapeProd c.shape = c.names.length ∧ ∃ vals, cells.mapM (convertCells box c.unit) = .ok vals ∧
      p.name = c.prop ∧ p.shape = c.shape ∧ p.vals = vals := by
  unfold propOfColumn at h
  split at h
  · simp [exceptSimp] at h
  · rename_i h1
    split at h
    · simp [exceptSimp] at h
    · split at h
      · simp [exceptSimp] at h
      · obtain ⟨vals, hm, h⟩ := bind_ok h
        have hp : p = _ := (Except.ok.inj h).symm
        subst hp
        exact ⟨by simpa using h1, vals, hm, rfl, rfl, rfl⟩

/-- the value array built for one `prop_info` entry carries that entry's name and shape — for every shape, the
    one-column shapes `()`, `(1,)`, `(1,1)`, `(1,1,1)` included —, `∏ shape` is the number of its columns, and it has one
    row per table row. -/
theorem propOfColumn_shape (box : Box Rat) (c : PCol) (cells : List (List Val)) (p : LProp)
    (h : propOfColumn box c cells = .ok p) :
    p.name = c.prop ∧ p.shape = c.shape ∧ shapeProd c.shape = c.names.length ∧ p.vals.length = cells.length := by
  obtain ⟨h1, vals, hm, hn, hs, rfl⟩ := propOfColumn_ok box c cells p h
  exact ⟨hn, hs, h1, (mapM_except_ok_iff.mp hm).length_eq.symm⟩

theorem find_setProp_self (p : LProp) (l : List LProp) : (setProp p l).find? (·.name = p.name) = some p := by
  induction l with
  | nil => simp [setProp]
  | cons q qs ih =>
    unfold setProp
    by_cases h : q.name = p.name
    · simp [h]
    · simp [h, ih]

theorem find_setProp_other (p : LProp) (l : List LProp) (name : String) (h : p.name ≠ name) :
    (setProp p l).find? (·.name = name) = l.find? (·.name = name) := by
  induction l with
  | nil => simp [setProp, h]
  | cons q qs ih =>
    unfold setProp
    by_cases hq : q.name = p.name
    · have : q.name ≠ name := by rw [hq]; exact h
      simp [hq, h, this]
    · by_cases hn : q.name = name
      · rw [if_neg hq]; simp [hn]
      · rw [if_neg hq]; simp [hn, ih]

theorem prop?_name (s : Loaded) (name : String) (p : LProp) (h : s.prop? name = some p) : p.name = name := by
  unfold Loaded.prop? at h
  have := List.find?_some h
  simpa using this

theorem prop_setProp (s : Loaded) (q : LProp) : ({ s with props := setProp q s.props }).prop? q.name = some q :=
  find_setProp_self q s.props

theorem assignProp_ok (s s' : Loaded) (p : LProp) (h : assignProp s p = .ok s') :
    ∃ vals, fitRows s.natoms p.vals = .ok vals ∧
      s' = { s with props := setProp { p with vals := vals, isInt := if p.name = "pos" then false else p.isInt,
                                              isBool := if p.name = "pos" then false else p.isBool } s.props } := by
  unfold assignProp at h
  obtain ⟨vals, hf, h⟩ := bind_ok h
  split at h
  · simp [exceptSimp] at h
  · split at h
    · simp [exceptSimp] at h
    · exact ⟨vals, hf, (Except.ok.inj h).symm⟩

theorem assignProp_spec (s s' : Loaded) (p : LProp) (h : assignProp s p = .ok s') :
    (∃ q, s'.prop? p.name = some q ∧ q.shape = p.shape ∧ q.name = p.name) ∧
    (∀ name, name ≠ p.name → s'.prop? name = s.prop? name) ∧ s'.natoms = s.natoms := by
  obtain ⟨vals, _, rfl⟩ := assignProp_ok s s' p h
  exact ⟨⟨_, prop_setProp s _, rfl, rfl⟩,
    fun name hn => find_setProp_other _ s.props name fun e => hn e.symm, rfl⟩

/-- a relation between systems that is kept by every single assignment of a listed column holds across `assignCols`. -/
theorem assignCols_induct (box : Box Rat) (R : Loaded → Loaded → Prop) (hrefl : ∀ s, R s s)
    (htrans : ∀ a b c, R a b → R b c → R a c) :
    ∀ (cols : List PCol) (cells : List (List (List Val))) (s s' : Loaded),
      (∀ c ∈ cols, ∀ cl p a b, propOfColumn box c cl = .ok p → assignProp a p = .ok b → R a b) →
      assignCols box cols cells s = .ok s' → R s s'
  | [], _, s, s', _, h => by simp [assignCols, exceptSimp] at h; rw [h]; exact hrefl _
  | c :: cs, [], s, s', _, h => by simp [assignCols, exceptSimp] at h; rw [h]; exact hrefl _
  | c :: cs, cells :: rest, s, s', hstep, h => by
    rw [assignCols] at h
    have hcs := fun c' hc' => hstep c' (List.mem_cons_of_mem _ hc')
    by_cases ha : c.prop = "a_id"
    · rw [if_pos ha] at h
      exact assignCols_induct box R hrefl htrans cs rest s s' hcs h
    · rw [if_neg ha] at h
      obtain ⟨p, hp, h1⟩ := bind_ok h
      obtain ⟨s1, hs1, h2⟩ := bind_ok h1
      exact htrans _ _ _ (hstep c List.mem_cons_self cells p s s1 hp hs1)
        (assignCols_induct box R hrefl htrans cs rest s1 s' hcs h2)

theorem assignCols_frame (box : Box Rat) (cols : List PCol) (cells : List (List (List Val))) (s s' : Loaded)
    (h : assignCols box cols cells s = .ok s') :
    s'.natoms = s.natoms ∧ s'.pbc = s.pbc ∧ s'.box = s.box ∧ s'.symbols = s.symbols ∧ s'.masses = s.masses :=
  assignCols_induct box (fun a b => b.natoms = a.natoms ∧ b.pbc = a.pbc ∧ b.box = a.box ∧ b.symbols = a.symbols ∧
      b.masses = a.masses) (fun _ => ⟨rfl, rfl, rfl, rfl, rfl⟩)
    (fun _ _ _ ⟨a1, a2, a3, a4, a5⟩ ⟨b1, b2, b3, b4, b5⟩ => ⟨b1.trans a1, b2.trans a2, b3.trans a3, b4.trans a4, b5.trans a5⟩)
    cols cells s s' (fun _ _ _ p a b _ hs => by obtain ⟨_, _, rfl⟩ := assignProp_ok a b p hs; exact ⟨rfl, rfl, rfl, rfl, rfl⟩) h

theorem assignCols_other (box : Box Rat) (cols : List PCol) (cells : List (List (List Val))) (s s' : Loaded)
    (h : assignCols box cols cells s = .ok s') (name : String) (hn : ∀ c ∈ cols, c.prop ≠ name) :
    s'.prop? name = s.prop? name :=
  assignCols_induct box (fun a b => b.prop? name = a.prop? name) (fun _ => rfl) (fun _ _ _ h1 h2 => h2.trans h1)
    cols cells s s' (fun c hc cl p a b hp hs => by
      obtain ⟨hpn, _⟩ := propOfColumn_shape box c cl p hp
      exact (assignProp_spec a b p hs).2.1 name (by rw [hpn]; exact fun e => hn c hc e.symm)) h

/-- where every listed property comes from (no two entries naming the same property): its own column, made a property
    by `propOfColumn` and assigned by `assignProp` to a system of the same atom count; what is assigned before and after
    does not touch it. -/
theorem assignCols_spec (box : Box Rat) : ∀ (cols : List PCol) (cellsL : List (List (List Val))) (s s' : Loaded),
    (cols.map (·.prop)).Nodup → assignCols box cols cellsL s = .ok s' →
    ∀ (j : Nat) (hj : j < cols.length) (hj' : j < cellsL.length), cols[j].prop ≠ "a_id" →
      ∃ p a b, propOfColumn box cols[j] cellsL[j] = .ok p ∧ assignProp a p = .ok b ∧ a.natoms = s.natoms ∧
        s'.prop? cols[j].prop = b.prop? cols[j].prop
  | [], _, s, s', _, _, j, hj, _, _ => by simp at hj
  | c0 :: cs, [], s, s', _, _, j, _, hj', _ => by simp at hj'
  | c0 :: cs, cells :: rest, s, s', hnd, h, j, hj, hj', hid => by
    rw [assignCols] at h
    have hnd2 : c0.prop ∉ cs.map (·.prop) ∧ (cs.map (·.prop)).Nodup := List.nodup_cons.mp hnd
    by_cases ha : c0.prop = "a_id"
    · rw [if_pos ha] at h
      cases j with
      | zero => exact absurd ha hid
      | succ j => exact assignCols_spec box cs rest s s' hnd2.2 h j (by simpa using hj) (by simpa using hj') hid
    · rw [if_neg ha] at h
      obtain ⟨p, hp, h1⟩ := bind_ok h
      obtain ⟨s1, hs1, h2⟩ := bind_ok h1
      cases j with
      | zero =>
        refine ⟨p, s, s1, hp, hs1, rfl, assignCols_other box cs rest s1 s' h2 c0.prop fun c' hc' e => ?_⟩
        exact hnd2.1 (by rw [← e]; exact List.mem_map_of_mem hc')
      | succ j =>
        obtain ⟨p', a, b, k1, k2, k3, k4⟩ :=
          assignCols_spec box cs rest s1 s' hnd2.2 h2 j (by simpa using hj) (by simpa using hj') hid
        exact ⟨p', a, b, k1, k2, k3.trans (assignProp_spec s s1 p hs1).2.2, k4⟩

theorem columnCells_length (cols : List PCol) (tbl : List (List Val)) : (columnCells cols tbl).length = cols.length := by
  simp [columnCells]

/-- ("every carried per-atom property with its shape"): after the table reader ran with a
    `prop_info` list naming each property once, every listed property (the atom id is not stored) is in the
    system with exactly the shape of its entry — never squeezed or flattened — and that shape accounts for all of
    its table columns.  Used by all three LAMMPS / table loaders (`loadTable`, `readAtoms`, `loadDumpCore`). -/
theorem tableLoad_prop_shape (s s' : Loaded) (rows : List Line) (cols : List PCol) (usecols : Bool)
    (hnd : (cols.map (·.prop)).Nodup) (h : tableLoad s rows cols usecols = .ok s') :
    ∀ c ∈ cols, c.prop ≠ "a_id" →
      ∃ q, s'.prop? c.prop = some q ∧ q.shape = c.shape ∧ shapeProd c.shape = c.names.length := by
  unfold tableLoad at h
  obtain ⟨tbl, _, h1⟩ := bind_ok h
  intro c hc hid
  obtain ⟨j, hj, rfl⟩ := List.getElem_of_mem hc
  obtain ⟨p, a, b, hp, hab, -, hs'⟩ :=
    assignCols_spec s.box cols _ s s' hnd h1 j hj (by rw [columnCells_length]; exact hj) hid
  obtain ⟨hpn, hps, hpl, -⟩ := propOfColumn_shape _ _ _ p hp
  obtain ⟨⟨q, hq1, hq2, -⟩, -, -⟩ := assignProp_spec a b p hab
  exact ⟨q, by rw [hs', ← hpn]; exact hq1, hq2.trans hps, hpl⟩

theorem fitRows_eq (n : Nat) (vals : List (List Rat)) (h : vals.length = n) : fitRows n vals = .ok vals := by
  unfold fitRows
  rw [if_pos h]
  rfl

theorem mapM_pure_map {α β : Type} (g : α → β) (l : List α) :
    l.mapM (fun a => (pure (g a) : Res β)) = .ok (l.map g) := by
  induction l with
  | nil => rfl
  | cons a as ih => rw [List.mapM_cons, ih]; rfl

theorem assignProp_vals (s s' : Loaded) (p : LProp) (h : assignProp s p = .ok s') (hl : p.vals.length = s.natoms) :
    ∃ q, s'.prop? p.name = some q ∧ q.shape = p.shape ∧ q.vals = p.vals := by
  obtain ⟨vals, hf, rfl⟩ := assignProp_ok s s' p h
  rw [fitRows_eq _ _ hl] at hf
  cases hf
  exact ⟨_, prop_setProp s _, rfl, rfl⟩

/-- the unit conversion of a loaded value: times the factor of the entry, or as it stands (`None`; a `scaled` entry is
    converted through the box and is not covered by the closed forms). -/
def unitScale : LUnit → ℚ → ℚ
  | .factor f, q => q * f
  | _, q => q

theorem convertCells_unitScale (box : Box Rat) {un : LUnit} (h : un ≠ .scaled) :
    convertCells box un = fun cells => (pure (cells.map fun v => unitScale un v.toRat) : Res _) := by
  cases un <;> first | rfl | exact absurd rfl h

theorem propOfColumn_scale {box : Box Rat} {c : PCol} {cells : List (List Val)} {p : LProp}
    (h : propOfColumn box c cells = .ok p) (hu : c.unit ≠ .scaled) :
    p.vals = cells.map (·.map fun v => unitScale c.unit v.toRat) := by
  obtain ⟨-, vals, hm, -, -, rfl⟩ := propOfColumn_ok box c cells p h
  rw [convertCells_unitScale box hu, mapM_pure_map] at hm
  exact (Except.ok.inj hm).symm

/-- the values of the array built for one `prop_info` entry: the cells as they stand (`unit = None`), or each
    times the unit factor. -/
theorem propOfColumn_vals (box : Box Rat) (c : PCol) (cells : List (List Val)) (p : LProp)
    (h : propOfColumn box c cells = .ok p) :
    (c.unit = .none → p.vals = cells.map (·.map Val.toRat)) ∧
    (∀ f, c.unit = .factor f → p.vals = cells.map (·.map fun v => v.toRat * f)) :=
  ⟨fun hu => by rw [propOfColumn_scale h (by rw [hu]; nofun), hu]; rfl,
   fun f hu => by rw [propOfColumn_scale h (by rw [hu]; nofun), hu]; rfl⟩

/-- the closed form of one loaded property: `c` is in `s'` under the shape of its entry and holds, atom by atom, the values
    `F r` of the rows `r` of `R`, converted by the unit of the entry.  The property theorems spell this out as two implications
    (`unit = None`, `unit = factor v`): `Holds.unfold`. -/
def Holds (s' : Loaded) (c : PCol) {ρ : Type} (R : List ρ) (F : ρ → List ℚ) : Prop :=
  ∃ q, s'.prop? c.prop = some q ∧ q.shape = c.shape ∧
    (c.unit ≠ .scaled → q.vals = R.map fun r => (F r).map (unitScale c.unit))

theorem Holds.unfold {s' : Loaded} {c : PCol} {ρ : Type} {R : List ρ} {F : ρ → List ℚ} (h : Holds s' c R F) :
    ∃ q, s'.prop? c.prop = some q ∧ q.shape = c.shape ∧ (c.unit = .none → q.vals = R.map F) ∧
      (∀ v, c.unit = .factor v → q.vals = R.map fun r => (F r).map (· * v)) := by
  obtain ⟨q, h1, h2, h3⟩ := h
  refine ⟨q, h1, h2, fun hu => ?_, fun v hu => ?_⟩
  · rw [h3 (by rw [hu]; nofun), hu]
    exact List.map_congr_left fun r _ => List.map_id _
  · rw [h3 (by rw [hu]; nofun), hu]
    rfl

/-- every listed property holds, per atom, the cells of its own column, converted. -/
theorem assignCols_vals (box : Box Rat) (cols : List PCol) (cellsL : List (List (List Val))) (s s' : Loaded)
    (hnd : (cols.map (·.prop)).Nodup) (h : assignCols box cols cellsL s = .ok s')
    (j : Nat) (hj : j < cols.length) (hj' : j < cellsL.length) (hid : cols[j].prop ≠ "a_id")
    (hlen : cellsL[j].length = s.natoms) : Holds s' cols[j] cellsL[j] (·.map Val.toRat) := by
  obtain ⟨p, a, b, hp, hab, hn, hs'⟩ := assignCols_spec box cols cellsL s s' hnd h j hj hj' hid
  obtain ⟨hpn, hps, -, hpl⟩ := propOfColumn_shape _ _ _ p hp
  obtain ⟨q, hq1, hq2, hq3⟩ := assignProp_vals a b p hab (by rw [hpl, hlen, hn])
  refine ⟨q, by rw [hs', ← hpn]; exact hq1, hq2.trans hps, fun hu => ?_⟩
  rw [hq3, propOfColumn_scale hp hu]
  exact List.map_congr_left fun r _ => (List.map_map (f := Val.toRat) (g := unitScale cols[j].unit)).symm

end Atomman.C08
