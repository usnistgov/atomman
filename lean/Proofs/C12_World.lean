/-
  The object model of `Atomman/C12.lean` (`World`: the caller's argument objects, one coordinate array, the solved object)
  under in-place edits: after any history of edits a read is the field of the problem as solved, at the array's current
  contents.
-/
import Proofs.C12_Units

namespace Atomman.C12
set_option linter.unusedSectionVars false

section objthm
variable {F : Type} [Field F] [CharZero F]

/-- only position edits count: the array after a history of edits. -/
def finalPos (l : List (Vec F)) (h : List (Edit F)) : List (Vec F) := h.foldl editPos l

theorem edit_obj (w : World F) (e : Edit F) : (w.edit e).obj = w.obj := rfl

theorem history_obj (h : List (Edit F)) : ∀ w : World F, (h.foldl World.edit w).obj = w.obj := by
  induction h with
  | nil => intro w; rfl
  | cons e t ih => intro w; simp only [List.foldl_cons, ih, edit_obj]

theorem history_pos (h : List (Edit F)) : ∀ w : World F, (h.foldl World.edit w).pos = finalPos w.pos h := by
  induction h with
  | nil => intro w; rfl
  | cons e t ih => intro w; simp only [List.foldl_cons, ih, finalPos]; rfl

/-- **no hidden state, no aliasing**: after ANY history of in-place edits of the caller's argument objects and of the
    coordinate array, every method returns the field of the problem as it was solved, at the array's current
    contents — what a freshly solved object gives for a fresh copy of the array. -/
theorem history_read (pi I : F) (w : World F) (h : List (Edit F)) (logs : List (Fin 6 → F)) :
    (h.foldl World.edit w).etas = (finalPos w.pos h).map (fun x a => eta w.obj.s (w.obj.μ a) x)
    ∧ (h.foldl World.edit w).strains pi I = (finalPos w.pos h).map (strainAt pi I w.obj.s w.obj.μ w.obj.k)
    ∧ (h.foldl World.edit w).stresses pi I = (finalPos w.pos h).map (stressAt pi I w.obj.s w.obj.μ w.obj.k)
    ∧ (h.foldl World.edit w).disps pi I logs = logs.map (dispAt pi I w.obj.s w.obj.μ w.obj.k) := by
  simp only [World.etas, World.strains, World.stresses, World.disps, history_obj, history_pos, and_self]

/-- editing the arguments alone changes nothing that can be read. -/
theorem arg_edits_invisible (pi I : F) (w : World F) (h : List (Edit F))
    (harg : ∀ e ∈ h, ∀ l, editPos l e = l) :
    (h.foldl World.edit w).strains pi I = w.strains pi I ∧ (h.foldl World.edit w).stresses pi I = w.stresses pi I
    ∧ (h.foldl World.edit w).etas = w.etas := by
  have hp : ∀ (h : List (Edit F)), (∀ e ∈ h, ∀ l, editPos l e = l) → ∀ l, finalPos l h = l := by
    intro h
    induction h with
    | nil => intro _ l; rfl
    | cons e t ih =>
      intro hh l
      simp only [finalPos, List.foldl_cons]
      rw [hh e (List.mem_cons_self ..)]
      exact ih (fun e' he' => hh e' (List.mem_cons_of_mem _ he')) l
  obtain ⟨h1, h2, h3, _⟩ := history_read pi I w h []
  rw [h1, h2, h3, hp h harg]
  exact ⟨rfl, rfl, rfl⟩

set_option linter.unusedVariables false in
/-- `pos *= t` on the array between two calls: strain and stress are divided by `t` (the 1/r law as the in-place
    sequence sees it).  (`ht`, `hx` are not used.) -/
theorem scale_edit_read (pi I : F) (w : World F) (t : F) (ht : t ≠ 0)
    (hx : ∀ x ∈ w.pos, ∀ a, eta w.obj.s (w.obj.μ a) x ≠ 0) :
    (w.edit (.posScale t)).strains pi I = (w.strains pi I).map (fun M i j => M i j / t)
    ∧ (w.edit (.posScale t)).stresses pi I = (w.stresses pi I).map (fun M i j => M i j / t) := by
  simp only [World.strains, World.stresses, World.edit, editPos, List.map_map]
  constructor <;> apply List.map_congr_left <;> intro x _ <;> funext i j
  · exact strainAt_smul pi I w.obj.s w.obj.μ w.obj.k x t i j
  · exact stressAt_smul pi I w.obj.s w.obj.μ w.obj.k x t i j

end objthm

example : finalPos (F := ℚ) [fun _ => 1] [.argB (fun _ => 5), .posScale 2, .posCol 0 1]
    = [fun c => if c = 0 then 2 * 1 + 1 else 2 * 1] := by
  simp [finalPos, editPos]

end Atomman.C12
