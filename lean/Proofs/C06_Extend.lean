/-
  C06 — `Atoms.extend`: the two loop bodies (`extZero`, `extCopy`; `extendWith_eq`), the two loops (`zeroLoop_spec`,
  `copyLoop_frame`, `copyLoop_spec`), and `extendWith_spec`: frame, invariant and, column by
  column, what the new object holds, in one walk; the row algebra of the result.
-/
import Proofs.C06_Write

namespace Atomman.C06

theorem Made.extend {κ κ1 κ2 : Nat → String} {s s1 s2 : State} {o : Nat} (hext1 : Ext κ s κ1 s1)
    (hsys1 : s1.syss = s.syss) (ho : o = s.objs.length) (hlen1 : s1.objs.length = s.objs.length + 1)
    (hat1 : HasAP (s1.obj o)) (hinv2 : InvK κ2 s2) (hext2 : Ext κ1 s1 κ2 s2)
    (hlen2 : s2.objs.length = s1.objs.length) (hsys2 : s2.syss = s1.syss) : Made κ s (.ok o) s2 := by
  refine ⟨κ2, hinv2, hext1.trans hext2, by rw [hsys2, hsys1], ?_, ?_⟩
  · intro e he; cases he
  · intro o' ho'
    obtain rfl : o' = o := (Except.ok.inj ho').symm
    exact ⟨ho, by rw [hlen2, hlen1], hat1.persists hext2.le o'⟩

/-- the selection `[self.natoms:]` of the copy loop. -/
def tailSel (total n1 : Nat) : Sel :=
  { pos := sliceSel total (some (n1 : Int)) none 1, view := true, scalar := false }

/-- "Create empty values for atoms.props not in newatoms": one turn of the first loop of `Atoms.extend` (`nw` the
    object under construction, `total` its number of atoms, `p` a property of the donor). -/
def extZero (nw total : Nat) (p : PropRef) : M Unit := do
  let s1 ← getS
  if ((s1.obj nw).find p.key).isSome then pure () else
  if p.arr.idx = [] then fail .index else
  let tr := arrTrail s1 p.arr
  let dt := arrDt s1 p.arr
  viewSet nw p.key (.lit ⟨dt, total :: tr, List.replicate (total * prod tr) (zeroCell dt)⟩)

/-- "Copy values to the extra atoms in newatoms": one turn of the second loop (`p` a property of the new object, `sel`
    the rows of the extra atoms, `n` their number). -/
def extCopy (o donor n : Nat) (sel : Sel) (p : PropRef) : M Unit := do
  let s3 ← getS
  match (s3.obj donor).find p.key with
  | some da => assign p.arr sel (arrVal s3 da)
  | none =>
    match (s3.obj o).find p.key with
    | none => fail .key
    | some sa =>
      if sa.idx = [] then fail .index else
      let tr := arrTrail s3 sa
      let dt := arrDt s3 sa
      assign p.arr sel ⟨dt, n :: tr, List.replicate (n * prod tr) (zeroCell dt)⟩

/-- `Atoms.extend` in terms of the two loop bodies `extZero` and `extCopy`. -/
theorem extendWith_eq (o donor : Nat) :
    extendWith o donor = atomic (do
      let s ← getS
      let nw ← getItem o (.list ((List.range (s.obj o).natoms).map (fun (i : Nat) => (i : Int)) ++
        List.replicate (s.obj donor).natoms (0 : Int)))
      forEach (s.obj donor).props (extZero nw ((s.obj o).natoms + (s.obj donor).natoms))
      let s2 ← getS
      forEach (s2.obj nw).props (extCopy o donor (s.obj donor).natoms
        (tailSel ((s.obj o).natoms + (s.obj donor).natoms) (s.obj o).natoms))
      pure nw) := rfl

/-- one turn of "Create empty values", walked once: the key is there and nothing happens, the donor's array is empty
    and the turn raises, or it is ONE `view[key] = zeros` of a key the object lacks. -/
theorem post_extZero (nw total : Nat) (p : PropRef) (st : State) (Q : Except Err Unit → State → Prop)
    (hskip : Q (.ok ()) st) (herr : Q (.error .index) st)
    (hset : (st.obj nw).find p.key = none → Post (viewSet nw p.key (.lit ⟨arrDt st p.arr, total :: arrTrail st p.arr,
      List.replicate (total * prod (arrTrail st p.arr)) (zeroCell (arrDt st p.arr))⟩)) st Q) :
    Post (extZero nw total p) st Q := by
  unfold extZero
  rw [post_bind_getS, post_ite]
  refine ⟨fun _ => hskip, fun hnone => ?_⟩
  rw [post_ite]
  exact ⟨fun _ => herr, fun _ => hset (by simpa using hnone)⟩

theorem inv_extZero {g : Nat → String} {st : State} (hg : InvK g st) (nw total : Nat) (p : PropRef) :
    Post (extZero nw total p) st (fun _ st' => Kept g st st') :=
  post_extZero nw total p st _ (Kept.refl hg) (Kept.refl hg)
    fun _ => Post.mono (inv_viewSet hg nw p.key (.lit _) (zerosOf_ok _ _)) (fun _ _ hq => hq.1)

theorem extZero_frame (nw total : Nat) (p : PropRef) {n m : Nat} {s st : State} (hp : Priv n m nw s st) :
    Post (extZero nw total p) st (fun _ st' => Priv n m nw s st') :=
  post_extZero nw total p st _ hp hp fun _ => Post.mono (viewSet_lit_frame nw p.key _ hp) (fun _ _ hq => hq.1)

def zeroRows (total : Nat) (dt : DType) (tr : List Nat) : List Row :=
  List.replicate total (List.replicate (prod tr) (zeroCell dt))

/-- column `z` of the object under construction is the all-zero column made for the donor-only
    property `q`. -/
structure ZeroCol (s : State) (n total : Nat) (st : State) (q z : PropRef) : Prop where
  key : z.key = q.key
  rows : arrRows st z.arr = zeroRows total (arrDt s q.arr) (arrTrail s q.arr)
  dt : arrDt st z.arr = arrDt s q.arr
  trail : arrTrail st z.arr = arrTrail s q.arr
  fresh : n ≤ z.arr.buf
  valid : z.arr.buf < st.heap.length

theorem ZeroCol.mono {s : State} {n total : Nat} {st st' : State} {q z : PropRef} (h : ZeroCol s n total st q z)
    (hext : HeapExt st st') : ZeroCol s n total st' q z := by
  obtain ⟨r1, r2, r3⟩ := hext.rows z.arr h.valid
  exact ⟨h.key, r1.trans h.rows, r2.trans h.dt, r3.trans h.trail, h.fresh, Nat.lt_of_lt_of_le h.valid hext.len⟩

/-- state of the "create empty values" loop of `extend`. -/
structure ZLoop (s : State) (n total : Nat) (s1 : State) (nw donor : Nat) (st : State) : Prop where
  heap : HeapExt s1 st
  objs : ∀ o', o' ≠ nw → st.obj o' = s1.obj o'
  natoms : (st.obj nw).natoms = (s1.obj nw).natoms
  objsLen : st.objs.length = s1.objs.length
  syss : st.syss = s1.syss
  cols : ∃ Z, (st.obj nw).props = (s1.obj nw).props ++ Z ∧
    ∀ z ∈ Z, ∃ q ∈ (s.obj donor).props, (s1.obj nw).find q.key = none ∧ ZeroCol s n total st q z

theorem zeroCols_step {s : State} {n total : Nat} {s1 : State} {nw donor : Nat} (hn : n ≤ s1.heap.length)
    (hnw : nw < s1.objs.length) (htot : (s1.obj nw).natoms = total) (q : PropRef) (hq : q ∈ (s.obj donor).props)
    (hqb : ∀ st, HeapExt s1 st → arrDt st q.arr = arrDt s q.arr ∧ arrTrail st q.arr = arrTrail s q.arr)
    (st : State) (hl : ZLoop s n total s1 nw donor st) :
    Post (extZero nw total q) st (fun _ st' => ZLoop s n total s1 nw donor st') := by
  refine post_extZero nw total q st _ hl hl fun hnone => ?_
  obtain ⟨hdt, htr⟩ := hqb st hl.heap
  rw [hdt, htr]
  have hnat : (st.obj nw).natoms = total := by rw [hl.natoms, htot]
  apply Post.mono (viewSet_new_refines nw q.key _ st hnone)
  intro r st' ⟨herr, hok⟩
  cases r with
  | error e => rw [herr e rfl]; exact hl
  | ok u =>
  obtain ⟨lv, t, hres, hshape, hst'⟩ := hok rfl
  have hnw' : nw < st.objs.length := by rw [hl.objsLen]; exact hnw
  have hreads := viewSet_new_reads st nw q.key lv t hnw' hnone
  simp only [] at hreads
  rw [← hst'] at hreads
  obtain ⟨_, hrows, hprops, hothers, hext, hsys⟩ := hreads
  -- the broadcast literal is all zeros of the donor's dtype and trailing shape
  rcases hres with ⟨lv', t', hlv, hshape', hok', hmem, hdt', ht'⟩ | ⟨a, hc, _, _⟩
  · injection hlv with hlv; subst hlv
    have htt : t = t' := by rw [hshape] at hshape'; injection hshape' with _ h2
    subst htt
    simp only [srcVal] at hmem hdt' ht' hok'
    simp only [List.tail_cons] at ht'
    have hvok : ValOK ⟨arrDt s q.arr, total :: arrTrail s q.arr,
        List.replicate (total * prod (arrTrail s q.arr)) (zeroCell (arrDt s q.arr))⟩ := zerosOf_ok _ _
    have hlvok := hok' hvok
    have hlen : lv.data.length = (st.obj nw).natoms * prod t := by rw [hlvok.1, hshape]; rfl
    have hall : ∀ c ∈ lv.data, c = zeroCell (arrDt s q.arr) := by
      intro c hc
      have := hmem c hc
      exact (List.mem_replicate.mp this).2
    have hrows' := rowsOf_replicate (st.obj nw).natoms (prod t) _ lv.data hlen hall
    rw [hrows'] at hrows
    have hcol : ZeroCol s n total st' q ⟨q.key, ⟨st.heap.length, List.range (st.obj nw).natoms⟩⟩ := by
      refine ⟨rfl, ?_, ?_, ?_, Nat.le_trans hn hl.heap.len, ?_⟩
      · rw [hrows, ht', hnat]; rfl
      · rw [hst']; simp [arrDt, State.buf, addedState, hdt']
      · rw [hst']; simp [arrTrail, State.buf, addedState, ht']
      · rw [hst']; simp [addedState]
    obtain ⟨Z, hZ, hZc⟩ := hl.cols
    refine ⟨hl.heap.trans hext, ?_, ?_, ?_, hsys.trans hl.syss, ?_⟩
    · intro o' hne; rw [hothers o' hne]; exact hl.objs o' hne
    · rw [hst']; rw [obj_added]; simp [hnw', hl.natoms]
      show (st.obj nw).natoms = _
      exact hl.natoms
    · rw [hst']; simp [addedState]; exact hl.objsLen
    · refine ⟨Z ++ [⟨q.key, ⟨st.heap.length, List.range (st.obj nw).natoms⟩⟩], ?_, ?_⟩
      · rw [hprops, hZ, List.append_assoc]
      · intro z hz
        simp only [List.mem_append, List.mem_singleton] at hz
        rcases hz with hz | rfl
        · obtain ⟨q', hq', hf', hc'⟩ := hZc z hz
          exact ⟨q', hq', hf', hc'.mono hext⟩
        · refine ⟨q, hq, ?_, hcol⟩
          -- the key was absent already in s1 (props only grew)
          rw [find_none_iff] at hnone ⊢
          intro p hp
          exact hnone p (by rw [hZ]; simp [hp])
  · cases hc

/-- the value `extend` writes into the appended rows of a column named `p.key`: the donor's column of
    that name, or zeros (dtype and trailing shape of self's column) when the donor has none. -/
def ExtSrc (s2 : State) (o donor n2 : Nat) (p : PropRef) (v : Val) : Prop :=
  (∃ da, (s2.obj donor).find p.key = some da ∧ v = arrVal s2 da) ∨
  ((s2.obj donor).find p.key = none ∧ ∃ sa, (s2.obj o).find p.key = some sa ∧ sa.idx ≠ [] ∧
    v = ⟨arrDt s2 sa, n2 :: arrTrail s2 sa, List.replicate (n2 * prod (arrTrail s2 sa)) (zeroCell (arrDt s2 sa))⟩)

/-- one turn of "Copy values to the extra atoms in newatoms": it raises and changes nothing, or it is ONE assignment of a
    value described by `ExtSrc`. -/
theorem extCopy_cases (o donor n : Nat) (sel : Sel) (p : PropRef) (st : State) :
    (∃ e, extCopy o donor n sel p st = (.error e, st)) ∨
    ∃ v, ExtSrc st o donor n p v ∧ extCopy o donor n sel p st = assign p.arr sel v st := by
  unfold extCopy
  simp only [bind, M.bind, getS]
  cases hfd : (st.obj donor).find p.key with
  | some da => exact Or.inr ⟨_, Or.inl ⟨da, hfd, rfl⟩, rfl⟩
  | none =>
    simp only []
    cases hfs : (st.obj o).find p.key with
    | none => exact Or.inl ⟨.key, rfl⟩
    | some sa =>
      simp only []
      by_cases hne : sa.idx = []
      · rw [if_pos hne]; exact Or.inl ⟨.index, rfl⟩
      · rw [if_neg hne]; exact Or.inr ⟨_, Or.inr ⟨hfd, sa, hfs, hne, rfl⟩, rfl⟩

theorem extCopy_frame (o donor n : Nat) (sel : Sel) (p : PropRef) (st : State) (k m : Nat) (hp : k ≤ p.arr.buf) :
    Post (extCopy o donor n sel p) st (fun _ st' => FrameOK k m st st' ∧ st'.objs = st.objs ∧
      st'.heap.length = st.heap.length) := by
  rcases extCopy_cases o donor n sel p st with ⟨e, he⟩ | ⟨v, _, he⟩
  · exact Post.of_eq _ _ he ⟨FrameOK.refl k m st, rfl, rfl⟩
  · exact Post.of_run he (assign_frame p.arr sel v st k m hp)

/-- **what column `p'` of `atoms.extend(other)` holds.**  Its dtype `dt`, trailing shape `tr` and base rows
    come from self's column of that name cut by the index list `[0..n-1, 0, …, 0]`, or — for a property
    only the donor has — are zeros of the donor's dtype/shape; then the rows `[self.natoms:]` are
    overwritten (`writeRows`) with the donor's column of that name (or zeros of self's dtype/shape when
    the donor has none), broadcast to the selection and cast to `dt`. -/
structure ExtColRes (s : State) (o donor : Nat) (sel sel2 : Sel) (total n2 : Nat) (s' : State) (p' : PropRef) : Prop where
  ex : ∃ (dt : DType) (tr : List Nat) (baseRows : List Row) (v : Val) (newRows : List Row),
    ((∃ p ∈ (s.obj o).props, p'.key = p.key ∧ dt = arrDt s p.arr ∧ tr = arrTrail s p.arr ∧
        baseRows = sel.pos.map (fun i => (arrRows s p.arr)[i]?.getD [])) ∨
     (∃ q ∈ (s.obj donor).props, p'.key = q.key ∧ (s.obj o).find q.key = none ∧ dt = arrDt s q.arr ∧
        tr = arrTrail s q.arr ∧ baseRows = zeroRows total dt tr)) ∧
    ExtSrc s o donor n2 p' v ∧
    (∃ flat cells, bcast v (sel2.count :: tr) = some flat ∧ flat.mapM (castCell dt) = some cells ∧
      newRows = rowsOf sel2.count (prod tr) cells) ∧
    arrDt s' p'.arr = dt ∧ arrTrail s' p'.arr = tr ∧
    arrRows s' p'.arr = writeRows baseRows (sel2.pos.zip newRows)

theorem ExtSrc.to_base {s s2 : State} {o donor n2 : Nat} {p : PropRef} {v : Val}
    (h : ExtSrc s2 o donor n2 p v) (hobj : ∀ x, x = o ∨ x = donor → s2.obj x = s.obj x)
    (hbuf : ∀ x, x = o ∨ x = donor → ∀ q ∈ (s.obj x).props, s2.buf q.arr.buf = s.buf q.arr.buf) :
    ExtSrc s o donor n2 p v := by
  rcases h with ⟨da, hf, hv⟩ | ⟨hf, sa, hfs, hne, hv⟩
  · left
    rw [hobj donor (Or.inr rfl)] at hf
    obtain ⟨q, hq, _, hqa⟩ := find_mem _ _ _ hf
    refine ⟨da, hf, ?_⟩
    rw [hv]; exact arrVal_congr s s2 da (by rw [← hqa]; exact hbuf donor (Or.inr rfl) q hq)
  · right
    rw [hobj donor (Or.inr rfl)] at hf
    rw [hobj o (Or.inl rfl)] at hfs
    obtain ⟨q, hq, _, hqa⟩ := find_mem _ _ _ hfs
    have hb : s2.buf sa.buf = s.buf sa.buf := by rw [← hqa]; exact hbuf o (Or.inl rfl) q hq
    refine ⟨hf, sa, hfs, hne, ?_⟩
    rw [hv]; simp [arrDt, arrTrail, hb]

theorem resolve_list_len (n : Nat) (l : List Int) (sel : Sel) (h : resolve n (.list l) = .ok sel)
    (hoob : sel.oob = false) : sel.pos.length = l.length := by
  simp only [resolve] at h
  injection h with h
  subst h
  simpa using hoob

/-- the first loop of `extend` ("Create empty values"), run on the object `nw` that `atoms[...]` has just made in `s1`:
    the invariant, the zero columns it appends, and the private region of `nw`. -/
theorem zeroLoop_spec {κ1 : Nat → String} {s s1 : State} {nw donor total : Nat} (hinv1 : InvK κ1 s1)
    (hnw1 : nw < s1.objs.length) (hnat1 : (s1.obj nw).natoms = total)
    (hdold : ∀ q ∈ (s.obj donor).props, q.arr.buf < s.heap.length)
    (hpriv : Priv s.heap.length s.objs.length nw s s1) :
    Post (forEach (s.obj donor).props (extZero nw total)) s1 (fun _ st => Kept κ1 s1 st ∧
      ZLoop s s.heap.length total s1 nw donor st ∧ Priv s.heap.length s.objs.length nw s st) := by
  refine post_forEach _ _ _ ?_ s1 ⟨Kept.refl hinv1,
    ⟨HeapExt.refl s1, fun _ _ => rfl, rfl, rfl, rfl, [], by simp, fun z hz => by simp at hz⟩, hpriv⟩
  intro p hp st ⟨⟨g, hg, hge, hgl, hgs⟩, hz, hpr⟩
  have hB := zeroCols_step hpriv.heapLe hnw1 hnat1 p hp (fun st2 hx => by
    have hb1 := hpriv.frame.1 p.arr.buf (hdold p hp)
    have hb2 := hx.buf p.arr.buf (Nat.lt_of_lt_of_le (hdold p hp) hpriv.heapLe)
    simp [arrDt, arrTrail, hb1, hb2]) st hz
  apply Post.mono (Post.and (Post.and (inv_extZero hg nw total p) (extZero_frame nw total p hpr)) hB)
  intro r st' ⟨⟨hk', hpr'⟩, hzl⟩
  exact ⟨Kept.trans hge hgl hgs hk', hzl, hpr'⟩

/-- the second loop of `extend` ("Copy values") only assigns through arrays of the new object `nw`. -/
theorem copyLoop_frame (o donor n : Nat) (sel : Sel) {s s2 : State} {nw : Nat}
    (hp : Priv s.heap.length s.objs.length nw s s2) :
    Post (forEach (s2.obj nw).props (extCopy o donor n sel)) s2
      (fun _ st => FrameOK s.heap.length s.objs.length s st ∧ st.objs = s2.objs ∧ st.heap.length = s2.heap.length) :=
  post_forEach _ _ _
    (fun p hp' st ⟨hf, hobjs, hlen⟩ =>
      Post.mono (extCopy_frame o donor _ _ p st s.heap.length s.objs.length (hp.fresh p hp'))
        (fun _ _ hq => ⟨hf.trans hq.1, hq.2.1.trans hobjs, hq.2.2.trans hlen⟩))
    s2 ⟨hp.1, rfl, rfl⟩

/-- the second loop of `extend` ("Copy values"), for a donor that has an `atype` column (so that column is never
    zero-filled) and while operand and donor keep their arrays in buffers older than every array of the new object `nw`: the
    invariant, and column by column what was written into the appended rows (`ExtSrc`). -/
theorem copyLoop_spec {κ2 : Nat → String} {s2 : State} (hinv2 : InvK κ2 s2) (o donor nw n2 total n1 n : Nat)
    (hnat2 : (s2.obj nw).natoms = total) (hapd : HasAP (s2.obj donor))
    (hold : ∀ x, x = o ∨ x = donor → ∀ q ∈ (s2.obj x).props, q.arr.buf < n) (hfr2 : FreshObj n nw s2) :
    Post (forEach (s2.obj nw).props (extCopy o donor n2 (tailSel total n1))) s2
      (fun r st' => Writes κ2 s2 st' ∧
        (r = .ok () → AssignLoop s2 (tailSel total n1) (ExtSrc s2 o donor n2) (s2.obj nw).props st')) := by
  refine assign_loop hinv2 nw (tailSel total n1) (fun hc => by simp [tailSel] at hc) ?_ _ _ ?_ ?_
  · intro i hi
    rw [hnat2]
    exact sliceSel_lt _ _ _ _ i (by simpa [tailSel] using hi)
  · intro p v hsrc hka
    rcases hsrc with ⟨da, hfd, rfl⟩ | ⟨hfd, _⟩
    · exact Or.inr (arrVal_ge1 ((hinv2.find_ok donor p.key da hfd).atype hka))
    · have := hapd.1
      rw [← hka, hfd] at this
      cases this
  · intro done p rest hsplit st hl
    rcases extCopy_cases o donor n2 (tailSel total n1) p st with h' | ⟨v, hsrc, he⟩
    · exact Or.inl h'
    · refine Or.inr ⟨v, hsrc.to_base (fun x _ => obj_congr hl.objs x) ?_, he⟩
      intro x hx q hq
      apply hl.other
      intro d' hd' hc
      have := hfr2 d' (by rw [← hsplit]; simp [hd'])
      have := hold x hx q hq
      omega

/-- **`atoms.extend(other)`**, everything in one walk.  Whatever `donor` is: a refusal changes nothing; a returning call
    yields the next object id, in buffers of its own, and leaves everything that existed untouched.  For a donor that
    exists: the invariant, and every column of the new object described by `ExtColRes`. -/
theorem extendWith_spec {κ : Nat → String} {s : State} (h : InvK κ s) (o donor : Nat) (hap : HasAP (s.obj o))
    (ho : o < s.objs.length) :
    Post (extendWith o donor) s (OrSame s fun nw s' =>
      nw = s.objs.length ∧ Priv s.heap.length s.objs.length nw s s' ∧
      (donor < s.objs.length → HasAP (s.obj donor) → Made κ s (.ok nw) s' ∧
        ∃ sel, resolve (s.obj o).natoms (.list ((List.range (s.obj o).natoms).map (fun (i : Nat) => (i : Int)) ++
            List.replicate (s.obj donor).natoms (0 : Int))) = .ok sel ∧
          ∀ p' ∈ (s'.obj nw).props,
            ExtColRes s o donor sel (tailSel ((s.obj o).natoms + (s.obj donor).natoms) (s.obj o).natoms)
              ((s.obj o).natoms + (s.obj donor).natoms) (s.obj donor).natoms s' p')) := by
  rw [extendWith_eq]
  refine post_atomic_of_ok (fun _ => rfl) ?_
  rw [post_bind_getS]
  refine Post.bind_ok (getItem_spec h o _ hap) ?_
  intro nw s1 ⟨⟨κ1, hinv1, hext1, hsys1, _, hmk1⟩, hok1⟩
  obtain ⟨sel, hres, hgr⟩ := hok1 nw rfl
  obtain ⟨hnw, hlen1, hat1⟩ := hmk1 nw rfl
  have hnw1 : nw < s1.objs.length := by omega
  have hnat1 : (s1.obj nw).natoms = (s.obj o).natoms + (s.obj donor).natoms := by
    rw [hgr.natoms, resolve_list_len _ _ _ hres hgr.oob]; simp
  -- the arrays of operand and donor are old: dtype and trailing shape are stable under allocation
  have hdold : ∀ q ∈ (s.obj donor).props, q.arr.buf < s.heap.length := fun q hq => (h.obj_props donor q hq).valid.1
  have hoold : ∀ q ∈ (s.obj o).props, q.arr.buf < s.heap.length := fun q hq => (h.obj_props o q hq).valid.1
  refine Post.bind_ok (zeroLoop_spec hinv1 hnw1 hnat1 hdold (hgr.priv (Or.inl (resolve_list_copy _ _ _ hres)))) ?_
  intro _ s2 ⟨⟨κ2, hinv2, hext2, hlen2, hsys2⟩, hzl, hpriv2⟩
  have ⟨hf2, hfr2, hn2, hm2⟩ := hpriv2
  rw [post_bind_getS]
  have hnat2 : (s2.obj nw).natoms = (s.obj o).natoms + (s.obj donor).natoms := hzl.natoms.trans hnat1
  -- operand and donor in s2, for a donor that exists
  have hobj2 : donor < s.objs.length → ∀ x, x = o ∨ x = donor → s2.obj x = s.obj x := by
    intro hd x hx; rcases hx with rfl | rfl
    · exact hf2.2.1 _ ho
    · exact hf2.2.1 _ hd
  have hold2 : donor < s.objs.length → ∀ x, x = o ∨ x = donor → ∀ q ∈ (s2.obj x).props, q.arr.buf < s.heap.length := by
    intro hd x hx q hq
    rw [hobj2 hd x hx] at hq
    rcases hx with rfl | rfl
    · exact hoold q hq
    · exact hdold q hq
  -- loop 2, invariant and values, for a donor that exists
  have hloopV := fun (hd : donor < s.objs.length ∧ HasAP (s.obj donor)) =>
    copyLoop_spec hinv2 o donor nw (s.obj donor).natoms _ (s.obj o).natoms s.heap.length hnat2
      (by rw [hobj2 hd.1 donor (Or.inr rfl)]; exact hd.2) (hold2 hd.1) hfr2
  refine Post.bind_ok (Post.and (copyLoop_frame o donor _ _ hpriv2) (Post.imp hloopV)) ?_
  intro _ s3 ⟨⟨hf3, hobjs3, hlen3⟩, hV⟩
  rw [post_pure]
  intro nw' hnw'
  obtain rfl : nw' = nw := (Except.ok.inj hnw').symm
  have hobj3 : ∀ x, s3.obj x = s2.obj x := obj_congr hobjs3
  have hfr3 : FreshObj s.heap.length nw' s3 := by
    intro p hp; rw [hobj3] at hp; exact hfr2 p hp
  refine ⟨hnw, ⟨hf3, hfr3, by rw [hlen3]; exact hn2, hm2⟩, fun hd hapd => ?_⟩
  obtain ⟨hw3, hq3⟩ := hV ⟨hd, hapd⟩
  have hl3 := hq3 rfl
  refine ⟨Made.extend hext1 hsys1 hnw hlen1 hat1 hw3.inv (hext2.trans hw3.ext) (by rw [hw3.objs, hlen2])
    (by rw [hw3.syss, hsys2]), sel, hres, ?_⟩
  intro p' hp'
  rw [hobj3] at hp'
  obtain ⟨v, newRows, hsrc, hasg, hrows⟩ := hl3.cols p' hp'
  have hp2 := hinv2.obj_props nw' p' hp'
  have hsrc' : ExtSrc s o donor (s.obj donor).natoms p' v := by
    apply hsrc.to_base (hobj2 hd)
    intro x hx q hq
    apply hf2.1
    rcases hx with rfl | rfl
    · exact hoold q hq
    · exact hdold q hq
  have hshape3 := hl3.shape p'.arr.buf hp2.valid.1
  obtain ⟨flat, cells, hb1, hb2, hb3⟩ := hasg
  have hb1' : bcast v ((tailSel ((s.obj o).natoms + (s.obj donor).natoms) (s.obj o).natoms).count :: arrTrail s2 p'.arr)
      = some flat := by simpa [assignShape, tailSel, arrTrail] using hb1
  -- the column is described as soon as one knows where its dtype, trailing shape and rows before loop 2 come from
  have key : ∀ (dt : DType) (tr : List Nat) (baseRows : List Row),
      ((∃ p ∈ (s.obj o).props, p'.key = p.key ∧ dt = arrDt s p.arr ∧ tr = arrTrail s p.arr ∧
          baseRows = sel.pos.map (fun i => (arrRows s p.arr)[i]?.getD [])) ∨
       (∃ q ∈ (s.obj donor).props, p'.key = q.key ∧ (s.obj o).find q.key = none ∧ dt = arrDt s q.arr ∧
          tr = arrTrail s q.arr ∧ baseRows = zeroRows ((s.obj o).natoms + (s.obj donor).natoms) dt tr)) →
      arrDt s2 p'.arr = dt → arrTrail s2 p'.arr = tr → arrRows s2 p'.arr = baseRows →
      ExtColRes s o donor sel (tailSel ((s.obj o).natoms + (s.obj donor).natoms) (s.obj o).natoms)
        ((s.obj o).natoms + (s.obj donor).natoms) (s.obj donor).natoms s3 p' := by
    intro dt tr baseRows hor hdt htr hbase
    subst hdt; subst htr; subst hbase
    exact ⟨⟨_, _, _, v, newRows, hor, hsrc', ⟨flat, cells, hb1', hb2, hb3⟩, hshape3.1, hshape3.2, hrows⟩⟩
  obtain ⟨Z, hZ, hZc⟩ := hzl.cols
  rw [hZ] at hp'
  simp only [List.mem_append] at hp'
  rcases hp' with hp1 | hpz
  · -- a column of self, cut by the index list
    obtain ⟨p, hp, hrel⟩ := hgr.colsRev p' hp1
    obtain ⟨r1, r2, r3⟩ := hzl.heap.rows p'.arr (hinv1.obj_props nw' p' hp1).valid.1
    exact key _ _ _ (Or.inl ⟨p, hp, hrel.key, rfl, rfl, rfl⟩) (r2.trans hrel.dt) (r3.trans hrel.trail) (r1.trans hrel.rows)
  · -- a zero column made for a donor-only property
    obtain ⟨q, hq, hnone, hzc⟩ := hZc p' hpz
    have hnone' : (s.obj o).find q.key = none := by
      -- the operand lacks the key: the new object has exactly the operand's keys
      rw [find_none_iff] at hnone ⊢
      intro p hp hk
      obtain ⟨p1, hp1m, hrel⟩ := hgr.cols p hp
      exact hnone p1 hp1m (hrel.key.trans hk)
    exact key _ _ _ (Or.inr ⟨q, hq, hzc.key, hnone', rfl, rfl, rfl⟩) hzc.dt hzc.trail hzc.rows

theorem inv_extendWith {κ : Nat → String} {s : State} (h : InvK κ s) (o donor : Nat) (hap : HasAP (s.obj o))
    (ho : o < s.objs.length) (hd : donor < s.objs.length) (hapd : HasAP (s.obj donor)) :
    Post (extendWith o donor) s (Made κ s) := by
  apply Post.mono (extendWith_spec h o donor hap ho)
  intro r s' hq
  cases r with
  | error e => obtain rfl : s' = s := hq; exact Made.error h e
  | ok nw => exact (hq.2.2 hd hapd).1

/-- `atoms.extend(n)`: `Atoms(natoms=n)`, then `extend` by it, made as one call. -/
theorem extendInt_spec {κ : Nat → String} {s : State} (h : InvK κ s) (o : Nat) (n : Int) (hap : HasAP (s.obj o))
    (ho : o < s.objs.length) :
    Post (extendInt o n) s (fun r s' => GoodObj κ s r s' ∧
      OrSame s (fun o' s' => Priv s.heap.length s.objs.length o' s s') r s') :=
  GoodObj.seq h
    (Post.mono (Post.and (inv_mkAtoms h (some n) none none [] (fun a ha => by cases ha) (fun a ha => by cases ha)
        (fun kv hkv => by simp at hkv)) (mkAtoms_lit_frame (some n) none none [] s))
      (fun r s1 ⟨hm, hq⟩ => ⟨hm, fun d hd => by subst hd; exact ⟨hq.2.1.frame, hq.2.1.heapLe⟩⟩))
    (fun d κ1 s1 hinv1 hext1 hd hapd =>
      have ho1 : o < s1.objs.length := Nat.lt_of_lt_of_le ho hext1.le.objsLen
      Post.mono (extendWith_spec hinv1 o d (hap.persists hext1.le o) ho1)
        (fun r s2 hq => by
          cases r with
          | error e => obtain rfl : s2 = s1 := hq; exact ⟨Made.error hinv1 e, fun o' hc => by cases hc⟩
          | ok nw => exact ⟨(hq.2.2 hd hapd).1, fun o' ho' => by obtain rfl := Except.ok.inj ho'; exact hq.2.1⟩))

/-- `atoms.extend(n)` is `Atoms(natoms=n)` followed by `atoms.extend(that)`. -/
theorem extendInt_decomp (o : Nat) (n : Int) (s s' : State) (nw : Nat) (h : extendInt o n s = (.ok nw, s')) :
    ∃ d s1, mkAtoms (some n) none none [] s = (.ok d, s1) ∧ extendWith o d s1 = (.ok nw, s') := by
  simpa only [extendInt, atomic_ok_iff, bind_ok_iff] using h

theorem tailSel_pos (n1 n2 : Nat) : (tailSel (n1 + n2) n1).pos = (List.range n2).map (fun j => n1 + j) ∧
    (tailSel (n1 + n2) n1).count = n2 := by
  have hpos : (tailSel (n1 + n2) n1).pos = (List.range n2).map (fun j => n1 + j) := by
    simp only [tailSel, sliceSel]
    have h1 : (1 : Int) > 0 := by decide
    simp only [h1, if_true]
    rw [← filter_ge_range]
    apply List.filter_congr
    intro i hi
    have hi' := List.mem_range.mp hi
    have hn : ¬ ((n1 : Int) < 0) := by omega
    simp only [hn, if_false]
    have hmin : min (n1 : Int) ((n1 + n2 : Nat) : Int) = n1 := by omega
    rw [hmin]
    simp only [Int.emod_one, and_true, decide_eq_decide]
    constructor
    · intro h; omega
    · intro h; exact ⟨by omega, by omega⟩
  refine ⟨hpos, ?_⟩
  show (tailSel (n1 + n2) n1).pos.length = n2
  rw [hpos]; simp

theorem filterMap_normInt_range (n : Nat) :
    ∀ k, k ≤ n → ((List.range k).map (fun (i : Nat) => (i : Int))).filterMap (normInt n) = List.range k := by
  intro k
  induction k with
  | zero => intro _; rfl
  | succ k ih =>
    intro hk
    rw [List.range_succ, List.map_append, List.filterMap_append, ih (by omega)]
    have : normInt n (k : Int) = some k := by
      unfold normInt
      have : (0 : Int) ≤ k ∧ (k : Int) < n := by omega
      simp [this]
    simp [this]

/-- the index list `[0, …, n1-1, 0, …, 0]` of `extend` selects self's atoms followed by `n2` times atom 0. -/
theorem extend_index_sel (n1 n2 : Nat) (h0 : 0 < n1 ∨ n2 = 0) (sel : Sel)
    (h : resolve n1 (.list ((List.range n1).map (fun (i : Nat) => (i : Int)) ++ List.replicate n2 (0 : Int))) = .ok sel) :
    sel.pos = List.range n1 ++ List.replicate n2 0 := by
  simp only [resolve] at h
  injection h with h
  subst h
  simp only [List.filterMap_append, filterMap_normInt_range n1 n1 (Nat.le_refl _)]
  congr 1
  rcases h0 with h0 | h0
  · have : normInt n1 0 = some 0 := by
      unfold normInt
      simp
      omega
    induction n2 with
    | zero => rfl
    | succ k ih => simp [List.replicate_succ, this, ih]
  · subst h0; rfl

/-- a column of self in the result: self's rows followed by the new rows. -/
theorem extend_self_rows (R new : List Row) (n2 : Nat) (hn : new.length = n2) :
    writeRows ((List.range R.length ++ List.replicate n2 0).map (fun i => R[i]?.getD []))
      ((tailSel (R.length + n2) R.length).pos.zip new) = R ++ new := by
  rw [(tailSel_pos R.length n2).1, writeRows_tail _ new R.length n2 (by simp) hn]
  congr 1
  rw [List.map_append, List.take_append_of_le_length (by simp)]
  rw [List.take_of_length_le (by simp)]
  exact map_range_getD R []

/-- a donor-only column in the result: zeros for self's atoms followed by the new rows. -/
theorem extend_zero_rows (new : List Row) (n1 n2 : Nat) (dt : DType) (tr : List Nat) (hn : new.length = n2) :
    writeRows (zeroRows (n1 + n2) dt tr) ((tailSel (n1 + n2) n1).pos.zip new) = zeroRows n1 dt tr ++ new := by
  rw [(tailSel_pos n1 n2).1, writeRows_tail _ new n1 n2 (by simp [zeroRows]) hn]
  congr 1
  simp [zeroRows, List.take_replicate]

end Atomman.C06
