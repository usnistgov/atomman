/-
  C07 — the independent LAMMPS data-file reader applied to what `atom_data.dump` writes: the whole file
  (`parseData ∘ writeData`), every style, with or without velocities.
-/
import Proofs.C07_AtomLine

namespace Atomman.C07
open Atomman
set_option linter.unusedSimpArgs false

theorem styleOk_of_styleCols {tblC : List (String × List Gen.AtomStyles.Col)}
    (hkeys : ∀ e ∈ tblC, okTok (strTok e.1)) (style : String) (cols : List ColSpec)
    (h : styleCols tblC style = some cols) : StyleOk style := by
  intro x hx
  rcases styleWords_known style cols h x hx with rfl | ⟨e, he, rfl⟩
  · decide
  · exact hkeys e he

theorem atom_style_keys_ok : ∀ e ∈ Gen.AtomStyles.atomStyles, okTok (strTok e.1) := by decide +kernel

theorem styleOk_of_atomCols (style : String) (cols : List ColSpec) (h : atomCols style = some cols) : StyleOk style :=
  styleOk_of_styleCols atom_style_keys_ok style cols h

theorem readVelLine_cells (f : Fmt) (VL : Layout) (i : Int) (rest : List Cell) (hl : rest.length + 1 = VL.length) :
    readVelLine VL ((Cell.int i :: rest).map (Cell.tok f))
      = some { id := i, fields := (Cell.int i :: rest).map (Cell.val f) } := by
  unfold readVelLine
  simp only [List.map_cons, List.length_cons, List.length_map, hl, ne_eq, not_true_eq_false, if_false, Cell.tok,
    parseInt_intTok]
  have := mapM_parseNum_row f rest
  simp only [Option.bind_eq_bind, Option.bind_some, bind, pure, this, Cell.val]

theorem vel_int_units : ∀ e ∈ Gen.AtomStyles.velStyles, ∀ g ∈ e.2,
    ((ofGenCol g).prop ∈ intProps → (ofGenCol g).unit = .none) := by decide +kernel

theorem base_vel_head : ∀ e ∈ Gen.AtomStyles.velStyles, e.2 ≠ [] →
    ((e.2.map ofGenCol).head?.map (·.prop)) = some "a_id" := by decide +kernel

theorem velCols_head (style : String) (vc : List ColSpec) (h : velCols style = some vc) :
    ∃ c rest, vc = c :: rest ∧ c.prop = "a_id" := by
  have hb : ∀ e ∈ Gen.AtomStyles.velStyles, e.2 ≠ [] → ∃ c rest, e.2.map ofGenCol = c :: rest ∧ c.prop = "a_id" := by
    intro e he hne
    have := base_vel_head e he hne
    cases hm : e.2.map ofGenCol with
    | nil => rw [hm] at this; simp at this
    | cons c rest => rw [hm] at this; exact ⟨c, rest, rfl, by simpa using this⟩
  refine styleCols_induction (P := fun _ vc => ∃ c rest, vc = c :: rest ∧ c.prop = "a_id") (fun e he _ => hb e he)
    (fun e he _ => hb e he) (fun _ _ ha _ _ _ => ?_) h
  obtain ⟨c, rest, rfl, hp⟩ := ha
  exact ⟨c, _, List.cons_append, hp⟩

/-- one `Velocities` line read back: the id and every field of the row. -/
theorem vel_row (s : Sys) (u : Units) (ids : List Int) (pos : List (V3 ℚ)) (k : Nat) (f : Fmt) (hs : IntTyped s)
    (vc : List ColSpec) (VL : Layout) (hL : colsLayout vc = some VL)
    (hunit : ∀ c ∈ vc, c.prop ∈ intProps → c.unit = .none) (hhead : ∃ c rest, vc = c :: rest ∧ c.prop = "a_id")
    (cellss : List (List Cell))
    (h : List.Forall₂ (fun c cs => propCells s u ids pos c k = .ok cs) vc cellss) :
    ∃ i, ids[k]? = some i ∧
      readVelLine VL (cellss.flatten.map (Cell.tok f)) = some { id := i, fields := cellss.flatten.map (Cell.val f) } := by
  obtain ⟨hfit, _⟩ := fits_cols s u ids pos k hs vc VL hL hunit cellss h
  obtain ⟨c, rest, rfl, hp⟩ := hhead
  cases h with
  | @cons _ cs _ crest h1 h2 =>
    obtain ⟨i, hi, rfl⟩ := propCells_id s u ids pos c k (Or.inl hp) cs h1
    refine ⟨i, hi, ?_⟩
    have hl := hfit.length_eq
    simp only [List.flatten_cons, List.cons_append, List.nil_append, List.length_cons] at hl ⊢
    exact readVelLine_cells f VL i crest.flatten hl.symm

/-- every row of a written section is read back when each one is, and then no row is empty (the readers refuse an
    empty line). -/
theorem rows_read {β : Type} (f : Fmt) (rd : Line → Option β) (hnil : rd [] = none) (rows : List (List Cell))
    (P : Nat → β → Prop)
    (h : ∀ k (hk : k < rows.length), ∃ b, rd (rows[k].map (Cell.tok f)) = some b ∧ P k b) :
    ∃ r, (rowsDoc f rows).mapM rd = some r ∧ r.length = rows.length ∧ (∀ k (hk : k < r.length), P k r[k]) ∧
      ∀ row ∈ rows, row ≠ [] := by
  induction rows generalizing P with
  | nil => exact ⟨[], rfl, rfl, fun k hk => absurd hk (Nat.not_lt_zero k), fun _ hm => nomatch hm⟩
  | cons row rows ih =>
    obtain ⟨b, hb, hPb⟩ := h 0 (Nat.zero_lt_succ _)
    obtain ⟨r, hr, hlen, hP, hne⟩ := ih (fun k => P (k + 1)) fun k hk => h (k + 1) (Nat.succ_lt_succ hk)
    rw [List.getElem_cons_zero] at hb
    refine ⟨b :: r, ?_, congrArg (· + 1) hlen, ?_, ?_⟩
    · rw [rowsDoc, List.map_cons, List.mapM_cons, hb, ← rowsDoc, hr]; rfl
    · intro k hk
      cases k with
      | zero => exact hPb
      | succ k => exact hP k (Nat.lt_of_succ_lt_succ hk)
    · intro row' hm he
      rcases List.mem_cons.mp hm with rfl | hm
      · rw [he, List.map_nil, hnil] at hb; cases hb
      · exact hne _ hm he

theorem flagCells_get (flags : List (V3 Int)) (k : Nat) (hk : k < flags.length) :
    ∃ o : Option (V3 Int), ((flagCells flags)[k]?).getD [] = flagToks o ∧ o.getD ⟨0, 0, 0⟩ = flags[k] := by
  unfold flagCells
  split
  · rename_i hall
    refine ⟨none, by simp [flagToks], ?_⟩
    have := List.all_eq_true.mp hall flags[k] (List.getElem_mem hk)
    simp only [decide_eq_true_eq] at this
    obtain ⟨h1, h2, h3⟩ := this
    cases hf : flags[k] with
    | mk a b c => rw [hf] at h1 h2 h3; simp at h1 h2 h3; simp [h1, h2, h3]
  · refine ⟨some flags[k], ?_, rfl⟩
    simp [flagToks, hk]

theorem seqIds_get (n k : Nat) (hk : k < n) : (seqIds n)[k]? = some ((k : Int) + 1) := by
  simp [seqIds, hk]

theorem flatten_ne_nil_of_get {α : Type} (ll : List (List α)) (j : Nat) (l : List α) (h : ll[j]? = some l)
    (hl : l ≠ []) : ll.flatten ≠ [] := by
  intro hf
  exact hl (List.flatten_eq_nil_iff.mp hf l (List.mem_of_getElem? h))

/-- what the independent reader must find for atom `k` of a data file. -/
structure AtomOk (f : Fmt) (s : Sys) (u : Units) (w : Wrapped) (lf : Option ℚ) (cols : List ColSpec) (k : Nat)
    (a : AtomRec) : Prop where
  id : a.id = (k : Int) + 1
  type : s.atype[k]? = some a.type
  pos : ∃ p, w.pos[k]? = some p ∧ a.pos = v3map (fmtVal f) (v3map (divBy lf) p)
  image : w.flags[k]? = some a.image
  fields : ∃ cellss, List.Forall₂ (fun c cs => propCells (wrappedSys s) u (seqIds s.natoms) w.pos c k = .ok cs) cols cellss ∧
    a.fields = cellss.flatten.map (Cell.val f)

structure VelOk (f : Fmt) (s : Sys) (u : Units) (w : Wrapped) (vc : List ColSpec) (k : Nat) (v : VelRec) : Prop where
  id : v.id = (k : Int) + 1
  fields : ∃ cellss, List.Forall₂ (fun c cs => propCells (wrappedSys s) u (seqIds s.natoms) w.pos c k = .ok cs) vc cellss ∧
    v.fields = cellss.flatten.map (Cell.val f)

/-- for every system, every atom_style the writer accepts (hybrids included) and every unit
    style, the independent `read_data` reader — which knows only the LAMMPS manual's line layout of that style —
    applied to the written text returns: the header counts = the system's; the bounds = the wrapped box divided by
    the length unit, at printed precision; the `Atoms # style` hint; one record per atom, in order, with id `k+1`,
    the atom's type, the wrapped position divided by the length unit at printed precision, the image flags `wrap`
    returned (so `unwrapPos` rebuilds the original position: `data_unwrap_positions`), and every other field of the
    line = the written cell of the matching column (`layoutOf … = colsLayout cols`: the field-for-field
    correspondence of names and unit kinds); and a `Velocities` section iff the system has velocities, one record per
    atom with id `k+1`.  Hypothesis: integer LAMMPS fields are stored as integer properties (`IntTyped`). -/
theorem data_parse_write (s : Sys) (style : String) (u : Units) (f : Fmt) (text : List Char)
    (h : writeData s style u f = .ok text) (hs : IntTyped s) :
    ∃ p w lf cols L pd, dataParts s style u = .ok (p, w) ∧ w = wrap s.box s.pbc s.pos ∧ w.box.isLammpsNorm = true ∧
      lengthFactor u = .ok lf ∧ atomCols style = some cols ∧ layoutOf lammpsAtomLayout style = some L ∧
      colsLayout cols = some L ∧ text = renderLines (dataDocOf f style p) ∧
      parseData text style = some pd ∧
      pd.natoms = s.natoms ∧ pd.ntypes = s.natypes ∧
      pd.hilo = ((hiLoOf w.box).map (divBy lf)).map (fmtVal f) ∧
      pd.styleHint = (styleWords style).map strTok ∧
      pd.atoms.length = s.natoms ∧ (∀ k (hk : k < pd.atoms.length), AtomOk f s u w lf cols k pd.atoms[k]) ∧
      (((s.prop? "velocity").isSome = false ∧ pd.velocities = none) ∨
       ((s.prop? "velocity").isSome = true ∧ ∃ vc vrecs, velCols style = some vc ∧ pd.velocities = some vrecs ∧
          vrecs.length = s.natoms ∧ ∀ k (hk : k < vrecs.length), VelOk f s u w vc k vrecs[k])) := by
  obtain ⟨o, ho, h⟩ := map_ok h
  obtain ⟨⟨p, w⟩, hd, rfl⟩ := map_ok ho
  obtain ⟨hw, hnorm, lf, cols, hlf, hcols, hna, hnt, hhilo, hrows, hvel⟩ := dataParts_ok s style u p w hd
  have hsW : IntTyped (wrappedSys s) := hs
  have hnaW : (wrappedSys s).natoms = s.natoms := by
    simp only [wrappedSys, Sys.natoms]; exact (wrap_lengths _ _ _).1
  have hwfl : w.flags.length = s.natoms := by rw [hw]; exact (wrap_lengths _ _ _).2
  obtain ⟨L, hL, hcL⟩ := layoutOf_styleCols atom_tables_agree style cols hcols
  have hunit := styleCols_from_table (fun c => c.prop ∈ intProps → c.unit = .none) atom_int_units style cols hcols
  have hcore := coreCols_of_atomCols style cols hcols
  have hst := styleOk_of_atomCols style cols hcols
  obtain ⟨hrl, hrk⟩ := tableRows_spec _ _ _ _ _ _ _ hrows
  rw [hnaW] at hrl
  obtain ⟨atoms, hatoms, halen, hatomsP, hrne⟩ := rows_read f (readAtomLine L) (by simp [readAtomLine]) p.rows
    (AtomOk f s u w lf cols) (by
      intro k hk
      obtain ⟨cellss, hcells, hrow⟩ := hrk k hk
      obtain ⟨o, ho, hog⟩ := flagCells_get w.flags k (by omega)
      obtain ⟨i, t, pk, lf', hi, ht, hpk, hlf', hread⟩ :=
        atom_row (wrappedSys s) u (seqIds s.natoms) w.pos k f hsW cols L hcL hunit hcore cellss hcells o
      rw [seqIds_get _ _ (by omega)] at hi
      obtain rfl : lf' = lf := Option.some.inj (hlf'.symm.trans (lengthFactor_ok hlf))
      rw [hrow, ho]
      exact ⟨_, hread, (Option.some.inj hi).symm, ht, ⟨pk, hpk, rfl⟩, by rw [hog]; exact List.getElem?_eq_getElem _,
        cellss, hcells, rfl⟩)
  have hatomsLen : atoms.length = s.natoms := halen.trans hrl
  subst h
  rcases hvel with ⟨hv1, vc, vr, hvc, hvr, hpv⟩ | ⟨hv0, hpv⟩
  · obtain ⟨VL, hVL, hcVL⟩ := layoutOf_styleCols vel_tables_agree style vc hvc
    have hvunit := styleCols_from_table (fun c => c.prop ∈ intProps → c.unit = .none) vel_int_units style vc hvc
    have hhead := velCols_head style vc hvc
    obtain ⟨hvl, hvk⟩ := tableRows_spec _ _ _ _ _ _ _ hvr
    rw [hnaW] at hvl
    obtain ⟨vrecs, hvrecs, hvlen, hvP, hvne⟩ := rows_read f (readVelLine VL) (by simp [readVelLine]) vr
      (VelOk f s u w vc) (by
        intro k hk
        obtain ⟨cellss, hcells, hrow⟩ := hvk k hk
        obtain ⟨i, hi, hread⟩ :=
          vel_row (wrappedSys s) u (seqIds s.natoms) w.pos k f hsW vc VL hcVL hvunit hhead cellss hcells
        rw [seqIds_get _ _ (by omega)] at hi
        rw [hrow, List.getElem?_nil, Option.getD_none, List.append_nil]
        exact ⟨_, hread, (Option.some.inj hi).symm, cellss, hcells, rfl⟩)
    have hdf := readDataFile_dataDoc f style p hst (by rw [hrl, hna]) hrne
      (by intro vr' hvr'; rw [hpv] at hvr'; injection hvr' with hvr'; subst hvr'; exact ⟨by rw [hvl, hna], hvne⟩)
    refine ⟨p, w, lf, cols, L, (ParsedData.mk p.natoms p.natypes (p.hilo.map (fmtVal f))
      ((styleWords style).map strTok) atoms (some vrecs)),
      hd, hw, hnorm, hlf, hcols, hL, hcL, rfl, ?_, hna, hnt, by rw [hhilo], rfl, hatomsLen, hatomsP, ?_⟩
    · unfold parseData
      rw [hdf]
      simp only [Option.bind_eq_bind, Option.bind_some, hL, hatoms, hpv, Option.map_some, hVL, hvrecs, bind, pure]
    · right
      exact ⟨hv1, vc, vrecs, hvc, rfl, hvlen.trans hvl, hvP⟩
  · have hdf := readDataFile_dataDoc f style p hst (by rw [hrl, hna]) hrne
      (by intro vr' hvr'; rw [hpv] at hvr'; cases hvr')
    refine ⟨p, w, lf, cols, L, (ParsedData.mk p.natoms p.natypes (p.hilo.map (fmtVal f))
      ((styleWords style).map strTok) atoms none),
      hd, hw, hnorm, hlf, hcols, hL, hcL, rfl, ?_, hna, hnt, by rw [hhilo], rfl, hatomsLen, hatomsP,
      Or.inl ⟨hv0, rfl⟩⟩
    unfold parseData
    rw [hdf]
    simp only [Option.bind_eq_bind, Option.bind_some, hL, hatoms, hpv, Option.map_none, bind, pure]

end Atomman.C07
