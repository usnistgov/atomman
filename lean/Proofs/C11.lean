/-
  C11 — property theorems about the elastic-constant model.  All tables, templates, formulas and the two
  `einsum`s are the *generated* ones (`Atomman/Generated/{VoigtTables,CrystalCij,IsoPairs,InitRoute}.lean` rewritten from
  `atomman/core/ElasticConstants.py`, `AxesCheck.lean` from `atomman/tools/axes_check.py`, on every run), so every theorem
  below is re-checked against the current source.
  `K` is any linearly ordered field.  The 6x6 inverse and the square roots are parameters with hypotheses.
  Two names: where a theorem below is a one-line instance of a module lemma (`transform_comp := rot_comp`, …), the lemma
  is the same statement over any field; the modules without an order on `K` (`C11_Lemmas`, `C11_Crystal`, `C11_Reuss`,
  `C11_Compliance`, `C11_Norm`) can only use the lemma, the documents name the theorem.
-/
import Proofs.C11_Lemmas
import Proofs.C11_Crystal
import Proofs.C11_Iso
import Proofs.C11_Norm
import Proofs.C11_Reuss
import Proofs.C11_Setters
import Proofs.C11_Fixpoint
import Proofs.C11_Axes
import Proofs.C11_Init
import Proofs.C11_Compliance

namespace Atomman.C11
open Atomman.Gen
set_option linter.unusedSectionVars false

variable {K : Type} [Field K] [LinearOrder K] [IsStrictOrderedRing K]

/-- the literal table of the `Cijkl` getter is the Voigt table. -/
theorem cijkl_table_is_voigt (c : M6 K) (i j k l : Fin 3) :
    cijklGet c i j k l = c (voigt i j) (voigt k l) := cijklGet_eq c i j k l

/-- the literal table of the `Cij9` getter: entry `(p, q)` is the tensor component of the index pairs
    `11 22 33 23 13 12 32 31 21`. -/
theorem cij9_table_is_voigt (c : M6 K) (p q : Fin 9) :
    cij9Get c p q = cijklGet c (pair9 p).1 (pair9 p).2 (pair9 q).1 (pair9 q).2 := cij9Get_eq c p q

theorem minor_symm (c : M6 K) : MinorSymm (cijklGet c) := cijklGet_minor c

/-- major symmetry of `Cijkl` for a symmetric stored 6x6 (the `Cij` setter asserts it). -/
theorem major_symm (c : M6 K) (h : Symm6 c) : MajorSymm (cijklGet c) := cijklGet_major c h

example : Symm6 (m6 (ctor_C11_C12_C44 (3 : ℚ) 1 2)) := cubic312_symm

/-- `Cij -> Cijkl -> Cij` (index part of the setter) is the identity. -/
theorem cijkl_roundtrip (c : M6 K) : cijklSetRaw (cijklGet c) = c := cijklSetRaw_get c

theorem cijkl_roundtrip' (C : T4 K) (h : MinorSymm C) : cijklGet (cijklSetRaw C) = C := cijklGet_setRaw C h

example : MinorSymm (cijklGet (m6 (ctor_C11_C12_C44 (3 : ℚ) 1 2))) := minor_symm _

/-- `Cij -> Cij9 -> Cij`: the upper-left 6x6 block of the 9x9 form is the stored matrix. -/
theorem cij9_roundtrip (c : M6 K) (a b : Fin 6) :
    cij9Get c ⟨a.val, by omega⟩ ⟨b.val, by omega⟩ = c a b := by
  rw [cij9Get_eq, cijklGet_eq]
  have h : ∀ a : Fin 6, pair9 ⟨a.val, by omega⟩ = pairOf a := by decide
  rw [h a, h b, voigt_pairOf, voigt_pairOf]

/-- the generated compliance weights: the getter divides by 1, 2, 4 and the setter multiplies by 1, 2, 4
    according to the number of shear indices. -/
theorem sijkl_weights (s : M6 K) (S : T4 K) :
    (∀ i j k l, sijklGet s i j k l = s (voigt i j) (voigt k l) / ((mult (voigt i j) * mult (voigt k l) : ℕ) : K)) ∧
    (∀ a b, sijklSetRaw S a b = ((mult a * mult b : ℕ) : K) * S (pairOf a).1 (pairOf a).2 (pairOf b).1 (pairOf b).2) :=
  ⟨sijklGet_eq s, sijklSetRaw_eq S⟩

theorem sijkl_roundtrip (s : M6 K) : sijklSetRaw (sijklGet s) = s := sijklSetRaw_get s

theorem sijkl_roundtrip' (S : T4 K) (h : MinorSymm S) : sijklGet (sijklSetRaw S) = S := by
  funext i j k l
  rw [sijklGet_eq, sijklSetRaw_eq, minor_of_voigt S h i j k l]
  have := mult_ne_zero (K := K) (voigt i j)
  have := mult_ne_zero (K := K) (voigt k l)
  push_cast; field_simp

/-- the same linear stress-strain law in both pictures: `σ_ij = Σ_kl C_ijkl ε_kl` is `σ_a = Σ_b c_ab ε̂_b` with the
    engineering strains `ε̂_b = mult(b)·ε_b` (symmetric `ε`). -/
theorem hooke_voigt (c : M6 K) (e : M33 K) (he : ∀ i j, e i j = e j i) (i j : Fin 3) :
    (sum3 fun k => sum3 fun l => cijklGet c i j k l * e k l)
      = ∑ b : Fin 6, c (voigt i j) b * ((mult b : K) * e (pairOf b).1 (pairOf b).2) := by
  simp only [sum3_eq, cijklGet_eq]
  rw [sum_pairs_symm (fun k l => c (voigt i j) (voigt k l) * e k l) (fun k l => by rw [voigt_symm k l, he k l])]
  exact Finset.sum_congr rfl fun b _ => by rw [voigt_pairOf]; ring

/-- the inverse law `ε_ij = Σ_kl S_ijkl σ_kl` is `ε̂_a = mult(a)·ε_a = Σ_b s_ab σ_b` (symmetric `σ`):
    this is what the `/2`, `/4` and `2.`, `4.` weights are for. -/
theorem hooke_inverse_voigt (s : M6 K) (σ : M33 K) (hσ : ∀ i j, σ i j = σ j i) (i j : Fin 3) :
    (mult (voigt i j) : K) * (sum3 fun k => sum3 fun l => sijklGet s i j k l * σ k l) =
      ∑ b : Fin 6, s (voigt i j) b * σ (pairOf b).1 (pairOf b).2 := by
  simp only [sum3_eq, sijklGet_eq]
  rw [sum_pairs_symm (fun k l => s (voigt i j) (voigt k l) / ((mult (voigt i j) * mult (voigt k l) : ℕ) : K) * σ k l)
    (fun k l => by rw [voigt_symm k l, hσ k l]), Finset.mul_sum]
  refine Finset.sum_congr rfl fun b _ => ?_
  have h1 := mult_ne_zero (K := K) b
  have h2 := mult_ne_zero (K := K) (voigt i j)
  rw [voigt_pairOf]
  push_cast; field_simp

/-- stiffness contracted with compliance is the symmetric identity: from `C·S = 1` (6x6),
    `Σ_kl C_ijkl S_klmn = ½(δ_im δ_jn + δ_in δ_jm)`. -/
theorem stiffness_compliance_identity (c s : M6 K)
    (hcs : ∀ a d : Fin 6, ∑ b, c a b * s b d = if a = d then 1 else 0) (i j m n : Fin 3) :
    (sum3 fun k => sum3 fun l => cijklGet c i j k l * sijklGet s k l m n)
      = ((if i = m ∧ j = n then 1 else 0) + (if i = n ∧ j = m then 1 else 0)) / 2 :=
  contraction_of_inverse c s hcs i j m n

example : ∀ a d : Fin 6, ∑ b, m6 (ctor_mu_K (2 : ℚ) 3) a b * isoS (2 : ℚ) 3 b d = if a = d then 1 else 0 :=
  iso_mul_isoS 2 3 (by norm_num) (by norm_num)

/-- what the generated `einsum`s compute: `C'_ijkl = Σ T_ig T_jh T_km T_ln C_ghmn`. -/
theorem transform_is_tensor_rotation (T : M33 K) (C : T4 K) (i j k l : Fin 3) :
    rot T C i j k l = ∑ g, ∑ h, ∑ m, ∑ n, T i g * T j h * C g h m n * (T k m * T l n) := rot_apply T C i j k l

/-- `transform` with the identity axes. -/
theorem transform_id (C : T4 K) : rot mone C = C := rot_one C

/-- `T₂` after `T₁` is `T₂T₁`. -/
theorem transform_comp (T₂ T₁ : M33 K) (C : T4 K) : rot T₂ (rot T₁ C) = rot (mmul T₂ T₁) C := rot_comp T₂ T₁ C

/-- rotating back with the transposed (= inverse) axes. -/
theorem transform_inv (T : M33 K) (h : Orthogonal T) (C : T4 K) : rot (mtr T) (rot T C) = C := rot_inv h C

example : Orthogonal (rotZ (3 / 5 : ℚ) (4 / 5)) := (rotZ_proper _ _ (by norm_num)).1

theorem transform_symm (T : M33 K) (C : T4 K) (hm : MinorSymm C) (hM : MajorSymm C) :
    MinorSymm (rot T C) ∧ MajorSymm (rot T C) := ⟨rot_minor T hm, rot_major T hM⟩

/-- the rotation is linear in the tensor (so a weak anisotropy `C₀ + ε·D` rotates to `rot C₀ + ε·rot D`: an
    isotropic part stays, the anisotropic part is rotated however small it is). -/
theorem transform_linear (T : M33 K) (a b : K) (C D : T4 K) (i j k l : Fin 3) :
    rot T (fun i j k l => a * C i j k l + b * D i j k l) i j k l = a * rot T C i j k l + b * rot T D i j k l := by
  have h : rot T (a • C + b • D) = a • rot T C + b • rot T D := by rw [rot_add, rot_smul, rot_smul]
  exact congrFun (congrFun (congrFun (congrFun h i) j) k) l

/-- unit systems: the same material expressed in other units (`a·C`, `a > 0`) is rotated and cleaned to `a` times
    the result — the rotation is homogeneous and the clean-up `|C/Cmax| < tol` is relative, so no entry is kept or
    dropped because of the size of the numbers.  (What `transform` hands to the `Cijkl` setter.) -/
theorem transform_unit_independent (tol a : K) (ha : 0 < a) (T : M33 K) (C : T4 K) (i j k l : Fin 3) :
    cleanT4 tol (max4 (rot T (fun i j k l => a * C i j k l))) (rot T (fun i j k l => a * C i j k l)) i j k l
      = a * cleanT4 tol (max4 (rot T C)) (rot T C) i j k l := by
  show cleanT4 tol (max4 (rot T (a • C))) (rot T (a • C)) i j k l = _
  rw [rot_smul, cleanT4_smul tol a ha]
  rfl

/-- strain-energy density of a co-rotated strain: `ε' = T ε Tᵀ ⇒ ε' : C' : ε' = ε : C : ε`. -/
theorem energy_invariant (T : M33 K) (h : Orthogonal T) (C : T4 K) (e : M33 K) :
    energy (rot T C) (conj T e) = energy C e := energy_rot T h C e

/-- Voigt bulk and shear moduli of the rotated 6x6 equal those of the original (symmetric `c`, orthogonal `T`). -/
theorem voigt_moduli_invariant (c : M6 K) (hc : Symm6 c) (T : M33 K) (h : Orthogonal T) :
    bulkVoigt (cijklSetRaw (rot T (cijklGet c))) = bulkVoigt c ∧
    shearVoigt (cijklSetRaw (rot T (cijklGet c))) = shearVoigt c := by
  have hm := cijklGet_minor c
  have hM := cijklGet_major c hc
  constructor
  · rw [bulkVoigt_eq_tr _ (rot_major T hM), tr1_rot T h, ← bulkVoigt_eq_tr _ hM, cijklSetRaw_get]
  · rw [shearVoigt_eq_tr _ (rot_minor T hm) (rot_major T hM), tr1_rot T h, tr2_rot T h,
      ← shearVoigt_eq_tr _ hm hM, cijklSetRaw_get]

set_option linter.unusedVariables false in
/-- Reuss bulk and shear moduli: `s` a two-sided inverse of the symmetric `c`, `s'` any left inverse of the
    rotated 6x6 (what `np.linalg.inv` returns for it).  The proof uses one side (`hcs`) only; `hsc` is in the
    statement and is not used. -/
theorem reuss_moduli_invariant (c s s' : M6 K) (hc : Symm6 c)
    (hcs : ∀ a d : Fin 6, ∑ b, c a b * s b d = if a = d then 1 else 0)
    (hsc : ∀ a d : Fin 6, ∑ b, s a b * c b d = if a = d then 1 else 0)
    (T : M33 K) (h : Orthogonal T)
    (hs' : ∀ a d : Fin 6, ∑ b, s' a b * cijklSetRaw (rot T (cijklGet c)) b d = if a = d then 1 else 0) :
    bulkReuss s' = bulkReuss s ∧ shearReuss s' = shearReuss s := reuss_rot c s s' hc hcs T h hs'

set_option linter.unusedVariables false in
/-- Hill = mean of Voigt and Reuss, hence invariant (same hypotheses as `reuss_moduli_invariant`, `hsc` again unused). -/
theorem hill_moduli_invariant (c s s' : M6 K) (hc : Symm6 c)
    (hcs : ∀ a d : Fin 6, ∑ b, c a b * s b d = if a = d then 1 else 0)
    (hsc : ∀ a d : Fin 6, ∑ b, s a b * c b d = if a = d then 1 else 0)
    (T : M33 K) (h : Orthogonal T)
    (hs' : ∀ a d : Fin 6, ∑ b, s' a b * cijklSetRaw (rot T (cijklGet c)) b d = if a = d then 1 else 0) :
    bulkHill (cijklSetRaw (rot T (cijklGet c))) s' = bulkHill c s ∧
    shearHill (cijklSetRaw (rot T (cijklGet c))) s' = shearHill c s := by
  obtain ⟨v1, v2⟩ := voigt_moduli_invariant c hc T h
  obtain ⟨r1, r2⟩ := reuss_rot c s s' hc hcs T h hs'
  simp only [bulkHill, shearHill, v1, v2, r1, r2, and_self]

/-- the compliance of the rotated stiffness is the rotated compliance tensor (in 6x6 form). -/
theorem compliance_transforms_as_tensor (c s : M6 K)
    (hcs : ∀ a d : Fin 6, ∑ b, c a b * s b d = if a = d then 1 else 0) (T : M33 K) (h : Orthogonal T) (a d : Fin 6) :
    ∑ b, cijklSetRaw (rot T (cijklGet c)) a b * sijklSetRaw (rot T (sijklGet s)) b d = if a = d then 1 else 0 :=
  rotated_inverse c s hcs T h a d

/-- what the `Cij` setter stores for an exactly symmetric input is symmetric (so `major_symm` applies to every
    object built from symmetric data), and it is the input with the relatively tiny entries zeroed. -/
theorem cij_setter_symm (v : M6 K) (h : Symm6 v) :
    (0 < max6 v → setCij v = .ok (zeroSmall (max6 v) v)) ∧ (∀ z, setCij v = .ok z → Symm6 z) :=
  ⟨setCij_of_symm v h, fun z hz => setCij_symm v z h hz⟩

/-- `ElasticConstants(Sijkl=ec.Sijkl)` = `ElasticConstants(Sij=ec.Sij)` through the full `Sijkl` setter (all of its
    symmetry assertions, with their magnitude-scaled tolerance, pass for a symmetric compliance of any size). -/
theorem sijkl_setter_roundtrip (inv : M6 K → Option (M6 K)) (s : M6 K) (h : Symm6 s) :
    setSijkl inv (sijklGet s) = setSij inv s := by
  have hraw := sijklSetRaw_get s
  have hchk := checks4_voigt (fun a b => s a b / ((mult a * mult b : ℕ) : K)) (fun a b => by show _ / _ = _ / _; rw [h a b, Nat.mul_comm])
    _ (sijklGet_eq s) _ sijkl_set_checks_sound _ (checkAtol_nonneg sijklSetAtolRel _ sijklSetAtol_nonneg (sijklGet s))
  have hmax : sijklSetMaxAssert = false := rfl
  simp only [setSijkl, hmax, Bool.false_and, Bool.false_eq_true, if_false, hchk, Bool.not_true, hraw]

set_option linter.unusedVariables false in
/-- `ElasticConstants(Cijkl=ec.Cijkl)` and `ElasticConstants(Cij9=ec.Cij9)` pass the symmetry assertions of their own
    setters and then do what `ElasticConstants(Cij=ec.Cij)` does.  The equalities hold without `hpos` (the proof does not use
    it: without a positive entry both sides are the same `assert` error); with it, the common value is a stored matrix. -/
theorem setter_roundtrips (c : M6 K) (h : Symm6 c) (hpos : 0 < max6 c) :
    setCijkl (cijklGet c) = setCij c ∧ setCij9 (cij9Get c) = setCij c := by
  refine ⟨by rw [setCijkl_of_symm _ (cijklGet_minor c) (cijklGet_major c h), cijklSetRaw_get], ?_⟩
  have hchk : cij9SetChecks.all (fun pq =>
      decide (cij9Get c (fin9 pq.1.1) (fin9 pq.1.2) = cij9Get c (fin9 pq.2.1) (fin9 pq.2.2))) = true := by
    rw [List.all_eq_true]
    intro pq hpq
    simp only [decide_eq_true_eq, cij9Get_eq, cijklGet_eq]
    rcases cij9_set_checks_sound pq hpq with ⟨e1, e2⟩ | ⟨e1, e2⟩
    · rw [e1, e2]; simp only; rw [voigt_symm]
    · rw [e1, e2]; simp only; rw [voigt_symm (pair9 (fin9 pq.2.2)).2]
  simp only [setCij9, hchk, not_true_eq_false, if_false, cij9_set_slice, ne_eq, funext₂ (cij9_roundtrip c)]

example : Symm6 (m6 (ctor_C11_C12_C44 (3 : ℚ) 1 2)) ∧ 0 < max6 (m6 (ctor_C11_C12_C44 (3 : ℚ) 1 2)) := by
  constructor
  · exact cubic312_symm
  · rw [max6_pos]; exact ⟨0, 0, by decide⟩

/-- the class invariant is preserved: whatever `transform` returns for a symmetric stored 6x6 is symmetric. -/
theorem transform_preserves_symmetry (tol : K) (axes : M33 K) (norms : Fin 3 → K) (c z : M6 K) (hc : Symm6 c)
    (hz : transform tol axes norms c = .ok z) : Symm6 z := by
  unfold transform at hz
  split at hz
  · cases hz
  · rename_i T hT
    simp only [tab4_eq] at hz
    exact setCijkl_symm _ (cleanT4_major _ _ _ (rot_major T (cijklGet_major c hc))) z hz

/-! `system_invariant_*`: each generated crystal-system template is fixed by the generating symmetry rotations of its
    system. -/

/-- isotropic: every orthogonal map. -/
theorem system_invariant_isotropic (lam mu : K) (T : M33 K) (h : Orthogonal T) :
    rot T (cijklGet (m6 (ctor_C12_C44 lam mu))) = cijklGet (m6 (ctor_C12_C44 lam mu)) := by
  rw [iso_tensor, rot_isoT T h]

/-- cubic: the four-fold axes `x`, `y`, `z` and the three-fold axis `[111]` (they generate the group `432`). -/
theorem system_invariant_cubic (C11 C12 C44 : K) :
    let C := cijklGet (m6 (ctor_C11_C12_C44 C11 C12 C44))
    rot R4z C = C ∧ rot R4x C = C ∧ rot R4y C = C ∧ rot R3d C = C := by
  rw [cubic_tab, R4z_sp, R4x_sp, R4y_sp, R3d_sp]
  exact ⟨sp_fixes _ _ _ _ (by decide), sp_fixes _ _ _ _ (by decide), sp_fixes _ _ _ _ (by decide), sp_fixes _ _ _ _ (by decide)⟩

/-- hexagonal: *every* rotation about `z` (indeed every orthogonal map with third column `e_z`), and the
    two-fold axis `x`. -/
theorem system_invariant_hexagonal (C11 C12 C13 C33 C44 : K) :
    let C := cijklGet (m6 (ctor_C11_C12_C13_C33_C44 C11 C12 C13 C33 C44))
    (∀ c s : K, c * c + s * s = 1 → rot (rotZ c s) C = C) ∧ rot R2x C = C :=
  ⟨fun c s h => by
     rw [hex_tab, hex_tensor _ _ _ _ _ _ (by rw [two_mul_half, add_sub_cancel]),
       rot_hexT _ (rotZ_proper c s h).1 (conj_nz c s)],
   by rw [hex_tab, R2x_sp]; exact sp_fixes _ _ _ _ (by decide)⟩

/-- tetragonal (seven constants, classes 4, -4, 4/m): the four-fold axis `z`; with `C16` absent also the
    two-fold axis `x`. -/
theorem system_invariant_tetragonal (C11 C12 C13 C16 C33 C44 C66 : K) :
    rot R4z (cijklGet (m6 (ctor_C11_C12_C13_C16_C33_C44_C66 C11 C12 C13 C16 C33 C44 C66)))
      = cijklGet (m6 (ctor_C11_C12_C13_C16_C33_C44_C66 C11 C12 C13 C16 C33 C44 C66)) ∧
    (let C := cijklGet (m6 (ctor_C11_C12_C13_C33_C44_C66 C11 C12 C13 C33 C44 C66))
     rot R4z C = C ∧ rot R2x C = C) := by
  refine ⟨by rw [tet7_tab, R4z_sp]; exact sp_fixes _ _ _ _ (by decide), ?_⟩
  -- `C16` (entry 3 of the constant list) is 0 here: its code is struck from the table, which `R2x` then fixes
  rw [tet6_tab, ← map_strike _ 3 rfl, R4z_sp, R2x_sp]
  exact ⟨sp_fixes _ _ _ _ (by decide), sp_fixes _ _ _ _ (by decide)⟩

/-- rhombohedral (seven constants): the three-fold axis `z` (`cos = -1/2`, `sin = r/2`, `r² = 3`); with `C15`
    absent also the two-fold axis `x`. -/
theorem system_invariant_rhombohedral (C11 C12 C13 C14 C15 C33 C44 r : K) (hr : r * r = 3) :
    rot (rotZ (-1/2) (r/2)) (cijklGet (m6 (ctor_C11_C12_C13_C14_C15_C33_C44 C11 C12 C13 C14 C15 C33 C44)))
      = cijklGet (m6 (ctor_C11_C12_C13_C14_C15_C33_C44 C11 C12 C13 C14 C15 C33 C44)) ∧
    rot R2x (cijklGet (m6 (ctor_C11_C12_C13_C14_C33_C44 C11 C12 C13 C14 C33 C44)))
      = cijklGet (m6 (ctor_C11_C12_C13_C14_C33_C44 C11 C12 C13 C14 C33 C44)) :=
  by
  -- second part: `C15` (entry 4 of the constant list) is 0, its code is struck from the table
  refine ⟨?_, by rw [rh6_tab, ← map_strike _ 4 rfl, R2x_sp]; exact sp_fixes _ _ _ _ (by decide)⟩
  obtain ⟨h1, h0⟩ := cos3_sin3_third r hr
  rw [rh7_tab, rh_tensor _ _ _ _ _ _ _ _ (by rw [two_mul_half, add_sub_cancel]),
    rot_rhT _ _ (third_unit r hr), h1, h0, mul_one, mul_zero, sub_zero, mul_one, mul_zero, zero_add]

/-- the three-fold rotation about `z` of the rhombohedral system (`cos = -1/2`, `sin = r/2` with `r² = 3`) is proper. -/
theorem three_fold_proper (r : K) (hr : r * r = 3) : ProperRot (rotZ (-1/2 : K) (r/2)) :=
  rotZ_proper _ _ (third_unit r hr)

/-- orthorhombic: the three two-fold axes. -/
theorem system_invariant_orthorhombic (C11 C12 C13 C22 C23 C33 C44 C55 C66 : K) :
    let C := cijklGet (m6 (ctor_C11_C12_C13_C22_C23_C33_C44_C55_C66 C11 C12 C13 C22 C23 C33 C44 C55 C66))
    rot R2x C = C ∧ rot R2y C = C ∧ rot R2z C = C := by
  rw [ortho_tab, R2x_sp, R2y_sp, R2z_sp]
  exact ⟨sp_fixes _ _ _ _ (by decide), sp_fixes _ _ _ _ (by decide), sp_fixes _ _ _ _ (by decide)⟩

/-- monoclinic (unique axis `y`): the two-fold axis `y`. -/
theorem system_invariant_monoclinic (C11 C12 C13 C15 C22 C23 C25 C33 C35 C44 C46 C55 C66 : K) :
    rot R2y (cijklGet (m6 (ctor_C11_C12_C13_C15_C22_C23_C25_C33_C35_C44_C46_C55_C66
        C11 C12 C13 C15 C22 C23 C25 C33 C35 C44 C46 C55 C66)))
      = cijklGet (m6 (ctor_C11_C12_C13_C15_C22_C23_C25_C33_C35_C44_C46_C55_C66
        C11 C12 C13 C15 C22 C23 C25 C33 C35 C44 C46 C55 C66)) := by
  rw [mono_tab, R2y_sp]; exact sp_fixes _ _ _ _ (by decide)

/-- every crystal-system template is a symmetric 6x6 (so `major_symm`, `voigt_moduli_invariant`, … apply to it). -/
theorem templates_symmetric
    (C11 C12 C13 C14 C15 C16 C22 C23 C24 C25 C26 C33 C34 C35 C36 C44 C45 C46 C55 C56 C66 : K) :
    Symm6 (m6 (ctor_C11_C12_C44 C11 C12 C44)) ∧
    Symm6 (m6 (ctor_C11_C12_C13_C33_C44 C11 C12 C13 C33 C44)) ∧
    Symm6 (m6 (ctor_C11_C12_C13_C14_C15_C33_C44 C11 C12 C13 C14 C15 C33 C44)) ∧
    Symm6 (m6 (ctor_C11_C12_C13_C16_C33_C44_C66 C11 C12 C13 C16 C33 C44 C66)) ∧
    Symm6 (m6 (ctor_C11_C12_C13_C22_C23_C33_C44_C55_C66 C11 C12 C13 C22 C23 C33 C44 C55 C66)) ∧
    Symm6 (m6 (ctor_C11_C12_C13_C15_C22_C23_C25_C33_C35_C44_C46_C55_C66
      C11 C12 C13 C15 C22 C23 C25 C33 C35 C44 C46 C55 C66)) ∧
    Symm6 (m6 (ctor_C11_C12_C13_C14_C15_C16_C22_C23_C24_C25_C26_C33_C34_C35_C36_C44_C45_C46_C55_C56_C66
      C11 C12 C13 C14 C15 C16 C22 C23 C24 C25 C26 C33 C34 C35 C36 C44 C45 C46 C55 C56 C66)) := by
  rw [cubic_tab, hex_tab, rh7_tab, tet7_tab, ortho_tab, mono_tab, tric_tab]
  exact ⟨symm_of_tab _ _ cubicTab_symm, symm_of_tab _ _ hexTab_symm, symm_of_tab _ _ rhTab_symm,
    symm_of_tab _ _ tetTab_symm, symm_of_tab _ _ orthoTab_symm, symm_of_tab _ _ monoTab_symm, symm_of_tab _ _ tricTab_symm⟩

/-- the named constants are the Voigt components they are named after: `Cab` sits at `[a-1, b-1]` of the template
    (and `2 C66 = C11 - C12` where `C66` is dependent). -/
theorem named_constants_placed
    (C11 C12 C13 C14 C15 C16 C22 C23 C24 C25 C26 C33 C34 C35 C36 C44 C45 C46 C55 C56 C66 : K) :
    (let c := m6 (ctor_C11_C12_C44 C11 C12 C44); c 0 0 = C11 ∧ c 0 1 = C12 ∧ c 3 3 = C44) ∧
    (let c := m6 (ctor_C11_C12_C13_C33_C44 C11 C12 C13 C33 C44)
     c 0 0 = C11 ∧ c 0 1 = C12 ∧ c 0 2 = C13 ∧ c 2 2 = C33 ∧ c 3 3 = C44 ∧ 2 * c 5 5 = C11 - C12) ∧
    (let c := m6 (ctor_C11_C12_C13_C14_C15_C33_C44 C11 C12 C13 C14 C15 C33 C44)
     c 0 0 = C11 ∧ c 0 1 = C12 ∧ c 0 2 = C13 ∧ c 0 3 = C14 ∧ c 0 4 = C15 ∧ c 2 2 = C33 ∧ c 3 3 = C44 ∧
       2 * c 5 5 = C11 - C12) ∧
    (let c := m6 (ctor_C11_C12_C13_C16_C33_C44_C66 C11 C12 C13 C16 C33 C44 C66)
     c 0 0 = C11 ∧ c 0 1 = C12 ∧ c 0 2 = C13 ∧ c 0 5 = C16 ∧ c 2 2 = C33 ∧ c 3 3 = C44 ∧ c 5 5 = C66) ∧
    (let c := m6 (ctor_C11_C12_C13_C22_C23_C33_C44_C55_C66 C11 C12 C13 C22 C23 C33 C44 C55 C66)
     c 0 0 = C11 ∧ c 0 1 = C12 ∧ c 0 2 = C13 ∧ c 1 1 = C22 ∧ c 1 2 = C23 ∧ c 2 2 = C33 ∧ c 3 3 = C44 ∧ c 4 4 = C55 ∧
       c 5 5 = C66) ∧
    (let c := m6 (ctor_C11_C12_C13_C15_C22_C23_C25_C33_C35_C44_C46_C55_C66
       C11 C12 C13 C15 C22 C23 C25 C33 C35 C44 C46 C55 C66)
     c 0 0 = C11 ∧ c 0 1 = C12 ∧ c 0 2 = C13 ∧ c 0 4 = C15 ∧ c 1 1 = C22 ∧ c 1 2 = C23 ∧ c 1 4 = C25 ∧ c 2 2 = C33 ∧
       c 2 4 = C35 ∧ c 3 3 = C44 ∧ c 3 5 = C46 ∧ c 4 4 = C55 ∧ c 5 5 = C66) ∧
    (let c := m6 (ctor_C11_C12_C13_C14_C15_C16_C22_C23_C24_C25_C26_C33_C34_C35_C36_C44_C45_C46_C55_C56_C66
       C11 C12 C13 C14 C15 C16 C22 C23 C24 C25 C26 C33 C34 C35 C36 C44 C45 C46 C55 C56 C66)
     c 0 0 = C11 ∧ c 0 1 = C12 ∧ c 0 2 = C13 ∧ c 0 3 = C14 ∧ c 0 4 = C15 ∧ c 0 5 = C16 ∧ c 1 1 = C22 ∧ c 1 2 = C23 ∧
     c 1 3 = C24 ∧ c 1 4 = C25 ∧ c 1 5 = C26 ∧ c 2 2 = C33 ∧ c 2 3 = C34 ∧ c 2 4 = C35 ∧ c 2 5 = C36 ∧ c 3 3 = C44 ∧
     c 3 4 = C45 ∧ c 3 5 = C46 ∧ c 4 4 = C55 ∧ c 4 5 = C56 ∧ c 5 5 = C66) :=
  ⟨⟨rfl, rfl, rfl⟩, ⟨rfl, rfl, rfl, rfl, rfl, two_mul_half _⟩,
   ⟨rfl, rfl, rfl, rfl, rfl, rfl, rfl, two_mul_half _⟩, ⟨rfl, rfl, rfl, rfl, rfl, rfl, rfl⟩,
   ⟨rfl, rfl, rfl, rfl, rfl, rfl, rfl, rfl, rfl⟩, ⟨rfl, rfl, rfl, rfl, rfl, rfl, rfl, rfl, rfl, rfl, rfl, rfl, rfl⟩,
   ⟨rfl, rfl, rfl, rfl, rfl, rfl, rfl, rfl, rfl, rfl, rfl, rfl, rfl, rfl, rfl, rfl, rfl, rfl, rfl, rfl, rfl⟩⟩

/-- all symmetry generators used above are proper rotations: orthogonal with `det3 = 1`.  (That such a matrix satisfies the
    three cross-product equations `axes_check` tests, the hypothesis `hr` of `transform_is_rot`, is not derived from `ProperRot`
    in this development.) -/
theorem generators_proper :
    ProperRot (R4z : M33 K) ∧ ProperRot (R4x : M33 K) ∧ ProperRot (R4y : M33 K) ∧ ProperRot (R3d : M33 K) ∧
    ProperRot (R2x : M33 K) ∧ ProperRot (R2y : M33 K) ∧ ProperRot (R2z : M33 K) ∧
    (∀ c s : K, c * c + s * s = 1 → ProperRot (rotZ c s)) :=
  ⟨by proper_lit R4z_sp, by proper_lit R4x_sp, by proper_lit R4y_sp, by proper_lit R3d_sp, by proper_lit R2x_sp,
   by proper_lit R2y_sp, by proper_lit R2z_sp, rotZ_proper⟩

/-- the rotations fixing a tensor form a group: closed under products and (for orthogonal maps) inverses, so the
    `system_invariant_*` theorems extend from the generators to the whole point group. -/
theorem invariance_group (C : T4 K) (A B : M33 K) (hA : rot A C = C) (hB : rot B C = C) :
    rot (mmul A B) C = C ∧ (Orthogonal A → rot (mtr A) C = C) := by
  constructor
  · rw [← rot_comp, hB, hA]
  · intro h
    have := rot_inv h C
    rwa [hA] at this

/-- the alternative input combinations of `hexagonal` describe the same tensor (`2 C66 = C11 - C12`). -/
theorem hexagonal_inputs_agree (C11 C12 C13 C33 C44 : K) :
    ctor_C11_C13_C33_C44_C66 C11 C13 C33 C44 ((C11 - C12) / 2) = ctor_C11_C12_C13_C33_C44 C11 C12 C13 C33 C44 ∧
    ctor_C12_C13_C33_C44_C66 C12 C13 C33 C44 ((C11 - C12) / 2) = ctor_C11_C12_C13_C33_C44 C11 C12 C13 C33 C44 := by
  have e1 : C11 - 2 * ((C11 - C12) / 2) = C12 := by ring
  have e2 : 2 * ((C11 - C12) / 2) + C12 = C11 := by ring
  constructor <;>
    simp only [ctor_C11_C13_C33_C44_C66, ctor_C12_C13_C33_C44_C66, ctor_C11_C12_C13_C33_C44, Nat.cast_ofNat, e1, e2]

/-- the alternative input combinations of `rhombohedral` (and an absent `C15`) describe the same tensor. -/
theorem rhombohedral_inputs_agree (C11 C12 C13 C14 C15 C33 C44 : K) :
    ctor_C11_C13_C14_C15_C33_C44_C66 C11 C13 C14 C15 C33 C44 ((C11 - C12) / 2)
      = ctor_C11_C12_C13_C14_C15_C33_C44 C11 C12 C13 C14 C15 C33 C44 ∧
    ctor_C12_C13_C14_C15_C33_C44_C66 C12 C13 C14 C15 C33 C44 ((C11 - C12) / 2)
      = ctor_C11_C12_C13_C14_C15_C33_C44 C11 C12 C13 C14 C15 C33 C44 ∧
    ctor_C11_C12_C13_C14_C15_C33_C44_C66 C11 C12 C13 C14 C15 C33 C44 ((C11 - C12) / 2)
      = ctor_C11_C12_C13_C14_C15_C33_C44 C11 C12 C13 C14 C15 C33 C44 ∧
    ctor_C11_C12_C13_C14_C33_C44 C11 C12 C13 C14 C33 C44
      = ctor_C11_C12_C13_C14_C15_C33_C44 C11 C12 C13 C14 0 C33 C44 := by
  refine ⟨?_, ?_, ?_, ?_⟩ <;>
    (simp only [ctor_C11_C13_C14_C15_C33_C44_C66, ctor_C12_C13_C14_C15_C33_C44_C66,
       ctor_C11_C12_C13_C14_C15_C33_C44_C66, ctor_C11_C12_C13_C14_C33_C44, ctor_C11_C12_C13_C14_C15_C33_C44,
       Nat.cast_ofNat, Nat.cast_zero, neg_zero]
     try (have e1 : C11 - 2 * ((C11 - C12) / 2) = C12 := by ring
          have e2 : 2 * ((C11 - C12) / 2) + C12 = C11 := by ring
          simp only [e1, e2]))

/-! `normalized_idem_*` (eight targets): idempotence of the generated formulas, before the `Cij` setter's zeroing; through
    the setter it is `normalized_setter_idem_*` (C11_Fixpoint). -/

theorem normalized_idem_triclinic (c : M6 K) :
    normalized_triclinic (m6 (normalized_triclinic c)) = normalized_triclinic c := by
  rw [m6_normalized_triclinic]

theorem normalized_idem_cubic (c : M6 K) : normalized_cubic (m6 (normalized_cubic c)) = normalized_cubic c :=
  norm_fix_cubic _ _ _

theorem normalized_idem_hexagonal (c : M6 K) :
    normalized_hexagonal (m6 (normalized_hexagonal c)) = normalized_hexagonal c := norm_fix_hexagonal _ _ _ _ _

theorem normalized_idem_tetragonal (c : M6 K) :
    normalized_tetragonal (m6 (normalized_tetragonal c)) = normalized_tetragonal c :=
  norm_fix_tetragonal _ _ _ _ _ _ _

theorem normalized_idem_rhombohedral (c : M6 K) :
    normalized_rhombohedral (m6 (normalized_rhombohedral c)) = normalized_rhombohedral c :=
  norm_fix_rhombohedral _ _ _ _ _ _ _

theorem normalized_idem_orthorhombic (c : M6 K) :
    normalized_orthorhombic (m6 (normalized_orthorhombic c)) = normalized_orthorhombic c :=
  norm_fix_orthorhombic _ _ _ _ _ _ _ _ _

theorem normalized_idem_monoclinic (c : M6 K) :
    normalized_monoclinic (m6 (normalized_monoclinic c)) = normalized_monoclinic c :=
  norm_fix_monoclinic _ _ _ _ _ _ _ _ _ _ _ _ _

/-- isotropic: `s` is whatever inverse was used the first time, `s'` a (left) inverse of the normalised 6x6;
    the Hill averages of the first pass must be non-zero (otherwise the normalised matrix has no inverse). -/
theorem normalized_idem_isotropic (c s s' : M6 K) (hmu : shearHill c s ≠ 0) (hK : bulkHill c s ≠ 0)
    (hinv : ∀ a d, ∑ b, s' a b * m6 (normalized_isotropic c s) b d = if a = d then 1 else 0) :
    normalized_isotropic (m6 (normalized_isotropic c s)) s' = normalized_isotropic c s :=
  norm_fix_isotropic _ _ hmu hK s' hinv

example : shearHill (m6 (ctor_mu_K (2 : ℚ) 3)) (isoS 2 3) ≠ 0 ∧ bulkHill (m6 (ctor_mu_K (2 : ℚ) 3)) (isoS 2 3) ≠ 0 := by
  obtain ⟨h1, h2⟩ := hill_of_iso (2 : ℚ) 3 (by norm_num) (by norm_num)
  rw [h1, h2]; constructor <;> norm_num

/-- a normalised tensor passes `is_normal` for its system (formula level: the comparison of
    `n = normalized(c)` with `normalized(n)` entry by entry). -/
theorem is_normal_of_normalized (rt at' : K) (h1 : 0 ≤ rt) (h2 : 0 ≤ at') (c : M6 K) (a b : Fin 6) :
    isclose rt at' (m6 (normalized_cubic c) a b) (m6 (normalized_cubic (m6 (normalized_cubic c))) a b) = true ∧
    isclose rt at' (m6 (normalized_hexagonal c) a b)
      (m6 (normalized_hexagonal (m6 (normalized_hexagonal c))) a b) = true ∧
    isclose rt at' (m6 (normalized_tetragonal c) a b)
      (m6 (normalized_tetragonal (m6 (normalized_tetragonal c))) a b) = true ∧
    isclose rt at' (m6 (normalized_rhombohedral c) a b)
      (m6 (normalized_rhombohedral (m6 (normalized_rhombohedral c))) a b) = true ∧
    isclose rt at' (m6 (normalized_orthorhombic c) a b)
      (m6 (normalized_orthorhombic (m6 (normalized_orthorhombic c))) a b) = true ∧
    isclose rt at' (m6 (normalized_triclinic c) a b)
      (m6 (normalized_triclinic (m6 (normalized_triclinic c))) a b) = true ∧
    isclose rt at' (m6 (normalized_monoclinic c) a b)
      (m6 (normalized_monoclinic (m6 (normalized_monoclinic c))) a b) = true := by
  rw [normalized_idem_cubic, normalized_idem_hexagonal, normalized_idem_tetragonal, normalized_idem_rhombohedral,
    normalized_idem_orthorhombic, normalized_idem_triclinic, normalized_idem_monoclinic]
  exact ⟨isclose_self _ _ _ h1 h2, isclose_self _ _ _ h1 h2, isclose_self _ _ _ h1 h2, isclose_self _ _ _ h1 h2,
    isclose_self _ _ _ h1 h2, isclose_self _ _ _ h1 h2, isclose_self _ _ _ h1 h2⟩

/-- a read leaves the stored matrix alone; a setter's effect does not depend on what was stored before. -/
theorem object_step (inv : M6 K → Option (M6 K)) (st st' : M6 K) (op : Op K) :
    (op.store? inv = none → (step inv st op).1 = st ∧ (step inv st op).2 = op.read inv st) ∧
    (∀ z, op.store? inv = some (.ok z) → (step inv st op).1 = z ∧ (step inv st' op).1 = z) ∧
    (∀ e, op.store? inv = some (.error e) → (step inv st op).1 = st ∧ (step inv st op).2 = .error e) := by
  refine ⟨fun h => ?_, fun z h => ?_, fun e h => ?_⟩ <;> simp [step, h]

/-- reads are pure: a sequence of reads leaves the stored matrix unchanged … -/
theorem object_reads_pure (inv : M6 K → Option (M6 K)) (st : M6 K) (ops : List (Op K))
    (h : ∀ o ∈ ops, o.store? inv = none) : finalState inv st ops = st := by
  induction ops generalizing st with
  | nil => rfl
  | cons o os ih =>
    have ho := h o (List.mem_cons_self ..)
    simp only [finalState, step, ho]
    exact ih st (fun o' ho' => h o' (List.mem_cons_of_mem _ ho'))

/-- … and each of them returns what it returns on a fresh object holding the same matrix, whatever was read
    before it and in whatever order: the observations are the pointwise reads of `st`. -/
theorem object_read_order (inv : M6 K → Option (M6 K)) (st : M6 K) (ops : List (Op K))
    (h : ∀ o ∈ ops, o.store? inv = none) : run inv st ops = ops.map (fun o => o.read inv st) := by
  induction ops generalizing st with
  | nil => rfl
  | cons o os ih =>
    have ho := h o (List.mem_cons_self ..)
    simp only [run, step, ho, List.map_cons]
    rw [ih st (fun o' ho' => h o' (List.mem_cons_of_mem _ ho'))]

/-- after a successful set, everything observed later is what a fresh object given the same value shows: the
    history before the set is forgotten. -/
theorem object_set_overwrites (inv : M6 K → Option (M6 K)) (st st' : M6 K) (op : Op K) (z : M6 K)
    (hz : op.store? inv = some (.ok z)) (ops : List (Op K)) :
    run inv st (op :: ops) = run inv st' (op :: ops) ∧ finalState inv st (op :: ops) = finalState inv st' (op :: ops) := by
  simp only [run, finalState, step, hz, and_self]

/-- a refused assignment leaves the object as it was: the error is reported and the later operations see the old state. -/
theorem object_refused_set (inv : M6 K → Option (M6 K)) (st : M6 K) (op : Op K) (e : String)
    (he : op.store? inv = some (.error e)) (ops : List (Op K)) :
    run inv st (op :: ops) = .error e :: run inv st ops ∧ finalState inv st (op :: ops) = finalState inv st ops := by
  simp only [run, finalState, step, he, and_self]

/-- **end to end**: `ElasticConstants(C11=, C12=, C44=).bulk(style)` is `(C11 + 2 C12)/3` for all three styles,
    whatever routine computes the compliance, as long as it returns a right inverse of the stored matrix. -/
theorem cubic_bulk_every_style (c11 c12 c44 : K) (h1 : c11 - c12 ≠ 0) (h2 : c11 + 2 * c12 ≠ 0) (h4 : c44 ≠ 0)
    (h3 : 4 * c44 + 3 * (c11 - c12) ≠ 0)
    (inv : M6 K → Option (M6 K)) (s : M6 K) (hinv : inv (m6 (ctor_C11_C12_C44 c11 c12 c44)) = some s)
    (hs : ∀ a d, ∑ b, m6 (ctor_C11_C12_C44 c11 c12 c44) a b * s b d = if a = d then 1 else 0) :
    ∀ style ∈ ["Voigt", "Reuss", "Hill"],
      estimate inv "bulk" style (m6 (ctor_C11_C12_C44 c11 c12 c44)) = .ok ((c11 + 2 * c12) / 3) := by
  have e := cubic_compliance_unique c11 c12 c44 h1 h2 h4 s hs
  subst e
  obtain ⟨hV, hR, hH, _, _⟩ := cubic_moduli c11 c12 c44 h1 h2 h4 h3
  intro style hst
  simp only [List.mem_cons, List.not_mem_nil, or_false] at hst
  rcases hst with rfl | rfl | rfl
  · simp [estimate, hV]
  · simp [estimate, hinv, tab6_eq, hR]
  · simp [estimate, hinv, tab6_eq, hH]

/-- the same for the shear estimates: Voigt `(C11 - C12 + 3 C44)/5`, Reuss `5 C44 (C11 - C12)/(4 C44 + 3 (C11 - C12))`,
    Hill their mean. -/
theorem cubic_shear_every_style (c11 c12 c44 : K) (h1 : c11 - c12 ≠ 0) (h2 : c11 + 2 * c12 ≠ 0) (h4 : c44 ≠ 0)
    (h3 : 4 * c44 + 3 * (c11 - c12) ≠ 0)
    (inv : M6 K → Option (M6 K)) (s : M6 K) (hinv : inv (m6 (ctor_C11_C12_C44 c11 c12 c44)) = some s)
    (hs : ∀ a d, ∑ b, m6 (ctor_C11_C12_C44 c11 c12 c44) a b * s b d = if a = d then 1 else 0) :
    let c := m6 (ctor_C11_C12_C44 c11 c12 c44)
    let gV := (c11 - c12 + 3 * c44) / 5
    let gR := 5 * c44 * (c11 - c12) / (4 * c44 + 3 * (c11 - c12))
    estimate inv "shear" "Voigt" c = .ok gV ∧ estimate inv "shear" "Reuss" c = .ok gR ∧
    estimate inv "shear" "Hill" c = .ok ((gV + gR) / 2) := by
  have e := cubic_compliance_unique c11 c12 c44 h1 h2 h4 s hs
  subst e
  obtain ⟨_, _, _, hV, hR⟩ := cubic_moduli c11 c12 c44 h1 h2 h4 h3
  refine ⟨?_, ?_, ?_⟩
  · simp [estimate, hV]
  · simp [estimate, hinv, tab6_eq, hR]
  · simp [estimate, hinv, tab6_eq, shearHill, hV, hR]

/-- non-vacuity: `C11 = 3, C12 = 1, C44 = 2` with the closed-form compliance as `inv`. -/
example : ∃ s : M6 ℚ, ∀ a d, ∑ b, m6 (ctor_C11_C12_C44 (3 : ℚ) 1 2) a b * s b d = if a = d then 1 else 0 :=
  ⟨cubicS 3 1 2, cubic_mul_cubicS 3 1 2 (by norm_num) (by norm_num) (by norm_num)⟩

section nonvacuity

/-- cubic `C11 = 3, C12 = 1, C44 = 2` (anisotropic: `2 C44 ≠ C11 - C12`), rotated by the 3-4-5 angle about z: the hypotheses
    of `reuss_moduli_invariant` / `hill_moduli_invariant` (two-sided inverse of `c`, a left inverse `s'` of the ROTATED
    stiffness) hold with `s' :=` the rotated closed-form compliance. -/
example : bulkReuss (sijklSetRaw (rot (rotZ (3 / 5 : ℚ) (4 / 5)) (sijklGet (cubicS 3 1 2)))) = bulkReuss (cubicS (3 : ℚ) 1 2) ∧
    shearReuss (sijklSetRaw (rot (rotZ (3 / 5 : ℚ) (4 / 5)) (sijklGet (cubicS 3 1 2)))) = shearReuss (cubicS (3 : ℚ) 1 2) := by
  have hcs := cubic_mul_cubicS (3 : ℚ) 1 2 (by norm_num) (by norm_num) (by norm_num)
  have hsc := cubicS_mul_cubic (3 : ℚ) 1 2 (by norm_num) (by norm_num) (by norm_num)
  have hO : Orthogonal (rotZ (3 / 5 : ℚ) (4 / 5)) := (rotZ_proper _ _ (by norm_num)).1
  exact reuss_moduli_invariant _ _ _ cubic312_symm hcs hsc _ hO
    (mul_eq_one_swap _ _ (compliance_transforms_as_tensor _ _ hcs _ hO))
-- the rotation really changes the 6x6 matrix (the instance is not the identity case): C16' ≠ 0 = C16
example : cijklSetRaw (rot (rotZ (3 / 5 : ℚ) (4 / 5)) (cijklGet (m6 (ctor_C11_C12_C44 (3 : ℚ) 1 2)))) 0 5 ≠ 0 := by
  decide +kernel

-- `invariance_group`: the cubic tensor under the product of two of its four-fold rotations, and under an inverse
example : rot (mmul (R4z : M33 ℚ) R4x) (cijklGet (m6 (ctor_C11_C12_C44 (3 : ℚ) 1 2))) = cijklGet (m6 (ctor_C11_C12_C44 (3 : ℚ) 1 2)) :=
  (invariance_group _ R4z R4x (system_invariant_cubic (3 : ℚ) 1 2).1 (system_invariant_cubic (3 : ℚ) 1 2).2.1).1
-- `cijkl_setter_complete`: the checks of the setter hold on the tensor of a symmetric matrix
example : MinorSymm (cijklGet (m6 (ctor_C11_C12_C44 (3 : ℚ) 1 2))) ∧ MajorSymm (cijklGet (m6 (ctor_C11_C12_C44 (3 : ℚ) 1 2))) :=
  cijkl_setter_complete _ (by decide +kernel)
-- `setCij_idem`: what the setter stores for the cubic matrix is stored unchanged a second time
example : ∃ n, setCij (m6 (ctor_C11_C12_C44 (3 : ℚ) 1 2)) = .ok n ∧ setCij n = .ok n := by
  have hs := cubic312_symm
  have h := (cij_setter_symm _ hs).1 (by decide +kernel)
  exact ⟨_, h, setCij_idem _ _ hs h⟩
-- `init_matrix_mixed_refused`: a matrix keyword together with a named constant
example : initRoute ["Cij", "C11"] = .assertFail :=
  init_matrix_mixed_refused _ (by decide) (by decide)
-- `object_set_overwrites` / `object_refused_set` / `object_reads_pure`: their hypotheses on concrete operations
example : (Op.putCij (m6 (ctor_C11_C12_C44 (3 : ℚ) 1 2))).store? (fun _ => none) = some (setCij (m6 (ctor_C11_C12_C44 (3 : ℚ) 1 2))) ∧
    (∀ o ∈ ([.getCij, .getCijkl, .est "bulk" "Voigt"] : List (Op ℚ)), o.store? (fun _ => none) = none) := by
  refine ⟨rfl, ?_⟩
  intro o ho
  simp at ho
  rcases ho with rfl | rfl | rfl <;> rfl
end nonvacuity

end Atomman.C11
