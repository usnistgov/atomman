/-
  C03 — "Neighbor list lists exactly the pairs closer than the cutoff": property theorems about the model
  `Atomman/C03.lean` of `atomman/core/nlist.pyx` + `NeighborList.py` (exact over ℚ).
  This file: the property theorems, the obligations about `Generated/NlistStorage.lean` (`Gen`), examples.
-/
import Proofs.C03_Rows
import Proofs.C03_Dist
import Proofs.C03_Lemmas
import Proofs.C03_Storage
import Proofs.C03_Geometry
import Proofs.C03_Text
import Proofs.C03_Bins
import Proofs.C03_Scale
import Proofs.C03_Mirror
import Proofs.C03_Source
import Proofs.Lists
import Proofs.Abs
import Mathlib.Data.List.Sort


namespace Atomman.C03
open List

theorem inv_small : Inv 3 [[1], [0], []] := by
  unfold Inv
  decide

/-- non-vacuity: a table satisfying `Inv`, and an insertion that changes it. -/
example : Inv 3 [[1], [0], []] ∧ insertPairL [[1], [0], []] 2 0 = [[1, 2], [0], [0]] := ⟨inv_small, by decide⟩

/-- the neighbor table computed by the algorithm (any cell, any positions, any cutoff) has one row
    per atom; every row is strictly ascending, hence free of duplicates; entries are atom indices, never the
    atom itself, and the table is symmetric. -/
theorem alg_inv (S : Sys) (cutoff : ℚ) :
    (nlistL S cutoff).length = S.natoms ∧ ∀ i, i < S.natoms →
      (rowOf (nlistL S cutoff) i).Pairwise (· < ·) ∧ (rowOf (nlistL S cutoff) i).Nodup ∧
      ∀ j ∈ rowOf (nlistL S cutoff) i, j < S.natoms ∧ j ≠ i ∧ i ∈ rowOf (nlistL S cutoff) j := by
  obtain ⟨h1, h2⟩ := (runL_spec S (cutoff * cutoff) (cands S cutoff) (cands_lt S cutoff)).1
  exact ⟨h1, fun i hi => ⟨(h2 i hi).1, (h2 i hi).1.imp Nat.ne_of_lt, (h2 i hi).2⟩⟩

/-- every listed pair is a pair of distinct atoms whose `dmag2` is below `cutoff²`. -/
theorem alg_sound (S : Sys) (cutoff : ℚ) (i j : Nat) (h : j ∈ rowOf (nlistL S cutoff) i) :
    j ≠ i ∧ dist2 S i j < cutoff * cutoff := ((mem_rowOf_runL (cands_lt S cutoff) i j).1 h).1

/-- the `j ≠ i` below the cutoff that were compared with `i` in either order, ascending. -/
def comparedFilter (S : Sys) (c2 : ℚ) (cs : List (Nat × Nat)) (i : Nat) : List Nat :=
  (List.range S.natoms).filter fun j =>
    decide (j ≠ i) && decide (dist2 S i j < c2) && (decide ((i, j) ∈ cs) || decide ((j, i) ∈ cs))

/-- whatever sequence `cs` of index pairs is compared, row `i` of the result is the
    ascending, duplicate-free list of the `j ≠ i` with `dmag2 i j < c2` that were compared with `i` (in either
    order): the output is a function of the *set* of compared pairs. -/
theorem alg_eq_compared (S : Sys) (c2 : ℚ) (cs : List (Nat × Nat))
    (hcs : ∀ uv ∈ cs, uv.1 < S.natoms ∧ uv.2 < S.natoms) (i : Nat) (hi : i < S.natoms) :
    rowOf (runL S c2 cs) i = comparedFilter S c2 cs i := by
  apply List.Pairwise.eq_of_mem_iff (r := (· < ·)) (((runL_spec S c2 cs hcs).1.2 i hi).1)
    (List.Pairwise.filter _ List.pairwise_lt_range)
  intro j
  rw [mem_rowOf_runL hcs]
  simp only [mem_filter, mem_range, Bool.and_eq_true, Bool.or_eq_true, decide_eq_true_eq]
  exact ⟨fun ⟨h, hm⟩ => ⟨hm.elim (fun m => (hcs _ m).2) (fun m => (hcs _ m).1), h, hm⟩, fun ⟨_, h, hm⟩ => ⟨h, hm⟩⟩

theorem runL_eq_compared (S : Sys) (c2 : ℚ) (cs : List (Nat × Nat))
    (hcs : ∀ uv ∈ cs, uv.1 < S.natoms ∧ uv.2 < S.natoms) :
    runL S c2 cs = (List.range S.natoms).map (comparedFilter S c2 cs) := by
  rw [rows_eq_map_rowOf (runL S c2 cs), (runL_spec S c2 cs hcs).1.1]
  exact List.map_congr_left fun i hi => alg_eq_compared S c2 cs hcs i (mem_range.1 hi)

/-- two candidate sequences with the same set of pairs (any order, any
    multiplicity — e.g. another sweep order of the occupied bins) give the same table. -/
theorem alg_order_irrelevant (S : Sys) (c2 : ℚ) (cs cs' : List (Nat × Nat))
    (hcs : ∀ uv ∈ cs, uv.1 < S.natoms ∧ uv.2 < S.natoms) (h : ∀ uv, uv ∈ cs ↔ uv ∈ cs') :
    runL S c2 cs = runL S c2 cs' := by
  rw [runL_eq_compared S c2 cs hcs, runL_eq_compared S c2 cs' fun uv huv => hcs uv ((h uv).2 huv)]
  unfold comparedFilter
  simp only [h]

theorem nlistA_refines (junk : Nat → Nat → Nat) (init delta : Nat) (hd : 1 ≤ delta) (S : Sys) (cutoff : ℚ) :
    WF S.natoms (nlistA junk init delta S cutoff) ∧ absRows (nlistA junk init delta S cutoff).rows = nlistL S cutoff :=
  runAW_refines junk init delta hd (accept S (cutoff * cutoff)) (accept_ne S _) S.natoms (cands S cutoff) (cands_lt S cutoff)

/-- for every `initialsize`, every `deltasize ≥ 1` and whatever `np.empty` leaves in fresh
    cells (`junk`), the fixed-capacity array with growth as coded, read through `NeighborList.__getitem__`
    (`absRows`), equals the table built on growing lists. -/
theorem storage_refines (junk : Nat → Nat → Nat) (init delta : Nat) (hd : 1 ≤ delta) (S : Sys) (cutoff : ℚ) :
    absRows (nlistA junk init delta S cutoff).rows = nlistL S cutoff :=
  (nlistA_refines junk init delta hd S cutoff).2

/-- in the returned array every row has `maxneighbors + 1` columns, and the reported
    coordination number `coord[i] = nlist[i,0]` equals the length of the list `NeighborList[i]`. -/
theorem storage_coord (junk : Nat → Nat → Nat) (init delta : Nat) (hd : 1 ≤ delta) (S : Sys) (cutoff : ℚ) :
    (nlistA junk init delta S cutoff).rows.length = S.natoms ∧
    ∀ r ∈ (nlistA junk init delta S cutoff).rows,
      r.length = (nlistA junk init delta S cutoff).maxn + 1 ∧ coordOf r = (absRow r).length := by
  have hwf := (nlistA_refines junk init delta hd S cutoff).1
  exact ⟨hwf.1, fun r hr => ⟨(hwf.2 r hr).1, (hwf.2 r hr).read.2⟩⟩

/-- a point on a bin edge belongs to the upper bin (`digitize`, right-open). -/
example : |((7 : ℚ) / 4) - 1| < 1 ∧ binIdx 0 1 5 (7 / 4) = 1 ∧ binIdx 0 1 5 1 = 1 := by
  refine ⟨by norm_num [abs_lt], by decide +kernel, by decide +kernel⟩

/-- if atom `i` lies inside the cell, every periodic image (`s ≠ 0` an admissible shift) of
    any atom `j` whose squared distance to atom `i` is below `cutoff²` passes the strict superbox test and is
    appended as a ghost of `j`. -/
theorem ghost_exists (S : Sys) (cutoff : ℚ) (hc : 0 < cutoff) (i j : Nat) (hj : j < S.natoms)
    (hin : InsideCell S (S.posOf i)) (s : Int × Int × Int) (hs : s ∈ imageShifts S.px S.py S.pz)
    (hclose : cand2 S.vects (S.posOf i) (S.posOf j) s < cutoff * cutoff) :
    inSuper (mkGrid S cutoff) (ghostPos S s j) = true ∧
    (j, binOf (mkGrid S cutoff) (ghostPos S s j)) ∈ ghostEntries S (mkGrid S cutoff) := by
  rw [cand2_eq_ghost] at hclose
  have h := (near_inside S cutoff hc _ _ hin hclose).1
  exact ⟨h, mem_ghostEntries.2 ⟨hj, s, hs, h, rfl⟩⟩

/-- with every atom inside the cell and `cutoff > 0`, any two distinct atoms with
    `dmag2 < cutoff²` are compared by the sweep over the occupied bins (in one order or the other). -/
theorem compared_complete (S : Sys) (cutoff : ℚ) (hc : 0 < cutoff)
    (hin : ∀ i, i < S.natoms → InsideCell S (S.posOf i)) (i j : Nat) (hi : i < S.natoms) (hj : j < S.natoms)
    (hij : i ≠ j) (hd : dist2 S i j < cutoff * cutoff) :
    (i, j) ∈ cands S cutoff ∨ (j, i) ∈ cands S cutoff := by
  unfold dist2 at hd
  obtain ⟨s, hs, (hlt : cand2 S.vects (S.posOf i) (S.posOf j) s < _)⟩ := (dmag2_lt_iff _ _ _ _ _ _ _).1 hd
  rw [cand2_eq_ghost] at hlt
  obtain ⟨h1, h2, h3, h4, h5, h6⟩ := near_inside S cutoff hc _ _ (hin i hi) hlt
  have hej : (j, binOf (mkGrid S cutoff) (ghostPos S s j)) ∈ entries S (mkGrid S cutoff) := by
    unfold allShifts at hs
    rcases mem_cons.1 hs with rfl | hs
    · rw [ghostPos_zero]; exact mem_entries.2 ⟨hj, Or.inl rfl⟩
    · exact mem_entries.2 ⟨hj, Or.inr ⟨s, hs, h1, rfl⟩⟩
  unfold cands
  exact cands_cover _ _ i j _ _ (mem_entries.2 ⟨hi, Or.inl rfl⟩) hej hij h4 h5 h6 h2 h3

/-- for a system whose atoms all lie inside the cell and `cutoff > 0`, the list
    of atom `i` is exactly the specification: the ascending list of all `j ≠ i` with `dmag2 i j < cutoff²`. -/
theorem alg_complete (S : Sys) (cutoff : ℚ) (hc : 0 < cutoff)
    (hin : ∀ i, i < S.natoms → InsideCell S (S.posOf i)) (i : Nat) (hi : i < S.natoms) :
    rowOf (nlistL S cutoff) i = nlistSpec S cutoff i := by
  unfold nlistL
  rw [alg_eq_compared S (cutoff * cutoff) (cands S cutoff) (cands_lt S cutoff) i hi]
  -- the third conjunct of `comparedFilter` follows from the first two
  refine List.filter_congr fun j hj => Bool.and_eq_left_iff_imp.2 fun h => ?_
  simp only [Bool.and_eq_true, Bool.or_eq_true, decide_eq_true_eq] at h ⊢
  exact compared_complete S cutoff hc hin i j hi (mem_range.1 hj) h.1.symm h.2

theorem nlistL_eq_spec (S : Sys) (cutoff : ℚ) (hc : 0 < cutoff)
    (hin : ∀ i, i < S.natoms → InsideCell S (S.posOf i)) :
    nlistL S cutoff = (List.range S.natoms).map (nlistSpec S cutoff) := by
  rw [rows_eq_map_rowOf (nlistL S cutoff), (alg_inv S cutoff).1]
  exact List.map_congr_left fun i hi => alg_complete S cutoff hc hin i (mem_range.1 hi)

theorem rowOf_absRows (rows : List (List Nat)) (i : Nat) : rowOf (absRows rows) i = absRow (rows.getD i []) :=
  getD_map_of_eq absRow rows i rfl

/-- the same for what `NeighborList` returns from the capacity array, for every
    `initialsize`, `deltasize ≥ 1`: `NeighborList[i]` is the specification and `coord[i]` its length. -/
theorem nlistA_complete (junk : Nat → Nat → Nat) (init delta : Nat) (hd : 1 ≤ delta) (S : Sys) (cutoff : ℚ)
    (hc : 0 < cutoff) (hin : ∀ i, i < S.natoms → InsideCell S (S.posOf i)) (i : Nat) (hi : i < S.natoms) :
    absRow ((nlistA junk init delta S cutoff).rows.getD i []) = nlistSpec S cutoff i ∧
    coordOf ((nlistA junk init delta S cutoff).rows.getD i []) = (nlistSpec S cutoff i).length := by
  obtain ⟨hl, h2⟩ := storage_coord junk init delta hd S cutoff
  have hrow : absRow ((nlistA junk init delta S cutoff).rows.getD i []) = nlistSpec S cutoff i := by
    rw [← rowOf_absRows, storage_refines junk init delta hd, alg_complete S cutoff hc hin i hi]
  have hmem : (nlistA junk init delta S cutoff).rows.getD i [] ∈ (nlistA junk init delta S cutoff).rows := by
    rw [List.getD_eq_getElem?_getD, List.getElem?_eq_getElem (by omega)]
    exact List.getElem_mem _
  exact ⟨hrow, by rw [(h2 _ hmem).2, hrow]⟩

/-- the acceptance test the driver runs (`tableAccept` on the memoised table) is `accept`, the
    test of the theorems, on every pair of atom indices. -/
theorem table_accept_as_modelled (S : Sys) (c2 : ℚ) (uv : Nat × Nat) (h1 : uv.1 < S.natoms) (h2 : uv.2 < S.natoms) :
    tableAccept (distTable S) c2 uv = accept S c2 uv := by
  unfold tableAccept accept
  by_cases e : uv.1 = uv.2
  · simp [e]
  · rw [tableDist_eq S uv.1 uv.2 h1 h2 e, Bool.and_comm]

theorem runLW_congr (acc acc' : Nat × Nat → Bool) (n : Nat) (cs : List (Nat × Nat)) (h : ∀ uv ∈ cs, acc uv = acc' uv) :
    runLW acc n cs = runLW acc' n cs :=
  List.foldl_ext _ _ _ fun rows uv huv => by unfold stepLW; rw [h uv huv]

/-- The returned array, computed with every distance evaluated once.  `nlistA` evaluates `dist2` (27 candidates) for
    every compared pair, and the sweep compares the same two atoms many times (through their ghosts); a concrete
    array is evaluated in this form. -/
theorem nlistA_eq_table (junk : Nat → Nat → Nat) (init delta : Nat) (S : Sys) (cutoff : ℚ) :
    nlistA junk init delta S cutoff
      = runAW junk init delta (tableAccept (distTable S) (cutoff * cutoff)) S.natoms (cands S cutoff) :=
  runAW_congr junk init delta _ _ _ _ fun uv h =>
    (table_accept_as_modelled S _ uv (cands_lt S cutoff uv h).1 (cands_lt S cutoff uv h).2).symm

/-- cubic cell of side 4, periodic, atoms at x = 1/2 and x = 7/2: direct distance 3, image distance 1 (the examples use the
    cutoff 3/2, for which the pair is close only through a periodic image). -/
def exSys : Sys :=
  ⟨⟨⟨4, 0, 0⟩, ⟨0, 4, 0⟩, ⟨0, 0, 4⟩⟩, ⟨0, 0, 0⟩, true, true, true, [⟨1/2, 1/2, 1/2⟩, ⟨7/2, 1/2, 1/2⟩]⟩

theorem exSys_inside : ∀ i, i < exSys.natoms → InsideCell exSys (exSys.posOf i) :=
  inside_of_rel exSys ([⟨1/8, 1/8, 1/8⟩, ⟨7/8, 1/8, 1/8⟩].getD · ⟨0, 0, 0⟩) (by decide +kernel)

example : (0 : ℚ) < 3 / 2 ∧ (∀ i, i < exSys.natoms → InsideCell exSys (exSys.posOf i)) ∧
    nlistSpec exSys (3 / 2) 0 = [1] := ⟨by norm_num, exSys_inside, by decide +kernel⟩

theorem nlistL_exSys : nlistL exSys (3 / 2) = [[1], [0]] := by
  rw [nlistL_eq_spec exSys (3 / 2) (by norm_num) exSys_inside]
  decide +kernel

/-- the stored witness (corpus/C03/000…), exact rational values of the doubles: two atoms within the cutoff `witCut` only
    through a periodic image whose ghost sits in a bin without real atoms (a sweep over the bins of real atoms only loses
    the pair; nlist.pyx takes `realbins` after the ghosts are appended, and the model sweeps every occupied bin). -/
def witSys : Sys :=
  ⟨⟨⟨(2427167740369581/562949953421312 : ℚ), 0, 0⟩, ⟨0, (6467962474385529/1125899906842624 : ℚ), 0⟩, ⟨0, 0, (1990236091110577/281474976710656 : ℚ)⟩⟩,
   ⟨(166474675184585/70368744177664 : ℚ), (1507007939526937/1125899906842624 : ℚ), (514300621904499/1125899906842624 : ℚ)⟩, true, true, true,
   [⟨(3223591773335033/1125899906842624 : ℚ), (1945874503438763/281474976710656 : ℚ), (8453806012516609/1125899906842624 : ℚ)⟩, ⟨(4700856993336123/1125899906842624 : ℚ), (7058136876690467/1125899906842624 : ℚ), (2327447334845759/1125899906842624 : ℚ)⟩]⟩
def witCut : ℚ := (5740257147792497/2251799813685248 : ℚ)
/-- the cell is orthorhombic: the relative coordinates are `(p - origin) / L`, axis by axis. -/
theorem witSys_inside : ∀ i, i < witSys.natoms → InsideCell witSys (witSys.posOf i) :=
  inside_of_rel witSys (fun i => ⟨((witSys.posOf i).x - witSys.origin.x) / witSys.vects.r0.x,
    ((witSys.posOf i).y - witSys.origin.y) / witSys.vects.r1.y,
    ((witSys.posOf i).z - witSys.origin.z) / witSys.vects.r2.z⟩) (by decide +kernel)

example : nlistL witSys witCut = [[1], [0]] := by
  rw [nlistL_eq_spec witSys witCut (by decide +kernel) witSys_inside]
  decide +kernel
example : nlistSpec witSys witCut 0 = [1] := by decide +kernel

set_option linter.unusedTactic false in
set_option linter.unreachableTactic false in
/-- the growth block as it stands in nlist.pyx (`Generated/NlistStorage.lean`: initial
    `maxatomsperbin`, array widths, trigger, copy loop bound, increment) is `Sound`. -/
theorem src_bins_sound : ∃ s, srcBinParams.Sound s := by
  -- with the trigger `c == maxatomsperbin` and all `maxatomsperbin + 1` columns copied no slot is ever lost (`s = 0`:
  -- a row `[count, a_1, …, a_m]` never holds more than `m - 1` atoms); an equivalent block that uses the spare slot
  -- is accepted with `s = 1`
  first
  | exact ⟨0, by bin_sound⟩
  | exact ⟨1, by bin_sound⟩

/-- a growth block that triggers one entry later than the source's AND copies one column less, with `maxatomsperbin = 2`. -/
def lossyParams : BinParams := ⟨2, (· + 1), fun c m => decide (m < c), (· + 11), (·), (· + 10)⟩
/-- it loses an atom: 3 entries in one bin. -/
example : membersA (fillBins lossyParams [(5, (0, 0, 0)), (6, (0, 0, 0)), (7, (0, 0, 0))]) (0, 0, 0) = [5, 0, 7] ∧
    members [(5, ((0, 0, 0) : Idx)), (6, (0, 0, 0)), (7, (0, 0, 0))] (0, 0, 0) = [5, 6, 7] := by decide
example : membersA (fillBins srcBinParams ((List.range 95).map fun i => (i, ((1, 2, 3) : Idx)))) (1, 2, 3)
    = List.range 95 := by
  obtain ⟨s, h⟩ := src_bins_sound
  rw [bins_refine srcBinParams s h]
  decide +kernel

/-- the pairs compared by the sweep when it reads the capacity table filled as coded are the
    pairs compared on list bins (same pairs, same order). -/
theorem cands_table_eq (S : Sys) (cutoff : ℚ) : candsA srcBinParams S cutoff = cands S cutoff := by
  obtain ⟨s, hs⟩ := src_bins_sound
  exact candsOfA_eq srcBinParams s hs _ _

theorem nlistFull_eq_nlistA (junk : Nat → Nat → Nat) (init delta : Nat) (S : Sys) (cutoff : ℚ) :
    nlistFull srcBinParams junk init delta S cutoff = nlistA junk init delta S cutoff := by
  unfold nlistFull nlistA
  rw [cands_table_eq]

theorem nlistCall_eq_nlistA (junk : Nat → Nat → Nat) (a b : SizeArg) (S : Sys) (cutoff : ℚ) :
    nlistCall junk a b S cutoff = nlistA junk (initialsizeOf a) (deltasizeOf b) S cutoff :=
  nlistFull_eq_nlistA junk _ _ S cutoff

/-- the whole of `nlist` with both capacity tables as coded (bin table growing from
    `maxatomsperbin = 40`, per-atom rows growing from `initialsize` by `deltasize ≥ 1`): for atoms inside the cell
    and `cutoff > 0`, `NeighborList[i]` is the specification and `coord[i]` its length. -/
theorem nlistFull_complete (junk : Nat → Nat → Nat) (init delta : Nat) (hd : 1 ≤ delta) (S : Sys) (cutoff : ℚ)
    (hc : 0 < cutoff) (hin : ∀ i, i < S.natoms → InsideCell S (S.posOf i)) (i : Nat) (hi : i < S.natoms) :
    absRow ((nlistFull srcBinParams junk init delta S cutoff).rows.getD i []) = nlistSpec S cutoff i ∧
    coordOf ((nlistFull srcBinParams junk init delta S cutoff).rows.getD i []) = (nlistSpec S cutoff i).length := by
  rw [nlistFull_eq_nlistA]
  exact nlistA_complete junk init delta hd S cutoff hc hin i hi

set_option linter.unusedSimpArgs false in
set_option linter.unusedTactic false in
set_option linter.unreachableTactic false in
set_option linter.unnecessarySeqFocus false in
/-- the growth block of the per-atom array as it stands in nlist.pyx (generated) is
    the one `insertPairA` / `growRows` / `initA` implement (for which `storage_refines` is proved): start width
    `initialsize + 1`, trigger "one of the two incremented coordination numbers exceeds `maxneighbors`", new width
    `maxneighbors + deltasize + 1`, columns `0 .. maxneighbors` copied, `maxneighbors += deltasize`. -/
theorem nbr_growth_as_modelled (init cu cv m d : Nat) :
    Gen.nbrInit init = init ∧ Gen.nbrInitWidth m = m + 1 ∧
    Gen.nbrTrigger (cu + 1) (cv + 1) m = (decide (m < cu + 1) || decide (m < cv + 1)) ∧
    Gen.nbrNewWidth m d = m + 1 + d ∧ Gen.nbrCopyCols m = m + 1 ∧ Gen.nbrGrow m d = m + d := by
  refine ⟨?_, ?_, ?_, ?_, ?_, ?_⟩
  -- written so that any arithmetically equal form of the source expressions is accepted
  · simp only [Gen.nbrInit] <;> omega
  · simp only [Gen.nbrInitWidth] <;> omega
  · rw [Bool.eq_iff_iff]
    simp only [Gen.nbrTrigger, Bool.or_eq_true, Bool.and_eq_true, Bool.not_eq_true', decide_eq_true_eq,
      decide_eq_false_iff_not] <;> omega
  · simp only [Gen.nbrNewWidth] <;> omega
  · simp only [Gen.nbrCopyCols] <;> omega
  · simp only [Gen.nbrGrow] <;> omega

/-- the default storage sizes standing in the source (`nlist` in nlist.pyx, `NeighborList.build`
    in NeighborList.py; regenerated on every run) are inside the quantifier of the property (`>= 1`): a call that leaves
    them out is covered by `storage_refines`.  (A default `deltasize = 0` would make the first growth a no-op and the next
    write land outside the array.) -/
theorem src_defaults_valid :
    1 ≤ Src.defInitialsize ∧ 1 ≤ Src.defDeltasize ∧ 1 ≤ Src.buildDefInitialsize ∧ 1 ≤ Src.buildDefDeltasize := by
  decide

/-- a `deltasize` given by the caller is `≥ 1` by hypothesis, one left out is a default of the source. -/
theorem deltasizeOf_pos {b : SizeArg} (hb : ∀ n, b = .given n → 1 ≤ n) : 1 ≤ deltasizeOf b := by
  cases b with
  | given n => exact hb n rfl
  | viaBuild => exact src_defaults_valid.2.2.2
  | viaNlist => exact src_defaults_valid.2.1

/-- end to end, every call form: whatever way the two storage sizes reach `nlist` — given by the
    caller (`deltasize ≥ 1`), left out in `NeighborList(system=, cutoff=)` / `System.neighborlist(cutoff=)` (defaults of
    `build`), left out in `nlist(system, cutoff)` (its own defaults) — for atoms inside the cell and `cutoff > 0` the
    returned object has `[i]` = the specification (ascending, exactly the `j ≠ i` below the cutoff) and `coord[i]` = its
    length. -/
theorem nlistCall_complete (junk : Nat → Nat → Nat) (a b : SizeArg) (hb : ∀ n, b = .given n → 1 ≤ n) (S : Sys)
    (cutoff : ℚ) (hc : 0 < cutoff) (hin : ∀ i, i < S.natoms → InsideCell S (S.posOf i)) (i : Nat) (hi : i < S.natoms) :
    absRow ((nlistCall junk a b S cutoff).rows.getD i []) = nlistSpec S cutoff i ∧
    coordOf ((nlistCall junk a b S cutoff).rows.getD i []) = (nlistSpec S cutoff i).length :=
  nlistFull_complete junk (initialsizeOf a) (deltasizeOf b) (deltasizeOf_pos hb) S cutoff hc hin i hi

/-- two calls that differ only in how the sizes were given (and in what `np.empty`
    left) return the same lists. -/
theorem nlistCall_form_irrelevant (junk junk' : Nat → Nat → Nat) (a b a' b' : SizeArg) (hb : ∀ n, b = .given n → 1 ≤ n)
    (hb' : ∀ n, b' = .given n → 1 ≤ n) (S : Sys) (cutoff : ℚ) (hc : 0 < cutoff)
    (hin : ∀ i, i < S.natoms → InsideCell S (S.posOf i)) (i : Nat) (hi : i < S.natoms) :
    absRow ((nlistCall junk a b S cutoff).rows.getD i []) = absRow ((nlistCall junk' a' b' S cutoff).rows.getD i []) := by
  rw [(nlistCall_complete junk a b hb S cutoff hc hin i hi).1, (nlistCall_complete junk' a' b' hb' S cutoff hc hin i hi).1]

/-- the array behind the returned `NeighborList`, for every call form: one row per atom, every row of width
    `maxneighbors + 1`, and `coord[i]` (column 0) is the length of `[i]`. -/
theorem nlistCall_shape (junk : Nat → Nat → Nat) (a b : SizeArg) (hb : ∀ n, b = .given n → 1 ≤ n) (S : Sys) (cutoff : ℚ) :
    (nlistCall junk a b S cutoff).rows.length = S.natoms ∧
    ∀ r ∈ (nlistCall junk a b S cutoff).rows,
      r.length = (nlistCall junk a b S cutoff).maxn + 1 ∧ coordOf r = (absRow r).length := by
  rw [nlistCall_eq_nlistA]
  exact storage_coord junk (initialsizeOf a) (deltasizeOf b) (deltasizeOf_pos hb) S cutoff

/-- "the result is independent of the initial and incremental storage sizes", without any
    condition on the system: for every cell, every position of the atoms (inside the cell or not), every cutoff, every way the
    two sizes are given or left out (`deltasize ≥ 1` when given) and whatever `np.empty` leaves in fresh cells, the lists read
    from the returned array are the lists `nlistL` built on growing lists, which do not mention the sizes. -/
theorem nlistCall_sizes_irrelevant (junk : Nat → Nat → Nat) (a b : SizeArg) (hb : ∀ n, b = .given n → 1 ≤ n) (S : Sys)
    (cutoff : ℚ) : absRows (nlistCall junk a b S cutoff).rows = nlistL S cutoff := by
  rw [nlistCall_eq_nlistA]
  exact storage_refines junk (initialsizeOf a) (deltasizeOf b) (deltasizeOf_pos hb) S cutoff

/-- the structural clauses for the object a call returns, in every call form and without any condition
    on the system: one list per atom; every list strictly ascending (sorted, free of duplicates), entries are atom indices
    other than the atom itself, and `j` in the list of `i` implies `i` in the list of `j`. -/
theorem nlistCall_structure (junk : Nat → Nat → Nat) (a b : SizeArg) (hb : ∀ n, b = .given n → 1 ≤ n) (S : Sys) (cutoff : ℚ) :
    (absRows (nlistCall junk a b S cutoff).rows).length = S.natoms ∧ ∀ i, i < S.natoms →
      (rowOf (absRows (nlistCall junk a b S cutoff).rows) i).Pairwise (· < ·) ∧
      (rowOf (absRows (nlistCall junk a b S cutoff).rows) i).Nodup ∧
      ∀ j ∈ rowOf (absRows (nlistCall junk a b S cutoff).rows) i,
        j < S.natoms ∧ j ≠ i ∧ i ∈ rowOf (absRows (nlistCall junk a b S cutoff).rows) j := by
  rw [nlistCall_sizes_irrelevant junk a b hb S cutoff]
  exact alg_inv S cutoff

example : (∀ n, SizeArg.viaBuild = .given n → 1 ≤ n) ∧ (∀ n, SizeArg.given 3 = .given n → 1 ≤ n) ∧
    absRows (nlistCall (fun _ _ => 7) .viaBuild .viaNlist exSys (3 / 2)).rows = [[1], [0]] ∧
    absRows (nlistCall (fun _ _ => 9) (.given 1) (.given 3) exSys (3 / 2)).rows = [[1], [0]] := by
  refine ⟨?_, ?_, ?_, ?_⟩
  · intro n h; cases h
  · intro n h; cases h; decide
  · rw [nlistCall_sizes_irrelevant _ _ _ (by intro n h; cases h), nlistL_exSys]
  · rw [nlistCall_sizes_irrelevant _ _ _ (by intro n h; cases h; decide), nlistL_exSys]

/-- the compared pairs of one bin, written with the loop indices of the source
    (`for u in range(len(shortlist)): for w, v in enumerate(range(u + 1, len(longlist)))`, `longlist` = `shortlist`
    followed by the members of the stencil bins), are the `binPairs` the theorems are about. -/
theorem sweep_loops_as_modelled (G : Grid) (es : List (Nat × Idx)) (b : Idx) :
    binPairs G es b = pairLoops (members es b) (stencilMembers G es b) := (pairsOf_eq_loops _ _).symm

theorem finalState_query (S : Sys) (c : ℚ) (ops : List Op) :
    finalState S (Op.query c :: ops) = finalState S ops := rfl

/-- whatever was done to the system before (moves, new boxes, new periodicity, earlier
    neighbor-list calls with any cutoff), the answer to a call is the neighbor list of the state the system has at
    that moment; earlier answers are not altered by appending the call. -/
theorem answers_fresh (S : Sys) (pre : List Op) (c : ℚ) :
    answers S (pre ++ [Op.query c]) = answers S pre ++ [nlistL (finalState S pre) c] := by
  induction pre generalizing S with
  | nil => simp [answers, finalState]
  | cons op pre ih =>
    -- whatever `op` is, both sides step to the state `applyOp S op` (a query leaves it as it is)
    cases op <;> simp only [List.cons_append, answers, ih] <;> rfl

/-- two histories that lead to the same state get the same answer. -/
theorem answers_history_independent (S S' : Sys) (pre pre' : List Op) (c : ℚ)
    (h : finalState S pre = finalState S' pre') :
    (answers S (pre ++ [Op.query c])).getLast? = (answers S' (pre' ++ [Op.query c])).getLast? := by
  rw [answers_fresh, answers_fresh, h]
  simp

/-- if after the operations all atoms lie inside the (current) cell, the answer to the call
    is the specification evaluated on the current state. -/
theorem answers_complete (S : Sys) (pre : List Op) (c : ℚ) (hc : 0 < c)
    (hin : ∀ i, i < (finalState S pre).natoms → InsideCell (finalState S pre) ((finalState S pre).posOf i)) :
    ∃ rows, (answers S (pre ++ [Op.query c])).getLast? = some rows ∧
      ∀ i, i < (finalState S pre).natoms → rowOf rows i = nlistSpec (finalState S pre) c i := by
  refine ⟨nlistL (finalState S pre) c, by rw [answers_fresh]; simp, fun i hi => ?_⟩
  exact alg_complete _ c hc hin i hi

/-- a move between two calls changes the second answer: cubic cell of side 4, atom 1 moved from x = 7/2 (image
    distance 1 from atom 0) to x = 2 (distance 3/2, not below the cutoff 3/2). -/
example : answers exSys [.query (3 / 2), .setPos 1 ⟨2, 1/2, 1/2⟩, .query (3 / 2)] = [[[1], [0]], [[], []]] := by
  have h2 : nlistL (applyOp exSys (.setPos 1 ⟨2, 1/2, 1/2⟩)) (3 / 2) = [[], []] := by
    rw [nlistL_eq_spec _ (3 / 2) (by norm_num)
      (inside_of_rel _ ([⟨1/8, 1/8, 1/8⟩, ⟨1/2, 1/8, 1/8⟩].getD · ⟨0, 0, 0⟩) (by decide +kernel))]
    decide +kernel
  exact congrArg₂ (fun a b => [a, b]) nlistL_exSys h2

/-- multiplying every length (cell vectors, origin, positions, cutoff) by `s ≠ 0` leaves the
    specification unchanged: the squared distances and the squared cutoff both pick up `s²`. -/
theorem spec_scale_invariant (s : ℚ) (hs : s ≠ 0) (S : Sys) (cutoff : ℚ) (i : Nat) :
    nlistSpec (scaleSys s S) (s * cutoff) i = nlistSpec S cutoff i := by
  rw [scaleSys_eq]
  exact spec_mapSys (similarity_smulV s hs) S (by ring) i

/-- an invariance of the computed lists is an invariance of the specification together with "inside the cell stays inside
    the cell". -/
theorem nlist_congr {S T : Sys} {cS cT : ℚ} (hn : T.natoms = S.natoms) (hcS : 0 < cS) (hcT : 0 < cT)
    (hinS : ∀ k, k < S.natoms → InsideCell S (S.posOf k)) (hinT : ∀ k, k < S.natoms → InsideCell T (T.posOf k))
    {i : Nat} (hi : i < S.natoms) (hs : nlistSpec T cT i = nlistSpec S cS i) :
    rowOf (nlistL T cT) i = rowOf (nlistL S cS) i := by
  rw [alg_complete T cT hcT (fun k hk => hinT k (hn ▸ hk)) i (hn ▸ hi), alg_complete S cS hcS hinS i hi, hs]

theorem nlist_mapSys {g : V3 ℚ → V3 ℚ} {k : ℚ} (hg : Similarity g k) (S : Sys) {cS cT : ℚ} (hc : cT * cT = k * (cS * cS))
    (hcS : 0 < cS) (hcT : 0 < cT) (hin : ∀ i, i < S.natoms → InsideCell S (S.posOf i)) {i : Nat} (hi : i < S.natoms) :
    rowOf (nlistL (mapSys g S) cT) i = rowOf (nlistL S cS) i :=
  nlist_congr (mapSys_natoms g S) hcS hcT hin
    (fun k hk => by rw [mapSys_posOf g hg.zero]; exact insideCell_mapSys hg S _ (hin k hk)) hi (spec_mapSys hg S hc i)

/-- for atoms inside the cell the lists computed by the algorithm (superbox, bins of the
    scaled cutoff, ghosts, sweep) are the same for the system measured in another unit of length (`s > 0`). -/
theorem nlist_scale_invariant (s : ℚ) (hs : 0 < s) (S : Sys) (cutoff : ℚ) (hc : 0 < cutoff)
    (hin : ∀ i, i < S.natoms → InsideCell S (S.posOf i)) (i : Nat) (hi : i < S.natoms) :
    rowOf (nlistL (scaleSys s S) (s * cutoff)) i = rowOf (nlistL S cutoff) i := by
  rw [scaleSys_eq]
  exact nlist_mapSys (similarity_smulV s hs.ne') S (by ring) hc (mul_pos hs hc) hin hi

/-- moving the whole system (origin and atoms) by `t` leaves the specification
    unchanged ("any origin"). -/
theorem spec_translate_invariant (t : V3 ℚ) (S : Sys) (cutoff : ℚ) (i : Nat) (hi : i < S.natoms) :
    nlistSpec (translateSys t S) cutoff i = nlistSpec S cutoff i :=
  spec_congr (translateSys_natoms t S) i fun j hj => by rw [dist2_translate t S i j hi hj]

/-- for atoms inside the cell the computed lists do not depend on where the cell sits
    (the superbox and the bin edges move with it; the lists do not change). -/
theorem nlist_translate_invariant (t : V3 ℚ) (S : Sys) (cutoff : ℚ) (hc : 0 < cutoff)
    (hin : ∀ i, i < S.natoms → InsideCell S (S.posOf i)) (i : Nat) (hi : i < S.natoms) :
    rowOf (nlistL (translateSys t S) cutoff) i = rowOf (nlistL S cutoff) i := by
  refine nlist_congr (translateSys_natoms t S) hc hc hin (fun k hk => ?_) hi (spec_translate_invariant t S cutoff i hi)
  rw [translateSys_posOf t S k hk]
  exact insideCell_translate t S _ (hin k hk)

/-- reflecting the whole system through coordinate planes (every Cartesian component of
    the cell vectors, the origin and the positions multiplied by a sign `σ_j = ±1`) leaves the specification unchanged.
    `diag(5, 6, 7)` becomes `diag(5, 6, -7)` with the origin on the top face; a LAMMPS-form cell gets any sign pattern
    on its diagonal; an odd number of reflections makes a right-handed cell left-handed. -/
theorem spec_mirror_invariant (σ : V3 ℚ) (hσ : IsSign σ) (S : Sys) (cutoff : ℚ) (i : Nat) :
    nlistSpec (mirrorSys σ S) cutoff i = nlistSpec S cutoff i := by
  rw [mirrorSys_eq]
  exact spec_mapSys (similarity_mulV σ hσ) S (one_mul _).symm i

/-- for atoms inside the cell the lists the algorithm computes (superbox, bins, ghosts,
    sweep: all of them look different in the mirror) are the same for the reflected system. -/
theorem nlist_mirror_invariant (σ : V3 ℚ) (hσ : IsSign σ) (S : Sys) (cutoff : ℚ) (hc : 0 < cutoff)
    (hin : ∀ i, i < S.natoms → InsideCell S (S.posOf i)) (i : Nat) (hi : i < S.natoms) :
    rowOf (nlistL (mirrorSys σ S) cutoff) i = rowOf (nlistL S cutoff) i := by
  rw [mirrorSys_eq]
  exact nlist_mapSys (similarity_mulV σ hσ) S (one_mul _).symm hc hc hin hi

/-- the same cell spanned from the far face of any of its vectors (the flagged vectors
    negated, the origin moved onto their far faces, the atoms untouched) has the same specification: the 27 / 9 / 3
    candidate separations are the same set. -/
theorem spec_farface_invariant (f0 f1 f2 : Bool) (S : Sys) (cutoff : ℚ) (i : Nat) :
    nlistSpec (farFaceSys f0 f1 f2 S) cutoff i = nlistSpec S cutoff i :=
  spec_congr (farFaceSys_natoms f0 f1 f2 S) i fun j _ => by rw [dist2_farFace]

/-- for atoms inside the cell the computed lists are those of the cell spanned from the far faces (the atoms are still inside:
    relative coordinate `r` becomes `1 - r` along a negated vector). -/
theorem nlist_farface_invariant (f0 f1 f2 : Bool) (S : Sys) (cutoff : ℚ) (hc : 0 < cutoff)
    (hin : ∀ i, i < S.natoms → InsideCell S (S.posOf i)) (i : Nat) (hi : i < S.natoms) :
    rowOf (nlistL (farFaceSys f0 f1 f2 S) cutoff) i = rowOf (nlistL S cutoff) i :=
  nlist_congr (farFaceSys_natoms f0 f1 f2 S) hc hc hin (fun k hk => insideCell_farFace f0 f1 f2 S _ (hin k hk)) hi
    (spec_farface_invariant f0 f1 f2 S cutoff i)

/-- listing the cell vectors (with their periodicity flags) in another order — the two
    generators of all six orders: first two exchanged, all three rotated — leaves the specification unchanged. -/
theorem spec_reorder_invariant (S : Sys) (cutoff : ℚ) (i : Nat) :
    nlistSpec (swapVecSys S) cutoff i = nlistSpec S cutoff i ∧
    nlistSpec (cycleVecSys S) cutoff i = nlistSpec S cutoff i :=
  ⟨spec_congr (S := S) (T := swapVecSys S) rfl i fun j _ => by rw [dist2_swapVec],
   spec_congr (S := S) (T := cycleVecSys S) rfl i fun j _ => by rw [dist2_cycleVec]⟩

/-- for atoms inside the cell the computed lists do not depend on the order in which the cell vectors (with their flags) are listed. -/
theorem nlist_reorder_invariant (S : Sys) (cutoff : ℚ) (hc : 0 < cutoff)
    (hin : ∀ i, i < S.natoms → InsideCell S (S.posOf i)) (i : Nat) (hi : i < S.natoms) :
    rowOf (nlistL (swapVecSys S) cutoff) i = rowOf (nlistL S cutoff) i ∧
    rowOf (nlistL (cycleVecSys S) cutoff) i = rowOf (nlistL S cutoff) i :=
  ⟨nlist_congr (S := S) (T := swapVecSys S) rfl hc hc hin (fun k hk => insideCell_swapVec S _ (hin k hk)) hi (spec_reorder_invariant S cutoff i).1,
   nlist_congr (S := S) (T := cycleVecSys S) rfl hc hc hin (fun k hk => insideCell_cycleVec S _ (hin k hk)) hi (spec_reorder_invariant S cutoff i).2⟩

/-- renaming the Cartesian axes (generators: x and y exchanged — a reflection —, all three
    rotated) leaves the specification unchanged; with `spec_mirror_invariant` this covers all 48 signed
    permutations of the axes (an axis-aligned cell may have its one non-zero entry per row anywhere, with any sign). -/
theorem spec_axes_invariant (S : Sys) (cutoff : ℚ) (i : Nat) :
    nlistSpec (mapSys swapXY S) cutoff i = nlistSpec S cutoff i ∧
    nlistSpec (mapSys cycleXYZ S) cutoff i = nlistSpec S cutoff i :=
  ⟨spec_mapSys similarity_swapXY S (one_mul _).symm i, spec_mapSys similarity_cycleXYZ S (one_mul _).symm i⟩

/-- for atoms inside the cell the computed lists do not depend on the names of the Cartesian axes. -/
theorem nlist_axes_invariant (S : Sys) (cutoff : ℚ) (hc : 0 < cutoff)
    (hin : ∀ i, i < S.natoms → InsideCell S (S.posOf i)) (i : Nat) (hi : i < S.natoms) :
    rowOf (nlistL (mapSys swapXY S) cutoff) i = rowOf (nlistL S cutoff) i ∧
    rowOf (nlistL (mapSys cycleXYZ S) cutoff) i = rowOf (nlistL S cutoff) i :=
  ⟨nlist_mapSys similarity_swapXY S (one_mul _).symm hc hc hin hi,
   nlist_mapSys similarity_cycleXYZ S (one_mul _).symm hc hc hin hi⟩

/-- a cell vector pointing down its axis: `diag(5, 6, -7)` with the origin on the top face (`diag(5, 6, 7)` seen in the mirror
    `z → -z`), periodic along that vector only, two atoms 1 apart through its periodic face. -/
def downSys : Sys :=
  ⟨⟨⟨5, 0, 0⟩, ⟨0, 6, 0⟩, ⟨0, 0, -7⟩⟩, ⟨1, 1, 7⟩, false, false, true, [⟨7/2, 4, 133/20⟩, ⟨7/2, 4, 13/20⟩]⟩

example : downSys = mirrorSys ⟨1, 1, -1⟩
      ⟨⟨⟨5, 0, 0⟩, ⟨0, 6, 0⟩, ⟨0, 0, 7⟩⟩, ⟨1, 1, -7⟩, false, false, true, [⟨7/2, 4, -133/20⟩, ⟨7/2, 4, -13/20⟩]⟩ := by
  simp only [downSys, mirrorSys, mulV, List.map]
  norm_num

example : IsSign ⟨1, 1, -1⟩ := by
  unfold IsSign
  norm_num

/-- the two atoms are neighbors (cutoff 3/2) in the specification and in the model, as in the unmirrored cell. -/
example : dist2 downSys 0 1 = 1 ∧ nlistSpec downSys (3/2) 0 = [1] ∧ nlistL downSys (3/2) = [[1], [0]] := by
  decide +kernel

/-- sheared cell `lx = ly = lz = 4, xy = 3`, no periodic direction, atoms at the two ends of the longest body diagonal
    (`|a + b + c|² = 81`, while `|a|² + |b|² + |c|² = 57`) and one at the centre. -/
def shearSys : Sys :=
  ⟨⟨⟨4, 0, 0⟩, ⟨3, 4, 0⟩, ⟨0, 0, 4⟩⟩, ⟨0, 0, 0⟩, false, false, false, [⟨0, 0, 0⟩, ⟨7/2, 2, 2⟩, ⟨7, 4, 4⟩]⟩

/-- a cutoff (8) longer than the Frobenius norm `√57` of the cell matrix does NOT make every pair a neighbor: the two ends of
    the diagonal are not neighbors, and the algorithm agrees. -/
example : (4 * 4 + (3 * 3 + 4 * 4) + 4 * 4 : ℚ) < 8 * 8 ∧
    nlistSpec shearSys 8 0 = [1] ∧ nlistSpec shearSys 8 2 = [1] ∧ nlistL shearSys 8 = [[1], [0, 2], [1]] := by
  decide +kernel

/-- every real-valued variable of `nlist` and `dmag2_c` — the cutoff parameter, `cutoff2`, the
    bin size, the superbox, the bin edges, the position / box buffers, the distance buffers — is declared `double`
    (float64) in the source of this run; so is every other variable those two functions declare with a real C type.
    The theorems of this file are about exact reals, the idealisation of `double`; a narrower declared type (`float
    cutoff`: the effective cutoff becomes the single-precision rounding of the requested one) is outside it. -/
theorem src_reals_double :
    Gen.ty_nlist_cutoff = .double ∧
    Gen.ty_nlist_cutoff2 = .double ∧
    Gen.ty_nlist_binsize = .double ∧
    Gen.ty_nlist_corner = .double ∧
    Gen.ty_nlist_supermin = .double ∧
    Gen.ty_nlist_supermax = .double ∧
    Gen.ty_nlist_xbins = .double ∧
    Gen.ty_nlist_ybins = .double ∧
    Gen.ty_nlist_zbins = .double ∧
    Gen.ty_nlist_posv = .double ∧
    Gen.ty_nlist_vects = .double ∧
    Gen.ty_nlist_origin = .double ∧
    Gen.ty_nlist_newposv = .double ∧
    Gen.ty_nlist_ghostpos = .double ∧
    Gen.ty_nlist_upos = .double ∧
    Gen.ty_nlist_vpos = .double ∧
    Gen.ty_nlist_dmag2 = .double ∧
    Gen.ty_nlist_pos = .double ∧
    Gen.ty_dmag_pos_0 = .double ∧
    Gen.ty_dmag_pos_1 = .double ∧
    Gen.ty_dmag_bvects = .double ∧
    Gen.ty_dmag_mag2_test = .double ∧
    Gen.ty_dmag_d = .double ∧
    Gen.ty_dmag_mag2_dv = .double ∧
    Gen.ty_dmag_mag2_d = .double ∧
    (∀ t ∈ Gen.otherReals, t = Gen.CReal.double) := by decide

set_option linter.unusedSimpArgs false in
set_option linter.unusedTactic false in
set_option linter.unreachableTactic false in
/-- the scalar expressions and tests standing in the source are the modelled ones:
    `cutoff2 = cutoff*cutoff` is what `nlistL` compares with, `binsize = cutoff` is the bin width of `mkGrid`,
    `if dmag2[w] < cutoff2: … if uindex != vindex:` is `accept` (strict), and the candidate loop of `dmag2_c` replaces
    its minimum on strict `<` (as `Atomman.dmag2`). -/
theorem src_scalars_as_modelled (S : Sys) (cutoff t m : ℚ) (uv : Nat × Nat) :
    nlistL S cutoff = runL S (Gen.cutoff2Of cutoff) (cands S cutoff) ∧
    (mkGrid S cutoff).c = Gen.binsizeOf cutoff ∧
    accept S (Gen.cutoff2Of cutoff) uv
      = (Gen.acceptTest (dist2 S uv.1 uv.2) (Gen.cutoff2Of cutoff) && Gen.distinctTest uv.1 uv.2) ∧
    Gen.minTest t m = decide (t < m) := by
  have h2 : Gen.cutoff2Of cutoff = cutoff * cutoff := by simp only [Gen.cutoff2Of] <;> ring
  refine ⟨?_, ?_, ?_, ?_⟩
  · rw [h2]; rfl
  · simp only [mkGrid, Gen.binsizeOf] <;> ring
  · rw [Bool.eq_iff_iff]
    simp only [accept, Gen.acceptTest, Gen.distinctTest, Bool.and_eq_true, decide_eq_true_eq, bne_iff_ne, ne_eq,
      gt_iff_lt, ge_iff_le]
  · rw [Bool.eq_iff_iff]
    simp only [Gen.minTest, decide_eq_true_eq, gt_iff_lt]

/-- `NeighborList.coord` / `NeighborList[i]` as they stand in NeighborList.py (column of the
    coordination number and first neighbor column regenerated from `build`; `__getitem__`, `__len__`, `coord`, `nlist`
    and the call of `nlist` pinned by the translator) are `coordOf` / `absRow`, for which `storage_coord` and
    `nlistFull_complete` are proved. -/
theorem getitem_as_modelled (row : List Nat) :
    coordOf row = row.getD Gen.coordCol 0 ∧ absRow row = (row.drop Gen.nbrFrom).take (row.getD Gen.coordCol 0) :=
  ⟨rfl, rfl⟩

/-- the text `NeighborList.dump` writes according to the source of this run (header writes,
    `'%i' % i`, `' %i' % j` per neighbor, `'\n'`; `renderGen`, regenerated from NeighborList.py) is `render`. -/
theorem dump_as_modelled (rows : Rows) : renderGen rows = render rows := by
  have hh : Gen.dumpHeader = header.flatMap (fun l => l ++ ['\n']) := by
    rw [header_eq_lines]
    decide +kernel
  unfold renderGen render renderLines
  rw [List.flatMap_append, hh, List.flatMap_def (l := List.mapIdx _ _), List.mapIdx_eq_zipIdx_map,
    List.mapIdx_eq_zipIdx_map, List.map_map]
  -- index format, neighbor format and end of line unfold to `renderLine i row ++ ['\n']`
  rfl

example : parse (render [[1, 12], [0], [], [0]]) = some [[1, 12], [0], [], [0]] := nlist_text_roundtrip _

/-- what the `dump` of the source of this run writes is read back by `load` as the same lists,
    for every number of atoms and every index size (the separating blank is part of the neighbor format). -/
theorem src_dump_roundtrip (rows : Rows) : parse (renderGen rows) = some rows := by
  rw [dump_as_modelled]; exact nlist_text_roundtrip rows

/-- six-digit indices: the source's format keeps them apart; a right-aligned fixed-width format without a separating
    blank (`'%6i'`, here through the generated `padLeft`) fuses them into one number on reading. -/
example :
    parse (renderGen ((List.replicate 100002 []).set 5 [99999, 100000, 100001]))
      = some ((List.replicate 100002 []).set 5 [99999, 100000, 100001]) ∧
    parseLine (Gen.padLeft 6 (Nat.toDigits 10 5) ++ Gen.padLeft 6 (Nat.toDigits 10 99999)
        ++ Gen.padLeft 6 (Nat.toDigits 10 100000) ++ Gen.padLeft 6 (Nat.toDigits 10 100001))
      = .entry 5 [99999100000100001] := by
  refine ⟨src_dump_roundtrip _, by decide +kernel⟩

/-- the computation of the driver's `nlist` request — pairs read from the capacity bin table
    filled as coded, acceptance from the memoised table, per-atom capacity rows with `initialsize` / `deltasize ≥ 1` and
    whatever `np.empty` leaves — is `nlistCall` of the theorems; read through `[i]` it gives the lists `nlistL`, with one row of
    width `maxneighbors + 1` per atom and `coord` = the list length. -/
theorem driver_pipeline_as_modelled (junk : Nat → Nat → Nat) (init delta : Nat) (hd : 1 ≤ delta) (S : Sys) (cutoff : ℚ) :
    runAW junk init delta (tableAccept (distTable S) (cutoff * cutoff)) S.natoms (candsA srcBinParams S cutoff)
      = nlistCall junk (.given init) (.given delta) S cutoff ∧
    absRows (nlistCall junk (.given init) (.given delta) S cutoff).rows = nlistL S cutoff := by
  refine ⟨?_, nlistCall_sizes_irrelevant junk _ _ (fun n h => by cases h; exact hd) S cutoff⟩
  refine runAW_congr junk init delta _ _ _ _ fun uv h => ?_
  rw [cands_table_eq] at h
  exact table_accept_as_modelled S _ uv (cands_lt S cutoff uv h).1 (cands_lt S cutoff uv h).2

/-- the pair list of the driver's request is `candsA srcBinParams` by definition, and a size left out in the driver's request is the default
    standing in the source. -/
example (S : Sys) (cutoff : ℚ) : candsA srcBinParams S cutoff =
    (occupied (entries S (mkGrid S cutoff))).flatMap
      (binPairsA (mkGrid S cutoff) (fillBins srcBinParams (entries S (mkGrid S cutoff)))) := rfl
example (junk : Nat → Nat → Nat) (a b : SizeArg) (S : Sys) (cutoff : ℚ) :
    nlistCall junk a b S cutoff = nlistCall junk (.given (initialsizeOf a)) (.given (deltasizeOf b)) S cutoff := rfl


section concrete

/-- tilted cell, non-zero origin, periodic in the first and third direction only, three atoms (relative coordinates
    `(1/8, 1/8, 1/10)`, `(7/8, 1/8, 1/10)`, `(1/2, 1/2, 9/10)`); atoms 0 and 1 are 3 apart directly and 1 apart through the
    image along the first cell vector. -/
def audSys : Sys :=
  ⟨⟨⟨4, 0, 0⟩, ⟨1, 4, 0⟩, ⟨1/2, 1, 5⟩⟩, ⟨1, -2, 1/2⟩, true, false, true,
   [⟨67/40, -7/5, 1⟩, ⟨187/40, -7/5, 1⟩, ⟨79/20, 9/10, 5⟩]⟩

theorem audSys_inside : ∀ i, i < audSys.natoms → InsideCell audSys (audSys.posOf i) :=
  inside_of_rel audSys ([⟨1/8, 1/8, 1/10⟩, ⟨7/8, 1/8, 1/10⟩, ⟨1/2, 1/2, 9/10⟩].getD · ⟨0, 0, 0⟩) (by decide +kernel)

theorem nlistL_audSys_near : nlistL audSys (3/2) = [[1], [0], []] := by
  rw [nlistL_eq_spec audSys (3/2) (by norm_num) audSys_inside]
  decide +kernel

theorem nlistL_audSys_far : nlistL audSys (5/2) = [[1, 2], [0, 2], [0, 1]] := by
  rw [nlistL_eq_spec audSys (5/2) (by norm_num) audSys_inside]
  decide +kernel

example : nlistL audSys (3/2) = [[1], [0], []] ∧ nlistL audSys (5/2) = [[1, 2], [0, 2], [0, 1]] ∧ dist2 audSys 0 1 = 1 :=
  ⟨nlistL_audSys_near, nlistL_audSys_far, by decide +kernel⟩

example : Inv 3 (insertPairL [[1], [0], []] 2 0) :=
  insert_inv (n := 3) (rows := [[1], [0], []]) inv_small (by decide) (by decide) (by decide)
example : (1 : Nat) ≠ 0 ∧ dist2 audSys 0 1 < 3/2 * (3/2) :=
  alg_sound audSys (3/2) 0 1 (by rw [nlistL_audSys_near]; decide)
example : rowOf (runL audSys (9/4) [(0, 1), (2, 1), (1, 0), (0, 1)]) 0 = comparedFilter audSys (9/4) [(0, 1), (2, 1), (1, 0), (0, 1)] 0 :=
  alg_eq_compared audSys (9/4) _ (by decide) 0 (by decide)
example : runL audSys (25/4) [(0, 1), (2, 1), (0, 2)] = runL audSys (25/4) [(0, 2), (0, 1), (0, 1), (2, 1)] :=
  alg_order_irrelevant audSys (25/4) _ _ (by decide) (by intro uv; simp only [List.mem_cons, List.not_mem_nil, or_false]; tauto)
example := storage_refines (fun i k => 7 * i + k) 1 1 (le_refl 1) audSys (5/2)
example := storage_coord (fun i k => 7 * i + k) 1 1 (le_refl 1) audSys (5/2)
example : absRows (nlistA (fun i k => 7 * i + k) 1 1 audSys (5/2)).rows = [[1, 2], [0, 2], [0, 1]] ∧
    (nlistA (fun i k => 7 * i + k) 1 1 audSys (5/2)).maxn = 2 := by
  refine ⟨(storage_refines _ 1 1 (le_refl 1) audSys (5/2)).trans nlistL_audSys_far, ?_⟩
  rw [nlistA_eq_table]
  decide +kernel
example : |binIdx 0 1 5 (5/4) - binIdx 0 1 5 (3/4)| ≤ 1 := adjacent_bins 0 1 5 (by norm_num) (3/4) (5/4) (by norm_num)
example : binIdx 0 1 5 (5/4) = 1 ∧ binIdx 0 1 5 (3/4) = 0 := by decide +kernel
/-- the image of atom 1 shifted by minus the first cell vector is close to atom 0 and is a ghost entry of the sweep. -/
example := ghost_exists audSys (3/2) (by norm_num) 0 1 (by decide) (audSys_inside 0 (by decide)) (-1, 0, 0) (by decide)
  (by decide +kernel)
example : (0, 1) ∈ cands audSys (3/2) ∨ (1, 0) ∈ cands audSys (3/2) :=
  compared_complete audSys (3/2) (by norm_num) audSys_inside 0 1 (by decide) (by decide) (by decide) (by decide +kernel)
example : rowOf (nlistL audSys (5/2)) 2 = nlistSpec audSys (5/2) 2 :=
  alg_complete audSys (5/2) (by norm_num) audSys_inside 2 (by decide)
example := nlistA_complete (fun i k => 7 * i + k) 1 1 (le_refl 1) audSys (5/2) (by norm_num) audSys_inside 2 (by decide)
example := nlistFull_complete (fun i k => 7 * i + k) 1 1 (le_refl 1) audSys (5/2) (by norm_num) audSys_inside 2 (by decide)
example := nlistCall_complete (fun i k => 7 * i + k) .viaNlist (.given 1) (by intro n h; cases h; decide) audSys (5/2) (by norm_num)
  audSys_inside 2 (by decide)
example := nlistCall_form_irrelevant (fun i k => 7 * i + k) (fun _ _ => 0) .viaNlist (.given 1) (.given 1) .viaBuild
  (by intro n h; cases h; decide) (by intro n h; cases h) audSys (5/2) (by norm_num) audSys_inside 2 (by decide)
example : ∀ b, membersA (fillBins srcBinParams (entries audSys (mkGrid audSys (3/2)))) b = members (entries audSys (mkGrid audSys (3/2))) b := by
  obtain ⟨s, h⟩ := src_bins_sound
  exact fun b => bins_refine srcBinParams s h _ b
/-- a history (move, new periodicity, an earlier call) ending in the state `audSys`. -/
example := answers_complete ⟨audSys.vects, audSys.origin, true, true, true, audSys.pos.set 2 ⟨0, 0, 0⟩⟩
  [.query 1, .setPos 2 ⟨79/20, 9/10, 5⟩, .setPbc true false true] (5/2) (by norm_num) audSys_inside
example := answers_history_independent ⟨audSys.vects, audSys.origin, true, true, true, audSys.pos.set 2 ⟨0, 0, 0⟩⟩ audSys
  [.query 1, .setPos 2 ⟨79/20, 9/10, 5⟩, .setPbc true false true] [] (5/2) rfl
example : rowOf (nlistL (scaleSys (3/2) audSys) (3/2 * (5/2))) 1 = rowOf (nlistL audSys (5/2)) 1 :=
  nlist_scale_invariant (3/2) (by norm_num) audSys (5/2) (by norm_num) audSys_inside 1 (by decide)
example : nlistSpec (translateSys ⟨1, -2, 1/3⟩ audSys) (5/2) 1 = nlistSpec audSys (5/2) 1 :=
  spec_translate_invariant ⟨1, -2, 1/3⟩ audSys (5/2) 1 (by decide)
example : rowOf (nlistL (translateSys ⟨1, -2, 1/3⟩ audSys) (5/2)) 1 = rowOf (nlistL audSys (5/2)) 1 :=
  nlist_translate_invariant ⟨1, -2, 1/3⟩ audSys (5/2) (by norm_num) audSys_inside 1 (by decide)
example : nlistSpec (mirrorSys ⟨-1, 1, -1⟩ audSys) (5/2) 1 = nlistSpec audSys (5/2) 1 :=
  spec_mirror_invariant ⟨-1, 1, -1⟩ (by unfold IsSign; norm_num) audSys (5/2) 1
example : rowOf (nlistL (mirrorSys ⟨-1, 1, -1⟩ audSys) (5/2)) 1 = rowOf (nlistL audSys (5/2)) 1 :=
  nlist_mirror_invariant ⟨-1, 1, -1⟩ (by unfold IsSign; norm_num) audSys (5/2) (by norm_num) audSys_inside 1 (by decide)
example := nlist_farface_invariant true false true audSys (5/2) (by norm_num) audSys_inside 1 (by decide)
example := nlist_reorder_invariant audSys (5/2) (by norm_num) audSys_inside 1 (by decide)
example := nlist_axes_invariant audSys (5/2) (by norm_num) audSys_inside 1 (by decide)
example : (mirrorSys ⟨-1, 1, -1⟩ audSys).vects.r2 = ⟨-1/2, 1, -5⟩ ∧ (farFaceSys true false true audSys).origin = ⟨11/2, -1, 11/2⟩ := by
  decide +kernel
/-- a scan that runs to the end of the filled part of a row: entries 1, 3 (columns 1, 2), new entry 5. -/
example : scanLoopA [2, 1, 3, 0] 5 2 1 = (true, 3) :=
  scan_exhausted [2, 1, 3, 0] 5 2 1 (by
    intro k h1 h2
    have : k = 1 ∨ k = 2 := by omega
    rcases this with rfl | rfl <;> decide)

/-- a negative factor (the specification only needs `s ≠ 0`). -/
example : nlistSpec (scaleSys (-2) audSys) (-2 * (5/2)) 1 = nlistSpec audSys (5/2) 1 :=
  spec_scale_invariant (-2) (by norm_num) audSys (5/2) 1
example := driver_pipeline_as_modelled (fun i k => 7 * i + k) 1 1 (le_refl 1) audSys (5/2)
example := nlistCall_shape (fun i k => 7 * i + k) .viaBuild (.given 1) (by intro n h; cases h; decide) audSys (5/2)
example : tableAccept (distTable audSys) (25/4) (2, 0) = accept audSys (25/4) (2, 0) :=
  table_accept_as_modelled audSys (25/4) (2, 0) (by decide) (by decide)
example : accept audSys (25/4) (2, 0) = true ∧ accept audSys (9/4) (2, 0) = false := by decide +kernel

end concrete

/-- an atom outside the cell (relative coordinate 3/2 along the first vector), no periodic direction: the lists are no longer
    the specification's business, but they still do not depend on the storage sizes. -/
example : absRows (nlistCall (fun i k => 7 * i + k) (.given 1) (.given 1)
      ⟨audSys.vects, audSys.origin, false, false, false, audSys.pos.set 1 ⟨267/40, -7/5, 1⟩⟩ (5/2)).rows =
    absRows (nlistCall (fun _ _ => 0) .viaBuild .viaNlist
      ⟨audSys.vects, audSys.origin, false, false, false, audSys.pos.set 1 ⟨267/40, -7/5, 1⟩⟩ (5/2)).rows := by
  rw [nlistCall_sizes_irrelevant _ _ _ (by intro n h; cases h; decide), nlistCall_sizes_irrelevant _ _ _ (by intro n h; cases h)]

example := nlistCall_structure (fun i k => 7 * i + k) .viaNlist (.given 1) (by intro n h; cases h; decide) audSys (5/2)

theorem ratAbs'_eq_abs (r : ℚ) : ratAbs' r = |r| := ite_neg_eq_abs r

/-- the cases the comparison with the real code exempts as "a distance within rounding of the cutoff" are
    exactly the systems with a pair of atoms `j < i` whose squared periodic distance is within `tol · cutoff²` of `cutoff²`. -/
theorem nearCutoff_iff (S : Sys) (cutoff tol : ℚ) :
    nearCutoff (distTable S) cutoff tol = true ↔
      ∃ i j, i < S.natoms ∧ j < i ∧ |dist2 S j i - cutoff * cutoff| ≤ tol * (cutoff * cutoff) := by
  unfold nearCutoff distTable
  simp only [List.any_toArray, List.any_map, List.any_eq_true, List.mem_range, Function.comp, decide_eq_true_eq,
    ratAbs'_eq_abs]
  constructor
  · rintro ⟨i, hi, j, hj, h⟩; exact ⟨i, j, hi, hj, h⟩
  · rintro ⟨i, j, hi, hj, h⟩; exact ⟨i, hi, j, hj, h⟩

example : nearCutoff (distTable audSys) 1 (1/1000) = true ∧ nearCutoff (distTable audSys) (3/2) (1/1000) = false := by
  decide +kernel

end Atomman.C03
