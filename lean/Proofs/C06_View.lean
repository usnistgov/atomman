/-
  C06 — `PropertyDict.__setitem__` (`viewSet`, with `addProp` and `allocVal`): its broadcast and guard steps (as equations
  over the source's decisions, and as the case lemmas the rule uses), the walk done once in the rule `post_viewSet`, and what
  follows from the rule: invariant, frame on the object
  under construction (`Priv`), exact results for an existing and for a new key.
-/
import Proofs.C06_Inv

namespace Atomman.C06

/-- `Val.ok` as a proposition. -/
def ValOK (v : Val) : Prop := v.data.length = prod v.shape ∧ ∀ c ∈ v.data, c.hasType v.dt = true

theorem valOK_of_ok (v : Val) (h : v.ok = true) : ValOK v := by
  simp only [Val.ok, Bool.and_eq_true, beq_iff_eq, List.all_eq_true] at h
  exact ⟨h.1, h.2⟩

theorem zeroCell_typed (dt : DType) : (zeroCell dt).hasType dt = true := by
  cases dt <;> simp [zeroCell, Cell.hasType]

/-- `np.zeros(shape, dtype)` is a well-formed literal. -/
theorem zerosOf_ok (dt : DType) (shape : List Nat) : ValOK ⟨dt, shape, List.replicate (prod shape) (zeroCell dt)⟩ :=
  ⟨List.length_replicate, fun c hc => by rw [(List.mem_replicate.mp hc).2]; exact zeroCell_typed dt⟩

theorem zerosLike_ok (v : Val) : ValOK (zerosLike v) := zerosOf_ok v.dt v.shape

theorem arrRows_mem {s : State} {a : Arr} (hv : ArrValid s a) (r : Row) (hr : r ∈ arrRows s a) :
    ∃ i ∈ a.idx, (s.buf a.buf).rows[i]? = some r ∧ r ∈ (s.buf a.buf).rows := by
  simp only [arrRows, List.mem_map] at hr
  obtain ⟨i, hi, rfl⟩ := hr
  have hlt := hv.2 i hi
  refine ⟨i, hi, ?_, ?_⟩
  · simp [List.getElem?_eq_getElem hlt]
  · simp [List.getElem?_eq_getElem hlt]

theorem arrRows_bufOK {κ : Nat → String} {s : State} (h : InvK κ s) {a : Arr} (hv : ArrValid s a) :
    BufOK ⟨arrDt s a, arrTrail s a, arrRows s a⟩ := by
  have hb := h.buf_ok a.buf
  constructor
  · intro r hr
    obtain ⟨i, _, _, hmem⟩ := arrRows_mem hv r hr
    exact hb.width r hmem
  · intro r hr c hc
    obtain ⟨i, _, _, hmem⟩ := arrRows_mem hv r hr
    exact hb.typed r hmem c hc

theorem arrVal_ok {κ : Nat → String} {s : State} (h : InvK κ s) {a : Arr} (hv : ArrValid s a) : ValOK (arrVal s a) := by
  have hb := arrRows_bufOK h hv
  constructor
  · simp only [arrVal, prod]
    rw [length_flatten_const _ _ hb.width]
    simp [arrRows]
  · intro c hc
    obtain ⟨r, hr, hcr⟩ := List.mem_flatten.mp hc
    exact hb.typed r hr c hcr

theorem arrVal_ge1 {s : State} {a : Arr} (h : AtypeOK s a) : ∀ c ∈ (arrVal s a).data, CellGE1 c := by
  intro c hc
  simp only [arrVal, arrRows, List.mem_flatten, List.mem_map] at hc
  obtain ⟨r, ⟨i, hi, rfl⟩, hcr⟩ := hc
  exact h i hi c hcr

theorem atypeOK_of_arrVal {s : State} {a : Arr} (h : ∀ c ∈ (arrVal s a).data, CellGE1 c) : AtypeOK s a := by
  intro i hi c hc
  apply h c
  simp only [arrVal, arrRows, List.mem_flatten, List.mem_map]
  exact ⟨_, ⟨i, hi, rfl⟩, hc⟩

theorem obj_set (s : State) (o o' : Nat) (x : AtomsObj) :
    ({ s with objs := s.objs.set o x } : State).obj o' = if o' = o ∧ o < s.objs.length then x else s.obj o' :=
  getD_set _ _ _ _ _

theorem find_none_iff (ob : AtomsObj) (key : String) : ob.find key = none ↔ ∀ p ∈ ob.props, p.key ≠ key := by
  unfold AtomsObj.find
  simp [List.find?_eq_none]

theorem find_append_new (ob : AtomsObj) (key : String) (a : Arr) (k : String) (b : Arr)
    (h : ob.find k = some b) : ({ ob with props := ob.props ++ [⟨key, a⟩] } : AtomsObj).find k = some b := by
  unfold AtomsObj.find at h ⊢
  simp only [List.find?_append]
  cases hf : ob.props.find? (fun p => p.key == k) with
  | none => simp [hf] at h
  | some p => simp [hf] at h ⊢; exact h

theorem find_append_self (ob : AtomsObj) (key : String) (a : Arr) (h : ob.find key = none) :
    ({ ob with props := ob.props ++ [⟨key, a⟩] } : AtomsObj).find key = some a := by
  unfold AtomsObj.find at h ⊢
  simp only [List.find?_append]
  cases hf : ob.props.find? (fun p => p.key == key) with
  | none => simp
  | some p => simp [hf] at h

theorem PropOK.of_heap_eq {κ : Nat → String} {s s' : State} {n : Nat} {p : PropRef} (h : PropOK κ s n p)
    (hh : s'.heap = s.heap) : PropOK κ s' n p := by
  have hb : ∀ b, s'.buf b = s.buf b := buf_congr hh
  refine ⟨⟨by rw [hh]; exact h.valid.1, by rw [hb]; exact h.valid.2⟩, h.len, h.key, ?_, h.nodup⟩
  intro hk i hi
  rw [hb]; exact h.atype hk i hi

def addedState (s : State) (o : Nat) (key : String) (a : Arr) : State :=
  { s with objs := s.objs.set o { s.obj o with props := (s.obj o).props ++ [⟨key, a⟩] } }

theorem addProp_eq (o : Nat) (key : String) (a : Arr) (s : State) :
    addProp o key a s = (.ok (), addedState s o key a) := rfl

theorem obj_added (s : State) (o o' : Nat) (key : String) (a : Arr) :
    (addedState s o key a).obj o' =
      if o' = o ∧ o < s.objs.length then { s.obj o with props := (s.obj o).props ++ [⟨key, a⟩] } else s.obj o' := by
  simp only [addedState, obj_set]

theorem added_reads (s : State) (o : Nat) (key : String) (a : Arr) (ho : o < s.objs.length) :
    ((addedState s o key a).obj o).props = (s.obj o).props ++ [⟨key, a⟩] ∧
    ((addedState s o key a).obj o).natoms = (s.obj o).natoms ∧
    (∀ o', o' ≠ o → (addedState s o key a).obj o' = s.obj o') ∧
    (∀ b, (addedState s o key a).buf b = s.buf b) ∧
    (addedState s o key a).objs.length = s.objs.length ∧ (addedState s o key a).syss = s.syss := by
  refine ⟨?_, ?_, ?_, fun _ => rfl, by simp [addedState], rfl⟩
  · rw [obj_added]; simp [ho]
  · rw [obj_added]; simp [ho]
  · intro o' hne; rw [obj_added]; simp [hne]

theorem heapExt_added (s : State) (o : Nat) (key : String) (a : Arr) : HeapExt s (addedState s o key a) :=
  ⟨[], by simp [addedState]⟩

theorem inv_addProp {κ : Nat → String} {s : State} (h : InvK κ s) (o : Nat) (key : String) (a : Arr)
    (hv : ArrValid s a) (hlen : a.idx.length = (s.obj o).natoms) (hk : κ a.buf = key)
    (hat : key = "atype" → AtypeOK s a) (hnew : (s.obj o).find key = none) (hnd : a.idx.Nodup) :
    InvK κ (addedState s o key a) ∧ Ext κ s κ (addedState s o key a) ∧
    (addedState s o key a).objs.length = s.objs.length ∧ (addedState s o key a).syss = s.syss ∧
    (addedState s o key a).heap = s.heap ∧
    (o < s.objs.length → ((addedState s o key a).obj o).find key = some a) := by
  have hle : Le s (addedState s o key a) := by
    refine ⟨Nat.le_refl _, fun _ _ => ⟨rfl, rfl, rfl⟩, by simp [addedState], ?_, Nat.le_refl _, fun _ _ => ⟨rfl, rfl⟩⟩
    intro o' ho'
    simp only [addedState, obj_set]
    split
    · rename_i hc
      rw [hc.1]
      exact ⟨rfl, fun k b hb => find_append_new _ _ _ _ _ hb⟩
    · exact ⟨rfl, fun _ _ hb => hb⟩
  refine ⟨⟨h.heap, ?_, ?_, ?_⟩, ⟨hle, fun _ _ => rfl⟩, by simp [addedState], rfl, rfl, ?_⟩
  · intro ob hob p hp
    rcases List.mem_or_eq_of_mem_set hob with h1 | h1
    · exact (h.props ob h1 p hp).of_heap_eq rfl
    · subst h1
      simp only [List.mem_append, List.mem_singleton] at hp
      rcases hp with hp | rfl
      · exact (h.obj_props o p hp).of_heap_eq rfl
      · exact (⟨hv, hlen, hk, hat, hnd⟩ : PropOK κ s _ _).of_heap_eq rfl
  · intro ob hob
    rcases List.mem_or_eq_of_mem_set hob with h1 | h1
    · exact h.nodup ob h1
    · subst h1
      simp only [List.map_append, List.map_cons, List.map_nil]
      rw [List.nodup_append]
      refine ⟨?_, by simp, ?_⟩
      · exact h.obj_nodup o
      · intro k hk1 k2 hk2
        simp only [List.mem_singleton] at hk2
        subst hk2
        simp only [List.mem_map] at hk1
        obtain ⟨p, hp, rfl⟩ := hk1
        exact (find_none_iff _ _).mp hnew p hp
  · intro y hy
    have := h.syss y hy
    simpa [addedState] using this
  · intro ho
    simp only [addedState, obj_set, ho, and_self, if_true]
    exact find_append_self _ _ _ hnew

/-- what `view[key] = value` may be handed: a well-formed literal, or an array of the heap that the
    ghost files under `key`. -/
def SrcOK (κ : Nat → String) (s : State) (key : String) : Src → Prop
  | .lit v => ValOK v
  | .arr a => ArrValid s a ∧ κ a.buf = key ∧ a.idx.Nodup

theorem SrcOK.mono {κ κ' : Nat → String} {s s' : State} {key : String} {src : Src} (h : SrcOK κ s key src)
    (hext : Ext κ s κ' s') : SrcOK κ' s' key src := by
  cases src with
  | lit v => exact h
  | arr a => exact ⟨h.1.mono hext.le, (hext.agree _ h.1.1).trans h.2.1, h.2.2⟩

theorem srcVal_ok {κ : Nat → String} {s : State} (h : InvK κ s) {key : String} {src : Src} (hs : SrcOK κ s key src) :
    ValOK (srcVal s src) := by
  cases src with
  | lit v => exact hs
  | arr a => exact arrVal_ok h hs.1

/-- `PropertyDict.__setitem__`'s broadcast step is the decision of the source applied to the value's shape. -/
theorem viewBcast_by_decision (s : State) (n : Nat) (src : Src) :
    viewBcast s n src =
      (match bcastDecision (srcVal s src).shape n with
       | .scalar => (match bcast (srcVal s src) [n] with
          | some flat => M.pure (Src.lit ⟨(srcVal s src).dt, [n], flat⟩)
          | none => fail .value)
       | .row => (match bcast (srcVal s src) (n :: (srcVal s src).shape.tail) with
          | some flat => M.pure (Src.lit ⟨(srcVal s src).dt, n :: (srcVal s src).shape.tail, flat⟩)
          | none => fail .value)
       | .refuse => fail .value
       | .keep => M.pure src) := by
  unfold viewBcast bcastDecision
  generalize srcVal s src = v
  rcases v with ⟨dt, shape, data⟩
  cases shape with
  | nil => rfl
  | cons d t =>
    by_cases h1 : d = 1
    · subst h1
      simp only [List.tail_cons, ↓reduceIte]
      generalize bcast ⟨dt, 1 :: t, data⟩ (n :: t) = r
      cases r <;> rfl
    · by_cases h2 : d = n
      · subst h2; simp [h1]
      · simp [h1, h2]

/-- the broadcast step of `view[key] = value` refuses when the decision is `refuse`. -/
theorem viewBcast_refuse (s : State) (n : Nat) (src : Src) (h : bcastDecision (srcVal s src).shape n = .refuse) (s0 : State) :
    viewBcast s n src s0 = (.error .value, s0) := by
  rw [viewBcast_by_decision, h]; rfl

/-- result of the broadcast step: a (copied) literal with leading length `n`, or the very array. -/
def BcastRes (s : State) (n : Nat) (src src' : Src) : Prop :=
  (∃ lv t, src' = .lit lv ∧ lv.shape = n :: t ∧ (ValOK (srcVal s src) → ValOK lv) ∧
      (∀ c ∈ lv.data, c ∈ (srcVal s src).data) ∧ lv.dt = (srcVal s src).dt ∧ t = (srcVal s src).shape.tail) ∨
  (∃ a, src = .arr a ∧ src' = .arr a ∧ a.idx.length = n)

theorem viewBcast_cases (s : State) (n : Nat) (src : Src) :
    (∃ e, viewBcast s n src = fail e) ∨
    (∃ src', viewBcast s n src = pure src' ∧ BcastRes s n src src') := by
  unfold viewBcast
  simp only []
  cases hshape : (srcVal s src).shape with
  | nil =>
    simp only []
    cases hflat : bcast (srcVal s src) [n] with
    | none => exact Or.inl ⟨_, rfl⟩
    | some flat =>
      refine Or.inr ⟨_, rfl, Or.inl ⟨_, [], rfl, rfl, ?_, bcast_mem _ _ _ hflat, rfl, by rw [hshape]; rfl⟩⟩
      exact fun hv => ⟨bcast_length _ _ _ hflat, fun c hc => hv.2 c (bcast_mem _ _ _ hflat c hc)⟩
  | cons d t =>
    simp only []
    by_cases hd1 : d = 1
    · rw [if_pos hd1]
      cases hflat : bcast (srcVal s src) (n :: t) with
      | none => exact Or.inl ⟨_, rfl⟩
      | some flat =>
        refine Or.inr ⟨_, rfl, Or.inl ⟨_, t, rfl, rfl, ?_, bcast_mem _ _ _ hflat, rfl, by rw [hshape]; rfl⟩⟩
        exact fun hv => ⟨bcast_length _ _ _ hflat, fun c hc => hv.2 c (bcast_mem _ _ _ hflat c hc)⟩
    · rw [if_neg hd1]
      by_cases hdn : d = n
      · rw [if_neg (not_not_intro hdn)]
        refine Or.inr ⟨src, rfl, ?_⟩
        cases src with
        | lit v =>
          exact Or.inl ⟨v, t, rfl, by rw [← hdn]; exact hshape, fun hv => hv, fun c hc => hc, rfl,
            by simp only [srcVal] at hshape ⊢; rw [hshape]; rfl⟩
        | arr a =>
          simp only [srcVal, arrVal] at hshape
          injection hshape with h1 h2
          exact Or.inr ⟨a, rfl, rfl, by rw [h1, hdn]⟩
      · rw [if_pos hdn]; exact Or.inl ⟨_, rfl⟩

/-- the broadcast step on an array with one entry per atom: the array itself, or — for a single atom — a copy. -/
theorem viewBcast_arr (s : State) (a : Arr) (hok : ValOK (arrVal s a)) :
    viewBcast s a.idx.length (.arr a) =
      pure (if a.idx.length = 1 then .lit ⟨arrDt s a, 1 :: arrTrail s a, (arrVal s a).data⟩ else .arr a) := by
  rw [viewBcast_by_decision]
  have hb : bcast (srcVal s (.arr a)) (a.idx.length :: arrTrail s a) = some (arrVal s a).data :=
    bcast_self (arrVal s a) hok.1
  simp only [show (srcVal s (.arr a)).shape = a.idx.length :: arrTrail s a from rfl, bcastDecision, List.tail_cons, hb]
  by_cases h1 : a.idx.length = 1
  · simp only [h1, if_true]; rfl
  · simp only [h1, if_false, ne_eq, not_true_eq_false]; rfl

/-- the guard of `view[key] = value` raises exactly under the condition of the source. -/
theorem viewGuard_refuses_iff (key : String) (n : Nat) (v : Val) (nums : List Rat) (s : State)
    (hn : v.data.mapM Cell.num? = some nums) (m : Rat) (hm : listMin nums = some m) :
    (viewGuard key n v s).1 = .error .value ↔ guardRefuses (key = "atype") n (m < 1) := by
  unfold viewGuard guardRefuses
  by_cases hk : key = "atype" ∧ 0 < n
  · rw [if_pos hk]; simp only [hn, hm]
    by_cases h1 : m < 1
    · simp [h1, hk.1, hk.2, fail]
    · simp [h1, M.pure]
  · rw [if_neg hk]
    constructor
    · intro h; simp [M.pure] at h
    · intro h; exact absurd ⟨h.1, h.2.1⟩ hk

theorem viewGuard_cases (key : String) (n : Nat) (v' : Val) :
    (∃ e, viewGuard key n v' = fail e) ∨
    (viewGuard key n v' = pure () ∧ (key = "atype" → 0 < n → ∀ c ∈ v'.data, CellGE1 c)) := by
  unfold viewGuard
  by_cases hc : key = "atype" ∧ 0 < n
  · rw [if_pos hc]
    cases hnums : v'.data.mapM Cell.num? with
    | none => exact Or.inl ⟨_, rfl⟩
    | some nums =>
      simp only []
      cases hm : listMin nums with
      | none => exact Or.inl ⟨_, rfl⟩
      | some m =>
        simp only []
        by_cases hlt : m < 1
        · rw [if_pos hlt]; exact Or.inl ⟨_, rfl⟩
        · rw [if_neg hlt]; exact Or.inr ⟨rfl, fun _ _ => cells_ge1_of_min _ _ _ hnums hm hlt⟩
  · rw [if_neg hc]
    exact Or.inr ⟨rfl, fun h1 h2 => absurd ⟨h1, h2⟩ hc⟩

theorem viewGuard_state (key : String) (n : Nat) (v : Val) (s : State) : (viewGuard key n v s).2 = s := by
  rcases viewGuard_cases key n v with ⟨e, h⟩ | ⟨h, _⟩ <;> rw [h] <;> rfl

theorem rows_of_val_ok {v : Val} (hv : ValOK v) {n : Nat} {trail : List Nat} (hs : v.shape = n :: trail) :
    BufOK ⟨v.dt, trail, rowsOf n (prod trail) v.data⟩ := by
  have hlen : v.data.length = n * prod trail := by rw [hv.1, hs]; rfl
  constructor
  · intro r hr; exact rowsOf_width _ _ _ r hr
  · intro r hr c hc
    exact hv.2 c (rowsOf_mem _ _ _ hlen r hr c hc)

theorem allocVal_eq (v : Val) (n : Nat) (trail : List Nat) (hs : v.shape = n :: trail) (s : State) :
    allocVal v s = (.ok ⟨s.heap.length, List.range n⟩,
      { s with heap := s.heap ++ [⟨v.dt, trail, rowsOf n (prod trail) v.data⟩] }) := by
  unfold allocVal
  rw [hs]
  simp only [alloc_eq, rowsOf_length]

/-- post-condition shared by the functions that do not create objects: invariant for an extended
    ghost, same number of objects, same systems. -/
def Kept (κ : Nat → String) (s : State) (s' : State) : Prop :=
  ∃ κ', InvK κ' s' ∧ Ext κ s κ' s' ∧ s'.objs.length = s.objs.length ∧ s'.syss = s.syss

theorem Kept.refl {κ : Nat → String} {s : State} (h : InvK κ s) : Kept κ s s := ⟨κ, h, Ext.refl κ s, rfl, rfl⟩

theorem Writes.kept {κ : Nat → String} {s st : State} (h : Writes κ s st) : Kept κ s st :=
  ⟨κ, h.inv, h.ext, by rw [h.objs], h.syss⟩

theorem Kept.trans {κ κ1 : Nat → String} {s s1 s2 : State} (hext : Ext κ s κ1 s1)
    (hobjs : s1.objs.length = s.objs.length) (hsys : s1.syss = s.syss) (h2 : Kept κ1 s1 s2) : Kept κ s s2 := by
  obtain ⟨κ2, hinv2, hext2, hobjs2, hsys2⟩ := h2
  exact ⟨κ2, hinv2, hext.trans hext2, by rw [hobjs2, hobjs], by rw [hsys2, hsys]⟩

theorem allSel_ok (n : Nat) : SelOK (allSel n) := by intro h; simp [allSel] at h

/-- what `view[key] = value` does with the broadcast value: write through an existing key, bind a new one. -/
def viewStore (o : Nat) (key : String) (s : State) (src' : Src) : M Unit :=
  match (s.obj o).find key with
  | some a => assign a (allSel (s.obj o).natoms) (srcVal s src')
  | none => do
    let a ← (match src' with
      | .lit lv => allocVal lv
      | .arr a => pure a : M Arr)
    addProp o key a

theorem viewSet_run (o : Nat) (key : String) (src : Src) (s : State) :
    viewSet o key src s = (viewBcast s (s.obj o).natoms src >>= fun src' =>
      viewGuard key (s.obj o).natoms (srcVal s src') >>= fun _ => viewStore o key s src') s := rfl

/-- the state after a new key `key` of object `o` is bound to the broadcast value: to the array itself, or to a fresh
    buffer holding the literal. -/
def boundTo (s : State) (o : Nat) (key : String) : Src → State
  | .lit lv => addedState { s with heap := s.heap ++ [⟨lv.dt, lv.shape.tail,
      rowsOf (s.obj o).natoms (prod lv.shape.tail) lv.data⟩] } o key ⟨s.heap.length, List.range (s.obj o).natoms⟩
  | .arr a => addedState s o key a

theorem boundTo_arr (s : State) (o : Nat) (key : String) (a : Arr) :
    boundTo s o key (.arr a) = addedState s o key a := rfl

theorem boundTo_lit (s : State) (o : Nat) (key : String) {lv : Val} {n : Nat} {t : List Nat} (h : lv.shape = n :: t) :
    boundTo s o key (.lit lv) = addedState { s with heap := s.heap ++ [⟨lv.dt, t,
      rowsOf (s.obj o).natoms (prod t) lv.data⟩] } o key ⟨s.heap.length, List.range (s.obj o).natoms⟩ := by
  simp only [boundTo, h, List.tail_cons]

/-- the broadcast step returned `src'` (exactly: `bcast`), which passed the `atype ≥ 1` test. -/
structure Passed (s : State) (o : Nat) (key : String) (src src' : Src) : Prop where
  bcast : viewBcast s (s.obj o).natoms src = pure src'
  res : BcastRes s (s.obj o).natoms src src'
  guard : key = "atype" → 0 < (s.obj o).natoms → ∀ c ∈ (srcVal s src').data, CellGE1 c

theorem Passed.lit {s : State} {o : Nat} {key : String} {src : Src} {lv : Val} (hp : Passed s o key src (.lit lv)) :
    ∃ t, lv.shape = (s.obj o).natoms :: t ∧ (ValOK (srcVal s src) → ValOK lv) := by
  rcases hp.res with ⟨lv', t, h1, h2, h3, -⟩ | ⟨a, -, h, -⟩
  · cases h1; exact ⟨t, h2, h3⟩
  · cases h

theorem Passed.arr {s : State} {o : Nat} {key : String} {src : Src} {a : Arr} (hp : Passed s o key src (.arr a)) :
    src = .arr a ∧ a.idx.length = (s.obj o).natoms := by
  rcases hp.res with ⟨lv', t, h1, -⟩ | ⟨a', h1, h2, h3⟩
  · cases h1
  · cases h2; exact ⟨h1, h3⟩

/-- `view[key] = value`, walked once.  It raises and leaves the state as it was; or — `src'` being the broadcast value,
    which passed the `atype ≥ 1` test — it assigns the whole column of an existing key, or binds a new key (`boundTo`). -/
theorem post_viewSet (o : Nat) (key : String) (src : Src) (s : State) (Q : Except Err Unit → State → Prop)
    (herr : ∀ e, Q (.error e) s)
    (hset : ∀ src' a, Passed s o key src src' → (s.obj o).find key = some a →
      Post (assign a (allSel (s.obj o).natoms) (srcVal s src')) s Q)
    (hnew : ∀ src', Passed s o key src src' → (s.obj o).find key = none → Q (.ok ()) (boundTo s o key src')) :
    Post (viewSet o key src) s Q := by
  unfold viewSet
  rw [post_bind_getS]
  simp only []
  rcases viewBcast_cases s (s.obj o).natoms src with ⟨e, he⟩ | ⟨src', he, hres⟩
  · rw [he, post_bind_fail]; exact herr e
  rw [he, post_bind_pure]
  rcases viewGuard_cases key (s.obj o).natoms (srcVal s src') with ⟨e, hg⟩ | ⟨hg, hguard⟩
  · rw [hg, post_bind_fail]; exact herr e
  rw [hg, post_bind_pure]
  have hp : Passed s o key src src' := ⟨he, hres, hguard⟩
  cases hfind : (s.obj o).find key with
  | some a => exact hset src' a hp hfind
  | none =>
    have hq := hnew src' hp hfind
    cases src' with
    | lit lv =>
      obtain ⟨t, hshape, -⟩ := hp.lit
      rw [boundTo_lit s o key hshape] at hq
      simp only []
      exact Post.bind_run (allocVal_eq lv _ t hshape s) (Post.of_eq _ _ (addProp_eq _ _ _ _) hq)
    | arr a =>
      simp only []
      rw [post_bind_pure]
      exact Post.of_eq _ _ (addProp_eq _ _ _ _) hq

theorem inv_viewSet {κ : Nat → String} {s : State} (h : InvK κ s) (o : Nat) (key : String) (src : Src)
    (hsrc : SrcOK κ s key src) :
    Post (viewSet o key src) s (fun r s' => Kept κ s s' ∧
      (r = .ok () → o < s.objs.length → ((s'.obj o).find key).isSome)) := by
  apply post_viewSet
  · exact fun e => ⟨Kept.refl h, by intro hc; cases hc⟩
  · intro src' a hpass hfind
    have hp := h.find_ok o key a hfind
    apply Post.mono (inv_assign h a (allSel (s.obj o).natoms) (srcVal s src') (allSel_ok _) ?_)
    · intro r s' hw
      refine ⟨hw.kept, ?_⟩
      intro _ ho
      have := (hw.ext.le.obj o ho).2 key a hfind
      simp [this]
    · intro hκ
      have hka : key = "atype" := hp.key.symm.trans hκ
      by_cases hn : 0 < (s.obj o).natoms
      · right; exact hpass.guard hka hn
      · left; simp [allSel]; omega
  · intro src' hpass hfind
    cases src' with
    | lit lv =>
      -- a literal (the caller's, or the materialised broadcast): fresh buffer
      obtain ⟨t, hshape, hlvok⟩ := hpass.lit
      rw [boundTo_lit s o key hshape]
      have hlv := hlvok (srcVal_ok h hsrc)
      obtain ⟨hinv1, hext1⟩ := inv_alloc h _ (rows_of_val_ok hlv hshape) key
      have hlen : lv.data.length = (s.obj o).natoms * prod t := by rw [hlv.1, hshape]; rfl
      have hat : key = "atype" → AtypeOK { s with heap := s.heap ++ [⟨lv.dt, t, rowsOf (s.obj o).natoms (prod t) lv.data⟩] }
          ⟨s.heap.length, List.range (s.obj o).natoms⟩ := by
        intro hka i hi c hc
        rw [buf_append_eq] at hc
        have hn : 0 < (s.obj o).natoms := Nat.zero_lt_of_lt (List.mem_range.mp hi)
        cases hr : (rowsOf (s.obj o).natoms (prod t) lv.data)[i]? with
        | none => rw [hr] at hc; cases hc
        | some r => rw [hr] at hc; exact hpass.guard hka hn c (rowsOf_mem _ _ _ hlen r (List.mem_of_getElem? hr) c hc)
      obtain ⟨hinv2, hext2, hlen2, hsys2, _, hfind2⟩ := inv_addProp hinv1 o key ⟨s.heap.length, List.range (s.obj o).natoms⟩
        (alloc_reads s ⟨lv.dt, t, rowsOf (s.obj o).natoms (prod t) lv.data⟩ _ (rowsOf_length ..)).1
        List.length_range (by simp [upd]) hat hfind List.nodup_range
      exact ⟨⟨_, hinv2, hext1.trans hext2, hlen2, hsys2⟩, fun _ ho => by rw [hfind2 ho]; rfl⟩
    | arr a =>
      -- the array itself is bound
      obtain ⟨rfl, hlen⟩ := hpass.arr
      rw [boundTo_arr]
      have hat : key = "atype" → AtypeOK s a := fun hka i hi =>
        atypeOK_of_arrVal (hpass.guard hka (by have := List.length_pos_of_mem hi; omega)) i hi
      obtain ⟨hinv2, hext2, hlen2, hsys2, _, hfind2⟩ := inv_addProp h o key a hsrc.1 hlen hsrc.2.1 hat hfind hsrc.2.2
      exact ⟨⟨_, hinv2, hext2, hlen2, hsys2⟩, fun _ ho => by rw [hfind2 ho]; rfl⟩

/-- **refines (`view[key] = value`, existing key)** — the value is broadcast (scalar → `(natoms,)`,
    leading 1 → `natoms`), checked (`atype ≥ 1`) and written over the whole column through the stored
    array: the column then reads exactly the cast rows of the broadcast value. -/
theorem viewSet_existing_refines {κ : Nat → String} {s : State} (h : InvK κ s) (o : Nat) (key : String) (src : Src)
    (a : Arr) (hfind : (s.obj o).find key = some a) :
    Post (viewSet o key src) s (fun r s' => (∀ e, r = .error e → s' = s) ∧
      (r = .ok () → ∃ src' newRows, BcastRes s (s.obj o).natoms src src' ∧
        AssignedRows s a (allSel (s.obj o).natoms) (srcVal s src') newRows ∧
        Wrote s a (allSel (s.obj o).natoms) newRows s' ∧ arrRows s' a = newRows)) := by
  have hp := h.find_ok o key a hfind
  apply post_viewSet
  · exact fun e => ⟨fun _ _ => rfl, fun hc => by cases hc⟩
  · intro src' a' hpass hfind'
    obtain rfl : a' = a := Option.some.inj (hfind'.symm.trans hfind)
    apply Post.mono (assign_wrote a' (allSel (s.obj o).natoms) (srcVal s src') s)
    intro r s' h2
    cases r with
    | error e => exact ⟨fun _ _ => h2, fun hc => by cases hc⟩
    | ok u =>
    refine ⟨fun e hc => (by cases hc), fun _ => ?_⟩
    obtain ⟨newRows, hn, _, hw⟩ := h2
    refine ⟨src', newRows, hpass.res, hn, hw, ?_⟩
    have hpos : ∀ p ∈ (allSel (s.obj o).natoms).pos, p < a'.idx.length := by
      intro p hp'; rw [hp.len]; simpa [allSel] using hp'
    rw [hw.readback hp.valid hp.nodup hpos]
    have hnl : newRows.length = (arrRows s a').length := by
      obtain ⟨flat, cells, _, _, hnr⟩ := hn
      rw [hnr, rowsOf_length]
      simp [arrRows, allSel, hp.len]
    have hl : (arrRows s a').length = (s.obj o).natoms := by simp [arrRows, hp.len]
    have : (allSel (s.obj o).natoms).pos = List.range (arrRows s a').length := by simp [allSel, hl]
    rw [this]
    exact writeRows_all _ _ hnl
  · intro _ _ hnone; rw [hfind] at hnone; cases hnone

/-- the private region of a constructor call that began in `s`, with `n` buffers and `m` objects: everything older is as
    it was, and the object under construction `o` keeps its arrays in younger buffers.  `n m` are parameters because
    the constructor of a `System` with `safecopy` follows a region across a later base state (thresholds of the state the call
    began in, frame counted from the state after the copy). -/
structure Priv (n m o : Nat) (s st : State) : Prop where
  frame : FrameOK n m s st
  fresh : FreshObj n o st
  heapLe : n ≤ st.heap.length
  objLe : m ≤ o

theorem Priv.step {n m o : Nat} {s st st' : State} (hp : Priv n m o s st) (hf : FrameOK n m st st')
    (hfr : FreshObj n o st') (hn : n ≤ st'.heap.length) : Priv n m o s st' :=
  ⟨hp.frame.trans hf, hfr, hn, hp.objLe⟩

theorem viewSet_lit_frame (o : Nat) (key : String) (v : Val) {n m : Nat} {s0 s : State} (hp : Priv n m o s0 s) :
    Post (viewSet o key (.lit v)) s (fun _ s' => Priv n m o s0 s' ∧ s'.objs.length = s.objs.length) := by
  have ⟨_, hfresh, hn, hm⟩ := hp
  apply post_viewSet
  · exact fun _ => ⟨hp, rfl⟩
  · intro src' a _ hfind
    obtain ⟨p, hp', _, hpa⟩ := find_mem _ _ _ hfind
    have ha : n ≤ a.buf := by rw [← hpa]; exact hfresh p hp'
    apply Post.mono (assign_frame a _ _ s n m ha)
    intro r s' ⟨hf, hobjs, hlen⟩
    refine ⟨hp.step hf ?_ (by rw [hlen]; exact hn), by rw [hobjs]⟩
    intro p hp'
    have : s'.obj o = s.obj o := obj_congr hobjs o
    rw [this] at hp'
    exact hfresh p hp'
  · intro src' hpass _
    cases src' with
    | arr a => cases hpass.arr.1
    | lit lv =>
    obtain ⟨t, hshape, -⟩ := hpass.lit
    rw [boundTo_lit s o key hshape]
    refine ⟨hp.step ⟨?_, ?_, rfl⟩ ?_ (by simp [addedState]; omega), by simp [addedState]⟩
    · intro b hb
      show (addedState _ o key _).buf b = s.buf b
      have : (addedState { s with heap := s.heap ++ [⟨lv.dt, t, rowsOf (s.obj o).natoms (prod t) lv.data⟩] } o key
          ⟨s.heap.length, List.range (s.obj o).natoms⟩).buf b =
          ({ s with heap := s.heap ++ [⟨lv.dt, t, rowsOf (s.obj o).natoms (prod t) lv.data⟩] } : State).buf b := rfl
      rw [this, buf_append_lt s _ b (by omega)]
    · intro o' ho'
      rw [obj_added]
      have : o' ≠ o := by omega
      simp [this]
      rfl
    · intro p hp
      rw [obj_added] at hp
      split at hp
      · simp only [List.mem_append, List.mem_singleton] at hp
        rcases hp with hp | rfl
        · exact hfresh p hp
        · exact hn
      · exact hfresh p hp

/-- **refines (`view[key] = value`, new key)** — the value is broadcast to `natoms` rows (scalar and
    leading-1 forms repeat the single row; the full form is taken row by row), stored in a buffer
    allocated by the call and bound as the last property of the object; nothing else changes (the exact
    resulting state is given). -/
theorem viewSet_new_refines (o : Nat) (key : String) (v : Val) (s : State) (hnew : (s.obj o).find key = none) :
    Post (viewSet o key (.lit v)) s (fun r s' => (∀ e, r = .error e → s' = s) ∧
      (r = .ok () → ∃ lv t, BcastRes s (s.obj o).natoms (.lit v) (.lit lv) ∧ lv.shape = (s.obj o).natoms :: t ∧
        s' = addedState { s with heap := s.heap ++ [⟨lv.dt, t, rowsOf (s.obj o).natoms (prod t) lv.data⟩] } o key
          ⟨s.heap.length, List.range (s.obj o).natoms⟩)) := by
  apply post_viewSet
  · exact fun e => ⟨fun _ _ => rfl, fun hc => by cases hc⟩
  · intro _ _ _ hfind; rw [hnew] at hfind; cases hfind
  · intro src' hpass _
    cases src' with
    | arr a => cases hpass.arr.1
    | lit lv =>
      obtain ⟨t, hshape, -⟩ := hpass.lit
      exact ⟨fun e hc => (by cases hc), fun _ => ⟨lv, t, hpass.res, hshape, boundTo_lit s o key hshape⟩⟩

/-- the new column reads the rows of the broadcast value; every array that existed reads what it read. -/
theorem viewSet_new_reads (s : State) (o : Nat) (key : String) (lv : Val) (t : List Nat) (ho : o < s.objs.length)
    (hnew : (s.obj o).find key = none) :
    let s' := addedState { s with heap := s.heap ++ [⟨lv.dt, t, rowsOf (s.obj o).natoms (prod t) lv.data⟩] } o key
      ⟨s.heap.length, List.range (s.obj o).natoms⟩
    (s'.obj o).find key = some ⟨s.heap.length, List.range (s.obj o).natoms⟩ ∧
    arrRows s' ⟨s.heap.length, List.range (s.obj o).natoms⟩ = rowsOf (s.obj o).natoms (prod t) lv.data ∧
    (s'.obj o).props = (s.obj o).props ++ [⟨key, ⟨s.heap.length, List.range (s.obj o).natoms⟩⟩] ∧
    (∀ o', o' ≠ o → s'.obj o' = s.obj o') ∧ HeapExt s s' ∧ s'.syss = s.syss := by
  intro s'
  obtain ⟨hprops, -, hoth, -, -, -⟩ := added_reads
    { s with heap := s.heap ++ [⟨lv.dt, t, rowsOf (s.obj o).natoms (prod t) lv.data⟩] } o key
    ⟨s.heap.length, List.range (s.obj o).natoms⟩ ho
  refine ⟨?_, ?_, hprops, hoth, (heapExt_alloc s _).trans (heapExt_added _ _ _ _), rfl⟩
  · have := find_append_self (s.obj o) key ⟨s.heap.length, List.range (s.obj o).natoms⟩ hnew
    unfold AtomsObj.find at this ⊢
    rw [hprops]
    exact this
  · exact (alloc_reads s ⟨lv.dt, t, rowsOf (s.obj o).natoms (prod t) lv.data⟩ _ (rowsOf_length ..)).2.1

end Atomman.C06
