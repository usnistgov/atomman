/-
  C08 — reading back what the C07 writers print: lexing of rendered documents, what the readers see of them, number tokens.
  The token and line lemmas are those of Proofs/C07_Text.lean (`okTok`: not empty, no white space, no newline, no `#`).
  `CleanTok` is `okTok` without the clause on `#`: what a name handed in by the caller (column names, atom_style words,
  symbols) has to satisfy.
-/
import Proofs.C08_Sig
import Proofs.C07_Files
namespace Atomman.C08
open Atomman Atomman.C07
set_option linter.unusedSimpArgs false


/-- a token that survives rendering and lexing: not empty, no white space, no newline. -/
def CleanTok (t : Tok) : Prop := t ≠ [] ∧ ∀ c ∈ t, isSpace c = false ∧ c ≠ '\n'

instance (t : Tok) : Decidable (CleanTok t) := by unfold CleanTok; infer_instance

theorem cleanTok_of_okTok {t : Tok} (h : okTok t) : CleanTok t :=
  ⟨h.1, fun c hc => ⟨(h.2 c hc).1, (h.2 c hc).2.1⟩⟩

theorem cleanTok_natTok (m : Nat) : CleanTok (natTok m) := cleanTok_of_okTok (okTok_natTok m)

theorem cleanTok_intTok (i : Int) : CleanTok (intTok i) := cleanTok_of_okTok (okTok_intTok i)

theorem cleanTok_fmtNum (f : Fmt) (q : ℚ) : CleanTok (fmtNum f q) := cleanTok_of_okTok (okTok_fmtNum f q)

theorem lexLine_joinSp (toks : Line) (h : ∀ t ∈ toks, CleanTok t) : lexLine (joinSp toks) = toks :=
  C07.lexLine_joinSp_words toks fun t ht => ⟨(h t ht).1, fun c hc => ((h t ht).2 c hc).1⟩

/-- the physical lines of a rendered document are its lines. -/
theorem splitLines_renderLines (doc : Doc) (h : ∀ l ∈ doc, ∀ t ∈ l, ∀ c ∈ t, c ≠ '\n') :
    splitLines (renderLines doc) = doc.map joinSp :=
  C07.splitLines_renderLines doc fun l hl => newline_not_mem_joinSp l (h l hl)

/-- three facts about what a float format prints. They hold for every format of the model (`readable_all`); the theorems
    that carry `Readable f` as a hypothesis do not draw on it. -/
structure Readable (f : Fmt) : Prop where
  parse : ∀ q, parseNum? (fmtNum f q) = some (fmtVal f q)
  clean : ∀ q, CleanTok (fmtNum f q)
  nohash : ∀ q, ∀ c ∈ fmtNum f q, c ≠ '#'

/-- every float format of the C07 model is readable: what `'%.nf'` and `'%.ne'` print is read back as the printed value
    (C07: `parseNum_fmtNum`) and is a plain token (C07: `okTok_fmtNum`). -/
theorem readable_all (f : Fmt) : Readable f where
  parse := parseNum_fmtNum f
  clean := cleanTok_fmtNum f
  nohash := fun q c hc => ((okTok_fmtNum f q).2 c hc).2.2

def CleanDoc (doc : Doc) : Prop := ∀ l ∈ doc, ∀ t ∈ l, CleanTok t

theorem CleanDoc.no_newline {doc : Doc} (h : CleanDoc doc) : ∀ l ∈ doc, ∀ t ∈ l, ∀ c ∈ t, c ≠ '\n' :=
  fun l hl t ht c hc => ((h l hl t ht).2 c hc).2

theorem cleanDoc_append (a b : Doc) (ha : CleanDoc a) (hb : CleanDoc b) : CleanDoc (a ++ b) :=
  List.forall_mem_append.mpr ⟨ha, hb⟩

/-- a document of the tokens the writers print themselves (numbers, keywords): what C07 proves of its layouts. -/
def PlainDoc (doc : Doc) : Prop := ∀ l ∈ doc, ∀ t ∈ l, okTok t

theorem PlainDoc.clean {doc : Doc} (h : PlainDoc doc) : CleanDoc doc := fun l hl t ht => cleanTok_of_okTok (h l hl t ht)

theorem cleanDoc_rowsDoc (f : Fmt) (rows : List (List Cell)) : CleanDoc (rowsDoc f rows) :=
  PlainDoc.clean (okTok_rowsDoc f rows)

/-- what pandas sees of a rendered clean document (no comment character): its lines that have tokens. -/
theorem rowsOfN_render (doc : Doc) (h : CleanDoc doc) :
    rowsOf false (splitLines (renderLines doc)) = doc.filter fun l => !l.isEmpty := by
  rw [splitLines_renderLines doc h.no_newline]
  unfold rowsOf
  rw [List.map_map]
  have : ∀ l ∈ doc, (termsOf false ∘ joinSp) l = l := by
    intro l hl
    simp only [Function.comp, termsOf, termsN, Bool.false_eq_true, if_false]
    exact lexLine_joinSp l (h l hl)
  rw [List.map_congr_left this, List.map_id']

theorem hasHash_no_hash (l : List Char) (h : '#' ∉ l) : hasHash l = false :=
  List.any_eq_false.mpr fun c hc => by simpa using fun e : c = '#' => h (e ▸ hc)

theorem sigOf_plain (toks : Line) (h : ∀ t ∈ toks, okTok t) : sigOf (joinSp toks) = ⟨toks, none⟩ := by
  unfold sigOf termsC hintOf
  rw [lex_strip_joinSp_ok toks h, hasHash_no_hash _ (hash_not_mem_joinSp toks fun t ht => (h t ht).2)]
  simp

def plainSig (t : Line) : SigLine := ⟨t, none⟩

/-- what the data-file reader sees of a rendered plain document: its lines that have tokens, as they stand. -/
theorem sig_plainDoc (doc : Doc) (h : PlainDoc doc) :
    sig (doc.map joinSp) = (doc.filter fun l => !l.isEmpty).map plainSig := by
  unfold sig
  rw [List.map_map, List.map_congr_left (f := sigOf ∘ joinSp) (g := plainSig) fun l hl => sigOf_plain l (h l hl), List.filter_map]
  rfl

theorem filter_nonempty (doc : Doc) (h : ∀ l ∈ doc, l ≠ []) : (doc.filter fun l => !l.isEmpty) = doc :=
  List.filter_eq_self.mpr fun l hl => by
    cases l with
    | nil => exact absurd rfl (h [] hl)
    | cons _ _ => rfl

theorem ne_nil_of_width {α : Type} {rows : List (List α)} {n : Nat} (h : ∀ r ∈ rows, r.length = n) (h0 : n ≠ 0) :
    ∀ r ∈ rows, r ≠ [] :=
  fun r hr e => h0 (by rw [← h r hr, e]; rfl)

theorem rowsDoc_ne_nil {f : Fmt} (rows : List (List Cell)) (hr : ∀ r ∈ rows, r ≠ []) : ∀ l ∈ rowsDoc f rows, l ≠ [] := by
  intro l hl
  simp only [rowsDoc, List.mem_map] at hl
  obtain ⟨r, hr', rfl⟩ := hl
  simpa using hr r hr'

theorem rowsDoc_take {f : Fmt} (rows : List (List Cell)) (rest : List Line) (n : Nat) (h : n = rows.length) :
    (rowsDoc f rows ++ rest).take n = rowsDoc f rows :=
  List.take_left' (by simp [rowsDoc, h])

theorem parseNum_of_parseInt (t : Tok) (i : Int) (h : parseInt? t = some i) : parseNum? t = some (i : ℚ) := by
  unfold parseInt? at h
  unfold parseNum?
  cases hk : parseNat? (splitSign t).2 with
  | none => simp [hk] at h
  | some k =>
    simp only [hk, Option.some.injEq] at h
    unfold parseNat? at hk
    split at hk
    · rename_i hd
      simp only [Option.some.injEq] at hk
      have hu : parseUnsigned? (splitSign t).2 = some ((k : Nat) : ℚ) := by
        unfold parseUnsigned?
        simp only [span_isDigit_all _ hd.2, fracPart, parseExp?, List.length_nil, List.append_nil, pow10_zero]
        rw [if_neg (by simp [hd.1])]
        simp [hk]
      rw [hu]
      simp only [Option.some.injEq]
      rw [← h]
      split <;> simp
    · cases hk

theorem parseVal_toRat (t : Tok) (q : ℚ) (h : parseNum? t = some q) : ∃ v, parseVal t = .ok v ∧ v.toRat = q := by
  unfold parseVal parseVal?
  cases hi : parseInt? t with
  | some i =>
    have := parseNum_of_parseInt t i hi
    rw [h] at this
    injection this with this
    exact ⟨.int i, rfl, by simp [Val.toRat, this]⟩
  | none =>
    simp only [h]
    exact ⟨.num q, rfl, rfl⟩

theorem parseVal_intTok (i : Int) : parseVal (intTok i) = .ok (.int i) := by
  unfold parseVal parseVal?
  rw [parseInt_intTok]
  rfl



/-- the value a printed cell denotes. -/
def cellRat (f : Fmt) : Cell → ℚ
  | .int i => (i : ℚ)
  | .num q => fmtVal f q

theorem parseVal_cellTok (f : Fmt) (c : Cell) :
    ∃ v, parseVal (c.tok f) = .ok v ∧ v.toRat = cellRat f c := by
  cases c with
  | int i => exact ⟨.int i, parseVal_intTok i, rfl⟩
  | num q => exact parseVal_toRat _ _ (parseNum_fmtNum f q)

theorem numeric_ne_keyword (x k : Tok) (hx : ∃ v, parseVal x = .ok v) (hk : parseVal k = .error "value") : x ≠ k := by
  intro h; subst h; obtain ⟨v, hv⟩ := hx; rw [hk] at hv; cases hv

theorem parseInt_natTok (m : Nat) : parseInt? (natTok m) = some (m : Int) := by
  have := parseInt_intTok (m : Int)
  unfold intTok at this
  simpa [show ¬ ((m : Int) < 0) by omega] using this

theorem pyInt_natTok (m : Nat) : pyInt (natTok m) = .ok (m : Int) := by
  unfold pyInt; rw [parseInt_natTok]; rfl

theorem pyInt_intTok (i : Int) : pyInt (intTok i) = .ok i := by
  unfold pyInt; rw [parseInt_intTok]; rfl

theorem pyFloat_fmt {f : Fmt} (q : ℚ) : pyFloat (fmtNum f q) = .ok (fmtVal f q) := by
  unfold pyFloat; rw [parseNum_fmtNum f q]; rfl

end Atomman.C08
