/-
  C02 — the broadcasting rule of the wrappers (`broadcast`, `dvectArr`): the three arms of the rule with the condition
  under which each is taken, and what follows from them — when there is a result, where its pairs come from, its length,
  the shapes one-to-many / many-to-one / many-to-many.
-/
import Atomman.C02
import Mathlib.Algebra.Order.Field.Basic

namespace Atomman.C02
open Atomman

variable {K : Type} [Field K] [LinearOrder K] [IsStrictOrderedRing K]

/-- the three arms of `broadcast` in the order they are tried.  The singleton arms overlap the equal-length arm only for two
    singletons, and there all three give the one pair. -/
theorem broadcast_cases {α : Type} (a b : List α) :
    (∃ x, a = [x] ∧ broadcast a b = some (b.map fun y => (x, y))) ∨
    (a.length ≠ 1 ∧ ∃ y, b = [y] ∧ broadcast a b = some (a.map fun x => (x, y))) ∨
    (a.length ≠ 1 ∧ b.length ≠ 1 ∧ broadcast a b = if a.length = b.length then some (a.zip b) else none) := by
  have ne1 : ∀ {l : List α}, (∀ x, l = [x] → False) → l.length ≠ 1 := fun h hl => by
    obtain ⟨x, rfl⟩ := List.length_eq_one_iff.mp hl; exact h x rfl
  unfold broadcast
  split
  · exact Or.inl ⟨_, rfl, rfl⟩
  · rename_i h0
    exact Or.inr (Or.inl ⟨ne1 h0, _, rfl, rfl⟩)
  · rename_i h0 h1
    exact Or.inr (Or.inr ⟨ne1 h0, ne1 h1, rfl⟩)

theorem broadcast_isSome_iff {α : Type} (l0 l1 : List α) :
    (∃ r, broadcast l0 l1 = some r) ↔ (l0.length = 1 ∨ l1.length = 1 ∨ l0.length = l1.length) := by
  rcases broadcast_cases l0 l1 with ⟨x, rfl, e⟩ | ⟨_, y, rfl, e⟩ | ⟨n0, n1, e⟩
  · exact ⟨fun _ => Or.inl rfl, fun _ => ⟨_, e⟩⟩
  · exact ⟨fun _ => Or.inr (Or.inl rfl), fun _ => ⟨_, e⟩⟩
  · rw [e]
    split
    · rename_i h; exact ⟨fun _ => Or.inr (Or.inr h), fun _ => ⟨_, rfl⟩⟩
    · rename_i h; exact ⟨(fun ⟨_, hr⟩ => nomatch hr), fun hc => (hc.elim n0 (fun hc => hc.elim n1 h)).elim⟩

theorem broadcast_mem {α : Type} (a b : List α) (l : List (α × α)) (h : broadcast a b = some l) :
    ∀ pq ∈ l, pq.1 ∈ a ∧ pq.2 ∈ b := by
  rcases broadcast_cases a b with ⟨x, rfl, e⟩ | ⟨_, y, rfl, e⟩ | ⟨_, _, e⟩ <;> rw [e] at h
  · cases h
    intro pq hpq
    obtain ⟨y, hy, rfl⟩ := List.mem_map.mp hpq
    exact ⟨List.mem_singleton_self x, hy⟩
  · cases h
    intro pq hpq
    obtain ⟨x, hx, rfl⟩ := List.mem_map.mp hpq
    exact ⟨hx, List.mem_singleton_self y⟩
  · split at h
    · cases h
      exact fun pq hpq => List.of_mem_zip hpq
    · cases h

theorem broadcast_length {α : Type} (l0 l1 : List α) (l : List (α × α)) (h : broadcast l0 l1 = some l) :
    l.length = if l0.length = 1 then l1.length else l0.length := by
  rcases broadcast_cases l0 l1 with ⟨x, rfl, e⟩ | ⟨n0, y, rfl, e⟩ | ⟨n0, _, e⟩ <;> rw [e] at h
  · cases h; rw [List.length_map]; rfl
  · cases h; rw [List.length_map, if_neg n0]
  · split at h
    · rename_i hl; cases h; rw [List.length_zip, ← hl, Nat.min_self, if_neg n0]
    · cases h

set_option linter.unusedSectionVars false in
theorem dvectArr_one_to_many (vects : M3 K) (px py pz : Bool) (a : V3 K) (bs : List (V3 K)) :
    dvectArr vects px py pz [a] bs = some (bs.map fun q => dvect vects px py pz a q) :=
  congrArg some (List.map_map ..)

set_option linter.unusedSectionVars false in
theorem dvectArr_many_to_one (vects : M3 K) (px py pz : Bool) (as : List (V3 K)) (b : V3 K)
    (h : as.length ≠ 1) :
    dvectArr vects px py pz as [b] = some (as.map fun p => dvect vects px py pz p b) := by
  rcases broadcast_cases as [b] with ⟨x, rfl, _⟩ | ⟨_, y, hy, e⟩ | ⟨_, n1, _⟩
  · exact absurd rfl h
  · cases hy; rw [dvectArr, e, Option.map_some, List.map_map]; rfl
  · exact absurd rfl n1

set_option linter.unusedSectionVars false in
/-- equal lengths pair up index by index (a one-element list against a one-element list included). -/
theorem dvectArr_many_to_many (vects : M3 K) (px py pz : Bool) (as bs : List (V3 K))
    (h : as.length = bs.length) :
    dvectArr vects px py pz as bs = some (List.zipWith (dvect vects px py pz) as bs) := by
  rw [dvectArr]
  rcases broadcast_cases as bs with ⟨x, rfl, e⟩ | ⟨_, y, rfl, e⟩ | ⟨_, _, e⟩ <;> rw [e]
  · obtain ⟨y, rfl⟩ := List.length_eq_one_iff.mp h.symm; rfl
  · obtain ⟨x, rfl⟩ := List.length_eq_one_iff.mp h; rfl
  · rw [if_pos h, Option.map_some, List.zip_eq_zipWith, List.map_zipWith]

set_option linter.unusedSectionVars false in
/-- rejected (ValueError) exactly when the lengths differ and neither is 1. -/
theorem dvectArr_none_iff (vects : M3 K) (px py pz : Bool) (as bs : List (V3 K)) :
    dvectArr vects px py pz as bs = none ↔ as.length ≠ bs.length ∧ as.length ≠ 1 ∧ bs.length ≠ 1 := by
  rw [dvectArr, Option.map_eq_none_iff, ← Option.not_isSome_iff_eq_none, Option.isSome_iff_exists, broadcast_isSome_iff]
  simp only [not_or]
  exact ⟨fun ⟨a, b, c⟩ => ⟨c, a, b⟩, fun ⟨c, a, b⟩ => ⟨a, b, c⟩⟩

end Atomman.C02
