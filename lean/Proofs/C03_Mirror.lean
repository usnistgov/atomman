/-
  C03 — `dist2` and `InsideCell` under other descriptions of the same system: mirrored through coordinate planes
  (`diag(5, 6, 7)` becomes `diag(5, 6, -7)` with its origin on the top face), spanned from the far face of some cell vectors,
  cell vectors listed in another order, axes renamed.  Mirrors and renamings are `Similarity`s (Proofs/C03_Scale.lean); in the
  other two cases the candidates are the same up to a bijection of the image shifts (`dmag2_congr`), compared as vectors
  before squaring.
-/
import Proofs.C03_Scale


namespace Atomman.C03
open List

def mulV (σ p : V3 ℚ) : V3 ℚ := ⟨σ.x * p.x, σ.y * p.y, σ.z * p.z⟩

/-- every component is `+1` or `-1` (stated as `σ² = 1`). -/
def IsSign (σ : V3 ℚ) : Prop := σ.x * σ.x = 1 ∧ σ.y * σ.y = 1 ∧ σ.z * σ.z = 1

def mirrorSys (σ : V3 ℚ) (S : Sys) : Sys :=
  { S with vects := ⟨mulV σ S.vects.r0, mulV σ S.vects.r1, mulV σ S.vects.r2⟩,
           origin := mulV σ S.origin, pos := S.pos.map (mulV σ) }

theorem mirrorSys_eq (σ : V3 ℚ) (S : Sys) : mirrorSys σ S = mapSys (mulV σ) S := rfl

theorem normSq_mulV (σ : V3 ℚ) (hσ : IsSign σ) (w : V3 ℚ) : V3.normSq (mulV σ w) = V3.normSq w := by
  have e : ∀ a t : ℚ, a * a = 1 → (a * t) * (a * t) = t * t := fun a t h => by rw [mul_mul_mul_comm, h, one_mul]
  simp only [V3.normSq, V3.dot, mulV, e _ _ hσ.1, e _ _ hσ.2.1, e _ _ hσ.2.2]

theorem similarity_mulV (σ : V3 ℚ) (hσ : IsSign σ) : Similarity (mulV σ) 1 where
  comb _ _ := by simp only [cornerAt, mapSys, mulV, V3.mk.injEq]; exact ⟨by ring, by ring, by ring⟩
  sub _ _ := by ext <;> simp only [mulV, V3.sub_x, V3.sub_y, V3.sub_z] <;> ring
  zero := by simp [mulV]
  normSq w := by rw [normSq_mulV σ hσ, one_mul]
  pos := one_pos

def negIf (b : Bool) (v : V3 ℚ) : V3 ℚ := if b then ⟨-v.x, -v.y, -v.z⟩ else v

def takeIf (b : Bool) (a : ℚ) : ℚ := if b then a else 0

/-- the same cell spanned from the opposite corner along the flagged vectors: those vectors negated, the origin moved
    by their sum; the atoms are not touched. -/
def farFaceSys (f0 f1 f2 : Bool) (S : Sys) : Sys :=
  { S with vects := ⟨negIf f0 S.vects.r0, negIf f1 S.vects.r1, negIf f2 S.vects.r2⟩,
           origin := ⟨S.origin.x + takeIf f0 S.vects.r0.x + takeIf f1 S.vects.r1.x + takeIf f2 S.vects.r2.x,
                      S.origin.y + takeIf f0 S.vects.r0.y + takeIf f1 S.vects.r1.y + takeIf f2 S.vects.r2.y,
                      S.origin.z + takeIf f0 S.vects.r0.z + takeIf f1 S.vects.r1.z + takeIf f2 S.vects.r2.z⟩ }

theorem farFaceSys_natoms (f0 f1 f2 : Bool) (S : Sys) : (farFaceSys f0 f1 f2 S).natoms = S.natoms := rfl

theorem farFaceSys_posOf (f0 f1 f2 : Bool) (S : Sys) (i : Nat) : (farFaceSys f0 f1 f2 S).posOf i = S.posOf i := rfl

/-- the image shift that gives the same candidate in the re-spanned cell. -/
def flipShift (f0 f1 f2 : Bool) (s : Int × Int × Int) : Int × Int × Int :=
  (if f0 then -s.1 else s.1, if f1 then -s.2.1 else s.2.1, if f2 then -s.2.2 else s.2.2)

theorem flipShift_mem {px py pz : Bool} (f0 f1 f2 : Bool) {s : Int × Int × Int} (h : s ∈ allShifts px py pz) :
    flipShift f0 f1 f2 s ∈ allShifts px py pz := by
  rw [mem_allShifts] at h ⊢
  refine ⟨?_, ?_, ?_⟩
  · cases f0
    · exact h.1
    · exact neg_mem_pbcRange h.1
  · cases f1
    · exact h.2.1
    · exact neg_mem_pbcRange h.2.1
  · cases f2
    · exact h.2.2
    · exact neg_mem_pbcRange h.2.2

theorem flipShift_flipShift (f0 f1 f2 : Bool) (s : Int × Int × Int) :
    flipShift f0 f1 f2 (flipShift f0 f1 f2 s) = s := by
  obtain ⟨a, b, c⟩ := s
  cases f0 <;> cases f1 <;> cases f2 <;> simp [flipShift]

theorem flip_mul (f : Bool) (n : Int) (a : ℚ) : ((if f then -n else n : Int) : ℚ) * (if f then -a else a) = n * a := by
  cases f <;> simp

theorem cand2_farFace (f0 f1 f2 : Bool) (V : M3 ℚ) (p0 p1 : V3 ℚ) (s : Int × Int × Int) :
    cand2 (⟨negIf f0 V.r0, negIf f1 V.r1, negIf f2 V.r2⟩ : M3 ℚ) p0 p1 (flipShift f0 f1 f2 s) = cand2 V p0 p1 s := by
  refine congrArg V3.normSq (V3.ext ?_ ?_ ?_) <;>
    simp only [shiftBy, flipShift, negIf, apply_ite V3.x, apply_ite V3.y, apply_ite V3.z, flip_mul]

theorem dmag2_farFace (f0 f1 f2 : Bool) (V : M3 ℚ) (px py pz : Bool) (p0 p1 : V3 ℚ) :
    dmag2 (⟨negIf f0 V.r0, negIf f1 V.r1, negIf f2 V.r2⟩ : M3 ℚ) px py pz p0 p1 = dmag2 V px py pz p0 p1 :=
  dmag2_congr (flipShift f0 f1 f2) (flipShift f0 f1 f2)
    (fun s hs => ⟨flipShift_mem f0 f1 f2 hs, cand2_farFace f0 f1 f2 V p0 p1 s⟩)
    (fun s hs => ⟨flipShift_mem f0 f1 f2 hs, by
      have h := cand2_farFace f0 f1 f2 V p0 p1 (flipShift f0 f1 f2 s)
      rw [flipShift_flipShift] at h
      exact h.symm⟩)

theorem dist2_farFace (f0 f1 f2 : Bool) (S : Sys) (u v : Nat) :
    dist2 (farFaceSys f0 f1 f2 S) u v = dist2 S u v := by
  unfold dist2
  rw [farFaceSys_posOf, farFaceSys_posOf]
  exact dmag2_farFace f0 f1 f2 S.vects S.px S.py S.pz _ _

/-- along a negated vector the relative coordinate `r` becomes `1 - r`. -/
theorem farFace_coord (f : Bool) (r : ℚ) (h0 : 0 ≤ r) (h1 : r ≤ 1) :
    (0 ≤ (if f then 1 - r else r) ∧ (if f then 1 - r else r) ≤ 1) ∧
    ∀ a : ℚ, takeIf f a + (if f then 1 - r else r) * (if f then -a else a) = r * a := by
  cases f <;> simp only [takeIf, if_true, Bool.false_eq_true, if_false] <;>
    exact ⟨⟨by linarith, by linarith⟩, fun a => by ring⟩

theorem insideCell_farFace (f0 f1 f2 : Bool) (S : Sys) (p : V3 ℚ) (h : InsideCell S p) :
    InsideCell (farFaceSys f0 f1 f2 S) p := by
  obtain ⟨r, h0, h1, h2, h3, h4, h5, hp⟩ := h
  obtain ⟨⟨a0, a1⟩, ea⟩ := farFace_coord f0 r.x h0 h1
  obtain ⟨⟨b0, b1⟩, eb⟩ := farFace_coord f1 r.y h2 h3
  obtain ⟨⟨c0, c1⟩, ec⟩ := farFace_coord f2 r.z h4 h5
  refine ⟨⟨if f0 then 1 - r.x else r.x, if f1 then 1 - r.y else r.y, if f2 then 1 - r.z else r.z⟩,
    a0, a1, b0, b1, c0, c1, ?_⟩
  rw [hp]
  simp only [farFaceSys, negIf, apply_ite V3.x, apply_ite V3.y, apply_ite V3.z, V3.mk.injEq]
  -- per coordinate: the three far-face terms and the three `1 - r` terms regroup into `r` times the vector
  refine ⟨?_, ?_, ?_⟩ <;> rw [← ea, ← eb, ← ec] <;> ring

def swapVecSys (S : Sys) : Sys :=
  { S with vects := ⟨S.vects.r1, S.vects.r0, S.vects.r2⟩, px := S.py, py := S.px }

def cycleVecSys (S : Sys) : Sys :=
  { S with vects := ⟨S.vects.r1, S.vects.r2, S.vects.r0⟩, px := S.py, py := S.pz, pz := S.px }

theorem dist2_swapVec (S : Sys) (u v : Nat) : dist2 (swapVecSys S) u v = dist2 S u v :=
  dmag2_swapVec S.vects S.px S.py S.pz _ _

theorem dist2_cycleVec (S : Sys) (u v : Nat) : dist2 (cycleVecSys S) u v = dist2 S u v :=
  dmag2_cycleVec S.vects S.px S.py S.pz _ _

theorem insideCell_swapVec (S : Sys) (p : V3 ℚ) (h : InsideCell S p) : InsideCell (swapVecSys S) p := by
  obtain ⟨r, h0, h1, h2, h3, h4, h5, hp⟩ := h
  refine ⟨⟨r.y, r.x, r.z⟩, h2, h3, h0, h1, h4, h5, ?_⟩
  rw [hp]
  simp only [swapVecSys, V3.mk.injEq]
  refine ⟨by ring, by ring, by ring⟩

theorem insideCell_cycleVec (S : Sys) (p : V3 ℚ) (h : InsideCell S p) : InsideCell (cycleVecSys S) p := by
  obtain ⟨r, h0, h1, h2, h3, h4, h5, hp⟩ := h
  refine ⟨⟨r.y, r.z, r.x⟩, h2, h3, h4, h5, h0, h1, ?_⟩
  rw [hp]
  simp only [cycleVecSys, V3.mk.injEq]
  refine ⟨by ring, by ring, by ring⟩

def swapXY (p : V3 ℚ) : V3 ℚ := ⟨p.y, p.x, p.z⟩
def cycleXYZ (p : V3 ℚ) : V3 ℚ := ⟨p.y, p.z, p.x⟩

theorem similarity_swapXY : Similarity swapXY 1 where
  comb _ _ := rfl
  sub _ _ := rfl
  zero := rfl
  normSq w := by simp only [V3.normSq, V3.dot, swapXY]; ring
  pos := one_pos

theorem similarity_cycleXYZ : Similarity cycleXYZ 1 where
  comb _ _ := rfl
  sub _ _ := rfl
  zero := rfl
  normSq w := by simp only [V3.normSq, V3.dot, cycleXYZ]; ring
  pos := one_pos

end Atomman.C03
