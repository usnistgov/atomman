/-
  C16 — crystal families: the seven predicates of Box.py / crystalsystem.py and the `if/elif` chain of `identifyfamily`
  (`isclose` in terms of `|·|`: `C16_Close`).
-/
import Atomman.C16
import Proofs.C16_Close
import Mathlib.Tactic.Linarith

namespace Atomman.C16

section ordered
variable {K : Type} [Field K] [LinearOrder K] [IsStrictOrderedRing K]

theorem isclose_self (rtol atol x : K) (hr : 0 ≤ rtol) (ha : 0 ≤ atol) : isclose rtol atol x x = true := by
  rw [isclose_iff, sub_self, abs_zero]; positivity

/-- tolerances are small against the 30° between 90° and 120°: no angle is close to both. -/
theorem not_close_90_120 (rtol atol g : K) (htol : 2 * atol + 210 * rtol < 30)
    (h120 : isclose rtol atol g deg120 = true) : isclose rtol atol g deg90 = false := by
  rw [Bool.eq_false_iff]
  intro h90
  rw [isclose_iff] at h120 h90
  simp only [deg90, deg120, Nat.cast_ofNat, Nat.abs_ofNat] at h120 h90
  have := abs_le.mp h120
  have := abs_le.mp h90
  linarith

section of_pred
variable (rtol atol : K) (p : CellParams K)

omit [IsStrictOrderedRing K] in
theorem identify_cubic_of_pred (h : isCubic rtol atol p = true) : identifyFamily rtol atol p = some .cubic := by
  simp only [identifyFamily, h, if_true]

theorem identify_hexagonal_of_pred (htol : 2 * atol + 210 * rtol < 30) (h : isHexagonal rtol atol p = true) :
    identifyFamily rtol atol p = some .hexagonal := by
  have hg : isclose rtol atol p.gamma deg120 = true := by
    simp only [isHexagonal, Bool.and_eq_true] at h; exact h.2
  have hc : isCubic rtol atol p = false := by
    simp only [isCubic, not_close_90_120 rtol atol p.gamma htol hg, Bool.and_false]
  simp only [identifyFamily, hc, h, if_true, Bool.false_eq_true, if_false]

theorem identify_tetragonal_of_pred (htol : 2 * atol + 210 * rtol < 30) (h : isTetragonal rtol atol p = true) :
    identifyFamily rtol atol p = some .tetragonal := by
  simp only [isTetragonal, Bool.and_eq_true, Bool.not_eq_true'] at h
  obtain ⟨⟨⟨⟨hab, hac⟩, hal⟩, hbe⟩, hga⟩ := h
  have hc : isCubic rtol atol p = false := by simp only [isCubic, hac, Bool.and_false, Bool.false_and]
  have hh : isHexagonal rtol atol p = false := by
    have : isclose rtol atol p.gamma deg120 = false := Bool.eq_false_iff.mpr fun h120 => by
      rw [not_close_90_120 rtol atol p.gamma htol h120] at hga; cases hga
    simp only [isHexagonal, this, Bool.and_false]
  simp only [identifyFamily, hc, hh, isTetragonal, hab, hac, hal, hbe, hga, Bool.false_eq_true, if_false,
    Bool.not_false, Bool.and_self, if_true]

omit [IsStrictOrderedRing K] in
theorem identify_rhombohedral_of_pred (h : isRhombohedral rtol atol p = true) :
    identifyFamily rtol atol p = some .rhombohedral := by
  have h' := h
  simp only [isRhombohedral, Bool.and_eq_true, Bool.not_eq_true'] at h'
  obtain ⟨_, hal⟩ := h'
  have hc : isCubic rtol atol p = false := by simp only [isCubic, hal, Bool.and_false, Bool.false_and]
  have hh : isHexagonal rtol atol p = false := by simp only [isHexagonal, hal, Bool.and_false, Bool.false_and]
  have ht : isTetragonal rtol atol p = false := by simp only [isTetragonal, hal, Bool.and_false, Bool.false_and]
  simp only [identifyFamily, hc, hh, ht, h, Bool.false_eq_true, if_false, if_true]

omit [IsStrictOrderedRing K] in
theorem first_four_need_ab (hab : isclose rtol atol p.a p.b = false) :
    isCubic rtol atol p = false ∧ isHexagonal rtol atol p = false ∧ isTetragonal rtol atol p = false
      ∧ isRhombohedral rtol atol p = false := by
  simp only [isCubic, isHexagonal, isTetragonal, isRhombohedral, hab, Bool.false_and, and_self]

omit [IsStrictOrderedRing K] in
theorem identify_orthorhombic_of_pred (h : isOrthorhombic rtol atol p = true) :
    identifyFamily rtol atol p = some .orthorhombic := by
  have h' := h
  simp only [isOrthorhombic, Bool.and_eq_true, Bool.not_eq_true'] at h'
  obtain ⟨⟨⟨⟨hab, _⟩, _⟩, _⟩, _⟩ := h'
  obtain ⟨hc, hh, ht, hr⟩ := first_four_need_ab rtol atol p hab
  simp only [identifyFamily, hc, hh, ht, hr, h, Bool.false_eq_true, if_false, if_true]

omit [IsStrictOrderedRing K] in
theorem identify_monoclinic_of_pred (h : isMonoclinic rtol atol p = true) :
    identifyFamily rtol atol p = some .monoclinic := by
  have h' := h
  simp only [isMonoclinic, Bool.and_eq_true, Bool.not_eq_true'] at h'
  obtain ⟨⟨⟨⟨hab, _⟩, _⟩, hbe⟩, _⟩ := h'
  obtain ⟨hc, hh, ht, hr⟩ := first_four_need_ab rtol atol p hab
  have ho : isOrthorhombic rtol atol p = false := by simp only [isOrthorhombic, hbe, Bool.and_false, Bool.false_and]
  simp only [identifyFamily, hc, hh, ht, hr, ho, h, Bool.false_eq_true, if_false, if_true]

omit [IsStrictOrderedRing K] in
/-- triclinic: besides the predicate, `α` and `γ` must not both be (numerically) 90°
    (otherwise the earlier orthorhombic/monoclinic tests fire first). -/
theorem identify_triclinic_of_pred (h : isTriclinic rtol atol p = true)
    (hgen : ¬(isclose rtol atol p.alpha deg90 = true ∧ isclose rtol atol p.gamma deg90 = true)) :
    identifyFamily rtol atol p = some .triclinic := by
  have h' := h
  simp only [isTriclinic, Bool.and_eq_true, Bool.not_eq_true'] at h'
  obtain ⟨⟨⟨hab, _⟩, _⟩, _⟩ := h'
  obtain ⟨hc, hh, ht, hr⟩ := first_four_need_ab rtol atol p hab
  have ho : isOrthorhombic rtol atol p = false := by
    rw [Bool.eq_false_iff]; intro ho
    simp only [isOrthorhombic, Bool.and_eq_true] at ho
    exact hgen ⟨ho.1.1.2, ho.2⟩
  have hm : isMonoclinic rtol atol p = false := by
    rw [Bool.eq_false_iff]; intro hm
    simp only [isMonoclinic, Bool.and_eq_true] at hm
    exact hgen ⟨hm.1.1.2, hm.2⟩
  simp only [identifyFamily, hc, hh, ht, hr, ho, hm, h, Bool.false_eq_true, if_false, if_true]
end of_pred

/-- the predicate `identifyfamily` tests before it answers `f`. -/
def famPred (rtol atol : K) (p : CellParams K) : Family → Bool
  | .cubic => isCubic rtol atol p | .hexagonal => isHexagonal rtol atol p
  | .tetragonal => isTetragonal rtol atol p | .rhombohedral => isRhombohedral rtol atol p
  | .orthorhombic => isOrthorhombic rtol atol p | .monoclinic => isMonoclinic rtol atol p
  | .triclinic => isTriclinic rtol atol p

/-- one link of an `if/elif` chain: what holds of the branch's answer under its test, and of every answer of
    the rest, holds of every answer. -/
theorem chain_sound {α : Type} {P : α → Prop} {b : Bool} {x : α} {rest : Option α} (hx : b = true → P x)
    (hr : ∀ f, rest = some f → P f) (f : α) (h : (if b = true then some x else rest) = some f) : P f := by
  cases b
  · exact hr f h
  · cases h; exact hx rfl

omit [IsStrictOrderedRing K] in
theorem identify_sound (rtol atol : K) (p : CellParams K) :
    ∀ f, identifyFamily rtol atol p = some f → famPred rtol atol p f = true :=
  chain_sound (P := fun f => famPred rtol atol p f = true) id <| chain_sound id <| chain_sound id <|
    chain_sound id <| chain_sound id <| chain_sound id <| chain_sound id fun _ h => nomatch h

/-! ### constructor-level identification: `Box.cubic(a)`, `Box.hexagonal(a,c)`, … have the six
    parameters written here; "generic" = the named differences are beyond `isclose`. -/
section ctor
variable (rtol atol : K) (hr : 0 ≤ rtol) (ha : 0 ≤ atol)
include hr ha

theorem identify_cubic (a : K) :
    identifyFamily rtol atol ⟨a, a, a, deg90, deg90, deg90⟩ = some .cubic := by
  apply identify_cubic_of_pred
  simp only [isCubic, isclose_self rtol atol _ hr ha, Bool.and_self]

theorem identify_hexagonal (htol : 2 * atol + 210 * rtol < 30) (a c : K) :
    identifyFamily rtol atol ⟨a, a, c, deg90, deg90, deg120⟩ = some .hexagonal := by
  apply identify_hexagonal_of_pred _ _ _ htol
  simp only [isHexagonal, isclose_self rtol atol _ hr ha, Bool.and_self]

theorem identify_tetragonal (htol : 2 * atol + 210 * rtol < 30) (a c : K)
    (hac : isclose rtol atol a c = false) :
    identifyFamily rtol atol ⟨a, a, c, deg90, deg90, deg90⟩ = some .tetragonal := by
  apply identify_tetragonal_of_pred _ _ _ htol
  simp only [isTetragonal, isclose_self rtol atol _ hr ha, hac, Bool.not_false, Bool.and_self]

theorem identify_rhombohedral (a al : K) (hal : isclose rtol atol al deg90 = false) :
    identifyFamily rtol atol ⟨a, a, a, al, al, al⟩ = some .rhombohedral := by
  apply identify_rhombohedral_of_pred
  simp only [isRhombohedral, isclose_self rtol atol _ hr ha, hal, Bool.not_false, Bool.and_self]

theorem identify_orthorhombic (a b c : K) (hab : isclose rtol atol a b = false)
    (hac : isclose rtol atol a c = false) :
    identifyFamily rtol atol ⟨a, b, c, deg90, deg90, deg90⟩ = some .orthorhombic := by
  apply identify_orthorhombic_of_pred
  simp only [isOrthorhombic, isclose_self rtol atol _ hr ha, hab, hac, Bool.not_false, Bool.and_self]

theorem identify_monoclinic (a b c be : K) (hab : isclose rtol atol a b = false)
    (hac : isclose rtol atol a c = false) (hbe : isclose rtol atol be deg90 = false) :
    identifyFamily rtol atol ⟨a, b, c, deg90, be, deg90⟩ = some .monoclinic := by
  apply identify_monoclinic_of_pred
  simp only [isMonoclinic, isclose_self rtol atol _ hr ha, hab, hac, hbe, Bool.not_false, Bool.and_self]

set_option linter.unusedSectionVars false in
omit hr ha in
theorem identify_triclinic (a b c al be ga : K) (hab : isclose rtol atol a b = false)
    (hac : isclose rtol atol a c = false) (h1 : isclose rtol atol al be = false)
    (h2 : isclose rtol atol al ga = false)
    (hgen : isclose rtol atol al deg90 = false ∨ isclose rtol atol ga deg90 = false) :
    identifyFamily rtol atol ⟨a, b, c, al, be, ga⟩ = some .triclinic := by
  apply identify_triclinic_of_pred
  · simp only [isTriclinic, hab, hac, h1, h2, Bool.not_false, Bool.and_self]
  · rintro ⟨h3, h4⟩
    rcases hgen with h | h
    · rw [h] at h3; exact Bool.false_ne_true h3
    · rw [h] at h4; exact Bool.false_ne_true h4

end ctor

/-- **identification, exactly, without the window hypothesis**: the first six families are identified iff their predicate
    holds; `triclinic` iff its predicate holds and not both `α ≈ 90°` and `γ ≈ 90°` (inside that window the orthorhombic
    or the monoclinic branch comes first). `identify_iff_pred` is the special case outside the window. -/
theorem identify_iff_pred_exact (rtol atol : K) (htol : 2 * atol + 210 * rtol < 30) (p : CellParams K) :
    (identifyFamily rtol atol p = some .cubic ↔ isCubic rtol atol p = true) ∧
    (identifyFamily rtol atol p = some .hexagonal ↔ isHexagonal rtol atol p = true) ∧
    (identifyFamily rtol atol p = some .tetragonal ↔ isTetragonal rtol atol p = true) ∧
    (identifyFamily rtol atol p = some .rhombohedral ↔ isRhombohedral rtol atol p = true) ∧
    (identifyFamily rtol atol p = some .orthorhombic ↔ isOrthorhombic rtol atol p = true) ∧
    (identifyFamily rtol atol p = some .monoclinic ↔ isMonoclinic rtol atol p = true) ∧
    (identifyFamily rtol atol p = some .triclinic ↔ (isTriclinic rtol atol p = true ∧
      ¬(isclose rtol atol p.alpha deg90 = true ∧ isclose rtol atol p.gamma deg90 = true))) := by
  have back := identify_sound rtol atol p
  refine ⟨⟨back .cubic, identify_cubic_of_pred _ _ _⟩, ⟨back .hexagonal, identify_hexagonal_of_pred _ _ _ htol⟩,
    ⟨back .tetragonal, identify_tetragonal_of_pred _ _ _ htol⟩,
    ⟨back .rhombohedral, identify_rhombohedral_of_pred _ _ _⟩,
    ⟨back .orthorhombic, identify_orthorhombic_of_pred _ _ _⟩,
    ⟨back .monoclinic, identify_monoclinic_of_pred _ _ _⟩,
    ⟨fun h => ⟨back .triclinic h, ?_⟩, fun h => identify_triclinic_of_pred _ _ _ h.1 h.2⟩⟩
  rintro ⟨h90a, h90g⟩
  have ht : isTriclinic rtol atol p = true := back .triclinic h
  simp only [isTriclinic, Bool.and_eq_true, Bool.not_eq_true'] at ht
  obtain ⟨⟨⟨hab, hac⟩, _⟩, _⟩ := ht
  by_cases hb : isclose rtol atol p.beta deg90 = true
  · have ho : isOrthorhombic rtol atol p = true := by simp [isOrthorhombic, hab, hac, h90a, hb, h90g]
    rw [identify_orthorhombic_of_pred _ _ _ ho] at h; cases h
  · have hb' : isclose rtol atol p.beta deg90 = false := by simpa using hb
    have hm : isMonoclinic rtol atol p = true := by simp [isMonoclinic, hab, hac, h90a, hb', h90g]
    rw [identify_monoclinic_of_pred _ _ _ hm] at h; cases h

/-- the seven predicates exclude one another (for tolerances small against 30°, and outside the
    narrow window where the triclinic predicate holds although `α ≈ 90°` and `γ ≈ 90°`; `identify_iff_pred_exact` says what
    is answered inside): the order of the `if/elif` chain is immaterial. -/
theorem identify_iff_pred (rtol atol : K) (htol : 2 * atol + 210 * rtol < 30) (p : CellParams K)
    (hwin : isTriclinic rtol atol p = true →
      ¬(isclose rtol atol p.alpha deg90 = true ∧ isclose rtol atol p.gamma deg90 = true)) :
    (identifyFamily rtol atol p = some .cubic ↔ isCubic rtol atol p = true) ∧
    (identifyFamily rtol atol p = some .hexagonal ↔ isHexagonal rtol atol p = true) ∧
    (identifyFamily rtol atol p = some .tetragonal ↔ isTetragonal rtol atol p = true) ∧
    (identifyFamily rtol atol p = some .rhombohedral ↔ isRhombohedral rtol atol p = true) ∧
    (identifyFamily rtol atol p = some .orthorhombic ↔ isOrthorhombic rtol atol p = true) ∧
    (identifyFamily rtol atol p = some .monoclinic ↔ isMonoclinic rtol atol p = true) ∧
    (identifyFamily rtol atol p = some .triclinic ↔ isTriclinic rtol atol p = true) := by
  obtain ⟨h1, h2, h3, h4, h5, h6, h7⟩ := identify_iff_pred_exact rtol atol htol p
  exact ⟨h1, h2, h3, h4, h5, h6, h7.trans ⟨fun h => h.1, fun h => ⟨h, hwin h⟩⟩⟩

/-- with NO absolute part the closeness test of two lengths does not see the unit they are written in. -/
theorem isclose_scale_atol0 (rtol t x y : K) (ht : 0 < t) :
    isclose rtol 0 (t * x) (t * y) = isclose rtol 0 x y := by
  rw [Bool.eq_iff_iff, isclose_iff, isclose_iff, ← mul_sub, abs_mul, abs_mul, abs_of_pos ht, zero_add, zero_add,
    mul_left_comm, mul_le_mul_iff_of_pos_left ht]

/-- SCALES, family clause: asked with `atol = 0` (any `rtol`), `identifyfamily` of the cell written in another length unit
    (`a, b, c` times `t > 0`, angles as they are) answers as for the cell (the seven predicates do too — the proof rewrites
    inside them — but only the chain's answer is stated).  With the default `atol = 1e-8` this
    fails for small-number units — see the three `example`s below and docs/C16.md, candidate `family:absolute-atol-small-units`. -/
theorem identify_scale_atol0 (rtol t : K) (ht : 0 < t) (p : CellParams K) :
    identifyFamily rtol 0 ⟨t * p.a, t * p.b, t * p.c, p.alpha, p.beta, p.gamma⟩ = identifyFamily rtol 0 p := by
  have hs : ∀ x y : K, isclose rtol 0 (t * x) (t * y) = isclose rtol 0 x y := fun x y => isclose_scale_atol0 rtol t x y ht
  unfold identifyFamily isCubic isHexagonal isTetragonal isRhombohedral isOrthorhombic isMonoclinic isTriclinic
  rw [hs p.a p.b, hs p.a p.c]

/-- the candidate, exactly: an orthorhombic cell 3 x 4 x 5 is orthorhombic at the default tolerances, the same cell written in
    metres (lengths times 1e-10) is called cubic; with `atol = 0` it is orthorhombic in both units. -/
example : identifyFamily (1 / 100000 : ℚ) (1 / 100000000) ⟨3, 4, 5, 90, 90, 90⟩ = some .orthorhombic := by decide +kernel
example : identifyFamily (1 / 100000 : ℚ) (1 / 100000000) ⟨3 / 10000000000, 4 / 10000000000, 5 / 10000000000, 90, 90, 90⟩
    = some .cubic := by decide +kernel
example : identifyFamily (1 / 100000 : ℚ) 0 ⟨3 / 10000000000, 4 / 10000000000, 5 / 10000000000, 90, 90, 90⟩
    = some .orthorhombic := by decide +kernel

end ordered
end Atomman.C16
