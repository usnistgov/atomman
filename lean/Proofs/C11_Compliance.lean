/-
  C11 — the compliance path in closed form: the 6x6 inverse, which the model takes as a parameter, is written out for
  the isotropic, cubic and hexagonal (five constants, `D = C33 (C11 + C12) - 2 C13²`) templates and proved two-sided, hence
  unique, so that their Voigt / Reuss / Hill estimates are theorems without any assumption about `np.linalg.inv`.
-/
import Proofs.C11_Iso

namespace Atomman.C11
open Atomman.Gen Matrix

variable {K : Type} [Field K] [CharZero K]

/-- compliance of the isotropic stiffness with shear modulus `mu` and bulk modulus `Kb`. -/
def isoS (mu Kb : K) : M6 K :=
  m6 (isoList ((3 * Kb + mu) / (9 * Kb * mu)) (-(3 * Kb - 2 * mu) / (18 * Kb * mu)) (1 / mu))

theorem ctor_mu_K_eq (mu Kb : K) : ctor_mu_K mu Kb = isoList (Kb - 2 * mu / 3 + 2 * mu) (Kb - 2 * mu / 3) mu := by
  simp [ctor_mu_K, isoList]

theorem iso_mul_isoS (mu Kb : K) (hmu : mu ≠ 0) (hK : Kb ≠ 0) (a d : Fin 6) :
    ∑ b, m6 (ctor_mu_K mu Kb) a b * isoS mu Kb b d = if a = d then 1 else 0 := by
  rw [ctor_mu_K_eq, isoS, isoList_mul, one_eq_isoList]
  congr 2 <;> (field_simp <;> ring)

theorem bulkVoigt_iso (x y z : K) : bulkVoigt (m6 (isoList x y z)) = (x + 2 * y) / 3 := by
  show (x + x + x + ((2 : ℕ) : K) * (y + y + y)) / ((9 : ℕ) : K) = _
  push_cast; ring
theorem shearVoigt_iso (x y z : K) : shearVoigt (m6 (isoList x y z)) = (x - y + 3 * z) / 5 := by
  show (x + x + x - (y + y + y) + ((3 : ℕ) : K) * (z + z + z)) / ((15 : ℕ) : K) = _
  push_cast; ring
omit [CharZero K] in
theorem bulkReuss_iso (x y z : K) : bulkReuss (m6 (isoList x y z)) = 1 / (3 * (x + 2 * y)) := by
  show ((1 : ℕ) : K) / (x + x + x + ((2 : ℕ) : K) * (y + y + y)) = _
  push_cast; ring
theorem shearReuss_iso (x y z : K) : shearReuss (m6 (isoList x y z)) = 5 / (4 * (x - y) + 3 * z) := by
  show ((15 : ℕ) : K) / (((4 : ℕ) : K) * (x + x + x) - ((4 : ℕ) : K) * (y + y + y) + ((3 : ℕ) : K) * (z + z + z)) = _
  push_cast
  rw [show 4 * (x + x + x) - 4 * (y + y + y) + 3 * (z + z + z) = 3 * (4 * (x - y) + 3 * z) by ring,
    show (15 : K) = 3 * 5 by norm_num, mul_div_mul_left _ _ (by norm_num : (3 : K) ≠ 0)]

theorem hill_of_iso (mu Kb : K) (hmu : mu ≠ 0) (hK : Kb ≠ 0) :
    shearHill (m6 (ctor_mu_K mu Kb)) (isoS mu Kb) = mu ∧ bulkHill (m6 (ctor_mu_K mu Kb)) (isoS mu Kb) = Kb := by
  have e1 : 4 * ((3 * Kb + mu) / (9 * Kb * mu) - -(3 * Kb - 2 * mu) / (18 * Kb * mu)) + 3 * (1 / mu) = 5 / mu := by
    field_simp; ring
  have e2 : 3 * ((3 * Kb + mu) / (9 * Kb * mu) + 2 * (-(3 * Kb - 2 * mu) / (18 * Kb * mu))) = 1 / Kb := by
    field_simp; ring
  rw [ctor_mu_K_eq, shearHill, bulkHill, isoS, bulkVoigt_iso, shearVoigt_iso, bulkReuss_iso, shearReuss_iso, e1, e2]
  constructor <;> (push_cast; field_simp; ring)

/-- closed-form compliance (6x6 inverse) of the cubic stiffness. -/
def cubicS (c11 c12 c44 : K) : M6 K :=
  m6 (isoList ((c11 + c12) / ((c11 - c12) * (c11 + 2 * c12))) (-c12 / ((c11 - c12) * (c11 + 2 * c12))) (1 / c44))

theorem ctor_cubic_eq (c11 c12 c44 : K) : ctor_C11_C12_C44 c11 c12 c44 = isoList c11 c12 c44 := by
  simp [ctor_C11_C12_C44, isoList]

section
variable (c11 c12 c44 : K) (h1 : c11 - c12 ≠ 0) (h2 : c11 + 2 * c12 ≠ 0) (h4 : c44 ≠ 0)
include h1 h2 h4

theorem cubic_mul_cubicS (a d : Fin 6) :
    ∑ b, m6 (ctor_C11_C12_C44 c11 c12 c44) a b * cubicS c11 c12 c44 b d = if a = d then 1 else 0 := by
  have h2' : c11 + c12 * 2 ≠ 0 := by rwa [mul_comm c12 2]
  rw [ctor_cubic_eq, cubicS, isoList_mul, one_eq_isoList]
  congr 2 <;> (field_simp <;> ring)

theorem cubicS_mul_cubic (a d : Fin 6) :
    ∑ b, cubicS c11 c12 c44 a b * m6 (ctor_C11_C12_C44 c11 c12 c44) b d = if a = d then 1 else 0 :=
  mul_eq_one_swap _ _ (cubic_mul_cubicS c11 c12 c44 h1 h2 h4) a d

/-- **the compliance of a cubic crystal is the closed form**: whatever `np.linalg.inv` returns, if it is a right
    inverse of the stored cubic matrix it is `cubicS`. -/
theorem cubic_compliance_unique (s : M6 K)
    (hs : ∀ a d, ∑ b, m6 (ctor_C11_C12_C44 c11 c12 c44) a b * s b d = if a = d then 1 else 0) :
    s = cubicS c11 c12 c44 :=
  (inverse_unique _ _ _ (cubicS_mul_cubic c11 c12 c44 h1 h2 h4) hs).symm

/-- **Voigt / Reuss / Hill of a cubic crystal**: the three bulk estimates coincide with `(C11 + 2 C12)/3`; the shear
    estimates are `(C11 - C12 + 3 C44)/5` (Voigt) and `5 C44 (C11 - C12) / (4 C44 + 3 (C11 - C12))` (Reuss). -/
theorem cubic_moduli (h3 : 4 * c44 + 3 * (c11 - c12) ≠ 0) :
    let c := m6 (ctor_C11_C12_C44 c11 c12 c44)
    let s := cubicS c11 c12 c44
    bulkVoigt c = (c11 + 2 * c12) / 3 ∧ bulkReuss s = (c11 + 2 * c12) / 3 ∧ bulkHill c s = (c11 + 2 * c12) / 3 ∧
    shearVoigt c = (c11 - c12 + 3 * c44) / 5 ∧
    shearReuss s = 5 * c44 * (c11 - c12) / (4 * c44 + 3 * (c11 - c12)) := by
  have h2' : c11 + c12 * 2 ≠ 0 := by rwa [mul_comm c12 2]
  have h3' : c44 * 4 + (c11 - c12) * 3 ≠ 0 := by rwa [mul_comm c44 4, mul_comm (c11 - c12) 3]
  have e1 : 3 * ((c11 + c12) / ((c11 - c12) * (c11 + 2 * c12)) + 2 * (-c12 / ((c11 - c12) * (c11 + 2 * c12))))
      = 3 / (c11 + 2 * c12) := by
    field_simp; ring
  have e2 : 4 * ((c11 + c12) / ((c11 - c12) * (c11 + 2 * c12)) - -c12 / ((c11 - c12) * (c11 + 2 * c12)))
      + 3 * (1 / c44) = (4 * c44 + 3 * (c11 - c12)) / ((c11 - c12) * c44) := by
    field_simp; ring
  simp only [ctor_cubic_eq, cubicS, bulkHill, bulkVoigt_iso, shearVoigt_iso, bulkReuss_iso, shearReuss_iso, e1, e2]
  refine ⟨trivial, ?_, ?_, trivial, ?_⟩
  · field_simp
  · push_cast; field_simp; ring
  · field_simp

end

/-- non-vacuity: `C11 = 3, C12 = 1, C44 = 2`. -/
example : (3 : ℚ) - 1 ≠ 0 ∧ (3 : ℚ) + 2 * 1 ≠ 0 ∧ (2 : ℚ) ≠ 0 ∧ 4 * (2 : ℚ) + 3 * (3 - 1) ≠ 0 := by norm_num

/-- compliance of the hexagonal stiffness; `D = C33 (C11 + C12) - 2 C13²`. -/
def hexS (c11 c12 c13 c33 c44 : K) : M6 K :=
  m6 [(c11 * c33 - c13 * c13) / ((c11 - c12) * (c33 * (c11 + c12) - 2 * c13 * c13)),
        -(c12 * c33 - c13 * c13) / ((c11 - c12) * (c33 * (c11 + c12) - 2 * c13 * c13)),
        -c13 / (c33 * (c11 + c12) - 2 * c13 * c13), 0, 0, 0,
      -(c12 * c33 - c13 * c13) / ((c11 - c12) * (c33 * (c11 + c12) - 2 * c13 * c13)),
        (c11 * c33 - c13 * c13) / ((c11 - c12) * (c33 * (c11 + c12) - 2 * c13 * c13)),
        -c13 / (c33 * (c11 + c12) - 2 * c13 * c13), 0, 0, 0,
      -c13 / (c33 * (c11 + c12) - 2 * c13 * c13), -c13 / (c33 * (c11 + c12) - 2 * c13 * c13),
        (c11 + c12) / (c33 * (c11 + c12) - 2 * c13 * c13), 0, 0, 0,
      0, 0, 0, 1 / c44, 0, 0,
      0, 0, 0, 0, 1 / c44, 0,
      0, 0, 0, 0, 0, 2 / (c11 - c12)]

omit [CharZero K] in
theorem hex_blk (c11 c12 c13 c33 c44 : K) : m6 (ctor_C11_C12_C13_C33_C44 c11 c12 c13 c33 c44)
    = blk (ti c11 c12 c13 c13 c33) ![c44, c44, (c11 - c12) / ((2 : ℕ) : K)] :=
  m6_blkL Nat.cast_zero (ti c11 c12 c13 c13 c33) ![c44, c44, (c11 - c12) / ((2 : ℕ) : K)]

omit [CharZero K] in
theorem hexS_blk (c11 c12 c13 c33 c44 : K) : hexS c11 c12 c13 c33 c44
    = blk (ti ((c11 * c33 - c13 * c13) / ((c11 - c12) * (c33 * (c11 + c12) - 2 * c13 * c13)))
        (-(c12 * c33 - c13 * c13) / ((c11 - c12) * (c33 * (c11 + c12) - 2 * c13 * c13)))
        (-c13 / (c33 * (c11 + c12) - 2 * c13 * c13)) (-c13 / (c33 * (c11 + c12) - 2 * c13 * c13))
        ((c11 + c12) / (c33 * (c11 + c12) - 2 * c13 * c13))) ![1 / c44, 1 / c44, 2 / (c11 - c12)] := by
  rw [← m6_blkL rfl]; rfl

section
variable (c11 c12 c13 c33 c44 : K) (h1 : c11 - c12 ≠ 0) (hD : c33 * (c11 + c12) - 2 * c13 * c13 ≠ 0) (h4 : c44 ≠ 0)
include h1 hD h4

theorem hex_mul_hexS (a d : Fin 6) :
    ∑ b, m6 (ctor_C11_C12_C13_C33_C44 c11 c12 c13 c33 c44) a b * hexS c11 c12 c13 c33 c44 b d
      = if a = d then 1 else 0 := by
  rw [hex_blk, hexS_blk, blk_mul, ti_mul, one_eq_blk, mone_eq_ti]
  -- name the determinant `D` so that `field_simp` clears one opaque denominator instead of expanding it; it is
  -- substituted back only where `ring` needs its value
  obtain ⟨D, hDe⟩ : ∃ D, D = c33 * (c11 + c12) - 2 * c13 * c13 := ⟨_, rfl⟩
  have hD' : D ≠ 0 := hDe ▸ hD
  rw [← hDe]
  congrm blk (ti ?_ ?_ ?_ ?_ ?_) ?_ a d
  · field_simp; subst hDe; ring
  · field_simp; subst hDe; ring
  · field_simp; ring
  · field_simp; ring
  · field_simp; subst hDe; ring
  · funext i; fin_cases i <;> simp [h4, h1]

theorem hexS_mul_hex (a d : Fin 6) :
    ∑ b, hexS c11 c12 c13 c33 c44 a b * m6 (ctor_C11_C12_C13_C33_C44 c11 c12 c13 c33 c44) b d
      = if a = d then 1 else 0 :=
  mul_eq_one_swap _ _ (hex_mul_hexS c11 c12 c13 c33 c44 h1 hD h4) a d

/-- **the compliance of a hexagonal crystal is the closed form** (uniqueness of the inverse). -/
theorem hex_compliance_unique (s : M6 K)
    (hs : ∀ a d, ∑ b, m6 (ctor_C11_C12_C13_C33_C44 c11 c12 c13 c33 c44) a b * s b d = if a = d then 1 else 0) :
    s = hexS c11 c12 c13 c33 c44 :=
  (inverse_unique _ _ _ (hexS_mul_hex c11 c12 c13 c33 c44 h1 hD h4) hs).symm

set_option linter.unusedSectionVars false in
set_option linter.unusedVariables false in
/-- Voigt and Reuss bulk modulus of a hexagonal crystal in closed form.  (`h3` and the section's `h4` are not used: the
    Reuss value is `1 / (x / D)`, which is `D / x` whether or not `x` vanishes.) -/
theorem hex_bulk (h3 : c11 + c12 + 2 * c33 - 4 * c13 ≠ 0) :
    bulkVoigt (m6 (ctor_C11_C12_C13_C33_C44 c11 c12 c13 c33 c44)) = (2 * c11 + c33 + 2 * c12 + 4 * c13) / 9 ∧
    bulkReuss (hexS c11 c12 c13 c33 c44)
      = (c33 * (c11 + c12) - 2 * c13 * c13) / (c11 + c12 + 2 * c33 - 4 * c13) := by
  constructor
  · show (c11 + c11 + c33 + ((2 : ℕ) : K) * (c12 + c13 + c13)) / ((9 : ℕ) : K) = _
    push_cast; ring
  · obtain ⟨D, hDe⟩ : ∃ D, D = c33 * (c11 + c12) - 2 * c13 * c13 := ⟨_, rfl⟩
    have hD' : D ≠ 0 := hDe ▸ hD
    unfold hexS
    rw [← hDe]
    show ((1 : ℕ) : K) / ((c11 * c33 - c13 * c13) / ((c11 - c12) * D) + (c11 * c33 - c13 * c13) / ((c11 - c12) * D)
        + (c11 + c12) / D + ((2 : ℕ) : K) * (-(c12 * c33 - c13 * c13) / ((c11 - c12) * D) + -c13 / D + -c13 / D)) = _
    have e : (c11 * c33 - c13 * c13) / ((c11 - c12) * D) + (c11 * c33 - c13 * c13) / ((c11 - c12) * D)
        + (c11 + c12) / D + 2 * (-(c12 * c33 - c13 * c13) / ((c11 - c12) * D) + -c13 / D + -c13 / D)
        = (c11 + c12 + 2 * c33 - 4 * c13) / D := by
      field_simp; subst hDe; ring
    rw [Nat.cast_one, Nat.cast_ofNat, e, one_div_div]

end

/-- non-vacuity: `C11 = 10, C12 = 4, C13 = 3, C33 = 9, C44 = 2`. -/
example : (10 : ℚ) - 4 ≠ 0 ∧ (9 : ℚ) * (10 + 4) - 2 * 3 * 3 ≠ 0 ∧ (2 : ℚ) ≠ 0 ∧ (10 : ℚ) + 4 + 2 * 9 - 4 * 3 ≠ 0 := by norm_num

end Atomman.C11
