/-
  C06 — the state monad `M` of the model: post-condition calculus (the state survives exceptions, so a
  post-condition speaks about both outcomes; sequencing is `Post.bind`), loop rules, and the equations of a returning run.
-/
import Proofs.C06_Lemmas

namespace Atomman.C06

/-- running `m` from `s` ends with a result and a state satisfying `Q` (whether or not it raised). -/
def Post {α : Type} (m : M α) (s : State) (Q : Except Err α → State → Prop) : Prop := Q (m s).1 (m s).2

theorem Post.mono {α : Type} {m : M α} {s : State} {Q Q' : Except Err α → State → Prop}
    (h : Post m s Q) (hq : ∀ r s', Q r s' → Q' r s') : Post m s Q' := hq _ _ h

theorem Post.fst {α : Type} {m : M α} {s : State} {Q1 Q2 : Except Err α → State → Prop}
    (h : Post m s (fun r s' => Q1 r s' ∧ Q2 r s')) : Post m s Q1 := h.1

theorem Post.imp {α : Type} {m : M α} {s : State} {c : Prop} {Q : Except Err α → State → Prop}
    (h : c → Post m s Q) : Post m s (fun r s' => c → Q r s') := h

theorem Post.and {α : Type} {m : M α} {s : State} {Q1 Q2 : Except Err α → State → Prop} (h1 : Post m s Q1)
    (h2 : Post m s Q2) : Post m s (fun r s' => Q1 r s' ∧ Q2 r s') := ⟨h1, h2⟩

theorem Post.of_eq {α : Type} {m : M α} {s : State} {Q : Except Err α → State → Prop} (r : Except Err α) (s' : State)
    (h : m s = (r, s')) (hq : Q r s') : Post m s Q := by
  unfold Post; rw [h]; exact hq

theorem post_pure {α : Type} (a : α) (s : State) (Q : Except Err α → State → Prop) :
    Post (pure a : M α) s Q ↔ Q (.ok a) s := Iff.rfl

theorem post_fail {α : Type} (e : Err) (s : State) (Q : Except Err α → State → Prop) :
    Post (fail e : M α) s Q ↔ Q (.error e) s := Iff.rfl

theorem post_getS (s : State) (Q : Except Err State → State → Prop) : Post getS s Q ↔ Q (.ok s) s := Iff.rfl

theorem post_bind {α β : Type} (m : M α) (f : α → M β) (s : State) (Q : Except Err β → State → Prop) :
    Post (m >>= f) s Q ↔
    Post m s (fun r s' => match r with | .ok a => Post (f a) s' Q | .error e => Q (.error e) s') := by
  show Q (M.bind m f s).1 (M.bind m f s).2 ↔ _
  unfold Post M.bind
  cases hm : m s with
  | mk r s' => cases r <;> simp

theorem post_bind_getS {β : Type} (f : State → M β) (s : State) (Q : Except Err β → State → Prop) :
    Post (getS >>= f) s Q ↔ Post (f s) s Q := by rw [post_bind]; rfl

theorem post_bind_pure {α β : Type} (a : α) (f : α → M β) (s : State) (Q : Except Err β → State → Prop) :
    Post ((pure a : M α) >>= f) s Q ↔ Post (f a) s Q := by rw [post_bind]; rfl

theorem post_bind_fail {α β : Type} (e : Err) (f : α → M β) (s : State) (Q : Except Err β → State → Prop) :
    Post ((fail e : M α) >>= f) s Q ↔ Q (.error e) s := by rw [post_bind]; rfl

theorem post_liftO {α : Type} (e : Err) (x : Option α) (s : State) (Q : Except Err α → State → Prop) :
    Post (liftO e x) s Q ↔ (match x with | some a => Q (.ok a) s | none => Q (.error e) s) := by
  cases x <;> rfl

theorem post_liftE {α : Type} (x : Except Err α) (s : State) (Q : Except Err α → State → Prop) :
    Post (liftE x) s Q ↔ Q x s := Iff.rfl

theorem post_bind_keyErr {α β : Type} (x : Option α) (f : α → M β) (s : State)
    (Q : Except Err β → State → Prop) :
    Post (keyErr x >>= f) s Q ↔ (match x with | some a => Post (f a) s Q | none => Q (.error .key) s) := by
  rw [post_bind]; cases x <;> rfl

theorem post_bind_liftE {α β : Type} (x : Except Err α) (f : α → M β) (s : State)
    (Q : Except Err β → State → Prop) :
    Post (liftE x >>= f) s Q ↔ (match x with | .ok a => Post (f a) s Q | .error e => Q (.error e) s) := by
  rw [post_bind]; cases x <;> rfl

theorem post_modifyS (g : State → State) (s : State) (Q : Except Err Unit → State → Prop) :
    Post (modifyS g) s Q ↔ Q (.ok ()) (g s) := Iff.rfl

theorem post_ite {α : Type} (c : Prop) [Decidable c] (m1 m2 : M α) (s : State) (Q : Except Err α → State → Prop) :
    Post (if c then m1 else m2) s Q ↔ (c → Post m1 s Q) ∧ (¬ c → Post m2 s Q) := by
  by_cases h : c <;> simp [h]

theorem post_atomic {α : Type} (m : M α) (s : State) (Q : Except Err α → State → Prop) :
    Post (atomic m) s Q ↔
    Post m s (fun r s' => match r with | .ok a => Q (.ok a) s' | .error e => Q (.error e) s) := by
  unfold Post atomic
  cases hm : m s with
  | mk r s' => cases r <;> simp

/-- a post-condition in two parts: the call raises and leaves the state as it was, or returns `a` in a state with `K a`. -/
def OrSame {α : Type} (s : State) (K : α → State → Prop) : Except Err α → State → Prop
  | .error _, s' => s' = s
  | .ok a, s' => K a s'

theorem OrSame.mono {α : Type} {s : State} {K K' : α → State → Prop} (h : ∀ a s', K a s' → K' a s')
    {r : Except Err α} {s' : State} (hk : OrSame s K r s') : OrSame s K' r s' := by
  cases r with
  | error e => exact hk
  | ok a => exact h a s' hk

/-- sequencing: what `m` leaves when it raises is the outcome of the whole; what it leaves when it returns is where
    `f` starts. -/
theorem Post.bind {α β : Type} {m : M α} {f : α → M β} {s : State} {P : Except Err α → State → Prop}
    {Q : Except Err β → State → Prop} (hm : Post m s P) (herr : ∀ e s1, P (.error e) s1 → Q (.error e) s1)
    (hok : ∀ a s1, P (.ok a) s1 → Post (f a) s1 Q) : Post (m >>= f) s Q := by
  rw [post_bind]
  apply Post.mono hm
  intro r s1 hp
  cases r with
  | error e => exact herr e s1 hp
  | ok a => exact hok a s1 hp

/-- sequencing when only the returning outcome is described: what follows `m` runs only if `m` returned. -/
theorem Post.bind_ok {α β : Type} {m : M α} {f : α → M β} {s : State} {P : Except Err α → State → Prop}
    {Q : β → State → Prop} (hm : Post m s P)
    (hf : ∀ a s1, P (.ok a) s1 → Post (f a) s1 (fun r s' => ∀ b, r = .ok b → Q b s')) :
    Post (m >>= f) s (fun r s' => ∀ b, r = .ok b → Q b s') :=
  Post.bind hm (fun _ _ _ _ hc => nomatch hc) hf

/-- an `atomic` block that raises restores the state: `Q` is owed at the entry state for every raising outcome, and
    of the body only the returning outcome needs a description. -/
theorem post_atomic_of_ok {α : Type} {m : M α} {s : State} {Q : Except Err α → State → Prop}
    (herr : ∀ e, Q (.error e) s) (h : Post m s (fun r s' => ∀ a, r = .ok a → Q (.ok a) s')) :
    Post (atomic m) s Q := by
  rw [post_atomic]
  apply Post.mono h
  intro r s' hq
  cases r with
  | error e => exact herr e
  | ok a => exact hq a rfl

theorem atomic_error_unchanged {α : Type} (m : M α) {s s' : State} {e : Err} (h : atomic m s = (.error e, s')) :
    s' = s := by
  unfold atomic at h
  split at h
  · cases h
  · exact (Prod.mk.inj h).2.symm

theorem M.pure_inj {α : Type} {a b : α} (h : (pure a : M α) = pure b) : a = b :=
  Except.ok.inj (Prod.mk.inj (congrFun h init)).1

theorem Post.of_run {α : Type} {m m' : M α} {s : State} {Q : Except Err α → State → Prop} (h : m s = m' s)
    (hq : Post m' s Q) : Post m s Q := by
  unfold Post at *; rw [h]; exact hq

theorem Post.run {α : Type} {m : M α} {s s' : State} {r : Except Err α} {Q : Except Err α → State → Prop}
    (h : Post m s Q) (hrun : m s = (r, s')) : Q r s' := by
  unfold Post at h; rwa [hrun] at h

theorem eq_of_post {α : Type} {m : M α} {s : State} {x : Except Err α} {y : State}
    (h : Post m s (fun r s' => r = x ∧ s' = y)) : m s = (x, y) := Prod.ext h.1 h.2

/-! ### a returning run, taken apart: `simp only [bind_ok_iff, getS_ok_iff, …] at hrun` turns the equation of a
    `do` block into the equations of its statements -/

theorem bind_ok_iff {α β : Type} (m : M α) (f : α → M β) (s s' : State) (b : β) :
    (m >>= f) s = (.ok b, s') ↔ ∃ a s1, m s = (.ok a, s1) ∧ f a s1 = (.ok b, s') := by
  show M.bind m f s = _ ↔ _
  unfold M.bind
  rcases m s with ⟨e | a, s1⟩
  · simp
  · exact ⟨fun h => ⟨a, s1, rfl, h⟩, fun ⟨_, _, h1, h⟩ => by cases h1; exact h⟩

theorem atomic_ok_iff {α : Type} (m : M α) (s s' : State) (a : α) : atomic m s = (.ok a, s') ↔ m s = (.ok a, s') := by
  unfold atomic
  rcases m s with ⟨_ | a', s1⟩ <;> simp

theorem pure_ok_iff {α : Type} (a b : α) (s s' : State) : (pure a : M α) s = (.ok b, s') ↔ b = a ∧ s' = s := by
  show (Except.ok a, s) = _ ↔ _
  simp [eq_comm]

theorem getS_ok_iff (s s' a : State) : getS s = (.ok a, s') ↔ a = s ∧ s' = s := pure_ok_iff s a s s'

theorem liftE_ok_iff {α : Type} (x : Except Err α) (a : α) (s s' : State) :
    liftE x s = (.ok a, s') ↔ x = .ok a ∧ s' = s := by
  show (x, s) = _ ↔ _
  simp [eq_comm]

theorem keyErr_ok_iff {α : Type} (x : Option α) (a : α) (s s' : State) :
    keyErr x s = (.ok a, s') ↔ x = some a ∧ s' = s := by
  cases x with
  | none => simp [keyErr, liftO, fail]
  | some y => exact (pure_ok_iff y a s s').trans (by simp [eq_comm])

theorem post_forEach {β : Type} (l : List β) (f : β → M Unit) (I : State → Prop)
    (h : ∀ b ∈ l, ∀ s, I s → Post (f b) s (fun _ s' => I s')) :
    ∀ s, I s → Post (forEach l f) s (fun _ s' => I s') := by
  induction l with
  | nil => intro s hs; exact hs
  | cons b t ih =>
    intro s hs
    show Post (M.bind (f b) (fun _ => forEach t f)) s _
    have := (post_bind (f b) (fun _ => forEach t f) s (fun _ s' => I s')).mpr
    apply this
    apply Post.mono (h b (by simp) s hs)
    intro r s' hs'
    cases r with
    | error e => exact hs'
    | ok a => exact ih (fun b hb => h b (by simp [hb])) s' hs'

/-- the loop rule with an invariant that knows which elements are done: `J done` is owed when the loop returns, `E` however
    it ends. -/
theorem post_forEach_prefix {β : Type} (l : List β) (f : β → M Unit) (E : State → Prop) (J : List β → State → Prop)
    (h : ∀ done b rest, done ++ b :: rest = l → ∀ st, E st → J done st →
      Post (f b) st (fun r st' => E st' ∧ (r = .ok () → J (done ++ [b]) st'))) :
    ∀ todo done st, done ++ todo = l → E st → J done st →
      Post (forEach todo f) st (fun r st' => E st' ∧ (r = .ok () → J l st')) := by
  intro todo
  induction todo with
  | nil => intro done st hsplit he hj; rw [← hsplit, List.append_nil]; exact ⟨he, fun _ => hj⟩
  | cons b rest ih =>
    intro done st hsplit he hj
    show Post (f b >>= fun _ => forEach rest f) st _
    refine Post.bind (h done b rest hsplit st he hj) (fun _ _ hq => ⟨hq.1, fun hc => nomatch hc⟩) ?_
    intro _ st1 hq
    exact ih (done ++ [b]) st1 (by rw [List.append_assoc]; exact hsplit) hq.1 (hq.2 rfl)

inductive All2 {β γ : Type} (R : β → γ → Prop) : List β → List γ → Prop
  | nil : All2 R [] []
  | cons {b c bs cs} : R b c → All2 R bs cs → All2 R (b :: bs) (c :: cs)

theorem all2_iff {β γ : Type} {R : β → γ → Prop} {l : List β} {l' : List γ} : All2 R l l' ↔ List.Forall₂ R l l' :=
  ⟨fun h => by induction h with | nil => exact .nil | cons h1 _ ih => exact .cons h1 ih,
   fun h => by induction h with | nil => exact .nil | cons h1 _ ih => exact .cons h1 ih⟩

theorem All2.length {β γ : Type} {R : β → γ → Prop} {l : List β} {l' : List γ} (h : All2 R l l') :
    l'.length = l.length := forall₂_length (all2_iff.mp h)

theorem All2.mono {β γ : Type} {R R' : β → γ → Prop} {l : List β} {l' : List γ} (h : All2 R l l')
    (hr : ∀ b c, R b c → R' b c) : All2 R' l l' := by
  induction h with
  | nil => exact All2.nil
  | cons h1 _ ih => exact All2.cons (hr _ _ h1) ih

theorem All2.mem_right {β γ : Type} {R : β → γ → Prop} {l : List β} {l' : List γ} (h : All2 R l l') :
    ∀ c ∈ l', ∃ b ∈ l, R b c := forall₂_mem_right (all2_iff.mp h)

theorem All2.append {β γ : Type} {R : β → γ → Prop} {l1 l2 : List β} {m1 m2 : List γ} (h1 : All2 R l1 m1)
    (h2 : All2 R l2 m2) : All2 R (l1 ++ l2) (m1 ++ m2) := by
  induction h1 with
  | nil => exact h2
  | cons hr _ ih => exact All2.cons hr ih

theorem All2.mem_left {β γ : Type} {R : β → γ → Prop} {l : List β} {l' : List γ} (h : All2 R l l') :
    ∀ b ∈ l, ∃ c ∈ l', R b c := forall₂_mem_left (all2_iff.mp h)

theorem All2.map_eq {β γ δ : Type} {R : β → γ → Prop} {l : List β} {l' : List γ} (f : β → δ) (g : γ → δ)
    (h : All2 R l l') (hfg : ∀ b c, R b c → g c = f b) : l'.map g = l.map f := forall₂_map_eq f g (all2_iff.mp h) hfg

theorem post_mapEach_ghost {β γ G : Type} (l : List β) (f : β → M γ) (I : G → State → Prop)
    (R : β → γ → G → State → Prop) (ext : G → State → G → State → Prop)
    (ext_refl : ∀ g s, ext g s g s)
    (ext_trans : ∀ g s g1 s1 g2 s2, ext g s g1 s1 → ext g1 s1 g2 s2 → ext g s g2 s2)
    (stab : ∀ b c g s g' s', R b c g s → ext g s g' s' → R b c g' s')
    (h : ∀ b ∈ l, ∀ g s, I g s →
      Post (f b) s (fun r s' => ∃ g', I g' s' ∧ ext g s g' s' ∧ ∀ c, r = .ok c → R b c g' s')) :
    ∀ g s, I g s → Post (mapEach l f) s (fun r s' => ∃ g', I g' s' ∧ ext g s g' s' ∧
      ∀ cs, r = .ok cs → All2 (fun b c => R b c g' s') l cs) := by
  induction l with
  | nil =>
    intro g s hs
    exact ⟨g, hs, ext_refl g s, by intro cs h; injection h with h; subst h; exact All2.nil⟩
  | cons b t ih =>
    intro g s hs
    show Post (M.bind (f b) (fun c => M.bind (mapEach t f) (fun cs => M.pure (c :: cs)))) s _
    apply (post_bind (f b) _ s _).mpr
    apply Post.mono (h b (by simp) g s hs)
    intro r s1 ⟨g1, hI1, he1, hR1⟩
    cases r with
    | error e => exact ⟨g1, hI1, he1, by intro cs h; cases h⟩
    | ok c =>
      simp only []
      apply (post_bind (mapEach t f) _ s1 _).mpr
      apply Post.mono (ih (fun b hb => h b (by simp [hb])) g1 s1 hI1)
      intro r2 s2 ⟨g2, hI2, he2, hR2⟩
      cases r2 with
      | error e => exact ⟨g2, hI2, ext_trans _ _ _ _ _ _ he1 he2, by intro cs h; cases h⟩
      | ok cs =>
        refine ⟨g2, hI2, ext_trans _ _ _ _ _ _ he1 he2, ?_⟩
        intro cs' hcs'
        obtain rfl : cs' = c :: cs := (Except.ok.inj hcs').symm
        exact All2.cons (stab b c g1 s1 g2 s2 (hR1 c rfl) he2) (hR2 cs rfl)

theorem liftE_bind_run {α β : Type} (x : Except Err α) (f : α → M β) (s : State) :
    (liftE x >>= f) s = match x with
      | .ok a => f a s
      | .error e => (.error e, s) := by
  cases x <;> rfl

theorem bind_ok_run {α β : Type} {m : M α} {s s' : State} {a : α} (h : m s = (.ok a, s')) (f : α → M β) :
    (m >>= f) s = f a s' := by
  show M.bind m f s = _
  unfold M.bind
  rw [h]

/-- sequencing after a run that is known and returned. -/
theorem Post.bind_run {α β : Type} {m : M α} {f : α → M β} {s s1 : State} {a : α} {Q : Except Err β → State → Prop}
    (h : m s = (.ok a, s1)) (hq : Post (f a) s1 Q) : Post (m >>= f) s Q := by
  unfold Post; rw [bind_ok_run h f]; exact hq

theorem bind_error_run {α β : Type} {m : M α} {s s' : State} {e : Err} (h : m s = (.error e, s')) (f : α → M β) :
    (m >>= f) s = (.error e, s') := by
  show M.bind m f s = _
  unfold M.bind
  rw [h]

theorem bind_congr_run {α β : Type} {m m' : M α} {s : State} (h : m s = m' s) (k : α → M β) :
    (m >>= k) s = (m' >>= k) s := by
  show M.bind m k s = M.bind m' k s
  unfold M.bind
  rw [h]

theorem mapEach_congr {β γ : Type} (I : State → Prop) (l : List β) (f g : β → M γ)
    (h : ∀ b ∈ l, ∀ st, I st → f b st = g b st ∧ I (g b st).2) : ∀ s, I s → mapEach l f s = mapEach l g s := by
  induction l with
  | nil => intro s _; rfl
  | cons b t ih =>
    intro s hs
    obtain ⟨e, hI⟩ := h b (by simp) s hs
    show M.bind (f b) _ s = M.bind (g b) _ s
    unfold M.bind
    rw [e]
    rcases hg : g b s with ⟨_ | c, s1⟩
    · rfl
    · rw [hg] at hI
      simp only [ih (fun b hb => h b (by simp [hb])) s1 hI]

end Atomman.C06
