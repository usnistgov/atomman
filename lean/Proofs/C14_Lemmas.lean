/-
  C14: the starting in-plane vectors are those of C16's plane normal (`initVectors_eq_C16`), hence
  `den·s·(a₀×b₀) = num·(h,k,l)` with `num, den > 0` (`init_cross`): the one place where `free_surface_basis` rests on C16.
-/
import Proofs.C14_C16
import Proofs.C14_Gcd

namespace Atomman.C14
open Atomman

/-! ### the starting vectors are those of `miller.plane_crystal_to_cartesian` (C16) -/

theorem initVectors_eq_C16 (h k l : ℤ) :
    (match initVectors ⟨h, k, l⟩ with
      | some i => Except.ok (i.a0, i.b0, i.s)
      | none => Except.error C16.Err.value) = C16.planeInPlane h k l := by
  have d1 := Int.dvd_lcm_left h k
  have d2 := Int.dvd_lcm_right h k
  have d3 := Int.dvd_lcm_left h l
  have d4 := Int.dvd_lcm_right h l
  have d5 := Int.dvd_lcm_left k l
  have d6 := Int.dvd_lcm_right k l
  have d7 := dvd_trans (Int.dvd_lcm_left h k) (Int.dvd_lcm_left ((Int.lcm h k : ℕ) : ℤ) l)
  have d8 := dvd_trans (Int.dvd_lcm_right h k) (Int.dvd_lcm_left ((Int.lcm h k : ℕ) : ℤ) l)
  have d9 := Int.dvd_lcm_right ((Int.lcm h k : ℕ) : ℤ) l
  by_cases hh : h = 0 <;> by_cases hk : k = 0 <;> by_cases hl : l = 0 <;>
    simp only [initVectors, C16.planeInPlane, ilcm, hh, hk, hl, ne_eq, not_true_eq_false, not_false_eq_true,
      if_true, if_false, neg_ediv_eq_tdiv _ _ d1, neg_ediv_eq_tdiv _ _ d4,
      neg_ediv_eq_tdiv _ _ d5, neg_ediv_eq_tdiv _ _ d7, ediv_eq_tdiv _ _ d2, ediv_eq_tdiv _ _ d3,
      ediv_eq_tdiv _ _ d6, ediv_eq_tdiv _ _ d8, ediv_eq_tdiv _ _ d9]


theorem init_cross_parallel (hkl : IV) (hne : hkl ≠ ⟨0, 0, 0⟩) :
    ∃ ini, initVectors hkl = some ini ∧ ∃ num den : ℤ, 0 < num ∧ 0 < den ∧
      V3.smul den (V3.smul ini.s (V3.cross ini.a0 ini.b0)) = V3.smul num hkl := by
  obtain ⟨h, k, l⟩ := hkl
  have hne' : ¬(h = 0 ∧ k = 0 ∧ l = 0) := by
    rintro ⟨rfl, rfl, rfl⟩; exact hne rfl
  obtain ⟨a, b, s, hp, num, den, hn, hd, he⟩ := c16_idx_cross_parallel h k l hne'
  have e := initVectors_eq_C16 h k l
  rw [hp] at e
  cases hi : initVectors ⟨h, k, l⟩ with
  | none => rw [hi] at e; cases e
  | some ini =>
    rw [hi] at e
    simp only [Except.ok.injEq, Prod.mk.injEq] at e
    obtain ⟨rfl, rfl, rfl⟩ := e
    exact ⟨ini, rfl, num, den, hn, hd, he⟩

theorem initVectors_zero : initVectors ⟨0, 0, 0⟩ = none := by decide

theorem init_cross {hkl : IV} {ini : Init} (hi : initVectors hkl = some ini) :
    ∃ num den : ℤ, 0 < num ∧ 0 < den ∧
      V3.smul den (V3.smul ini.s (V3.cross ini.a0 ini.b0)) = V3.smul num hkl := by
  have hne : hkl ≠ ⟨0, 0, 0⟩ := by
    rintro rfl; rw [initVectors_zero] at hi; cases hi
  obtain ⟨ini', hi', h⟩ := init_cross_parallel hkl hne
  rw [hi] at hi'; cases hi'
  exact h

theorem initVectors_none_iff (hkl : IV) : initVectors hkl = none ↔ hkl = ⟨0, 0, 0⟩ := by
  constructor
  · intro h
    by_contra hne
    obtain ⟨ini, hi, _⟩ := init_cross_parallel hkl hne
    rw [hi] at h; cases h
  · rintro rfl; exact initVectors_zero

end Atomman.C14
