/-
  C01_Object — the Box *object* `CBox` (cell + `__reciprocal_vects` as the code has it: filled on first read, emptied by the `vects`
  setter through which every cell-defining setter goes, untouched by the `origin` setter) against the cache-free meaning of each call
  (`stepPlain`): the invariant "what is cached is the inverse-transpose of the current vectors" holds after every call, and therefore
  no interleaving of setters and reads can observe the cache (`obj_run_refines`).
-/
import Atomman.C01
import Mathlib.Algebra.Order.Field.Basic

namespace Atomman.C01
open Atomman
set_option linter.unusedSectionVars false

variable {K : Type} [Field K] [LinearOrder K] [IsStrictOrderedRing K]

theorem fresh_coherent : (CBox.fresh : CBox K).Coherent := by
  intro r h; simp [CBox.fresh] at h

/-- a setter leaves a coherent object: everything that assigns `vects` empties the cache, and the
    `origin` setter does not touch the vectors. -/
theorem obj_set_coherent (thr : K) (c : CBox K) (hc : c.Coherent) (s : SetOp K) :
    (c.set thr s).1.Coherent := by
  unfold CBox.set
  cases hs : s.apply? thr c.box with
  | none => simpa using hc
  | some b' =>
    cases s with
    | attrOrigin o =>
      simp only [SetOp.apply?, Option.some.injEq] at hs
      subst hs
      intro r hr
      simpa [SetOp.writesVects, setOriginAttr, Box.recip] using hc r (by simpa [SetOp.writesVects] using hr)
    | _ => intro r hr; simp [SetOp.writesVects] at hr

theorem recip?_coherent (c : CBox K) (hc : c.Coherent) (m : M3 K) (c' : CBox K) (h : c.recip? = some (m, c')) :
    c'.Coherent := by
  unfold CBox.recip? at h
  cases hcache : c.cache with
  | some r0 =>
    simp only [hcache, Option.some.injEq, Prod.mk.injEq] at h
    exact h.2 ▸ hc
  | none =>
    simp only [hcache] at h
    split at h
    · cases h
    · rename_i hdet
      simp only [Option.some.injEq, Prod.mk.injEq] at h
      exact h.2 ▸ fun r' hr' => ⟨hdet, (Option.some.inj hr').symm⟩

theorem obj_read_coherent (c : CBox K) (hc : c.Coherent) (r : ReadOp K) : (c.read r).1.Coherent := by
  cases r with
  | recip | c2r p =>
    unfold CBox.read
    cases h : c.recip? with
    | none => exact hc
    | some mc => exact recip?_coherent c hc mc.1 mc.2 h
  | _ => exact hc

theorem obj_step_coherent (thr : K) (c : CBox K) (hc : c.Coherent) (op : Op K) :
    (c.step thr op).1.Coherent := by
  cases op with
  | set s => exact obj_set_coherent thr c hc s
  | read r => exact obj_read_coherent c hc r

/-- on a coherent object `reciprocal_vects` is the inverse-transpose of the current vectors, cached
    or not, and reading it does not change the cell. -/
theorem obj_recip_eq (c : CBox K) (hc : c.Coherent) :
    (c.box.vects.det = 0 → c.recip? = none) ∧
    (c.box.vects.det ≠ 0 → ∃ c', c.recip? = some (c.box.recip, c') ∧ c'.box = c.box) := by
  unfold CBox.recip?
  cases hcache : c.cache with
  | some r0 =>
    obtain ⟨hd, hr⟩ := hc r0 hcache
    exact ⟨fun h => absurd h hd, fun _ => ⟨c, by simp [hr], rfl⟩⟩
  | none =>
    refine ⟨fun h => by simp [h], fun h => ⟨⟨c.box, some c.box.recip⟩, by simp [h], rfl⟩⟩

/-- one call: the object with its cache and the bare cell report the same and stay the same cell. -/
theorem obj_step_refines (thr : K) (c : CBox K) (hc : c.Coherent) (op : Op K) :
    (c.step thr op).1.box = (stepPlain thr c.box op).1 ∧ (c.step thr op).2 = (stepPlain thr c.box op).2 := by
  cases op with
  | set s =>
    simp only [CBox.step, stepPlain, CBox.set]
    cases s.apply? thr c.box <;> simp
  | read r =>
    obtain ⟨h0, h1⟩ := obj_recip_eq c hc
    cases r with
    | recip | c2r p =>
      simp only [CBox.step, stepPlain, CBox.read, ReadOp.eval]
      by_cases hd : c.box.vects.det = 0
      · simp [h0 hd, hd]
      · obtain ⟨c', hc', hb⟩ := h1 hd
        simp [hc', hd, hb, Box.cartToRel]
    | _ => simp [CBox.step, stepPlain, CBox.read, ReadOp.eval]

theorem read_refines (c : CBox K) (hc : c.Coherent) (r : ReadOp K) : (c.read r).2 = r.eval c.box :=
  (obj_step_refines 0 c hc (.read r)).2  -- a read does not look at the clean-up threshold, so any value serves

/-- every call sequence: what the object reports is what the bare cells report — the cache is never
    observable, however the setters and reads are interleaved. -/
theorem obj_run_refines (thr : K) (ops : List (Op K)) (c : CBox K) (hc : c.Coherent) :
    c.run thr ops = runPlain thr c.box ops := by
  induction ops generalizing c with
  | nil => rfl
  | cons op ops ih =>
    obtain ⟨hb, ho⟩ := obj_step_refines thr c hc op
    simp only [CBox.run, runPlain]
    rw [ho, ih _ (obj_step_coherent thr c hc op), hb]

/-- from `Box()` on. -/
theorem obj_run_refines_fresh (thr : K) (ops : List (Op K)) :
    (CBox.fresh : CBox K).run thr ops = runPlain thr (CBox.fresh : CBox K).box ops :=
  obj_run_refines thr ops _ fresh_coherent

/-- after any call sequence from a coherent object (in particular from `Box()`: `fresh_coherent`), whatever is cached is
    the inverse-transpose of the current vectors. -/
theorem obj_after_coherent (thr : K) (ops : List (Op K)) (c : CBox K) (hc : c.Coherent) :
    (c.after thr ops).Coherent := by
  induction ops generalizing c with
  | nil => exact hc
  | cons op ops ih => exact ih _ (obj_step_coherent thr c hc op)

example : ∃ c : CBox ℚ, c.Coherent ∧ c.cache ≠ none ∧ c.box.vects ≠ M3.one :=
  ⟨⟨⟨⟨⟨2, 0, 0⟩, ⟨1, 3, 0⟩, ⟨0, 1, 4⟩⟩, ⟨1, 2, 3⟩⟩, some (Box.recip ⟨⟨⟨2, 0, 0⟩, ⟨1, 3, 0⟩, ⟨0, 1, 4⟩⟩, ⟨1, 2, 3⟩⟩)⟩,
    by intro r h; simp only [Option.some.injEq] at h; exact ⟨by decide +kernel, h.symm⟩,
    by simp, by decide⟩

/-- the hypothesis is needed: an object whose cache survived a change of the vectors (what a setter that forgets — or, for a small
    change, declines — to drop the cache leaves behind) reports reciprocal vectors that are not those of its cell. -/
example : ∃ (c : CBox ℚ), ¬ c.Coherent ∧ (c.read .recip).2 ≠ (ReadOp.recip : ReadOp ℚ).eval c.box :=
  ⟨⟨⟨⟨⟨2, 0, 0⟩, ⟨0, 2, 0⟩, ⟨0, 0, 2⟩⟩, ⟨0, 0, 0⟩⟩, some M3.one⟩,
    by intro h; have := (h M3.one rfl).2; revert this; decide +kernel,
    by decide +kernel⟩

end Atomman.C01
