/-
  Lattice — integer vectors and matrices read in the scalar type (`V3.castInt`, `M3.castInt`: the cast commutes with
  differences, scalar, dot, cross and row products and with the determinant, and is injective in characteristic zero),
  and the lattice `ℤ³ → K³` of a cell, `M3.latticeVec V n = n V`: odd, homogeneous over ℤ, carried along an integer
  change of cell vectors, and non-zero for `n ≠ 0` in a non-degenerate cell.  `C04.castV`, `C14.toK`, `C16.castV`,
  `C13.cart`, `C14.cart` are these by unfolding, which is how C04, C13, C14, C16 cite the lemmas.
-/
import Proofs.Linear3

namespace Atomman

def V3.castInt {K : Type} [IntCast K] (n : V3 Int) : V3 K := ⟨(n.x : K), (n.y : K), (n.z : K)⟩

def M3.castInt {K : Type} [IntCast K] (u : M3 Int) : M3 K := ⟨V3.castInt u.r0, V3.castInt u.r1, V3.castInt u.r2⟩

/-- integer combination of the cell vectors: `n.x a + n.y b + n.z c`. -/
def M3.latticeVec {K : Type} [Add K] [Mul K] [IntCast K] (v : M3 K) (n : V3 Int) : V3 K := M3.vecMul (V3.castInt n) v

variable {K : Type} [CommRing K]

namespace V3

theorem castInt_sub (a b : V3 Int) : (castInt (a - b) : V3 K) = castInt a - castInt b := by
  ext <;> simp only [castInt, sub_x, sub_y, sub_z, Int.cast_sub]
theorem castInt_smul (g : Int) (a : V3 Int) : (castInt (smul g a) : V3 K) = smul (g : K) (castInt a) := by
  simp only [castInt, smul, Int.cast_mul]
theorem castInt_dot (a b : V3 Int) : ((dot a b : Int) : K) = dot (castInt a) (castInt b) := by
  simp only [castInt, dot, Int.cast_add, Int.cast_mul]
theorem castInt_cross (a b : V3 Int) : (castInt (cross a b) : V3 K) = cross (castInt a) (castInt b) := by
  simp only [castInt, cross, Int.cast_sub, Int.cast_mul]
theorem castInt_vecMul (a : V3 Int) (u : M3 Int) :
    (castInt (M3.vecMul a u) : V3 K) = M3.vecMul (castInt a) (M3.castInt u) := by
  simp only [castInt, M3.castInt, M3.vecMul, Int.cast_add, Int.cast_mul]

theorem castInt_injective [CharZero K] : Function.Injective (castInt : V3 Int → V3 K) := fun a b h => by
  simp only [castInt, V3.mk.injEq, Int.cast_inj] at h
  exact V3.ext h.1 h.2.1 h.2.2

end V3

namespace M3

theorem castInt_mul (a b : M3 Int) : (castInt (a.mul b) : M3 K) = (castInt a).mul (castInt b) := by
  simp only [castInt, mul, V3.castInt_vecMul]

theorem castInt_det (u : M3 Int) : det (castInt u : M3 K) = ((det u : Int) : K) := by
  simp only [det, castInt, ← V3.castInt_cross, ← V3.castInt_dot]

theorem latticeVec_neg (v : M3 K) (n : V3 Int) : latticeVec v (-n) = -latticeVec v n := by
  ext <;> simp only [latticeVec, V3.castInt, vecMul, V3.neg_x, V3.neg_y, V3.neg_z, Int.cast_neg] <;> ring
theorem latticeVec_smul (v : M3 K) (g : Int) (n : V3 Int) :
    latticeVec v (V3.smul g n) = V3.smul (g : K) (latticeVec v n) := by
  rw [latticeVec, V3.castInt_smul, vecMul_smul]; rfl

/-- the lattice of the cell re-expressed along the integer matrix `u`. -/
theorem latticeVec_vecMul (v : M3 K) (u : M3 Int) (a : V3 Int) :
    latticeVec v (vecMul a u) = latticeVec ((castInt u).mul v) a := by
  rw [latticeVec, V3.castInt_vecMul, vecMul_vecMul]; rfl

theorem latticeVec_ne_zero [NoZeroDivisors K] [CharZero K] (v : M3 K) (h : det v ≠ 0) (n : V3 Int)
    (hn : n ≠ ⟨0, 0, 0⟩) : latticeVec v n ≠ ⟨0, 0, 0⟩ := fun e =>
  hn (V3.castInt_injective (K := K) ((vecMul_eq_zero v h _ e).trans (by simp only [V3.castInt, Int.cast_zero])))

end M3

end Atomman
