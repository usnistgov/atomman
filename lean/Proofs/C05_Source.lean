/-
  C05 — the source tie: the definitions `harness/props/c05.py: translate()` regenerates from /repo's current source
  (`Atomman/Generated/WrapSource.lean`) are proved equal to the hand-written model the property theorems are about (the two about
  the values `Atoms.__deepcopy__` copies: Proofs/C05_Heap.lean); `transformOK_eq_with` ties the driver's self-check to the literals.
  A source edit that changes what wrap / box_set / normalize or the Box pieces under them compute changes the generated
  file and breaks the obligation named after the piece.
-/
import Atomman.Generated.WrapSource
import Mathlib.Algebra.Order.Field.Basic

namespace Atomman.C05
open Atomman
open Atomman.Generated

set_option linter.unusedSectionVars false

variable {K : Type}

/-- defaults of `wrap(return_imageflags)`, `box_set(scale)`, `System.normalize(style, return_transform)`,
    `lammps.normalize(return_transform)` and the accepted style. -/
theorem gen_defaults_eq_model :
    WrapSource.wrapFlagDefault = wrapFlagDefault ∧ WrapSource.boxSetScaleDefault = boxSetScaleDefault ∧
    WrapSource.normStyleDefault = normStyleDefault ∧ WrapSource.normFlagDefault = normFlagDefault ∧
    WrapSource.lmpFlagDefault = normFlagDefault ∧ WrapSource.normStyleAccepted = normStyleAccepted ∧
    WrapSource.wrapParams = wrapParams ∧ WrapSource.normParams = normParams ∧ WrapSource.lmpParams = lmpParams :=
  ⟨rfl, rfl, rfl, rfl, rfl, rfl, rfl, rfl, rfl⟩

/-- which test each entry point applies to its flag (`if flag:` = truthiness, `isinstance(scale, bool)`, `scale is True`)
    and which exception it refuses with. -/
theorem gen_flagTests_eq_model :
    WrapSource.wrapReturnsFlags = PyVal.truthy ∧ WrapSource.lmpReturnsTransform = PyVal.truthy ∧
    WrapSource.boxSetAccepts = PyVal.isBool ∧ WrapSource.boxSetScaledBranch = PyVal.isTrue ∧
    WrapSource.boxSetRefusal = Err.typeError ∧ WrapSource.normStyleRefusal = Err.valueError :=
  ⟨rfl, rfl, rfl, rfl, rfl, rfl⟩

/-- the literals: padding `0.001` (both sides), clean-up threshold `1e-9`, initial `mins` / `maxs`, tolerance and row pairs
    of the orthogonality self-checks; the row-norm self-check uses numpy's defaults (no keywords). -/
theorem gen_literals_eq_model :
    WrapSource.padLoLit = pad001 ∧ WrapSource.padHiLit = pad001 ∧ WrapSource.tinyLit = tiny1em9 ∧
    WrapSource.minsInit = [0, 0, 0] ∧ WrapSource.maxsInit = [1, 1, 1] ∧
    WrapSource.assertOrthoAtol = orthoTol ∧ WrapSource.assertOrthoPairs = orthoPairs ∧
    WrapSource.assertNormKeywords = [] := by
  refine ⟨rfl, rfl, rfl, ?_, ?_, rfl, rfl, rfl⟩ <;> decide +kernel

/-- the driver's `transformOK` is the self-check with exactly these tolerances and row pairs. -/
theorem transformOK_eq_with (t : M3 Rat) : transformOK t = transformOKWith normTol orthoTol orthoPairs t := by
  have h1 : normTol = (1001 : Rat) / 100000000 := by decide +kernel
  have h2 : orthoTol = (1 : Rat) / 100000 := by decide +kernel
  simp only [transformOK, transformOKWith, h1, h2, orthoPairs, List.all_cons, List.all_nil, Bool.and_true, M3.row]
  simp [Bool.and_assoc]

/-- write protocol of the two `Box` setters, dispatch of `Box.set`, rows of the lattice angles, the refusal of `set_abc`,
    and the two statement pins. -/
theorem gen_protocol_eq_model :
    WrapSource.vectsSetterSteps = setVectsSteps ∧ WrapSource.originSetterSteps = setOriginSteps ∧
    WrapSource.pbcGetterSteps = pbcGetterSteps ∧ WrapSource.pbcSetterSteps = pbcSetterSteps ∧
    WrapSource.boxSetDispatch = boxSetTargets ∧ WrapSource.boxSetDispatch.map Prod.fst = boxSetDispatch ∧
    WrapSource.angleGetters = angleRows ∧ WrapSource.abcGuard = abcGuardTests ∧
    WrapSource.atomsPropPin = atomsPropPin ∧ WrapSource.vectAngleTailPin = vectAngleTailPin :=
  ⟨rfl, rfl, rfl, rfl, rfl, rfl, rfl, rfl, rfl, rfl⟩

/-- `Atoms.__deepcopy__`: the keys copied explicitly and the names the loop's filter excludes (by exact match). -/
theorem gen_deepcopyKeys_eq_model :
    WrapSource.atomsCopyExplicit = atomsCopyExplicit ∧ WrapSource.atomsCopyReserved = atomsCopyReserved := ⟨rfl, rfl⟩

section formulas
variable [Add K] [Sub K] [Mul K] [Div K] [Neg K] [Zero K] [One K] [IntCast K]
  [LT K] [LE K] [DecidableLT K] [DecidableLE K]

/-- `wrap`, one direction: the model's `axisBounds` is the generated pair of `if`s applied to the running minimum /
    maximum, starting from the initial `(0, 1)`; a periodic direction keeps `(0, 1)`. -/
theorem gen_axisBounds_eq_model (pad : K) (x : K) (xs : List K) :
    axisBounds pad false (x :: xs) = (WrapSource.axisLo pad 0 (minOf x xs), WrapSource.axisHi pad 1 (maxOf x xs)) ∧
    axisBounds pad true (x :: xs) = (0, 1) := ⟨rfl, rfl⟩

theorem gen_axisFlag_eq_model (fl : K → Int) (p : Bool) (s : K) : WrapSource.axisFlag fl p s = flagOf fl p s := rfl

/-- `wrap`: the box handed to the final `box_set`. -/
theorem gen_paddedBox_eq_model (b : Box K) (bd : V3 (K × K)) :
    paddedBox b bd =
      (let mins : V3 K := ⟨bd.x.1, bd.y.1, bd.z.1⟩
       let maxs : V3 K := ⟨bd.x.2, bd.y.2, bd.z.2⟩
       ⟨⟨WrapSource.newAvect b.vects b.origin mins maxs, WrapSource.newBvect b.vects b.origin mins maxs,
         WrapSource.newCvect b.vects b.origin mins maxs⟩, WrapSource.newOrigin b.vects b.origin mins maxs⟩) := rfl

/-- `normalize`: handedness test and the reversed cell. -/
theorem gen_flip_eq_model (b : Box K) :
    WrapSource.leftHanded b.vects = decide (triple b.vects < 0) ∧
    flipC b = ⟨WrapSource.flipVects b.vects b.origin, WrapSource.flipOrigin b.vects b.origin⟩ := ⟨rfl, rfl⟩

/-- `normalize`: the returned transformation. -/
theorem gen_transform_eq_model (saved v : M3 K) :
    WrapSource.transform saved v = (M3.mul (M3.inv saved) v).transpose := rfl

/-- `Box.vects` setter: one entry of the clean-up. -/
theorem gen_cleanEntry_eq_model (tiny m x : K) : WrapSource.cleanEntry tiny m x = zeroIfSmall tiny m x := rfl

/-- `reciprocal_vects`, `position_cartesian_to_relative`, `position_relative_to_cartesian`. -/
theorem gen_coords_eq_model (b : Box K) (r : M3 K) (p : V3 K) :
    WrapSource.recipFill b.vects = b.recip ∧ WrapSource.c2r b.origin r p = relWith r b.origin p ∧
    WrapSource.r2c b.vects b.origin p = b.relToCart p := ⟨rfl, rfl, rfl⟩

/-- `Box.a`, `Box.b`, `Box.c`. -/
theorem gen_lengths_eq_model (sqrt : K → K) (v : M3 K) :
    WrapSource.lenA sqrt v = lenA sqrt v ∧ WrapSource.lenB sqrt v = lenB sqrt v ∧ WrapSource.lenC sqrt v = lenC sqrt v :=
  ⟨rfl, rfl, rfl⟩

/-- `set_lengths`: assertion and matrix. -/
theorem gen_setLengths_eq_model (lx ly lz xy xz yz : K) (o : V3 K) :
    Box.ofLengths? lx ly lz xy xz yz o =
      if WrapSource.lengthsOk lx ly lz then some ⟨WrapSource.lengthsVects lx ly lz xy xz yz, o⟩ else none := by
  unfold Box.ofLengths? WrapSource.lengthsOk WrapSource.lengthsVects
  by_cases h1 : 0 < lx <;> by_cases h2 : 0 < ly <;> by_cases h3 : 0 < lz <;> simp [h1, h2, h3, GT.gt]

/-- `set_hi_los` (reached through `box_set(xlo=…)` / `Box.set(xlo=…)`): lengths `hi − lo`, origin at the `lo` corner, tilt
    factors handed on, then `set_lengths` — the shared `Box.ofHiLos?`. -/
theorem gen_setHiLos_eq_model (xlo xhi ylo yhi zlo zhi xy xz yz : K) :
    Box.ofHiLos? xlo xhi ylo yhi zlo zhi xy xz yz =
      Box.ofLengths? (WrapSource.hiLoLx xlo xhi ylo yhi zlo zhi) (WrapSource.hiLoLy xlo xhi ylo yhi zlo zhi)
        (WrapSource.hiLoLz xlo xhi ylo yhi zlo zhi) xy xz yz (WrapSource.hiLoOrigin xlo xhi ylo yhi zlo zhi) := rfl

/-- `set_abc` of the cell's own parameters (the rebuild of `normalize`): the six LAMMPS parameters. -/
theorem gen_abc_eq_model (sqrt : K → K) (v : M3 K) :
    abcBox? sqrt v =
      (let a := lenA sqrt v; let b := lenB sqrt v; let c := lenC sqrt v
       let ca := cosAlpha sqrt v; let cb := cosBeta sqrt v; let cg := cosGamma sqrt v
       Box.ofLengths? (WrapSource.abcLx sqrt a b c ca cb cg) (WrapSource.abcLy sqrt a b c ca cb cg)
         (WrapSource.abcLz sqrt a b c ca cb cg) (WrapSource.abcXy sqrt a b c ca cb cg)
         (WrapSource.abcXz sqrt a b c ca cb cg) (WrapSource.abcYz sqrt a b c ca cb cg) ⟨0, 0, 0⟩) := rfl

end formulas

/-- the cosines `vect_angle` forms for `alpha`, `beta`, `gamma` (unit vectors first, then their dot product) are the
    model's `dot / (|u| |v|)`, in every field and for every `sqrt`. -/
theorem gen_vectAngleCos_eq_model [Field K] (sqrt : K → K) (v : M3 K) :
    WrapSource.vectAngleCos sqrt v.r1 v.r2 = cosAlpha sqrt v ∧ WrapSource.vectAngleCos sqrt v.r0 v.r2 = cosBeta sqrt v ∧
    WrapSource.vectAngleCos sqrt v.r0 v.r1 = cosGamma sqrt v := by
  refine ⟨?_, ?_, ?_⟩ <;>
    simp only [WrapSource.vectAngleCos, cosAlpha, cosBeta, cosGamma, lenA, lenB, lenC, vdiv, V3.dot, div_mul_div_comm,
      add_div]

section guard
variable [Field K] [LinearOrder K] [IsStrictOrderedRing K]

/-- what is assumed of `180 * arccos(x) / pi`: strictly decreasing on [-1, 1], 0 at 1, 180 at -1. -/
structure ArccosDeg (acos : K → K) : Prop where
  anti : ∀ x y : K, -1 ≤ x → x < y → y ≤ 1 → acos y < acos x
  at_one : acos 1 = 0
  at_neg_one : acos (-1) = 180

/-- one angle: `vect_angle` (clamp, then `acos`) gives an angle `≤ 0` or `≥ 180` exactly when the cosine it formed is not
    strictly between -1 and 1. -/
theorem angle_rejected_iff (acos : K → K) (h : ArccosDeg acos) (c : K) :
    (acos (clampCos c) ≤ 0 ∨ acos (clampCos c) ≥ 180) ↔ ¬ (-1 < c ∧ c < 1) := by
  -- strictly inside `(-1, 1)` the angle is strictly between those at the two ends
  have mid : ∀ x, -1 < x → x < 1 → 0 < acos x ∧ acos x < 180 := fun x h1 h2 =>
    ⟨by have := h.anti x 1 h1.le h2 le_rfl; rwa [h.at_one] at this,
     by have := h.anti (-1) x le_rfl h1 h2.le; rwa [h.at_neg_one] at this⟩
  unfold clampCos
  split_ifs with h1 h2
  · rw [h.at_neg_one]; exact ⟨fun _ hc => absurd hc.1 (not_lt.mpr h1.le), fun _ => Or.inr le_rfl⟩
  · rw [h.at_one]; exact ⟨fun _ hc => absurd hc.2 (not_lt.mpr h2.le), fun _ => Or.inl le_rfl⟩
  · rcases (not_lt.mp h1).eq_or_lt with rfl | h1'
    · rw [h.at_neg_one]; exact ⟨fun _ hc => lt_irrefl _ hc.1, fun _ => Or.inr le_rfl⟩
    · rcases (not_lt.mp h2).eq_or_lt with rfl | h2'
      · rw [h.at_one]; exact ⟨fun _ hc => lt_irrefl _ hc.2, fun _ => Or.inl le_rfl⟩
      · obtain ⟨p0, p180⟩ := mid c h1' h2'
        exact ⟨fun hr _ => hr.elim (not_le.mpr p0) (not_le.mpr p180), fun hn => absurd ⟨h1', h2'⟩ hn⟩

/-- **gen_abcGuard_eq_angleGuard**: the refusal at the head of `set_abc` as regenerated from the source, applied to the
    angles `vect_angle` returns (clamped cosine through ANY function with the three properties of `180·arccos/π`), is the
    negation of the model's test on the cosines; with `angleGuard` = that test on `cosAlpha`, `cosBeta`, `cosGamma`. -/
theorem gen_abcGuard_eq_angleGuard (acos : K → K) (h : ArccosDeg acos) (ca cb cg : K) :
    WrapSource.anglesRejected (acos (clampCos ca)) (acos (clampCos cb)) (acos (clampCos cg))
      = !(cosStrict ca && cosStrict cb && cosStrict cg) := by
  have e : ∀ c : K, cosStrict c = true ↔ (-1 < c ∧ c < 1) := fun c => by
    simp only [cosStrict, Bool.and_eq_true, decide_eq_true_eq]
  -- refused iff one of the three cosines fails the strict test; each angle by `angle_rejected_iff`
  rw [Bool.eq_iff_iff, Bool.not_eq_true', Bool.and_eq_false_iff, Bool.and_eq_false_iff]
  simp only [WrapSource.anglesRejected, Bool.or_eq_true, decide_eq_true_eq, or_assoc, ← Bool.not_eq_true, e,
    ← angle_rejected_iff acos h]

end guard

section bodies
variable [Add K] [Sub K] [Mul K] [Div K] [Neg K] [Zero K] [One K] [IntCast K]
  [LT K] [LE K] [DecidableLT K] [DecidableLE K]

/-- `System.box_set`: default of `scale`, the `isinstance` refusal, the `is True` branch, and in each branch the statements
    in the order of the source — running them is the model's `boxSetApi`. -/
theorem gen_boxSetBody_eq_model (P : Params K) (c : CSys K) (scale : Option PyVal) (v : M3 K) (o : V3 K) :
    (let sc := scale.getD WrapSource.boxSetScaleDefault
     if WrapSource.boxSetAccepts sc then
       Except.ok (runStmts P (St.init c ⟨v, o⟩)
         (if WrapSource.boxSetScaledBranch sc then WrapSource.boxSetScaledBody else WrapSource.boxSetPlainBody)).c
     else Except.error WrapSource.boxSetRefusal) = c.boxSetApi P.tiny scale v o := by
  rcases scale with _ | (_ | b | n | s | b | b)
  · rfl
  · rfl
  · cases b <;> rfl
  · rfl
  · rfl
  · rfl
  · rfl

/-- `System.wrap`: the statements in the order of the source — running them is the model's `wrapC` (image flags and new
    object). -/
theorem gen_wrapBody_eq_model (P : Params K) (c : CSys K) (nb : Box K) :
    (let s := runStmts P (St.init c nb) WrapSource.wrapBody; (s.flags, s.c)) = c.wrapC P := by
  -- the one step that is not unfolding: `spos -= imageflags` is a `zipWith` of the scaled positions with the flags just computed
  -- from them, i.e. a `map` (`zipWith_map_right`, `zipWith_self`)
  simp only [runStmts, WrapSource.wrapBody, List.foldl, exec, St.init, CSys.wrapC, List.zipWith_map_right, List.zipWith_self]

/-- `System.wrap(<flag>)` as a whole. -/
theorem gen_wrapApi_eq_model (P : Params K) (c : CSys K) (flag : Option PyVal) (nb : Box K) :
    (let s := runStmts P (St.init c nb) WrapSource.wrapBody
     (if WrapSource.wrapReturnsFlags (flag.getD WrapSource.wrapFlagDefault) then some s.flags else none, s.c))
      = c.wrapApi P flag := by
  have h := gen_wrapBody_eq_model P c nb
  simp only [CSys.wrapApi, ← h]
  rfl

/-- `atomman.lammps.normalize`: the statements in the order of the source — running them is the model's `normalizeC`. -/
theorem gen_normalizeBody_eq_model (P : Params K) (c : CSys K) (nb : Box K) :
    (runStmts P (St.init c nb) WrapSource.normalizeBody).normalized = c.normalizeC P := by
  simp only [runStmts, WrapSource.normalizeBody, List.foldl, exec, St.init, CSys.normalizeC, St.normalized]
  -- `.copy` does nothing here and `.saveVects` keeps the cell after the reversal, which is what `normalizeC` divides by; what is
  -- left are the two tests of the body: handedness (`.flipIfLeft`) and whether `rebuild` failed
  split <;> (split <;> simp_all)

end bodies

end Atomman.C05
