/-
  C13 — reference system and monopole: the last step of every builder (`wrapSys`, `retypeSys`) with its per-atom guarantee,
  `reference_is_shifted_crystal`, the `monopole_*` theorems.  `encode` is a definition the statements use.
-/
import Atomman.C13
import Proofs.C14_C04
import Proofs.C05_Lemmas

namespace Atomman.C13
open Atomman
set_option linter.unusedSectionVars false

variable {K : Type} [Field K] [LinearOrder K] [IsStrictOrderedRing K]

/-- new index of replica `(r0,r1,r2)` of original atom `i` (`N` atoms, multipliers `m0 m1 _`).  The same function as `C04.encode`
    (they unfold to one term, which is how `C04.supersize_get` is applied); it has a name here because the statement of
    `reference_is_shifted_crystal` is written with it. -/
def encode (N m0 m1 : Nat) (i r0 r1 r2 : Nat) : Nat := ((r2 * m1 + r1) * m0 + r0) * N + i

theorem superBox_det_ne_zero (b : Box K) (sa sb sc : C04.Size) (hdet : M3.det b.vects ≠ 0)
    (ha : ((sa.mult : Int) : K) ≠ 0) (hb : ((sb.mult : Int) : K) ≠ 0) (hc : ((sc.mult : Int) : K) ≠ 0) :
    M3.det (C04.superBox b sa sb sc).vects ≠ 0 := by
  rw [C04.superBox_volume]
  exact mul_ne_zero (mul_ne_zero (mul_ne_zero ha hb) hc) hdet

/-- `atoms.pos = ps` followed by `wrap()` in a system with box `box` and periodicity `pbc`: the step that ends the
    reference system, `monopole` and `periodicarray`. -/
def wrapSys (fl : K → Int) (pad : K) (box : Box K) (pbc : V3 Bool) (atoms : List (Atom K)) (ps : List (V3 K)) : Sys K :=
  ⟨(C05.wrap fl pad box pbc ps).box, pbc, setPos atoms (C05.wrap fl pad box pbc ps).pos⟩

theorem baseSystem_eq (fl : K → Int) (pad : K) (rcell : Sys K) (sz : Sizes) (shift : V3 K) :
    baseSystem fl pad rcell sz shift = wrapSys fl pad (C04.superBox rcell.box sz.a sz.b sz.c) rcell.pbc
      (C04.supersizeAtoms rcell.box sz.a sz.b sz.c rcell.atoms)
      ((C04.supersizeAtoms rcell.box sz.a sz.b sz.c rcell.atoms).map fun a => a.pos + shift) := rfl

theorem monopoleRaw_eq (fl : K → Int) (pad : K) (u : V3 K → V3 K) (line : Nat) (center : V3 K) (base : Sys K) :
    monopoleRaw fl pad u line center base = wrapSys fl pad base.box (pbcOnly line) base.atoms
      (base.atoms.map fun a => displaced u center a.pos) := rfl

theorem wrapSys_getElem? (fl : K → Int) (pad : K) (box : Box K) (pbc : V3 Bool) (atoms : List (Atom K))
    (ps : List (V3 K)) (k : Nat) (a : Atom K) (p : V3 K) (ha : atoms[k]? = some a) (hp : ps[k]? = some p) :
    (wrapSys fl pad box pbc atoms ps).atoms[k]? = some { a with pos := C05.atomPos fl box pbc p } := by
  simp only [wrapSys, setPos, C05.wrap, List.getElem?_zipWith, List.getElem?_map, ha, hp, Option.map_some]

/-- the positions of a wrapped system are the wrapped positions. -/
theorem wrapSys_pos_mem (fl : K → Int) (pad : K) (box : Box K) (pbc : V3 Bool) (atoms : List (Atom K)) (ps : List (V3 K))
    (i : Nat) (a : Atom K) (ha : (wrapSys fl pad box pbc atoms ps).atoms[i]? = some a) :
    a.pos ∈ (C05.wrap fl pad box pbc ps).pos := by
  simp only [wrapSys, setPos, List.getElem?_zipWith] at ha
  split at ha
  · rename_i a0 q _ hq
    obtain rfl := Option.some.inj ha
    exact List.mem_of_getElem? hq
  · cases ha

theorem wrapSys_length (fl : K → Int) (pad : K) (box : Box K) (pbc : V3 Bool) (atoms : List (Atom K)) (ps : List (V3 K))
    (h : ps.length = atoms.length) : (wrapSys fl pad box pbc atoms ps).atoms.length = atoms.length := by
  simp [wrapSys, setPos, C05.wrap, h]

theorem pbcOnly_false (line : Nat) :
    (line ≠ 0 → (pbcOnly line).x = false) ∧ (line ≠ 1 → (pbcOnly line).y = false) ∧
    (line ≠ 2 → (pbcOnly line).z = false) := by
  refine ⟨?_, ?_, ?_⟩ <;> intro h <;> simp [pbcOnly, h]

theorem pbcExcept_false (cut : Nat) :
    (cut = 0 → (pbcExcept cut).x = false) ∧ (cut = 1 → (pbcExcept cut).y = false) ∧
    (cut = 2 → (pbcExcept cut).z = false) := by
  refine ⟨?_, ?_, ?_⟩ <;> intro h <;> simp [pbcExcept, h]

theorem retype_getElem? (out : V3 K → Bool) (nt : Int) (atoms : List (Atom K)) (i : Nat) :
    (retype out nt atoms)[i]? = (atoms[i]?).map (fun a => if out a.pos then { a with atype := a.atype + nt } else a) := by
  simp [retype]

theorem retype_getElem?_iff (out : V3 K → Bool) (nt : Int) (atoms : List (Atom K)) (i : Nat) (a : Atom K)
    (ha : atoms[i]? = some a) {P : Prop} (hP : out a.pos = true ↔ P) :
    (P → (retype out nt atoms)[i]? = some { a with atype := a.atype + nt }) ∧
    (¬ P → (retype out nt atoms)[i]? = some a) := by
  simp only [retype_getElem?, ha, Option.map_some, ← hP]
  exact ⟨fun ho => by rw [if_pos ho], fun ho => by rw [if_neg ho]⟩

theorem retype_false (nt : Int) (atoms : List (Atom K)) : retype (fun _ => false) nt atoms = atoms := by
  simp [retype]

/-- `atype[out(pos)] += nt` on a system. -/
def retypeSys (out : V3 K → Bool) (nt : Int) (s : Sys K) : Sys K := { s with atoms := retype out nt s.atoms }

theorem ite_retypeSys (c : Prop) [Decidable c] (out : V3 K → Bool) (nt : Int) (s : Sys K) :
    (if c then { s with atoms := retype out nt s.atoms } else s) = retypeSys (fun p => decide c && out p) nt s := by
  by_cases hc : c <;> simp [hc, retypeSys, retype_false]

theorem retype_wrapSys_getElem? (fl : K → Int) (pad : K) (box : Box K) (hdet : M3.det box.vects ≠ 0) (pbc : V3 Bool)
    (atoms : List (Atom K)) (ps : List (V3 K)) (out : V3 K → Bool) (nt : Int) (k : Nat) (a : Atom K) (p : V3 K)
    (ha : atoms[k]? = some a) (hp : ps[k]? = some p) :
    ∃ (p' : V3 K) (f : V3 Int) (ty : Int),
      (retype out nt (wrapSys fl pad box pbc atoms ps).atoms)[k]? = some { a with pos := p', atype := ty } ∧
      (ty = a.atype ∨ ty = a.atype + nt) ∧ p' + C05.latticeVec box.vects f = p ∧
      (pbc.x = false → f.x = 0) ∧ (pbc.y = false → f.y = 0) ∧ (pbc.z = false → f.z = 0) := by
  refine ⟨C05.atomPos fl box pbc p, C05.atomFlags fl box pbc p,
    if out (C05.atomPos fl box pbc p) then a.atype + nt else a.atype, ?_, ?_,
    C05.atom_reconstruct fl box hdet pbc p, C05.atomFlags_nonperiodic fl box pbc p⟩
  · rw [retype_getElem?, wrapSys_getElem? fl pad box pbc atoms ps k a p ha hp, Option.map_some]
    split_ifs <;> rfl
  · split_ifs
    exacts [.inr rfl, .inl rfl]

theorem monopoleBoundary_ok (sqrt : K → K) (o : Orient) (shape : Shape) (width : K) (nsym : Nat) (base disl d : Sys K)
    (h : monopoleBoundary sqrt o shape width nsym base disl = some d) :
    ∃ out, d = retypeSys out (natypes nsym base.atoms) disl := by
  unfold monopoleBoundary at h
  split_ifs at h with hw
  · cases shape with
    | box => exact ⟨_, (Option.some.inj h).symm⟩
    | cylinder =>
      simp only at h
      split_ifs at h
      exact ⟨_, (Option.some.inj h).symm⟩
  · exact ⟨fun _ => false, by rw [← Option.some.inj h, retypeSys, retype_false]⟩

/-- the reference system of `monopole` (and of `periodicarray`) has
    `rcell.natoms × multipliers` atoms in `supersize`'s order; atom `encode i r` carries the type and further values of
    rcell atom `i` and sits at that atom's position plus the shift plus an integer combination of the rcell's box
    vectors: it is the rotated, shifted perfect crystal. -/
theorem reference_is_shifted_crystal (fl : K → Int) (pad : K) (rcell : Sys K) (sz : Sizes) (shift : V3 K)
    (hdet : M3.det rcell.box.vects ≠ 0) (hm : 0 < sz.a.mult ∧ 0 < sz.b.mult ∧ 0 < sz.c.mult) :
    (baseSystem fl pad rcell sz shift).atoms.length
      = sz.c.mult.toNat * (sz.b.mult.toNat * (sz.a.mult.toNat * rcell.atoms.length)) ∧
    (baseSystem fl pad rcell sz shift).pbc = rcell.pbc ∧
    ∀ (i r0 r1 r2 : Nat) (hi : i < rcell.atoms.length), r0 < sz.a.mult.toNat → r1 < sz.b.mult.toNat →
      r2 < sz.c.mult.toNat → ∃ (t : V3 Int),
      (baseSystem fl pad rcell sz shift).atoms[encode rcell.atoms.length sz.a.mult.toNat sz.b.mult.toNat i r0 r1 r2]?
        = some { rcell.atoms[i] with
                 pos := rcell.atoms[i].pos + shift + C05.latticeVec rcell.box.vects t } := by
  have ha : ((sz.a.mult : Int) : K) ≠ 0 := by exact_mod_cast hm.1.ne'
  have hb : ((sz.b.mult : Int) : K) ≠ 0 := by exact_mod_cast hm.2.1.ne'
  have hc : ((sz.c.mult : Int) : K) ≠ 0 := by exact_mod_cast hm.2.2.ne'
  set sup := C04.supersizeAtoms rcell.box sz.a sz.b sz.c rcell.atoms with hsup
  set sb := C04.superBox rcell.box sz.a sz.b sz.c with hsb
  have hdsb : M3.det sb.vects ≠ 0 := superBox_det_ne_zero rcell.box sz.a sz.b sz.c hdet ha hb hc
  refine ⟨?_, rfl, ?_⟩
  · rw [baseSystem_eq, wrapSys_length _ _ _ _ _ _ (List.length_map _), C04.supersize_length]
  · intro i r0 r1 r2 hi h0 h1 h2
    have hget : sup[encode rcell.atoms.length sz.a.mult.toNat sz.b.mult.toNat i r0 r1 r2]? = _ :=
      C04.supersize_get rcell.box sz.a sz.b sz.c rcell.atoms i r0 r1 r2 hi h0 h1 h2
    set q := C04.replicaPos rcell.box sz.a sz.b sz.c rcell.atoms[i].pos r0 r1 r2 + shift with hq
    -- `wrap` takes a lattice vector of the supercell (the image flags) off the shifted replica
    refine ⟨_, by
      rw [baseSystem_eq, wrapSys_getElem? fl pad sb rcell.pbc sup _ _ _ q hget (by rw [List.getElem?_map, hget]; rfl)]
      exact congrArg (fun x => some (⟨_, x, _⟩ : Atom K)) (C14.replica_wrapped rcell.box sz.a sz.b sz.c rcell.atoms[i].pos
        shift _ r0 r1 r2 (C05.atomFlags fl sb rcell.pbc q) hdet ha hb hc (C05.atom_reconstruct fl sb hdsb rcell.pbc q))⟩

theorem baseSystem_det (fl : K → Int) (pad : K) (hpad : 0 < pad) (rcell : Sys K) (sz : Sizes) (shift : V3 K)
    (hdet : M3.det rcell.box.vects ≠ 0) (hm : 0 < sz.a.mult ∧ 0 < sz.b.mult ∧ 0 < sz.c.mult) :
    M3.det (baseSystem fl pad rcell sz shift).box.vects ≠ 0 := by
  simp only [baseSystem]
  apply C05.det_wrap_ne_zero fl pad hpad
  exact superBox_det_ne_zero _ _ _ _ hdet (by exact_mod_cast hm.1.ne') (by exact_mod_cast hm.2.1.ne')
    (by exact_mod_cast hm.2.2.ne')

/-- an accepted `monopole` is the reference system and the boundary step applied to its displaced, wrapped copy: what is
    proved of `monopoleBoundary … = some d` (`boundary_iff_outside_box`, `_cylinder`, `boundary_zero_width`) applies to `d`. -/
theorem monopole_ok (fl : K → Int) (pad : K) (sqrt : K → K) (u : V3 K → V3 K) (o : Orient) (rcell : Sys K) (sz : Sizes)
    (shift center : V3 K) (shape : Shape) (width : K) (nsym : Nat) (base d : Sys K)
    (h : monopole fl pad sqrt u o rcell sz shift center shape width nsym = some (base, d)) :
    base = baseSystem fl pad rcell sz shift ∧
    monopoleBoundary sqrt o shape width nsym base (monopoleRaw fl pad u o.line center base) = some d := by
  simp only [monopole, Option.map_eq_some_iff, Prod.mk.injEq] at h
  obtain ⟨d', hd', rfl, rfl⟩ := h
  exact ⟨rfl, hd'⟩

/-- the dislocation system has exactly the atoms of the reference system, in the same order,
    with the same further values; the type is the reference type (raised by `natypes` only by the boundary step); the
    position is `pos + u(pos - center)` — the elastic solution evaluated at the *reference* position relative to the
    chosen centre — moved by an integer number of box vectors along the dislocation line only. -/
theorem monopole_keeps_atoms (fl : K → Int) (pad : K) (hpad : 0 < pad) (sqrt : K → K) (u : V3 K → V3 K) (o : Orient)
    (rcell : Sys K) (sz : Sizes) (shift center : V3 K) (shape : Shape) (width : K) (nsym : Nat) (base d : Sys K)
    (h : monopole fl pad sqrt u o rcell sz shift center shape width nsym = some (base, d))
    (hdet : M3.det rcell.box.vects ≠ 0) (hm : 0 < sz.a.mult ∧ 0 < sz.b.mult ∧ 0 < sz.c.mult) :
    base = baseSystem fl pad rcell sz shift ∧ d.atoms.length = base.atoms.length ∧
    ∀ (i : Nat) (a : Atom K), base.atoms[i]? = some a → ∃ (p' : V3 K) (f : V3 Int) (ty : Int),
      d.atoms[i]? = some { a with pos := p', atype := ty } ∧
      (ty = a.atype ∨ ty = a.atype + natypes nsym base.atoms) ∧
      p' + C05.latticeVec base.box.vects f = a.pos + u (a.pos - center) ∧
      (o.line ≠ 0 → f.x = 0) ∧ (o.line ≠ 1 → f.y = 0) ∧ (o.line ≠ 2 → f.z = 0) := by
  obtain ⟨hb, hd⟩ := monopole_ok fl pad sqrt u o rcell sz shift center shape width nsym base d h
  obtain ⟨out, rfl⟩ := monopoleBoundary_ok sqrt o shape width nsym _ _ d hd
  have hdb : M3.det base.box.vects ≠ 0 := hb ▸ baseSystem_det fl pad hpad rcell sz shift hdet hm
  refine ⟨hb, ?_, fun i a ha => ?_⟩
  · simp [retypeSys, retype, monopoleRaw_eq, wrapSys_length]
  · obtain ⟨p', f, ty, h1, h2, h3, h4, h5, h6⟩ := retype_wrapSys_getElem? fl pad base.box hdb (pbcOnly o.line) base.atoms
      (base.atoms.map fun a => displaced u center a.pos) out (natypes nsym base.atoms) i a _ ha
      (by rw [List.getElem?_map, ha]; rfl)
    obtain ⟨p0, p1, p2⟩ := pbcOnly_false o.line
    exact ⟨p', f, ty, h1, h2, h3, h4 ∘ p0, h5 ∘ p1, h6 ∘ p2⟩

/-- the dislocation system is periodic along the dislocation line and only there, and the box vector
    along the line is the reference system's (the wrap of the displaced atoms may only lengthen the two other box
    vectors). -/
theorem monopole_pbc (fl : K → Int) (pad : K) (sqrt : K → K) (u : V3 K → V3 K) (o : Orient)
    (rcell : Sys K) (sz : Sizes) (shift center : V3 K) (shape : Shape) (width : K) (nsym : Nat) (base d : Sys K)
    (h : monopole fl pad sqrt u o rcell sz shift center shape width nsym = some (base, d)) (hl : o.line < 3) :
    d.pbc = ⟨o.line = 0, o.line = 1, o.line = 2⟩ ∧ d.box.vects.row o.line = base.box.vects.row o.line := by
  obtain ⟨rfl, hd⟩ := monopole_ok fl pad sqrt u o rcell sz shift center shape width nsym base d h
  obtain ⟨out, rfl⟩ := monopoleBoundary_ok sqrt o shape width nsym _ _ d hd
  refine ⟨rfl, ?_⟩
  -- a periodic direction keeps its box vector in the wrap
  obtain h | h | h : o.line = 0 ∨ o.line = 1 ∨ o.line = 2 := by omega
  all_goals rw [h]; exact C05.smul_width_periodic pad _ _ rfl

/-- after the final `wrap()` every atom of the dislocation system lies inside the (possibly
    padded) box: scaled coordinates in `[0, 1)`, along the line by the periodic wrap, across it because the two other
    box vectors are lengthened to enclose the displaced atoms. -/
theorem monopole_wrapped (fl : K → Int) (hfl : C05.IsFloor fl) (pad : K) (hpad : 0 < pad) (u : V3 K → V3 K) (line : Nat)
    (center : V3 K) (base : Sys K) (hdet : M3.det base.box.vects ≠ 0) :
    ∀ (i : Nat) (a : Atom K), (monopoleRaw fl pad u line center base).atoms[i]? = some a →
      0 ≤ ((monopoleRaw fl pad u line center base).box.cartToRel a.pos).x ∧
      ((monopoleRaw fl pad u line center base).box.cartToRel a.pos).x < 1 ∧
      0 ≤ ((monopoleRaw fl pad u line center base).box.cartToRel a.pos).y ∧
      ((monopoleRaw fl pad u line center base).box.cartToRel a.pos).y < 1 ∧
      0 ≤ ((monopoleRaw fl pad u line center base).box.cartToRel a.pos).z ∧
      ((monopoleRaw fl pad u line center base).box.cartToRel a.pos).z < 1 := by
  intro i a ha
  rw [monopoleRaw_eq] at ha ⊢
  exact C05.wrap_inside_strict fl hfl pad hpad base.box hdet (pbcOnly line) _ a.pos (wrapSys_pos_mem fl pad _ _ _ _ i a ha)

/-- once the arguments are accepted, building the systems is refused exactly when a cylinder
    boundary of positive width leaves no positive radius (the assertion of `Cylinder`). -/
theorem monopole_refuses_iff (fl : K → Int) (pad : K) (sqrt : K → K) (u : V3 K → V3 K) (o : Orient) (rcell : Sys K)
    (sz : Sizes) (shift center : V3 K) (shape : Shape) (width : K) (nsym : Nat) :
    monopole fl pad sqrt u o rcell sz shift center shape width nsym = none ↔
      (0 < width ∧ shape = .cylinder ∧
        ¬ 0 < cylRadius sqrt o.motion o.cut o.line (baseSystem fl pad rcell sz shift).box width) := by
  unfold monopole monopoleBoundary
  simp only [Option.map_eq_none_iff, gt_iff_lt]
  by_cases hw : 0 < width
  · simp only [hw, if_true, true_and]
    cases shape
    · simp
    · by_cases hr : 0 < cylRadius sqrt o.motion o.cut o.line (baseSystem fl pad rcell sz shift).box width
      · simp [hr]
      · simp [hr]
  · simp [hw]

end Atomman.C13
