/-
  C14: algebra of the Cartesian image `cart V v = toK v · V` of an integer vector and of the casts `toK`, `castM`, on the
  model file and the shared `Proofs/Lattice.lean` / `Proofs/Linear3.lean` only: the casts commute with `dot`, `cross`, `vecMul`, `smul`; `cart` is linear;
  triple products through `det` and the cofactor rows; `dot_cart_planeNormal`, the identity behind the zone law; lattice
  vectors of a non-singular cell have positive length (`m2_pos`).
-/
import Atomman.C14
import Proofs.Lattice
import Mathlib.Tactic.LinearCombination

namespace Atomman.C14
open Atomman

section ring
variable {K : Type} [CommRing K]

/-- rows `b×c, c×a, a×b` of a cell (`= det · reciprocal vectors`). -/
def cofRows (M : M3 K) : M3 K := ⟨V3.cross M.r1 M.r2, V3.cross M.r2 M.r0, V3.cross M.r0 M.r1⟩

theorem cofRows_eq_cof (M : M3 K) : cofRows M = M3.cof M := rfl

/-- `M3.castInt L`, written with the model's `toK` (which is `V3.castInt`, as `cart V` is `M3.latticeVec V`, by `rfl`): the
    lemmas below restate those of `Proofs/Lattice.lean` in these names so that `rw` finds them. -/
def castM (L : M3 Int) : M3 K := ⟨toK L.r0, toK L.r1, toK L.r2⟩

theorem toK_vecMul (a : IV) (L : M3 Int) : toK (K := K) (M3.vecMul a L) = M3.vecMul (toK a) (castM L) :=
  V3.castInt_vecMul a L

theorem toK_smul (g : ℤ) (c : IV) : toK (K := K) (V3.smul g c) = V3.smul (g : K) (toK c) := V3.castInt_smul g c

theorem cart_vecMul (V : M3 K) (L : M3 Int) (a : IV) :
    cart V (M3.vecMul a L) = cart (M3.mul (castM L) V) a :=
  M3.latticeVec_vecMul V L a

theorem vecMul_adj (L : M3 Int) (u : IV) : M3.vecMul (M3.vecMul u (adj L)) L = V3.smul (M3.det L) u := by
  simp only [M3.vecMul, adj, M3.transpose, V3.cross, M3.det, V3.dot, V3.smul, V3.mk.injEq]
  refine ⟨by ring, by ring, by ring⟩

theorem dot_cross_adj (L : M3 Int) (u a b : IV) :
    V3.dot u (V3.cross (M3.vecMul a L) (M3.vecMul b L)) = V3.dot (M3.vecMul u (adj L)) (V3.cross a b) := by
  simp only [M3.vecMul, V3.dot, V3.cross, adj, M3.transpose]
  ring

theorem toK_dot (a b : IV) : ((V3.dot a b : ℤ) : K) = V3.dot (toK a) (toK b) := V3.castInt_dot a b

theorem toK_cross (a b : IV) : toK (K := K) (V3.cross a b) = V3.cross (toK a) (toK b) := V3.castInt_cross a b

theorem dot_cart_planeNormal (V : M3 K) (L : M3 Int) (a b hkl u : IV) (s num den : ℤ)
    (he : V3.smul den (V3.smul s (V3.cross a b)) = V3.smul num hkl) :
    (den : K) * V3.dot (cart V u) (planeNormal V s (M3.vecMul a L) (M3.vecMul b L))
      = (num : K) * M3.det V * ((V3.dot hkl (M3.vecMul u (adj L)) : ℤ) : K) := by
  have h1 : V3.dot (cart V u) (planeNormal V s (M3.vecMul a L) (M3.vecMul b L))
      = (s : K) * (M3.det V * ((V3.dot u (V3.cross (M3.vecMul a L) (M3.vecMul b L)) : ℤ) : K)) := by
    rw [toK_dot, toK_cross, ← M3.triple_vecMul]
    simp only [planeNormal, cart, V3.dot, V3.smul]
    ring
  rw [h1, dot_cross_adj]
  have h2 : den * (s * V3.dot (M3.vecMul u (adj L)) (V3.cross a b)) = num * V3.dot hkl (M3.vecMul u (adj L)) := by
    -- `he` dotted with `u · adj L`
    have := congrArg (V3.dot (M3.vecMul u (adj L))) he
    rw [V3.dot_smul_right, V3.dot_smul_right, V3.dot_smul_right] at this
    rw [this]; simp only [V3.dot]; ring
  have h2' := congrArg (Int.cast (R := K)) h2
  push_cast at h2'
  linear_combination M3.det V * h2'

theorem cart_smul (V : M3 K) (g : ℤ) (c : IV) : cart V (V3.smul g c) = V3.smul (g : K) (cart V c) :=
  M3.latticeVec_smul V g c

/-- squared Cartesian length of the lattice vector `v`. -/
def m2 (V : M3 K) (v : IV) : K := V3.normSq (cart V v)
/-- component along the (unnormalised) plane normal. -/
def dn (V : M3 K) (pn : V3 K) (v : IV) : K := V3.dot (cart V v) pn

/-- the model's two tests on a candidate (`inPlane`, `towardNormal`) in the vocabulary of the search lemmas. -/
theorem inPlane_iff_dn (V : M3 K) (pn : V3 K) (v : IV) : inPlane V pn v ↔ dn V pn v = 0 := Iff.rfl

theorem dn_smul (V : M3 K) (pn : V3 K) (g : ℤ) (c : IV) : dn V pn (V3.smul g c) = (g : K) * dn V pn c := by
  rw [dn, cart_smul, V3.dot_smul_left]; rfl

theorem m2_smul (V : M3 K) (g : ℤ) (c : IV) : m2 V (V3.smul g c) = (g : K) * (g : K) * m2 V c := by
  rw [m2, cart_smul, V3.normSq_smul]; rfl

theorem castM_det (L : M3 Int) : M3.det (castM (K := K) L) = ((M3.det L : ℤ) : K) := M3.castInt_det L

theorem det_cart (V : M3 K) (a b c : IV) :
    V3.dot (V3.cross (cart V a) (cart V b)) (cart V c) = ((M3.det (⟨a, b, c⟩ : M3 Int) : ℤ) : K) * M3.det V := by
  have h1 : V3.dot (V3.cross (cart V a) (cart V b)) (cart V c)
      = V3.dot (cart V a) (V3.cross (cart V b) (cart V c)) := by
    simp only [V3.dot, V3.cross]; ring
  rw [h1]
  unfold cart
  rw [M3.triple_vecMul, ← toK_cross, ← toK_dot]
  simp only [M3.det]
  ring

end ring

section ordered
variable {K : Type} [CommRing K] [LinearOrder K] [IsStrictOrderedRing K]

omit [IsStrictOrderedRing K] in
theorem towardNormal_iff_dn (V : M3 K) (pn : V3 K) (v : IV) : towardNormal V pn v ↔ 0 < dn V pn v := Iff.rfl

theorem cart_ne_zero (V : M3 K) (hdet : M3.det V ≠ 0) (v : IV) (hv : v ≠ ⟨0, 0, 0⟩) :
    cart V v ≠ ⟨0, 0, 0⟩ := M3.latticeVec_ne_zero V hdet v hv

theorem m2_pos (V : M3 K) (hdet : M3.det V ≠ 0) (v : IV) (hv : v ≠ ⟨0, 0, 0⟩) : 0 < m2 V v :=
  V3.normSq_pos _ (cart_ne_zero V hdet v hv)

end ordered

end Atomman.C14
