/-
  C06 — per-atom data stays rectangular, row-aligned, unaliased under any edit sequence.
  Property theorems about the model `Atomman/C06.lean` (tied to atomman/core/Atoms.py and
  atomman/core/System.py by the history correspondence of harness/props/c06.py).
-/
import Proofs.C06_Atype
import Proofs.C06_Observe
import Proofs.C06_Source

namespace Atomman.C06

/-- **The history invariant.**  `InvK κ s` (see `Proofs/C06_Inv.lean`): every buffer is rectangular
    and homogeneously typed, every property of every object exposes exactly `natoms` existing rows,
    keys are distinct, `atype` cells are numeric and ≥ 1, every system points at an existing `Atoms`
    and has a 3-entry `pbc`; `Boundary` (`Proofs/C06_Atoms.lean`): every object has an `atype` and a `pos`
    property. -/
def Inv (s : State) : Prop := (∃ κ, InvK κ s) ∧ Boundary s

/-- the stored form of the constructor's `pos` is a well-formed literal … -/
theorem posLit_ok (v : Val) (h : v.ok = true) : (posLit v).ok = true := by
  unfold posLit
  split
  · simp only [Val.ok, Bool.and_eq_true, beq_iff_eq, List.all_eq_true] at h ⊢
    refine ⟨by simpa using h.1, ?_⟩
    intro c hc
    simp only [List.mem_map] at hc
    obtain ⟨c0, _, rfl⟩ := hc
    cases c0 <;> simp [castCell, Cell.hasType]
  · exact h

/-- … never of an integer or boolean dtype (what `Atoms(pos=…)` binds as `pos` is a float or string array), of the
    shape it was given; a float / string literal is stored as it is. -/
theorem posLit_spec (v : Val) :
    (posLit v).dt ≠ .int ∧ (posLit v).dt ≠ .bool ∧ (posLit v).shape = v.shape ∧
    ((v.dt ≠ .int ∧ v.dt ≠ .bool) → posLit v = v) ∧ posLit (posLit v) = posLit v := by
  rcases v with ⟨dt, shape, data⟩
  cases dt <;> simp [posLit, posCastKinds, kindOf]

theorem stepWith_state (off : Bool) (s : State) (op : Op) :
    (stepWith off s op).2 = s ∨
    ((op.litsOk = true ∧ op.idsOk s = true) ∧ stepWith off s op = run off op s) := by
  unfold stepWith
  split
  · left; rfl
  · rename_i hc
    have hc : op.litsOk = true ∧ op.idsOk s = true := Decidable.not_not.mp hc
    split
    · left; rfl
    · right; exact ⟨hc, rfl⟩

/-- every call of the documented grammar, started in a state satisfying the invariant, ends
    (normally or by raising) in a state satisfying it. -/
theorem inv_run {κ : Nat → String} {s : State} (h : InvK κ s) (hb : Boundary s) (off : Bool) (op : Op)
    (hlits : op.litsOk = true) (hids : op.idsOk s = true) :
    Post (run off op) s (fun _ s' => Good κ s s') := by
  cases op with
  | new n a p ex =>
    simp only [Op.litsOk, Bool.and_eq_true, List.all_eq_true] at hlits
    apply post_map_good
    apply Post.mono (inv_mkAtoms h n (a.map .lit) (p.map (fun v => Src.lit (posLit v)))
      (ex.map (fun kv => (kv.1, Src.lit kv.2))) ?_ ?_ ?_)
    · intro r s' hm; exact Good.of_made hm
    · intro src hsrc
      obtain ⟨v, rfl, rfl⟩ := Option.map_eq_some_iff.mp hsrc
      exact valOK_of_ok v (by simpa using hlits.1.1)
    · intro src hsrc
      obtain ⟨v, rfl, rfl⟩ := Option.map_eq_some_iff.mp hsrc
      exact valOK_of_ok (posLit v) (posLit_ok v (by simpa using hlits.1.2))
    · intro kv hkv
      simp only [List.mem_map] at hkv
      obtain ⟨kv0, hkv0, rfl⟩ := hkv
      exact valOK_of_ok _ (hlits.2 kv0 hkv0)
  | setView o k v =>
    exact post_unit_good (Post.mono (inv_viewSet h o k (.lit v) (valOK_of_ok v hlits)) (fun _ _ hq => Good.of_kept hq.1))
  | propGet o k ix =>
    exact post_map_good _ (Post.mono (propGet_post o k ix s) (fun _ _ he => good_of_eq h he))
  | propKeys o =>
    show Post (getS >>= _) s _
    rw [post_bind_getS]
    exact Good.refl h
  | propGetAtoms o ix =>
    exact post_map_good _ (Post.mono (propGetAtoms_spec h o ix (hb o (by simpa [Op.idsOk] using hids))) (fun _ _ hq => hq.1.1))
  | propSet o k ix v =>
    exact post_unit_good (inv_propSet h o k ix v (valOK_of_ok v hlits)).good_of_kept
  | propSetAtoms o ix src =>
    exact post_unit_good (setItem_spec h o _ src).fst.good_of_kept
  | getItem o ix =>
    exact post_map_good _ (getItem_spec h o ix (hb o (by simpa [Op.idsOk] using hids))).fst.good_of_made
  | setItem o ix src =>
    exact post_unit_good (setItem_spec h o ix src).fst.good_of_kept
  | propAtype o k v t =>
    exact post_unit_good (inv_propAtype h o k v t (valOK_of_ok v hlits)).good_of_kept
  | extendInt o n =>
    exact post_map_good _ (Post.mono (extendInt_spec h o n (hb o (by simpa [Op.idsOk] using hids)) (by simpa [Op.idsOk] using hids))
      (fun _ _ hq => hq.1.1))
  | extendAtoms o src =>
    apply post_map_good
    simp only [Op.idsOk, Bool.and_eq_true, decide_eq_true_eq] at hids
    exact (inv_extendWith h o src (hb o hids.1) hids.1 hids.2 (hb src hids.2)).good_of_made
  | deepcopy o =>
    exact post_map_good _ (deepcopy_spec h o (hb o (by simpa [Op.idsOk] using hids))).fst.good_of_made
  | natypes o =>
    exact post_map_good _ (Post.mono (natypes_post o s) (fun _ _ hq => good_of_eq h hq.1))
  | mkSys o box pbc sy ms =>
    apply post_map_good
    simp only [Op.idsOk, decide_eq_true_eq] at hids
    exact Post.mono (inv_mkSys h o box pbc sy ms hids) (fun _ _ hq => hq.good)
  | mkSysX o box pbc sy ms sc cp =>
    apply post_map_good
    simp only [Op.idsOk, decide_eq_true_eq] at hids
    exact (mkSysX_spec h hb o box pbc sy ms sc cp hids).fst
  | symbolsGet i =>
    exact inv_getter h off .symbols i (by simpa [Op.idsOk] using hids)
  | symbolsSet i l =>
    exact post_unit_good (Post.mono (inv_symbolsSet h i l) (fun _ _ hq => hq.good))
  | massesGet i =>
    exact inv_getter h off .masses i (by simpa [Op.idsOk] using hids)
  | massesSet i l =>
    exact post_unit_good (Post.mono (inv_massesSet h i (by simpa [Op.idsOk] using hids) l) (fun _ _ hq => hq.good))
  | pbcSet i l =>
    exact post_unit_good (Post.mono (inv_pbcSet h i l) (fun _ _ hq => hq.good))
  | sysNatypes i =>
    exact inv_getter h off .natypes i (by simpa [Op.idsOk] using hids)
  | sysAtypes i =>
    exact inv_getter h off .atypes i (by simpa [Op.idsOk] using hids)
  | composition i =>
    exact inv_getter h off .composition i (by simpa [Op.idsOk] using hids)
  | sysPropGet i k ix =>
    show Post (getS >>= _) s _
    rw [post_bind_getS]
    exact post_map_good _ (Post.mono (propGet_post _ k ix s) (fun _ _ he => good_of_eq h he))
  | sysPropGetAtoms i ix =>
    show Post (getS >>= _) s _
    rw [post_bind_getS]
    exact post_map_good _ (Post.mono (propGetAtoms_spec h _ ix (sysAtoms_hasAP h hb (by simpa [Op.idsOk] using hids)))
      (fun _ _ hq => hq.1.1))
  | sysPropGetScaled i k ix =>
    exact post_map_good _ (Post.mono (sysPropGetScaled_post i k ix s) (fun _ _ he => good_of_eq h he))
  | sysPropGetAtomsScaled i ix =>
    apply post_map_good
    exact (sysPropGetAtomsScaled_spec h hb i ix (by simpa [Op.idsOk] using hids)).fst
  | sysDeepcopy i =>
    apply post_map_good
    simp only [Op.idsOk, decide_eq_true_eq] at hids
    exact inv_sysDeepcopy h hb i hids
  | sysPropSet i k ix v scale =>
    show Post (getS >>= _) s _
    rw [post_bind_getS]
    apply post_unit_good
    cases scale with
    | true => exact Post.mono (inv_sysPropSetScaled h i k ix v (valOK_of_ok v hlits)) (fun _ _ hq => Good.of_kept hq)
    | false => exact Post.mono (inv_propSet h _ k ix v (valOK_of_ok v hlits)) (fun _ _ hq => Good.of_kept hq)
  | sysPropSetAtoms i ix src scale =>
    show Post (getS >>= _) s _
    rw [post_bind_getS]
    apply post_unit_good
    cases scale with
    | true => exact Post.mono (inv_sysPropSetAtomsScaled h i ix src) (fun _ _ hq => Good.of_kept hq)
    | false => exact (setItem_spec h _ _ src).fst.good_of_kept
  | sysExtend i v scale sy =>
    apply post_map_good
    simp only [Op.idsOk, Bool.and_eq_true, decide_eq_true_eq] at hids
    apply inv_sysExtend h hb off i v scale sy hids.1
    intro d hd
    subst hd
    simpa using hids.2
  | ixGet i ix =>
    apply post_map_good
    exact inv_ixGet h hb i ix (by simpa [Op.idsOk] using hids)
  | ixSet i ix src =>
    show Post (getS >>= _) s _
    rw [post_bind_getS]
    apply post_unit_good
    cases src with
    | inl o => exact (setItem_spec h _ ix o).fst.good_of_kept
    | inr j => exact (setItem_spec h _ ix _).fst.good_of_kept
  | df o =>
    show Post (getS >>= _) s _
    rw [post_bind_getS]
    exact Good.refl h
  | sysDf i sc =>
    show Post (getS >>= _) s _
    rw [post_bind_getS, post_bind_liftE]
    cases sysDfColumns s i (dfScaleKeys sc) with
    | ok c => exact Good.refl h
    | error e => exact Good.refl h

theorem init_inv : Inv init := by
  refine ⟨⟨fun _ => "", ?_, ?_, ?_, ?_⟩, ?_⟩
  · intro b hb; simp [init] at hb
  · intro o ho; simp [init] at ho
  · intro o ho; simp [init] at ho
  · intro y hy; simp [init] at hy
  · intro o ho; simp [init] at ho

/-- one operation of a history (any operation of the grammar, well-formed or not,
    accepted or refused, both variants of `atoms_extend`) keeps the invariant.  `off` selects the offset variant
    of `atoms_extend` (`offsetDonor` of `sysExtend`); `step` is `stepWith` with the variant read from the source
    (`gen_step_eq_model`). -/
theorem inv_stepWith (off : Bool) (s : State) (op : Op) (h : Inv s) : Inv (stepWith off s op).2 := by
  rcases stepWith_state off s op with he | ⟨⟨hl, hi⟩, he⟩
  · rw [he]; exact h
  · obtain ⟨⟨κ, hinv⟩, hb⟩ := h
    have := inv_run hinv hb off op hl hi
    rw [he]
    obtain ⟨κ', hinv', _, hb'⟩ := this
    exact ⟨⟨κ', hinv'⟩, hb' hb⟩

theorem inv_step (s : State) (op : Op) (h : Inv s) : Inv (step s op) := inv_stepWith false s op h

/-- histories can be continued from any state satisfying the invariant. -/
theorem inv_history (s : State) (ops : List Op) (h : Inv s) : Inv (ops.foldl step s) :=
  foldl_inv step Inv ops (fun s a _ h => inv_step s a h) s h

/-- the invariant holds after every finite history from the empty state. -/
theorem inv_reachable (ops : List Op) : Inv (ops.foldl step init) := inv_history init ops init_inv

/-- **rectangular** — in every state satisfying the invariant, every property `p` of every object
    `o`, read as a value, has shape `natoms :: trail`, holds exactly `natoms * prod trail` cells, all of
    the property's dtype (strings no longer than the declared width); property names are distinct. -/
theorem inv_rectangular (s : State) (h : Inv s) (o : Nat) (p : PropRef) (hp : p ∈ (s.obj o).props) :
    (arrVal s p.arr).shape = (s.obj o).natoms :: arrTrail s p.arr ∧
    (arrVal s p.arr).data.length = (s.obj o).natoms * prod (arrTrail s p.arr) ∧
    (∀ c ∈ (arrVal s p.arr).data, c.hasType (arrDt s p.arr) = true) ∧
    (arrRows s p.arr).length = (s.obj o).natoms ∧
    (∀ r ∈ arrRows s p.arr, r.length = prod (arrTrail s p.arr)) ∧
    ((s.obj o).props.map (·.key)).Nodup := by
  obtain ⟨⟨κ, hinv⟩, _⟩ := h
  have hp0 := hinv.obj_props o p hp
  have hv := arrVal_ok hinv hp0.valid
  have hb := hinv.buf_ok p.arr.buf
  refine ⟨by simp [arrVal, hp0.len], ?_, hv.2, by simp [arrRows, hp0.len], ?_, ?_⟩
  · rw [hv.1]; simp [arrVal, prod, hp0.len]
  · intro r hr
    obtain ⟨i, _, _, hmem⟩ := arrRows_mem hp0.valid r hr
    exact hb.width r hmem
  · exact hinv.obj_nodup o

theorem reachable_rectangular (ops : List Op) (o : Nat) (p : PropRef)
    (hp : p ∈ ((ops.foldl step init).obj o).props) :
    (arrVal (ops.foldl step init) p.arr).shape =
      ((ops.foldl step init).obj o).natoms :: arrTrail (ops.foldl step init) p.arr ∧
    (arrVal (ops.foldl step init) p.arr).data.length =
      ((ops.foldl step init).obj o).natoms * prod (arrTrail (ops.foldl step init) p.arr) ∧
    (∀ c ∈ (arrVal (ops.foldl step init) p.arr).data, c.hasType (arrDt (ops.foldl step init) p.arr) = true) :=
  let h := inv_rectangular _ (inv_reachable ops) o p hp
  ⟨h.1, h.2.1, h.2.2.1⟩

/-- **atype ≥ 1** — in every state satisfying the invariant every object has an `atype` property and
    every cell of it is numeric and at least 1. -/
theorem inv_atype_ge_one (s : State) (h : Inv s) (o : Nat) (ho : o < s.objs.length) :
    ∃ a, (s.obj o).find "atype" = some a ∧ ∀ c ∈ (arrVal s a).data, ∃ q, c.num? = some q ∧ 1 ≤ q := by
  obtain ⟨⟨κ, hinv⟩, hb⟩ := h
  have := (hb o ho).1
  cases hf : (s.obj o).find "atype" with
  | none => simp [hf] at this
  | some a =>
    refine ⟨a, rfl, ?_⟩
    exact arrVal_ge1 ((hinv.find_ok o "atype" a hf).atype rfl)

theorem reachable_atype_ge_one (ops : List Op) (o : Nat) (ho : o < (ops.foldl step init).objs.length) :
    ∃ a, ((ops.foldl step init).obj o).find "atype" = some a ∧
      ∀ c ∈ (arrVal (ops.foldl step init) a).data, ∃ q, c.num? = some q ∧ 1 ≤ q :=
  inv_atype_ge_one _ (inv_reachable ops) o ho

/-- consequently the `np.min(self.atype) < 1` refusal of `natypes` is never taken on an object of a
    state satisfying the invariant. -/
theorem inv_natypes_min (s : State) (h : Inv s) (o : Nat) (ho : o < s.objs.length)
    (a : Arr) (nums : List Rat) (mn : Rat) (hf : (s.obj o).find "atype" = some a)
    (hn : (arrVal s a).data.mapM Cell.num? = some nums) (hm : listMin nums = some mn) : ¬ mn < 1 := by
  obtain ⟨a', hf', hge⟩ := inv_atype_ge_one s h o ho
  rw [hf] at hf'; injection hf' with hf'; subst hf'
  have hmem : mn ∈ nums := listMin_mem nums mn hm
  obtain ⟨hlen, hback⟩ := mapM_option _ _ _ hn
  obtain ⟨c, hc, hcq⟩ := hback mn hmem
  obtain ⟨q, hq, h1⟩ := hge c hc
  rw [hcq] at hq; injection hq with hq; subst hq
  exact Rat.not_lt.mpr h1

/-- **every view is padded**: never shorter than the number of atom types of the atoms (nor, for the
    masses, than `System.natypes`), in *every* state — no invariant, no previous read is needed. -/
theorem observers_padded (s : State) (i nt : Nat) :
    nt ≤ (symView s i nt).length ∧ nt ≤ ntView s i nt ∧ (symView s i nt).length ≤ ntView s i nt ∧
    ntView s i nt ≤ (massView s i nt).length ∧ nt ≤ (massView s i nt).length ∧
    ((List.range (ntView s i nt)).map (· + 1)).length = ntView s i nt := by
  have h1 : nt ≤ (symView s i nt).length := (padTo_length _ _).1
  have h2 : nt ≤ ntView s i nt ∧ (symView s i nt).length ≤ ntView s i nt := by
    unfold ntView; split <;> omega
  have h3 : ntView s i nt ≤ (massView s i nt).length := (padTo_length _ _).1
  exact ⟨h1, h2.1, h2.2, h3, Nat.le_trans h2.1 h3, by simp⟩

set_option linter.unusedVariables false in
/-- `symbols` getter: the returned tuple is what the system now stores and is at least as long as
    `natypes` of the system's atoms (evaluated in the state the getter leaves). -/
theorem symbols_padded (s : State) (h : Inv s) (i : Nat) (hi : i < s.syss.length) (l : List (Option String))
    (s' : State) (hrun : symbolsGet i s = (.ok l, s')) :
    (s'.sys i).symbols = l ∧ ∃ nt, (natypes (s'.sys i).atoms s').1 = .ok nt ∧ nt ≤ l.length := by
  cases hnt : ntOf s i with
  | error e => rw [symbolsGet_closed_err i s e hnt] at hrun; cases hrun
  | ok nt =>
    rw [symbolsGet_closed i s nt hi hnt] at hrun
    obtain ⟨hl, rfl⟩ := Prod.mk.inj hrun
    obtain rfl := Except.ok.inj hl
    exact ⟨putSym_symbols s i _ hi, nt, (ntOf_putSym s i i _).trans hnt, (padTo_length _ _).1⟩

set_option linter.unusedVariables false in
/-- `masses` getter: likewise. -/
theorem masses_padded (s : State) (h : Inv s) (i : Nat) (hi : i < s.syss.length) (l : List (Option Rat))
    (s' : State) (hrun : massesGet i s = (.ok l, s')) :
    (s'.sys i).masses = l ∧ ∃ nt, (natypes (s'.sys i).atoms s').1 = .ok nt ∧ nt ≤ l.length := by
  cases hnt : ntOf s i with
  | error e => rw [massesGet_closed_err i s e hnt] at hrun; cases hrun
  | ok nt =>
    rw [massesGet_closed i s nt hi hnt] at hrun
    obtain ⟨hl, rfl⟩ := Prod.mk.inj hrun
    obtain rfl := Except.ok.inj hl
    have hi1 : i < (putSym s i (symView s i nt)).syss.length := by rw [putSym_len]; exact hi
    exact ⟨putMass_masses _ i _ hi1, nt, ((ntOf_putMass _ i i _).trans (ntOf_putSym s i i _)).trans hnt,
      (observers_padded s i nt).2.2.2.2.1⟩

set_option linter.unusedVariables false in
/-- `System.natypes` is at least `atoms.natypes`. -/
theorem sysNatypes_ge (s : State) (h : Inv s) (i : Nat) (hi : i < s.syss.length) (n : Nat) (s' : State)
    (hrun : sysNatypes i s = (.ok n, s')) : ∃ nt, (natypes (s'.sys i).atoms s').1 = .ok nt ∧ nt ≤ n := by
  cases hnt : ntOf s i with
  | error e => rw [sysNatypes_closed_err i s e hnt] at hrun; cases hrun
  | ok nt =>
    rw [sysNatypes_closed i s nt hi hnt] at hrun
    obtain ⟨hl, rfl⟩ := Prod.mk.inj hrun
    obtain rfl := Except.ok.inj hl
    exact ⟨nt, (ntOf_putSym s i i _).trans hnt, (observers_padded s i nt).2.1⟩

set_option linter.unusedVariables false in
/-- the setters pad as well: after `system.symbols = value` the stored tuple is `value` padded with
    `None` up to `natypes`. -/
theorem symbolsSet_pads (s : State) (h : Inv s) (i : Nat) (hi : i < s.syss.length) (value : List (Option String))
    (s' : State) (hrun : symbolsSet i value s = (.ok (), s')) :
    ∃ nt, (natypes (s.sys i).atoms s).1 = .ok nt ∧ (s'.sys i).symbols = padTo value nt ∧
      nt ≤ (s'.sys i).symbols.length ∧ value.length ≤ (s'.sys i).symbols.length := by
  cases hnt : ntOf s i with
  | error e => rw [symbolsSet_closed_err i value s e hnt] at hrun; cases hrun
  | ok nt =>
    rw [symbolsSet_closed i value s nt hnt] at hrun
    obtain rfl := (Prod.mk.inj hrun).2
    have hsym := putSym_symbols s i (padTo value nt) hi
    exact ⟨nt, hnt, hsym, by rw [hsym]; exact (padTo_length _ _).1, by rw [hsym]; exact (padTo_length _ _).2⟩

/-- **closed form of every observer.**  On a system `i` whose atoms have `natypes = nt`, the reply to
    `symbols` / `masses` / `natypes` / `atypes` / `composition` is a function of the *stored* tuples and of
    `nt` alone (`symView` = stored symbols padded with `None` to `nt`, `ntView` = `max nt (len symView)`,
    `massView` = stored masses padded to `ntView`, …), whatever padding has or has not happened yet. -/
theorem observer_closed_form (s : State) (g : Getter) (i nt : Nat) (hi : i < s.syss.length)
    (hnt : ntOf s i = .ok nt) : output s (g.op i) = g.view s i nt := by
  show (stepWith false s (g.op i)).1 = _
  rw [(stepWith_getter false s g i).1, if_pos hi, hnt]

/-- **read order is irrelevant.**  After ANY sequence of observations (any getters, on any systems, in
    any order, each of them free to pad hidden tuples) every observer replies exactly what it would
    have replied had it been issued first. -/
theorem read_order_irrelevant (s : State) (obs : List Op) (hobs : ∀ o ∈ obs, IsObs o) (g : Getter) (i : Nat) :
    output (obs.foldl step s) (g.op i) = output s (g.op i) :=
  output_obsEq (obsEq_foldl obs hobs s) g i

/-- **every getter returns a padded tuple in every reachable state regardless of the read order.**
    `ops` is any history (mutations and reads interleaved at will), `obs` any further sequence of reads;
    whatever was or was not read, `symbols`, `masses`, `natypes` and `atypes` of system `i` reply the
    padded views of the state the history reached, all at least `atoms.natypes` long. -/
theorem observers_padded_any_order (ops obs : List Op) (hobs : ∀ o ∈ obs, IsObs o) (i nt : Nat)
    (hi : i < (ops.foldl step init).syss.length) (hnt : ntOf (ops.foldl step init) i = .ok nt) :
    ∃ (sy : List (Option String)) (ms : List (Option Rat)) (n : Nat),
      output (obs.foldl step (ops.foldl step init)) (.symbolsGet i) = .ok (.syms sy) ∧
      output (obs.foldl step (ops.foldl step init)) (.massesGet i) = .ok (.masses ms) ∧
      output (obs.foldl step (ops.foldl step init)) (.sysNatypes i) = .ok (.nat n) ∧
      output (obs.foldl step (ops.foldl step init)) (.sysAtypes i) = .ok (.nats ((List.range n).map (· + 1))) ∧
      nt ≤ sy.length ∧ nt ≤ ms.length ∧ nt ≤ n ∧ sy.length ≤ n ∧ n ≤ ms.length := by
  have hp := observers_padded (ops.foldl step init) i nt
  refine ⟨symView (ops.foldl step init) i nt, massView (ops.foldl step init) i nt, ntView (ops.foldl step init) i nt,
    ?_, ?_, ?_, ?_, hp.1, hp.2.2.2.2.1, hp.2.1, hp.2.2.1, hp.2.2.2.1⟩
  · exact (read_order_irrelevant _ obs hobs .symbols i).trans (observer_closed_form _ .symbols i nt hi hnt)
  · exact (read_order_irrelevant _ obs hobs .masses i).trans (observer_closed_form _ .masses i nt hi hnt)
  · exact (read_order_irrelevant _ obs hobs .natypes i).trans (observer_closed_form _ .natypes i nt hi hnt)
  · exact (read_order_irrelevant _ obs hobs .atypes i).trans (observer_closed_form _ .atypes i nt hi hnt)

/-- in a state satisfying the invariant `atoms.natypes` of every system is defined as soon as the atoms'
    `atype` column is not empty (the only way the real `natypes` raises on a reachable state is
    `np.min` of an empty array): the hypothesis `ntOf … = .ok nt` of the theorems above is then met. -/
theorem inv_ntOf_ok (s : State) (h : Inv s) (i : Nat) (hi : i < s.syss.length)
    (hne : ∀ a, (s.obj (s.sys i).atoms).find "atype" = some a → (arrVal s a).data ≠ []) :
    ∃ nt, ntOf s i = .ok nt := by
  have ho : (s.sys i).atoms < s.objs.length := by
    obtain ⟨⟨κ, hinv⟩, _⟩ := h
    exact (hinv.syss _ (sys_mem s i hi)).1
  obtain ⟨a, hf, hge⟩ := inv_atype_ge_one s h _ ho
  obtain ⟨nums, hnums⟩ := mapM_num_total (arrVal s a).data (fun c hc => by
    obtain ⟨q, hq, _⟩ := hge c hc; simp [hq])
  have hlen := (mapM_option _ _ _ hnums).1
  have hdat := hne a hf
  unfold ntOf
  rw [natypes_closed, hf]
  simp only [hnums]
  cases nums with
  | nil =>
    exfalso
    apply hdat
    exact List.eq_nil_of_length_eq_zero (by simpa using hlen.symm)
  | cons x xs =>
    have hmin : ∃ mn, listMin (x :: xs) = some mn := ⟨_, rfl⟩
    obtain ⟨mn, hmn⟩ := hmin
    have hnot := inv_natypes_min s h _ ho a (x :: xs) mn hf hnums hmn
    have hmax : ∃ mx, listMax (x :: xs) = some mx := ⟨_, rfl⟩
    obtain ⟨mx, hmx⟩ := hmax
    rw [hmn, hmx]
    simp only [hnot, if_false]
    exact ⟨_, rfl⟩

/-- the same for reachable states, packaged: every getter of every system over non-empty atoms replies
    a padded tuple after any history and any sequence of reads. -/
theorem reachable_observers_padded (ops obs : List Op) (hobs : ∀ o ∈ obs, IsObs o) (i : Nat)
    (hi : i < (ops.foldl step init).syss.length)
    (hne : ∀ a, ((ops.foldl step init).obj ((ops.foldl step init).sys i).atoms).find "atype" = some a →
      (arrVal (ops.foldl step init) a).data ≠ []) :
    ∃ (nt : Nat) (sy : List (Option String)) (ms : List (Option Rat)) (n : Nat),
      ntOf (ops.foldl step init) i = .ok nt ∧
      output (obs.foldl step (ops.foldl step init)) (.symbolsGet i) = .ok (.syms sy) ∧
      output (obs.foldl step (ops.foldl step init)) (.massesGet i) = .ok (.masses ms) ∧
      output (obs.foldl step (ops.foldl step init)) (.sysNatypes i) = .ok (.nat n) ∧
      output (obs.foldl step (ops.foldl step init)) (.sysAtypes i) = .ok (.nats ((List.range n).map (· + 1))) ∧
      nt ≤ sy.length ∧ nt ≤ ms.length ∧ nt ≤ n ∧ sy.length ≤ n ∧ n ≤ ms.length := by
  obtain ⟨nt, hnt⟩ := inv_ntOf_ok _ (inv_reachable ops) i hi hne
  obtain ⟨sy, ms, n, h1, h2, h3, h4, h5⟩ := observers_padded_any_order ops obs hobs i nt hi hnt
  exact ⟨nt, sy, ms, n, hnt, h1, h2, h3, h4, h5⟩

/-- what the getters return is also what they store: after reading `masses` the stored symbols and
    masses *are* the views (so the next read takes the no-padding branch). -/
theorem massesGet_stores (s : State) (i nt : Nat) (hi : i < s.syss.length) (hnt : ntOf s i = .ok nt) :
    ((massesGet i s).2.sys i).symbols = symView s i nt ∧ ((massesGet i s).2.sys i).masses = massView s i nt := by
  rw [massesGet_closed i s nt hi hnt]
  have hi1 : i < (putSym s i (symView s i nt)).syss.length := by rw [putSym_len]; exact hi
  exact ⟨(putMass_symbols _ i _).trans (putSym_symbols s i _ hi), putMass_masses _ i _ hi1⟩

/-- the `masses` setter measures against `System.natypes` *as a fresh read would report it* (`ntView`), not
    against whatever the stale stored symbols happen to hold: up to `ntView` masses are accepted and
    padded to `ntView`, more are refused — whether or not anything was read since the types grew. -/
theorem massesSet_spec (s : State) (i nt : Nat) (hi : i < s.syss.length) (hnt : ntOf s i = .ok nt)
    (v : List (Option Rat)) :
    (v.length ≤ ntView s i nt → (massesSet i v s).1 = .ok () ∧
      ((massesSet i v s).2.sys i).masses = padTo v (ntView s i nt) ∧
      ((massesSet i v s).2.sys i).symbols = symView s i nt) ∧
    (ntView s i nt < v.length → (massesSet i v s).1 = .error .value) := by
  rw [massesSet_closed i v s nt hi hnt]
  have hi1 : i < (putSym s i (symView s i nt)).syss.length := by rw [putSym_len]; exact hi
  constructor
  · intro hle
    rw [if_neg (by omega : ¬ v.length > ntView s i nt)]
    exact ⟨rfl, putMass_masses _ i _ hi1, (putMass_symbols _ i _).trans (putSym_symbols s i _ hi)⟩
  · intro hgt
    rw [if_pos hgt]

/-- `view[key] = value` with a first dimension that is neither 1 nor `natoms`: ValueError, nothing changes. -/
theorem viewSet_len_mismatch_rejects (s : State) (o : Nat) (key : String) (src : Src) (d : Nat) (t : List Nat)
    (hs : (srcVal s src).shape = d :: t) (h1 : d ≠ 1) (hn : d ≠ (s.obj o).natoms) :
    viewSet o key src s = (.error .value, s) := by
  rw [viewSet_run]
  exact bind_error_run (viewBcast_refuse s _ src (by simp [bcastDecision, hs, h1, hn]) s) _

/-- whole-column assignment of atom types containing a value below 1: ValueError, nothing changes. -/
theorem viewSet_atype_lt_one_rejects (s : State) (o : Nat) (v : Val) (t : List Nat)
    (hs : v.shape = (s.obj o).natoms :: t) (hn1 : (s.obj o).natoms ≠ 1) (hpos : 0 < (s.obj o).natoms)
    (hnum : ∀ c ∈ v.data, (c.num?).isSome) (c : Cell) (hc : c ∈ v.data) (q : Rat) (hq : c.num? = some q)
    (hlt : q < 1) : viewSet o "atype" (.lit v) s = (.error .value, s) := by
  have hb : viewBcast s (s.obj o).natoms (.lit v) s = (.ok (.lit v), s) := by
    rw [viewBcast_by_decision]
    simp only [srcVal, hs, bcastDecision, hn1, if_false, ne_eq, not_true_eq_false]
    rfl
  obtain ⟨nums, m, h1, h2, h3⟩ := guard_fires v.data hnum c hc q hq hlt
  have hg : viewGuard "atype" (s.obj o).natoms v s = (.error .value, s) :=
    Prod.ext ((viewGuard_refuses_iff "atype" _ v nums s h1 m h2).mpr ⟨rfl, hpos, h3⟩) (viewGuard_state _ _ v s)
  rw [viewSet_run, bind_ok_run hb]
  exact bind_error_run hg _

/-- indexed write of an atom type below 1 (`prop('atype', index, value)`): ValueError, nothing changes. -/
theorem propSet_atype_lt_one_rejects (s : State) (o : Nat) (ix : Index) (v : Val)
    (hnum : ∀ c ∈ v.data, (c.num?).isSome) (c : Cell) (hc : c ∈ v.data) (q : Rat) (hq : c.num? = some q)
    (hlt : q < 1) : propSet o "atype" (some ix) v s = (.error .value, s) := by
  apply eq_of_post
  unfold propSet
  simp only []
  obtain ⟨nums, m, h1, h2, h3⟩ := guard_fires v.data hnum c hc q hq hlt
  have hg := (atypeGuard_refuses_iff "atype" v nums s h1).mpr ⟨rfl, List.length_pos_of_mem hc, m, h2, h3⟩
  rcases atypeGuard_cases "atype" v with ⟨e, he⟩ | ⟨he, _⟩ <;> rw [he] at hg ⊢
  · obtain rfl : e = .value := Except.error.inj hg
    rw [post_bind_fail]
    exact ⟨rfl, rfl⟩
  · cases hg

/-- a value numpy cannot broadcast to the selected rows: ValueError, nothing is written. -/
theorem assign_shape_mismatch_rejects (s : State) (a : Arr) (sel : Sel) (v : Val)
    (h : bcast v (assignShape s a sel) = none) : ∃ e, assign a sel v s = (.error e, s) ∧ (e = .value ∨ e = .type) := by
  rcases assign_cases a sel v s with ⟨e, he, hkind⟩ | ⟨flat, _, hflat, _⟩
  · exact ⟨e, he, hkind h⟩
  · rw [h] at hflat; cases hflat

/-- an integer-list index with an entry out of bounds: IndexError, nothing is written. -/
theorem assign_oob_rejects (s : State) (a : Arr) (sel : Sel) (v : Val) (flat : List Cell)
    (hb : bcast v (assignShape s a sel) = some flat) (hoob : sel.oob = true)
    (h1 : ¬ (sel.scalar = true ∧ (s.buf a.buf).trail = [] ∧ v.shape ≠ []))
    (h2 : ¬ (sel.mask = true ∧ (s.buf a.buf).trail = [] ∧ v.shape.length > 1)) :
    assign a sel v s = (.error .index, s) := by
  unfold assign
  have h' : bcast v (if sel.scalar = true then (s.buf a.buf).trail else sel.count :: (s.buf a.buf).trail) = some flat := hb
  simp only [h1, h2, if_false, h', hoob, if_true]

/-- `atoms[index] = other` with different property sets: ValueError, nothing changes. -/
theorem setItem_keys_mismatch_rejects (s : State) (o : Nat) (ix : Index) (src : Nat)
    (h : sameKeys (s.obj src).keys (s.obj o).keys = false) : setItem o ix src s = (.error .value, s) := by
  apply eq_of_post
  unfold setItem
  rw [post_bind_getS]
  simp only []
  have hc : ¬ sameKeys (s.obj src).keys (s.obj o).keys = true := by simp [h]
  rw [if_pos hc, post_fail]
  exact ⟨rfl, rfl⟩

theorem resolve_int_out_of_range (n : Nat) (i : Int) (h : (n : Int) ≤ i ∨ i < -(n : Int)) :
    resolve n (.int i) = .error .index := by
  have : normInt n i = none := by
    have h1 : ¬ (0 ≤ i ∧ i < n) := by omega
    have h2 : ¬ (-(n : Int) ≤ i ∧ i < 0) := by omega
    simp [normInt, h1, h2]
  simp [resolve, this]

theorem resolve_zero_step (n : Nat) (a b : Option Int) : resolve n (.slice a b (some 0)) = .error .value := by
  simp [resolve]

theorem resolve_mask_length (n : Nat) (m : List Bool) (h1 : m.length ≠ n) (h2 : m.length ≠ 0) :
    resolve n (.mask m) = .error .index := by
  simp [resolve, h1, h2]

/-- reading or writing a property that does not exist: KeyError, nothing changes. -/
theorem propGet_missing_key (s : State) (o : Nat) (key : String) (ix : Option Index)
    (h : (s.obj o).find key = none) : propGet o key ix s = (.error .key, s) := by
  apply eq_of_post
  unfold propGet
  rw [post_bind_getS, post_bind_keyErr, h]
  exact ⟨rfl, rfl⟩

theorem pbcSet_bad_length_rejects (s : State) (i : Nat) (value : List Bool) (h : value.length ≠ 3) :
    pbcSet i value s = (.error .assert, s) := by
  unfold pbcSet
  simp only [h, ne_eq, not_false_eq_true, if_true]
  rfl

theorem sysExtend_scale_int_rejects (s : State) (off : Bool) (i : Nat) (n : Int)
    (symbols : Option (List (Option String))) : sysExtend off i (.inl n) true symbols s = (.error .value, s) := by
  apply eq_of_post
  unfold sysExtend
  rw [post_bind_getS]
  simp only [Sum.isLeft, and_self, if_true]
  exact ⟨rfl, rfl⟩

/-- `prop_atype(key, value)` with a 0-d value: TypeError (`len()` of unsized object). -/
theorem propAtype_scalar_rejects (s : State) (o : Nat) (key : String) (v : Val) (ta : Arr)
    (hf : (s.obj o).find "atype" = some ta) (hs : v.shape = []) :
    propAtype o key v none s = (.error .type, s) := by
  apply eq_of_post
  unfold propAtype
  rw [post_bind_getS, post_bind_keyErr]
  simp only [hf, hs]
  exact ⟨rfl, rfl⟩

/-- a failed constructor call leaves no trace (`Atoms(...)` raising creates no object). -/
theorem mkAtoms_rolls_back (natoms : Option Int) (atype pos : Option Src) (extra : List (String × Src)) (s s' : State)
    (e : Err) (h : mkAtoms natoms atype pos extra s = (.error e, s')) : s' = s :=
  atomic_error_unchanged _ h

/-- malformed literals / dangling ids are `format` errors and change nothing; an outcome outside the
    modelled numpy fragment leaves the state untouched. -/
theorem step_format (off : Bool) (s : State) (op : Op) (h : ¬ (op.litsOk = true ∧ op.idsOk s = true)) :
    stepWith off s op = (.error .format, s) := by
  unfold stepWith
  simp only [h, not_false_eq_true, if_true]

theorem step_unmodelled (off : Bool) (s : State) (op : Op) (h : (stepWith off s op).1 = .error .unmodelled) :
    (stepWith off s op).2 = s := by
  unfold stepWith at h ⊢
  by_cases hc : (op.litsOk = true ∧ op.idsOk s = true)
  · simp only [hc] at h ⊢
    cases hrun : run off op s with
    | mk r s2 =>
      rw [hrun] at h
      cases r with
      | ok out => simp at h
      | error e =>
        cases e <;> simp at h ⊢
  · simp only [hc, not_false_eq_true, if_true]

/-- **refines (`atoms[index]`)** — in a state satisfying the invariant, a returning `__getitem__` yields
    `GetItemRes`: a new object with one atom per selected position whose every property is the operand's
    property of the same name cut by the *same* positions (row `j` of every property of the result is
    atom `sel.pos[j]` of the operand), in the key order `atype, pos, rest`; see `GetItemRes`, `ColRel`. -/
theorem refines_getItem (s : State) (h : Inv s) (o : Nat) (ix : Index) (ho : o < s.objs.length) (o' : Nat) (s' : State)
    (hrun : getItem o ix s = (.ok o', s')) :
    ∃ sel, resolve (s.obj o).natoms (atomsIndex ix) = .ok sel ∧ GetItemRes s o sel o' s' := by
  obtain ⟨⟨κ, hinv⟩, hb⟩ := h
  exact ((getItem_spec hinv o ix (hb o ho)).run hrun).2 o' rfl

/-- **refines (`deepcopy(atoms)`)** — the copy has the same number of atoms and, for every property,
    the same name, dtype, trailing shape and rows (`GetItemRes` for the all-rows copy selection). -/
theorem refines_deepcopy (s : State) (h : Inv s) (o : Nat) (ho : o < s.objs.length) (o' : Nat) (s' : State)
    (hrun : deepcopy o s = (.ok o', s')) : GetItemRes s o (copySel (s.obj o).natoms) o' s' := by
  obtain ⟨⟨κ, hinv⟩, hb⟩ := h
  exact ((deepcopy_spec hinv o (hb o ho)).run hrun).2 o' rfl

theorem deepcopy_rows (s : State) (h : Inv s) (o : Nat) (ho : o < s.objs.length) (o' : Nat) (s' : State)
    (hrun : deepcopy o s = (.ok o', s')) (p : PropRef) (hp : p ∈ (s.obj o).props) :
    ∃ p' ∈ (s'.obj o').props, p'.key = p.key ∧ arrRows s' p'.arr = arrRows s p.arr ∧
      arrVal s' p'.arr = arrVal s p.arr := by
  have hres := refines_deepcopy s h o ho o' s' hrun
  obtain ⟨⟨κ, hinv⟩, _⟩ := h
  have hp0 := hinv.obj_props o p hp
  obtain ⟨p', hp', hrel⟩ := hres.cols p hp
  have hrows : arrRows s' p'.arr = arrRows s p.arr := by
    rw [hrel.rows, ← hp0.len]; exact copySel_rows s p.arr
  refine ⟨p', hp', hrel.key, hrows, ?_⟩
  have hlen : p'.arr.idx.length = p.arr.idx.length := by
    have := congrArg List.length hrows
    simpa [arrRows] using this
  simp only [arrVal, hrows, hrel.dt, hrel.trail, hlen]

/-- a refused `__getitem__` / `deepcopy` leaves no trace. -/
theorem getItem_error_unchanged (s : State) (o : Nat) (ix : Index) (e : Err) (s' : State)
    (hrun : getItem o ix s = (.error e, s')) : s' = s :=
  atomic_error_unchanged _ hrun

theorem old_arrays_untouched {κ : Nat → String} {s s' : State} (hinv : InvK κ s)
    (hbuf : ∀ b, b < s.heap.length → s'.buf b = s.buf b) :
    (∀ o, ∀ p ∈ (s.obj o).props, arrVal s' p.arr = arrVal s p.arr) ∧
    (∀ o', FreshObj s.heap.length o' s' → ∀ p' ∈ (s'.obj o').props, ∀ o, ∀ p ∈ (s.obj o).props,
      sharesMem s' p'.arr p.arr = false) := by
  refine ⟨fun o p hp => arrVal_congr s s' p.arr (hbuf _ (hinv.obj_props o p hp).valid.1), ?_⟩
  intro o' hfr p' hp' o p hp
  have : p'.arr.buf ≠ p.arr.buf := by
    have := (hinv.obj_props o p hp).valid.1
    have := hfr p' hp'
    omega
  simp [sharesMem, this]

/-- **operand_unchanged** — slicing / copying leaves every object that existed before exactly as it
    was: same arrays bound to the same names, and every one of them reads the same value. -/
theorem GetItemRes.operand_unchanged {s s' : State} {o o' : Nat} {sel : Sel} (hr : GetItemRes s o sel o' s')
    (h : Inv s) (o'' : Nat) (ho'' : o'' < s.objs.length) :
    s'.obj o'' = s.obj o'' ∧ ∀ p ∈ (s.obj o'').props, arrVal s' p.arr = arrVal s p.arr := by
  obtain ⟨⟨κ, hinv⟩, _⟩ := h
  exact ⟨hr.objs o'' ho'', (old_arrays_untouched hinv hr.heap.buf).1 o''⟩

/-- **copy_fresh** — the arrays of an object returned for an integer-list or boolean index (or holding
    a single atom) share no memory with any array of any object that existed before. -/
theorem GetItemRes.copy_fresh {s s' : State} {o o' : Nat} {sel : Sel} (hr : GetItemRes s o sel o' s') (h : Inv s)
    (hcopy : sel.view = false ∨ sel.pos.length = 1) (p' : PropRef) (hp' : p' ∈ (s'.obj o').props)
    (o'' : Nat) (p : PropRef) (hp : p ∈ (s.obj o'').props) :
    s.heap.length ≤ p'.arr.buf ∧ sharesMem s' p'.arr p.arr = false := by
  obtain ⟨⟨κ, hinv⟩, _⟩ := h
  exact ⟨hr.freshObj hcopy p' hp', (old_arrays_untouched hinv hr.heap.buf).2 o' (hr.freshObj hcopy) p' hp' o'' p hp⟩

/-- **copy_fresh (`deepcopy(atoms)`)**: no array of the copy shares memory with an array of any object that existed. -/
theorem deepcopy_fresh (s : State) (h : Inv s) (o : Nat) (ho : o < s.objs.length) (o' : Nat) (s' : State)
    (hrun : deepcopy o s = (.ok o', s')) (p' : PropRef) (hp' : p' ∈ (s'.obj o').props) (o'' : Nat) (p : PropRef)
    (hp : p ∈ (s.obj o'').props) : sharesMem s' p'.arr p.arr = false :=
  ((refines_deepcopy s h o ho o' s' hrun).copy_fresh h (Or.inl rfl) p' hp' o'' p hp).2

/-- a basic slice of more than one atom aliases its operand: the result's arrays are the views
    `p.arr[sel]` of the operand's arrays (writes through either are seen by both, as in numpy). -/
theorem GetItemRes.slice_is_view {s s' : State} {o o' : Nat} {sel : Sel} (hr : GetItemRes s o sel o' s')
    (hv : sel.view = true) (hne : sel.pos.length ≠ 1) (p : PropRef) (hp : p ∈ (s.obj o).props) :
    ∃ p' ∈ (s'.obj o').props, p'.key = p.key ∧ p'.arr = subArr p.arr sel := by
  obtain ⟨p', hp', hrel⟩ := hr.cols p hp
  exact ⟨p', hp', hrel.key, hrel.view hv hne⟩

/-- **refines (`prop(key, index, value)`)** — in a state satisfying the invariant a returning indexed
    write is the record update "for each `j`, property `key` of atom `sel.pos[j]` := row `j` of the value
    broadcast to the selection and cast to the column's dtype (later duplicates win)":
    the written column reads `writeRows old (sel.pos zip newRows)`; no property with another name changes
    in any object; no array in another buffer changes; the objects themselves (names ↦ arrays) are
    untouched.  (Arrays of the *same* name sharing the buffer — slices of the object or the object it was
    sliced from — see the write, as in numpy.) -/
theorem refines_propSet (s : State) (h : Inv s) (o : Nat) (key : String) (ix : Index) (v : Val) (s' : State)
    (hrun : propSet o key (some ix) v s = (.ok (), s')) :
    ∃ a sel newRows, (s.obj o).find key = some a ∧ resolve a.idx.length ix = .ok sel ∧
      AssignedRows s a sel v newRows ∧ s'.objs = s.objs ∧ s'.syss = s.syss ∧
      arrRows s' a = writeRows (arrRows s a) (sel.pos.zip newRows) ∧
      (∀ o' p, p ∈ (s.obj o').props → p.key ≠ key → arrRows s' p.arr = arrRows s p.arr) ∧
      (∀ c : Arr, c.buf ≠ a.buf → arrRows s' c = arrRows s c) := by
  obtain ⟨⟨κ, hinv⟩, _⟩ := h
  obtain ⟨a, sel, newRows, hfind, hres, _, hn, _, hw⟩ := (propSet_wrote o key ix v s).run hrun
  have hp := hinv.find_ok o key a hfind
  obtain ⟨hpos, _⟩ := resolve_spec _ _ _ hres
  refine ⟨a, sel, newRows, hfind, hres, hn, hw.objs, hw.syss, hw.readback hp.valid hp.nodup hpos, ?_, fun c hc => hw.read c hc⟩
  intro o' p hp' hne
  have hp0 := hinv.obj_props o' p hp'
  apply hw.read
  intro hb
  apply hne
  rw [← hp0.key, hb, hp.key]

/-- **refines (`atoms[index] = other`)** — in a state satisfying the invariant a returning
    `__setitem__` (also `prop(index=, value=Atoms)`, `atoms_ix[index] = …`) is the record update
    "atom `sel.pos[j]` of the target := atom `j` of the donor" for every property (donor values as they
    were before the call — also when donor and target overlap —, broadcast and cast to the target's
    dtype; later duplicates win); objects and Systems are untouched; buffers of no target property are
    unchanged. -/
theorem refines_setItem (s : State) (h : Inv s) (o : Nat) (ix : Index) (src : Nat) (s' : State)
    (hrun : setItem o ix src s = (.ok (), s')) :
    ∃ sel, resolve (s.obj o).natoms (atomsIndex ix) = .ok sel ∧ s'.objs = s.objs ∧ s'.syss = s.syss ∧
      (∀ p ∈ (s.obj o).props, ∃ a newRows, (s.obj src).find p.key = some a ∧
        AssignedRows s p.arr sel (arrVal s a) newRows ∧
        arrRows s' p.arr = writeRows (arrRows s p.arr) (sel.pos.zip newRows)) ∧
      (∀ c : Arr, (∀ p ∈ (s.obj o).props, c.buf ≠ p.arr.buf) → arrRows s' c = arrRows s c) := by
  obtain ⟨⟨κ, hinv⟩, _⟩ := h
  exact ((setItem_spec hinv o ix src).run hrun).2 rfl

/-- a refused indexed write changes nothing. -/
theorem propSet_error_unchanged (s : State) (o : Nat) (key : String) (ix : Index) (v : Val) (e : Err) (s' : State)
    (hrun : propSet o key (some ix) v s = (.error e, s')) : s' = s := by
  exact (propSet_wrote o key ix v s).run hrun

/-- **refines (`prop(key)`)** — reading a whole column does not change the state and returns it. -/
theorem refines_propGet_all (s : State) (o : Nat) (key : String) (v : Val) (s' : State)
    (hrun : propGet o key none s = (.ok v, s')) :
    s' = s ∧ ∃ a, (s.obj o).find key = some a ∧ v = arrVal s a := by
  have := (propGet_reads o key none s).run hrun
  exact ⟨this.1, this.2 v rfl⟩

/-- **refines (`prop(key, index)`)** — an indexed read does not change the state and returns the rows at
    the selected positions, in order (an integer index drops the leading axis). -/
theorem refines_propGet_index (s : State) (o : Nat) (key : String) (i : Index) (v : Val) (s' : State)
    (hrun : propGet o key (some i) s = (.ok v, s')) :
    s' = s ∧ ∃ a, (s.obj o).find key = some a ∧
      ∃ sel, resolve a.idx.length i = .ok sel ∧ sel.oob = false ∧ v.dt = arrDt s a ∧
        v.data = (sel.pos.map (fun p => (arrRows s a)[p]?.getD [])).flatten ∧
        v.shape = (if sel.scalar then arrTrail s a else sel.pos.length :: arrTrail s a) := by
  have := (propGet_reads o key (some i) s).run hrun
  exact ⟨this.1, this.2 v rfl⟩

/-- write then read: `prop(key, index, value)` followed by `prop(key)` returns the updated column. -/
theorem propSet_then_propGet (s : State) (h : Inv s) (o : Nat) (key : String) (ix : Index) (v : Val) (s' : State)
    (hrun : propSet o key (some ix) v s = (.ok (), s')) :
    ∃ a sel newRows, (s.obj o).find key = some a ∧ resolve a.idx.length ix = .ok sel ∧
      AssignedRows s a sel v newRows ∧
      propGet o key none s' = (.ok ⟨arrDt s a, a.idx.length :: arrTrail s a,
        (writeRows (arrRows s a) (sel.pos.zip newRows)).flatten⟩, s') := by
  obtain ⟨a, sel, newRows, hfind, hres, hn, hobjs, _, hrows, _, _⟩ := refines_propSet s h o key ix v s' hrun
  refine ⟨a, sel, newRows, hfind, hres, hn, ?_⟩
  have hobj : s'.obj o = s.obj o := obj_congr hobjs o
  obtain ⟨⟨κ, hinv⟩, _⟩ := h
  have hp := hinv.find_ok o key a hfind
  obtain ⟨a', sel', newRows', hfind', _, _, _, _, hwr⟩ := (propSet_wrote o key ix v s).run hrun
  have : a' = a := by rw [hfind] at hfind'; injection hfind' with h; exact h.symm
  subst this
  have hsame := hwr.same hp.valid.1
  rw [propGet_none_eq o key s' a' (by rw [hobj]; exact hfind)]
  simp only [arrVal, arrDt, arrTrail, hrows, hsame.1, hsame.2.1]

/-- what `FrameOK` + `FreshObj` mean for a reader: every array of every object that existed before
    reads the same value, the objects are the same, and the arrays of the new object share memory with
    none of them. -/
theorem frame_fresh_meaning (s s' : State) (h : Inv s) (o' : Nat)
    (hf : FrameOK s.heap.length s.objs.length s s') (hfr : FreshObj s.heap.length o' s') :
    (∀ o, o < s.objs.length → s'.obj o = s.obj o ∧ ∀ p ∈ (s.obj o).props, arrVal s' p.arr = arrVal s p.arr) ∧
    (∀ p' ∈ (s'.obj o').props, ∀ o, ∀ p ∈ (s.obj o).props, sharesMem s' p'.arr p.arr = false) := by
  obtain ⟨⟨κ, hinv⟩, _⟩ := h
  have hold := old_arrays_untouched hinv hf.1
  exact ⟨fun o ho => ⟨hf.2.1 o ho, hold.1 o⟩, hold.2 o' hfr⟩

/-- **copy_fresh / operand_unchanged (`atoms.extend(other)`)**: every object that existed is the same and reads the same
    values; no array of the object returned shares memory with theirs. -/
theorem extend_fresh_unchanged (s : State) (h : Inv s) (o donor : Nat) (ho : o < s.objs.length) (o' : Nat) (s' : State)
    (hrun : extendWith o donor s = (.ok o', s')) :
    (∀ o'', o'' < s.objs.length → s'.obj o'' = s.obj o'' ∧ ∀ p ∈ (s.obj o'').props, arrVal s' p.arr = arrVal s p.arr) ∧
    (∀ p' ∈ (s'.obj o').props, ∀ o'', ∀ p ∈ (s.obj o'').props, sharesMem s' p'.arr p.arr = false) := by
  obtain ⟨⟨κ, hinv⟩, hb⟩ := h
  obtain ⟨_, ⟨hf, hfr, _, _⟩, _⟩ := (extendWith_spec hinv o donor (hb o ho) ho).run hrun
  exact frame_fresh_meaning s s' ⟨⟨κ, hinv⟩, hb⟩ o' hf hfr

/-- **copy_fresh / operand_unchanged (`atoms.extend(n)`)**: as for `atoms.extend(other)`. -/
theorem extendInt_fresh_unchanged (s : State) (h : Inv s) (o : Nat) (n : Int) (ho : o < s.objs.length) (o' : Nat)
    (s' : State) (hrun : extendInt o n s = (.ok o', s')) :
    (∀ o'', o'' < s.objs.length → s'.obj o'' = s.obj o'' ∧ ∀ p ∈ (s.obj o'').props, arrVal s' p.arr = arrVal s p.arr) ∧
    (∀ p' ∈ (s'.obj o').props, ∀ o'', ∀ p ∈ (s.obj o'').props, sharesMem s' p'.arr p.arr = false) := by
  obtain ⟨⟨κ, hinv⟩, hb⟩ := h
  obtain ⟨hf, hfr, _, _⟩ := ((extendInt_spec hinv o n (hb o ho) ho).run hrun).2
  exact frame_fresh_meaning s s' ⟨⟨κ, hinv⟩, hb⟩ o' hf hfr

/-- **copy_fresh / operand_unchanged (`atoms.prop(index=…)`)**: as for `atoms.extend(other)`. -/
theorem propGetAtoms_fresh_unchanged (s : State) (h : Inv s) (o : Nat) (ix : Index) (ho : o < s.objs.length) (o' : Nat)
    (s' : State) (hrun : propGetAtoms o ix s = (.ok o', s')) :
    (∀ o'', o'' < s.objs.length → s'.obj o'' = s.obj o'' ∧ ∀ p ∈ (s.obj o'').props, arrVal s' p.arr = arrVal s p.arr) ∧
    (∀ p' ∈ (s'.obj o').props, ∀ o'', ∀ p ∈ (s.obj o'').props, sharesMem s' p'.arr p.arr = false) := by
  obtain ⟨⟨κ, hinv⟩, hb⟩ := h
  obtain ⟨hf, hfr, _, _⟩ := ((propGetAtoms_spec hinv o ix (hb o ho)).run hrun).2
  exact frame_fresh_meaning s s' ⟨⟨κ, hinv⟩, hb⟩ o' hf hfr

/-- the constructor on literals (`Atoms(...)`) touches no existing object and shares nothing. -/
theorem new_fresh_unchanged (s : State) (h : Inv s) (natoms : Option Int) (atype pos : Option Val)
    (extra : List (String × Val)) (o' : Nat) (s' : State)
    (hrun : mkAtoms natoms (atype.map .lit) (pos.map .lit) (extra.map (fun kv => (kv.1, Src.lit kv.2))) s = (.ok o', s')) :
    (∀ o'', o'' < s.objs.length → s'.obj o'' = s.obj o'' ∧ ∀ p ∈ (s.obj o'').props, arrVal s' p.arr = arrVal s p.arr) ∧
    (∀ p' ∈ (s'.obj o').props, ∀ o'', ∀ p ∈ (s.obj o'').props, sharesMem s' p'.arr p.arr = false) := by
  obtain ⟨_, ⟨hf, hfr, _, _⟩, _⟩ := (mkAtoms_lit_frame natoms atype pos extra s).run hrun
  exact frame_fresh_meaning s s' h o' hf hfr

/-- **refines (`atoms.extend(other)`)** — in a state satisfying the invariant a returning `extend` yields a
    new object `nw` (the next id) in fresh buffers, leaves everything that existed untouched, and every
    column `p'` of `nw` is described by `ExtColRes`: base rows = self's column of that name at the
    positions `[0..n-1, 0, …, 0]` (or zeros of the donor's dtype/shape for a donor-only property), then
    rows `[self.natoms:]` overwritten by the donor's column of that name (or zeros of self's dtype/shape
    when the donor has none), broadcast and cast to the column's dtype. -/
theorem refines_extend (s : State) (h : Inv s) (o donor : Nat) (ho : o < s.objs.length) (hd : donor < s.objs.length)
    (nw : Nat) (s' : State) (hrun : extendWith o donor s = (.ok nw, s')) :
    ∃ sel, resolve (s.obj o).natoms (.list ((List.range (s.obj o).natoms).map (fun (i : Nat) => (i : Int)) ++
        List.replicate (s.obj donor).natoms (0 : Int))) = .ok sel ∧
      nw = s.objs.length ∧ FrameOK s.heap.length s.objs.length s s' ∧ FreshObj s.heap.length nw s' ∧
      ∀ p' ∈ (s'.obj nw).props,
        ExtColRes s o donor sel (tailSel ((s.obj o).natoms + (s.obj donor).natoms) (s.obj o).natoms)
          ((s.obj o).natoms + (s.obj donor).natoms) (s.obj donor).natoms s' p' := by
  obtain ⟨⟨κ, hinv⟩, hb⟩ := h
  obtain ⟨hnw, ⟨hf, hfr, _, _⟩, hcols⟩ := (extendWith_spec hinv o donor (hb o ho) ho).run hrun
  obtain ⟨_, sel, hres, hc⟩ := hcols hd (hb donor hd)
  exact ⟨sel, hres, hnw, hf, hfr, hc⟩

/-- `System.atoms_prop` without `scale`, `atoms_ix[...] = …` leave the state the `Atoms` operations on the system's atoms
    leave: what the refinement theorems above say about the resulting state applies with `o := (s.sys i).atoms` (the replies
    are the subject of `atomsProp_unscaled_delegates`). -/
theorem system_ops_delegate (off : Bool) (s : State) (i : Nat) (k : String) (ix : Option Index) (jx : Index) (v : Val)
    (src : Nat) :
    (run off (.sysPropGet i k ix) s).2 = (propGet (s.sys i).atoms k ix s).2 ∧
    (run off (.sysPropSet i k ix v false) s).2 = (propSet (s.sys i).atoms k ix v s).2 ∧
    (run off (.sysPropSetAtoms i ix src false) s).2 = (propSetAtoms (s.sys i).atoms ix src s).2 ∧
    (run off (.sysPropGetAtoms i jx) s).2 = (propGetAtoms (s.sys i).atoms jx s).2 ∧
    (run off (.ixSet i jx (.inl src)) s).2 = (setItem (s.sys i).atoms jx src s).2 ∧
    (run off (.ixSet i jx (.inr src)) s).2 = (setItem (s.sys i).atoms jx (s.sys src).atoms s).2 := by
  have key : ∀ {α : Type} (m : M α) (g : α → Out) (st : State),
      ((do let a ← m; pure (g a) : M Out) st).2 = (m st).2 :=
    fun m g st => congrArg Prod.snd (bind_pure_eq m g st _ _ rfl)
  refine ⟨?_, ?_, ?_, ?_, ?_, ?_⟩
  · exact key (propGet (s.sys i).atoms k ix) Out.val s
  · exact key (propSet (s.sys i).atoms k ix v) (fun _ => Out.unit) s
  · exact key (propSetAtoms (s.sys i).atoms ix src) (fun _ => Out.unit) s
  · exact key (propGetAtoms (s.sys i).atoms jx) Out.obj s
  · exact key (setItem (s.sys i).atoms jx src) (fun _ => Out.unit) s
  · exact key (setItem (s.sys i).atoms jx (s.sys src).atoms) (fun _ => Out.unit) s

/-- **reads do not write (`atoms_prop(key, index, scale=True)`)** — in ANY state, whatever the index form, whether
    the call returns or raises, the step leaves heap, objects and systems literally unchanged, and a returned value
    is the exact box-relative image (`Box.cartToRel`, row by row) of what `prop(key, index)` returns. -/
theorem sysPropGetScaled_reads_only (off : Bool) (s : State) (i : Nat) (k : String) (ix : Option Index) :
    (stepWith off s (.sysPropGetScaled i k ix)).2 = s ∧
    ∀ v', (sysPropGetScaled i k ix s).1 = .ok v' →
      ∃ v, (propGet (s.sys i).atoms k ix s).1 = .ok v ∧ cartToRelVal (s.sys i).box v = .ok v' ∧
        v'.shape = v.shape := by
  refine ⟨?_, ?_⟩
  · rcases stepWith_state off s (.sysPropGetScaled i k ix) with he | ⟨_, he⟩
    · exact he
    · rw [he]
      exact (congrArg Prod.snd (bind_pure_eq (sysPropGetScaled i k ix) Out.val s _ _ rfl)).trans
        (sysPropGetScaled_post i k ix s)
  · intro v' hv'
    rcases hrun : sysPropGetScaled i k ix s with ⟨r, s'⟩
    rw [hrun] at hv'
    obtain rfl : r = .ok v' := hv'
    simp only [sysPropGetScaled, bind_ok_iff, getS_ok_iff, liftE_ok_iff] at hrun
    obtain ⟨_, _, ⟨rfl, rfl⟩, v, s1, hp, hc, _⟩ := hrun
    exact ⟨v, by rw [hp], hc, (cartToRel_shape _ _ _ hc).1⟩

/-- **reads do not write / copies do not alias (`atoms_prop(index=…, scale=True)`)** — on a state satisfying the
    invariant, for EVERY index form (int, slice — also one covering two or more atoms, where `atoms[index]` holds
    views —, list, mask, absent) and every outcome: every object that existed reads exactly what it read before
    (the assignment `newatoms.pos = …` lands in the copy, never in the system's own array), the systems are
    unchanged; and a returned object shares memory with no array of any object that existed. -/
theorem sysPropGetAtomsScaled_fresh_unchanged (s : State) (h : Inv s) (i : Nat) (ix : Option Index)
    (hi : i < s.syss.length) :
    (∀ o, o < s.objs.length → ((sysPropGetAtomsScaled i ix s).2).obj o = s.obj o ∧
      ∀ p ∈ (s.obj o).props, arrVal (sysPropGetAtomsScaled i ix s).2 p.arr = arrVal s p.arr) ∧
    (sysPropGetAtomsScaled i ix s).2.syss = s.syss ∧
    ∀ o', (sysPropGetAtomsScaled i ix s).1 = .ok o' →
      ∀ p' ∈ ((sysPropGetAtomsScaled i ix s).2.obj o').props, ∀ o, ∀ p ∈ (s.obj o).props,
        sharesMem (sysPropGetAtomsScaled i ix s).2 p'.arr p.arr = false := by
  obtain ⟨⟨κ, hinv⟩, hb⟩ := h
  have := sysPropGetAtomsScaled_spec hinv hb i ix hi
  obtain ⟨_, hf, hfr⟩ := this
  have hold := old_arrays_untouched hinv hf.1
  exact ⟨fun o ho => ⟨hf.2.1 o ho, hold.1 o⟩, hf.2.2, fun o' ho' => hold.2 o' (hfr o' ho')⟩

/-- **`atoms_prop(index=…, scale=True)` IS** `deepcopy(atoms[index])` (`deepcopy(atoms)` without index) followed by ONE
    whole-column assignment to the existing key `pos` of the new object, with the exact box-relative image of the copy's
    positions (values of the copy: `refines_getItem`, `refines_deepcopy`; of the assignment: `viewSet_existing_refines`). -/
theorem sysPropGetAtomsScaled_decomp (s : State) (i : Nat) (ix : Option Index) (o' : Nat) (s' : State)
    (hrun : sysPropGetAtomsScaled i ix s = (.ok o', s')) :
    ∃ s1 pa v', (match ix with
        | none => deepcopy (s.sys i).atoms
        | some jx => propGetAtoms (s.sys i).atoms jx : M Nat) s = (.ok o', s1) ∧
      (s1.obj o').find "pos" = some pa ∧ cartToRelVal (s.sys i).box (arrVal s1 pa) = .ok v' ∧
      viewSet o' "pos" (.lit v') s1 = (.ok (), s') := by
  simp only [sysPropGetAtomsScaled, bind_ok_iff, getS_ok_iff, keyErr_ok_iff, liftE_ok_iff, pure_ok_iff] at hrun
  obtain ⟨_, _, ⟨rfl, rfl⟩, t, s1, h1, _, _, ⟨rfl, rfl⟩, pa, _, ⟨hf, rfl⟩, v', _, ⟨hv, rfl⟩, _, _, h5, rfl, rfl⟩ := hrun
  exact ⟨_, pa, v', h1, hf, hv, h5⟩

/-- **`copy.deepcopy(system)`** is `Atoms.__deepcopy__` on the system's atoms (values and freshness:
    `refines_deepcopy`, `deepcopy_fresh`) plus a new system that carries the box, the `pbc` and the STORED
    `symbols` / `masses` tuples of the original, bound to the copied atoms; nothing else changes. -/
theorem sysDeepcopy_spec (s : State) (i a j : Nat) (s' : State) (h : sysDeepcopy i s = (.ok (a, j), s')) :
    ∃ s1, deepcopy (s.sys i).atoms s = (.ok a, s1) ∧ j = s1.syss.length ∧
      s' = { s1 with syss := s1.syss ++ [{ s.sys i with atoms := a }] } := by
  simp only [sysDeepcopy, bind_ok_iff, getS_ok_iff, pure_ok_iff] at h
  obtain ⟨_, _, ⟨rfl, rfl⟩, a', s1, hd, _, _, hp, h1, rfl⟩ := h
  cases hp
  cases h1
  exact ⟨s1, hd, rfl, rfl⟩

/-- **`System(atoms, …, scale=…, safecopy=True)` leaves the given atoms alone** — on a state satisfying the
    invariant, whatever the constructor returns or raises, every object that existed (the atoms handed in included)
    is the same and reads the same values — with `scale=True` the box-relative → Cartesian conversion lands in the
    copy —; a returned system is bound to a NEW atoms object, on the box handed in, whose arrays share memory with no
    array of any object that existed. -/
theorem mkSysX_safecopy_operand_unchanged (s : State) (h : Inv s) (o : Nat) (box : Box Rat) (pbc : List Bool)
    (symbols : Option (List (Option String))) (masses : Option (List (Option Rat))) (scale : Bool)
    (ho : o < s.objs.length) :
    (∀ o', o' < s.objs.length → (mkSysX o box pbc symbols masses scale true s).2.obj o' = s.obj o' ∧
      ∀ p ∈ (s.obj o').props, arrVal (mkSysX o box pbc symbols masses scale true s).2 p.arr = arrVal s p.arr) ∧
    ∀ a i, (mkSysX o box pbc symbols masses scale true s).1 = .ok (a, i) →
      ((mkSysX o box pbc symbols masses scale true s).2.sys i).atoms = a ∧
      ((mkSysX o box pbc symbols masses scale true s).2.sys i).box = box ∧
      ∀ p' ∈ ((mkSysX o box pbc symbols masses scale true s).2.obj a).props, ∀ o', ∀ p ∈ (s.obj o').props,
        sharesMem (mkSysX o box pbc symbols masses scale true s).2 p'.arr p.arr = false := by
  obtain ⟨⟨κ, hinv⟩, hb⟩ := h
  have := mkSysX_spec hinv hb o box pbc symbols masses scale true ho
  obtain ⟨hbuf, hobj, hres⟩ := this.2 rfl
  have hold := old_arrays_untouched hinv hbuf
  refine ⟨fun o' ho' => ⟨hobj o' ho', hold.1 o'⟩, ?_⟩
  intro a i hai
  obtain ⟨hfr, hat, hbox⟩ := hres a i hai
  exact ⟨hat, hbox, hold.2 a hfr⟩

/-! Non-vacuity: concrete histories of the model on which the hypotheses of the theorems above hold. -/

instance {α : Type} [DecidableEq α] : DecidableEq (Except Err α) := fun a b =>
  match a, b with
  | .ok x, .ok y => if h : x = y then isTrue (by rw [h]) else isFalse (fun hc => h (by injection hc))
  | .error x, .error y => if h : x = y then isTrue (by rw [h]) else isFalse (fun hc => h (by injection hc))
  | .ok _, .error _ => isFalse (fun hc => by cases hc)
  | .error _, .ok _ => isFalse (fun hc => by cases hc)

/-- three atoms, types 1 2 1, positions (i,i,i), one extra float property `q`. -/
def exNew : Op := .new none (some ⟨.int, [3], [.int 1, .int 2, .int 1]⟩)
  (some ⟨.flt, [3, 3], [.flt 0, .flt 0, .flt 0, .flt 1, .flt 1, .flt 1, .flt 2, .flt 2, .flt 2]⟩)
  [("q", ⟨.flt, [3], [.flt (1/2), .flt (3/2), .flt (5/2)]⟩)]

/-- construct; take atoms [2, 0] (copy); deepcopy; wrap in a System with one symbol; read symbols;
    overwrite `q[1:]` of the first object; take the slice `[1:3]` (a view); write through the view. -/
def exOps : List Op := [exNew, .getItem 0 (.list [2, 0]), .deepcopy 0,
  .mkSys 0 unitBox [true, true, false] (some [some "Al"]) none, .symbolsGet 0,
  .propSet 0 "q" (some (.slice (some 1) none none)) ⟨.flt, [], [.flt 7]⟩,
  .getItem 0 (.slice (some 1) (some 3) none), .propSet 3 "q" (some (.int 0)) ⟨.flt, [], [.flt 9]⟩]

def exS : State := exOps.foldl step init

/-- what `exNew` allocates: the three buffers (`atype`, `pos`, `q`) and the object that exposes all their rows. -/
def exAtypeBuf : Buf := ⟨.int, [], [[.int 1], [.int 2], [.int 1]]⟩

def exPosBuf : Buf := ⟨.flt, [3], [[.flt 0, .flt 0, .flt 0], [.flt 1, .flt 1, .flt 1], [.flt 2, .flt 2, .flt 2]]⟩

def exQBuf : Buf := ⟨.flt, [], [[.flt (1/2)], [.flt (3/2)], [.flt (5/2)]]⟩

def exObj0 : AtomsObj := ⟨3, [⟨"atype", ⟨0, [0, 1, 2]⟩⟩, ⟨"pos", ⟨1, [0, 1, 2]⟩⟩, ⟨"q", ⟨2, [0, 1, 2]⟩⟩]⟩

/-- the state that history reaches, written out (objects 1 and 2 are copies in buffers of their own, object 3 is a view
    into the buffers of object 0). -/
theorem exS_eq : exS =
    { heap := [exAtypeBuf,
        exPosBuf,
        ⟨.flt, [], [[.flt (1/2)], [.flt 9], [.flt 7]]⟩,
        ⟨.int, [], [[.int 1], [.int 1]]⟩,
        ⟨.flt, [3], [[.flt 2, .flt 2, .flt 2], [.flt 0, .flt 0, .flt 0]]⟩,
        ⟨.flt, [], [[.flt (5/2)], [.flt (1/2)]]⟩,
        exAtypeBuf,
        exPosBuf,
        exQBuf],
      objs := [exObj0,
        ⟨2, [⟨"atype", ⟨3, [0, 1]⟩⟩, ⟨"pos", ⟨4, [0, 1]⟩⟩, ⟨"q", ⟨5, [0, 1]⟩⟩]⟩,
        ⟨3, [⟨"atype", ⟨6, [0, 1, 2]⟩⟩, ⟨"pos", ⟨7, [0, 1, 2]⟩⟩, ⟨"q", ⟨8, [0, 1, 2]⟩⟩]⟩,
        ⟨2, [⟨"atype", ⟨0, [1, 2]⟩⟩, ⟨"pos", ⟨1, [1, 2]⟩⟩, ⟨"q", ⟨2, [1, 2]⟩⟩]⟩],
      syss := [⟨0, unitBox, [true, true, false], [some "Al", none], [none, none]⟩] } := by
  decide +kernel

example : Inv exS := inv_reachable exOps

example : exS.objs.length = 4 ∧ exS.syss.length = 1 ∧ exS.heap.length = 9 := by rw [exS_eq]; decide +kernel
-- `refines_getItem` / `GetItemRes`: hypotheses hold, and the copy reads atoms 2 and 0 of the operand

example : (getItem 0 (.list [2, 0]) ([exNew].foldl step init)).1 = .ok 1 := by decide +kernel

example : (propGet 1 "q" none exS).1 = .ok ⟨.flt, [2], [.flt (5/2), .flt (1/2)]⟩ := by rw [exS_eq]; decide +kernel

example : (propGet 1 "atype" none exS).1 = .ok ⟨.int, [2], [.int 1, .int 1]⟩ := by rw [exS_eq]; decide +kernel
-- `operand_unchanged` / `copy_fresh`: later writes to object 0 did not reach the copies (1 and 2) …

example : (propGet 0 "q" none exS).1 = .ok ⟨.flt, [3], [.flt (1/2), .flt 9, .flt 7]⟩ := by rw [exS_eq]; decide +kernel

example : (propGet 2 "q" none exS).1 = .ok ⟨.flt, [3], [.flt (1/2), .flt (3/2), .flt (5/2)]⟩ := by rw [exS_eq]; decide +kernel
-- … but `slice_is_view`: object 3 is the slice [1:3] of object 0 and the write of 9 through it is seen by both

example : (propGet 3 "q" none exS).1 = .ok ⟨.flt, [2], [.flt 9, .flt 7]⟩ := by rw [exS_eq]; decide +kernel
-- `symbols_padded`: natypes is 2, one symbol was given, the getter pads to two

example : (symbolsGet 0 exS).1 = .ok [some "Al", none] ∧ (natypes 0 exS).1 = .ok 2 := by rw [exS_eq]; decide +kernel

example : (massesGet 0 exS).1 = .ok [none, none] := by rw [exS_eq]; decide +kernel
-- refusals: hypotheses of the refusal lemmas are satisfiable, the model refuses

example : output exS (.setView 0 "q" ⟨.flt, [2], [.flt 1, .flt 2]⟩) = .error .value := by rw [exS_eq]; decide +kernel

example : output exS (.setView 0 "atype" ⟨.int, [3], [.int 1, .int 0, .int 1]⟩) = .error .value := by rw [exS_eq]; decide +kernel

example : output exS (.propSet 0 "atype" (some (.int 1)) ⟨.int, [], [.int 0]⟩) = .error .value := by rw [exS_eq]; decide +kernel

example : output exS (.sysPropSet 0 "atype" (some (.list [0, 1, 2])) ⟨.flt, [3], [.flt 0, .flt (-1), .flt 0]⟩ true)
    = .error .value := by rw [exS_eq]; decide +kernel

example : output exS (.propGet 0 "nokey" none) = .error .key := by rw [exS_eq]; decide +kernel

example : output exS (.propGet 0 "q" (some (.int 3))) = .error .index := by rw [exS_eq]; decide +kernel

example : output exS (.propGet 0 "q" (some (.slice none none (some 0)))) = .error .value := by rw [exS_eq]; decide +kernel

example : output exS (.propGet 0 "q" (some (.mask [true, false]))) = .error .index := by rw [exS_eq]; decide +kernel

example : output exS (.setItem 0 (.slice (some 0) (some 2) none) 1) = .ok .unit := by rw [exS_eq]; decide +kernel

example : output exS (.setItem 0 (.int 0) 1) = .error .value := by rw [exS_eq]; decide +kernel

example : output exS (.pbcSet 0 [true, false]) = .error .assert := by rw [exS_eq]; decide +kernel

example : output exS (.massesSet 0 [some 1, some 2, some 3]) = .error .value := by rw [exS_eq]; decide +kernel

example : output exS (.sysExtend 0 (.inl 2) true none) = .error .value := by rw [exS_eq]; decide +kernel

example : output exS (.propAtype 0 "q" ⟨.flt, [], [.flt 1]⟩ none) = .error .type := by rw [exS_eq]; decide +kernel

example : output exS (.propAtype 0 "q" ⟨.flt, [1], [.flt 1]⟩ none) = .error .value := by rw [exS_eq]; decide +kernel

example : output exS (.new (some (-1)) none none []) = .error .value := by rw [exS_eq]; decide +kernel

example : output exS (.propGet 7 "q" none) = .error .format := by rw [exS_eq]; decide +kernel
-- a refused operation changes nothing

example : step exS (.setView 0 "atype" ⟨.int, [3], [.int 1, .int 0, .int 1]⟩) = exS := by rw [exS_eq]; decide +kernel
-- extension: atoms_extend by an Atoms with a different property set (zero fill on both sides)

example : (propGet 4 "q" none (step exS (.extendAtoms 1 0))).1
    = .ok ⟨.flt, [5], [.flt (5/2), .flt (1/2), .flt (1/2), .flt 9, .flt 7]⟩ := by rw [exS_eq]; decide +kernel

/-- the stale-tuple scenario: two atom types with symbols and masses, then the number of atom types
    grows to 4 *through the atoms*; the stored tuples are stale (length 2) yet `masses` read FIRST is
    padded to 4, and so is everything else, in any read order. -/
def exGrow : List Op := [exNew,
  .mkSys 0 unitBox [true, true, true] (some [some "Al", some "Ni"]) (some [some 27, some (117/2)]),
  .propSet 0 "atype" (some (.int 0)) ⟨.int, [], [.int 4]⟩]

def exG : State := exGrow.foldl step init

theorem exG_eq : exG =
    { heap := [⟨.int, [], [[.int 4], [.int 2], [.int 1]]⟩,
        exPosBuf,
        exQBuf],
      objs := [exObj0],
      syss := [⟨0, unitBox, [true, true, true], [some "Al", some "Ni"], [some 27, some (117/2)]⟩] } := by
  decide +kernel

example : (exG.sys 0).symbols.length = 2 ∧ (exG.sys 0).masses.length = 2 ∧ ntOf exG 0 = .ok 4 := by rw [exG_eq]; decide +kernel

example : output exG (.massesGet 0) = .ok (.masses [some 27, some (117/2), none, none]) := by rw [exG_eq]; decide +kernel

example : output (step exG (.symbolsGet 0)) (.massesGet 0) = output exG (.massesGet 0) :=
  read_order_irrelevant exG [.symbolsGet 0] (fun o ho => by simp at ho; subst ho; exact ⟨.symbols, 0, rfl⟩) .masses 0

example : output exG (.composition 0) = .ok (.comp none) := by rw [exG_eq]; decide +kernel

example : output (step exG (.symbolsSet 0 [some "Al", some "Ni", some "X", some "Al"])) (.composition 0)
    = .ok (.comp (some "Al2Ni")) := by rw [exG_eq]; decide +kernel

example : output exG (.sysAtypes 0) = .ok (.nats [1, 2, 3, 4]) := by rw [exG_eq]; decide +kernel

example : output exG (.massesSet 0 [some 1, some 2, some 3, some 4]) = .ok .unit := by rw [exG_eq]; decide +kernel

example : output exG (.massesSet 0 [some 1, some 2, some 3, some 4, some 5]) = .error .value := by rw [exG_eq]; decide +kernel

/-- scaled reads on a box that is not the unit cube: `a = (2,0,0)`, `b = (1,4,0)`, `c = (0,0,1/2)`, origin `(1,0,0)`. -/
def exBox : Box Rat := ⟨⟨⟨2, 0, 0⟩, ⟨1, 4, 0⟩, ⟨0, 0, 1/2⟩⟩, ⟨1, 0, 0⟩⟩

def exSc : State := [exNew, .mkSys 0 exBox [true, true, true] (some [some "Al"]) none].foldl step init

def exScRead : Op := .sysPropGetAtomsScaled 0 (some (.slice (some 0) (some 2) none))

theorem exSc_eq : exSc =
    { heap := [exAtypeBuf,
        exPosBuf,
        exQBuf],
      objs := [exObj0],
      syss := [⟨0, exBox, [true, true, true], [some "Al", none], [none, none]⟩] } := by
  decide +kernel

example : Inv exSc := inv_reachable _
-- the slice covers two atoms (`atoms[0:2]` holds views of the system's arrays); the read returns object 2 …

example : output exSc exScRead = .ok (.obj 2) := by rw [exSc_eq]; decide +kernel
-- … whose positions are box-relative …

example : (propGet 2 "pos" none (step exSc exScRead)).1
    = .ok ⟨.flt, [2, 3], [.flt (-1/2), .flt 0, .flt 0, .flt (-1/8), .flt (1/4), .flt 2]⟩ := by rw [exSc_eq]; decide +kernel
-- … while the system's own Cartesian positions are what they were (`sysPropGetAtomsScaled_fresh_unchanged`)

example : (propGet 0 "pos" none (step exSc exScRead)).1 = (propGet 0 "pos" none exSc).1 := by rw [exSc_eq]; decide +kernel

example : output exSc (.sysPropGetScaled 0 "pos" (some (.int (-2))))
    = .ok (.val ⟨.flt, [3], [.flt (-1/8), .flt (1/4), .flt 2]⟩) := by rw [exSc_eq]; decide +kernel

example : output exSc (.sysPropGetScaled 0 "q" (some (.int 0))) = .error .index := by rw [exSc_eq]; decide +kernel

example : output exSc (.sysPropGetScaled 0 "q" (some (.slice none (some 2) none))) = .error .value := by rw [exSc_eq]; decide +kernel

example : step exSc (.sysPropGetScaled 0 "pos" none) = exSc := (sysPropGetScaled_reads_only false exSc 0 "pos" none).1
-- deepcopy of the system: stored tuples copied as stored

example : output exSc (.sysDeepcopy 0) = .ok (.objSys 1 1) := by rw [exSc_eq]; decide +kernel

example : ((step exSc (.sysDeepcopy 0)).sys 1).symbols = (exSc.sys 0).symbols ∧
    ((step exSc (.sysDeepcopy 0)).sys 1).atoms = 1 := by rw [exSc_eq]; decide +kernel

-- System(..., scale=True, safecopy=True): the given atoms (object 0, box-relative positions) are untouched, the
-- system is built on the copy (object 1) whose positions are Cartesian

example : output ([exNew].foldl step init) (.mkSysX 0 exBox [true, true, true] none none true true) = .ok (.objSys 1 0) := by
  decide +kernel

example : (propGet 0 "pos" none (step ([exNew].foldl step init) (.mkSysX 0 exBox [true, true, true] none none true true))).1
    = (propGet 0 "pos" none ([exNew].foldl step init)).1 := by decide +kernel

example : (propGet 1 "pos" (some (.int 1)) (step ([exNew].foldl step init) (.mkSysX 0 exBox [true, true, true] none none true true))).1
    = .ok ⟨.flt, [3], [.flt 4, .flt 4, .flt (1/2)]⟩ := by decide +kernel

/-! Degenerate per-atom shapes.  A per-atom entry that is itself a 1-vector or a 1x1 matrix has as many cells as a
scalar.  The two places where the code could confuse them are the broadcast step of `view[key] = value` (every `Atoms(...)` and so every sub-Atoms goes
through it) and the extraction of few atoms. -/

/-- **the broadcast step of `view[key] = value` never touches the per-atom (trailing) shape.**  Whatever it is handed
    (a scalar, ONE row, one row per atom; a literal or an array of the heap), what it passes on has shape
    `natoms :: tail of the value's shape`: a one-row value of shape `1 :: t` becomes `n :: t` — also for `t = [1]`,
    `[1, 1]`, whose cell count is that of a scalar (`np.repeat(value, natoms)` would give `[n]`). -/
theorem viewBcast_keeps_trail (s : State) (n : Nat) (src src' : Src) (h : viewBcast s n src = pure src') :
    (srcVal s src').shape = n :: (srcVal s src).shape.tail := by
  rcases viewBcast_cases s n src with ⟨e, he⟩ | ⟨src'', he, hres⟩
  · rw [he] at h
    have := congrArg (fun m => (m s).1) h
    simp [pure, M.pure, fail] at this
  · rw [he] at h
    have : src'' = src' := by
      have := congrArg (fun m => (m s).1) h
      simpa [pure, M.pure] using this
    subst this
    rcases hres with ⟨lv, t, h1, h2, _, _, _, h6⟩ | ⟨a, h1, h2, h3⟩
    · subst h1
      show lv.shape = _
      rw [h2, h6]
    · subst h1; subst h2
      show (arrVal s a).shape = n :: (arrVal s a).shape.tail
      simp only [arrVal, List.tail_cons]; rw [h3]

/-- **`atoms[index]` keeps the per-atom shape of every property, however few atoms are selected.**  For every index
    form (int, negative int, slice, list, mask) that selects `m` atoms — `m = 1` and `m = 0` included — every property of
    the operand reappears in the result under its name with its dtype and with shape `m :: trail`, `trail` being the
    operand's trailing shape as it is: `[1]` stays `[1]` (never `[]`), `[1, 1]` stays `[1, 1]`. -/
theorem getItem_keeps_shape (s : State) (h : Inv s) (o : Nat) (ix : Index) (ho : o < s.objs.length) (o' : Nat) (s' : State)
    (hrun : getItem o ix s = (.ok o', s')) :
    ∃ sel, resolve (s.obj o).natoms (atomsIndex ix) = .ok sel ∧ (s'.obj o').natoms = sel.pos.length ∧
      ∀ p ∈ (s.obj o).props, ∃ p' ∈ (s'.obj o').props, p'.key = p.key ∧
        (arrVal s' p'.arr).shape = sel.pos.length :: arrTrail s p.arr ∧ (arrVal s' p'.arr).dt = arrDt s p.arr := by
  obtain ⟨sel, hsel, hres⟩ := refines_getItem s h o ix ho o' s' hrun
  refine ⟨sel, hsel, hres.natoms, fun p hp => ?_⟩
  obtain ⟨p', hp', hc⟩ := hres.cols p hp
  refine ⟨p', hp', hc.key, ?_, hc.dt⟩
  have hlen : p'.arr.idx.length = sel.pos.length := by
    have := congrArg List.length hc.rows
    simpa [arrRows] using this
  show p'.arr.idx.length :: arrTrail s' p'.arr = _
  rw [hlen, hc.trail]

/-- five atoms with a per-atom 1-vector `w` (shape `(5, 1)`) and a per-atom 1x1 matrix `m` given as ONE row. -/
def exShape : State := [Op.new none (some ⟨.int, [5], [.int 1, .int 2, .int 1, .int 3, .int 2]⟩) none
  [("w", ⟨.flt, [5, 1], [.flt 0, .flt 1, .flt 2, .flt 3, .flt 4]⟩), ("m", ⟨.int, [1, 1, 1], [.int 7]⟩)]].foldl step init

theorem exShape_eq : exShape =
    { heap := [⟨.int, [], [[.int 1], [.int 2], [.int 1], [.int 3], [.int 2]]⟩,
        ⟨.flt, [3], List.replicate 5 [.flt 0, .flt 0, .flt 0]⟩,
        ⟨.flt, [1], [[.flt 0], [.flt 1], [.flt 2], [.flt 3], [.flt 4]]⟩,
        ⟨.int, [1, 1], List.replicate 5 [.int 7]⟩],
      objs := [⟨5, [⟨"atype", ⟨0, [0, 1, 2, 3, 4]⟩⟩, ⟨"pos", ⟨1, [0, 1, 2, 3, 4]⟩⟩, ⟨"w", ⟨2, [0, 1, 2, 3, 4]⟩⟩,
        ⟨"m", ⟨3, [0, 1, 2, 3, 4]⟩⟩]⟩] } := by
  decide +kernel

example : Inv exShape := inv_reachable _
-- the one-row value was broadcast to one 1x1 matrix per atom: shape (5, 1, 1), not (5,)

example : (propGet 0 "m" none exShape).1 = .ok ⟨.int, [5, 1, 1], [.int 7, .int 7, .int 7, .int 7, .int 7]⟩ := by rw [exShape_eq]; decide +kernel
-- ONE atom extracted by int / negative int / one-element slice / list / mask: `w` keeps shape (1, 1), `m` (1, 1, 1)

example : (propGet 1 "w" none (step exShape (.getItem 0 (.int 2)))).1 = .ok ⟨.flt, [1, 1], [.flt 2]⟩ := by rw [exShape_eq]; decide +kernel

example : (propGet 1 "w" none (step exShape (.getItem 0 (.int (-1))))).1 = .ok ⟨.flt, [1, 1], [.flt 4]⟩ := by rw [exShape_eq]; decide +kernel

example : (propGet 1 "w" none (step exShape (.getItem 0 (.slice (some 2) (some 3) none)))).1 = .ok ⟨.flt, [1, 1], [.flt 2]⟩ := by
  rw [exShape_eq]; decide +kernel

example : (propGet 1 "m" none (step exShape (.getItem 0 (.list [3])))).1 = .ok ⟨.int, [1, 1, 1], [.int 7]⟩ := by rw [exShape_eq]; decide +kernel

example : (propGet 1 "w" none (step exShape (.getItem 0 (.mask [false, false, false, true, false])))).1
    = .ok ⟨.flt, [1, 1], [.flt 3]⟩ := by rw [exShape_eq]; decide +kernel
-- a keyed read of one atom by int drops the atom axis only: shape (1,), not ()

example : (propGet 0 "w" (some (.int 2)) exShape).1 = .ok ⟨.flt, [1], [.flt 2]⟩ := by rw [exShape_eq]; decide +kernel
-- the hypotheses of `getItem_keeps_shape` hold here

example : (getItem 0 (.int 2) exShape).1 = .ok 1 := by rw [exShape_eq]; decide +kernel

/-- **reads do not write (tables)** — `df()` and `atoms_df(scale)` leave the state literally unchanged, whatever the
    `scale` argument and whether or not the call raises; `df()` replies the columns of `dfColumns`. -/
theorem df_reads_only (off : Bool) (s : State) (o i : Nat) (sc : DfScale) :
    (stepWith off s (.df o)).2 = s ∧ (stepWith off s (.sysDf i sc)).2 = s ∧
    (o < s.objs.length → (stepWith off s (.df o)).1 = .ok (.table (dfColumns s o))) := by
  refine ⟨?_, ?_, ?_⟩
  · unfold stepWith; split
    · rfl
    · rfl
  · rcases stepWith_state off s (.sysDf i sc) with h | ⟨-, h⟩
    · exact h
    · rw [h]
      show ((do let c ← liftE (sysDfColumns s i (dfScaleKeys sc)); pure (Out.table c) : M Out) s).2 = s
      cases sysDfColumns s i (dfScaleKeys sc) <;> rfl
  · intro ho
    unfold stepWith
    rw [if_neg (by simp [Op.litsOk, Op.idsOk, ho])]
    rfl

theorem indexStrs_length (t : List Nat) : (indexStrs t).length = prod t := by
  induction t with
  | nil => rfl
  | cons d ds ih =>
    rw [indexStrs, length_flatMap_const _ _ (prod ds) (by simp [ih]), List.length_range]; rfl

set_option linter.unusedVariables false in
/-- **one entry per atom, for every column of the table**: in a state satisfying the invariant every column of `df()`
    has exactly `natoms` cells, and a property of trailing shape `t` contributes `prod t` columns. -/
theorem dfColumns_rectangular (s : State) (h : Inv s) (o : Nat) (ho : o < s.objs.length) :
    (∀ c ∈ dfColumns s o, c.cells.length = (s.obj o).natoms) ∧
    (dfColumns s o).length = ((s.obj o).props.map (fun p => prod (arrTrail s p.arr))).sum := by
  obtain ⟨⟨κ, hinv⟩, -⟩ := h
  constructor
  · intro c hc
    simp only [dfColumns, List.mem_flatMap] at hc
    obtain ⟨p, hp, hc⟩ := hc
    simp only [valColumns, List.mem_map] at hc
    obtain ⟨q, -, rfl⟩ := hc
    simp only [List.length_map, rowsOf_length, arrVal, List.headD_cons]
    exact (hinv.obj_props o p hp).len
  · simp only [dfColumns, List.length_flatMap, valColumns, List.length_map, indexStrs_length, arrVal, List.tail_cons]

set_option linter.unusedVariables false in
/-- **row i of every column describes atom i**: the cell of atom `j` in the column of component `ix` of property `p` is
    component `ix` (C order) of row `j` of that property's array — the same `j` for every column. -/
theorem dfColumns_cell (s : State) (h : Inv s) (o : Nat) (ho : o < s.objs.length) (p : PropRef)
    (hp : p ∈ (s.obj o).props) (q : List Nat × String) (hq : q ∈ indexStrs (arrTrail s p.arr)) :
    (⟨p.key ++ q.2, arrDt s p.arr,
        (arrRows s p.arr).map (fun r => r.getD (flatIdx (arrTrail s p.arr) q.1) default)⟩ : Column) ∈ dfColumns s o := by
  have hrect := inv_rectangular s h o p hp
  simp only [dfColumns, List.mem_flatMap]
  refine ⟨p, hp, ?_⟩
  simp only [valColumns, List.mem_map]
  refine ⟨q, by simpa [arrVal] using hq, ?_⟩
  have hw : ∀ r ∈ arrRows s p.arr, r.length = prod (arrTrail s p.arr) := hrect.2.2.2.2.1
  have hflat := rowsOf_flatten (arrRows s p.arr) _ hw
  simp only [arrVal, List.headD_cons, List.tail_cons]
  have hl : (arrRows s p.arr).length = p.arr.idx.length := by simp [arrRows]
  rw [← hl, hflat]

/-- a call whose option handling refuses changes nothing. -/
theorem call_refused_unchanged (off : Bool) (s : State) (c : Call) (e : Err) (h : c.toOp s = .error e) :
    callWith off s c = (.error e, s) := by
  unfold callWith; rw [h]

/-- every call of the API — whatever the options, accepted or refused — keeps the invariant. -/
theorem inv_callWith (off : Bool) (s : State) (c : Call) (h : Inv s) : Inv (callWith off s c).2 := by
  unfold callWith
  cases c.toOp s with
  | error e => exact h
  | ok op => exact inv_stepWith off s op h

theorem inv_callStep (s : State) (c : Call) (h : Inv s) : Inv (callStep s c) := inv_callWith false s c h

/-- **end to end**: after any finite sequence of API calls with any options every per-atom property of every object is
    rectangular with one row per atom, atom types are ≥ 1, names are distinct (`Inv`, as `inv_rectangular` /
    `inv_atype_ge_one` spell out). -/
theorem inv_calls (cs : List Call) : Inv (cs.foldl callStep init) :=
  foldl_inv callStep Inv cs (fun s c _ h => inv_callStep s c h) init init_inv

/-- `prop(...)` refuses with ValueError in its option handling exactly when `index` and `a_id` are both given. -/
theorem propCall_refuses_value_iff (o : Nat) (a : PropArgs) :
    propCall o a = .error .value ↔ (a.a_id.isSome = true ∧ a.index.isSome = true) := by
  rcases a with ⟨_ | k, _ | ix, _ | (v | src), _ | jx⟩ <;> simp [propCall, propDispatch, CallVal.isAtoms]

/-- … and with TypeError exactly when a value that is not an `Atoms` object comes without a key. -/
theorem propCall_refuses_type_iff (o : Nat) (a : PropArgs) :
    propCall o a = .error .type ↔
      (¬ (a.a_id.isSome = true ∧ a.index.isSome = true) ∧ a.key = none ∧ ∃ v, a.value = some (.lit v)) := by
  rcases a with ⟨_ | k, _ | ix, _ | (v | src), _ | jx⟩ <;> simp [propCall, propDispatch, CallVal.isAtoms]

/-- `a_id` is another spelling of `index`. -/
theorem propCall_aid_alias (o : Nat) (k : Option String) (v : Option CallVal) (ix : Index) :
    propCall o ⟨k, none, v, some ix⟩ = propCall o ⟨k, some ix, v, none⟩ := by
  rcases k with _ | k <;> rcases v with _ | (v | src) <;> simp [propCall, propDispatch, CallVal.isAtoms]

theorem atomsPropCall_aid_alias (i o : Nat) (k : Option String) (v : Option CallVal) (ix : Index) (sc : Flag) :
    atomsPropCall i o ⟨k, none, v, some ix⟩ sc = atomsPropCall i o ⟨k, some ix, v, none⟩ sc := by
  rcases sc with (_ | _) | t <;> rcases k with _ | k <;> rcases v with _ | (v | src) <;>
    simp [atomsPropCall, atomsPropDispatch, propCall, propDispatch, CallVal.isAtoms]

/-- a `scale` that is not a Python `bool` is refused with TypeError, whatever its truth value and the other arguments
    (and, by `call_refused_unchanged`, nothing changes). -/
theorem atomsPropCall_nonbool_refused (i o : Nat) (a : PropArgs) (t : Bool) :
    atomsPropCall i o a (.other t) = .error .type := rfl

/-- `atoms_prop(..., scale=False)` IS `atoms.prop(...)` on the system's atoms: same refusals of the option handling,
    and for an accepted call the same reply and the same resulting state. -/
theorem atomsProp_unscaled_delegates (off : Bool) (s : State) (i : Nat) (a : PropArgs) :
    (match propCall (s.sys i).atoms a, atomsPropCall i (s.sys i).atoms a (.bool false) with
     | .ok op, .ok op' => run off op' s = run off op s
     | .error e, .error e' => e = e'
     | _, _ => False) := by
  rcases a with ⟨_ | k, _ | ix, _ | (v | src), _ | jx⟩ <;>
    simp [propCall, atomsPropCall, propDispatch, atomsPropDispatch, CallVal.isAtoms] <;> rfl

/-- `System(..., scale=…)` refuses exactly under the test of the source; an accepted call converts the positions
    exactly when `scale is True` and copies the atoms exactly when `safecopy` is truthy. -/
theorem systemCall_spec (o : Nat) (box : Box Rat) (pbc : List Bool) (sy : Option (List (Option String)))
    (ms : Option (List (Option Rat))) (scale safecopy : Flag) :
    (systemCall o box pbc sy ms scale safecopy = .error .type ↔ systemInitRefuses scale) ∧
    (∀ sc cp, systemCall o box pbc sy ms scale safecopy = .ok (.mkSysX o box pbc sy ms sc cp) →
      ((sc = true ↔ systemInitConverts scale) ∧ cp = safecopy.truthy)) := by
  rcases scale with b | t
  · refine ⟨by simp [systemCall, systemInitRefuses, Flag.isBool], ?_⟩
    intro sc cp h
    simp only [systemCall, Except.ok.injEq, Op.mkSysX.injEq] at h
    obtain ⟨-, -, -, -, -, h1, h2⟩ := h
    subst h1 h2
    simp [systemInitConverts]
  · refine ⟨by simp [systemCall, systemInitRefuses, Flag.isBool], ?_⟩
    intro sc cp h
    simp [systemCall] at h

/-- kind of the `value` argument of `atoms_extend`: an int count or the id of an `Atoms`. -/
def argKind : Int ⊕ Nat → ArgKind
  | .inl _ => .int
  | .inr _ => .atoms

/-- `atoms_extend(value, scale=…)` refuses with ValueError exactly under the test of the source (`scale is True` with a
    count), and an accepted call converts the donor's positions exactly when `scale` is truthy. -/
theorem atomsExtendCall_spec (i : Nat) (value : Int ⊕ Nat) (scale : Flag) (sy : Option (List (Option String))) :
    (atomsExtendCall i value scale sy = .error .value ↔ atomsExtendRefuses scale (argKind value)) ∧
    (∀ v sc sy', atomsExtendCall i value scale sy = .ok (.sysExtend i v sc sy') →
      (sc = true ↔ atomsExtendConverts scale)) := by
  rcases value with n | d <;> rcases scale with (_ | _) | (_ | _) <;>
    simp [atomsExtendCall, atomsExtendRefuses, atomsExtendConverts, argKind, Flag.truthy]

-- on the example state, with the options spelled every way

example : callOutput exS (.prop 0 ⟨some "q", some (.int 0), none, some (.int 0)⟩) = .error .value := by rw [exS_eq]; decide +kernel

example : callStep exS (.prop 0 ⟨some "q", some (.int 0), none, some (.int 0)⟩) = exS := by rw [exS_eq]; decide +kernel

example : callOutput exS (.prop 0 ⟨some "q", none, none, some (.int (-1))⟩) = output exS (.propGet 0 "q" (some (.int (-1)))) := by
  rw [exS_eq]; decide +kernel

example : callOutput exS (.prop 0 ⟨none, none, some (.lit ⟨.int, [], [.int 1]⟩), none⟩) = .error .type := by rw [exS_eq]; decide +kernel

example : callOutput exS (.atomsProp 0 ⟨some "pos", none, none, none⟩ (.other true)) = .error .type := by rw [exS_eq]; decide +kernel

example : callOutput exS (.atomsProp 0 ⟨none, none, none, none⟩ (.bool false)) = output exS (.propKeys 0) := by rw [exS_eq]; decide +kernel

example : callOutput exS (.atomsProp 0 ⟨some "pos", none, none, some (.int 1)⟩ (.bool true))
    = output exS (.sysPropGetScaled 0 "pos" (some (.int 1))) := by rw [exS_eq]; decide +kernel

example : callOutput exS (.system 0 unitBox [true, true, true] none none (.other true) (.bool false)) = .error .type := by
  rw [exS_eq]; decide +kernel

example : callOutput exS (.atomsExtend 0 (.inl 2) (.bool true) none) = .error .value := by rw [exS_eq]; decide +kernel

example : Inv (callStep exS (.atomsExtend 0 (.inr 1) (.other true) none)) :=
  inv_callStep exS _ (inv_reachable exOps)


-- the guard, call-layer and refusal theorems instantiated with every hypothesis discharged

-- `viewGuard_refuses_iff` / `atypeGuard_refuses_iff`: an atype column containing 0

example : (viewGuard "atype" 3 ⟨.int, [3], [.int 1, .int 0, .int 1]⟩ exS).1 = .error .value ↔
    guardRefuses ("atype" = "atype") 3 ((0 : Rat) < 1) :=
  viewGuard_refuses_iff "atype" 3 ⟨.int, [3], [.int 1, .int 0, .int 1]⟩ [1, 0, 1] exS rfl 0 rfl

example : (atypeGuard "atype" ⟨.int, [3], [.int 1, .int 0, .int 1]⟩ exS).1 = .error .value ↔
    guardRefuses ("atype" = "atype") 3 (∃ m, listMin ([1, 0, 1] : List Rat) = some m ∧ m < 1) :=
  atypeGuard_refuses_iff "atype" ⟨.int, [3], [.int 1, .int 0, .int 1]⟩ [1, 0, 1] exS rfl
-- `call_refused_unchanged`: both `a_id` and `index` given

example : callWith false exS (.prop 0 ⟨some "q", some (.int 0), none, some (.int 0)⟩) = (.error .value, exS) :=
  call_refused_unchanged false exS _ .value (by rfl)
-- `massesSet_by_decision` / `symbolsGet_by_decision`: `exG` has 4 atom types, 2 symbols

example : sysNatypes 0 exG = (.ok 4, (sysNatypes 0 exG).2) := by rw [exG_eq]; decide +kernel

example : natypes (exG.sys 0).atoms exG = (.ok 4, (natypes (exG.sys 0).atoms exG).2) := by rw [exG_eq]; decide +kernel

-- `viewSet_len_mismatch_rejects`: a length-2 column for the 3-atom object 0 of `exS`

example : viewSet 0 "q" (.lit ⟨.flt, [2], [.flt 1, .flt 2]⟩) exS = (.error .value, exS) :=
  viewSet_len_mismatch_rejects exS 0 "q" _ 2 [] rfl (by decide) (by rw [exS_eq]; decide +kernel)
-- `propSet_atype_lt_one_rejects`: writing type 0 into one row

example : propSet 0 "atype" (some (.int 1)) ⟨.int, [], [.int 0]⟩ exS = (.error .value, exS) :=
  propSet_atype_lt_one_rejects exS 0 (.int 1) ⟨.int, [], [.int 0]⟩ (by decide) (.int 0) (by simp) 0 rfl (by decide +kernel)
-- `viewSet_atype_lt_one_rejects`: a full atype column containing 0

example : viewSet 0 "atype" (.lit ⟨.int, [3], [.int 1, .int 0, .int 2]⟩) exS = (.error .value, exS) :=
  have hn : (exS.obj 0).natoms = 3 := by rw [exS_eq]; decide +kernel
  viewSet_atype_lt_one_rejects exS 0 ⟨.int, [3], [.int 1, .int 0, .int 2]⟩ [] (by rw [hn]) (by rw [hn]; decide)
    (by rw [hn]; decide) (by decide) (.int 0) (by simp) 0 rfl (by decide +kernel)

end Atomman.C06
