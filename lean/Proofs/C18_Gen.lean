/-
  C18 — the source tie: every definition of `Atomman/Generated/PNEnergy.lean` (regenerated with `ast` from
  atomman/defect/SDVPN.py, GammaSurface.py, pn_arctan_disregistry.py and pn_arctan_disldensity.py on each run) equals the hand
  model of `Atomman/C18.lean` (`gen_…_eq_model`), except the two statement pins `gen_recompose_pin` and
  `gen_default_block_methods`: string lists that the translator itself compares.
-/
import Proofs.C18_Gamma
import Proofs.C18_Convert
import Atomman.Generated.PNEnergy

namespace Atomman.C18
open Atomman
set_option linter.unusedSectionVars false


variable {K : Type} [Field K] [LinearOrder K] [IsStrictOrderedRing K]

theorem vstack_strip (d : List (V3 K)) :
    npVstack3T (d.map (fun v => v.x)) (List.replicate d.length (0 : K)) (d.map (fun v => v.z))
      = d.map (fun δ => (⟨δ.x, 0, δ.z⟩ : V3 K)) := by
  induction d with
  | nil => rfl
  | cons a l ih => simp only [List.map_cons, List.length_cons, List.replicate_succ, npVstack3T, ih]

theorem gen_disldensity_eq_model (cdiff : Bool) (x : List K) (d : List (V3 K)) :
    Gen.gen_disldensity cdiff x d = (densityX cdiff x, disldensity cdiff x d) := by
  cases cdiff
  · simp only [Gen.gen_disldensity, densityX, disldensity, npRowDiv, Bool.false_eq_true, if_false]
    rw [zipWith_take_right _ _ _ _ (by simp), zipWith_take_right _ _ _ _ (by simp)]
  · simp only [Gen.gen_disldensity, densityX, disldensity, npRowDiv, if_true]
    rw [zipWith_take_right _ _ _ _ (by simp), zipWith_take_right _ _ _ _ (by simp), take_drop_one_eq]

theorem gen_misfit_eq_model (gam : V3 K → K) (T : M3 K) (x : List K) (d : List (V3 K)) :
    Gen.gen_misfit_energy gam T x d = misfitEnergy gam T x d := by
  simp only [Gen.gen_misfit_energy, misfitEnergy, gridStep, vstack_strip, List.map_map]
  congr 2
  apply List.map_congr_left
  intro a _
  simp [Function.comp, M3.mulVec_transpose]

theorem gen_psi_eq_model (lg : K → K) (i j : Int) (dx : K) : Gen.gen_psi lg i j dx = psi lg dx (i - j) := by
  unfold Gen.gen_psi psi
  split_ifs with h
  · rfl
  · simp only [two]; push_cast; ring

theorem gen_chi_eq_model (lg : K → K) (i j : Int) (dx : K) : Gen.gen_chi lg i j dx = chi lg dx i j := by
  unfold Gen.gen_chi chi
  simp only [gen_psi_eq_model, two]

theorem gen_elastic_eq_model (lg : K → K) (pi : K) (Kt : M3 K) (cdiff : Bool) (x : List K) (d : List (V3 K)) :
    Gen.gen_elastic_energy lg pi Kt cdiff x d = elasticEnergy lg pi Kt cdiff x d := by
  simp only [Gen.gen_elastic_energy, elasticEnergy, elasticOfDensity, elasticB, gen_disldensity_eq_model, gridStep]
  apply sumTo_congr
  intro i _
  congr 1
  apply sumTo_congr
  intro j hj
  rw [gen_chi_eq_model]
  congr 1
  simp [kform, List.getD_eq_getElem?_getD, List.getElem?_eq_getElem hj]

theorem gen_longrange_eq_model (pi logL : K) (Kt : M3 K) (b : V3 K) :
    Gen.gen_longrange_energy pi logL Kt b = longrangeEnergy pi logL Kt b := by
  simp [Gen.gen_longrange_energy, longrangeEnergy, kform, two]

theorem map_mul_right (c : K) (v : V3 K) : v.map (fun t => t * c) = V3.smul c v := by
  ext <;> exact mul_comm _ _

theorem v3_neg_r1 (τ : M3 K) : (negM τ).r1 = -τ.r1 := rfl

theorem gen_stress_eq_model (full cd : Bool) (τ : M3 K) (x : List K) (d : List (V3 K)) :
    Gen.gen_stress_energy full cd τ x d = stressEnergyT full cd τ x d := by
  cases full
  · simp only [Gen.gen_stress_energy, stressEnergyT, stressEnergy, Bool.false_eq_true, if_false, gridStep, v3_neg_r1, Nat.cast_one, two]
    rw [zipWith_take_left _ _ _ _ (by simp), List.map_map, List.map_zipWith]
    simp only [Function.comp, map_mul_right]
  · simp only [Gen.gen_stress_energy, stressEnergyT, stressEnergy, if_true, gen_disldensity_eq_model, Nat.cast_one, two]
    -- the two slices of `x` are cut to the length of `ρ`, as `zipWith` does anyway
    rw [List.drop_take, Nat.add_sub_cancel, List.map_take, List.map_take, ← List.take_zipWith,
      zipWith_take_left _ _ _ _ (by simp), List.zipWith_map_left, List.zipWith_map_right, List.zipWith_map_right]

theorem gen_surface_eq_model (cd : Bool) (β : M3 K) (x : List K) (d : List (V3 K)) :
    Gen.gen_surface_energy cd β x d = surfaceEnergy cd β x d := by
  simp only [Gen.gen_surface_energy, surfaceEnergy, gen_disldensity_eq_model, npSumV, List.map_map, gridStep]
  rfl

/-- one `α_m` contribution as the source writes it (`δ[m:-m]`, `δ[2*m:]`, `δ[:-2*m]`, elementwise products, `np.sum`). -/
theorem nonlocal_body (dx : K) (d : List (V3 K)) (m : Nat) :
    npSumV ((List.zipWith npMulV ((d.take (d.length - m)).drop m)
        (List.zipWith (fun p q => p - q) ((d.take (d.length - m)).drop m)
          ((List.zipWith (fun p q => p + q) (d.drop (2 * m)) (d.take (d.length - 2 * m))).map
            (fun v => V3.smul (((1 : Nat) : K) / ((2 : Nat) : K)) v)))).map (fun v => v.map (fun t => t * dx)))
      = nonlocalTerm dx m d := by
  -- the sum of the two neighbours has at most `|δ| - 2m` rows, whatever is mapped over it (`f` will be the factor ½)
  have hW : ∀ f : V3 K → V3 K, ((List.zipWith (fun p q => p + q) (d.drop (2 * m)) d).map f).length ≤ d.length - m - m := by
    intro f
    rw [List.length_map, List.length_zipWith, List.length_drop]
    exact (Nat.min_le_left _ _).trans (by omega)
  unfold npSumV nonlocalTerm
  -- `δ[:-2m]` goes inside the neighbour sum; `δ[m:-m]` is `(δ.drop m).take (|δ| - 2m)`, and its `take` goes in the two places
  -- where it is zipped against that sum
  rw [zipWith_take_right _ _ _ _ (by simp), List.drop_take, zipWith_take_left _ _ _ _ (hW _),
    zipWith_take_left _ _ _ _ ((List.length_zipWith ▸ Nat.min_le_right _ _ : _ ≤ _).trans (hW _))]
  -- the model zips against the PAIR of neighbours: the sum as a map over `zip`, then ½, the difference and `· * dx` fused into it
  rw [← List.map_uncurry_zip_eq_zipWith (f := fun p q : V3 K => p + q), List.map_map, List.zipWith_map_right, zipWith_zipWith_left,
    List.map_zipWith, List.zipWith_map_right]
  simp only [Nat.cast_one]
  rfl

theorem gen_nonlocal_loop_eq_model (dx : K) (d : List (V3 K)) :
    ∀ (αs : List K) (num : Nat), Gen.gen_nonlocal_loop dx d num αs = nonlocalFrom dx d (num + 1) αs := by
  intro αs
  induction αs with
  | nil => intro num; rfl
  | cons α rest ih =>
    intro num
    simp only [Gen.gen_nonlocal_loop, nonlocalFrom]
    rw [ih, nonlocal_body]

theorem gen_nonlocal_eq_model (αs x : List K) (d : List (V3 K)) :
    Gen.gen_nonlocal_energy αs x d = nonlocalEnergy αs x d := by
  simp only [Gen.gen_nonlocal_energy, nonlocalEnergy, gen_nonlocal_loop_eq_model, gridStep, zero_add]

/-- `hτ`: the model's stress term reads the second row of the source's full array `tau`. -/
theorem gen_total_eq_model (lg : K → K) (gam : V3 K → K) (s : Settings K) (τ : M3 K) (hτ : s.τ1 = τ.r1) (x : List K) (d : List (V3 K)) :
    Gen.gen_total_energy lg gam s τ x d = totalEnergy lg gam s x d := by
  simp only [Gen.gen_total_energy, totalEnergy, gen_misfit_eq_model, gen_elastic_eq_model, gen_longrange_eq_model, gen_stress_eq_model,
    gen_nonlocal_eq_model, gen_surface_eq_model, stressEnergyT, hτ]

theorem gen_args_eq_model (o : Obj K) (xo : Option (List K)) (dO : Option (List (V3 K))) :
    Gen.gen_args o.x o.d xo dO = o.args xo dO := by
  cases xo <;> cases dO <;> rfl

theorem gen_init_flags_eq_model : Gen.gen_init_flags = initFlags := rfl

/-- the WHOLE keyword block of `solve`, in order: the ten state keywords of the model followed by the three minimiser
    options (a keyword added anywhere, also after the tenth, breaks this). -/
theorem gen_solve_keywords_eq_model :
    Gen.gen_solve_keywords = solveKeywords ++ ["min_method", "min_options", "min_kwargs"] := rfl

theorem gen_total_order_eq_model :
    Gen.gen_total_order = ["misfit_energy", "elastic_energy", "longrange_energy", "stress_energy", "nonlocal_energy", "surface_energy"] := rfl

theorem gen_frame_eq_model (M Kv T : M3 K) (b : V3 K) :
    Gen.gen_frame_K_tensor M Kv = frameK M Kv ∧ Gen.gen_frame_burgers M b = frameB M b ∧ Gen.gen_frame_transform M T = frameT M T :=
  ⟨rfl, rfl, rfl⟩

theorem gen_decompose_eq_model (d : List (V3 K)) :
    Gen.gen_decompose d = (decompose d, d.headD v3zero, d.getLastD v3zero) := by
  simp only [Gen.gen_decompose, decompose, take_drop_one_eq]

theorem gen_a12_to_pos_eq_model (B : M3 K) (v1 v2 : V3 K) (a1 a2 : K) :
    Gen.gen_a12_to_pos B v1 v2 a1 a2 = a12ToPos (cartOf v1 B) (cartOf v2 B) (a1, a2) := rfl

/-- the linear solve of the source's `pos_to_a12` (basis columns `A1, A2, c / rn`, `c = A1 × A2`) against the model's
    (rows `A1, A2, c`): same first two coefficients, third coefficient times `rn`. -/
theorem solve_scaled_basis (A1 A2 p : V3 K) (rn : K) (hrn : rn ≠ 0) (h : V3.cross A1 A2 ≠ v3zero) :
    M3.mulVec (M3.inv (M3.transpose ⟨A1, A2, (V3.cross A1 A2).map (fun t => t / rn)⟩)) p
      = ⟨(posToA123 A1 A2 p).x, (posToA123 A1 A2 p).y, (posToA123 A1 A2 p).z * rn⟩ := by
  have hD := det_basis_ne A1 A2 h
  have hp := vecMul_posToA123 A1 A2 h p
  generalize posToA123 A1 A2 p = a at hp ⊢
  have hdet : M3.det (M3.transpose ⟨A1, A2, (V3.cross A1 A2).map (fun t => t / rn)⟩) ≠ 0 := by
    have : M3.det ⟨A1, A2, (V3.cross A1 A2).map (fun t => t / rn)⟩ = M3.det ⟨A1, A2, V3.cross A1 A2⟩ / rn := by
      simp only [M3.det, V3.dot, V3.cross, V3.map]; ring
    rw [M3.det_transpose, this]; exact div_ne_zero hD hrn
  -- `p` has the coefficients `(a.x, a.y, a.z rn)` in the basis whose third vector is divided by `rn`
  have hw : M3.mulVec (M3.transpose ⟨A1, A2, (V3.cross A1 A2).map (fun t => t / rn)⟩) ⟨a.x, a.y, a.z * rn⟩ = p := by
    rw [M3.mulVec_transpose, ← hp]
    ext <;> simp only [M3.vecMul, V3.map, mul_assoc, mul_div_cancel₀ _ hrn]
  rw [← hw, M3.mulVec_inv_cancel _ _ hdet]

theorem gen_pos_to_a12_eq_model (rn : K) (B : M3 K) (v1 v2 p : V3 K) (hrn : 0 < rn)
    (h4 : (rn * rn) * (rn * rn) = V3.dot (V3.cross (cartOf v1 B) (cartOf v2 B)) (V3.cross (cartOf v1 B) (cartOf v2 B)))
    (h : V3.cross (cartOf v1 B) (cartOf v2 B) ≠ v3zero) :
    Gen.gen_pos_to_a12 rn B v1 v2 p = posToA12? (cartOf v1 B) (cartOf v2 B) p := by
  have hs := solve_scaled_basis (cartOf v1 B) (cartOf v2 B) p rn hrn.ne' h
  have hi := inPlaneOk_iff (cartOf v1 B) (cartOf v2 B) (posToA123 (cartOf v1 B) (cartOf v2 B) p) rn h4
  simp only [cartOf] at hs hi
  simp only [Gen.gen_pos_to_a12, posToA12?, cartOf, hs, ← tolPlane_eq]
  exact if_congr hi.symm rfl rfl

theorem gen_pn_arctan_disregistry_eq_model (atan : K → K) (pi : K) (x : List K) (b : V3 K) (center hw : K) (normalize shift : Bool)
    (normB normLast : K) :
    Gen.gen_pn_arctan_disregistry atan pi x b center hw normalize shift normB normLast
      = pnArctanDisregistry atan pi x b center hw normalize shift normB normLast := by
  have hraw : ((((x.map (fun t => t - center)).map (fun t => t / hw)).map atan).map (fun t => V3.smul t (b.map (fun t => t / pi)))).map
        (fun v => v + b.map (fun t => t / ((2 : Nat) : K)))
      = x.map (fun xi => V3.smul (atan ((xi - center) / hw)) (b.map (· / pi)) + b.map (· / two)) := by
    simp only [List.map_map, two]; rfl
  unfold Gen.gen_pn_arctan_disregistry pnArctanDisregistry
  simp only [hraw]
  cases normalize <;> cases shift <;> simp only [Bool.false_eq_true, if_false, if_true, List.map_map, two] <;> congr 1

theorem gen_pn_arctan_disldensity_eq_model (pi : K) (x : List K) (b : V3 K) (center hw : K) (normalize : Bool) (normB normInt : K) :
    Gen.gen_pn_arctan_disldensity pi x b center hw normalize normB normInt
      = pnArctanDisldensity pi x b center hw normalize normB normInt := by
  unfold Gen.gen_pn_arctan_disldensity pnArctanDisldensity
  cases normalize <;> simp only [Bool.false_eq_true, if_false, if_true, List.map_map] <;> congr 1


section floor
variable [FloorRing K]

/-- the source's `wrap_cushion` is one floor, then two corrections for a rounded-off floor: in exact arithmetic they never fire. -/
theorem gen_wrap_cushion_eq_model (a c : K) : Gen.gen_wrap_cushion Int.floor a c = wrap Int.floor c a := by
  have h := wrap_range c a
  unfold wrap at h
  simp only [Gen.gen_wrap_cushion, wrap, Nat.cast_one]
  have h1 : ¬ (1 - c ≤ a - ((⌊a + c⌋ : Int) : K)) := not_le.mpr h.2
  have h2 : ¬ (a - ((⌊a + c⌋ : Int) : K) < -c) := not_lt.mpr h.1
  simp [h1, h2]

theorem gen_wrap_unit_eq_model (a : K) : Gen.gen_wrap_unit Int.floor Int.ceil a = wrapN Int.floor Int.ceil a := by
  simp only [Gen.gen_wrap_unit, wrapN, Nat.cast_one, Nat.cast_zero]
  by_cases h : 1 < a
  · have hc : ((⌈a⌉ : Int) : K) < a + 1 := Int.ceil_lt_add_one a
    have h3 : ¬ (a - (((⌈a⌉ : Int) : K) - 1) < 0) := by linarith
    simp [h, h3]
  · simp [h]

end floor

end Atomman.C18
