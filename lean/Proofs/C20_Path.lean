/-
  C20 — the whole string: one step (`stringStep`: integration, then a re-spacing that keeps the pinned images), the
  spline re-spacing of the code, `relax` as a whole.
-/
import Proofs.C20_Rows
import Proofs.C20_Respace

namespace Atomman.C20
open Atomman.Gen

section integrated
variable {K V : Type} [Field K] [AddCommGroup V] [Module K V]
variable (dot : V → V → K) (sqrt : K → K)

theorem icoord_length (p : Path V K) (h : K) (climb : List Nat) (hc : 2 ≤ p.coord.length) :
    (p.icoord dot sqrt h climb).length = p.coord.length := by
  simp only [Path.icoord, List.length_map, List.length_zip, List.length_range, Path.unitTangent,
    unitTangentOf_length dot sqrt p.coord hc, Nat.min_self]

/-- the tangent handed to a climbing move is that of the string before the step. -/
theorem icoord_getElem? (p : Path V K) (h : K) (climb : List Nat) (hc : 2 ≤ p.coord.length) (i : Nat) (hi : i < p.coord.length) :
    ∃ τ, (p.unitTangent dot sqrt)[i]? = some τ ∧
      (p.icoord dot sqrt h climb)[i]? =
        some (if climb.contains i then p.climbRow dot h p.coord[i] τ else p.stepRow h p.coord[i]) := by
  have hτ : i < (p.unitTangent dot sqrt).length := by
    rw [Path.unitTangent, unitTangentOf_length dot sqrt p.coord hc]; exact hi
  refine ⟨(p.unitTangent dot sqrt)[i], List.getElem?_eq_getElem hτ, ?_⟩
  rw [List.getElem?_eq_getElem (by rw [icoord_length dot sqrt p h climb hc]; exact hi)]
  simp only [Path.icoord, List.getElem_map, List.getElem_zip, List.getElem_range]

end integrated

section wholestep
variable {K V : Type} [Field K] [CharZero K] [AddCommGroup V] [Module K V]
variable (dot : V → V → K) (sqrt : K → K)

/-- **fixed points of a whole step** (Euler): if a step with climbing images `climb` returns the string it was
    given, then the first image, the last image and every climbing image sit at critical points of the energy —
    provided the re-spacing keeps these rows (they are knots of the spline whose arc coordinate is kept) and the
    tangents are unit vectors (`unitTangent_unit`). -/
theorem stringStep_fixed_pinned_critical (p : Path V K) (hp : p.integratorfxn = fun r x h => euler r x h)
    (hadd : ∀ a b c, dot (a + b) c = dot a c + dot b c) (hsmul : ∀ (k : K) a c, dot (k • a) c = k * dot a c)
    (hneg : ∀ a c, dot (-a) c = - dot a c) (hdot0 : ∀ c, dot 0 c = 0)
    (respace : List Nat → List V → List V) (h : K) (hh : h ≠ 0) (climb : List Nat)
    (hc : 2 ≤ p.coord.length)
    (hkeep : ∀ (rows : List V), rows.length = p.coord.length → ∀ (i : Nat), (i = 0 ∨ i + 1 = rows.length ∨ i ∈ climb) →
      (respace climb rows)[i]? = rows[i]?)
    (hunit : ∀ τ ∈ p.unitTangent dot sqrt, dot τ τ = 1)
    (hfix : (p.stringStep dot sqrt respace h climb).coord = p.coord)
    (i : Nat) (hi : i < p.coord.length) (hpin : i = 0 ∨ i + 1 = p.coord.length ∨ i ∈ climb) :
    p.gradPoint p.coord[i] = 0 := by
  have hlen := icoord_length dot sqrt p h climb hc
  obtain ⟨τ, hτ, hrow⟩ := icoord_getElem? dot sqrt p h climb hc i hi
  -- row `i` of the string returned is, through the re-spacing that keeps it, the integrated row
  have h3 := (congrArg (·[i]?) hfix).symm.trans ((hkeep _ hlen i (by rw [hlen]; exact hpin)).trans hrow)
  rw [List.getElem?_eq_getElem hi, Option.some.injEq] at h3
  split at h3
  · exact climbRow_euler_fixed_is_critical p hp dot hadd hsmul hneg hdot0 h hh _ τ
      (hunit τ (List.mem_of_getElem? hτ)) h3.symm
  · exact (stepRow_euler_fixed_iff p hp h hh _).mp h3.symm

/-- conversely, for both integrators. -/
theorem stringStep_critical_pinned_fixed (p : Path V K)
    (hp : p.integratorfxn = (fun r x h => euler r x h) ∨ p.integratorfxn = (fun r x h => rungekutta r x h))
    (hdot0 : ∀ c, dot 0 c = 0)
    (respace : List Nat → List V → List V) (h : K) (climb : List Nat) (hc : 2 ≤ p.coord.length)
    (hkeep : ∀ (rows : List V), rows.length = p.coord.length → ∀ (i : Nat), (i = 0 ∨ i + 1 = rows.length ∨ i ∈ climb) →
      (respace climb rows)[i]? = rows[i]?)
    (i : Nat) (hi : i < p.coord.length) (hpin : i = 0 ∨ i + 1 = p.coord.length ∨ i ∈ climb)
    (hcrit : p.gradPoint p.coord[i] = 0) :
    (p.stringStep dot sqrt respace h climb).coord[i]? = some p.coord[i] := by
  have hlen := icoord_length dot sqrt p h climb hc
  obtain ⟨τ, _, hrow⟩ := icoord_getElem? dot sqrt p h climb hc i hi
  refine ((hkeep _ hlen i (by rw [hlen]; exact hpin)).trans hrow).trans (congrArg some ?_)
  split
  · exact climbRow_fixed_of_critical dot p hp hdot0 h _ τ hcrit
  · exact stepRow_fixed_of_critical p hp h _ hcrit

end wholestep

section spline
variable {K V : Type} [Field K] [CharZero K] [LinearOrder K] [IsStrictOrderedRing K] [AddCommGroup V] [Module K V]
variable (dot : V → V → K) (sqrt : K → K)

/-- with an interpolant that returns the knots' values at the knots' arc coordinates (a spline interpolates), the
    re-spacing keeps the first, the last and the climbing images where the integrator put them: the hypothesis `hkeep`
    of the fixed-point theorems. -/
theorem splineRespace_keeps_pinned (interp : List K → List V → K → V) (climb : List Nat)
    (hsorted : List.Pairwise (· < ·) (0 :: climb)) (rows : List V) (hint : ∀ c ∈ climb, c + 1 < rows.length) (hne : rows ≠ [])
    (hknot : ∀ i (hi : i < rows.length) (a : K), (Path.arccoordOf dot sqrt rows)[i]? = some a →
      interp (Path.arccoordOf dot sqrt rows) rows a = rows[i])
    (i : Nat) (hp : i = 0 ∨ i + 1 = rows.length ∨ i ∈ climb) :
    (Path.splineRespace dot sqrt interp climb rows)[i]? = rows[i]? := by
  have hlen := arccoord_length dot sqrt rows hne
  have hlt : i < rows.length := by
    rcases hp with rfl | h | h
    · exact List.length_pos_iff.mpr hne
    · exact h ▸ Nat.lt_succ_self i
    · exact Nat.lt_of_succ_lt (hint i h)
  have hα : (Path.arccoordOf dot sqrt rows)[i]? = some ((Path.arccoordOf dot sqrt rows)[i]'(by rw [hlen]; exact hlt)) :=
    List.getElem?_eq_getElem _
  have hpin := respaceTargets_pinned climb (Path.arccoordOf dot sqrt rows)
    (List.ne_nil_of_length_pos (by rw [hlen]; exact Nat.zero_lt_of_lt hlt)) hsorted
    (by rw [hlen]; exact hint) i (by rw [hlen]; exact hp.imp_right Or.symm)
  rw [Path.splineRespace, List.getElem?_map, hpin, hα, Option.map_some, hknot i hlt _ hα, List.getElem?_eq_getElem hlt]

/-- the fixed-point theorem with the re-spacing of the code spelled out (`splineRespace`: targets `respaceTargets`,
    an interpolant that returns its knots): a step (Euler) that returns its string has its ends and climbing images at
    critical points.  The only thing assumed about scipy's spline is that it interpolates its knots. -/
theorem stringStep_spline_fixed_pinned_critical (p : Path V K) (hp : p.integratorfxn = fun r x h => euler r x h)
    (hadd : ∀ a b c, dot (a + b) c = dot a c + dot b c) (hsmul : ∀ (k : K) a c, dot (k • a) c = k * dot a c)
    (hneg : ∀ a c, dot (-a) c = - dot a c) (hdot0 : ∀ c, dot 0 c = 0)
    (interp : List K → List V → K → V) (h : K) (hh : h ≠ 0) (climb : List Nat)
    (hsorted : List.Pairwise (· < ·) (0 :: climb)) (hint : ∀ c ∈ climb, c + 1 < p.coord.length)
    (hc : 2 ≤ p.coord.length)
    (hknot : ∀ (rows : List V) i (hi : i < rows.length) (a : K), (Path.arccoordOf dot sqrt rows)[i]? = some a →
      interp (Path.arccoordOf dot sqrt rows) rows a = rows[i])
    (hunit : ∀ τ ∈ p.unitTangent dot sqrt, dot τ τ = 1)
    (hfix : (p.stringStep dot sqrt (Path.splineRespace dot sqrt interp) h climb).coord = p.coord)
    (i : Nat) (hi : i < p.coord.length) (hpin : i = 0 ∨ i + 1 = p.coord.length ∨ i ∈ climb) :
    p.gradPoint p.coord[i] = 0 := by
  exact stringStep_fixed_pinned_critical dot sqrt p hp hadd hsmul hneg hdot0 (Path.splineRespace dot sqrt interp) h hh climb hc
    (fun rows hlen j hj => splineRespace_keeps_pinned dot sqrt interp climb hsorted rows (by rw [hlen]; exact hint)
      (List.ne_nil_of_length_pos (by rw [hlen]; exact Nat.zero_lt_of_lt hc)) (hknot rows) j hj) hunit hfix i hi hpin

end spline

section examples
-- a re-spacing that keeps the pinned rows exists (the identity; the spline keeps its knots)
example (climb : List Nat) (n : Nat) : ∀ (rows : List ℚ), rows.length = n → ∀ (i : Nat), (i = 0 ∨ i + 1 = rows.length ∨ i ∈ climb) →
    ((fun (_ : List Nat) (r : List ℚ) => r) climb rows)[i]? = rows[i]? := fun _ _ _ _ => rfl
-- targets of a 5-image string with arc coordinates 0, 1, 3, 4, 8: no climbing image / image 2 climbing
example : Path.respaceTargets [] [0, 1, 3, 4, (8 : ℚ)] = [0, 2, 4, 6, 8] := by decide +kernel
example : Path.respaceTargets [2] [0, 1, 3, 4, (8 : ℚ)] = [0, 3/2, 3, 11/2, 8] := by decide +kernel
end examples

/-! `Path.relax` is the definition that `genRelax` of `Generated/PathSource.lean` — regenerated from `ISMPath.relax` — is
    proved equal to (`gen_relax_eq_model`) -/

section relaxwhole
variable {K V : Type} [Field K] [CharZero K] [LinearOrder K] [IsStrictOrderedRing K] [AddCommGroup V] [Module K V]
variable (dot : V → V → K) (sqrt : K → K)

set_option linter.unusedSectionVars false in
theorem relax_default_options (p : Path V K) (respace : List Nat → List V → List V) (a : RelaxArgs K) :
    p.relax dot sqrt respace { a with timestep := none, tolerance := none }
      = p.relax dot sqrt respace { a with timestep := some (Path.defaultTimestep p.coord.length),
                                          tolerance := some (Path.defaultTolerance p.coord.length) } := rfl

set_option linter.unusedSectionVars false in
theorem relax_zero_steps (p : Path V K) (respace : List Nat → List V → List V) (a : RelaxArgs K)
    (h1 : a.relaxsteps = 0) (h2 : a.climbsteps = 0) : (p.relax dot sqrt respace a).path = p := by
  simp only [Path.relax, h1, h2, relaxLoop]

set_option linter.unusedSectionVars false in
theorem relax_steps_le (p : Path V K) (respace : List Nat → List V → List V) (a : RelaxArgs K) :
    (p.relax dot sqrt respace a).relaxMeasures.length ≤ a.relaxsteps ∧
    (p.relax dot sqrt respace a).climbMeasures.length ≤ a.climbsteps ∧
    (p.relax dot sqrt respace a).climb.length ≤ a.climbpoints :=
  ⟨relaxLoop_measures_length_le _ _ _ _ _, relaxLoop_measures_length_le _ _ _ _ _, climbIndices_length_le _ _⟩

set_option linter.unusedSectionVars false in
/-- **the climbing phase runs whenever it is requested**, about `relax` itself
    (`climb_runs_when_requested` is about `relaxCounts` over free lists of measures, which `relax` does not call): with
    `climbsteps > 0` at least one climbing step is made whatever the relaxation phase did — converged, exhausted, or
    `relaxsteps = 0` — and likewise the relaxation phase makes at least one step when `relaxsteps > 0`. -/
theorem relax_climb_runs_when_requested (p : Path V K) (respace : List Nat → List V → List V) (a : RelaxArgs K) :
    (0 < a.climbsteps → 1 ≤ (p.relax dot sqrt respace a).climbMeasures.length) ∧
    (0 < a.relaxsteps → 1 ≤ (p.relax dot sqrt respace a).relaxMeasures.length) :=
  ⟨fun h => relaxLoop_runs_once _ _ _ _ h _, fun h => relaxLoop_runs_once _ _ _ _ h _⟩

omit [CharZero K] [IsStrictOrderedRing K] in
/-- whatever every step preserves holds for the string `relax` returns.  The climbing images handed to a step are
    increasing interior images of some string `q₀` reached before (the one from whose energies they were chosen). -/
theorem relax_invariant (p : Path V K) (respace : List Nat → List V → List V) (a : RelaxArgs K) (I : Path V K → Prop)
    (hstep : ∀ (h : K) (climb : List Nat) (q₀ q : Path V K), I q₀ → I q → List.Pairwise (· < ·) (0 :: climb) →
      (∀ c ∈ climb, c + 1 < q₀.coord.length) → I (q.stringStep dot sqrt respace h climb))
    (hp : I p) : I (p.relax dot sqrt respace a).path := by
  refine relaxLoop_invariant₂ I _ _ _ _ _ _ _ _ p
    (fun q hq => hstep _ [] q q hq hq (List.pairwise_singleton _ _) (fun _ h => nomatch h)) hp ?_
  intro h1 q hq
  refine hstep _ _ _ q h1 hq (climbIndices_sorted_interior _ _).1 fun c hc => ?_
  have := (climbIndices_sorted_interior _ _).2 c hc
  rwa [Path.energy, Path.energyAt, List.length_map] at this

set_option linter.unusedSectionVars false in
/-- `relax` returns the caller's path with other coordinates: energy function, gradient function, settings and
    integrator are untouched, for every re-spacing and all options. -/
theorem relax_fields (p : Path V K) (respace : List Nat → List V → List V) (a : RelaxArgs K) :
    ∃ c, (p.relax dot sqrt respace a).path = p.withCoord c := by
  refine relax_invariant dot sqrt p respace a (fun q => ∃ c, q = p.withCoord c) ?_ ⟨p.coord, rfl⟩
  rintro h climb q₀ q - ⟨c, rfl⟩ - -
  exact ⟨_, rfl⟩

theorem stringStep_spline_length (p : Path V K) (interp : List K → List V → K → V) (h : K) (climb : List Nat)
    (hsorted : List.Pairwise (· < ·) (0 :: climb)) (hint : ∀ c ∈ climb, c + 1 < p.coord.length)
    (hc : 2 ≤ p.coord.length) :
    (p.stringStep dot sqrt (Path.splineRespace dot sqrt interp) h climb).coord.length = p.coord.length := by
  have hlen := icoord_length dot sqrt p h climb hc
  have hα := arccoord_length dot sqrt (p.icoord dot sqrt h climb)
    (List.ne_nil_of_length_pos (by rw [hlen]; exact Nat.zero_lt_of_lt hc))
  rw [Path.stringStep, Path.withCoord, Path.splineRespace, List.length_map,
    respaceTargets_length climb _ (List.ne_nil_of_length_pos (by rw [hα, hlen]; exact Nat.zero_lt_of_lt hc)) hsorted
      (by rw [hα, hlen]; exact hint), hα, hlen]

theorem stringStep_spline_keeps_critical_row (q : Path V K)
    (hq : q.integratorfxn = (fun r x h => euler r x h) ∨ q.integratorfxn = (fun r x h => rungekutta r x h))
    (hdot0 : ∀ c, dot 0 c = 0) (interp : List K → List V → K → V)
    (hknot : ∀ (rows : List V) i (hi : i < rows.length) (a : K), (Path.arccoordOf dot sqrt rows)[i]? = some a →
      interp (Path.arccoordOf dot sqrt rows) rows a = rows[i])
    (h : K) (climb : List Nat) (hsorted : List.Pairwise (· < ·) (0 :: climb))
    (hint : ∀ c ∈ climb, c + 1 < q.coord.length) (hc : 2 ≤ q.coord.length)
    (i : Nat) (hpin : i = 0 ∨ i + 1 = q.coord.length ∨ i ∈ climb) (x : V) (hx : q.coord[i]? = some x)
    (hcrit : q.gradPoint x = 0) :
    (q.stringStep dot sqrt (Path.splineRespace dot sqrt interp) h climb).coord[i]? = some x := by
  obtain ⟨hi, rfl⟩ := List.getElem?_eq_some_iff.mp hx
  exact stringStep_critical_pinned_fixed dot sqrt q hq hdot0 (Path.splineRespace dot sqrt interp) h climb hc
    (fun rows hlen j hj => splineRespace_keeps_pinned dot sqrt interp climb hsorted rows (by rw [hlen]; exact hint)
      (List.ne_nil_of_length_pos (by rw [hlen]; exact Nat.zero_lt_of_lt hc)) (hknot rows) j hj) i hi hpin hcrit

/-- **end to end, ends in the minima stay there**: for a string of any number ≥ 2 of images whose two end images sit at
    critical points of the energy, `relax` — any numbers of relaxation and climbing steps, any time step and tolerance
    (given or default), any `climbpoints`, Euler or Runge–Kutta, the climbing images it chooses itself — returns a string
    with the same number of images and the same two end images.  Only assumption on scipy's spline: it returns its
    knots. -/
theorem relax_spline_critical_ends_fixed (p : Path V K)
    (hp : p.integratorfxn = (fun r x h => euler r x h) ∨ p.integratorfxn = (fun r x h => rungekutta r x h))
    (hdot0 : ∀ c, dot 0 c = 0) (interp : List K → List V → K → V)
    (hknot : ∀ (rows : List V) i (hi : i < rows.length) (a : K), (Path.arccoordOf dot sqrt rows)[i]? = some a →
      interp (Path.arccoordOf dot sqrt rows) rows a = rows[i])
    (a : RelaxArgs K) (hc : 2 ≤ p.coord.length) (x0 xl : V)
    (h0 : p.coord[0]? = some x0) (hl : p.coord[p.coord.length - 1]? = some xl)
    (hcrit0 : p.gradPoint x0 = 0) (hcritl : p.gradPoint xl = 0) :
    (p.relax dot sqrt (Path.splineRespace dot sqrt interp) a).path.coord.length = p.coord.length ∧
    (p.relax dot sqrt (Path.splineRespace dot sqrt interp) a).path.coord[0]? = some x0 ∧
    (p.relax dot sqrt (Path.splineRespace dot sqrt interp) a).path.coord[p.coord.length - 1]? = some xl := by
  refine (relax_invariant dot sqrt p _ a
    (fun q => (∃ c, q = p.withCoord c) ∧ q.coord.length = p.coord.length ∧
      q.coord[0]? = some x0 ∧ q.coord[p.coord.length - 1]? = some xl)
    ?_ ⟨⟨p.coord, rfl⟩, rfl, h0, hl⟩).2
  rintro h climb q₀ _ ⟨-, hlen₀, -⟩ ⟨⟨c, rfl⟩, hlen, hq0, hql⟩ hsorted hint
  rw [hlen₀, ← hlen] at hint
  have hc' : 2 ≤ (p.withCoord c).coord.length := hlen ▸ hc
  refine ⟨⟨_, rfl⟩, ?_, ?_, ?_⟩
  · rw [stringStep_spline_length dot sqrt _ interp h climb hsorted hint hc', hlen]
  · exact stringStep_spline_keeps_critical_row dot sqrt (p.withCoord c) hp hdot0 interp hknot h climb hsorted hint hc' 0
      (Or.inl rfl) x0 hq0 hcrit0
  · exact stringStep_spline_keeps_critical_row dot sqrt (p.withCoord c) hp hdot0 interp hknot h climb hsorted hint hc'
      (p.coord.length - 1) (Or.inr (Or.inl ((Nat.sub_add_cancel (Nat.zero_lt_of_lt hc)).trans hlen.symm))) xl hql hcritl

end relaxwhole

section relaxexamples
/-! non-vacuity of the statements about `relax`: a three-image string over `ℚ` on the double well `(x²−1)²`, ends in the minima -/
def exWell : Path ℚ ℚ :=
  ⟨[-1, 1/2, 1], fun x => (x * x - 1) * (x * x - 1), fun _ x _ => 4 * x * (x * x - 1), none, fun r x h => euler r x h⟩
-- hypotheses of `relax_spline_critical_ends_fixed` on this string
example : exWell.integratorfxn = (fun r x h => euler r x h) ∨ exWell.integratorfxn = (fun r x h => rungekutta r x h) := Or.inl rfl
example : exWell.coord[0]? = some (-1 : ℚ) ∧ exWell.coord[exWell.coord.length - 1]? = some 1 := ⟨rfl, rfl⟩
example : exWell.gradPoint (-1) = 0 ∧ exWell.gradPoint 1 = 0 := by constructor <;> norm_num [Path.gradPoint, exWell]
-- a whole `relax` run (identity re-spacing, `sqrt` replaced by the identity): two relaxation steps, one climbing step;
-- the middle image is the one that climbs, the ends stay in the minima
example : (exWell.relax (fun a b => a * b) (fun x => x) (fun _ r => r)
    { relaxsteps := 2, climbsteps := 1, timestep := some (1/8), tolerance := some 0 }).climb = [1] := by decide +kernel
example : ((exWell.relax (fun a b => a * b) (fun x => x) (fun _ r => r)
    { relaxsteps := 2, climbsteps := 1, timestep := some (1/8), tolerance := some 0 }).path.coord[0]?,
    (exWell.relax (fun a b => a * b) (fun x => x) (fun _ r => r)
    { relaxsteps := 2, climbsteps := 1, timestep := some (1/8), tolerance := some 0 }).path.coord[2]?) = (some (-1 : ℚ), some (1 : ℚ)) := by
  decide +kernel
end relaxexamples

/-- hypothesis `hknot` of `splineRespace_keeps_pinned` (the interpolant returns its knots) is met by an interpolant that is a
    table at the knots (and the identity elsewhere, rows = arc coordinates) on a concrete string, and the pinned rows are kept while the free row moves. -/
example : Path.splineRespace (fun a b : ℚ => a * b) (fun x : ℚ => if x = 1 then 1 else if x = 9 then 3 else 0)
    (fun _ rows a => if a = 0 then rows.getD 0 0 else if a = 1 then rows.getD 1 0 else if a = 4 then rows.getD 2 0 else a)
    [] [0, 1, (4 : ℚ)] = [0, 2, 4] := by
  decide +kernel

end Atomman.C20
