/-
  C16 — integer facts: the in-plane vectors `plane_cryst_2_cart` picks, `reduce_indices`, `all_indices`, and the
  ordering `np.unique(axis=0)` leaves the reduced rows in.
-/
import Atomman.C16
import Proofs.Lists
import Mathlib.Tactic.Ring
import Mathlib.Tactic.LinearCombination
import Mathlib.Algebra.Group.Int.Units

namespace Atomman.C16

/-- evaluates `planeInPlane` in the branch whose zero pattern (`h = 0`, `¬k = 0`, …) is in the context. -/
macro "pip" : tactic => `(tactic| (simp only [planeInPlane, ne_eq, *, not_true_eq_false, not_false_eq_true, if_true, if_false, ite_true, ite_false] <;> rfl))

theorem natAbs_cast_pos {z : ℤ} (hz : z ≠ 0) : (0 : ℤ) < z.natAbs := by omega

/-- the truncating division `m / x` of the code loses nothing when `x` divides `m`. Stated with a named quotient `p` so that
    callers can `obtain` it, rewrite the model's `Int.tdiv …` to `p` and finish with `linear_combination` over `x * p = m`. -/
theorem tdiv_of_dvd {x m : ℤ} (h : x ∣ m) : ∃ p, m.tdiv x = p ∧ x * p = m :=
  ⟨_, rfl, Int.mul_tdiv_cancel_of_dvd h⟩

/-- the two identities are `x·y·(m/y) = m·x` and `x·y·(m/x) = m·y` for `m = lcm x y`, with `|xy|·sign(xy) = xy`. -/
theorem lcm_pair (x y : ℤ) (hx : x ≠ 0) (hy : y ≠ 0) :
    ∃ p q : ℤ, Int.tdiv (Int.lcm x y : ℕ) x = p ∧ Int.tdiv (Int.lcm x y : ℕ) y = q ∧
      (0 : ℤ) < (Int.lcm x y : ℕ) ∧ (0 : ℤ) < (x * y).natAbs ∧
      (x * y).natAbs * ((x * y).sign * q) = (Int.lcm x y : ℕ) * x ∧
      (x * y).natAbs * ((x * y).sign * p) = (Int.lcm x y : ℕ) * y := by
  obtain ⟨p, ep, h1⟩ := tdiv_of_dvd (Int.dvd_lcm_left x y)
  obtain ⟨q, eq, h2⟩ := tdiv_of_dvd (Int.dvd_lcm_right x y)
  have hs := Int.sign_mul_natAbs (x * y)
  refine ⟨p, q, ep, eq, by exact_mod_cast Int.lcm_pos hx hy, natAbs_cast_pos (mul_ne_zero hx hy), ?_, ?_⟩
  · linear_combination q * hs + x * h2
  · linear_combination p * hs + y * h1

/-- the in-plane pair `plane_cryst_2_cart` picks, in each of its seven branches: `s·(a ×ᵢ b)` is a positive rational
    multiple `num/den` of `(h,k,l)`. -/
theorem idx_cross_parallel (h k l : ℤ) (hne : ¬(h = 0 ∧ k = 0 ∧ l = 0)) :
    ∃ a b s, planeInPlane h k l = .ok (a, b, s) ∧
      ∃ num den : ℤ, 0 < num ∧ 0 < den ∧
        V3.smul den (V3.smul s (V3.cross a b)) = V3.smul num ⟨h, k, l⟩ := by
  by_cases hh : h = 0 <;> by_cases hk : k = 0 <;> by_cases hl : l = 0
  · exact absurd ⟨hh, hk, hl⟩ hne
  · subst hh hk
    refine ⟨_, _, _, by pip, 1, l.natAbs, one_pos, natAbs_cast_pos hl, ?_⟩
    simp only [V3.smul, V3.cross, V3.mk.injEq]
    exact ⟨by ring, by ring, by linear_combination Int.sign_mul_natAbs l⟩
  · subst hh hl
    refine ⟨_, _, _, by pip, 1, k.natAbs, one_pos, natAbs_cast_pos hk, ?_⟩
    simp only [V3.smul, V3.cross, V3.mk.injEq]
    exact ⟨by ring, by linear_combination Int.sign_mul_natAbs k, by ring⟩
  · subst hh
    obtain ⟨q, r, eq, er, hm, hn, e1, e2⟩ := lcm_pair k l hk hl
    refine ⟨_, _, _, by pip, _, _, hm, hn, ?_⟩
    simp only [V3.smul, V3.cross, V3.mk.injEq, Int.neg_tdiv, eq]
    exact ⟨by ring, by linear_combination e1, by linear_combination e2⟩
  · subst hk hl
    refine ⟨_, _, _, by pip, 1, h.natAbs, one_pos, natAbs_cast_pos hh, ?_⟩
    simp only [V3.smul, V3.cross, V3.mk.injEq]
    exact ⟨by linear_combination Int.sign_mul_natAbs h, by ring, by ring⟩
  · subst hk
    obtain ⟨p, r, ep, er, hm, hn, e1, e2⟩ := lcm_pair h l hh hl
    refine ⟨_, _, _, by pip, _, _, hm, hn, ?_⟩
    simp only [V3.smul, V3.cross, V3.mk.injEq, Int.neg_tdiv, er]
    exact ⟨by linear_combination e1, by ring, by linear_combination e2⟩
  · subst hl
    obtain ⟨p, q, ep, eq, hm, hn, e1, e2⟩ := lcm_pair h k hh hk
    refine ⟨_, _, _, by pip, _, _, hm, hn, ?_⟩
    simp only [V3.smul, V3.cross, V3.mk.injEq, Int.neg_tdiv, ep]
    exact ⟨by linear_combination e1, by linear_combination e2, by ring⟩
  · -- `m = lcm(lcm h k, l)`, `(p, q, r) = m / (h, k, l)`: `|hkl| · sign(hkl) · (qr, pr, pq) = m² · (h, k, l)`
    have hhk : ((Int.lcm h k : ℕ) : ℤ) ≠ 0 := by exact_mod_cast Int.lcm_ne_zero hh hk
    have hm : (0 : ℤ) < (Int.lcm ((Int.lcm h k : ℕ) : ℤ) l : ℕ) := by exact_mod_cast Int.lcm_pos hhk hl
    obtain ⟨p, ep, h1⟩ := tdiv_of_dvd ((Int.dvd_lcm_left h k).trans (Int.dvd_lcm_left ((Int.lcm h k : ℕ) : ℤ) l))
    obtain ⟨q, eq, h2⟩ := tdiv_of_dvd ((Int.dvd_lcm_right h k).trans (Int.dvd_lcm_left ((Int.lcm h k : ℕ) : ℤ) l))
    obtain ⟨r, er, h3⟩ := tdiv_of_dvd (Int.dvd_lcm_right ((Int.lcm h k : ℕ) : ℤ) l)
    have hs := Int.sign_mul_natAbs (h * k * l)
    refine ⟨_, _, _, by pip, _, (h * k * l).natAbs, mul_pos hm hm,
      natAbs_cast_pos (mul_ne_zero (mul_ne_zero hh hk) hl), ?_⟩
    simp only [V3.smul, V3.cross, V3.mk.injEq, Int.neg_tdiv, ep]
    generalize ((Int.lcm ((Int.lcm h k : ℕ) : ℤ) l : ℕ) : ℤ) = m at *
    refine ⟨?_, ?_, ?_⟩
    · linear_combination q * r * hs + h * l * r * h2 + h * m * h3
    · linear_combination p * r * hs + k * l * r * h1 + k * m * h3
    · linear_combination p * q * hs + l * k * q * h1 + l * m * h2

/-- zero index vector: the code raises ValueError. -/
theorem planeInPlane_zero : planeInPlane 0 0 0 = .error .value := by decide

/-- the two in-plane vectors the routine picks LIE in the plane: each satisfies the zone law `h u + k v + l w = 0`
    exactly — the integer divisions `m / h` lose nothing (an implementation that computes them as `m * (1/h)` in floating
    point and truncates does: `49 * (1/49) < 1`). -/
theorem inplane_zone (h k l : ℤ) (a b : V3 ℤ) (s : ℤ) (hp : planeInPlane h k l = .ok (a, b, s)) :
    h * a.x + k * a.y + l * a.z = 0 ∧ h * b.x + k * b.y + l * b.z = 0 := by
  have hne : ¬(h = 0 ∧ k = 0 ∧ l = 0) := by
    rintro ⟨rfl, rfl, rfl⟩; rw [planeInPlane_zero] at hp; cases hp
  obtain ⟨a', b', s', heq, num, den, hn, hd, hvec⟩ := idx_cross_parallel h k l hne
  rw [hp] at heq; cases heq
  -- `den s (a × b) = num (h,k,l)`, and `a × b` is perpendicular to `a` and to `b`
  simp only [V3.smul, V3.cross, V3.mk.injEq] at hvec
  obtain ⟨hx, hy, hz⟩ := hvec
  have ha : num * (h * a.x + k * a.y + l * a.z) = 0 := by
    linear_combination (-a.x) * hx + (-a.y) * hy + (-a.z) * hz
  have hb : num * (h * b.x + k * b.y + l * b.z) = 0 := by
    linear_combination (-b.x) * hx + (-b.y) * hy + (-b.z) * hz
  exact ⟨(mul_eq_zero.mp ha).resolve_left hn.ne', (mul_eq_zero.mp hb).resolve_left hn.ne'⟩

/-- non-vacuity, at the indices where `k * (1/k) ≠ 1` in double arithmetic. -/
example : planeInPlane 49 7 14 = .ok (⟨-2, 14, 0⟩, ⟨-2, 0, 7⟩, 1) := by decide
example : planeInPlane 49 1 1 = .ok (⟨-1, 49, 0⟩, ⟨-1, 0, 49⟩, 1) := by decide
example : planeInPlane 98 1 3 = .ok (⟨-3, 294, 0⟩, ⟨-3, 0, 98⟩, 1) := by decide
example : planeInPlane (-103) 0 2 = .ok (⟨-2, 0, -103⟩, ⟨0, 1, 0⟩, -1) := by decide

/-- index sets an `int32` array holds whose product / in-plane quotients it does not hold: the model works in ℤ. -/
example : planeInPlane 2048 2048 1024 = .ok (⟨-1, 1, 0⟩, ⟨-1, 0, 2⟩, 1) := by decide
example : planeInPlane 65537 65539 65543 = .ok (⟨-(65539 * 65543), 65537 * 65543, 0⟩, ⟨-(65539 * 65543), 0, 65537 * 65539⟩, 1) := by decide
example : (2 : ℤ) ^ 31 ≤ 65539 * 65543 ∧ (2048 * 2048 * 1024 : ℤ) = 2 ^ 32 := by decide

/-- the folding step of `gcdList`, named so that `dvd_foldl_gstep` can generalise the accumulator. -/
def gstep (g : ℕ) (x : ℤ) : ℕ := Int.gcd (g : ℤ) x

theorem gcdList_eq (l : List ℤ) : gcdList l = l.foldl gstep 0 := rfl

theorem dvd_foldl_gstep (d : ℤ) (l : List ℤ) : ∀ acc : ℕ,
    d ∣ ((l.foldl gstep acc : ℕ) : ℤ) ↔ d ∣ (acc : ℤ) ∧ ∀ x ∈ l, d ∣ x := by
  induction l with
  | nil => intro acc; simp
  | cons y ys ih => intro acc; rw [List.foldl_cons, ih, gstep, Int.dvd_coe_gcd_iff, and_assoc, List.forall_mem_cons]

/-- `gcdList` (`np.gcd.reduce`) is the greatest common divisor. -/
theorem gcdList_spec (l : List ℤ) (d : ℤ) : (∀ x ∈ l, d ∣ x) ↔ d ∣ (gcdList l : ℤ) := by
  rw [gcdList_eq, dvd_foldl_gstep, Nat.cast_zero, and_iff_right (dvd_zero d)]

theorem gcdList_dvd {l : List ℤ} {x : ℤ} (hx : x ∈ l) : ((gcdList l : ℕ) : ℤ) ∣ x :=
  (gcdList_spec l _).mpr dvd_rfl x hx

theorem gcdList_pos (l : List ℤ) (hnz : ∃ x ∈ l, x ≠ 0) : 0 < gcdList l := by
  obtain ⟨x, hx, hx0⟩ := hnz
  refine Nat.pos_of_ne_zero fun h => hx0 ?_
  have := gcdList_dvd hx
  rwa [h, Nat.cast_zero, zero_dvd_iff] at this

theorem reduceIndices_eq (l : List ℤ) (hlen : l.length = 3 ∨ l.length = 4) :
    reduceIndices l = .ok (l.map (fun x => Int.fdiv x ((gcdList l : ℕ) : ℤ))) := by
  simp only [reduceIndices, hlen, if_true]

theorem mul_fdiv_gcdList {l : List ℤ} {x : ℤ} (hx : x ∈ l) :
    ((gcdList l : ℕ) : ℤ) * Int.fdiv x ((gcdList l : ℕ) : ℤ) = x := by
  rw [Int.fdiv_eq_ediv_of_dvd (gcdList_dvd hx), Int.mul_ediv_cancel' (gcdList_dvd hx)]

/-- the input is a positive integer multiple (the gcd) of the reduced indices: same direction. -/
theorem reduce_same_direction (l : List ℤ) (hlen : l.length = 3 ∨ l.length = 4) (hnz : ∃ x ∈ l, x ≠ 0) :
    ∃ (r : List ℤ) (g : ℕ), reduceIndices l = .ok r ∧ 0 < g ∧ l = r.map (fun x => (g : ℤ) * x) := by
  refine ⟨_, gcdList l, reduceIndices_eq l hlen, gcdList_pos l hnz, ?_⟩
  rw [List.map_map]
  conv_lhs => rw [← List.map_id l]
  exact List.map_congr_left fun x hx => (mul_fdiv_gcdList hx).symm

/-- the reduced indices are coprime: their gcd is 1, i.e. the only common divisors are ±1. -/
theorem reduce_coprime (l : List ℤ) (hlen : l.length = 3 ∨ l.length = 4) (hnz : ∃ x ∈ l, x ≠ 0) :
    ∃ r : List ℤ, reduceIndices l = .ok r ∧ gcdList r = 1 ∧
      ∀ d : ℤ, (∀ x ∈ r, d ∣ x) → d = 1 ∨ d = -1 := by
  have hg : ((gcdList l : ℕ) : ℤ) ≠ 0 := by exact_mod_cast (gcdList_pos l hnz).ne'
  -- `g · gcd r` divides every entry `g · rᵢ` of `l`, hence `g = gcd l`: so `gcd r ∣ 1`
  have h1 : ((gcdList (l.map fun x => Int.fdiv x ((gcdList l : ℕ) : ℤ)) : ℕ) : ℤ) ∣ 1 := by
    refine (mul_dvd_mul_iff_left hg).mp ?_
    rw [mul_one]
    refine (gcdList_spec l _).mp fun x hx => ?_
    have H := mul_dvd_mul_left ((gcdList l : ℕ) : ℤ)
      (gcdList_dvd (List.mem_map_of_mem (f := fun x => Int.fdiv x ((gcdList l : ℕ) : ℤ)) hx))
    rwa [mul_fdiv_gcdList hx] at H
  exact ⟨_, reduceIndices_eq l hlen, Nat.dvd_one.mp (by exact_mod_cast h1), fun d hd =>
    Int.isUnit_iff.mp (isUnit_of_dvd_one (((gcdList_spec _ d).mp hd).trans h1))⟩

/-- excluded case made explicit: the zero vector is returned unchanged (gcd 0, floor division by 0). -/
theorem reduce_zero : reduceIndices [0, 0, 0] = .ok [0, 0, 0] ∧ reduceIndices [0, 0, 0, 0] = .ok [0, 0, 0, 0] := by
  constructor <;> decide

theorem mem_indexRange (m x : ℤ) : x ∈ indexRange m ↔ -m ≤ x ∧ x ≤ m := by
  rw [indexRange, mem_intRange]; omega

theorem isInsert : IsInsert insertUniq (fun a b => lexLt a b = true) (· = ·) := ⟨fun _ => rfl, fun _ _ _ => rfl⟩

theorem mem_insertUniq (x a : List ℤ) (l : List (List ℤ)) : a ∈ insertUniq x l ↔ a = x ∨ a ∈ l :=
  isInsert.mem (hd := fun _ _ _ h => h) x a l

/-- the `foldl` of `np.unique` as the `foldr` over the reversed list, the form the insertion lemmas are stated for. -/
theorem sortUniq_eq_foldr (l : List (List ℤ)) : sortUniq l = l.reverse.foldr insertUniq [] :=
  (List.foldr_reverse ..).symm

theorem mem_sortUniq (l : List (List ℤ)) (a : List ℤ) : a ∈ sortUniq l ↔ a ∈ l := by
  rw [sortUniq_eq_foldr, isInsert.mem_foldr (hd := fun _ _ _ h => h), List.mem_reverse]

/-- `all_indices(m)` lists exactly the non-zero integer triples with every entry in `[-m, m]`. -/
theorem allIndices_complete (m u v w : ℤ) :
    [u, v, w] ∈ allIndices m false ↔
      (-m ≤ u ∧ u ≤ m) ∧ (-m ≤ v ∧ v ≤ m) ∧ (-m ≤ w ∧ w ≤ m) ∧ ¬(u = 0 ∧ v = 0 ∧ w = 0) := by
  simp only [allIndices, Bool.false_eq_true, if_false, List.mem_filter, List.mem_flatMap, List.mem_map,
    mem_indexRange]
  constructor
  · rintro ⟨⟨v', hv, u', hu, w', hw, he⟩, hz⟩
    simp only [List.cons.injEq, and_true] at he
    obtain ⟨rfl, rfl, rfl⟩ := he
    refine ⟨hu, hv, hw, ?_⟩
    rintro ⟨rfl, rfl, rfl⟩
    simp at hz
  · rintro ⟨hu, hv, hw, hz⟩
    refine ⟨⟨v, hv, u, hu, w, hw, rfl⟩, ?_⟩
    simp only [List.foldl_cons, List.foldl_nil, ne_eq]
    apply decide_eq_true
    omega

/-- every member of `all_indices(m)` is such a triple (nothing else is listed). -/
theorem allIndices_sound (m : ℤ) (t : List ℤ) (ht : t ∈ allIndices m false) :
    ∃ u v w, t = [u, v, w] := by
  simp only [allIndices, Bool.false_eq_true, if_false, List.mem_filter, List.mem_flatMap, List.mem_map] at ht
  obtain ⟨⟨v, _, u, _, w, _, rfl⟩, _⟩ := ht
  exact ⟨u, v, w, rfl⟩

/-- with `reduce=True` the list consists exactly of the reductions of those triples. -/
theorem allIndices_reduce_complete (m : ℤ) (t : List ℤ) :
    t ∈ allIndices m true ↔ ∃ t' ∈ allIndices m false, reduceIndices t' = .ok t := by
  simp only [allIndices, if_true, mem_sortUniq, List.mem_map, Bool.false_eq_true, if_false]
  constructor
  · rintro ⟨t', ht', rfl⟩
    refine ⟨t', ht', ?_⟩
    obtain ⟨u, v, w, rfl⟩ := allIndices_sound m t' (by simpa only [allIndices, Bool.false_eq_true, if_false] using ht')
    rw [reduceIndices_eq _ (by simp)]
  · rintro ⟨t', ht', hr⟩
    exact ⟨t', ht', by rw [hr]⟩

/-- `all_indices(m, reduce=True)` for EVERY bound `m`: each row listed is a coprime index set — its gcd is 1, the only common
    divisors are ±1. -/
theorem allIndices_reduce_coprime (m : ℤ) (t : List ℤ) (ht : t ∈ allIndices m true) :
    gcdList t = 1 ∧ ∀ d : ℤ, (∀ x ∈ t, d ∣ x) → d = 1 ∨ d = -1 := by
  obtain ⟨t', ht', hr⟩ := (allIndices_reduce_complete m t).mp ht
  obtain ⟨u, v, w, rfl⟩ := allIndices_sound m t' ht'
  have hnz := ((allIndices_complete m u v w).mp ht').2.2.2
  have hex : ∃ x ∈ [u, v, w], x ≠ 0 := by
    by_contra hcon
    simp only [not_exists, not_and, not_not] at hcon
    exact hnz ⟨hcon u (by simp), hcon v (by simp), hcon w (by simp)⟩
  obtain ⟨r, hr', hg, hd⟩ := reduce_coprime [u, v, w] (Or.inl rfl) hex
  rw [hr] at hr'; cases hr'
  exact ⟨hg, hd⟩

/-- non-vacuity: `[37, 0, 0]` has gcd 37 and is not listed. -/
example : [37, 0, 0] ∉ allIndices 37 true := by
  intro h
  have := (allIndices_reduce_coprime 37 _ h).1
  revert this
  decide

theorem lexLt_cons (x y : ℤ) (xs ys : List ℤ) :
    lexLt (x :: xs) (y :: ys) = true ↔ x < y ∨ (x = y ∧ lexLt xs ys = true) := by
  simp only [lexLt]
  split_ifs with h1 h2
  · simp [h1]
  · constructor
    · intro h; cases h
    · rintro (h | ⟨h, _⟩) <;> omega
  · have : x = y := by omega
    simp [this]

theorem lexLt_iff : ∀ a b : List ℤ, lexLt a b = true ↔ a < b
  | [], [] => by simp [lexLt]
  | [], _ :: _ => by simp [lexLt]
  | _ :: _, [] => by simp [lexLt]
  | x :: xs, y :: ys => by rw [lexLt_cons, List.cons_lt_cons_iff, lexLt_iff xs ys]

theorem lexLt_irrefl : ∀ a : List ℤ, lexLt a a = false :=
  fun a => Bool.eq_false_iff.mpr fun h => List.lt_irrefl a ((lexLt_iff a a).mp h)

theorem lexLt_trans : ∀ a b c : List ℤ, lexLt a b = true → lexLt b c = true → lexLt a c = true :=
  fun a b c h1 h2 => (lexLt_iff a c).mpr (List.lt_trans ((lexLt_iff a b).mp h1) ((lexLt_iff b c).mp h2))

theorem lexLt_total : ∀ a b : List ℤ, lexLt a b = false → a ≠ b → lexLt b a = true :=
  fun a b h hne => (lexLt_iff b a).mpr <| by
    by_contra hba
    refine hne (List.le_antisymm (List.not_lt.mp hba) (List.not_lt.mp fun hab => ?_))
    rw [(lexLt_iff a b).mpr hab] at h; cases h

theorem insertUniq_sorted (x : List ℤ) : ∀ l : List (List ℤ), l.Pairwise (fun a b => lexLt a b = true) →
    (insertUniq x l).Pairwise (fun a b => lexLt a b = true) :=
  isInsert.pairwise (hd := fun _ _ _ h => h) (hr := fun _ _ h => h)
    (hn := fun a b h1 h2 => lexLt_total a b (by simpa using h1) h2) (ht := lexLt_trans) x

/-- `np.unique(axis=0)` as modelled returns its rows in STRICTLY increasing lexicographic order: sorted, and nothing twice. -/
theorem sortUniq_sorted (l : List (List ℤ)) : (sortUniq l).Pairwise (fun a b => lexLt a b = true) := by
  rw [sortUniq_eq_foldr]
  exact isInsert.foldr_pairwise (hd := fun _ _ _ h => h) (hr := fun _ _ h => h)
    (hn := fun a b h1 h2 => lexLt_total a b (by simpa using h1) h2) (ht := lexLt_trans) _

theorem sortUniq_nodup (l : List (List ℤ)) : (sortUniq l).Nodup := by
  have := sortUniq_sorted l
  refine this.imp ?_
  intro a b hab e
  rw [e, lexLt_irrefl] at hab
  cases hab

/-- `all_indices(m, reduce=True)`: the rows come in strictly increasing lexicographic order, each direction once. -/
theorem allIndices_reduce_sorted (m : ℤ) :
    (allIndices m true).Pairwise (fun a b => lexLt a b = true) ∧ (allIndices m true).Nodup := by
  simp only [allIndices, if_true]
  exact ⟨sortUniq_sorted _, sortUniq_nodup _⟩

example : allIndices 1 true = [[-1, -1, -1], [-1, -1, 0], [-1, -1, 1], [-1, 0, -1], [-1, 0, 0], [-1, 0, 1], [-1, 1, -1], [-1, 1, 0],
    [-1, 1, 1], [0, -1, -1], [0, -1, 0], [0, -1, 1], [0, 0, -1], [0, 0, 1], [0, 1, -1], [0, 1, 0], [0, 1, 1], [1, -1, -1], [1, -1, 0],
    [1, -1, 1], [1, 0, -1], [1, 0, 0], [1, 0, 1], [1, 1, -1], [1, 1, 0], [1, 1, 1]] := by decide +kernel

end Atomman.C16
