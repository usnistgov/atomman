/-
  C16 — the end-to-end statements over the generated definitions, and direct instantiations (K = ℚ, every hypothesis
  discharged) of the theorems of the other `C16_*` modules.
-/
import Atomman.C16
import Proofs.C16_Vec
import Proofs.C16_Close
import Proofs.C16_Index
import Proofs.C16_Normal
import Proofs.C16_Convert
import Proofs.C16_Family
import Proofs.C16_String
import Proofs.C16_Object
import Proofs.C16_Memory
import Proofs.C16_Source

namespace Atomman.C16

/-! ## end to end over the GENERATED definitions (`Atomman/Generated/MillerSource.lean`, tied to the model in
    `Proofs/C16_Source.lean`) -/
section endtoend
variable {K : Type} [Field K] [LinearOrder K] [IsStrictOrderedRing K]

/-- END TO END, zone law, over the generated code: for every cell with `det V ≠ 0`, every plane `(hkl) ≠ 0` and every `[uvw]`
    (any field elements), the vector RETURNED by `plane_cryst_2_cart` (generated branch tree, generated cross product,
    generated final division by `np.linalg.norm`) is perpendicular to the vector RETURNED by `vector_crystal_to_cartesian`
    (generated `indices.dot(box.vects)`) exactly when `hu + kv + lw = 0`. -/
theorem gen_normal_perp_iff_zone (V : M3 K) (hdet : M3.det V ≠ 0) (h k l : ℤ) (hne : ¬(h = 0 ∧ k = 0 ∧ l = 0))
    (norm : V3 K → K) (p : V3 K) :
    ∃ n, Src.planeNormalUnnorm V h k l = .ok n ∧ (IsNormAt norm n →
      (V3.dot (Src.planeResult norm n) (Src.vectorResult p V) = 0 ↔ (h : K) * p.x + k * p.y + l * p.z = 0)) := by
  obtain ⟨n, hn1, hpos⟩ := normal_nonzero V hdet h k l hne
  refine ⟨n, by rw [gen_planeNormalUnnorm_eq_model]; exact hn1, fun hnorm => ?_⟩
  obtain ⟨n', hn', hiff⟩ := normal_perp_iff_zone V hdet h k l hne (norm n) (hnorm.pos hpos) p
  rw [hn1] at hn'; cases hn'
  rw [gen_planeResult_eq_model]; exact hiff

/-- END TO END, unit reciprocal direction, over the generated code: for a right-handed cell the returned vector has length 1
    and is a POSITIVE multiple of `h a* + k b* + l c*`. -/
theorem gen_normal_unit_along_reciprocal (V : M3 K) (hdet : 0 < M3.det V) (h k l : ℤ) (hne : ¬(h = 0 ∧ k = 0 ∧ l = 0))
    (norm : V3 K → K) :
    ∃ n, Src.planeNormalUnnorm V h k l = .ok n ∧ (IsNormAt norm n →
      V3.dot (Src.planeResult norm n) (Src.planeResult norm n) = 1 ∧
      ∃ c : K, 0 < c ∧ Src.planeResult norm n = V3.smul c (recipVector V h k l)) := by
  obtain ⟨n, hn1, hpos⟩ := normal_nonzero V hdet.ne' h k l hne
  obtain ⟨n', hn', hall⟩ := normal_unit_along_reciprocal V hdet h k l hne
  rw [hn1] at hn'; cases hn'
  refine ⟨n, by rw [gen_planeNormalUnnorm_eq_model]; exact hn1, fun hnorm => ?_⟩
  rw [gen_planeResult_eq_model]; exact hall (norm n) (hnorm.pos hpos) hnorm.2

/-- SCALE INVARIANCE, end to end over the generated code: the vector returned for `(hkl)` does not depend on the unit the
    lengths of the cell are written in: for every `t > 0`, every cell and index triple, the scaled cell is refused exactly when
    the cell is, and otherwise its un-normalised normal is `t²` times the cell's and the returned vectors are EQUAL. -/
theorem gen_normal_scale_invariant (t : K) (ht : 0 < t) (V : M3 K) (h k l : ℤ) (norm : V3 K → K) :
    Src.planeNormalUnnorm (scaleM t V) h k l = (Src.planeNormalUnnorm V h k l).map (V3.smul (t * t)) ∧
    ∀ n, Src.planeNormalUnnorm V h k l = .ok n → IsNormAt norm n → IsNormAt norm (V3.smul (t * t) n) →
      Src.planeResult norm (V3.smul (t * t) n) = Src.planeResult norm n := by
  refine ⟨by rw [gen_planeNormalUnnorm_eq_model, gen_planeNormalUnnorm_eq_model, normal_scale], ?_⟩
  intro n _ hn hsn
  have htt : t * t ≠ 0 := (mul_pos ht ht).ne'
  simp only [gen_planeResult_eq_model]
  rw [IsNormAt.smul (t * t) (mul_pos ht ht).le hn hsn]
  simp only [normalise, V3.smul, V3.mk.injEq]
  exact ⟨mul_div_mul_left _ _ htt, mul_div_mul_left _ _ htt, mul_div_mul_left _ _ htt⟩

set_option linter.unusedSectionVars false in
/-- Cartesian vectors scale along: `[uvw]` in the cell scaled by `t` is `t` times `[uvw]` in the cell. -/
theorem gen_vector_scale (t : K) (V : M3 K) (p : V3 K) :
    Src.vectorResult p (scaleM t V) = V3.smul t (Src.vectorResult p V) :=
  vecMul_scaleM t V p

/-- the 3 ↔ 4 round trips over the generated column formulas and guards. -/
theorem gen_plane34_roundtrip (atol : K) (hat : 0 ≤ atol) :
    (∀ p : V3 K, Src.plane4to3 atol (Src.plane3to4 p) = .ok p) ∧
    (∀ (q : V4 K) (p : V3 K), Src.plane4to3 atol q = .ok p → q.a + q.b + q.c = 0 → Src.plane3to4 p = q) :=
  plane34_roundtrip atol hat

theorem gen_vector34_roundtrip (atol : K) (hat : 0 ≤ atol) :
    (∀ p : V3 K, Src.vector4to3 atol (Src.vector3to4 p) = .ok p) ∧
    (∀ (q : V4 K) (p : V3 K), Src.vector4to3 atol q = .ok p → q.a + q.b + q.c = 0 → Src.vector3to4 p = q) :=
  vector34_roundtrip atol hat

set_option linter.unusedSectionVars false in
/-- the Box methods and the stand-alone functions of crystalsystem.py are the same functions of `(a, b, c, α, β, γ)` and
    the tolerances: all seven predicates and `identifyfamily`. -/
theorem gen_box_cs_agree (rtol atol : K) (p : CellParams K) :
    Src.box_identifyFamily rtol atol p = Src.cs_identifyFamily rtol atol p ∧
    Src.box_isCubic rtol atol p = Src.cs_isCubic rtol atol p ∧ Src.box_isHexagonal rtol atol p = Src.cs_isHexagonal rtol atol p ∧
    Src.box_isTetragonal rtol atol p = Src.cs_isTetragonal rtol atol p ∧
    Src.box_isRhombohedral rtol atol p = Src.cs_isRhombohedral rtol atol p ∧
    Src.box_isOrthorhombic rtol atol p = Src.cs_isOrthorhombic rtol atol p ∧
    Src.box_isMonoclinic rtol atol p = Src.cs_isMonoclinic rtol atol p ∧ Src.box_isTriclinic rtol atol p = Src.cs_isTriclinic rtol atol p :=
  ⟨rfl, rfl, rfl, rfl, rfl, rfl, rfl, rfl⟩

/-- over the generated predicates and chain of BOTH implementations: `identifyfamily` answers `f` exactly when `f`'s own
    predicate holds (the chain's order is immaterial), for tolerances small against 30 degrees and outside the narrow window
    of `identify_iff_pred`. -/
theorem gen_identify_iff_pred (rtol atol : K) (htol : 2 * atol + 210 * rtol < 30) (p : CellParams K)
    (hwin : Src.box_isTriclinic rtol atol p = true →
      ¬(isclose rtol atol p.alpha deg90 = true ∧ isclose rtol atol p.gamma deg90 = true)) :
    (Src.box_identifyFamily rtol atol p = some .cubic ↔ Src.cs_isCubic rtol atol p = true) ∧
    (Src.cs_identifyFamily rtol atol p = some .hexagonal ↔ Src.box_isHexagonal rtol atol p = true) ∧
    (Src.box_identifyFamily rtol atol p = some .tetragonal ↔ Src.cs_isTetragonal rtol atol p = true) ∧
    (Src.cs_identifyFamily rtol atol p = some .rhombohedral ↔ Src.box_isRhombohedral rtol atol p = true) ∧
    (Src.box_identifyFamily rtol atol p = some .orthorhombic ↔ Src.cs_isOrthorhombic rtol atol p = true) ∧
    (Src.cs_identifyFamily rtol atol p = some .monoclinic ↔ Src.box_isMonoclinic rtol atol p = true) ∧
    (Src.box_identifyFamily rtol atol p = some .triclinic ↔ Src.cs_isTriclinic rtol atol p = true) :=
  identify_iff_pred rtol atol htol p hwin

end endtoend

/-! ## non-vacuity: concrete instances of the hypotheses -/
example : RowsOrthonormal (K := ℚ) ⟨⟨2/3, -1/3, 2/3⟩, ⟨2/3, 2/3, -1/3⟩, ⟨-1/3, 2/3, 2/3⟩⟩
    ∧ M3.det (K := ℚ) ⟨⟨2/3, -1/3, 2/3⟩, ⟨2/3, 2/3, -1/3⟩, ⟨-1/3, 2/3, 2/3⟩⟩ = 1 := by
  refine ⟨⟨?_, ?_, ?_, ?_, ?_, ?_⟩, ?_⟩ <;> norm_num [M3.det, V3.dot, V3.cross]
example : RowsOrthonormal (K := ℚ) ⟨⟨0, 1, 0⟩, ⟨1, 0, 0⟩, ⟨0, 0, 1⟩⟩
    ∧ M3.det (K := ℚ) ⟨⟨0, 1, 0⟩, ⟨1, 0, 0⟩, ⟨0, 0, 1⟩⟩ = -1 := by
  refine ⟨⟨?_, ?_, ?_, ?_, ?_, ?_⟩, ?_⟩ <;> norm_num [M3.det, V3.dot, V3.cross]
example : planeInPlane 2 (-3) 4 = .ok (⟨-6, -4, 0⟩, ⟨-6, 0, 3⟩, -1) := by decide
example : planeInPlane 0 (-3) 4 = .ok (⟨0, 4, 3⟩, ⟨1, 0, 0⟩, -1) := by decide
example : planeNormalUnnorm (K := ℚ) ⟨⟨1, 0, 0⟩, ⟨0, 1, 0⟩, ⟨0, 0, 1⟩⟩ 2 (-3) 4 = .ok ⟨12, -18, 24⟩ := by
  decide +kernel
example : M3.det (K := ℚ) ⟨⟨2, 0, 0⟩, ⟨1, 3, 0⟩, ⟨1, 1, 4⟩⟩ ≠ 0 := by norm_num [M3.det, V3.dot, V3.cross]
example : (0 : ℚ) ≤ 1 / 100000000 ∧ (1 / 100000000 : ℚ) < 1 := by norm_num
example : (2 : ℚ) * (1 / 100000000) + 210 * (1 / 100000) < 30 := by norm_num
example : vector4to3 (1 / 100000000 : ℚ) ⟨2 / 3, -1 / 3, -1 / 3, 0⟩ = .ok ⟨1, 0, 0⟩ := by decide +kernel
example : reduceIndices [4, -6, 8] = .ok [2, -3, 4] := by decide
example : isclose (1 / 100000 : ℚ) (1 / 100000000) 3 5 = false := by decide +kernel
example : isclose (1 / 100000 : ℚ) (1 / 100000000) 100 deg90 = false := by decide +kernel
example : identifyFamily (1 / 100000 : ℚ) (1 / 100000000) ⟨3, 4, 5, 80, 100, 110⟩ = some .triclinic := by
  decide +kernel
example : identifyFamily (1 / 100000 : ℚ) (1 / 100000000) ⟨3, 3, 3, 60, 60, 60⟩ = some .rhombohedral := by
  decide +kernel
example : [1, -2, 0] ∈ allIndices 2 false := by decide

/-! non-vacuity on concrete states: a cell that is not orthogonal, a plane with three non-zero indices; a plane whose normal has
    a rational length (so that the norm hypothesis is met in ℚ); the same cell written in a unit 1000 times larger -/
example : Src.planeNormalUnnorm (K := ℚ) ⟨⟨2, 0, 0⟩, ⟨1, 3, 0⟩, ⟨1, 1, 4⟩⟩ 2 (-3) 4 = .ok ⟨144, -192, 156⟩ := by decide +kernel
example : Src.planeNormalUnnorm (K := ℚ) ⟨⟨1, 0, 0⟩, ⟨0, 1, 0⟩, ⟨0, 0, 1⟩⟩ 3 4 0 = .ok ⟨3, 4, 0⟩ := by decide +kernel
example : IsNormAt (K := ℚ) (fun v => if v = ⟨3, 4, 0⟩ then 5 else 0) ⟨3, 4, 0⟩ := by
  unfold IsNormAt; simp [V3.normSq, V3.dot]; norm_num
example : V3.dot (Src.planeResult (K := ℚ) (fun v => if v = ⟨3, 4, 0⟩ then 5 else 0) ⟨3, 4, 0⟩)
    (Src.vectorResult ⟨4, -3, 7⟩ ⟨⟨1, 0, 0⟩, ⟨0, 1, 0⟩, ⟨0, 0, 1⟩⟩) = 0 := by decide +kernel
example : Src.planeNormalUnnorm (K := ℚ) (scaleM (1 / 1000) ⟨⟨2, 0, 0⟩, ⟨1, 3, 0⟩, ⟨1, 1, 4⟩⟩) 2 (-3) 4
    = .ok (V3.smul ((1 / 1000) * (1 / 1000)) ⟨144, -192, 156⟩) := by decide +kernel
example : (2 : ℚ) * (1 / 100000000) + 210 * (1 / 100000) < 30 := by norm_num

section instances
def exV : M3 ℚ := ⟨⟨2, 0, 0⟩, ⟨1, 3, 0⟩, ⟨1, 1, 4⟩⟩
def exI : M3 ℚ := ⟨⟨1, 0, 0⟩, ⟨0, 1, 0⟩, ⟨0, 0, 1⟩⟩
def exNorm : V3 ℚ → ℚ := fun v => if v = ⟨3, 4, 0⟩ then 5 else if v = ⟨12, 16, 0⟩ then 20 else 0
theorem exV_det : M3.det exV = 24 := by norm_num [exV, M3.det, V3.dot, V3.cross]
theorem exI_det : M3.det exI = 1 := by norm_num [exI, M3.det, V3.dot, V3.cross]
theorem exNorm_at : IsNormAt exNorm ⟨3, 4, 0⟩ := by
  unfold IsNormAt exNorm; simp [V3.normSq, V3.dot]; norm_num
theorem exNorm_at4 : IsNormAt exNorm (V3.smul (2 * 2) ⟨3, 4, 0⟩) := by
  unfold IsNormAt exNorm; simp [V3.normSq, V3.dot, V3.smul]; norm_num

example := normal_nonzero exV (by rw [exV_det]; norm_num) 2 (-3) 4 (by decide)
example := IsNormAt.pos exNorm_at (by norm_num [V3.normSq, V3.dot])
example : exNorm (V3.smul (2 * 2) ⟨3, 4, 0⟩) = (2 * 2) * exNorm ⟨3, 4, 0⟩ :=
  IsNormAt.smul (2 * 2) (by norm_num) exNorm_at exNorm_at4
-- the plane (3 4 0) of the unit cube: the normal is perpendicular to [4 -3 7] (zone law) and to nothing off the zone
example := gen_normal_perp_iff_zone exI (by rw [exI_det]; norm_num) 3 4 0 (by decide) exNorm ⟨4, -3, 7⟩
example := gen_normal_unit_along_reciprocal exI (by rw [exI_det]; norm_num) 3 4 0 (by decide) exNorm
example := (gen_normal_scale_invariant (2 : ℚ) (by norm_num) exI 3 4 0 exNorm).2 ⟨3, 4, 0⟩ (by decide +kernel) exNorm_at exNorm_at4
example := normal_is_reciprocal exV (by rw [exV_det]; norm_num) 2 (-3) 4 (by decide)
example := normal_perp_iff_zone exV (by rw [exV_det]; norm_num) 2 (-3) 4 (by decide) (7 / 2) (by norm_num) ⟨3, 2, 0⟩
example := normal_unit_along_reciprocal exV (by rw [exV_det]; norm_num) 2 (-3) 4 (by decide)
example := normal_left_handed (⟨⟨1, 3, 0⟩, ⟨2, 0, 0⟩, ⟨1, 1, 4⟩⟩ : M3 ℚ) (by norm_num [M3.det, V3.dot, V3.cross]) 2 (-3) 4 (by decide)
example := gen_plane34_roundtrip (1 / 100000000 : ℚ) (by norm_num)
example := (gen_plane34_roundtrip (1 / 100000000 : ℚ) (by norm_num)).2 ⟨2, -3, 1, 4⟩ ⟨2, -3, 4⟩ (by decide +kernel) (by norm_num)
example := (gen_vector34_roundtrip (1 / 100000000 : ℚ) (by norm_num)).2 ⟨2 / 3, -1 / 3, -1 / 3, 0⟩ ⟨1, 0, 0⟩ (by decide +kernel) (by norm_num)
example := vector4_same_direction (1 / 100000000 : ℚ) exV ⟨2 / 3, -1 / 3, -1 / 3, 0⟩ ⟨1, 0, 0⟩ (by decide +kernel) (by norm_num)
example := plane43_int_roundtrip (1 / 100000000 : ℚ) (by norm_num) (by norm_num) 2 (-3) 1 4 ⟨2, -3, 4⟩ (by decide +kernel)
example := sumIsZero_int (1 / 100000000 : ℚ) (by norm_num) (by norm_num) 3
-- family identification: a triclinic cell outside the window, all tolerances the defaults
theorem exTri : isTriclinic (1 / 100000 : ℚ) (1 / 100000000) ⟨3, 4, 5, 80, 100, 110⟩ = true := by decide +kernel
example := identify_iff_pred (1 / 100000 : ℚ) (1 / 100000000) (by norm_num) ⟨3, 4, 5, 80, 100, 110⟩
  (fun _ h => by have : isclose (1 / 100000 : ℚ) (1 / 100000000) 80 deg90 = false := by decide +kernel
                 rw [this] at h; exact Bool.false_ne_true h.1)
example := gen_identify_iff_pred (1 / 100000 : ℚ) (1 / 100000000) (by norm_num) ⟨3, 4, 5, 80, 100, 110⟩
  (fun _ h => by have : isclose (1 / 100000 : ℚ) (1 / 100000000) 80 deg90 = false := by decide +kernel
                 rw [this] at h; exact Bool.false_ne_true h.1)
-- inside the window (α, γ ≈ 90° but α ≉ γ, α ≉ β): the triclinic predicate holds but the monoclinic branch answers —
-- the hypothesis `hwin` of `identify_iff_pred` is needed, and `identify_iff_pred_exact` says what happens without it
example : isTriclinic (1 / 100000 : ℚ) (1 / 100000000) ⟨3, 4, 5, 90 - 8 / 10000, 100, 90 + 8 / 10000⟩ = true
    ∧ identifyFamily (1 / 100000 : ℚ) (1 / 100000000) ⟨3, 4, 5, 90 - 8 / 10000, 100, 90 + 8 / 10000⟩ = some .monoclinic := by
  decide +kernel
example := identify_tetragonal (1 / 100000 : ℚ) (1 / 100000000) (by norm_num) (by norm_num) (by norm_num) 3 5 (by decide +kernel)
example := identify_rhombohedral (1 / 100000 : ℚ) (1 / 100000000) (by norm_num) (by norm_num) 3 60 (by decide +kernel)
example := identify_orthorhombic (1 / 100000 : ℚ) (1 / 100000000) (by norm_num) (by norm_num) 3 4 5 (by decide +kernel) (by decide +kernel)
example := identify_monoclinic (1 / 100000 : ℚ) (1 / 100000000) (by norm_num) (by norm_num) 3 4 5 100 (by decide +kernel) (by decide +kernel) (by decide +kernel)
example := identify_triclinic (1 / 100000 : ℚ) (1 / 100000000) 3 4 5 80 100 110 (by decide +kernel) (by decide +kernel) (by decide +kernel) (by decide +kernel) (Or.inl (by decide +kernel))
example := identify_hexagonal (1 / 100000 : ℚ) (1 / 100000000) (by norm_num) (by norm_num) (by norm_num) 3 5
example := isclose_scale_atol0 (1 / 100000 : ℚ) (1 / 10000000000) 3 5 (by norm_num)
example := identify_scale_atol0 (1 / 100000 : ℚ) (1 / 10000000000) (by norm_num) ⟨3, 4, 5, 90, 90, 90⟩
example := reduce_same_direction [4, -6, 8] (Or.inl rfl) ⟨4, by decide, by decide⟩
example := reduce_coprime [4, -6, 8, 0] (Or.inr rfl) ⟨4, by decide, by decide⟩
example := allIndices_reduce_coprime 2 [1, -2, 0]
  ((allIndices_reduce_complete 2 _).mpr ⟨[1, -2, 0], by decide, by decide⟩)
example := allIndices_sound 2 [1, -2, 0] (by decide)
example := lexLt_trans [1, -2, 0] [1, -1, 5] [1, 0, -7] (by decide) (by decide)
example := lexLt_total [1, -1, 5] [1, -2, 0] (by decide) (by decide)
example := insertUniq_sorted [0, 1, 0] [[-1, 0, 0], [0, 0, 1], [1, 0, 0]] (by decide)
example := inplane_zone 2 (-3) 4 ⟨-6, -4, 0⟩ ⟨-6, 0, 3⟩ (-1) (by decide)
example := plane3to4_third_negative 2 3 (-7) (by decide) (by decide) (by decide)
example := normal_unit_along_reciprocal_rotated exV ⟨⟨2/3, -1/3, 2/3⟩, ⟨2/3, 2/3, -1/3⟩, ⟨-1/3, 2/3, 2/3⟩⟩
  (by rw [exV_det]; norm_num) (by norm_num [M3.det, V3.dot, V3.cross]) 2 (-3) 4 (by decide)
end instances
end Atomman.C16
