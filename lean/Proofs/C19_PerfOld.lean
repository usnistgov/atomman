/-
  C19 — the timing block of the OLD layout (`Pair  time (%) = 1.23 (45.6)` …, LAMMPS before the
  `MPI task timing breakdown` table) as a block in the sense of `C19_Perf` (`Blk.OK true`).
-/
import Proofs.C19_Perf
set_option linter.unusedSimpArgs false
namespace Atomman.C19
open List

/-- an old-style timing block: the `Pair  time (%) = …` line, the further `<name> time (%) = …` lines, and the
    `Nlocal:` line that closes it. -/
structure OldBreakdown where
  first : Str
  rows : List Str
  stop : Str

def OldBreakdown.lines (b : OldBreakdown) : List Str := b.first :: (b.rows ++ [b.stop])

structure OldBreakdown.WF (b : OldBreakdown) : Prop where
  first_nb : isBlank b.first = false
  first_thermo : hasAny thermoStart b.first = false
  first_new : hasAny perfStart b.first = false
  first_old : hasAny perfStartOld b.first = true
  rows_in : ∀ l ∈ b.rows, InBlock l
  stop_nb : isBlank b.stop = false
  stop_thermo : hasAny thermoStart b.stop = false
  stop_start : hasAny perfStart b.stop = false
  stop_old : hasAny perfStartOld b.stop = false
  stop_end : hasAny perfEnd b.stop = true
  /-- every line of the table is `name = value`: exactly one `=` -/
  two : ∀ l ∈ b.first :: b.rows, (splitOnChar '=' l).length = 2

theorem readPerfOld_block (nb pre rest : List Str) (b : OldBreakdown) (h : b.WF)
    (hnb : nb = pre ++ (b.lines ++ rest)) :
    ∃ p, readPerfOld nb (pre.length : Int) ((pre.length : Int) + b.rows.length) = .ok p := by
  obtain ⟨g1, g2, g3, -, g5⟩ := window_at nb pre b.rows (b.stop :: rest) b.first (pre.length : Int)
    ((pre.length : Int) + b.rows.length) b.rows.length (by rw [hnb]; simp [OldBreakdown.lines]) rfl (by omega) (Or.inl rfl)
  unfold readPerfOld
  rw [if_neg g1, if_neg g2, g3]
  simp only [g5]
  have hw : (((b.first :: b.rows).map (splitOnChar '=')).any (fun r => r.length != 2)) = false := by
    rw [any_eq_false]
    intro r hr
    obtain ⟨l, hl, rfl⟩ := mem_map.1 hr
    simp [h.two l hl]
  rw [hw]
  exact ⟨_, rfl⟩

inductive OSeg
  | quiet (ls : List Str)
  | block (b : OldBreakdown)

def OSeg.lines : OSeg → List Str
  | .quiet ls => ls
  | .block b => b.lines

/-- `segsWF` for the old layout. -/
def osegsWF (nh : Nat) : List OSeg → Prop
  | [] => True
  | .quiet ls :: rest => (∀ l ∈ ls, PerfQuiet l) ∧ osegsWF (nh + starts ls) rest
  | .block b :: rest => b.WF ∧ 1 ≤ nh ∧ osegsWF nh rest

def OldBreakdown.blk (b : OldBreakdown) : Blk := ⟨b.first, b.rows, b.stop⟩

theorem OldBreakdown.WF.blk_ok {b : OldBreakdown} (h : b.WF) : b.blk.OK true where
  first := ⟨h.first_nb, h.first_thermo, h.first_new, h.first_old, fun e => by cases e⟩
  mid := h.rows_in
  stop := ⟨h.stop_nb, h.stop_thermo, h.stop_start, h.stop_old, h.stop_end⟩
  read := fun nb pre rest hnb => by
    simpa [OldBreakdown.blk, hoff] using readPerfOld_block nb pre rest b h hnb

def OSeg.toG : OSeg → GSeg
  | .quiet ls => .inl ls
  | .block b => .inr b.blk

theorem flatMap_otoG (segs : List OSeg) : (segs.map OSeg.toG).flatMap GSeg.lines = segs.flatMap OSeg.lines := by
  induction segs with
  | nil => rfl
  | cons sg rest ih => cases sg <;> simp [OSeg.toG, GSeg.lines, OSeg.lines, OldBreakdown.blk, Blk.lines, OldBreakdown.lines, ih]

theorem osegsWF_toG (nh : Nat) (segs : List OSeg) (h : osegsWF nh segs) : gsegsWF true nh (segs.map OSeg.toG) := by
  induction segs generalizing nh with
  | nil => trivial
  | cons sg rest ih =>
    cases sg with
    | quiet ls => exact ⟨h.1, ih _ h.2⟩
    | block b => exact ⟨h.1.blk_ok, h.2.1, ih _ h.2.2⟩

end Atomman.C19
