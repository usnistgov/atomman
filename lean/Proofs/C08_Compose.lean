/-
  C08 — load ∘ dump composed end to end, one closed form per format: the generic table (ids ascending), the dump file
  (`loadDump_writeDump` joined with the table reader, rows in ANY id order), the data file (first pass, atom_style
  decision, `Atoms` table with image flags, `Velocities` table).
-/
import Proofs.C08_Data
import Proofs.C08_Dump
import Proofs.C08_Table
import Proofs.C07_Rows
import Proofs.C07_Data
namespace Atomman.C08
open Atomman Atomman.C07
set_option linter.unusedSimpArgs false

/-- load ∘ dump of the generic table, in closed form per property: for the text `table.dump` writes (header line or
    not), loaded with a `prop_info` list that names each property once and accounts for all columns, every listed
    property other than the atom id has the shape of its entry and holds, atom by atom, the printed values of its own
    column group (`groupG`, `cellRat f`), times the unit factor if the entry has one.  With `unit_roundtrip_error` this
    is "to the printed precision and with unit conversions undone". -/
theorem load_dump_roundtrip_table_values {f : Fmt} (hf : Readable f) (s : Sys) (cols : List ColSpec) (u : Units)
    (header : Bool) (text : List Char) (hw : writeTable s cols u f header = .ok text)
    (hnames : ∀ t ∈ (cols.map fun c => c.names.map strTok).flatten, CleanTok t)
    (hn0 : (cols.map fun c => c.names.map strTok).flatten ≠ []) :
    ∃ rows, tableRows s u (seqIds s.natoms) s.pos cols [] = .ok rows ∧
      ∀ (box : Box Rat) (pcols : List PCol) (s' : Loaded),
        rows ≠ [] → (∀ r ∈ rows, r.length = colsWidth pcols) → colsWidth pcols ≠ 0 →
        (∀ i, idIndex pcols = some i →
          (rows.map fun r => r.map (cellRat f)).Pairwise fun a b => (a[i]?).getD 0 ≤ (b[i]?).getD 0) →
        (pcols.map (·.prop)).Nodup → loadTable text box pcols header = .ok s' →
        s'.natoms = rows.length ∧
        ∀ (j : Nat) (hj : j < pcols.length), pcols[j].prop ≠ "a_id" →
          ∃ q, s'.prop? pcols[j].prop = some q ∧ q.shape = pcols[j].shape ∧
            (pcols[j].unit = .none → q.vals = rows.map fun r => groupG pcols j (r.map (cellRat f))) ∧
            (∀ v, pcols[j].unit = .factor v →
              q.vals = rows.map fun r => (groupG pcols j (r.map (cellRat f))).map (· * v)) := by
  obtain ⟨rows, hr, hload⟩ := load_dump_roundtrip_table_partial hf s cols u header text hw hnames hn0
  refine ⟨rows, hr, ?_⟩
  intro box pcols s' hne hlen hw0 hs hnd h
  rw [hload (ne_nil_of_width hlen hw0) box pcols] at h
  have hmap := map_take_width hlen (cellRat f)
  obtain ⟨tbl, h1, h2⟩ := tableLoad_rowsDoc hf (Loaded.init box ⟨true, true, true⟩ rows.length [] []) rows pcols
    (colsWidth pcols) false hne hlen (by simp) (by rw [hmap]; exact hs)
  rw [h1] at h
  exact ⟨(assignCols_frame _ _ _ _ _ h).1, fun j hj hid => (assignCols_holds _ rows _ pcols tbl _ s' (h2.trans hmap) hnd
    (by rw [← List.length_map (f := (·.map Val.toRat)), h2, List.length_map]; rfl) h j hj hid).unfold⟩

theorem renamePos_names (c : PCol) : (renamePos c).names = c.names := by unfold renamePos; split <;> rfl
theorem renamePos_shape (c : PCol) : (renamePos c).shape = c.shape := by unfold renamePos; split <;> rfl
theorem renamePos_unit (c : PCol) : (renamePos c).unit = c.unit := by unfold renamePos; split <;> rfl

theorem colsWidth_renamePos (cols : List PCol) : colsWidth (cols.map renamePos) = colsWidth cols := by
  unfold colsWidth
  rw [List.map_map]
  congr 1
  apply List.map_congr_left
  intro c _
  simp [renamePos_names]

theorem idIndex_renamePos (cols : List PCol) : idIndex (cols.map renamePos) = idIndex cols := by
  unfold idIndex
  rw [List.map_map]
  have : (List.map ((fun x => x.names) ∘ renamePos) cols) = cols.map (·.names) :=
    List.map_congr_left fun c _ => by simp [renamePos_names]
  rw [this]

/-- what `loadDumpCore` does once the header state holds the atom count, the flags and all six bounds, when the caller
    hands over the column table: the box of the bounds, then the table reader on the first `natoms` rows with every
    position variant stored as `pos`, then the caller's symbols. -/
theorem loadDumpCore_given (d : DSC) (rows : List Line) (symbols : Option (List (Option String)))
    (pcols : List PCol) (u : Units) (s' : Loaded) (n : Nat) (pbc : V3 Bool) (xlo xhi ylo yhi zlo zhi : Rat)
    (hn : d.natoms = some (n : Int)) (hp : d.pbc = some pbc)
    (hb : d.xlo = some xlo ∧ d.xhi = some xhi ∧ d.ylo = some ylo ∧ d.yhi = some yhi ∧ d.zlo = some zlo ∧ d.zhi = some zhi)
    (h : loadDumpCore d (some rows) symbols (some pcols) u = .ok s') :
    ∃ box s1, Box.ofHiLos? xlo xhi ylo yhi zlo zhi d.xy d.xz d.yz = some box ∧
      tableLoad (Loaded.init box pbc n [] []) (rows.take n) (pcols.map renamePos) false = .ok s1 ∧
      s'.natoms = n ∧ s'.pbc = pbc ∧ s'.box = box ∧ s'.props = s1.props ∧ s'.symbols = symbols.getD [] := by
  obtain ⟨h1, h2, h3, h4, h5, h6⟩ := hb
  have hneg : ¬ ((n : Int) < 0) := by omega
  unfold loadDumpCore at h
  simp only [hn, hp, h1, h2, h3, h4, h5, h6, bind, Except.bind, pure, Except.pure, Option.getD_some] at h
  cases hbox : Box.ofHiLos? xlo xhi ylo yhi zlo zhi d.xy d.xz d.yz with
  | none => simp [hbox, exceptSimp] at h
  | some box =>
    simp only [hbox, hneg, if_false, Int.toNat_natCast] at h
    cases hs1 : tableLoad (Loaded.init box pbc n [] []) (rows.take n) (pcols.map renamePos) false with
    | error e => simp [hs1] at h
    | ok s1 =>
      simp only [hs1, Except.ok.injEq] at h
      obtain ⟨f1, f2, f3, f4, _⟩ := tableLoad_frame _ _ _ _ _ hs1
      refine ⟨box, s1, rfl, hs1, ?_⟩
      subst h
      cases symbols <;> simp [f1, f2, f3, f4, Loaded.init]

theorem splitG_renamePos {α : Type} (cols : List PCol) (r : List α) : splitG (cols.map renamePos) r = splitG cols r := by
  induction cols generalizing r with
  | nil => rfl
  | cons c cs ih => simp [splitG, ih, renamePos_names]

theorem groupG_renamePos {α : Type} (cols : List PCol) (j : Nat) (r : List α) :
    groupG (cols.map renamePos) j r = groupG cols j r := by
  unfold groupG
  rw [splitG_renamePos]

theorem dumpState_fields (f : Fmt) (lf : Option ℚ) (s : Sys) (props : List (String × List Nat)) :
    (dumpState f lf s props).natoms = some (s.natoms : Int) ∧ (dumpState f lf s props).pbc = some s.pbc ∧
    ∃ xlo xhi ylo yhi zlo zhi, (dumpState f lf s props).xlo = some xlo ∧ (dumpState f lf s props).xhi = some xhi ∧
      (dumpState f lf s props).ylo = some ylo ∧ (dumpState f lf s props).yhi = some yhi ∧
      (dumpState f lf s props).zlo = some zlo ∧ (dumpState f lf s props).zhi = some zhi := by
  unfold dumpState
  split
  · exact ⟨rfl, rfl, _, _, _, _, _, _, rfl, rfl, rfl, rfl, rfl, rfl⟩
  · exact ⟨rfl, rfl, _, _, _, _, _, _, rfl, rfl, rfl, rfl, rfl, rfl⟩

/-- load ∘ dump of a dump file, end to end, in closed form per property: for the text `atom_dump.dump` writes, rows in
    any id order, loaded with the column table the writer returns or any other that names each property once and
    accounts for all columns, the loaded system has the atom count and the periodic flags of the dumped one, the
    caller's symbols, the cell built from the header bounds of `dumpState` (`dump_bounds_eq_independent`), and every
    listed property (a position variant as `pos`; the atom id is not stored) has the shape of its entry and holds, in
    id order, the printed values of its own column group, times the unit factor if the entry has one.  Left out:
    `scaled` columns (only `load_dump_roundtrip_dump_partial`). -/
theorem load_dump_roundtrip_dump_values {f : Fmt} (hf : Readable f) (s : Sys) (props : List (String × List Nat))
    (u : Units) (ts : Int) (text : List Char) (hw : writeDump s props u f ts = .ok text)
    (hnames : ∀ t ∈ dumpNames props, CleanTok t) :
    ∃ lf rows, lengthFactor u = .ok lf ∧ tableRows s u (dumpIds s) s.pos (dumpCols props) [] = .ok rows ∧
      rows.length = s.natoms ∧
      ∀ (symbols : Option (List (Option String))) (pcols : List PCol) (s' : Loaded) (i : Nat),
        rows ≠ [] → (∀ r ∈ rows, r.length = colsWidth pcols) → colsWidth pcols ≠ 0 →
        idIndex pcols = some i → (rows.map (cellKey f (colsWidth pcols) i)).Nodup →
        ((pcols.map renamePos).map (·.prop)).Nodup →
        loadDump text symbols (some pcols) u = .ok s' →
        s'.natoms = s.natoms ∧ s'.pbc = s.pbc ∧ s'.symbols = symbols.getD [] ∧
        (∃ xlo xhi ylo yhi zlo zhi, (dumpState f lf s props).xlo = some xlo ∧ (dumpState f lf s props).xhi = some xhi ∧
          (dumpState f lf s props).ylo = some ylo ∧ (dumpState f lf s props).yhi = some yhi ∧
          (dumpState f lf s props).zlo = some zlo ∧ (dumpState f lf s props).zhi = some zhi ∧
          Box.ofHiLos? xlo xhi ylo yhi zlo zhi (dumpState f lf s props).xy (dumpState f lf s props).xz
            (dumpState f lf s props).yz = some s'.box) ∧
        ∀ (j : Nat) (hj : j < pcols.length), (renamePos pcols[j]).prop ≠ "a_id" →
          ∃ q, s'.prop? (renamePos pcols[j]).prop = some q ∧ q.shape = pcols[j].shape ∧
            (pcols[j].unit = .none →
              q.vals = (sortBy (cellKey f (colsWidth pcols) i) rows).map fun r => groupG pcols j (r.map (cellRat f))) ∧
            (∀ v, pcols[j].unit = .factor v →
              q.vals = (sortBy (cellKey f (colsWidth pcols) i) rows).map fun r =>
                (groupG pcols j (r.map (cellRat f))).map (· * v)) := by
  obtain ⟨lf, rows, hlf, hr, _, hload⟩ := loadDump_writeDump s props u ts text hw hnames
  have hlen : rows.length = s.natoms := (tableRows_spec s u (dumpIds s) s.pos (dumpCols props) [] rows hr).1
  refine ⟨lf, rows, hlf, hr, hlen, ?_⟩
  intro symbols pcols s' i hne hw' hw0 hid hd hnd h
  rw [hload (ne_nil_of_width hw' hw0)] at h
  obtain ⟨fn, fp, xlo, xhi, ylo, yhi, zlo, zhi, hb⟩ := dumpState_fields f lf s props
  obtain ⟨box, s1, hbox, hs1, g1, g2, g3, g4, g5⟩ :=
    loadDumpCore_given _ _ symbols pcols u s' s.natoms s.pbc xlo xhi ylo yhi zlo zhi fn fp hb h
  have htk : (rowsDoc f rows).take s.natoms = rowsDoc f rows := by
    apply List.take_of_length_le
    simp [rowsDoc, hlen]
  rw [htk] at hs1
  have hcw := colsWidth_renamePos pcols
  obtain ⟨tbl, h1, h2⟩ := tableLoad_rowsDoc_sorted hf (Loaded.init box s.pbc s.natoms [] []) rows (pcols.map renamePos)
    (colsWidth pcols) false i hne hw' (by simp [hcw]) (by rw [idIndex_renamePos]; exact hid) (by rw [hcw]; exact hd)
  rw [h1] at hs1
  have h2' : tbl.map (·.map Val.toRat) = (sortBy (cellKey f (colsWidth pcols) i) rows).map fun r => r.map (cellRat f) := by
    rw [h2, hcw, map_take_width fun r hr' => hw' r ((sortBy_perm _ rows).subset hr')]
  have key := fun j hj hid => (assignCols_holds _ _ box (pcols.map renamePos) tbl _ s1 h2' hnd
    (by rw [← List.length_map (f := (·.map Val.toRat)), h2', List.length_map, (sortBy_perm _ rows).length_eq, hlen]; rfl) hs1
    j hj hid).unfold
  simp only [List.length_map, List.getElem_map, groupG_renamePos, renamePos_shape, renamePos_unit] at key
  refine ⟨g1, g2, g5, ⟨xlo, xhi, ylo, yhi, zlo, zhi, hb.1, hb.2.1, hb.2.2.1, hb.2.2.2.1, hb.2.2.2.2.1, hb.2.2.2.2.2, ?_⟩, ?_⟩
  · rw [g3]; exact hbox
  · unfold Loaded.prop?
    rw [g4]
    exact key

theorem applyFlags_ok (s s' : Loaded) (rows : List Line) (ncols : Nat) (h : applyFlags s rows ncols = .ok s') :
    ∃ pos vals, s.prop? "pos" = some pos ∧ s' = { s with props := setProp { pos with vals := vals } s.props } := by
  unfold applyFlags at h
  -- every branch that returns at all returns `s` with the values of the `pos` it found replaced
  simp only [bind, Except.bind, pure, Except.pure, throw, throwThe, MonadExceptOf.throw] at h
  repeat' (split at h)
  all_goals (first | (cases h; done) | skip)
  all_goals
    simp only [Except.ok.injEq] at h
    exact ⟨_, _, by assumption, h.symm⟩

/-- the image-flag shift touches the positions only. -/
theorem applyFlags_other (s s' : Loaded) (rows : List Line) (ncols : Nat) (h : applyFlags s rows ncols = .ok s')
    (name : String) (hname : name ≠ "pos") : s'.prop? name = s.prop? name := by
  obtain ⟨pos, vals, hpos, rfl⟩ := applyFlags_ok s s' rows ncols h
  have hpn := prop?_name s "pos" pos hpos
  unfold Loaded.prop?
  exact find_setProp_other _ _ name (by simpa [hpn] using fun e => hname e.symm)

/-- **the `Atoms` section of a data file in closed form**: rows written with distinct ids in any order (image-flag
    columns or not), read by `read_atoms` with the column table of the atom_style: every listed property other than the
    positions has the shape of its entry and holds, in id order, the printed values of its column group (times the unit
    factor); the image-flag shift touches `pos` only. -/
theorem atoms_section_values {f : Fmt} (hf : Readable f) (s s' : Loaded) (rows : List (List Cell)) (style : String)
    (u : Units) (cols : List PCol) (n ac i : Nat) (hne : rows ≠ []) (hn : ∀ r ∈ rows, r.length = n)
    (hcols : lookupCols Gen.LoadStyles.atomStyles style u = .ok cols) (hw : colsWidth cols ≤ n)
    (hid : idIndex cols = some i) (hd : (rows.map (cellKey f (colsWidth cols) i)).Nodup)
    (hnd : (cols.map (·.prop)).Nodup) (hrows : rows.length = s.natoms)
    (h : readAtoms (rowsDoc f rows) ac s style u = .ok s') :
    s'.natoms = s.natoms ∧
    ∀ (j : Nat) (hj : j < cols.length), cols[j].prop ≠ "a_id" → cols[j].prop ≠ "pos" →
      ∃ q, s'.prop? cols[j].prop = some q ∧ q.shape = cols[j].shape ∧
        (cols[j].unit = .none →
          q.vals = (sortBy (cellKey f (colsWidth cols) i) rows).map fun r =>
            groupG cols j ((r.take (colsWidth cols)).map (cellRat f))) ∧
        (∀ v, cols[j].unit = .factor v →
          q.vals = (sortBy (cellKey f (colsWidth cols) i) rows).map fun r =>
            (groupG cols j ((r.take (colsWidth cols)).map (cellRat f))).map (· * v)) := by
  unfold readAtoms at h
  rw [hcols] at h
  simp only [bind, Except.bind, pure, Except.pure] at h
  cases hs1 : tableLoad s (rowsDoc f rows) cols true with
  | error e => simp [hs1] at h
  | ok s1 =>
    simp only [hs1] at h
    have key := table_values_of_rows_sorted hf s s1 rows cols n true i hne hn (by simpa using hw) hid hd hnd hrows hs1
    have hnat := (tableLoad_frame _ _ _ _ _ hs1).1
    split at h
    · refine ⟨?_, ?_⟩
      · obtain ⟨_, _, _, rfl⟩ := applyFlags_ok _ _ _ _ h
        exact hnat
      · intro j hj ha hp
        obtain ⟨q, q1, q2⟩ := key j hj ha
        exact ⟨q, by rw [applyFlags_other _ _ _ _ h _ hp]; exact q1, q2⟩
    · split at h
      · simp [exceptSimp] at h
      · simp only [Except.ok.injEq] at h
        subst h
        exact ⟨hnat, fun j hj ha _ => key j hj ha⟩

/-- everything after the first pass of the data-file reader, on written rows: atom count and, for every column of the
    `Atoms` table other than the id and the positions that the `Velocities` table does not assign again, shape and
    values in closed form. -/
theorem loadDataCore_values {f : Fmt} (hf : Readable f) (fp : FirstPass) (rowsC : List (List Cell)) (rest : List Line)
    (vel : Option (List Line)) (pbc : V3 Bool) (symbols : Option (List (Option String))) (styleArg : Option String)
    (u : Units) (s' : Loaded) (style : String) (cols : List PCol) (n i : Nat)
    (hnat : fp.natoms = rowsC.length) (hne : rowsC ≠ []) (hn : ∀ r ∈ rowsC, r.length = n)
    (hstyle : chooseStyle styleArg fp.hint = .ok style)
    (hcols : lookupCols Gen.LoadStyles.atomStyles style u = .ok cols) (hw : colsWidth cols ≤ n)
    (hid : idIndex cols = some i) (hd : (rowsC.map (cellKey f (colsWidth cols) i)).Nodup)
    (hnd : (cols.map (·.prop)).Nodup)
    (h : loadDataCore fp (rowsDoc f rowsC ++ rest) vel pbc symbols styleArg u = .ok s') :
    s'.natoms = rowsC.length ∧
    ∀ (j : Nat) (hj : j < cols.length), cols[j].prop ≠ "a_id" → cols[j].prop ≠ "pos" →
      (∀ vc, lookupCols Gen.LoadStyles.velStyles style u = .ok vc → ∀ c ∈ vc, c.prop ≠ cols[j].prop) →
      ∃ q, s'.prop? cols[j].prop = some q ∧ q.shape = cols[j].shape ∧
        (cols[j].unit = .none →
          q.vals = (sortBy (cellKey f (colsWidth cols) i) rowsC).map fun r =>
            groupG cols j ((r.take (colsWidth cols)).map (cellRat f))) ∧
        (∀ v, cols[j].unit = .factor v →
          q.vals = (sortBy (cellKey f (colsWidth cols) i) rowsC).map fun r =>
            (groupG cols j ((r.take (colsWidth cols)).map (cellRat f))).map (· * v)) := by
  unfold loadDataCore at h
  simp only [bind, Except.bind, pure, Except.pure, hstyle] at h
  split at h
  · simp [exceptSimp] at h
  rw [rowsDoc_take _ _ _ hnat] at h
  cases hs1 : readAtoms (rowsDoc f rowsC) fp.atomsColumns
      (Loaded.init fp.box pbc fp.natoms (initSymbols symbols fp.masses) fp.masses) style u with
  | error e => simp [hs1] at h
  | ok s1 =>
    simp only [hs1] at h
    obtain ⟨k1, k2⟩ := atoms_section_values hf _ s1 rowsC style u cols n fp.atomsColumns i hne hn hcols hw hid hd hnd
      (by simp [Loaded.init, hnat]) hs1
    have k1' : s1.natoms = rowsC.length := by rw [k1]; simp [Loaded.init, hnat]
    unfold readVelocities at h
    cases vel with
    | none =>
      simp only [Option.map_none, exceptSimp, Except.ok.injEq] at h
      subst h
      exact ⟨k1', fun j hj ha hp _ => k2 j hj ha hp⟩
    | some vr =>
      simp only [Option.map_some, bind, Except.bind] at h
      cases hvc : lookupCols Gen.LoadStyles.velStyles style u with
      | error e => simp [hvc] at h
      | ok vc =>
        simp only [hvc] at h
        refine ⟨by rw [(tableLoad_frame _ _ _ _ _ h).1]; exact k1', ?_⟩
        intro j hj ha hp hv
        obtain ⟨q, q1, q2⟩ := k2 j hj ha hp
        exact ⟨q, by rw [tableLoad_other _ _ _ _ _ h _ (hv vc rfl)]; exact q1, q2⟩

theorem dataParts_rows_length (s : Sys) (style : String) (u : Units) (p : DataParts) (w : Wrapped)
    (h : dataParts s style u = .ok (p, w)) : p.rows.length = s.natoms ∧ p.natoms = s.natoms := by
  obtain ⟨rfl, -, lf, cols, -, -, hn, -, -, hrows, -⟩ := dataParts_ok s style u p w h
  refine ⟨?_, hn⟩
  have hr := (tableRows_spec _ u (seqIds s.natoms) _ _ (flagCells _) _ hrows).1
  exact hr.trans (by simp only [Sys.natoms]; exact (wrap_lengths _ _ _).1)

/-- load ∘ dump of a data file, end to end, in closed form per property: for the text `atom_data.dump` writes (the
    wrapped system, image-flag columns, an optional `Velocities` section), loaded with any `pbc` / `symbols` /
    `atom_style` argument that `chooseStyle` accepts against the `Atoms` comment, the loaded system has the atom count
    of the dumped one, and every column group of the atom_style's `Atoms` table other than the id and the positions
    (whatever the regenerated loader table lists; not assigned again by the `Velocities` table) has the shape of its
    entry and holds, in id order, the printed values of its own columns, times the unit factor of the LAMMPS unit
    style if it has one.  The positions are those printed values plus the image-flag shift of `applyFlags`, which
    touches `pos` only (`applyFlags_other`).  The `jSysQ` example of Proofs/C08.lean instantiates it with every
    hypothesis discharged. -/
theorem load_dump_roundtrip_data_values {f : Fmt} (hf : Readable f) (s : Sys) (style : String) (u : Units)
    (text : List Char) (hw : writeData s style u f = .ok text)
    (hwords : (styleWords style).map strTok ≠ [] ∧ ∀ t ∈ (styleWords style).map strTok, CleanTok t) :
    ∃ lf p w, lengthFactor u = .ok lf ∧ dataParts s style u = .ok (p, w) ∧ p.rows.length = s.natoms ∧
      ∀ (pbc : V3 Bool) (symbols : Option (List (Option String))) (styleArg : Option String) (s' : Loaded)
        (style' : String) (cols : List PCol) (n i : Nat),
        p.rows ≠ [] → (∀ r ∈ p.rows, r.length = n) → n ≠ 0 → (∀ vr, p.vel = some vr → ∀ r ∈ vr, r ≠ []) →
        chooseStyle styleArg (some (joinSp ((styleWords style).map strTok))) = .ok style' →
        lookupCols Gen.LoadStyles.atomStyles style' u = .ok cols → colsWidth cols ≤ n →
        idIndex cols = some i → (p.rows.map (cellKey f (colsWidth cols) i)).Nodup → (cols.map (·.prop)).Nodup →
        loadData text pbc symbols styleArg u = .ok s' →
        s'.natoms = s.natoms ∧
        ∀ (j : Nat) (hj : j < cols.length), cols[j].prop ≠ "a_id" → cols[j].prop ≠ "pos" →
          (∀ vc, lookupCols Gen.LoadStyles.velStyles style' u = .ok vc → ∀ c ∈ vc, c.prop ≠ cols[j].prop) →
          ∃ q, s'.prop? cols[j].prop = some q ∧ q.shape = cols[j].shape ∧
            (cols[j].unit = .none →
              q.vals = (sortBy (cellKey f (colsWidth cols) i) p.rows).map fun r =>
                groupG cols j ((r.take (colsWidth cols)).map (cellRat f))) ∧
            (∀ v, cols[j].unit = .factor v →
              q.vals = (sortBy (cellKey f (colsWidth cols) i) p.rows).map fun r =>
                (groupG cols j ((r.take (colsWidth cols)).map (cellRat f))).map (· * v)) := by
  obtain ⟨lf, p, w, hlf, hp, hload⟩ := load_dump_roundtrip_data_partial hf s style u text hw hwords
  obtain ⟨hlen, hpn⟩ := dataParts_rows_length s style u p w hp
  refine ⟨lf, p, w, hlf, hp, hlen, ?_⟩
  intro pbc symbols styleArg s' style' cols n i hne hn hn0 hv hstyle hcols hw' hid hd hnd h
  rw [hload hne (ne_nil_of_width hn hn0) hv pbc symbols styleArg] at h
  obtain ⟨fp, hfp, h2⟩ := bind_ok h
  obtain ⟨hfn, hh⟩ := fpFinish_dataFP hfp
  rw [hpn, ← hlen] at hfn
  unfold dataRowsA at h2
  have key := loadDataCore_values hf fp p.rows _ (p.vel.map (rowsDoc f)) pbc symbols styleArg u s' style' cols n i hfn hne
    hn (by rw [hh]; exact hstyle) hcols hw' hid hd hnd h2
  rw [hlen] at key
  exact key


end Atomman.C08
