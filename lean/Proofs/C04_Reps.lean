/-
  C04 — "each original atom is represented equally often" for the infinite crystal: for an integer `U` with `det U ≠ 0` the
  half-open cell of the sublattice `ℤ³·U` holds, for every offset `s`, one representative of every coset of `ℤ³ / ℤ³·U`,
  and the representatives for two offsets are in explicit bijection (translations of the new lattice).
-/
import Proofs.C04_Lemmas
import Mathlib.Algebra.Order.Floor.Ring

namespace Atomman.C04
open Atomman

variable {K : Type} [Field K] [LinearOrder K] [IsStrictOrderedRing K] [FloorRing K]

/-- relative coordinates, in the new cell, of the point with old relative coordinates `x`. -/
def newRel (U : M3 Int) (x : V3 K) : V3 K := M3.vecMul x (M3.inv (castM U : M3 K))

def InCell (t : V3 K) : Prop := 0 ≤ t.x ∧ t.x < 1 ∧ 0 ≤ t.y ∧ t.y < 1 ∧ 0 ≤ t.z ∧ t.z < 1

/-- inside the cell, faces on both sides included (`0 ≤ s ≤ 1`): where an atom of the *input* may be stored (an atom
    on a face may be listed on the far face, relative coordinate 1). -/
def InBox (t : V3 K) : Prop := 0 ≤ t.x ∧ t.x ≤ 1 ∧ 0 ≤ t.y ∧ t.y ≤ 1 ∧ 0 ≤ t.z ∧ t.z ≤ 1

set_option linter.unusedSectionVars false in
theorem InCell.inBox {t : V3 K} (h : InCell t) : InBox t :=
  ⟨h.1, le_of_lt h.2.1, h.2.2.1, le_of_lt h.2.2.2.1, h.2.2.2.2.1, le_of_lt h.2.2.2.2.2⟩

omit [IsStrictOrderedRing K] [FloorRing K] in
theorem inHalfOpen_iff_inCell (s : V3 K) : inHalfOpen s = true ↔ InCell s := by
  simp only [inHalfOpen, InCell, Bool.and_eq_true, decide_eq_true_eq, and_assoc]

/-- `n` is the lattice shift of an image, of the atom with relative coordinates `s`, that lies in the new cell. -/
def Rep (U : M3 Int) (s : V3 K) (n : V3 Int) : Prop := InCell (newRel U (s + castV n))

def mulU (m : V3 Int) (U : M3 Int) : V3 Int := M3.vecMul m U

/-- move `n` by the new-lattice vector that brings the image of the atom at `s` into the new cell. -/
noncomputable def reduce (U : M3 Int) (s : V3 K) (n : V3 Int) : V3 Int :=
  let t := newRel U (s + castV n)
  n - mulU ⟨⌊t.x⌋, ⌊t.y⌋, ⌊t.z⌋⟩ U

omit [IsStrictOrderedRing K] in
theorem castM_det_ne (U : M3 Int) (h : M3.det U ≠ 0) : M3.det (castM U : M3 K) ≠ 0 := by
  rw [castM_det]; exact_mod_cast h

set_option linter.unusedSectionVars false in
theorem newRel_add (U : M3 Int) (x y : V3 K) : newRel U (x + y) = newRel U x + newRel U y :=
  M3.vecMul_add x y _

omit [LinearOrder K] [IsStrictOrderedRing K] [FloorRing K] in
theorem newRel_sub (U : M3 Int) (x y : V3 K) : newRel U (x - y) = newRel U x - newRel U y :=
  M3.vecMul_sub x y _

omit [IsStrictOrderedRing K] in
theorem newRel_mulU (U : M3 Int) (h : M3.det U ≠ 0) (m : V3 Int) :
    newRel U (castV (mulU m U) : V3 K) = castV m := by
  rw [mulU, castV_vecMul, newRel, M3.vecMul_inv_cancel _ _ (castM_det_ne U h)]

omit [IsStrictOrderedRing K] in
theorem newRel_sub_mulU (U : M3 Int) (h : M3.det U ≠ 0) (s : V3 K) (n m : V3 Int) :
    newRel U (s + castV (n - mulU m U)) = newRel U (s + castV n) - castV m := by
  have e : s + castV (n - mulU m U) = (s + castV n) - castV (mulU m U) := by
    rw [castV_sub, V3.add_sub_assoc']
  rw [e, newRel_sub, newRel_mulU U h]

omit [FloorRing K] in
theorem int_eq_zero_of_abs_lt_one {m : Int} (h1 : (-1 : K) < m) (h2 : (m : K) < 1) : m = 0 := by
  have h1' : (-1 : Int) < m := by exact_mod_cast h1
  have h2' : m < (1 : Int) := by exact_mod_cast h2
  omega

omit [FloorRing K] in
theorem InCell.int_diff_eq_zero {t t' : V3 K} {m : V3 Int} (h : InCell t) (h' : InCell t') (e : t' = t + castV m) :
    m = ⟨0, 0, 0⟩ := by
  subst e
  obtain ⟨a1, a2, a3, a4, a5, a6⟩ := h
  obtain ⟨b1, b2, b3, b4, b5, b6⟩ := h'
  simp only [V3.add_def, castV] at b1 b2 b3 b4 b5 b6
  ext
  · exact int_eq_zero_of_abs_lt_one (K := K) (m := m.x) (by linarith) (by linarith)
  · exact int_eq_zero_of_abs_lt_one (K := K) (m := m.y) (by linarith) (by linarith)
  · exact int_eq_zero_of_abs_lt_one (K := K) (m := m.z) (by linarith) (by linarith)

theorem inCell_sub_floor (t : V3 K) : InCell (t - castV ⟨⌊t.x⌋, ⌊t.y⌋, ⌊t.z⌋⟩) :=
  ⟨Int.fract_nonneg t.x, Int.fract_lt_one t.x, Int.fract_nonneg t.y, Int.fract_lt_one t.y,
    Int.fract_nonneg t.z, Int.fract_lt_one t.z⟩

theorem reduce_rep (U : M3 Int) (h : M3.det U ≠ 0) (s : V3 K) (n : V3 Int) : Rep U s (reduce U s n) := by
  unfold Rep reduce
  rw [newRel_sub_mulU U h]
  exact inCell_sub_floor _

omit [IsStrictOrderedRing K] in
theorem reduce_eq_sub (U : M3 Int) (s : V3 K) (n : V3 Int) : ∃ m : V3 Int, reduce U s n = n - mulU m U :=
  ⟨_, rfl⟩

theorem rep_unique (U : M3 Int) (h : M3.det U ≠ 0) (s : V3 K) (n n' m : V3 Int)
    (hn : Rep U s n) (hn' : Rep U s n') (hd : n = n' - mulU m U) : n = n' := by
  subst hd
  unfold Rep at hn
  rw [newRel_sub_mulU U h] at hn
  have hm : m = ⟨0, 0, 0⟩ := hn.int_diff_eq_zero hn' (by ext <;> simp)
  rw [hm, mulU, M3.vecMul_zero, V3.sub_zero']

/-- **Equal representation.**  For any two offsets `s`, `s'` (two original atoms) the lattice shifts whose
    images lie in the new cell are in bijection: `reduce U s'` maps the representatives of `s` onto those
    of `s'`, with inverse `reduce U s`.  Hence every original atom has the same number of images in the
    re-oriented cell (the index of the sublattice `ℤ³·U`). -/
theorem rotate_equal_representation (U : M3 Int) (h : M3.det U ≠ 0) (s s' : V3 K) :
    (∀ n, Rep U s n → Rep U s' (reduce U s' n) ∧ reduce U s (reduce U s' n) = n) ∧
    (∀ n, Rep U s' n → Rep U s (reduce U s n) ∧ reduce U s' (reduce U s n) = n) := by
  have key : ∀ (a b : V3 K) (n : V3 Int), Rep U a n → Rep U b (reduce U b n) ∧ reduce U a (reduce U b n) = n := by
    intro a b n hn
    refine ⟨reduce_rep U h b n, ?_⟩
    obtain ⟨m1, e1⟩ := reduce_eq_sub U b n
    obtain ⟨m2, e2⟩ := reduce_eq_sub U a (reduce U b n)
    apply rep_unique U h a _ n (m1 + m2) (reduce_rep U h a _) hn
    rw [e2, e1]
    ext <;> simp only [mulU, M3.vecMul, V3.sub_x', V3.sub_y', V3.sub_z', V3.add_x', V3.add_y', V3.add_z'] <;> ring
  exact ⟨fun n hn => key s s' n hn, fun n hn => key s' s n hn⟩

/-- non-vacuity: representatives exist for every offset (reduce any shift). -/
theorem rep_exists (U : M3 Int) (h : M3.det U ≠ 0) (s : V3 K) : ∃ n, Rep U s n :=
  ⟨_, reduce_rep U h s ⟨0, 0, 0⟩⟩

end Atomman.C04
