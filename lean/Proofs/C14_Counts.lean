/-
  C14, counts: the `(a1, a2)` mesh of `iterfaultmap(num_a1, num_a2)` for EVERY pair of counts (`num_a1 * num_a2` distinct
  points in `[0, 1) x [0, 1)`, one configuration each, in mesh order); the multiplier along the cut (`cutMult_eq`: sign
  times `max(|m|, ceil(minwidth / W))`, plus one for `even`; `minwidth = k W` gives `k` cells).
-/
import Atomman.C14
import Proofs.Lists
import Mathlib.Data.List.Nodup
import Mathlib.Data.Rat.Floor

namespace Atomman.C14
open Atomman

section mesh
variable {K : Type} [Field K] [LinearOrder K] [IsStrictOrderedRing K]

set_option linter.unusedSectionVars false in
/-- the mesh has `num_a1 * num_a2` points, for every pair of counts. -/
theorem faultMesh_length (n1 n2 : Nat) : (faultMesh (K := K) n1 n2).length = n1 * n2 := by
  simp [faultMesh, List.length_flatMap, Nat.mul_comm]

set_option linter.unusedSectionVars false in
/-- the points of the mesh are exactly `(i / num_a1, j / num_a2)`, `i < num_a1`, `j < num_a2`. -/
theorem mem_faultMesh (n1 n2 : Nat) (p : K × K) :
    p ∈ faultMesh n1 n2 ↔ ∃ i < n1, ∃ j < n2, p = ((i : K) / (n1 : K), (j : K) / (n2 : K)) := by
  unfold faultMesh
  simp only [List.mem_flatMap, List.mem_range, List.mem_map, Int.ofNat_eq_natCast, Int.cast_natCast]
  constructor
  · rintro ⟨j, hj, i, hi, rfl⟩
    exact ⟨i, hi, j, hj, rfl⟩
  · rintro ⟨i, hi, j, hj, rfl⟩
    exact ⟨j, hj, i, hi, rfl⟩

private theorem frac_unit (i n : Nat) (h : i < n) : (0 : K) ≤ (i : K) / (n : K) ∧ (i : K) / (n : K) < 1 := by
  have hn : (0 : K) < (n : K) := by exact_mod_cast (by omega : 0 < n)
  refine ⟨div_nonneg (by exact_mod_cast Nat.zero_le i) hn.le, ?_⟩
  rw [div_lt_one hn]
  exact_mod_cast h

/-- every mesh point lies in `[0, 1) x [0, 1)`: the shift by a full lattice vector (`a = 1`, the perfect crystal
    again) is never generated. -/
theorem faultMesh_unit (n1 n2 : Nat) (p : K × K) (h : p ∈ faultMesh n1 n2) :
    0 ≤ p.1 ∧ p.1 < 1 ∧ 0 ≤ p.2 ∧ p.2 < 1 := by
  obtain ⟨i, hi, j, hj, rfl⟩ := (mem_faultMesh n1 n2 p).1 h
  exact ⟨(frac_unit i n1 hi).1, (frac_unit i n1 hi).2, (frac_unit j n2 hj).1, (frac_unit j n2 hj).2⟩

private theorem frac_inj (i i' n : Nat) (h : i < n) (e : (i : K) / (n : K) = (i' : K) / (n : K)) : i = i' := by
  have hn : (n : K) ≠ 0 := by exact_mod_cast (by omega : n ≠ 0)
  have := (div_left_inj' hn).1 e
  exact_mod_cast this

/-- every fault configuration of the map is generated once: the mesh points are pairwise distinct. -/
theorem faultMesh_nodup (n1 n2 : Nat) : (faultMesh (K := K) n1 n2).Nodup := by
  unfold faultMesh
  rw [List.nodup_flatMap]
  refine ⟨?_, ?_⟩
  · intro j hj
    refine List.Nodup.map_on ?_ (List.nodup_range)
    intro i hi i' hi' e
    simp only [Int.ofNat_eq_natCast, Int.cast_natCast, Prod.mk.injEq] at e
    exact frac_inj i i' n1 (List.mem_range.1 hi) e.1
  · refine List.Pairwise.imp_of_mem ?_ (List.nodup_range (n := n2))
    intro j j' hj hj' hne
    simp only [Function.onFun]
    rw [List.disjoint_iff_ne]
    intro p hp q hq e
    simp only [List.mem_map, List.mem_range, Int.ofNat_eq_natCast, Int.cast_natCast] at hp hq
    obtain ⟨i, hi, rfl⟩ := hp
    obtain ⟨i', hi', rfl⟩ := hq
    simp only [Prod.mk.injEq] at e
    exact hne (frac_inj j j' n2 (List.mem_range.1 hj) e.2)

set_option linter.unusedSectionVars false in
/-- a successful `iterfaultmap(num_a1, num_a2)` yields one configuration per mesh point, labelled with that
    point, in mesh order (`a2` outer, `a1` inner). -/
theorem iterFaultMap_mesh (st : SFStatic K) (o : SFState K) (a1v a2v : Option (V3 K)) (fpos : FaultPosArg K)
    (n1 n2 : Nat) (oop : Option K) (l : List (K × K × List (V3 K)))
    (h : (iterFaultMap st o a1v a2v fpos n1 n2 oop).2 = .ok l) :
    l.map (fun x => (x.1, x.2.1)) = faultMesh n1 n2 := by
  unfold iterFaultMap andThen at h
  split at h
  · simp at h
  · simp only at h
    -- element by element: a configuration that came back carries the mesh point it was computed for
    have := forall₂_map_eq (fun ab : K × K => ab) (fun x : K × K × List (V3 K) => (x.1, x.2.1)) (mapM_except_ok h) ?_
    · rw [this, List.map_id']
    · intro a b hab
      cases hc : faultCore st _ (FShiftArg.coeffs (some a.1) (some a.2) oop) with
      | error e => rw [hc] at hab; simp [exceptSimp] at hab
      | ok ps =>
        rw [hc] at hab
        simp only [exceptSimp, Except.ok.injEq] at hab
        subst hab; rfl

/-- ... hence exactly `num_a1 * num_a2` configurations. -/
theorem iterFaultMap_length (st : SFStatic K) (o : SFState K) (a1v a2v : Option (V3 K)) (fpos : FaultPosArg K)
    (n1 n2 : Nat) (oop : Option K) (l : List (K × K × List (V3 K)))
    (h : (iterFaultMap st o a1v a2v fpos n1 n2 oop).2 = .ok l) : l.length = n1 * n2 := by
  have := congrArg List.length (iterFaultMap_mesh st o a1v a2v fpos n1 n2 oop l h)
  rwa [List.length_map, faultMesh_length] at this

end mesh

/-- the number of cells along the cut: `max(|m|, q)`, raised to the next even number when `even` asks for it. -/
def cellCount (m q : ℤ) (even : Bool) : ℤ :=
  if even = true ∧ max (m.natAbs : ℤ) q % 2 = 1 then max (m.natAbs : ℤ) q + 1 else max (m.natAbs : ℤ) q

theorem cellCount_bounds (m q : ℤ) (even : Bool) :
    max (m.natAbs : ℤ) q ≤ cellCount m q even ∧ cellCount m q even ≤ max (m.natAbs : ℤ) q + 1 := by
  unfold cellCount
  split_ifs <;> omega

theorem cellCount_true (m q : ℤ) : cellCount m q true % 2 = 0 := by
  unfold cellCount
  split_ifs with h
  · omega
  · have := Int.emod_two_eq (max (m.natAbs : ℤ) q)
    tauto

theorem cellCount_false (m q : ℤ) : cellCount m q false = max (m.natAbs : ℤ) q :=
  if_neg (fun h => Bool.false_ne_true h.1)

/-- closed form of the multiplier with `minwidth`: the sign of the given multiplier times the cell count. -/
theorem cutMult_eq (m : ℤ) (hm : m ≠ 0) (q : ℤ) (even : Bool) :
    cutMult m (some q) even = Int.sign m * cellCount m q even := by
  have hM : 0 < max (m.natAbs : ℤ) q := lt_max_of_lt_left (by omega)
  have hw : (if q > (m.natAbs : ℤ) then Int.sign m * q else m) = Int.sign m * max (m.natAbs : ℤ) q := by
    split_ifs with h
    · rw [max_eq_right h.le]
    · rw [max_eq_left (not_lt.mp h), Int.sign_mul_natAbs]
  have hs : Int.sign m = -1 ∨ Int.sign m = 1 :=
    (lt_or_gt_of_ne hm).imp Int.sign_eq_neg_one_of_neg Int.sign_eq_one_of_pos
  unfold cutMult cellCount
  simp only [hw]
  generalize max (m.natAbs : ℤ) q = M at hM ⊢
  generalize Int.sign m = s at hs ⊢
  cases even
  · rfl
  · simp only [Bool.true_and, decide_eq_true_eq, true_and]
    split_ifs <;> rcases hs with rfl | rfl <;> omega

/-- without `minwidth` nothing is widened: the same as `minwidth = 0`. -/
theorem cutMult_none_eq (m : ℤ) (even : Bool) : cutMult m none even = cutMult m (some 0) even := by
  have h : ¬ (0 : ℤ) > (m.natAbs : ℤ) := by omega
  simp only [cutMult, if_neg h]

theorem natAbs_cutMult (m : ℤ) (hm : m ≠ 0) (q : ℤ) (even : Bool) :
    ((cutMult m (some q) even).natAbs : ℤ) = cellCount m q even := by
  have hN : 0 ≤ cellCount m q even :=
    le_trans (le_trans (Int.natCast_nonneg _) (le_max_left _ q)) (cellCount_bounds m q even).1
  rw [cutMult_eq m hm, Int.natAbs_mul, Int.natAbs_sign_of_ne_zero hm, one_mul, Int.natAbs_of_nonneg hN]

/-- the number of cells along the cut is EXACTLY the larger of the given multiplier and `q = ceil(minwidth / W)`,
    made even by adding one when `even` is asked for: never fewer, never more (`natAbs_cutMult` with `cellCount`
    written out). -/
theorem cutMult_exact (m : ℤ) (hm : m ≠ 0) (q : ℤ) (even : Bool) :
    ((cutMult m (some q) even).natAbs : ℤ) =
      (if even = true ∧ (max (m.natAbs : ℤ) q) % 2 = 1 then max (m.natAbs : ℤ) q + 1 else max (m.natAbs : ℤ) q) :=
  natAbs_cutMult m hm q even

/-- with `minwidth` (`q = ceil(minwidth / rcellwidth)`): sign kept, magnitude not reduced, at least `q` cells thick,
    even when `even` is set, unchanged when neither option bites. -/
theorem cutMult_some (m : ℤ) (hm : m ≠ 0) (q : ℤ) (even : Bool) :
    (0 < m → 0 < cutMult m (some q) even) ∧ (m < 0 → cutMult m (some q) even < 0) ∧
    m.natAbs ≤ (cutMult m (some q) even).natAbs ∧ q ≤ (cutMult m (some q) even).natAbs ∧
    (even = true → cutMult m (some q) even % 2 = 0) ∧
    (even = false → q ≤ m.natAbs → cutMult m (some q) even = m) := by
  have hx : ((cutMult m (some q) even).natAbs : ℤ) = cellCount m q even := natAbs_cutMult m hm q even
  have hc := cutMult_eq m hm q even
  have hge := (cellCount_bounds m q even).1
  have hm' : (m.natAbs : ℤ) ≤ cellCount m q even := le_trans (le_max_left _ q) hge
  have hN : 0 < cellCount m q even := lt_of_lt_of_le (by omega) hm'
  refine ⟨fun h => ?_, fun h => ?_, ?_, ?_, ?_, ?_⟩
  · rw [hc, Int.sign_eq_one_of_pos h, one_mul]; exact hN
  · rw [hc, Int.sign_eq_neg_one_of_neg h, neg_one_mul]; exact neg_neg_of_pos hN
  · rw [← hx] at hm'; exact_mod_cast hm'
  · rw [hx]; exact le_trans (le_max_right _ q) hge
  · rintro rfl
    rw [hc]
    exact Int.emod_eq_zero_of_dvd (Dvd.dvd.mul_left (Int.dvd_of_emod_eq_zero (cellCount_true m q)) _)
  · rintro rfl hq
    rw [hc, cellCount_false, max_eq_left hq, Int.sign_mul_natAbs]

/-- the multiplier along the cut without `minwidth`: sign kept, magnitude not reduced, even when `even`
    is set, unchanged otherwise. -/
theorem cutMult_none (m : ℤ) (hm : m ≠ 0) (even : Bool) :
    (0 < m → 0 < cutMult m none even) ∧ (m < 0 → cutMult m none even < 0) ∧
    m.natAbs ≤ (cutMult m none even).natAbs ∧ (cutMult m none even).natAbs ≤ m.natAbs + 1 ∧
    (even = true → cutMult m none even % 2 = 0) ∧ (even = false → cutMult m none even = m) := by
  rw [cutMult_none_eq]
  obtain ⟨h1, h2, h3, -, h5, h6⟩ := cutMult_some m hm 0 even
  refine ⟨h1, h2, h3, ?_, h5, fun he => h6 he (Int.natCast_nonneg _)⟩
  have hx : ((cutMult m (some 0) even).natAbs : ℤ) = cellCount m 0 even := natAbs_cutMult m hm 0 even
  have := (cellCount_bounds m 0 even).2
  rw [max_eq_left (Int.natCast_nonneg _), ← hx] at this
  exact_mod_cast this

section width
variable {K : Type} [Field K] [LinearOrder K] [IsStrictOrderedRing K] [FloorRing K]

/-- `N` cells of width `W` against `minwidth`: at least `ceil(minwidth / W)` cells are thick enough; with exactly that
    many, one cell fewer is too thin. -/
theorem ceil_cells {W : K} (hW : 0 < W) (mw : K) (N : ℕ) :
    (⌈mw / W⌉ ≤ (N : ℤ) → mw ≤ (N : K) * W) ∧ ((N : ℤ) = ⌈mw / W⌉ → ((N : K) - 1) * W < mw) := by
  constructor
  · intro h
    have h1 : mw / W ≤ ((N : ℤ) : K) := (Int.le_ceil _).trans (Int.cast_le.mpr h)
    rwa [div_le_iff₀ hW, Int.cast_natCast] at h1
  · intro h
    have h1 : ((N : ℤ) : K) - 1 < mw / W := by rw [h]; linarith [Int.ceil_lt_add_one (mw / W)]
    rwa [lt_div_iff₀ hW, Int.cast_natCast] at h1

/-- with `q = ceil(minwidth / W)`: the slab is at least `minwidth` thick, and when `minwidth` (not the given
    multiplier, not `even`) decides, one cell fewer would be too thin - also when `minwidth` is an exact multiple of
    the cell width (`q` cells then, not `q + 1`). -/
theorem cutMult_minwidth (m : ℤ) (hm : m ≠ 0) (W mw : K) (hW : 0 < W) (even : Bool) :
    mw ≤ ((cutMult m (some ⌈mw / W⌉) even).natAbs : K) * W ∧
    (even = false → (m.natAbs : ℤ) < ⌈mw / W⌉ →
      (((cutMult m (some ⌈mw / W⌉) even).natAbs : K) - 1) * W < mw) := by
  have hx : ((cutMult m (some ⌈mw / W⌉) even).natAbs : ℤ) = cellCount m ⌈mw / W⌉ even := natAbs_cutMult m hm _ even
  obtain ⟨h1, h2⟩ := ceil_cells hW mw (cutMult m (some ⌈mw / W⌉) even).natAbs
  refine ⟨h1 ?_, fun he hlt => h2 ?_⟩
  · rw [hx]; exact le_trans (le_max_right _ _) (cellCount_bounds m _ even).1
  · -- `minwidth` decides: the count is `ceil(minwidth / W)` itself
    rw [hx, he, cellCount_false, max_eq_right hlt.le]

end width

example : cutMult 1 (some ⌈((6 : ℚ)) / 3⌉) false = 2 := by
  have : ⌈((6 : ℚ)) / 3⌉ = 2 := by norm_num [Int.ceil_eq_iff]
  rw [this]; decide

end Atomman.C14
