/-
  C02 — the entry points around the kernels: `displacement`, the rows of the wrappers (the broadcasting rule itself is in
  `C02_Broadcast`), the dispatch and squeeze of `System.dvect/dmag`, the argument handling of `atomman.dvect/dmag` (`dvectApi` / `dmag2Api`: the hand model as a caller
  sees it), and the end-to-end theorems, stated about the definitions of `Atomman/Generated/DvectSource.lean` (what the
  source says now; proved equal to the hand model in `Proofs/C02_Source.lean`).
-/
import Proofs.C02_Search
import Proofs.C02_Source

namespace Atomman.C02
open Atomman
set_option linter.unusedSectionVars false

variable {K : Type} [Field K] [LinearOrder K] [IsStrictOrderedRing K]

/-- `dmag²` is `‖dvect‖²` pair by pair; every entry point lifts this. -/
theorem map_dmag2_eq (v : M3 K) (px py pz : Bool) (l : List (V3 K × V3 K)) :
    (l.map fun pq => dmag2 v px py pz pq.1 pq.2) = (l.map fun pq => dvect v px py pz pq.1 pq.2).map V3.normSq := by
  rw [List.map_map]
  exact List.map_congr_left fun pq _ => dmag2_eq_normsq_dvect v px py pz pq.1 pq.2

theorem dmag2Arr_eq (vects : M3 K) (px py pz : Bool) (as bs : List (V3 K)) :
    dmag2Arr vects px py pz as bs = (dvectArr vects px py pz as bs).map (List.map V3.normSq) := by
  rw [dmag2Arr, dvectArr, Option.map_map]
  exact congrArg (Option.map · _) (funext fun l => map_dmag2_eq vects px py pz l)

/-- `displacement` is the periodic separation atom by atom under the chosen reference cell. -/
theorem displacement_atomwise (s0 s1 : Sys K) (ref : String) (l : List (V3 K))
    (h : displacement s0 s1 ref = .ok l) :
    s0.pos.length = s1.pos.length ∧ l.length = s0.pos.length ∧
    ∃ rb, refBox s0 s1 ref = some rb ∧
      ∀ (i : Nat) (h0 : i < s0.pos.length) (h1 : i < s1.pos.length) (hl : i < l.length),
        l[i] = dispWith rb s0.pos[i] s1.pos[i] := by
  unfold displacement at h
  split at h
  · cases h
  · rename_i hlen
    have hlen' : s0.pos.length = s1.pos.length := by
      by_contra hc; exact hlen hc
    split at h
    · rename_i rb hrb
      injection h with h
      subst h
      refine ⟨hlen', by simp [hlen'], rb, hrb, ?_⟩
      intro i h0 h1 hl
      simp
    · cases h

theorem refBox_final (s0 s1 : Sys K) : refBox s0 s1 "final" = some (some (s1.vects, s1.px, s1.py, s1.pz)) := by
  simp [refBox]
theorem refBox_initial (s0 s1 : Sys K) : refBox s0 s1 "initial" = some (some (s0.vects, s0.px, s0.py, s0.pz)) := by
  simp [refBox]
theorem refBox_none (s0 s1 : Sys K) : refBox s0 s1 "None" = some none := by
  simp [refBox]

theorem dispWith_some (v : M3 K) (px py pz : Bool) (a b : V3 K) :
    dispWith (some (v, px, py, pz)) a b = dvect v px py pz a b := rfl
theorem dispWith_none (a b : V3 K) : dispWith (K := K) none a b = b - a := rfl

/-- whatever the broadcast shape (one-to-many, many-to-one, many-to-many): every row the wrapper returns is
    `dvect` of a point of `pos_0` and a point of `pos_1`, hence an admissible image of their direct separation
    and not longer than any of the 27 candidates. -/
theorem dvectArr_rows (vects : M3 K) (px py pz : Bool) (as bs rows : List (V3 K))
    (h : dvectArr vects px py pz as bs = some rows) :
    ∀ r ∈ rows, ∃ p0 ∈ as, ∃ p1 ∈ bs, r = dvect vects px py pz p0 p1 ∧
      (∃ n : Shift, n.admissible px py pz ∧ r = (p1 - p0) + latticeVec vects n) ∧
      ∀ m : Shift, m.admissible px py pz → V3.normSq r ≤ V3.normSq ((p1 - p0) + latticeVec vects m) := by
  unfold dvectArr at h
  cases hb : broadcast as bs with
  | none => rw [hb] at h; cases h
  | some l =>
    rw [hb] at h
    simp only [Option.map_some, Option.some.injEq] at h
    subst h
    intro r hr
    simp only [List.mem_map] at hr
    obtain ⟨pq, hpq, rfl⟩ := hr
    obtain ⟨h0, h1⟩ := broadcast_mem as bs l hb pq hpq
    exact ⟨pq.1, h0, pq.2, h1, rfl, dvect_is_image vects px py pz pq.1 pq.2,
      fun m hm => dvect_min27 vects px py pz pq.1 pq.2 m hm⟩

theorem selectBoth_ok (atoms : List (V3 K)) (s0 s1 : Sel K) (a b : List (V3 K))
    (h : selectBoth atoms s0 s1 = .ok (a, b)) : select atoms s0 = .ok a ∧ select atoms s1 = .ok b := by
  unfold selectBoth at h
  split at h
  · rename_i x y hx hy
    injection h with h
    simp only [Prod.mk.injEq] at h
    rw [hx, hy, h.1, h.2]
    exact ⟨rfl, rfl⟩
  · cases h
  · cases h
  · split at h
    · cases h
    · split at h <;> cases h

/-- `System.dvect`: an accepted call returns the wrapper's rows for the two selections, squeezed exactly when
    there is one row. -/
theorem sysDvect_rows (atoms : List (V3 K)) (vects : M3 K) (px py pz : Bool) (s0 s1 : Sel K) (sq : Bool)
    (rows : List (V3 K)) (h : sysDvect atoms vects px py pz s0 s1 = .ok (sq, rows)) :
    ∃ a b, select atoms s0 = .ok a ∧ select atoms s1 = .ok b ∧ dvectArr vects px py pz a b = some rows ∧
      sq = (rows.length == 1) := by
  unfold sysDvect at h
  cases hs : selectBoth atoms s0 s1 with
  | error e => rw [hs] at h; cases h
  | ok ab =>
    obtain ⟨a, b⟩ := ab
    rw [hs] at h
    simp only [exceptSimp] at h
    cases hd : dvectArr vects px py pz a b with
    | none => rw [hd] at h; cases h
    | some r =>
      rw [hd] at h
      simp only [exceptSimp, squeeze, Except.ok.injEq, Prod.mk.injEq] at h
      obtain ⟨h1, h2⟩ := h
      subst h2
      obtain ⟨ha, hb⟩ := selectBoth_ok atoms s0 s1 a b hs
      exact ⟨a, b, ha, hb, hd, h1.symm⟩

/-- `System.dmag` is `System.dvect` followed by the length, row by row, same squeeze, same refusals. -/
theorem sysDmag2_eq (atoms : List (V3 K)) (vects : M3 K) (px py pz : Bool) (s0 s1 : Sel K) :
    sysDmag2 atoms vects px py pz s0 s1 =
      (sysDvect atoms vects px py pz s0 s1).map fun r => (r.1, r.2.map V3.normSq) := by
  unfold sysDmag2 sysDvect
  cases hs : selectBoth atoms s0 s1 with
  | error e => rfl
  | ok ab =>
    obtain ⟨a, b⟩ := ab
    simp only [exceptSimp]
    rw [dmag2Arr_eq]
    cases hd : dvectArr vects px py pz a b with
    | none => rfl
    | some r => simp [exceptSimp, squeeze]

/-- the documented refusals of `displacement`: different numbers of atoms (for EVERY `box_reference`, a
    one-atom system included — no broadcasting), and any `box_reference` other than the three keywords. -/
theorem displacement_refuses (s0 s1 : Sys K) (ref : String) :
    (s0.pos.length ≠ s1.pos.length → displacement s0 s1 ref = .error "value") ∧
    (ref ≠ "final" → ref ≠ "initial" → ref ≠ "None" → displacement s0 s1 ref = .error "value") := by
  constructor
  · intro h; simp [displacement, h]
  · intro h1 h2 h3
    unfold displacement
    split
    · rfl
    · simp [refBox, h1, h2, h3]

theorem apiFlags_isSome_iff (pbc : List Int) : (∃ f, apiFlags pbc = some f) ↔ 3 ≤ pbc.length := by
  rcases pbc with _ | ⟨a, _ | ⟨b, _ | ⟨c, t⟩⟩⟩ <;> simp [apiFlags]

theorem apiPairs_rows {a0 a1 : PosArg K} {l0 l1 : List (V3 K)} (h0 : a0.rowsOf = some l0) (h1 : a1.rowsOf = some l1) :
    apiPairs a0 a1 = match broadcast l0 l1 with | some r => .ok r | none => .error "value" := by
  cases a0 <;> cases a1 <;> cases h0 <;> cases h1 <;> rfl

/-- the outcomes of the rank checks: a refusal — TypeError for a 0-d argument whatever the other one is, ValueError for a
    rank-3 one when neither is 0-d — or two arguments taken as rows. -/
theorem apiPairs_cases (a0 a1 : PosArg K) :
    (∃ e, apiPairs a0 a1 = .error e ∧ (a0.rowsOf = none ∨ a1.rowsOf = none) ∧
      ((a0 = .scalar ∨ a1 = .scalar) ∧ e = "type" ∨ (a0 ≠ .scalar ∧ a1 ≠ .scalar) ∧ e = "value")) ∨
    (a0 ≠ .scalar ∧ a1 ≠ .scalar ∧ ∃ l0 l1, a0.rowsOf = some l0 ∧ a1.rowsOf = some l1) := by
  cases a0 <;> cases a1 <;> simp [apiPairs, PosArg.rowsOf]

/-- on accepted arguments the API model is the array-level model of the rows, under the truth values of the first three
    flags (further entries are never read). -/
theorem dvectApi_eq_arr (v : M3 K) (a b c : Int) (rest : List Int) (a0 a1 : PosArg K) (l0 l1 : List (V3 K))
    (h0 : a0.rowsOf = some l0) (h1 : a1.rowsOf = some l1) :
    dvectApi v (a :: b :: c :: rest) a0 a1 =
      match dvectArr v (a != 0) (b != 0) (c != 0) l0 l1 with
      | some r => .ok r
      | none => .error "value" := by
  rw [dvectApi, apiPairs_rows h0 h1, dvectArr]
  cases broadcast l0 l1 <;> rfl

/-- ACCEPTANCE, exactly: `atomman.dvect` returns a value iff both arguments are a point or an `(n,3)` array (no 0-d value,
    no rank-3 array), the lengths are compatible (one of them 1, or equal) and `pbc` has at least three entries. -/
theorem dvectApi_ok_iff (v : M3 K) (pbc : List Int) (a0 a1 : PosArg K) :
    (∃ r, dvectApi v pbc a0 a1 = .ok r) ↔
      ∃ l0 l1, a0.rowsOf = some l0 ∧ a1.rowsOf = some l1 ∧
        (l0.length = 1 ∨ l1.length = 1 ∨ l0.length = l1.length) ∧ 3 ≤ pbc.length := by
  rcases apiPairs_cases a0 a1 with ⟨e, h, hr, _⟩ | ⟨_, _, l0, l1, h0, h1⟩
  · rw [dvectApi, h]
    refine ⟨(fun ⟨_, hr⟩ => nomatch hr), fun ⟨l0, l1, h0, h1, _⟩ => ?_⟩
    rcases hr with hr | hr
    · rw [hr] at h0; cases h0
    · rw [hr] at h1; cases h1
  · rw [dvectApi, apiPairs_rows h0 h1]
    constructor
    · intro ⟨r, hr⟩
      cases hb : broadcast l0 l1 with
      | none => rw [hb] at hr; cases hr
      | some l =>
        cases hf : apiFlags pbc with
        | none => rw [hb, hf] at hr; cases hr
        | some f =>
          exact ⟨l0, l1, h0, h1, (broadcast_isSome_iff l0 l1).mp ⟨l, hb⟩, (apiFlags_isSome_iff pbc).mp ⟨f, hf⟩⟩
    · rintro ⟨l0', l1', h0', h1', hlen, h3⟩
      rw [h0] at h0'; rw [h1] at h1'
      cases h0'; cases h1'
      obtain ⟨l, hb⟩ := (broadcast_isSome_iff l0 l1).mpr hlen
      obtain ⟨⟨px, py, pz⟩, hf⟩ := (apiFlags_isSome_iff pbc).mpr h3
      rw [hb, hf]
      exact ⟨_, rfl⟩

/-- REFUSAL CLASS: a TypeError is raised exactly for a 0-d argument (it wins over every ValueError: the rank checks come
    first in the wrapper). -/
theorem dvectApi_type_iff (v : M3 K) (pbc : List Int) (a0 a1 : PosArg K) :
    dvectApi v pbc a0 a1 = .error "type" ↔ (a0 = .scalar ∨ a1 = .scalar) := by
  rcases apiPairs_cases a0 a1 with ⟨e, h, _, ⟨hs, rfl⟩ | ⟨⟨n0, n1⟩, rfl⟩⟩ | ⟨n0, n1, l0, l1, h0, h1⟩
  · rw [dvectApi, h]
    exact ⟨fun _ => hs, fun _ => rfl⟩
  · rw [dvectApi, h]
    exact ⟨(fun hv => absurd (Except.error.inj hv) (by decide)), fun hs => (hs.elim n0 n1).elim⟩
  · rw [dvectApi, apiPairs_rows h0 h1]
    refine ⟨fun ht => ?_, fun hs => (hs.elim n0 n1).elim⟩
    cases hb : broadcast l0 l1 <;> cases hf : apiFlags pbc <;> simp [hb, hf] at ht

/-- independence of representation: a point handed over as a flat `(3,)` value and as a one-row `(1,3)` array are the same
    argument, on either side, for `dvect` and `dmag`. -/
theorem dvectApi_flat_eq_rows (v : M3 K) (pbc : List Int) (p : V3 K) (a : PosArg K) :
    dvectApi v pbc (.flat p) a = dvectApi v pbc (.rows [p]) a ∧ dvectApi v pbc a (.flat p) = dvectApi v pbc a (.rows [p]) ∧
    dmag2Api v pbc (.flat p) a = dmag2Api v pbc (.rows [p]) a ∧ dmag2Api v pbc a (.flat p) = dmag2Api v pbc a (.rows [p]) := by
  have h1 : apiPairs (.flat p) a = apiPairs (.rows [p]) a := by
    cases a <;> simp [apiPairs, broadcast]
  have h2 : apiPairs a (.flat p) = apiPairs a (.rows [p]) := by
    cases a with
    | scalar => rfl
    | rank3 n => rfl
    | flat q => simp [apiPairs]
    | rows l => rfl
  simp [dvectApi, dmag2Api, h1, h2]

/-- REFUSAL CLASSES, complete: a refused call raises a TypeError or a ValueError — or `pbc` has fewer than three entries
    (an unchecked read in the real code, outside the model).  That with at least three flags a ValueError is raised exactly
    when no argument is 0-d and the call is not accepted is `dvectApi_value_iff`. -/
theorem dvectApi_error_class (v : M3 K) (pbc : List Int) (a0 a1 : PosArg K) (e : String)
    (h : dvectApi v pbc a0 a1 = .error e) :
    e = "type" ∨ e = "value" ∨ (e = "undefined" ∧ pbc.length < 3) := by
  rcases apiPairs_cases a0 a1 with ⟨e', hp, _, he⟩ | ⟨_, _, l0, l1, h0, h1⟩
  · rw [dvectApi, hp] at h
    cases h
    exact he.elim (fun h => Or.inl h.2) fun h => Or.inr (Or.inl h.2)
  · rw [dvectApi, apiPairs_rows h0 h1] at h
    cases hb : broadcast l0 l1 with
    | none => rw [hb] at h; cases h; exact Or.inr (Or.inl rfl)
    | some l =>
      cases hf : apiFlags pbc with
      | some f => rw [hb, hf] at h; cases h
      | none =>
        rw [hb, hf] at h; cases h
        refine Or.inr (Or.inr ⟨rfl, Nat.lt_of_not_le fun h3 => ?_⟩)
        obtain ⟨f, hf'⟩ := (apiFlags_isSome_iff pbc).mpr h3
        rw [hf] at hf'; cases hf'

/-- REFUSAL CLASS ValueError, exactly: with at least three
    flags a ValueError is raised iff no argument is 0-d and the call is not accepted. -/
theorem dvectApi_value_iff (v : M3 K) (pbc : List Int) (a0 a1 : PosArg K) (h3 : 3 ≤ pbc.length) :
    dvectApi v pbc a0 a1 = .error "value" ↔
      (a0 ≠ .scalar ∧ a1 ≠ .scalar ∧ ¬ ∃ r, dvectApi v pbc a0 a1 = .ok r) := by
  constructor
  · intro h
    have ht : ¬ (a0 = .scalar ∨ a1 = .scalar) := fun hs => by
      have := (dvectApi_type_iff v pbc a0 a1).mpr hs
      rw [h] at this; simp at this
    exact ⟨fun hs => ht (Or.inl hs), fun hs => ht (Or.inr hs), fun ⟨r, hr⟩ => by rw [h] at hr; cases hr⟩
  · rintro ⟨h0, h1, hno⟩
    cases hd : dvectApi v pbc a0 a1 with
    | ok r => exact absurd ⟨r, hd⟩ hno
    | error e =>
      rcases dvectApi_error_class v pbc a0 a1 e hd with he | he | ⟨_, hlt⟩
      · subst he
        exact ((dvectApi_type_iff v pbc a0 a1).mp hd).elim (absurd · h0) (absurd · h1)
      · rw [he]
      · omega

/-- instances around `dvectApi_value_iff`: both sides true for a rank-3 argument and for incompatible lengths; with only two
    flags (its hypothesis `3 ≤ pbc.length` not met) the refusal is `undefined`, not a ValueError. -/
example :
    let v : M3 ℚ := ⟨⟨4, 0, 0⟩, ⟨1, 4, 0⟩, ⟨1, 1, 4⟩⟩
    dvectApi v [1, 0, 1] (.rows [⟨0, 0, 0⟩, ⟨1, 0, 0⟩]) (.rank3 2) = .error "value" ∧
    dvectApi v [1, 0, 1] (.rows [⟨0, 0, 0⟩, ⟨1, 0, 0⟩]) (.rows [⟨0, 0, 0⟩, ⟨1, 0, 0⟩, ⟨2, 0, 0⟩]) = .error "value" ∧
    dvectApi v [1, 0] (.rows [⟨0, 0, 0⟩]) (.rows [⟨3, 0, 0⟩]) = .error "undefined" := by
  decide +kernel

/-- only the TRUTH VALUE of the first three flags matters: `1`, `2`, `-1`, `np.True_` are the same flag, entries beyond
    the third are never read. -/
theorem dvectApi_flag_forms (v : M3 K) (a b c a' b' c' : Int) (rest rest' : List Int) (a0 a1 : PosArg K)
    (ha : (a != 0) = (a' != 0)) (hb : (b != 0) = (b' != 0)) (hc : (c != 0) = (c' != 0)) :
    dvectApi v (a :: b :: c :: rest) a0 a1 = dvectApi v (a' :: b' :: c' :: rest') a0 a1 ∧
    dmag2Api v (a :: b :: c :: rest) a0 a1 = dmag2Api v (a' :: b' :: c' :: rest') a0 a1 := by
  simp [dvectApi, dmag2Api, apiFlags, ha, hb, hc]

/-- `atomman.dmag` squared is `atomman.dvect` row by row squared, with the same refusals — for every argument form. -/
theorem dmag2Api_eq (v : M3 K) (pbc : List Int) (a0 a1 : PosArg K) :
    dmag2Api v pbc a0 a1 = (dvectApi v pbc a0 a1).map (List.map V3.normSq) := by
  unfold dmag2Api dvectApi
  cases apiPairs a0 a1 with
  | error e => rfl
  | ok l =>
    cases apiFlags pbc with
    | none => rfl
    | some f =>
      obtain ⟨px, py, pz⟩ := f
      exact congrArg Except.ok (map_dmag2_eq v px py pz l)

open Atomman.Generated in
/-- END TO END, `atomman.dvect` as the source reads now: for every accepted call each returned row is the periodic
    separation of a point of `pos_0` and a point of `pos_1` under the truth values of `pbc[0..2]`: the direct separation
    shifted by whole cell vectors along periodic directions only, never longer than any of the 27 candidates. -/
theorem api_dvect_end_to_end (v : M3 K) (a b c : Int) (rest : List Int) (a0 a1 : PosArg K) (r : List (V3 K))
    (h : DvectSource.dvectWrap v (a :: b :: c :: rest) a0 a1 = .ok r) :
    ∃ l0 l1, a0.rowsOf = some l0 ∧ a1.rowsOf = some l1 ∧
      r.length = (if l0.length = 1 then l1.length else l0.length) ∧
      ∀ d ∈ r, ∃ p0 ∈ l0, ∃ p1 ∈ l1, d = dvect v (a != 0) (b != 0) (c != 0) p0 p1 ∧
        (∃ n : Shift, n.admissible (a != 0) (b != 0) (c != 0) ∧ d = (p1 - p0) + latticeVec v n) ∧
        ∀ m : Shift, m.admissible (a != 0) (b != 0) (c != 0) → V3.normSq d ≤ V3.normSq ((p1 - p0) + latticeVec v m) := by
  rw [Source.gen_dvectWrap_eq_model] at h
  obtain ⟨l0, l1, h0, h1, _, _⟩ := (dvectApi_ok_iff v _ a0 a1).mp ⟨r, h⟩
  rw [dvectApi_eq_arr v a b c rest a0 a1 l0 l1 h0 h1] at h
  cases hd : dvectArr v (a != 0) (b != 0) (c != 0) l0 l1 with
  | none => rw [hd] at h; cases h
  | some rows =>
    rw [hd] at h; cases h
    refine ⟨l0, l1, h0, h1, ?_, dvectArr_rows v _ _ _ l0 l1 r hd⟩
    cases hb : broadcast l0 l1 with
    | none => simp [dvectArr, hb] at hd
    | some l =>
      simp only [dvectArr, hb, Option.map_some, Option.some.injEq] at hd
      subst hd
      simpa using broadcast_length l0 l1 l hb

open Atomman.Generated in
/-- END TO END, `atomman.dmag` as the source reads now: the values (before `** 0.5`) are the squared lengths of the rows
    `atomman.dvect` returns for the same call, refusals included. -/
theorem api_dmag_end_to_end (v : M3 K) (a b c : Int) (rest : List Int) (a0 a1 : PosArg K) :
    DvectSource.dmagWrap v (a :: b :: c :: rest) a0 a1 =
      (DvectSource.dvectWrap v (a :: b :: c :: rest) a0 a1).map (List.map V3.normSq) := by
  rw [Source.gen_dmagWrap_eq_model, Source.gen_dvectWrap_eq_model, dmag2Api_eq]

/-- ACCEPTANCE of `displacement`, exactly: equal atom counts and one of the three references. -/
theorem displacement_ok_iff (s0 s1 : Sys K) (ref : String) :
    (∃ l, displacement s0 s1 ref = .ok l) ↔
      s0.pos.length = s1.pos.length ∧ (ref = "final" ∨ ref = "initial" ∨ ref = "None") := by
  unfold displacement refBox
  by_cases hn : s0.pos.length = s1.pos.length
  · by_cases h1 : ref = "final"
    · simp [hn, h1]
    · by_cases h2 : ref = "initial"
      · simp [hn, h2]
      · by_cases h3 : ref = "None" <;> simp [hn, h1, h2, h3]
  · simp [hn]

open Atomman.Generated in
/-- END TO END, `atomman.displacement` as the source reads now (it goes through the WRAPPER `dvect`, broadcasting rule
    included): an accepted call returns one row per atom; with `'final'` / `'initial'` row `i` is the periodic separation of
    atom `i` of the two systems under the named system's cell and flags — an admissible image of the direct separation,
    not longer than any of the 27 candidates; with `None` the plain difference. A one-atom system is never broadcast. -/
theorem api_displacement_end_to_end (s0 s1 : Sys K) (ref : String) (l : List (V3 K))
    (h : DvectSource.displacement s0 s1 ref = .ok l) :
    s0.pos.length = s1.pos.length ∧ l.length = s0.pos.length ∧
    ∃ rb, refBox s0 s1 ref = some rb ∧
      ∀ (i : Nat) (h0 : i < s0.pos.length) (h1 : i < s1.pos.length) (hl : i < l.length),
        l[i] = dispWith rb s0.pos[i] s1.pos[i] ∧
        (rb = none → l[i] = s1.pos[i] - s0.pos[i]) ∧
        (∀ v px py pz, rb = some (v, px, py, pz) →
          (∃ n : Shift, n.admissible px py pz ∧ l[i] = (s1.pos[i] - s0.pos[i]) + latticeVec v n) ∧
          ∀ m : Shift, m.admissible px py pz →
            V3.normSq l[i] ≤ V3.normSq ((s1.pos[i] - s0.pos[i]) + latticeVec v m)) := by
  rw [Source.gen_displacement_eq_model] at h
  obtain ⟨hlen, hl, rb, hrb, hrows⟩ := displacement_atomwise s0 s1 ref l h
  refine ⟨hlen, hl, rb, hrb, ?_⟩
  intro i h0 h1 hli
  have hi := hrows i h0 h1 hli
  refine ⟨hi, ?_, ?_⟩
  · intro hnone; rw [hi, hnone]; rfl
  · intro v px py pz hsome
    rw [hi, hsome]
    exact ⟨dvect_is_image v px py pz _ _, fun m hm => dvect_min27 v px py pz _ _ m hm⟩

open Atomman.Generated in
/-- `System.dvect` / `System.dmag` as the source reads now: the generated `sysDvect` is the hand model (so `sysDvect_rows`
    speaks of it), the generated `sysDmag` is its squared lengths with the same squeeze and the same refusals. -/
theorem api_system_end_to_end (atoms : List (V3 K)) (v : M3 K) (px py pz : Bool) (s0 s1 : Sel K) :
    DvectSource.sysDvect atoms v px py pz s0 s1 = sysDvect atoms v px py pz s0 s1 ∧
    DvectSource.sysDmag atoms v px py pz s0 s1 =
      (DvectSource.sysDvect atoms v px py pz s0 s1).map (fun r => (r.1, r.2.map V3.normSq)) := by
  refine ⟨Source.gen_sysDvect_eq_model _ _ _ _ _ _ _, ?_⟩
  rw [Source.gen_sysDmag_eq_model, Source.gen_sysDvect_eq_model, sysDmag2_eq]

/-- the `System.pbc` setter accepts exactly three entries (anything else is the AssertionError) and stores their truth
    values. -/
theorem pbcSetter_ok_iff (value : List Int) :
    (∃ f, Atomman.Generated.DvectSource.pbcSetter value = some f) ↔ value.length = 3 := by
  rw [Source.gen_pbcSetter_eq_model]
  rcases value with _ | ⟨a, _ | ⟨b, _ | ⟨c, _ | ⟨d, t⟩⟩⟩⟩ <;> simp [pbcSetterArg]

/-- non-vacuity of the API theorems: a one-to-many call with a flat point, integer-valued flags `(2, 0, -1, 7)` (truth
    values `True, False, True`; the fourth entry is never read), and the refusals. -/
example :
    let v : M3 ℚ := ⟨⟨4, 0, 0⟩, ⟨1, 4, 0⟩, ⟨1, 1, 4⟩⟩
    dvectApi v [2, 0, -1, 7] (.flat ⟨0, 0, 0⟩) (.rows [⟨3, 0, 0⟩, ⟨0, 3, 0⟩]) = .ok [⟨-1, 0, 0⟩, ⟨0, 3, 0⟩] ∧
    dvectApi v [1, 0, 1] (.flat ⟨0, 0, 0⟩) (.rows [⟨3, 0, 0⟩, ⟨0, 3, 0⟩]) = .ok [⟨-1, 0, 0⟩, ⟨0, 3, 0⟩] ∧
    dvectApi v [1, 1, 1] .scalar (.rank3 2) = .error "type" ∧
    dvectApi v [1, 1, 1] (.rows [⟨0, 0, 0⟩]) (.rank3 2) = .error "value" ∧
    dvectApi v [1, 1, 1] (.rows [⟨0, 0, 0⟩, ⟨1, 0, 0⟩]) (.rows [⟨0, 0, 0⟩, ⟨1, 0, 0⟩, ⟨2, 0, 0⟩]) = .error "value" ∧
    Atomman.Generated.DvectSource.dvectWrap v [2, 0, -1, 7] (.flat ⟨0, 0, 0⟩) (.rows [⟨3, 0, 0⟩, ⟨0, 3, 0⟩])
      = .ok [⟨-1, 0, 0⟩, ⟨0, 3, 0⟩] ∧
    Atomman.Generated.DvectSource.displacement ⟨v, true, true, true, [⟨0, 0, 0⟩]⟩ ⟨v, false, false, false, [⟨3, 0, 0⟩]⟩ "initial"
      = .ok [⟨-1, 0, 0⟩] ∧
    Atomman.Generated.DvectSource.displacement ⟨v, true, true, true, [⟨0, 0, 0⟩]⟩
      ⟨v, false, false, false, [⟨3, 0, 0⟩, ⟨1, 1, 1⟩]⟩ "final" = .error "value" ∧
    Atomman.Generated.DvectSource.pbcSetter [2, 0, -1] = some (true, false, true) ∧
    Atomman.Generated.DvectSource.pbcSetter [1, 0] = none := by
  decide +kernel

/-- a python int `0 ≤ i < natoms` selects atom `i`; `-natoms ≤ i < 0` selects atom `natoms + i`; anything else
    (a 0-d value reaches the wrapper) is a TypeError. -/
theorem select_idx (atoms : List (V3 K)) (i : Int) :
    (0 ≤ i → (h : i.toNat < atoms.length) → select atoms (.idx i) = .ok [atoms[i.toNat]]) ∧
    (i < 0 → -(atoms.length : Int) ≤ i → ∀ (h : (i + atoms.length).toNat < atoms.length),
        select atoms (.idx i) = .ok [atoms[(i + atoms.length).toNat]]) ∧
    ((atoms.length : Int) ≤ i ∨ i < -(atoms.length : Int) → select atoms (.idx i) = .error "type") := by
  refine ⟨?_, ?_, ?_⟩
  · intro h0 h
    have hi : i < (atoms.length : Int) := by omega
    simp [select, wrapIndex, h0, hi]
  · intro hneg hlo h
    have h1 : ¬ (0 ≤ i ∧ i < (atoms.length : Int)) := by omega
    simp [select, wrapIndex, h1, hneg, hlo, List.getElem?_eq_getElem h]
  · intro h
    have h1 : ¬ (0 ≤ i ∧ i < (atoms.length : Int)) := by omega
    have h2 : ¬ (i < 0 ∧ -(atoms.length : Int) ≤ i) := by omega
    simp [select, wrapIndex, h1, h2]

/-- explicit float positions are taken as they are; an int 3-tuple is ONE position (too many indices for the
    position array); an integer (k,3) array all of whose entries are usable as indices IS an index (the call is
    then refused with ValueError: a 3-d array reaches the wrapper). -/
theorem select_positions (atoms : List (V3 K)) :
    (∀ l, select atoms (.pos l) = .ok l) ∧
    (∀ a b c : Int, select atoms (.tuple [a, b, c]) = .ok [⟨(a : K), (b : K), (c : K)⟩]) ∧
    (∀ rows ks, (rows.flatMap fun r => [r.1, r.2.1, r.2.2]).mapM (wrapIndex atoms.length) = some ks →
        select atoms (.ipos rows) = .error "value") := by
  refine ⟨fun _ => rfl, fun _ _ _ => rfl, ?_⟩
  intro rows ks h
  simp only [select, h]

/-- `dvectArr_many_to_one` (three points against one), `dvectArr_many_to_many` (two against two), `dvectArr_none_iff`
    (two against three is refused), `displacement_atomwise` / `displacement_ok_iff` (two atoms, `'initial'`),
    `displacement_refuses` (unknown keyword). -/
example :
    let v : M3 ℚ := ⟨⟨4, 0, 0⟩, ⟨1, 4, 0⟩, ⟨1, 1, 4⟩⟩
    dvectArr v true true false [⟨0, 0, 0⟩, ⟨1, 0, 0⟩, ⟨0, 1, 0⟩] [⟨3, 0, 0⟩] = some [⟨-1, 0, 0⟩, ⟨2, 0, 0⟩, ⟨-1, -1, 0⟩] ∧
    dvectArr v true true false [⟨0, 0, 0⟩, ⟨1, 0, 0⟩] [⟨3, 0, 0⟩, ⟨1, 3, 0⟩] = some [⟨-1, 0, 0⟩, ⟨-1, -1, 0⟩] ∧
    dvectArr v true true false [⟨0, 0, 0⟩, ⟨1, 0, 0⟩] [⟨3, 0, 0⟩, ⟨1, 3, 0⟩, ⟨0, 0, 0⟩] = none ∧
    displacement ⟨v, true, true, true, [⟨0, 0, 0⟩, ⟨1, 0, 0⟩]⟩ ⟨v, false, false, false, [⟨3, 0, 0⟩, ⟨1, 3, 0⟩]⟩ "initial"
      = .ok [⟨-1, 0, 0⟩, ⟨-1, -1, 0⟩] ∧
    displacement ⟨v, true, true, true, [⟨0, 0, 0⟩, ⟨1, 0, 0⟩]⟩ ⟨v, false, false, false, [⟨3, 0, 0⟩, ⟨1, 3, 0⟩]⟩ "final"
      = .ok [⟨3, 0, 0⟩, ⟨0, 3, 0⟩] ∧
    displacement ⟨v, true, true, true, [⟨0, 0, 0⟩]⟩ ⟨v, false, false, false, [⟨3, 0, 0⟩]⟩ "Final" = .error "value" := by
  decide +kernel

/-- `select_idx` (a negative index that wraps, an index past the end), `select_positions` third clause (an integer
    `(1,3)` array all of whose entries are usable as indices of a three-atom system: taken as a fancy index, refused;
    with an entry out of range: taken as ONE position), and the hypotheses of `sysDvect_rows` (on which
    `World.sysDvect_history` of `C02_World` rests) with a two-row (unsqueezed) answer. -/
example :
    let atoms : List (V3 ℚ) := [⟨0, 0, 0⟩, ⟨3, 0, 0⟩, ⟨1, 1, 1⟩]
    let v : M3 ℚ := ⟨⟨4, 0, 0⟩, ⟨0, 4, 0⟩, ⟨0, 0, 4⟩⟩
    select atoms (.idx (-1)) = .ok [⟨1, 1, 1⟩] ∧ select atoms (.idx 3) = .error "type" ∧
    select atoms (.idx (-4)) = .error "type" ∧
    ([(2, 0, 1)].flatMap fun r : Int × Int × Int => [r.1, r.2.1, r.2.2]).mapM (wrapIndex atoms.length) = some [2, 0, 1] ∧
    select atoms (.ipos [(2, 0, 1)]) = .error "value" ∧
    select atoms (.ipos [(2, 0, 5)]) = .ok [⟨2, 0, 5⟩] ∧
    sysDvect atoms v true true true (.idx 0) (.list [1, 2]) = .ok (false, [⟨-1, 0, 0⟩, ⟨1, 1, 1⟩]) := by
  decide +kernel

end Atomman.C02
