/-
  C11 — `normalized_as`: each generated normalisation formula, applied to a tensor that already has the target
  form (the generated template of the system), returns the same constants.
-/
import Proofs.C11_Compliance

namespace Atomman.C11
open Atomman.Gen Matrix

variable {K : Type} [Field K] [CharZero K]

omit [CharZero K] in
theorem m6_normalized_triclinic (c : M6 K) : m6 (normalized_triclinic c) = c := by
  funext a b
  fin_cases a <;> fin_cases b <;> rfl

theorem norm_fix_cubic (a b d : K) : normalized_cubic (m6 (ctor_C11_C12_C44 a b d)) = ctor_C11_C12_C44 a b d := by
  simp only [normalized_cubic]
  congr 1 <;> (simp [m6, ctor_C11_C12_C44]; field_simp; ring)

theorem norm_fix_hexagonal (C11 C12 C13 C33 C44 : K) :
    normalized_hexagonal (m6 (ctor_C11_C12_C13_C33_C44 C11 C12 C13 C33 C44))
      = ctor_C11_C12_C13_C33_C44 C11 C12 C13 C33 C44 := by
  simp only [normalized_hexagonal]
  congr 1 <;> (simp [m6, ctor_C11_C12_C13_C33_C44] <;> field_simp <;> ring)

theorem norm_fix_tetragonal (C11 C12 C13 C16 C33 C44 C66 : K) :
    normalized_tetragonal (m6 (ctor_C11_C12_C13_C16_C33_C44_C66 C11 C12 C13 C16 C33 C44 C66))
      = ctor_C11_C12_C13_C16_C33_C44_C66 C11 C12 C13 C16 C33 C44 C66 := by
  simp only [normalized_tetragonal]
  congr 1 <;> simp [m6, ctor_C11_C12_C13_C16_C33_C44_C66]

theorem norm_fix_rhombohedral (C11 C12 C13 C14 C15 C33 C44 : K) :
    normalized_rhombohedral (m6 (ctor_C11_C12_C13_C14_C15_C33_C44 C11 C12 C13 C14 C15 C33 C44))
      = ctor_C11_C12_C13_C14_C15_C33_C44 C11 C12 C13 C14 C15 C33 C44 := by
  simp only [normalized_rhombohedral]
  congr 1 <;> (simp [m6, ctor_C11_C12_C13_C14_C15_C33_C44] <;> field_simp <;> ring)

omit [CharZero K] in
theorem norm_fix_orthorhombic (C11 C12 C13 C22 C23 C33 C44 C55 C66 : K) :
    normalized_orthorhombic (m6 (ctor_C11_C12_C13_C22_C23_C33_C44_C55_C66 C11 C12 C13 C22 C23 C33 C44 C55 C66))
      = ctor_C11_C12_C13_C22_C23_C33_C44_C55_C66 C11 C12 C13 C22 C23 C33 C44 C55 C66 := by
  simp only [normalized_orthorhombic]
  congr 1

omit [CharZero K] in
theorem norm_fix_monoclinic (C11 C12 C13 C15 C22 C23 C25 C33 C35 C44 C46 C55 C66 : K) :
    normalized_monoclinic (m6 (ctor_C11_C12_C13_C15_C22_C23_C25_C33_C35_C44_C46_C55_C66
        C11 C12 C13 C15 C22 C23 C25 C33 C35 C44 C46 C55 C66))
      = ctor_C11_C12_C13_C15_C22_C23_C25_C33_C35_C44_C46_C55_C66 C11 C12 C13 C15 C22 C23 C25 C33 C35 C44 C46 C55 C66 := by
  simp only [normalized_monoclinic]
  congr 1

theorem norm_fix_isotropic (mu Kb : K) (hmu : mu ≠ 0) (hK : Kb ≠ 0) (s' : M6 K)
    (hsc : ∀ a d, ∑ b, s' a b * m6 (ctor_mu_K mu Kb) b d = if a = d then 1 else 0) :
    normalized_isotropic (m6 (ctor_mu_K mu Kb)) s' = ctor_mu_K mu Kb := by
  have hs : s' = isoS mu Kb := inverse_unique _ _ _ hsc (iso_mul_isoS mu Kb hmu hK)
  obtain ⟨h1, h2⟩ := hill_of_iso mu Kb hmu hK
  simp only [normalized_isotropic, hs, h1, h2]

end Atomman.C11
