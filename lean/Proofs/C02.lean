/- C02 — periodic separation: root of the property's proof modules. -/
import Proofs.C02_Broadcast
import Proofs.C02_Search
import Proofs.C02_Nearest
import Proofs.C02_Calls
import Proofs.C02_World
