/-
  C14, the layer list of `FreeSurface.__init__`: `np.unique(round(x, numdec))` as a fold of `insertKey` gives a strictly
  ascending list of atom coordinates that covers every rounded coordinate (`layerCoords_spec`); with
  `Proofs/C14_Shifts.lean`: every offered shift keeps every periodic image of every layer representative and, up to the
  rounding step, of every atom away from the cut (`shift_between_planes_atoms`, `shift_between_planes_all_atoms`).
-/
import Proofs.C14_Shifts
import Proofs.C14_Fold
import Mathlib.Data.Rat.Floor

namespace Atomman.C14
open Atomman

theorem roundHalfEven_bounds (x : ℚ) :
    (roundHalfEven x = ⌊x⌋ ∧ x - ⌊x⌋ ≤ 1 / 2) ∨ (roundHalfEven x = ⌊x⌋ + 1 ∧ 1 / 2 ≤ x - ⌊x⌋) := by
  unfold roundHalfEven
  have hf : (Rat.floor x : ℤ) = ⌊x⌋ := rfl
  simp only [hf]
  split_ifs with h1 h2 h3
  · left; exact ⟨rfl, h1.le⟩
  · right; exact ⟨rfl, h2.le⟩
  · left; exact ⟨rfl, not_lt.mp h2⟩
  · right; exact ⟨rfl, not_lt.mp h1⟩

theorem roundHalfEven_mono {x y : ℚ} (h : x ≤ y) : roundHalfEven x ≤ roundHalfEven y := by
  have hfl : ⌊x⌋ ≤ ⌊y⌋ := Int.floor_mono h
  rcases roundHalfEven_bounds x with ⟨e1, l1⟩ | ⟨e1, l1⟩ <;> rcases roundHalfEven_bounds y with ⟨e2, l2⟩ | ⟨e2, l2⟩
  · rw [e1, e2]; exact hfl
  · rw [e1, e2]; omega
  · -- `x` rounded up, `y` rounded down: either the floors differ, or both sit on the same half and `x = y`
    rcases lt_or_eq_of_le hfl with hlt | heq
    · rw [e1, e2]; omega
    · have hq : (⌊x⌋ : ℚ) = ⌊y⌋ := by exact_mod_cast heq
      have : x = y := by linarith
      rw [this]
  · rw [e1, e2]; omega

theorem roundHalfEven_close (x : ℚ) : |(roundHalfEven x : ℚ) - x| ≤ 1 / 2 := by
  have f1 := Int.floor_le x
  have f2 := Int.lt_floor_add_one x
  rw [abs_le]
  rcases roundHalfEven_bounds x with ⟨e, l⟩ | ⟨e, l⟩ <;> rw [e] <;> push_cast <;> constructor <;> linarith

theorem roundKey_mono (d : ℕ) {x y : ℚ} (h : x ≤ y) : roundKey d x ≤ roundKey d y := by
  unfold roundKey
  apply roundHalfEven_mono
  have : (0 : ℚ) ≤ ((10 ^ d : ℕ) : ℚ) := by positivity
  exact mul_le_mul_of_nonneg_right h this

theorem lt_of_roundKey_lt (d : ℕ) {x y : ℚ} (h : roundKey d x < roundKey d y) : x < y := by
  by_contra hn
  have := roundKey_mono d (not_lt.mp hn)
  omega

/-- everything one insertion does to a list with strictly ascending keys; the new key is present afterwards under the
    new pair or under the one that had it (`np.unique` keeps the first occurrence). -/
theorem insertKey_spec (kx : ℤ × ℚ) (l : List (ℤ × ℚ)) (h : l.Pairwise (fun p q => p.1 < q.1)) :
    (insertKey kx l).Pairwise (fun p q => p.1 < q.1) ∧ (∀ p ∈ insertKey kx l, p = kx ∨ p ∈ l) ∧
    (∃ p ∈ insertKey kx l, p.1 = kx.1) ∧ ∀ q ∈ l, q ∈ insertKey kx l := by
  induction l with
  | nil => simp [insertKey]
  | cons q t ih =>
    obtain ⟨k, y⟩ := q
    rw [List.pairwise_cons] at h
    simp only [insertKey]
    split_ifs with h1 h2
    · refine ⟨List.pairwise_cons.mpr ⟨fun p hp => ?_, List.pairwise_cons.mpr h⟩, fun p hp => List.mem_cons.mp hp,
        ⟨kx, List.mem_cons_self, rfl⟩, fun q hq => List.mem_cons_of_mem _ hq⟩
      rcases List.mem_cons.mp hp with rfl | hp
      · exact h1
      · exact lt_trans h1 (h.1 p hp)
    · exact ⟨List.pairwise_cons.mpr h, fun p hp => Or.inr hp, ⟨(k, y), List.mem_cons_self, h2.symm⟩, fun q hq => hq⟩
    · obtain ⟨s1, s2, ⟨p0, hp0, hk0⟩, s4⟩ := ih h.2
      refine ⟨List.pairwise_cons.mpr ⟨fun p hp => ?_, s1⟩, fun p hp => ?_, ⟨p0, List.mem_cons_of_mem _ hp0, hk0⟩,
        fun q hq => ?_⟩
      · rcases s2 p hp with rfl | hp
        · show k < p.1; omega
        · exact h.1 p hp
      · rcases List.mem_cons.mp hp with rfl | hp
        · exact Or.inr List.mem_cons_self
        · exact (s2 p hp).imp_right (List.mem_cons_of_mem _)
      · rcases List.mem_cons.mp hq with rfl | hq
        · exact List.mem_cons_self
        · exact List.mem_cons_of_mem _ (s4 q hq)

/-- **layerCoords_spec**: the layer list is strictly ascending, consists of coordinates of atoms, and every
    atom's rounded coordinate is represented by exactly such an entry. -/
theorem layerCoords_spec (d : ℕ) (xs : List ℚ) :
    (layerCoords d xs).Pairwise (· < ·) ∧ (∀ c ∈ layerCoords d xs, c ∈ xs) ∧
    (∀ x ∈ xs, ∃ c ∈ layerCoords d xs, roundKey d c = roundKey d x) := by
  unfold layerCoords
  -- after the coordinates `pre`: keys ascending, every entry is a processed coordinate under its own key,
  -- every processed coordinate finds its key
  have key := foldl_inv_prefix (fun acc x => insertKey (roundKey d x, x) acc)
    (fun pre acc => acc.Pairwise (fun p q => p.1 < q.1) ∧ (∀ p ∈ acc, p.1 = roundKey d p.2 ∧ p.2 ∈ pre) ∧
      ∀ x ∈ pre, ∃ p ∈ acc, p.1 = roundKey d x) xs []
    ⟨List.Pairwise.nil, fun p hp => absurd hp List.not_mem_nil, fun x hx => absurd hx List.not_mem_nil⟩ ?_
  · obtain ⟨s1, s2, s3⟩ := key
    refine ⟨?_, ?_, ?_⟩
    · rw [List.pairwise_map]
      refine s1.imp_of_mem fun {p q} hp hq hpq => ?_
      rw [(s2 p hp).1, (s2 q hq).1] at hpq
      exact lt_of_roundKey_lt d hpq
    · intro c hc
      obtain ⟨p, hp, rfl⟩ := List.mem_map.mp hc
      exact (s2 p hp).2
    · intro x hx
      obtain ⟨p, hp, hk⟩ := s3 x hx
      exact ⟨p.2, List.mem_map.mpr ⟨p, hp, rfl⟩, by rw [← (s2 p hp).1]; exact hk⟩
  · rintro pre acc x ⟨h1, h2, h3⟩
    obtain ⟨hsorted, hmem, ⟨p0, hp0, hk0⟩, hall⟩ := insertKey_spec (roundKey d x, x) acc h1
    refine ⟨hsorted, fun p hp => ?_, forall_mem_snoc.mpr ⟨fun y hy => ?_, p0, hp0, hk0⟩⟩
    · rcases hmem p hp with rfl | hp
      · exact ⟨rfl, mem_snoc_self pre x⟩
      · exact ⟨(h2 p hp).1, List.mem_append_left _ (h2 p hp).2⟩
    · obtain ⟨p, hp, hk⟩ := h3 y hy
      exact ⟨p, hall p hp, hk⟩


/-- **shift_between_planes** for the layer list the code builds from the atoms of the rotated cell (all
    cut coordinates inside one period `[lo, lo + W]`): every offered shift keeps every periodic image of
    every layer representative at least half an interlayer gap away from the cut. -/
theorem shift_between_planes_atoms (d : ℕ) (xs : List ℚ) (W tol lo : ℚ) (hne : xs ≠ [])
    (hbox : ∀ x ∈ xs, lo ≤ x ∧ x ≤ lo + W) (hW0 : 0 < W) (htol : 0 ≤ tol) :
    ∀ s ∈ shifts (layerCoords d xs) W tol, ∃ p q : ℚ,
      (p, q) ∈ consec (withReplica (layerCoords d xs) W tol) ∧ p < q ∧
      (∃ j : ℤ, s = (j : ℚ) * W - (p + q) / 2) ∧
      (∀ c ∈ layerCoords d xs, ∀ m : ℤ, c + s + (m : ℚ) * W ≤ -((q - p) / 2) ∨ (q - p) / 2 ≤ c + s + (m : ℚ) * W) ∧
      (∀ c ∈ layerCoords d xs, ∀ m : ℤ, c + s + (m : ℚ) * W ≠ 0) := by
  obtain ⟨h1, h2, h3⟩ := layerCoords_spec d xs
  have hne' : layerCoords d xs ≠ [] := by
    obtain ⟨x, hx⟩ := List.exists_mem_of_ne_nil xs hne
    obtain ⟨c, hc, _⟩ := h3 x hx
    exact List.ne_nil_of_mem hc
  have hf : (layerCoords d xs).head? = some ((layerCoords d xs).head hne') := List.head?_eq_some_head hne'
  have hl : (layerCoords d xs).getLast? = some ((layerCoords d xs).getLast hne') :=
    List.getLast?_eq_some_getLast hne'
  have b1 := hbox _ (h2 _ (List.head_mem hne'))
  have b2 := hbox _ (h2 _ (List.getLast_mem hne'))
  exact shift_between_planes (layerCoords d xs) W tol _ _ h1 hf hl (by linarith) hW0 htol

/-- two coordinates with the same rounded key `round(x, d)` differ by at most `10^-d`. -/
theorem roundKey_close (d : ℕ) (x c : ℚ) (h : roundKey d c = roundKey d x) :
    |x - c| ≤ 1 / ((10 ^ d : ℕ) : ℚ) := by
  unfold roundKey at h
  have htpos : (0 : ℚ) < ((10 ^ d : ℕ) : ℚ) := by positivity
  generalize ((10 ^ d : ℕ) : ℚ) = t at h htpos
  have hx := roundHalfEven_close (x * t)
  have hc := roundHalfEven_close (c * t)
  rw [h] at hc
  have key : |x * t - c * t| ≤ 1 :=
    calc |x * t - c * t| ≤ |x * t - roundHalfEven (x * t)| + |roundHalfEven (x * t) - c * t| := abs_sub_le _ _ _
      _ ≤ 1 / 2 + 1 / 2 := add_le_add (by rw [abs_sub_comm]; exact hx) hc
      _ = 1 := by norm_num
  rw [le_div_iff₀ htpos, ← abs_of_pos htpos, ← abs_mul, sub_mul]
  exact key

/-- **shift_between_planes for EVERY atom** (not only the layer representatives the code keeps): after an offered
    shift every periodic image of every atom of the rotated cell is at least half the interlayer gap minus the
    rounding step `10^-numdec` away from the cut. -/
theorem shift_between_planes_all_atoms (d : ℕ) (xs : List ℚ) (W tol lo : ℚ) (hne : xs ≠ [])
    (hbox : ∀ x ∈ xs, lo ≤ x ∧ x ≤ lo + W) (hW0 : 0 < W) (htol : 0 ≤ tol) :
    ∀ s ∈ shifts (layerCoords d xs) W tol, ∃ p q : ℚ,
      (p, q) ∈ consec (withReplica (layerCoords d xs) W tol) ∧ p < q ∧
      ∀ x ∈ xs, ∀ m : ℤ,
        x + s + (m : ℚ) * W ≤ -((q - p) / 2 - 1 / ((10 ^ d : ℕ) : ℚ)) ∨
        (q - p) / 2 - 1 / ((10 ^ d : ℕ) : ℚ) ≤ x + s + (m : ℚ) * W := by
  intro s hs
  obtain ⟨p, q, hpq, hlt, _, hall, _⟩ := shift_between_planes_atoms d xs W tol lo hne hbox hW0 htol s hs
  refine ⟨p, q, hpq, hlt, ?_⟩
  intro x hx m
  obtain ⟨c, hc, hk⟩ := (layerCoords_spec d xs).2.2 x hx
  have hcl := abs_le.mp (roundKey_close d x c hk)
  rcases hall c hc m with h | h
  · left; linarith [hcl.2]
  · right; linarith [hcl.1]

end Atomman.C14
