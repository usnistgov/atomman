/-
  C08 — columns ↔ components of a per-atom property: the writer's column names are the index tuples in `indexstr` order,
  the `k`-th has row-major offset `k`, and `reshape` / `flatten` are inverse to each other on every shape.
-/
import Atomman.C08
import Proofs.Lists
namespace Atomman.C08
open Atomman Atomman.C07
set_option linter.unusedSimpArgs false

theorem shapeProd_cons (d : Nat) (ds : List Nat) : shapeProd (d :: ds) = d * shapeProd ds := rfl

theorem length_allIndices (shape : List Nat) : (allIndices shape).length = shapeProd shape := by
  induction shape with
  | nil => rfl
  | cons d ds ih =>
    unfold allIndices
    rw [length_flatten_const _ (shapeProd ds) (by simp [ih]), List.length_map, List.length_range, shapeProd_cons]

/-- the column names the writer generates (`C07.indexNames`, i.e. `indexstr`) are `name[i][j]…` for the index tuples
    in `allIndices` order. -/
theorem indexNames_eq_map (name : String) (shape : List Nat) :
    indexNames name shape = (allIndices shape).map (indexName name) := by
  induction shape generalizing name with
  | nil => rfl
  | cons d ds ih =>
    unfold indexNames allIndices
    rw [List.map_flatten, List.map_map]
    congr 1
    apply List.map_congr_left
    intro i _
    simp only [Function.comp, List.map_map, ih]
    rfl

theorem flatten_range_blocks (d P : Nat) :
    ((List.range d).map fun i => (List.range P).map fun j => i * P + j).flatten = List.range (d * P) := by
  induction d with
  | zero => simp
  | succ d ih =>
    rw [List.range_succ, List.map_append, List.flatten_append, ih]
    simp only [List.map_cons, List.map_nil, List.flatten_cons, List.flatten_nil, List.append_nil]
    rw [Nat.succ_mul, List.range_add]

/-- **column ↔ index**: the `k`-th index tuple in `indexstr` order has row-major offset `k`. -/
theorem flatIndex_allIndices (shape : List Nat) :
    (allIndices shape).map (flatIndex shape) = List.range (shapeProd shape) := by
  induction shape with
  | nil => rfl
  | cons d ds ih =>
    unfold allIndices
    rw [List.map_flatten, List.map_map, shapeProd_cons, ← flatten_range_blocks]
    congr 1
    apply List.map_congr_left
    intro i _
    simp only [Function.comp, List.map_map]
    have : (fun is => flatIndex (d :: ds) (i :: is)) = fun is => i * shapeProd ds + flatIndex ds is := by
      funext is; rfl
    show List.map (fun is => flatIndex (d :: ds) (i :: is)) (allIndices ds) = _
    rw [this, ← ih, List.map_map]
    rfl


theorem chunks_length {α : Type} (k n : Nat) (l : List α) : (chunks k n l).length = n := by
  induction n generalizing l with
  | zero => rfl
  | succ n ih => simp [chunks, ih]

mutual
theorem flatten_length : ∀ (t : Tensor) (shape : List Nat), t.hasShape shape = true → t.flatten.length = shapeProd shape
  | .scalar q, [], _ => rfl
  | .scalar q, _ :: _, h => by simp [Tensor.hasShape] at h
  | .array l, [], h => by simp [Tensor.hasShape] at h
  | .array l, d :: ds, h => by
    simp only [Tensor.hasShape, Bool.and_eq_true, decide_eq_true_eq] at h
    rw [Tensor.flatten, flattenList_length l ds h.2, h.1, shapeProd_cons]
theorem flattenList_length : ∀ (l : List Tensor) (ds : List Nat), Tensor.allShape l ds = true →
    (Tensor.flattenList l).length = l.length * shapeProd ds
  | [], _, _ => by simp [Tensor.flattenList]
  | t :: ts, ds, h => by
    simp only [Tensor.allShape, Bool.and_eq_true] at h
    rw [Tensor.flattenList, List.length_append, flatten_length t ds h.1, flattenList_length ts ds h.2, List.length_cons,
      Nat.succ_mul, Nat.add_comm]
end

mutual
theorem reshape_flatten : ∀ (t : Tensor) (shape : List Nat), t.hasShape shape = true → reshape shape t.flatten = some t
  | .scalar q, [], _ => rfl
  | .scalar q, _ :: _, h => by simp [Tensor.hasShape] at h
  | .array l, [], h => by simp [Tensor.hasShape] at h
  | .array l, d :: ds, h => by
    simp only [Tensor.hasShape, Bool.and_eq_true, decide_eq_true_eq] at h
    have hl := flattenList_length l ds h.2
    rw [Tensor.flatten, reshape, if_pos (by rw [hl, h.1]), ← h.1, chunks_flattenList l ds h.2]
    rfl
theorem chunks_flattenList : ∀ (l : List Tensor) (ds : List Nat), Tensor.allShape l ds = true →
    (chunks (shapeProd ds) l.length (Tensor.flattenList l)).mapM (reshape ds) = some l
  | [], _, _ => rfl
  | t :: ts, ds, h => by
    simp only [Tensor.allShape, Bool.and_eq_true] at h
    have ht := flatten_length t ds h.1
    have e1 : (t.flatten ++ Tensor.flattenList ts).take (shapeProd ds) = t.flatten := by
      rw [← ht]; simp
    have e2 : (t.flatten ++ Tensor.flattenList ts).drop (shapeProd ds) = Tensor.flattenList ts := by
      rw [← ht]; simp
    simp only [Tensor.flattenList, List.length_cons, chunks, e1, e2, List.mapM_cons, reshape_flatten t ds h.1,
      chunks_flattenList ts ds h.2]
    rfl
end

theorem mapM_reshape_chunks (ds : List Nat)
    (ih : ∀ (l : List Rat) (t : Tensor), reshape ds l = some t → t.hasShape ds = true ∧ t.flatten = l) :
    ∀ (n : Nat) (l : List Rat) (ts : List Tensor), l.length = n * shapeProd ds →
      (chunks (shapeProd ds) n l).mapM (reshape ds) = some ts →
      ts.length = n ∧ Tensor.allShape ts ds = true ∧ Tensor.flattenList ts = l := by
  intro n
  induction n with
  | zero =>
    intro l ts hl h
    simp only [chunks, List.mapM_nil] at h
    have : ts = [] := by cases h; rfl
    subst this
    have : l = [] := List.eq_nil_of_length_eq_zero (by simpa using hl)
    subst this
    exact ⟨rfl, rfl, rfl⟩
  | succ n ihn =>
    intro l ts hl h
    simp only [chunks, List.mapM_cons] at h
    cases h1 : reshape ds (l.take (shapeProd ds)) with
    | none => rw [h1] at h; cases h
    | some t =>
      rw [h1] at h
      cases h2 : (chunks (shapeProd ds) n (l.drop (shapeProd ds))).mapM (reshape ds) with
      | none => rw [h2] at h; cases h
      | some ts' =>
        rw [h2] at h
        have : ts = t :: ts' := by cases h; rfl
        subst this
        obtain ⟨ht1, ht2⟩ := ih _ t h1
        have hd : (l.drop (shapeProd ds)).length = n * shapeProd ds := by
          rw [List.length_drop, hl, Nat.succ_mul]; omega
        obtain ⟨r1, r2, r3⟩ := ihn _ ts' hd h2
        refine ⟨by simp [r1], by simp [Tensor.allShape, ht1, r2], ?_⟩
        rw [Tensor.flattenList, ht2, r3, List.take_append_drop]

theorem reshape_hasShape_flatten : ∀ (shape : List Nat) (l : List Rat) (t : Tensor),
    reshape shape l = some t → t.hasShape shape = true ∧ t.flatten = l := by
  intro shape
  induction shape with
  | nil =>
    intro l t h
    match l, h with
    | [q], h => cases h; exact ⟨rfl, rfl⟩
  | cons d ds ih =>
    intro l t h
    rw [reshape] at h
    split at h
    · rename_i hl
      cases h2 : (chunks (shapeProd ds) d l).mapM (reshape ds) with
      | none => rw [h2] at h; cases h
      | some ts =>
        rw [h2] at h
        have : t = .array ts := by cases h; rfl
        subst this
        obtain ⟨r1, r2, r3⟩ := mapM_reshape_chunks ds ih d l ts hl h2
        exact ⟨by simp [Tensor.hasShape, r1, r2], by rw [Tensor.flatten, r3]⟩
    · cases h

theorem reshape_isSome_iff (shape : List Nat) (l : List Rat) : (reshape shape l).isSome ↔ l.length = shapeProd shape := by
  constructor
  · intro h
    obtain ⟨t, ht⟩ := Option.isSome_iff_exists.mp h
    obtain ⟨h1, h2⟩ := reshape_hasShape_flatten shape l t ht
    rw [← h2]; exact flatten_length t shape h1
  · intro h
    induction shape generalizing l with
    | nil =>
      match l, h with
      | [q], _ => rfl
    | cons d ds ih =>
      rw [reshape, if_pos (by rw [h, shapeProd_cons])]
      have : ∀ (n : Nat) (l : List Rat), l.length = n * shapeProd ds →
          ((chunks (shapeProd ds) n l).mapM (reshape ds)).isSome := by
        intro n
        induction n with
        | zero => intro l _; rfl
        | succ n ihn =>
          intro l hl
          have h1 := ih (l.take (shapeProd ds)) (by rw [List.length_take, hl, Nat.succ_mul]; omega)
          have h2 := ihn (l.drop (shapeProd ds)) (by rw [List.length_drop, hl, Nat.succ_mul]; omega)
          obtain ⟨a, ha⟩ := Option.isSome_iff_exists.mp h1
          obtain ⟨b, hb⟩ := Option.isSome_iff_exists.mp h2
          simp [chunks, List.mapM_cons, ha, hb]
      obtain ⟨ts, hts⟩ := Option.isSome_iff_exists.mp (this d l (by rw [h, shapeProd_cons]))
      simp [hts]

theorem hasShape_unique : ∀ (t : Tensor) (s₁ s₂ : List Nat), t.hasShape s₁ = true → t.hasShape s₂ = true →
    (∀ d ∈ s₁, d ≠ 0) → s₁ = s₂
  | .scalar q, [], [], _, _, _ => rfl
  | .scalar q, [], _ :: _, _, h, _ => by simp [Tensor.hasShape] at h
  | .scalar q, _ :: _, _, h, _, _ => by simp [Tensor.hasShape] at h
  | .array l, [], _, h, _, _ => by simp [Tensor.hasShape] at h
  | .array l, _ :: _, [], _, h, _ => by simp [Tensor.hasShape] at h
  | .array [], d₁ :: ds₁, d₂ :: ds₂, h1, _, hn => by
    simp only [Tensor.hasShape, Bool.and_eq_true, decide_eq_true_eq, List.length_nil] at h1
    exact absurd h1.1.symm (hn d₁ (by simp))
  | .array (t :: ts), d₁ :: ds₁, d₂ :: ds₂, h1, h2, hn => by
    simp only [Tensor.hasShape, Tensor.allShape, Bool.and_eq_true, decide_eq_true_eq] at h1 h2
    have := hasShape_unique t ds₁ ds₂ h1.2.1 h2.2.1 (fun d hd => hn d (by simp [hd]))
    rw [this, ← h1.1, ← h2.1]

end Atomman.C08
