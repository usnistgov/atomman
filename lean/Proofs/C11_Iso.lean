/-
  C11 — the isotropic material: the textbook moduli with Lamé constants `lam`, `mu`, the isotropic 6x6 pattern and its
  products; the block form (3x3 block and diagonal) that the isotropic, cubic and hexagonal 6x6 share; the fifteen
  modulus-pair theorems (`iso_range`, `iso_pair_*`, `iso_alias`).
-/
import Proofs.C11_Lemmas
import Mathlib.Algebra.Order.Field.Basic
import Mathlib.Tactic.Positivity

namespace Atomman.C11
open Atomman.Gen Matrix

section defs
variable {K : Type} [Field K]

/-- the 6x6 literal every isotropic branch ends in. -/
def isoList (c11 c12 c44 : K) : List K :=
  [c11, c12, c12, ((0 : Nat) : K), ((0 : Nat) : K), ((0 : Nat) : K),
   c12, c11, c12, ((0 : Nat) : K), ((0 : Nat) : K), ((0 : Nat) : K),
   c12, c12, c11, ((0 : Nat) : K), ((0 : Nat) : K), ((0 : Nat) : K),
   ((0 : Nat) : K), ((0 : Nat) : K), ((0 : Nat) : K), c44, ((0 : Nat) : K), ((0 : Nat) : K),
   ((0 : Nat) : K), ((0 : Nat) : K), ((0 : Nat) : K), ((0 : Nat) : K), c44, ((0 : Nat) : K),
   ((0 : Nat) : K), ((0 : Nat) : K), ((0 : Nat) : K), ((0 : Nat) : K), ((0 : Nat) : K), c44]

/-- textbook moduli in terms of the Lamé constants. -/
def isoE (lam mu : K) : K := mu * (3 * lam + 2 * mu) / (lam + mu)
def isoNu (lam mu : K) : K := lam / (2 * (lam + mu))
def isoK (lam mu : K) : K := lam + 2 * mu / 3
def isoM (lam mu : K) : K := lam + 2 * mu

/-- the isotropic stiffness `(C11, C12, C44) = (λ+2μ, λ, μ)`. -/
abbrev isoC (lam mu : K) : List K := isoList (lam + 2 * mu) lam mu

def blk (A : M33 K) (d : Fin 3 → K) : M6 K := fun a b =>
  Fin.addCases (m := 3) (n := 3) (motive := fun _ => K)
    (fun i => Fin.addCases (m := 3) (n := 3) (motive := fun _ => K) (fun j => A i j) (fun _ => 0) b)
    (fun i => Fin.addCases (m := 3) (n := 3) (motive := fun _ => K) (fun _ => 0) (fun j => if i = j then d i else 0) b)
    a

theorem blk_mul (A X : M33 K) (d e : Fin 3 → K) (a b : Fin 6) :
    ∑ k, blk A d a k * blk X e k b = blk (mmul A X) (fun i => d i * e i) a b := by
  rw [Fin.sum_univ_add (a := 3) (b := 3)]
  induction a using Fin.addCases (m := 3) (n := 3) <;> induction b using Fin.addCases (m := 3) (n := 3) <;>
    simp [blk, mmul, sum3_eq, -Fin.natAdd_eq_addNat]
  split_ifs with h
  · rw [h]
  · rfl

theorem one_eq_blk (a b : Fin 6) : (if a = b then (1 : K) else 0) = blk mone (fun _ => 1) a b := by
  fin_cases a <;> fin_cases b <;> rfl

/-- the block form as the row-major literal the constructors write, so that a literal is tied to its block form by
    `rfl`; `z` is the literal's zero (`((0 : ℕ) : K)` in the generated constructors, `0` in the hand-written
    compliances). -/
def blkL (z : K) (A : M33 K) (d : Fin 3 → K) : List K :=
  [A 0 0, A 0 1, A 0 2, z, z, z,
   A 1 0, A 1 1, A 1 2, z, z, z,
   A 2 0, A 2 1, A 2 2, z, z, z,
   z, z, z, d 0, z, z,
   z, z, z, z, d 1, z,
   z, z, z, z, z, d 2]

theorem m6_blkL {z : K} (hz : z = 0) (A : M33 K) (d : Fin 3 → K) : m6 (blkL z A d) = blk A d := by
  subst hz
  funext a b
  fin_cases a <;> fin_cases b <;> rfl

/-- 3x3 block with the `x`, `y` axes equivalent (transverse isotropy about `z`); closed under products. -/
def ti (p q r s t : K) : M33 K := m33 [p, q, r, q, p, r, s, s, t]

theorem ti_mul (p q r s t p' q' r' s' t' : K) :
    mmul (ti p q r s t) (ti p' q' r' s' t')
      = ti (p * p' + q * q' + r * s') (p * q' + q * p' + r * s') ((p + q) * r' + r * t') (s * (p' + q') + t * s')
          (2 * (s * r') + t * t') := by
  funext i j
  simp only [ti, m33_lit]
  fin_cases i <;> fin_cases j <;> simp [mmul, sum3] <;> ring

theorem mone_eq_ti : (mone : M33 K) = ti 1 0 0 0 1 := by
  funext i j
  fin_cases i <;> fin_cases j <;> rfl

theorem iso_blk (x y z : K) : m6 (isoList x y z) = blk (ti x y y y x) (fun _ => z) :=
  m6_blkL Nat.cast_zero (ti x y y y x) fun _ => z

theorem isoList_mul (a b c x y z : K) (i j : Fin 6) :
    ∑ k, m6 (isoList a b c) i k * m6 (isoList x y z) k j
      = m6 (isoList (a * x + 2 * (b * y)) (a * y + b * x + b * y) (c * z)) i j := by
  rw [iso_blk, iso_blk, iso_blk, blk_mul, ti_mul]
  congrm blk (ti ?_ ?_ ?_ ?_ ?_) _ i j <;> ring

theorem one_eq_isoList (i j : Fin 6) : (if i = j then (1 : K) else 0) = m6 (isoList 1 0 1) i j := by
  rw [iso_blk, ← mone_eq_ti, one_eq_blk]

end defs

section ordered
variable {K : Type} [Field K] [LinearOrder K] [IsStrictOrderedRing K]

/-! Every branch of `isotropic()` computes two of `c11 c12 c44` from its two moduli and derives the third, so a branch
    returns `(λ+2μ, λ, μ)` as soon as the two it computes are right. -/

omit [LinearOrder K] [IsStrictOrderedRing K] in
theorem isoList_of_c12_c44 {c12 c44 lam mu : K} (h1 : c12 = lam) (h2 : c44 = mu) :
    isoList (c12 + ((2 : ℕ) : K) * c44) c12 c44 = isoC lam mu := by
  rw [h1, h2, Nat.cast_ofNat]

omit [LinearOrder K] [IsStrictOrderedRing K] in
theorem isoList_of_c11_c44 {c11 c44 lam mu : K} (h1 : c11 = lam + 2 * mu) (h2 : c44 = mu) :
    isoList c11 (c11 - ((2 : ℕ) : K) * c44) c44 = isoC lam mu := by
  rw [h1, h2, Nat.cast_ofNat, add_sub_cancel_right]

theorem isoList_of_c11_c12 {c11 c12 lam mu : K} (h1 : c11 = lam + 2 * mu) (h2 : c12 = lam) :
    isoList c11 c12 ((c11 - c12) / ((2 : ℕ) : K)) = isoC lam mu := by
  rw [h1, h2, Nat.cast_ofNat, add_sub_cancel_left, mul_div_cancel_left₀ _ two_ne_zero]

/-- the denominators of the textbook moduli do not vanish for `0 ≤ λ`, `0 < μ`. -/
theorem iso_ne_zero (lam mu : K) (hl : 0 ≤ lam) (hm : 0 < mu) :
    lam + mu ≠ 0 ∧ mu ≠ 0 ∧ 3 * lam + 2 * mu ≠ 0 ∧ lam + 2 * mu ≠ 0 :=
  ⟨by positivity, hm.ne', by positivity, by positivity⟩

theorem one_sub_isoNu (lam mu : K) (hs : lam + mu ≠ 0) : 1 - isoNu lam mu = (lam + 2 * mu) / (2 * (lam + mu)) := by
  unfold isoNu; field_simp; ring
theorem one_add_isoNu (lam mu : K) (hs : lam + mu ≠ 0) : 1 + isoNu lam mu = (3 * lam + 2 * mu) / (2 * (lam + mu)) := by
  unfold isoNu; field_simp; ring
theorem one_sub_two_isoNu (lam mu : K) (hs : lam + mu ≠ 0) : 1 - 2 * isoNu lam mu = mu / (lam + mu) := by
  unfold isoNu; field_simp; ring

theorem iso_nu_range (lam mu : K) (hm : 0 < mu) (hs : 0 < lam + mu) :
    (0 ≤ isoNu lam mu ∧ isoNu lam mu < 1 / 2) ↔ 0 ≤ lam := by
  unfold isoNu
  constructor
  · rintro ⟨h0, _⟩
    have h2 : 0 < 2 * (lam + mu) := by positivity
    by_contra hneg
    rw [not_le] at hneg
    have : lam / (2 * (lam + mu)) < 0 := div_neg_of_neg_of_pos hneg h2
    linarith
  · intro hl
    refine ⟨by positivity, ?_⟩
    rw [div_lt_div_iff₀ (by positivity) (by norm_num)]
    nlinarith

/-! ## the fifteen isotropic modulus pairs return `(λ+2μ, λ, μ)` for `0 ≤ ν < ½`, `μ > 0`
    (`0 ≤ λ`, `0 < μ`: see `iso_nu_range`); `E, ν, K, M` are the textbook moduli `isoE … isoM` -/

section iso
variable (lam mu : K) (hl : 0 ≤ lam) (hm : 0 < mu)
include hl hm

/-- for `0 ≤ λ`, `0 < μ`: `0 ≤ ν < ½` and `E, K, M > 0` (the converse of the first part is `iso_nu_range`). -/
theorem iso_range : (0 ≤ isoNu lam mu ∧ isoNu lam mu < 1 / 2) ∧ 0 < isoE lam mu ∧ 0 < isoK lam mu ∧ 0 < isoM lam mu :=
  ⟨(iso_nu_range lam mu hm (by positivity)).mpr hl, by unfold isoE; positivity, by unfold isoK; positivity,
   by unfold isoM; positivity⟩

set_option linter.unusedSectionVars false in
theorem iso_pair_C11_C12 : ctor_C11_C12 (isoM lam mu) lam = isoC lam mu := isoList_of_c11_c12 rfl rfl
set_option linter.unusedSectionVars false in
theorem iso_pair_C11_C44 : ctor_C11_C44 (isoM lam mu) mu = isoC lam mu := isoList_of_c11_c44 rfl rfl
set_option linter.unusedSectionVars false in
theorem iso_pair_C11_K : ctor_C11_K (isoM lam mu) (isoK lam mu) = isoC lam mu :=
  isoList_of_c11_c44 rfl (by simp only [isoM, isoK, Nat.cast_ofNat]; ring)
set_option linter.unusedSectionVars false in
theorem iso_pair_C12_C44 : ctor_C12_C44 lam mu = isoC lam mu := isoList_of_c12_c44 rfl rfl
set_option linter.unusedSectionVars false in
theorem iso_pair_C12_K : ctor_C12_K lam (isoK lam mu) = isoC lam mu :=
  isoList_of_c12_c44 rfl (by simp only [isoK, Nat.cast_ofNat]; ring)
set_option linter.unusedSectionVars false in
theorem iso_pair_C44_K : ctor_C44_K mu (isoK lam mu) = isoC lam mu :=
  isoList_of_c12_c44 (by simp only [isoK, Nat.cast_ofNat]; ring) rfl

theorem iso_pair_C11_nu : ctor_C11_nu (isoM lam mu) (isoNu lam mu) = isoC lam mu := by
  obtain ⟨hs, hm', h3, h4⟩ := iso_ne_zero lam mu hl hm
  refine isoList_of_c11_c44 rfl ?_
  simp only [Nat.cast_ofNat, Nat.cast_one, one_sub_isoNu lam mu hs, one_sub_two_isoNu lam mu hs, isoM]
  field_simp

theorem iso_pair_C44_nu : ctor_C44_nu mu (isoNu lam mu) = isoC lam mu := by
  obtain ⟨hs, hm', h3, h4⟩ := iso_ne_zero lam mu hl hm
  refine isoList_of_c12_c44 ?_ rfl
  simp only [Nat.cast_ofNat, Nat.cast_one, one_sub_two_isoNu lam mu hs]
  unfold isoNu
  field_simp

theorem iso_pair_E_nu : ctor_E_nu (isoE lam mu) (isoNu lam mu) = isoC lam mu := by
  obtain ⟨hs, hm', h3, h4⟩ := iso_ne_zero lam mu hl hm
  refine isoList_of_c12_c44 ?_ ?_ <;> simp only [Nat.cast_ofNat, Nat.cast_one, one_add_isoNu lam mu hs, one_sub_two_isoNu lam mu hs, isoE]
  · unfold isoNu; field_simp
  · field_simp

theorem iso_pair_nu_K : ctor_nu_K (isoNu lam mu) (isoK lam mu) = isoC lam mu := by
  obtain ⟨hs, hm', h3, h4⟩ := iso_ne_zero lam mu hl hm
  refine isoList_of_c12_c44 ?_ ?_ <;> simp only [Nat.cast_ofNat, Nat.cast_one, one_add_isoNu lam mu hs, one_sub_two_isoNu lam mu hs, isoK]
  · unfold isoNu; field_simp
  · field_simp

theorem iso_pair_C44_E : ctor_C44_E mu (isoE lam mu) = isoC lam mu := by
  obtain ⟨hs, hm', h3, h4⟩ := iso_ne_zero lam mu hl hm
  have e : 3 * mu - isoE lam mu = mu * mu / (lam + mu) := by unfold isoE; field_simp; ring
  refine isoList_of_c12_c44 ?_ rfl
  simp only [Nat.cast_ofNat, e]
  unfold isoE; field_simp; ring

theorem iso_pair_E_K : ctor_E_K (isoE lam mu) (isoK lam mu) = isoC lam mu := by
  obtain ⟨hs, hm', h3, h4⟩ := iso_ne_zero lam mu hl hm
  have e : 9 * isoK lam mu - isoE lam mu = (3 * lam + 2 * mu) * (3 * lam + 2 * mu) / (lam + mu) := by
    unfold isoE isoK; field_simp; ring
  refine isoList_of_c12_c44 ?_ ?_ <;> (simp only [Nat.cast_ofNat, e]; unfold isoE isoK; field_simp)
  ring

/-- `(λ, ν)`: needs `ν ≠ 0`, i.e. `λ > 0` (at `ν = 0` the pair `(0, 0)` does not determine `μ`). -/
theorem iso_pair_C12_nu (hl' : 0 < lam) : ctor_C12_nu lam (isoNu lam mu) = isoC lam mu := by
  obtain ⟨hs, hm', h3, h4⟩ := iso_ne_zero lam mu hl hm
  have hl0 : lam ≠ 0 := hl'.ne'
  refine isoList_of_c12_c44 rfl ?_
  simp only [Nat.cast_ofNat, Nat.cast_one, one_sub_two_isoNu lam mu hs]
  unfold isoNu
  field_simp

/-- `(M, E)`: `S` is the square root taken by the code (`S*S = radicand`, `S ≥ 0`). -/
theorem iso_pair_C11_E (S : K) (hS : S * S = ctor_C11_E_radicand0 (isoM lam mu) (isoE lam mu)) (hS0 : 0 ≤ S) :
    ctor_C11_E (isoM lam mu) (isoE lam mu) S = isoC lam mu := by
  obtain ⟨hs, hm', h3, h4⟩ := iso_ne_zero lam mu hl hm
  have hS' : S = lam * (3 * lam + 4 * mu) / (lam + mu) := by
    have h0 : 0 ≤ lam * (3 * lam + 4 * mu) / (lam + mu) := by positivity
    apply (mul_self_inj hS0 h0).mp
    rw [hS]; simp only [ctor_C11_E_radicand0, isoM, isoE, Nat.cast_ofNat]
    field_simp; ring
  refine isoList_of_c11_c44 rfl ?_
  rw [hS', isoE, isoM]; push_cast; field_simp; ring

/-- `(λ, E)`: `R` is the square root taken by the code. -/
theorem iso_pair_C12_E (R : K) (hR : R * R = ctor_C12_E_radicand0 lam (isoE lam mu)) (hR0 : 0 ≤ R) :
    ctor_C12_E lam (isoE lam mu) R = isoC lam mu := by
  obtain ⟨hs, hm', h3, h4⟩ := iso_ne_zero lam mu hl hm
  have hR' : R = (3 * lam * lam + 4 * lam * mu + 2 * mu * mu) / (lam + mu) := by
    have h0 : 0 ≤ (3 * lam * lam + 4 * lam * mu + 2 * mu * mu) / (lam + mu) := by positivity
    apply (mul_self_inj hR0 h0).mp
    rw [hR]; simp only [ctor_C12_E_radicand0, isoE, Nat.cast_ofNat]
    field_simp; ring
  refine isoList_of_c12_c44 rfl ?_
  rw [hR', isoE]; push_cast; field_simp; ring

end iso

/-- non-vacuity of the root hypotheses: `λ = 1`, `μ = 1` gives `M = 3`, `E = 5/2`, radicand `49/4`, `S = 7/2`. -/
example : (7 / 2 : ℚ) * (7 / 2) = ctor_C11_E_radicand0 (isoM (1 : ℚ) 1) (isoE 1 1) ∧ (0 : ℚ) ≤ 7 / 2 := by
  constructor
  · simp [ctor_C11_E_radicand0, isoM, isoE]; norm_num
  · norm_num

set_option linter.unusedSectionVars false in
/-- the aliases `M`, `lambda`, `mu` run the same branches. -/
theorem iso_alias (a b r : K) :
    ctor_M_E a b r = ctor_C11_E a b r ∧ ctor_lambda_E a b r = ctor_C12_E a b r ∧ ctor_mu_E a b = ctor_C44_E a b ∧
    ctor_M_lambda a b = ctor_C11_C12 a b ∧ ctor_lambda_mu a b = ctor_C12_C44 a b ∧ ctor_mu_K a b = ctor_C44_K a b ∧
    ctor_M_nu a b = ctor_C11_nu a b ∧ ctor_lambda_nu a b = ctor_C12_nu a b ∧ ctor_mu_nu a b = ctor_C44_nu a b :=
  ⟨rfl, rfl, rfl, rfl, rfl, rfl, rfl, rfl, rfl⟩

end ordered

end Atomman.C11
