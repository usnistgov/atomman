/-
  C18 — the continuum half-width with the real logarithm: the only place that needs real analysis.
-/
import Proofs.C18_Profile
import Mathlib.Analysis.SpecialFunctions.Log.Basic

namespace Atomman.C18
open Atomman

/-- `halfwidth_continuum_partial` with the real logarithm (`Real.log_mul`, `Real.log_le_sub_one_of_pos`): no hypothesis left on `lg`. -/
theorem halfwidth_continuum_real (pi g0 Kb2 c : ℝ) (hpi : 0 < pi) (hg : 0 < g0) (hK : 0 < Kb2) (w : ℝ) (hw : 0 < w) :
    pi * g0 * (Kb2 / (4 * pi * pi * g0)) - Kb2 / (4 * pi) * Real.log (Kb2 / (4 * pi * pi * g0)) + c
      ≤ pi * g0 * w - Kb2 / (4 * pi) * Real.log w + c :=
  halfwidth_continuum_partial Real.log (fun _ _ hx hy => Real.log_mul hx.ne' hy.ne') (fun _ ht => Real.log_le_sub_one_of_pos ht)
    pi g0 Kb2 c hpi hg hK w hw

end Atomman.C18
