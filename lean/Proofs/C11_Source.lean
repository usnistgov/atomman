/-
  C11 — source tie of `atomman/tools/axes_check.py`: the definitions regenerated from the source on every run
  (`Generated/AxesCheck.lean`: entries of the returned array, the `allclose` tests in program order) say what the
  hand-written reference `axesCheckRef` says.  A source edit that changes what `axes_check` computes either re-proves
  or breaks `gen_axesCheck_eq_model`.
-/
import Atomman.C11
import Mathlib.Tactic.FinCases
import Mathlib.Data.Fintype.Basic
import Mathlib.Data.Fin.VecNotation
import Mathlib.Algebra.Order.Field.Basic

namespace Atomman.C11
open Atomman.Gen

variable {K : Type} [Field K] [LinearOrder K] [IsStrictOrderedRing K]

set_option linter.unusedSectionVars false in
/-- the generated entries of the returned array are the rows divided by their lengths. -/
theorem gen_axesCheckU_eq_model (axes : M33 K) (norms : Fin 3 → K) :
    m33 (axesCheckU axes norms) = fun i j => axes i j / norms i := by
  funext i j
  fin_cases i <;> fin_cases j <;> rfl

theorem find_two {α : Type} (p : α → Bool) (a b : α) :
    [a, b].find? p = if p a then some a else if p b then some b else none := by
  simp only [List.find?]
  cases p a <;> cases p b <;> rfl

theorem idx3_eq : idx3 = [(0, 0), (0, 1), (0, 2), (1, 0), (1, 1), (1, 2), (2, 0), (2, 1), (2, 2)] := rfl
theorem finRange_three : List.finRange 3 = [0, 1, 2] := rfl

/-- the generated `axes_check` (tests in program order, then the generated result) is the reference reading. -/
theorem gen_axesCheck_eq_model (tol : K) (axes : M33 K) (norms : Fin 3 → K) :
    axesCheckT tol axes norms = axesCheckRef tol axes norms := by
  unfold axesCheckT axesCheckTests axesCheckRef
  rw [gen_axesCheckU_eq_model, find_two, idx3_eq, finRange_three]
  -- both sides are `if gram-test then if cross-test then ok else ValueError else ValueError`; with the index lists
  -- written out `simp` produces the same nine and three `isclose` conjuncts on both sides, abstracted as `b1`, `b2`.
  simp only [List.all_cons, List.all_nil, sum3, Bool.and_true, errClass, if_true]
  simp only [Fin.isValue, Fin.reduceEq, reduceIte, Fin.val_zero, Fin.val_one, Fin.val_two, OfNat.ofNat_ne_zero,
    one_ne_zero, OfNat.ofNat_ne_one]
  generalize (isclose npRtol tol _ _ && (isclose npRtol tol _ _ && (isclose npRtol tol _ _ && (isclose npRtol tol _ _ &&
    (isclose npRtol tol _ _ && (isclose npRtol tol _ _ && (isclose npRtol tol _ _ && (isclose npRtol tol _ _ &&
    isclose npRtol tol _ _)))))))) = b1
  generalize (isclose npRtol tol _ _ && (isclose npRtol tol _ _ && isclose npRtol tol _ _)) = b2
  cases b1 <;> cases b2 <;> rfl

end Atomman.C11
