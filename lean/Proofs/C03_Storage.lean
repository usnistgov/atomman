/-
  C03 — the per-atom array `neighbors` with fixed capacity: one insertion on capacity rows (`insertPairA`: scans, growth
  block, shift loops) is one insertion on lists, row by row through `Holds`; hence the whole run (`runAW_refines`).
-/
import Proofs.C03_Rows
import Mathlib.Data.List.Basic
import Mathlib.Order.Nat

namespace Atomman.C03
open List

theorem drop_take_succ (r : List Nat) (j f : Nat) (h : j < r.length) :
    (r.drop j).take (f + 1) = r.getD j 0 :: (r.drop (j + 1)).take f := by
  rw [List.drop_eq_getElem_cons h, List.take_succ_cons]
  simp [List.getD_eq_getElem?_getD, List.getElem?_eq_getElem h]

theorem scanLoopA_spec (r : List Nat) (v : Nat) (f j : Nat) (h : j + f ≤ r.length) :
    (scanLoopA r v f j).1 = scanL v ((r.drop j).take f) ∧
    (scanL v ((r.drop j).take f) = true → (scanLoopA r v f j).2 = j + insPos v ((r.drop j).take f)) := by
  induction f generalizing j with
  | zero => simp [scanLoopA, scanL, insPos]
  | succ f ih =>
    rw [drop_take_succ r j f (by omega)]
    unfold scanLoopA scanL insPos
    simp only
    split
    · simp
    · split
      · simp
      · obtain ⟨h1, h2⟩ := ih (j + 1) (by omega)
        refine ⟨h1, fun hs => ?_⟩
        rw [h2 hs]; omega

theorem posLoopA_spec (r : List Nat) (u : Nat) (f j : Nat) (h : j + f ≤ r.length) :
    posLoopA r u f j = j + insPos u ((r.drop j).take f) := by
  induction f generalizing j with
  | zero => simp [posLoopA, insPos]
  | succ f ih =>
    rw [drop_take_succ r j f (by omega)]
    unfold posLoopA insPos
    split
    · simp
    · rw [ih (j + 1) (by omega)]; omega

/-- `natoms` rows of `maxneighbors + 1` columns, every count within capacity (`Holds.lt`). -/
def WF (n : Nat) (st : ArrState) : Prop :=
  st.rows.length = n ∧ ∀ r ∈ st.rows, Holds (st.maxn + 1) r (absRow r)

theorem getElem?_modify_pair {α : Type} (l : List α) {u v : Nat} (huv : u ≠ v) (f g : α → α) (k : Nat) :
    ((l.modify u f).modify v g)[k]? = (l[k]?).map fun r => if k = u then f r else if k = v then g r else r := by
  simp only [List.getElem?_modify]
  rcases eq_or_ne k u with rfl | hku
  · cases l[k]? <;> simp [huv.symm]
  · cases l[k]? <;> simp [hku, Ne.symm hku, eq_comm]

/-- the block under `# Extend system size if needed` of nlist.pyx as ONE growth by `d` cells per row, `d = 0` when the
    trigger is off (every row has `M + 1` columns, so `take` keeps it whole). -/
theorem grow_eq (junk : Nat → Nat → Nat) (M delta : Nat) (b : Bool) (rows : List (List Nat))
    (hlen : ∀ r ∈ rows, r.length = M + 1) :
    (if b = true then (⟨M + delta, growRows junk M delta rows⟩ : ArrState) else ⟨M, rows⟩)
      = ⟨M + (if b then delta else 0),
         rows.mapIdx fun k r => r ++ (List.range (if b then delta else 0)).map fun i => junk k (M + 1 + i)⟩ := by
  have e : ∀ d, growRows junk M d rows = rows.mapIdx fun k r => r ++ (List.range d).map fun i => junk k (M + 1 + i) := by
    intro d
    refine List.ext_getElem? fun k => ?_
    simp only [growRows, List.getElem?_mapIdx]
    cases hk : rows[k]? with
    | none => rfl
    | some r => simp [List.take_of_length_le (hlen r (List.mem_of_getElem? hk)).le]
  cases b
  · simp only [Bool.false_eq_true, if_false, List.range_zero, List.map_nil, List.append_nil, Nat.add_zero]
    exact congrArg _ (List.ext_getElem? fun k => by simp)
  · simp [e]

/-- Row-wise simulation: `Φ k` / `Ψ k` are what a step does to row `k` of the capacity table / of the list table. -/
theorem refines_of_rows {n w' : Nat} {A F : List (List Nat)} {L : Rows} {Φ Ψ : Nat → List Nat → List Nat}
    (hlen : F.length = n) (hF : ∀ k, F[k]? = (A[k]?).map (Φ k))
    (hL : ∀ k, L[k]? = ((A[k]?).map absRow).map (Ψ k))
    (hrow : ∀ k r0, A[k]? = some r0 → Holds w' (Φ k r0) (Ψ k (absRow r0))) :
    (F.length = n ∧ ∀ r ∈ F, Holds w' r (absRow r)) ∧ absRows F = L := by
  constructor
  · refine ⟨hlen, fun r hr => ?_⟩
    obtain ⟨k, hk⟩ := List.mem_iff_getElem?.1 hr
    rw [hF k] at hk
    obtain ⟨r0, hr0, rfl⟩ := Option.map_eq_some_iff.1 hk
    have h := hrow k r0 hr0
    rwa [← h.read.1] at h
  · apply List.ext_getElem?
    intro k
    rw [hL k, absRows, List.getElem?_map, hF k]
    cases hr0 : A[k]? with
    | none => rfl
    | some r0 => exact congrArg some (hrow k r0 hr0).read.1

theorem insertPairA_refines (junk : Nat → Nat → Nat) (delta : Nat) (hd : 1 ≤ delta) (n : Nat) (st : ArrState)
    (hwf : WF n st) (u v : Nat) (hu : u < n) (hv : v < n) (huv : u ≠ v) :
    WF n (insertPairA junk delta st u v) ∧
      absRows (insertPairA junk delta st u v).rows = insertPairL (absRows st.rows) u v := by
  obtain ⟨hlen, hrows⟩ := hwf
  obtain ⟨ru, hqu⟩ : ∃ ru, st.rows[u]? = some ru := ⟨_, List.getElem?_eq_getElem (hlen ▸ hu)⟩
  obtain ⟨rv, hqv⟩ : ∃ rv, st.rows[v]? = some rv := ⟨_, List.getElem?_eq_getElem (hlen ▸ hv)⟩
  have Hu := hrows _ (List.mem_of_getElem? hqu)
  have Hv := hrows _ (List.mem_of_getElem? hqv)
  have hgu : st.rows.getD u [] = ru := by simp [List.getD_eq_getElem?_getD, hqu]
  have hgv : st.rows.getD v [] = rv := by simp [List.getD_eq_getElem?_getD, hqv]
  have hau : (absRows st.rows).getD u [] = absRow ru := by simp [absRows, List.getD_eq_getElem?_getD, hqu]
  have hcu : ru.getD 0 0 = (absRow ru).length := Hu.read.2
  have hcv : rv.getD 0 0 = (absRow rv).length := Hv.read.2
  -- the two scans see the cells in use: the lists the rows read as
  obtain ⟨hs1, hs2⟩ := scanLoopA_spec ru v (absRow ru).length 1 (by have := Hu.lt; have := Hu.1; omega)
  have hp := posLoopA_spec rv u (absRow rv).length 1 (by have := Hv.lt; have := Hv.1; omega)
  rw [show (ru.drop 1).take (absRow ru).length = absRow ru by rw [← hcu]; rfl] at hs1 hs2
  rw [show (rv.drop 1).take (absRow rv).length = absRow rv by rw [← hcv]; rfl] at hp
  unfold insertPairA insertPairL
  rw [hgu, hgv, hau]
  simp only [hcu, hcv]
  rcases hsc : scanLoopA ru v (absRow ru).length 1 with ⟨new, uj⟩
  rw [hsc] at hs1 hs2
  simp only at hs1 hs2 ⊢
  subst hs1
  by_cases hnew : scanL v (absRow ru) = true
  · have hrows1 : ∀ r ∈ (st.rows.modify u fun x => x.set 0 ((absRow ru).length + 1)).modify v
        fun x => x.set 0 ((absRow rv).length + 1), r.length = st.maxn + 1 := by
      intro r hr
      obtain ⟨k, hk⟩ := List.mem_iff_getElem?.1 hr
      rw [getElem?_modify_pair _ huv] at hk
      obtain ⟨r0, hr0, rfl⟩ := Option.map_eq_some_iff.1 hk
      have := (hrows r0 (List.mem_of_getElem? hr0)).1
      split_ifs <;> simpa using this
    rw [if_pos hnew, if_pos hnew, hs2 hnew, hp, grow_eq junk st.maxn delta _ _ hrows1]
    -- `d` cells are appended to every row; when a count has reached the capacity, `d = delta ≥ 1`
    generalize hdd : (if (decide (st.maxn < (absRow ru).length + 1) || decide (st.maxn < (absRow rv).length + 1)) = true
      then delta else 0) = d
    have hcap : (absRow ru).length + 2 ≤ st.maxn + d + 1 ∧ (absRow rv).length + 2 ≤ st.maxn + d + 1 := by
      have := Hu.lt; have := Hv.lt
      split_ifs at hdd with hb
      · simp only [Bool.or_eq_true, decide_eq_true_eq] at hb; omega
      · simp only [Bool.or_eq_true, decide_eq_true_eq, not_or, not_lt] at hb; omega
    -- `Φ` (what becomes of row `k`) is read off the `modify`s and the growth
    refine refines_of_rows (A := st.rows) (Φ := ?Φ)
      (Ψ := fun k r => if k = u then insBefore v r else if k = v then insBefore u r else r)
      (by simp [hlen]) (fun k => ?hF) (fun k => ?hL) (fun k r0 hr0 => ?hrow)
    case hF =>
      simp only [getElem?_modify_pair _ huv, List.getElem?_mapIdx, Option.map_map]
      rfl
    case hL => rw [getElem?_modify_pair _ huv, absRows, List.getElem?_map]
    case hrow =>
      simp only [Function.comp_apply]
      by_cases hku : k = u
      · subst hku
        rw [hqu] at hr0; cases hr0
        simp only [if_true]
        exact Hu.insert v (by simp [Hu.1]; omega) ⟨_, rfl⟩ hcap.1
      · by_cases hkv : k = v
        · subst hkv
          rw [hqv] at hr0; cases hr0
          simp only [if_neg hku, if_true]
          exact Hv.insert u (by simp [Hv.1]; omega) ⟨_, rfl⟩ hcap.2
        · simp only [if_neg hku, if_neg hkv]
          have := (hrows r0 (List.mem_of_getElem? hr0)).append ((List.range d).map fun i => junk k (st.maxn + 1 + i))
          simpa [Nat.add_right_comm] using this
  · rw [if_neg hnew, if_neg hnew]
    exact ⟨⟨hlen, hrows⟩, rfl⟩

theorem initA_wf (junk : Nat → Nat → Nat) (n init : Nat) :
    WF n (initA junk n init) ∧ absRows (initA junk n init).rows = List.replicate n [] := by
  -- every row is `0 :: junk cells`: it holds the empty list
  have hr : ∀ r ∈ (initA junk n init).rows, Holds (init + 1) r [] := fun r hr => by
    obtain ⟨k, _, rfl⟩ := mem_map.1 hr
    exact ⟨by simp, _, rfl⟩
  refine ⟨⟨by simp [initA], fun r hm => by rw [(hr r hm).read.1]; exact hr r hm⟩, ?_⟩
  rw [List.eq_replicate_iff]
  exact ⟨by simp [absRows, initA], fun l hl => by
    obtain ⟨r, hm, rfl⟩ := mem_map.1 hl
    exact (hr r hm).read.1⟩

theorem runAW_refines (junk : Nat → Nat → Nat) (init delta : Nat) (hd : 1 ≤ delta) (acc : Nat × Nat → Bool)
    (hacc : ∀ uv, acc uv = true → uv.1 ≠ uv.2) (n : Nat) (cs : List (Nat × Nat))
    (hcs : ∀ uv ∈ cs, uv.1 < n ∧ uv.2 < n) :
    WF n (runAW junk init delta acc n cs) ∧ absRows (runAW junk init delta acc n cs).rows = runLW acc n cs := by
  unfold runAW runLW
  refine List.foldl_rel (r := fun st rows => WF n st ∧ absRows st.rows = rows) (initA_wf junk n init) ?_
  rintro uv huv st _ ⟨hwf, rfl⟩
  unfold stepAW stepLW
  split
  · exact insertPairA_refines junk delta hd n st hwf uv.1 uv.2 (hcs uv huv).1 (hcs uv huv).2 (hacc uv ‹_›)
  · exact ⟨hwf, rfl⟩

theorem runAW_congr (junk : Nat → Nat → Nat) (init delta : Nat) (acc acc' : Nat × Nat → Bool) (n : Nat) (cs : List (Nat × Nat))
    (h : ∀ uv ∈ cs, acc uv = acc' uv) : runAW junk init delta acc n cs = runAW junk init delta acc' n cs :=
  List.foldl_ext _ _ _ fun st uv huv => by unfold stepAW; rw [h uv huv]

end Atomman.C03
