/-
  C01_Trig — the float library routines (`(x)**0.5` / `np.linalg.norm`, `np.cos`, `np.arccos`, `np.pi`) as the parameter record
  `Trig K` of the model, what the theorems assume of them (`Trig.Spec`, satisfied by the real functions: `realTrig_spec` in
  Proofs/C01.lean), and the angle getter in degrees (`angleDeg_spec`).
-/
import Proofs.C01_Scale
import Mathlib.Tactic.Positivity
namespace Atomman.C01
open Atomman
set_option linter.unusedSectionVars false
variable {K : Type} [Field K] [LinearOrder K] [IsStrictOrderedRing K]

/-- what the theorems assume of the float library routines (satisfied by the real functions: `realTrig_spec`). -/
structure Trig.Spec (T : Trig K) : Prop where
  sqrt_nonneg : ∀ x, 0 ≤ T.sqrt x
  sqrt_sq : ∀ x, 0 ≤ x → T.sqrt x * T.sqrt x = x
  sqrt_nonpos : ∀ x, x ≤ 0 → T.sqrt x = 0
  pi_pos : 0 < T.pi
  cos_range : ∀ x, -1 ≤ T.cos x ∧ T.cos x ≤ 1
  cos_right : T.cos (90 * T.pi / 180) = 0
  cos_acos : ∀ x, -1 ≤ x → x ≤ 1 → T.cos (T.acos x) = x
  acos_cos : ∀ x, 0 ≤ x → x ≤ T.pi → T.acos (T.cos x) = x
  acos_range : ∀ x, -1 < x → x < 1 → 0 < T.acos x ∧ T.acos x < T.pi

variable {T : Trig K}

theorem Trig.Spec.sqrt_mul_self (hT : T.Spec) (y : K) (hy : 0 ≤ y) : T.sqrt (y * y) = y :=
  (mul_self_inj (hT.sqrt_nonneg _) hy).mp (hT.sqrt_sq _ (mul_self_nonneg y))

theorem Trig.Spec.sqrt_pos (hT : T.Spec) (x : K) (hx : 0 < x) : 0 < T.sqrt x := by
  refine lt_of_le_of_ne (hT.sqrt_nonneg x) fun h => hx.ne ?_
  rw [← hT.sqrt_sq x hx.le, ← h, mul_zero]

theorem Trig.Spec.pos_of_sqrt_pos (hT : T.Spec) (x : K) (h : 0 < T.sqrt x) : 0 < x := by
  by_contra hx
  rw [hT.sqrt_nonpos x (not_lt.mp hx)] at h
  exact lt_irrefl _ h

theorem lenOf_sq (hT : T.Spec) (v : V3 K) : lenOf T v * lenOf T v = V3.normSq v :=
  hT.sqrt_sq _ (V3.normSq_nonneg v)

theorem lenOf_pos (hT : T.Spec) (v : V3 K) (h : 0 < V3.normSq v) : 0 < lenOf T v := hT.sqrt_pos _ h

theorem clampCos_id (c : K) (h1 : -1 ≤ c) (h2 : c ≤ 1) : clampCos c = c := by
  simp only [clampCos, not_lt.mpr h1, not_lt.mpr h2, if_false]

theorem clampCos_range (c : K) : -1 ≤ clampCos c ∧ clampCos c ≤ 1 := by
  unfold clampCos
  split
  · exact ⟨le_rfl, neg_le_self zero_le_one⟩
  · split
    · exact ⟨neg_le_self zero_le_one, le_rfl⟩
    · exact ⟨not_lt.mp ‹_›, not_lt.mp ‹_›⟩

/-- with the exact norms the clamp of `vect_angle` changes nothing (it only absorbs rounding). -/
theorem clampCos_angleCos (u v : V3 K) (n1 n2 : K) (h1 : 0 < n1) (h2 : 0 < n2)
    (hn1 : n1 * n1 = V3.normSq u) (hn2 : n2 * n2 = V3.normSq v) :
    clampCos (angleCos u v n1 n2) = angleCos u v n1 n2 := by
  have h := angleCos_sq_le_one u v n1 n2 h1 h2 hn1 hn2
  rw [← abs_le_one_iff_mul_self_le_one, abs_le] at h
  exact clampCos_id _ h.1 h.2

example : ∃ (u v : V3 ℚ) (n1 n2 : ℚ), 0 < n1 ∧ 0 < n2 ∧ n1 * n1 = V3.normSq u ∧ n2 * n2 = V3.normSq v ∧
    angleCos u v n1 n2 ≠ 0 ∧ clampCos (angleCos u v (n1 / 2) n2) ≠ angleCos u v (n1 / 2) n2 :=
  ⟨⟨3, 4, 0⟩, ⟨4, 3, 0⟩, 5, 5, by decide +kernel⟩

/-- strict Cauchy–Schwarz: two non-parallel vectors make an angle strictly between 0 and 180 degrees. -/
theorem angleCos_strict (u v : V3 K) (n1 n2 : K) (h1 : 0 < n1) (h2 : 0 < n2)
    (hn1 : n1 * n1 = V3.normSq u) (hn2 : n2 * n2 = V3.normSq v) (hx : 0 < V3.normSq (V3.cross u v)) :
    -1 < angleCos u v n1 n2 ∧ angleCos u v n1 n2 < 1 := by
  have hp : 0 < n1 * n2 := mul_pos h1 h2
  have hlt : angleCos u v n1 n2 * angleCos u v n1 n2 < 1 * 1 := by
    rw [one_mul, ← angleCos_sq_add u v n1 n2 h1 h2 hn1 hn2]
    exact lt_add_of_pos_right _ (div_pos hx (mul_pos hp hp))
  exact abs_lt.mp (abs_one (α := K) ▸ abs_lt_iff_mul_self_lt.mpr hlt)

theorem cross_pos_parts (u v : V3 K) (hx : 0 < V3.normSq (V3.cross u v)) : 0 < V3.normSq u ∧ 0 < V3.normSq v := by
  have hp : 0 < V3.normSq u * V3.normSq v := by
    rw [← sub_add_cancel (V3.normSq u * V3.normSq v) (V3.dot u v * V3.dot u v), V3.lagrange]
    exact add_pos_of_pos_of_nonneg hx (mul_self_nonneg _)
  exact ⟨pos_of_mul_pos_left hp (V3.normSq_nonneg v), pos_of_mul_pos_right hp (V3.normSq_nonneg u)⟩

theorem deg_rad (hT : T.Spec) (x : K) : 180 * x / T.pi * T.pi / 180 = x ∧ 180 * (x * T.pi / 180) / T.pi = x := by
  have hpi : T.pi ≠ 0 := hT.pi_pos.ne'
  constructor <;> field_simp

/-- **angles in degrees**: for two non-parallel vectors the angle getter (`vect_angle`: norms, cosine, clamp, `arccos`, degrees)
    returns a number strictly between 0 and 180 whose `np.cos(· * np.pi / 180)` — what `set_abc` computes from it — is the cosine
    of the angle between the vectors. -/
theorem angleDeg_spec (hT : T.Spec) (u v : V3 K) (hx : 0 < V3.normSq (V3.cross u v)) :
    0 < angleDeg T u v ∧ angleDeg T u v < 180 ∧
    cosDeg T (angleDeg T u v) = angleCos u v (lenOf T u) (lenOf T v) ∧
    cosDeg T (angleDeg T u v) * (lenOf T u * lenOf T v) = V3.dot u v := by
  obtain ⟨hu, hv⟩ := cross_pos_parts u v hx
  have p1 := lenOf_pos hT u hu
  have p2 := lenOf_pos hT v hv
  obtain ⟨c1, c2⟩ := angleCos_strict u v _ _ p1 p2 (lenOf_sq hT u) (lenOf_sq hT v) hx
  obtain ⟨a1, a2⟩ := hT.acos_range _ c1 c2
  have hpi := hT.pi_pos
  have e : cosDeg T (angleDeg T u v) = angleCos u v (lenOf T u) (lenOf T v) := by
    rw [cosDeg, angleDeg, clampCos_id _ c1.le c2.le, (deg_rad hT _).1, hT.cos_acos _ c1.le c2.le]
  refine ⟨?_, ?_, e, ?_⟩
  · rw [angleDeg, clampCos_id _ c1.le c2.le]
    exact div_pos (mul_pos (by norm_num) a1) hpi
  · rw [angleDeg, clampCos_id _ c1.le c2.le, div_lt_iff₀ hpi]
    exact mul_lt_mul_of_pos_left a2 (by norm_num)
  · rw [e]; exact angleCos_spec u v _ _ p1 p2

theorem angleDeg_of_dot (hT : T.Spec) (u v : V3 K) (n1 n2 ang : K) (h0 : 0 < ang) (h180 : ang < 180)
    (h1 : 0 < n1) (h2 : 0 < n2) (e1 : lenOf T u = n1) (e2 : lenOf T v = n2)
    (hdot : V3.dot u v = n1 * n2 * cosDeg T ang) : angleDeg T u v = ang := by
  have hpi := hT.pi_pos
  obtain ⟨r1, r2⟩ := hT.cos_range (ang * T.pi / 180)
  rw [angleDeg, e1, e2, angleCos_eq, hdot, cosDeg, mul_div_cancel_left₀ _ (mul_pos h1 h2).ne', clampCos_id _ r1 r2,
    hT.acos_cos _ (by positivity), (deg_rad hT ang).2]
  rw [div_le_iff₀ (by norm_num : (0 : K) < 180), mul_comm]
  exact mul_le_mul_of_nonneg_left h180.le hpi.le

theorem lenOf_scale (hT : T.Spec) (s : K) (hs : 0 < s) (v : V3 K) : lenOf T (scaleV s v) = s * lenOf T v := by
  show T.sqrt (V3.dot (scaleV s v) (scaleV s v)) = s * lenOf T v
  rw [dot_scale, ← V3.normSq, ← lenOf_sq hT v, mul_mul_mul_comm]
  exact hT.sqrt_mul_self _ (mul_nonneg hs.le (hT.sqrt_nonneg _))

/-- **the angles in degrees do not depend on the unit of length**, the lengths scale with it. -/
theorem angleDeg_scale (hT : T.Spec) (s : K) (hs : 0 < s) (u v : V3 K) (hu : 0 < V3.normSq u) (hv : 0 < V3.normSq v) :
    angleDeg T (scaleV s u) (scaleV s v) = angleDeg T u v := by
  have p1 := lenOf_pos hT u hu
  have p2 := lenOf_pos hT v hv
  have := angleCos_scale s (ne_of_gt hs) u v _ _ p1 p2
  rw [abs_of_pos hs] at this
  simp only [angleDeg, lenOf_scale hT s hs, this]

end Atomman.C01
