/-
  C13 — periodic array: linear field, tilted box, duplicate search, what an accepted `periodicarray` returns (`ArrayAccepted`),
  the `array_*` theorems.
-/
import Proofs.C13_Systems
import Proofs.Lists
import Mathlib.Data.List.Nodup

namespace Atomman.C13
open Atomman
set_option linter.unusedSectionVars false

variable {K : Type} [Field K] [LinearOrder K] [IsStrictOrderedRing K]

theorem sgn_pos {x : K} (h : 0 < x) : sgn x = 1 := by
  unfold sgn; rw [if_neg (not_lt.mpr h.le), if_pos h]

theorem sgn_neg {x : K} (h : x < 0) : sgn x = -1 := by
  unfold sgn; rw [if_pos h]

theorem linear_field_disregistry (mi ni : Nat) (b : V3 K) (L : K) (hL : L ≠ 0) (pa pb : V3 K)
    (ha : 0 < pa.get ni) (hb : pb.get ni < 0) (hx : pa.get mi = pb.get mi) :
    linearDisp mi ni b L pa - linearDisp mi ni b L pb = V3.smul (1 / 2 - pa.get mi / L) b := by
  unfold linearDisp
  rw [sgn_pos ha, sgn_neg hb, ← hx, V3.smul_sub_smul]
  congr 1
  have h2 : ((2 : Int) : K) = 2 := by norm_cast
  have h4 : ((4 : Int) : K) = 4 := by norm_cast
  rw [quarter, h2, h4]
  field_simp
  ring

theorem keepIds_spec (n : Nat) (dups : List Nat) :
    (keepIds n dups).Pairwise (· < ·) ∧ ∀ i, i ∈ keepIds n dups ↔ i < n ∧ i ∉ dups := by
  unfold keepIds
  refine ⟨List.Pairwise.filter _ List.pairwise_lt_range, ?_⟩
  intro i
  simp [List.mem_filter, List.mem_range]

theorem gather_eq_map {α : Type} (l : List α) (ids : List Nat) (h : ∀ i ∈ ids, i < l.length) :
    (gather l ids).map some = ids.map (fun i => l[i]?) := by
  unfold gather
  induction ids with
  | nil => rfl
  | cons a t ih =>
    have ha : a < l.length := h a (by simp)
    have ht := ih (fun i hi => h i (List.mem_cons_of_mem _ hi))
    simp only [List.filterMap_cons, List.getElem?_eq_getElem ha, List.map_cons]
    rw [ht]

theorem gather_getElem? {α : Type} (l : List α) (ids : List Nat) (h : ∀ i ∈ ids, i < l.length) (k : Nat) :
    (gather l ids)[k]? = (ids[k]?).bind (fun i => l[i]?) :=
  getElem?_filterMap_getElem? l ids h k

theorem gather_length {α : Type} (l : List α) (ids : List Nat) (h : ∀ i ∈ ids, i < l.length) :
    (gather l ids).length = ids.length := by
  have := congrArg List.length (gather_eq_map l ids h)
  simpa using this

/-- the linear field between two in-plane coordinates: the disregistry (displacement just above minus just below the
    slip plane) changes by `((x₂ - x₁)/L) b`. -/
theorem linear_field_change (mi ni : Nat) (b : V3 K) (L : K) (hL : L ≠ 0) (pa pb qa qb : V3 K)
    (ha : 0 < pa.get ni) (hb : pb.get ni < 0) (hx : pa.get mi = pb.get mi)
    (hqa : 0 < qa.get ni) (hqb : qb.get ni < 0) (hy : qa.get mi = qb.get mi) :
    (linearDisp mi ni b L pa - linearDisp mi ni b L pb) - (linearDisp mi ni b L qa - linearDisp mi ni b L qb)
      = V3.smul ((qa.get mi - pa.get mi) / L) b := by
  rw [linear_field_disregistry mi ni b L hL pa pb ha hb hx, linear_field_disregistry mi ni b L hL qa qb hqa hqb hy,
    V3.smul_sub_smul]
  congr 1
  ring

/-- across the whole cell, from the face `x = -L/2` to the face `x = +L/2` (`x` the
    coordinate along `m` relative to the centre, `L` the cell length along `m`), the disregistry of the linear field
    goes from `b` to `0`: it accumulates exactly one Burgers vector. -/
theorem linear_field_one_burgers (mi ni : Nat) (b : V3 K) (L : K) (hL : L ≠ 0) (pa pb qa qb : V3 K)
    (ha : 0 < pa.get ni) (hb : pb.get ni < 0) (hxa : pa.get mi = -(L / 2)) (hxb : pb.get mi = -(L / 2))
    (hqa : 0 < qa.get ni) (hqb : qb.get ni < 0) (hya : qa.get mi = L / 2) (hyb : qb.get mi = L / 2) :
    linearDisp mi ni b L pa - linearDisp mi ni b L pb = b ∧
    linearDisp mi ni b L qa - linearDisp mi ni b L qb = ⟨0, 0, 0⟩ ∧
    (linearDisp mi ni b L pa - linearDisp mi ni b L pb) - (linearDisp mi ni b L qa - linearDisp mi ni b L qb) = b := by
  have e1 := linear_field_disregistry mi ni b L hL pa pb ha hb (hxa.trans hxb.symm)
  have e2 := linear_field_disregistry mi ni b L hL qa qb hqa hqb (hya.trans hyb.symm)
  rw [hxa] at e1
  rw [hya] at e2
  have c1 : (1 : K) / 2 - -(L / 2) / L = 1 := by field_simp; ring
  have c2 : (1 : K) / 2 - L / 2 / L = 0 := by field_simp; ring
  rw [c1, V3.one_smul] at e1
  rw [c2] at e2
  simp only [V3.smul, zero_mul] at e2
  exact ⟨e1, e2, by rw [e1, e2, V3.sub_zero']⟩

/-- the tilt of the in-plane box vector changes the signed volume by `∓ 1/2` of the determinant with the motion row
    replaced by the Burgers vector. -/
theorem tilted_det (cut line motion : Nat) (xi : IV) (hm : motion < 3) (V : M3 K) (b : V3 K) :
    M3.det (tiltedVects ⟨cut, line, motion, xi⟩ V b)
      = M3.det V - (if 0 < b.get motion then 1 else -1) * (1 / 2) * M3.det (setRow V motion b) := by
  obtain ⟨⟨a0, a1, a2⟩, ⟨b0, b1, b2⟩, ⟨c0, c1, c2⟩⟩ := V
  obtain ⟨x, y, z⟩ := b
  have h2 : ((2 : Int) : K) = 2 := by norm_cast
  have hmo : motion = 0 ∨ motion = 1 ∨ motion = 2 := by omega
  rcases hmo with rfl | rfl | rfl <;>
    simp only [tiltedVects, setRow, half, M3.row, V3.get, h2, OfNat.ofNat_ne_zero, OfNat.ofNat_ne_one, one_ne_zero,
      ↓reduceIte] <;>
    split_ifs <;> simp only [M3.det, V3.dot, V3.cross, V3.smul, V3.sub_def, V3.add_def] <;> ring

theorem absK_of_nonneg {x : K} (h : 0 ≤ x) : absK x = x := if_neg (not_lt.mpr h)

theorem sign_mul_self (y : K) : (if 0 < y then 1 else -1) * y = absK y := by
  unfold absK
  rcases lt_trichotomy y 0 with h | rfl | h
  · rw [if_neg (not_lt.mpr h.le), if_pos h]; ring
  · simp
  · rw [if_pos h, if_neg (not_lt.mpr h.le)]; ring

/-- in an orthogonal reference box the number of atoms the volume change implies is
    `natoms · |b·m| / (2 L_m)`: it is fixed by the edge component of the Burgers vector and the cell length along `m`
    (stated for `m` along the second box vector, the default orientation, only). -/
theorem expected_edge_orthogonal (cut line : Nat) (xi : IV) (lx ly lz : K) (hx : 0 < lx) (hy : 0 < ly) (hz : 0 < lz)
    (b : V3 K) (natoms : Nat) (hsmall : absK b.y ≤ 2 * ly) :
    expectedDel natoms (⟨⟨lx, 0, 0⟩, ⟨0, ly, 0⟩, ⟨0, 0, lz⟩⟩ : M3 K)
        (tiltedVects ⟨cut, line, 1, xi⟩ ⟨⟨lx, 0, 0⟩, ⟨0, ly, 0⟩, ⟨0, 0, lz⟩⟩ b)
      = ((natoms : Int) : K) * absK b.y / (2 * ly) := by
  -- the tilted cell has the signed volume `lx lz (ly - |b.y| / 2)`, which `hsmall` keeps non-negative
  have hV : M3.det (⟨⟨lx, 0, 0⟩, ⟨0, ly, 0⟩, ⟨0, 0, lz⟩⟩ : M3 K) = lx * ly * lz := by
    simp only [M3.det, V3.dot, V3.cross]; ring
  have hB : M3.det (setRow (⟨⟨lx, 0, 0⟩, ⟨0, ly, 0⟩, ⟨0, 0, lz⟩⟩ : M3 K) 1 b) = lx * lz * b.y := by
    simp only [setRow, M3.det, V3.dot, V3.cross, one_ne_zero, ↓reduceIte]; ring
  have hg : b.get 1 = b.y := rfl
  have hT : M3.det (tiltedVects ⟨cut, line, 1, xi⟩ ⟨⟨lx, 0, 0⟩, ⟨0, ly, 0⟩, ⟨0, 0, lz⟩⟩ b)
      = lx * lz * (ly - absK b.y / 2) := by
    rw [tilted_det cut line 1 xi (by decide), hV, hB, hg, ← sign_mul_self b.y]; ring
  have hxz : 0 < lx * lz := mul_pos hx hz
  unfold expectedDel volume
  rw [hT, hV, absK_of_nonneg (mul_nonneg hxz.le (by linarith)), absK_of_nonneg (mul_pos (mul_pos hx hy) hz).le]
  field_simp
  ring

/-- the squared minimum-image distance the duplicate test uses: the expression written inline in the model's `dupIds`
    (`mem_dupIds_cons` ties the two by unfolding). -/
def testDist2 (newbox : Box K) (pbc : V3 Bool) (testpos : List (V3 K)) (i j : Nat) : K :=
  dmag2 newbox.vects pbc.x pbc.y pbc.z (testpos.getD i ⟨0, 0, 0⟩) (testpos.getD j ⟨0, 0, 0⟩)

theorem mem_dupIds_cons (newbox : Box K) (pbc : V3 Bool) (cutoff : K) (testpos : List (V3 K)) (a : Nat) (t : List Nat)
    (x : Nat) :
    x ∈ dupIds newbox pbc cutoff testpos (a :: t) ↔
      (x = a ∧ 0 < cutoff ∧ ∃ j ∈ t, testDist2 newbox pbc testpos a j < cutoff * cutoff) ∨
      x ∈ dupIds newbox pbc cutoff testpos t := by
  simp only [dupIds, testDist2, Bool.and_eq_true, decide_eq_true_eq, List.any_eq_true]
  split_ifs with hc
  · rw [List.mem_cons]
    exact or_congr_left (iff_self_and.mpr fun _ => hc)
  · exact (or_iff_right fun h => hc h.2).symm

theorem dupIds_subset (newbox : Box K) (pbc : V3 Bool) (cutoff : K) (testpos : List (V3 K)) :
    ∀ (l : List Nat) (x : Nat), x ∈ dupIds newbox pbc cutoff testpos l → x ∈ l
  | [], x, h => by simp [dupIds] at h
  | a :: t, x, h => by
    rcases (mem_dupIds_cons newbox pbc cutoff testpos a t x).mp h with ⟨rfl, _⟩ | h'
    · exact List.mem_cons_self
    · exact List.mem_cons_of_mem _ (dupIds_subset newbox pbc cutoff testpos t x h')

theorem dupIds_spec (newbox : Box K) (pbc : V3 Bool) (cutoff : K) (testpos : List (V3 K)) :
    ∀ (l : List Nat), l.Nodup → ∀ (pre : List Nat) (i : Nat) (js : List Nat), l = pre ++ i :: js →
      (i ∈ dupIds newbox pbc cutoff testpos l ↔
        0 < cutoff ∧ ∃ j ∈ js, testDist2 newbox pbc testpos i j < cutoff * cutoff) := by
  intro l hnd pre i js h
  subst h
  induction pre with
  | nil =>
    have hi : i ∉ dupIds newbox pbc cutoff testpos js := fun h' =>
      (List.nodup_cons.mp hnd).1 (dupIds_subset newbox pbc cutoff testpos js i h')
    rw [List.nil_append, mem_dupIds_cons]
    simp only [hi, or_false, true_and]
  | cons p pre ih =>
    have hne : i ≠ p := fun e => (List.nodup_cons.mp hnd).1 (e ▸ by simp)
    rw [List.cons_append, mem_dupIds_cons]
    simp only [hne, false_and, false_or]
    exact ih (List.nodup_cons.mp hnd).2

/-- the reference system as `build_disl_array` uses it: atoms on the upper face along the motion direction moved to
    the lower face.  The box is kept (`(arrayBase atol o base).box` is `base.box` by `rfl`). -/
def arrayBase (atol : K) (o : Orient) (base : Sys K) : Sys K :=
  { base with atoms := moveUpperFace atol base.box o.motion base.atoms }

/-- positions of the linear test system of `build_disl_array`. -/
def arrayTestPos (o : Orient) (b1 : Sys K) (burgers center : V3 K) : List (V3 K) :=
  b1.atoms.map fun a => a.pos + linearDisp o.motion o.cut burgers
    (absK ((b1.box.vects.row o.motion).get o.motion)) (a.pos - center)

/-- the boundary atoms that enter the duplicate test. -/
def arrayBoundaryIds (o : Orient) (b1 : Sys K) (burgers center : V3 K) : List Nat :=
  boundaryIds o ⟨tiltedVects o b1.box.vects burgers, b1.box.origin⟩
    (absK (((2 : Int) : K) * burgers.get o.motion / absK ((b1.box.vects.row o.motion).get o.motion)))
    (arrayTestPos o b1 burgers center)

def arrayDups (o : Orient) (b1 : Sys K) (burgers center : V3 K) (cutoff : K) : List Nat :=
  dupIds ⟨tiltedVects o b1.box.vects burgers, b1.box.origin⟩ (pbcExcept o.cut) cutoff
    (arrayTestPos o b1 burgers center) (arrayBoundaryIds o b1 burgers center)

theorem moveUpperFace_spec (atol : K) (box : Box K) (motion : Nat) (atoms : List (Atom K)) :
    (moveUpperFace atol box motion atoms).length = atoms.length ∧
    ∀ (i : Nat) (a : Atom K), (moveUpperFace atol box motion atoms)[i]? = some a →
      ∃ a0, atoms[i]? = some a0 ∧ (a = a0 ∨ a = { a0 with pos := a0.pos - box.vects.row motion }) := by
  refine ⟨by simp [moveUpperFace], ?_⟩
  simp only [moveUpperFace, List.getElem?_map, Option.map_eq_some_iff]
  rintro i a ⟨a0, h0, rfl⟩
  refine ⟨a0, h0, ?_⟩
  split_ifs
  · exact Or.inr rfl
  · exact Or.inl rfl

theorem arrayDisp_length (o : Orient) (linear : Bool) (u : V3 K → V3 K) (center burgers : V3 K) (length bw : K)
    (box : Box K) (ps : List (V3 K)) : (arrayDisp o linear u center burgers length bw box ps).length = ps.length := by
  unfold arrayDisp
  split_ifs <;> simp

/-- what an accepted `periodicarray` returns, in terms of the kept indices.  `arrayBase`, `arrayTestPos`, `arrayBoundaryIds`,
    `arrayDups` re-spell the `let`s of the model's `periodicArray`, which is why `base_atoms`, `base_box` and `dups_eq` hold by `rfl`
    once the three refusals are excluded; a maintainer of the model has to keep them in step. -/
structure ArrayAccepted (fl : K → Int) (rnd : K → Int) (pad : K) (u : V3 K → V3 K) (o : Orient) (base : Sys K)
    (burgers center : V3 K) (linear : Bool) (bw cutoff atolSlip atolInt rtolInt : K) (nsym : Nat) (r : ArrayOut K) : Prop where
  oldId_eq : r.oldId = keepIds base.atoms.length r.dups
  base_atoms : r.base.atoms = gather (arrayBase atolSlip o base).atoms r.oldId
  base_box : r.base.box = base.box
  not_on_slip : onSlipPlane atolSlip base.box o.cut (arrayBase atolSlip o base).atoms = false
  count_close : isclose atolInt rtolInt (expectedDel base.atoms.length base.box.vects (tiltedVects o base.box.vects burgers))
    ((r.expected : Int) : K) = true
  expected_eq : r.expected = rnd (expectedDel base.atoms.length base.box.vects (tiltedVects o base.box.vects burgers))
  count_eq : (base.atoms.length : Int) - (r.oldId.length : Int) = r.expected
  dups_eq : r.dups = arrayDups o (arrayBase atolSlip o base) burgers center cutoff
  disl_eq : ∃ out, r.disl = retypeSys out (natypes nsym r.base.atoms)
    (wrapSys fl pad ⟨tiltedVects o base.box.vects burgers, base.box.origin⟩ (pbcExcept o.cut) r.base.atoms
      (List.zipWith (· + ·) (r.base.atoms.map (·.pos))
        (arrayDisp o linear u center burgers (absK ((base.box.vects.row o.motion).get o.motion)) bw base.box
          (r.base.atoms.map (·.pos)))))

theorem periodicArray_ok (fl : K → Int) (rnd : K → Int) (pad : K) (u : V3 K → V3 K) (o : Orient) (base : Sys K)
    (burgers center : V3 K) (linear : Bool) (bw cutoff atolSlip atolInt rtolInt : K) (nsym : Nat) (r : ArrayOut K)
    (h : periodicArray fl rnd pad u o base burgers center linear bw cutoff atolSlip atolInt rtolInt nsym = .ok r) :
    ArrayAccepted fl rnd pad u o base burgers center linear bw cutoff atolSlip atolInt rtolInt nsym r := by
  have hlen := (moveUpperFace_spec atolSlip base.box o.motion base.atoms).1
  unfold periodicArray at h
  simp only at h
  -- the three refusals, in the order of the code: atoms on the slip plane, non-integer count, count mismatch
  split at h
  · cases h
  split at h
  · cases h
  split at h
  · cases h
  rename_i hslip hnonint hmismatch
  obtain rfl := Except.ok.inj h
  simp only [Bool.not_eq_true, Bool.not_eq_eq_eq_not, Bool.not_true] at hslip hnonint
  push Not at hmismatch
  rw [hlen] at hnonint hmismatch
  exact {
    oldId_eq := by simp only [hlen]
    base_atoms := rfl
    base_box := rfl
    not_on_slip := hslip
    count_close := by simp only [hlen]; simpa using hnonint
    expected_eq := by simp only [hlen]
    count_eq := by simp only [hlen]; omega
    dups_eq := rfl
    disl_eq := ⟨_, ite_retypeSys _ _ _ _⟩ }

section

variable {fl : K → Int} {rnd : K → Int} {pad : K} {u : V3 K → V3 K} {o : Orient} {base : Sys K}
  {burgers center : V3 K} {linear : Bool} {bw cutoff atolSlip atolInt rtolInt : K} {nsym : Nat} {r : ArrayOut K}
  (ok : ArrayAccepted fl rnd pad u o base burgers center linear bw cutoff atolSlip atolInt rtolInt nsym r)

include ok

theorem ArrayAccepted.oldId_lt : ∀ i ∈ r.oldId, i < (arrayBase atolSlip o base).atoms.length := fun i hi => by
  rw [ok.oldId_eq] at hi
  simp only [arrayBase, (moveUpperFace_spec atolSlip base.box o.motion base.atoms).1]
  exact ((keepIds_spec base.atoms.length r.dups).2 i |>.mp hi).1

/-- both returned systems have one atom per entry of `old_id`. -/
theorem ArrayAccepted.lengths : r.base.atoms.length = r.oldId.length ∧ r.disl.atoms.length = r.oldId.length := by
  have hblen : r.base.atoms.length = r.oldId.length := by rw [ok.base_atoms]; exact gather_length _ _ ok.oldId_lt
  obtain ⟨out, hdisl⟩ := ok.disl_eq
  refine ⟨hblen, ?_⟩
  rw [hdisl, ← hblen]
  simp [retypeSys, retype, wrapSys_length, arrayDisp_length]

end

/-- `old_id` lists, in increasing order, exactly the indices of the reference atoms that were not
    found to be duplicates; the trimmed reference system and the dislocation system both have one atom per entry, and
    atom `k` of either *is* reference atom `old_id[k]` (type and further values; the reference atom possibly moved from
    the upper to the lower face along the motion direction): the dislocation atom sits at the reference position plus
    its displacement, moved by integer multiples of the two periodic (tilted) box vectors only.  About the type the
    statement only says that it is the reference type or differs from it by some integer, which is no constraint; what
    holds (and is what the proof has) is the reference type, raised by the `natypes` of the trimmed reference system by
    the boundary step only. -/
theorem array_old_id (fl : K → Int) (rnd : K → Int) (pad : K) (u : V3 K → V3 K) (o : Orient) (base : Sys K)
    (burgers center : V3 K) (linear : Bool) (bw cutoff atolSlip atolInt rtolInt : K) (nsym : Nat) (r : ArrayOut K)
    (h : periodicArray fl rnd pad u o base burgers center linear bw cutoff atolSlip atolInt rtolInt nsym = .ok r)
    (hdet : M3.det (tiltedVects o base.box.vects burgers) ≠ 0) :
    r.oldId.Pairwise (· < ·) ∧ (∀ i, i ∈ r.oldId ↔ i < base.atoms.length ∧ i ∉ r.dups) ∧
    r.base.atoms.length = r.oldId.length ∧ r.disl.atoms.length = r.oldId.length ∧
    ∀ (k id : Nat), r.oldId[k]? = some id → ∃ (a0 a : Atom K),
      base.atoms[id]? = some a0 ∧ (a = a0 ∨ a = { a0 with pos := a0.pos - base.box.vects.row o.motion }) ∧
      r.base.atoms[k]? = some a ∧
      ∃ (dk p' : V3 K) (f : V3 Int) (ty : Int),
        (arrayDisp o linear u center burgers (absK ((base.box.vects.row o.motion).get o.motion)) bw base.box
          (r.base.atoms.map (·.pos)))[k]? = some dk ∧
        r.disl.atoms[k]? = some { a with pos := p', atype := ty } ∧
        (ty = a.atype ∨ ∃ nt, ty = a.atype + nt) ∧
        p' + C05.latticeVec (tiltedVects o base.box.vects burgers) f = a.pos + dk ∧
        (o.cut = 0 → f.x = 0) ∧ (o.cut = 1 → f.y = 0) ∧ (o.cut = 2 → f.z = 0) := by
  have ok := periodicArray_ok fl rnd pad u o base burgers center linear bw cutoff atolSlip atolInt rtolInt nsym r h
  obtain ⟨hblen, hdisllen⟩ := ok.lengths
  obtain ⟨out, hdisl⟩ := ok.disl_eq
  obtain ⟨hsorted, hmem⟩ := keepIds_spec base.atoms.length r.dups
  obtain ⟨_, hmove⟩ := moveUpperFace_spec atolSlip base.box o.motion base.atoms
  set disp := arrayDisp o linear u center burgers (absK ((base.box.vects.row o.motion).get o.motion)) bw base.box
    (r.base.atoms.map (·.pos)) with hdisp
  have hdlen : disp.length = r.base.atoms.length := by rw [hdisp, arrayDisp_length, List.length_map]
  refine ⟨ok.oldId_eq ▸ hsorted, fun i => ok.oldId_eq ▸ hmem i, hblen, hdisllen, fun k id hk => ?_⟩
  · have hklt : k < r.base.atoms.length := hblen ▸ (List.getElem?_eq_some_iff.mp hk).1
    obtain ⟨a, ha⟩ : ∃ a, r.base.atoms[k]? = some a := ⟨_, List.getElem?_eq_getElem hklt⟩
    obtain ⟨a0, ha0, hrel⟩ := hmove id a (by rw [← ha, ok.base_atoms, gather_getElem? _ _ ok.oldId_lt, hk]; rfl)
    obtain ⟨dk, hdk⟩ : ∃ dk, disp[k]? = some dk := ⟨disp[k]'(hdlen ▸ hklt), List.getElem?_eq_getElem _⟩
    obtain ⟨p', f, ty, h1, h2, h3, h4, h5, h6⟩ := retype_wrapSys_getElem? fl pad ⟨_, base.box.origin⟩ hdet (pbcExcept o.cut)
      r.base.atoms (List.zipWith (· + ·) (r.base.atoms.map (·.pos)) disp) out (natypes nsym r.base.atoms) k a (a.pos + dk) ha
      (by simp only [List.getElem?_zipWith, List.getElem?_map, ha, hdk]; rfl)
    obtain ⟨p0, p1, p2⟩ := pbcExcept_false o.cut
    exact ⟨a0, a, ha0, hrel, ha, dk, p', f, ty, hdk, hdisl ▸ h1, h2.imp_right fun e => ⟨_, e⟩, h3,
      h4 ∘ p0, h5 ∘ p1, h6 ∘ p2⟩

set_option linter.unusedVariables false in

/-- when the code's own tests pass, the number of atoms removed is the integer
    `expected` with `|natoms·(1 - V'/V) - expected| ≤ atol + rtol·|expected|` (`V'` the volume of the box with the
    in-plane vector tilted by `∓ b/2`); the periodic directions are the two in-plane ones.
    PARTIAL: that the count of geometric duplicates *is* this number is the guard `found = expected` of the code, not a
    consequence derived from the lattice; that `natoms·(1 - V'/V)` is the edge-component count is
    `expected_edge_orthogonal` (orthogonal boxes).  `hdet` is not used. -/
theorem array_deletion_count_partial (fl : K → Int) (rnd : K → Int) (pad : K) (u : V3 K → V3 K) (o : Orient) (base : Sys K)
    (burgers center : V3 K) (linear : Bool) (bw cutoff atolSlip atolInt rtolInt : K) (nsym : Nat) (r : ArrayOut K)
    (h : periodicArray fl rnd pad u o base burgers center linear bw cutoff atolSlip atolInt rtolInt nsym = .ok r)
    (hdet : M3.det (tiltedVects o base.box.vects burgers) ≠ 0) :
    (base.atoms.length : Int) - (r.disl.atoms.length : Int) = r.expected ∧
    absK (expectedDel base.atoms.length base.box.vects (tiltedVects o base.box.vects burgers) - ((r.expected : Int) : K))
      ≤ atolInt + rtolInt * absK ((r.expected : Int) : K) ∧
    r.disl.pbc = ⟨o.cut ≠ 0, o.cut ≠ 1, o.cut ≠ 2⟩ := by
  have ok := periodicArray_ok fl rnd pad u o base burgers center linear bw cutoff atolSlip atolInt rtolInt nsym r h
  obtain ⟨out, hdisl⟩ := ok.disl_eq
  refine ⟨by rw [ok.lengths.2]; exact ok.count_eq, ?_, by rw [hdisl]; rfl⟩
  simpa [isclose] using ok.count_close

/-- part of "no overlapping atoms": in an accepted array, a *kept* atom of the
    boundary set is at least `cutoff` (minimum image over the two in-plane periodic directions of the tilted box) from
    every later boundary atom in the linear test system; the atoms removed are exactly those of the boundary set that
    have a later boundary atom within the cutoff.  PARTIAL: this is the linear test system, not the final (blended)
    one, and only the boundary set. -/
theorem array_kept_boundary_atoms_apart (fl : K → Int) (rnd : K → Int) (pad : K) (u : V3 K → V3 K) (o : Orient)
    (base : Sys K) (burgers center : V3 K) (linear : Bool) (bw cutoff atolSlip atolInt rtolInt : K) (nsym : Nat)
    (r : ArrayOut K)
    (h : periodicArray fl rnd pad u o base burgers center linear bw cutoff atolSlip atolInt rtolInt nsym = .ok r) :
    let b1 := arrayBase atolSlip o base
    let newbox : Box K := ⟨tiltedVects o b1.box.vects burgers, b1.box.origin⟩
    ∀ (pre : List Nat) (i : Nat) (js : List Nat), arrayBoundaryIds o b1 burgers center = pre ++ i :: js →
      (i ∈ r.dups ↔ 0 < cutoff ∧ ∃ j ∈ js,
        testDist2 newbox (pbcExcept o.cut) (arrayTestPos o b1 burgers center) i j < cutoff * cutoff) ∧
      (i ∈ r.oldId → ∀ j ∈ js, 0 < cutoff →
        cutoff * cutoff ≤ testDist2 newbox (pbcExcept o.cut) (arrayTestPos o b1 burgers center) i j) := by
  intro b1 newbox pre i js hsplit
  have ok := periodicArray_ok fl rnd pad u o base burgers center linear bw cutoff atolSlip atolInt rtolInt nsym r h
  have hnd : (arrayBoundaryIds o b1 burgers center).Nodup := by
    unfold arrayBoundaryIds boundaryIds
    exact List.Nodup.filter _ List.nodup_range
  have hspec := dupIds_spec newbox (pbcExcept o.cut) cutoff (arrayTestPos o b1 burgers center)
    (arrayBoundaryIds o b1 burgers center) hnd pre i js hsplit
  have hd : r.dups = dupIds newbox (pbcExcept o.cut) cutoff (arrayTestPos o b1 burgers center)
      (arrayBoundaryIds o b1 burgers center) := ok.dups_eq
  refine ⟨by rw [hd]; exact hspec, ?_⟩
  intro hi j hj hc
  rw [ok.oldId_eq] at hi
  have hnot : i ∉ r.dups := ((keepIds_spec base.atoms.length r.dups).2 i).mp hi |>.2
  by_contra hlt
  push Not at hlt
  exact hnot (by rw [hd]; exact hspec.mpr ⟨hc, j, hj, hlt⟩)

end Atomman.C13
