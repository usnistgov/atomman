/-
  C11 — the setters of the class in terms of the pure pieces: `value.max()` is the greatest entry; for an exactly
  symmetric input the assertions of the `Cij` and `Cijkl` setters pass; `transform` is `rot` followed by the clean-up and
  the setter (`transform_spec`); the 147 assertions of the `Cijkl` setter cover every index quadruple (`canon`), so a
  tensor that satisfies them exactly has all symmetries (`cijkl_setter_complete`).
-/
import Proofs.C11_Lemmas
import Proofs.Folds
import Proofs.Abs
import Mathlib.Algebra.Order.Field.Basic
import Mathlib.Tactic.Positivity

namespace Atomman.C11
open Atomman.Gen
set_option linter.unusedSectionVars false

variable {K : Type} [Field K] [LinearOrder K] [IsStrictOrderedRing K]

/-- numpy's `abs` is the absolute value of the order. -/
theorem absK_eq_abs (x : K) : absK x = |x| := by unfold absK; rw [Nat.cast_zero]; exact ite_neg_eq_abs x

theorem absK_nonneg (x : K) : 0 ≤ absK x := by rw [absK_eq_abs]; exact abs_nonneg x

theorem absK_zero : absK (0 : K) = 0 := by rw [absK_eq_abs, abs_zero]

theorem absK_one : absK (1 : K) = 1 := by rw [absK_eq_abs, abs_one]

theorem absK_neg (x : K) : absK (-x) = absK x := by rw [absK_eq_abs, absK_eq_abs, abs_neg]

theorem isclose_self (rt at' x : K) (h1 : 0 ≤ rt) (h2 : 0 ≤ at') : isclose rt at' x x = true := by
  simp only [isclose, sub_self, decide_eq_true_eq]
  have hx := absK_nonneg x
  rw [absK_eq_abs 0, abs_zero]; positivity

theorem npRtol_nonneg : (0 : K) ≤ npRtol := by unfold npRtol; positivity
theorem npAtol_nonneg : (0 : K) ≤ npAtol := by unfold npAtol; positivity
theorem cijSetSymAtol_nonneg : (0 : K) ≤ cijSetSymAtol := by unfold cijSetSymAtol; positivity
theorem cijklSetAtol_nonneg : (0 : K) ≤ cijklSetAtol := by unfold cijklSetAtol; positivity
theorem sijklSetAtol_nonneg : (0 : K) ≤ sijklSetAtol := by unfold sijklSetAtol; positivity

theorem cijSetZeroAtol_lt_one : (cijSetZeroAtol : K) < 1 := by
  unfold cijSetZeroAtol; norm_num

theorem cijSetZeroAtol_nonneg : (0 : K) ≤ cijSetZeroAtol := by
  unfold cijSetZeroAtol; positivity

theorem npRtol_le_one : (npRtol : K) ≤ 1 := by
  unfold npRtol
  rw [div_le_one (by positivity)]
  norm_num

/-- numpy's `max` of two numbers is the maximum of the order. -/
theorem maxK_eq_max (x y : K) : maxK x y = max x y := (max_def_lt x y).symm

theorem checkAtol_nonneg (rel : Bool) (a : K) (ha : 0 ≤ a) (C : T4 K) : 0 ≤ checkAtol rel a C := by
  unfold checkAtol; split
  · rw [maxK_eq_max, Nat.cast_one]
    exact mul_nonneg ha (le_trans zero_le_one (le_max_left 1 _))
  · exact ha

theorem idx6_complete (p : Fin 6 × Fin 6) : p ∈ idx6 := by
  simp only [idx6, List.mem_flatMap, List.mem_map, List.mem_finRange, true_and]
  exact ⟨p.1, p.2, rfl⟩

theorem idx4_complete (p : Fin 3 × Fin 3 × Fin 3 × Fin 3) : p ∈ idx4 := by
  simp only [idx4, idx3, List.mem_flatMap, List.mem_map, List.mem_finRange, true_and]
  exact ⟨(p.1, p.2.1), ⟨p.1, p.2.1, rfl⟩, (p.2.2.1, p.2.2.2), ⟨p.2.2.1, p.2.2.2, rfl⟩, rfl⟩

theorem maxList_isGreatest {ι : Type} (idx : List ι) (hc : ∀ p, p ∈ idx) (p₀ : ι) (f : ι → K) :
    IsGreatest (Set.range f) (maxList (idx.map f)) := by
  have hr : ∀ y, y ∈ idx.map f ↔ y ∈ Set.range f := fun y => by simp [hc]
  cases hl : idx.map f with
  | nil => exact absurd (hl ▸ List.mem_map_of_mem (hc p₀)) List.not_mem_nil
  | cons x xs =>
    rw [hl] at hr
    -- `maxK m x` is by definition the `if m < x then x else m` of the two fold lemmas of `Proofs.Folds`
    refine ⟨(hr _).mp ?_, fun y hy => ?_⟩
    · exact List.mem_cons.mpr (foldl_ite_max_mem xs x)
    · have hle : ∀ z ∈ x :: xs, z ≤ xs.foldl maxK x :=
        List.forall_mem_cons.mpr (le_foldl_ite_max xs x)
      exact hle y ((hr y).mpr hy)

theorem max6_isGreatest (v : M6 K) : IsGreatest (Set.range fun p : Fin 6 × Fin 6 => v p.1 p.2) (max6 v) :=
  maxList_isGreatest idx6 idx6_complete (0, 0) _

theorem max4_isGreatest (C : T4 K) :
    IsGreatest (Set.range fun p : Fin 3 × Fin 3 × Fin 3 × Fin 3 => C p.1 p.2.1 p.2.2.1 p.2.2.2) (max4 C) :=
  maxList_isGreatest idx4 idx4_complete (0, 0, 0, 0) _

theorem max6_pos (v : M6 K) : 0 < max6 v ↔ ∃ a b, 0 < v a b := by
  rw [lt_isLUB_iff (max6_isGreatest v).isLUB]
  simp only [Set.exists_range_iff, Prod.exists]

theorem max4_pos (C : T4 K) : 0 < max4 C ↔ ∃ i j k l, 0 < C i j k l := by
  rw [lt_isLUB_iff (max4_isGreatest C).isLUB]
  simp only [Set.exists_range_iff, Prod.exists]

theorem max4_cijklGet_pos (c : M6 K) : 0 < max4 (cijklGet c) ↔ 0 < max6 c := by
  rw [max4_pos, max6_pos]
  constructor
  · rintro ⟨i, j, k, l, h⟩; rw [cijklGet_eq] at h; exact ⟨_, _, h⟩
  · rintro ⟨a, b, h⟩
    refine ⟨(pairOf a).1, (pairOf a).2, (pairOf b).1, (pairOf b).2, ?_⟩
    rw [cijklGet_eq, voigt_pairOf, voigt_pairOf]; exact h

theorem zeroSmall_symm (mx : K) (v : M6 K) (h : Symm6 v) : Symm6 (zeroSmall mx v) := by
  intro a b; simp only [zeroSmall, h a b]

theorem setCij_of_symm (v : M6 K) (h : Symm6 v) (hpos : 0 < max6 v) :
    setCij v = .ok (zeroSmall (max6 v) v) := by
  have hz := zeroSmall_symm (max6 v) v h
  simp only [setCij, tab6_eq, Nat.cast_zero, hpos, not_true_eq_false, if_false]
  rw [if_pos]
  rw [List.all_eq_true]
  intro pq hpq
  have e := cij_set_checks_sound pq hpq
  rw [e]
  simp only
  rw [hz (fin6 pq.1.1) (fin6 pq.1.2)]
  exact isclose_self _ _ _ npRtol_nonneg cijSetSymAtol_nonneg

/-- `assert value.max() > 0`. -/
theorem setCij_of_not_pos (v : M6 K) (h : ¬ 0 < max6 v) : setCij v = .error "assert" := by
  simp only [setCij, tab6_eq, Nat.cast_zero, h, not_false_eq_true, if_true]

theorem setCij_ok_pos (v z : M6 K) (hz : setCij v = .ok z) : 0 < max6 v := by
  by_contra h
  rw [setCij_of_not_pos v h] at hz
  cases hz

theorem setCij_symm (v z : M6 K) (h : Symm6 v) (hz : setCij v = .ok z) : Symm6 z := by
  rw [setCij_of_symm v h (setCij_ok_pos v z hz)] at hz
  cases hz
  exact zeroSmall_symm _ _ h

theorem checks4_voigt (F : M6 K) (hF : Symm6 F) (C : T4 K) (hC : ∀ i j k l, C i j k l = F (voigt i j) (voigt k l))
    (L : List (Idx4 × Idx4))
    (hL : ∀ pq ∈ L, SameClass pq)
    (atol : K) (h0 : 0 ≤ atol) : checks4 atol C L = true := by
  rw [checks4, List.all_eq_true]
  intro pq hpq
  have e : at4 C pq.1 = at4 C pq.2 := by
    simp only [at4, hC]
    rcases hL pq hpq with ⟨e1, e2⟩ | ⟨e1, e2⟩
    · rw [e1, e2]
    · rw [e1, e2]; exact hF _ _
  rw [e]; exact isclose_self _ _ _ npRtol_nonneg h0

theorem transform_spec (tol : K) (axes : M33 K) (norms : Fin 3 → K) (c : M6 K) (T : M33 K)
    (hT : axesCheck axes norms = .ok T) :
    transform tol axes norms c
      = setCijkl (cleanT4 tol (max4 (rot T (cijklGet c))) (rot T (cijklGet c))) := by
  simp only [transform, hT, tab4_eq]

/-- canonical representative of an index quadruple: Voigt pairs ordered `ab` with `a ≤ b`, each pair `i ≤ j`;
    `cijkl_set_checks_cover` + `canon_symm` give `cijkl_setter_complete`: each component equals its canonical one, and
    index swaps do not change `canon`. -/
def canon (t : Fin 3 × Fin 3 × Fin 3 × Fin 3) : Fin 3 × Fin 3 × Fin 3 × Fin 3 :=
  let a := voigt t.1 t.2.1
  let b := voigt t.2.2.1 t.2.2.2
  if a ≤ b then ((pairOf a).1, (pairOf a).2, (pairOf b).1, (pairOf b).2)
  else ((pairOf b).1, (pairOf b).2, (pairOf a).1, (pairOf a).2)

def toIdx (t : Fin 3 × Fin 3 × Fin 3 × Fin 3) : Idx4 := (t.1.val, t.2.1.val, t.2.2.1.val, t.2.2.2.val)

theorem cijkl_set_checks_cover : ∀ t : Fin 3 × Fin 3 × Fin 3 × Fin 3,
    canon t = t ∨ (toIdx (canon t), toIdx t) ∈ cijklSetChecks := by decide +kernel

theorem canon_symm : ∀ t : Fin 3 × Fin 3 × Fin 3 × Fin 3,
    canon (t.2.1, t.1, t.2.2.1, t.2.2.2) = canon t ∧ canon (t.1, t.2.1, t.2.2.2, t.2.2.1) = canon t ∧
    canon (t.2.2.1, t.2.2.2, t.1, t.2.1) = canon t := by decide +kernel

theorem at4_toIdx (C : T4 K) (t : Fin 3 × Fin 3 × Fin 3 × Fin 3) : at4 C (toIdx t) = C t.1 t.2.1 t.2.2.1 t.2.2.2 := by
  simp only [at4, toIdx, fin3_val]

/-- the assertions of the `Cijkl` setter are complete: a tensor satisfying all of them EXACTLY has the minor and
    major symmetries.  (Nothing is claimed about the `isclose` tolerance: a chain of approximate equalities adds up.) -/
theorem cijkl_setter_complete (C : T4 K) (h : ∀ pq ∈ cijklSetChecks, at4 C pq.1 = at4 C pq.2) :
    MinorSymm C ∧ MajorSymm C := by
  have hc : ∀ t : Fin 3 × Fin 3 × Fin 3 × Fin 3,
      C t.1 t.2.1 t.2.2.1 t.2.2.2 = C (canon t).1 (canon t).2.1 (canon t).2.2.1 (canon t).2.2.2 := by
    intro t
    rcases cijkl_set_checks_cover t with e | e
    · rw [e]
    · have := h _ e
      simp only [at4_toIdx] at this
      exact this.symm
  refine ⟨fun i j k l => ⟨?_, ?_⟩, fun i j k l => ?_⟩
  · have h1 := hc (i, j, k, l); have h2 := hc (j, i, k, l)
    rw [(canon_symm (i, j, k, l)).1] at h2
    simp only at h1 h2; rw [h1, h2]
  · have h1 := hc (i, j, k, l); have h2 := hc (i, j, l, k)
    rw [(canon_symm (i, j, k, l)).2.1] at h2
    simp only at h1 h2; rw [h1, h2]
  · have h1 := hc (i, j, k, l); have h2 := hc (k, l, i, j)
    rw [(canon_symm (i, j, k, l)).2.2] at h2
    simp only at h1 h2; rw [h1, h2]

theorem cleanT4_major (tol mx : K) (C : T4 K) (h : MajorSymm C) : MajorSymm (cleanT4 tol mx C) := by
  intro i j k l; simp only [cleanT4, h i j k l]

theorem cleanT4_minor (tol mx : K) (C : T4 K) (h : MinorSymm C) : MinorSymm (cleanT4 tol mx C) := by
  intro i j k l
  constructor
  · simp only [cleanT4, ← (h i j k l).1]
  · simp only [cleanT4, ← (h i j k l).2]

theorem cijklSetRaw_symm (C : T4 K) (h : MajorSymm C) : Symm6 (cijklSetRaw C) := by
  intro a b; rw [cijklSetRaw_eq, cijklSetRaw_eq]; exact h _ _ _ _

/-- a tensor with the minor and major symmetries passes the 147 assertions of the `Cijkl` setter whatever its
    magnitude; the setter is then the `Cij` setter on its Voigt matrix. -/
theorem setCijkl_of_symm (D : T4 K) (hm : MinorSymm D) (hM : MajorSymm D) : setCijkl D = setCij (cijklSetRaw D) := by
  have hD := cijklGet_setRaw D hm
  have hchk := checks4_voigt _ (cijklSetRaw_symm D hM) D (fun i j k l => by rw [← cijklGet_eq (cijklSetRaw D), hD]) _
    cijkl_set_checks_sound _ (checkAtol_nonneg cijklSetAtolRel _ cijklSetAtol_nonneg D)
  by_cases hpos : 0 < max4 D
  · simp only [setCijkl, Nat.cast_zero, hpos, decide_true, Bool.not_true, Bool.and_false, hchk, Bool.false_eq_true,
      if_false]
  · rw [setCij_of_not_pos _ (by rwa [← max4_cijklGet_pos, hD])]
    simp only [setCijkl, cijkl_set_max_assert, Nat.cast_zero, hpos, decide_false, Bool.not_false, Bool.and_self, if_true]

theorem setCijkl_symm (C : T4 K) (h : MajorSymm C) (z : M6 K) (hz : setCijkl C = .ok z) : Symm6 z := by
  unfold setCijkl at hz
  split at hz
  · cases hz
  · split at hz
    · cases hz
    · exact setCij_symm _ z (cijklSetRaw_symm C h) hz

end Atomman.C11
