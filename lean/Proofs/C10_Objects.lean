/-
  C10 — helper lemmas on the `Box` object with state (`BoxObj`, Atomman/C10.lean): whatever sequence of operations it went
  through, the reciprocal vectors it keeps are those of its current cell; and `systemModelR` at the cell's own map is `systemModel`.
-/
import Atomman.C10
import Proofs.Lists

namespace Atomman.C10
open Atomman
variable {K : Type}

section ops
variable [Add K] [Sub K] [Mul K] [Div K]

theorem systemModelR_eq [One K] [IntCast K] (fac : String → K) (boxUnit : Option String)
    (pu : List (String × Option String)) (s : SystemM K) :
    systemModelR fac boxUnit pu s s.box.cartToRel = systemModel fac boxUnit pu s := rfl

namespace BoxObj

theorem coherent_ofBox (b : Box K) : (ofBox b).Coherent := memo_of_none _ rfl

theorem coherent_setVects [Neg K] [OfNat K 0] [LT K] [DecidableLT K] (eps : K) (b : BoxObj K) (m : M3 K) :
    (b.setVects eps m).Coherent := memo_of_none _ rfl

theorem coherent_setOrigin (b : BoxObj K) (o : V3 K) (h : b.Coherent) : (b.setOrigin o).Coherent := by
  intro r hr
  exact h r hr

theorem coherent_readModel [Neg K] [One K] [OfNat K 0] [IntCast K] [LT K] [DecidableLT K]
    (fac : String → K) (eps : K) (b b' : BoxObj K) (t : DM K) (h : b.readModel fac eps t = some b') :
    b'.Coherent := by
  unfold readModel at h
  split at h
  · cases h
  · cases h
    exact memo_of_none _ rfl

theorem recipVects_box (b : BoxObj K) : b.recipVects.2.box = b.box := by
  unfold recipVects; split <;> rfl

theorem recipVects_fst (b : BoxObj K) (h : b.Coherent) : b.recipVects.1 = b.box.recip := by
  unfold recipVects
  rcases memo_cases h with hc | hc <;> rw [hc]

theorem coherent_recipVects (b : BoxObj K) (h : b.Coherent) : b.recipVects.2.Coherent := by
  unfold recipVects
  rcases memo_cases h with hc | hc <;> rw [hc]
  · exact memo_some _
  · exact h

theorem cartToRel_fst (b : BoxObj K) (h : b.Coherent) (p : V3 K) : (b.cartToRel p).1 = b.box.cartToRel p := by
  simp only [cartToRel, recipVects_fst b h, Box.cartToRel]

theorem cartToRel_snd (b : BoxObj K) (p : V3 K) : (b.cartToRel p).2 = b.recipVects.2 := rfl

end BoxObj

/-- the states a `Box` object can reach: construction, then any sequence of setter calls, conversions (which
    fill the kept reciprocal vectors) and `model(model=…)` reads. -/
inductive BoxReach [Neg K] [One K] [OfNat K 0] [IntCast K] [LT K] [DecidableLT K] (eps : K) : BoxObj K → Prop
  | new (b : Box K) : BoxReach eps (BoxObj.ofBox b)
  | setVects (b : BoxObj K) (m : M3 K) : BoxReach eps b → BoxReach eps (b.setVects eps m)
  | setOrigin (b : BoxObj K) (o : V3 K) : BoxReach eps b → BoxReach eps (b.setOrigin o)
  | recip (b : BoxObj K) : BoxReach eps b → BoxReach eps b.recipVects.2
  | convert (b : BoxObj K) (p : V3 K) : BoxReach eps b → BoxReach eps (b.cartToRel p).2
  | read (fac : String → K) (b b' : BoxObj K) (t : DM K) : BoxReach eps b → b.readModel fac eps t = some b' →
      BoxReach eps b'

theorem BoxReach.coherent [Neg K] [One K] [OfNat K 0] [IntCast K] [LT K] [DecidableLT K] (eps : K)
    (b : BoxObj K) (h : BoxReach eps b) : b.Coherent := by
  induction h with
  | new b => exact BoxObj.coherent_ofBox b
  | setVects b m _ _ => exact BoxObj.coherent_setVects eps b m
  | setOrigin b o _ ih => exact BoxObj.coherent_setOrigin b o ih
  | recip b _ ih => exact BoxObj.coherent_recipVects b ih
  | convert b p _ ih => exact BoxObj.coherent_recipVects b ih
  | read fac b b' t _ hr _ => exact BoxObj.coherent_readModel fac eps b b' t hr

end ops
end Atomman.C10
