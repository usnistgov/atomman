/-
  C17 — what is derived from `G`: strain and rotation are THE symmetric / antisymmetric split of `1 - G`; the invariants are
  the coefficients of the characteristic polynomial, frame independent; the Nye tensor vanishes for a constant (more
  generally a compatible) field.  As a Levi-Civita contraction it is stated over the generated index forms `Gen.nyeOfGrad` /
  `Gen.gradOf` / `Gen.nyeEinsum`, which have no hand-written counterpart.
-/
import Proofs.C17_Strain
import Proofs.C17_Source
import Mathlib.Tactic.LinearCombination

namespace Atomman.C17
open Atomman
set_option linter.unusedSectionVars false


variable {K : Type} [Field K] [LinearOrder K] [IsStrictOrderedRing K]

/-- congruence only: true of any six functions. -/
theorem measures_congr (G F : M3 K) (h : G = M3.inv F.transpose) :
    strain G = strain (M3.inv F.transpose) ∧ rotation G = rotation (M3.inv F.transpose) ∧
    invariant1 (strain G) = invariant1 (strain (M3.inv F.transpose)) ∧
    invariant2 (strain G) = invariant2 (strain (M3.inv F.transpose)) ∧
    invariant3 (strain G) = invariant3 (strain (M3.inv F.transpose)) ∧
    angularVelocitySq (rotation G) = angularVelocitySq (rotation (M3.inv F.transpose)) := by
  subst h; exact ⟨rfl, rfl, rfl, rfl, rfl, rfl⟩

theorem strain_symm (G : M3 K) : (strain G).transpose = strain G :=
  ext_ent fun j k => by rw [ent_transpose, ent_strain, ent_strain, add_comm]

theorem rotation_antisymm (G : M3 K) : (rotation G).transpose = subM zeroM (rotation G) :=
  ext_ent fun j k => by
    rw [ent_transpose, ent_subM, ent_zeroM, ent_rotation, ent_rotation]
    unfold half; ring

theorem strain_add_rotation (G : M3 K) : addM (strain G) (rotation G) = subM M3.one G :=
  ext_ent fun j k => by
    rw [ent_addM, ent_subM, ent_strain, ent_rotation]
    unfold half; simp only [Nat.cast_ofNat]; ring

/-- strain and rotation are determined by `G`: any split of `I − G` into a symmetric and an antisymmetric part is
    (`strain G`, `rotation G`). -/
theorem strain_rotation_unique (G S A : M3 K) (hS : S.transpose = S) (hA : A.transpose = subM zeroM A)
    (h : addM S A = subM M3.one G) : S = strain G ∧ A = rotation G := by
  have hs : ∀ j k, ent S k j = ent S j k := fun j k => by rw [← ent_transpose, hS]
  have ha : ∀ j k, ent A k j = 0 - ent A j k := fun j k => by rw [← ent_transpose, hA, ent_subM, ent_zeroM]
  have hh : ∀ j k, ent S j k + ent A j k = ent M3.one j k - ent G j k := fun j k => by rw [← ent_addM, h, ent_subM]
  -- entry `(j, k)` of `1 - G` and its mirror image are `S_jk + A_jk` and `S_jk - A_jk`
  constructor <;> refine ext_ent fun j k => ?_
  · rw [ent_strain, ← hh j k, ← hh k j, hs j k, ha j k]
    unfold half; simp only [Nat.cast_ofNat]; ring
  · rw [ent_rotation, ← hh j k, ← hh k j, hs j k, ha j k]
    unfold half; simp only [Nat.cast_ofNat]; ring

theorem strain_one : strain (M3.one : M3 K) = zeroM ∧ rotation (M3.one : M3 K) = zeroM := by
  constructor <;> refine ext_ent fun j k => ?_
  · rw [ent_strain, ent_zeroM, sub_self, sub_self, add_zero, half, zero_div]
  · rw [ent_rotation, ent_zeroM, sub_self, sub_self, sub_zero, half, zero_div]

/-- Strain, rotation and the invariants the code derives from the tensor IT COMPUTES at a homogeneously deformed atom
    (`strainG`: neighbour vectors, pairing, least squares) are those of `F⁻ᵀ`, and they split `1 - F⁻ᵀ` into its
    symmetric and antisymmetric part.  (With `G = F⁻ᵀ` taken as a hypothesis the first six clauses are a congruence,
    true of any six functions: that is `measures_congr` above.) -/
theorem measures_homogeneous (mag : V3 K → K) (cosMax big : K) (c0 c1 : Cell K) (pos0 pos1 : Nat → V3 K)
    (nbrs0 nbrs1 : List Nat) (i : Nat) (ks : List Nat) (F : M3 K) (hF : M3.det F ≠ 0)
    (hlen : nbrs1.length = ks.length)
    (hbest : ∀ e ∈ (nbrVectors c1 pos1 nbrs1 i).zip ks, IsBest mag cosMax (nbrVectors c0 pos0 nbrs0 i) e.1 e.2)
    (hnd : ks.Nodup)
    (hq : ∀ e ∈ (nbrVectors c1 pos1 nbrs1 i).zip ks, ∀ p, (nbrVectors c0 pos0 nbrs0 i)[e.2]? = some p →
      e.1 = M3.mulVec F p)
    (hne : nbrs1 ≠ [])
    (hrank : M3.det (qtqV (nbrVectors c1 pos1 nbrs1 i)) ≠ 0) :
    strain (strainG mag cosMax big c0 c1 pos0 pos1 nbrs0 nbrs1 i) = strain (M3.inv F.transpose) ∧
    rotation (strainG mag cosMax big c0 c1 pos0 pos1 nbrs0 nbrs1 i) = rotation (M3.inv F.transpose) ∧
    invariant1 (strain (strainG mag cosMax big c0 c1 pos0 pos1 nbrs0 nbrs1 i))
      = invariant1 (strain (M3.inv F.transpose)) ∧
    invariant2 (strain (strainG mag cosMax big c0 c1 pos0 pos1 nbrs0 nbrs1 i))
      = invariant2 (strain (M3.inv F.transpose)) ∧
    invariant3 (strain (strainG mag cosMax big c0 c1 pos0 pos1 nbrs0 nbrs1 i))
      = invariant3 (strain (M3.inv F.transpose)) ∧
    angularVelocitySq (rotation (strainG mag cosMax big c0 c1 pos0 pos1 nbrs0 nbrs1 i))
      = angularVelocitySq (rotation (M3.inv F.transpose)) ∧
    (strain (M3.inv F.transpose)).transpose = strain (M3.inv F.transpose) ∧
    (rotation (M3.inv F.transpose)).transpose = subM zeroM (rotation (M3.inv F.transpose)) ∧
    addM (strain (M3.inv F.transpose)) (rotation (M3.inv F.transpose)) = subM M3.one (M3.inv F.transpose) := by
  have h := strainG_homogeneous mag cosMax big c0 c1 pos0 pos1 nbrs0 nbrs1 i ks F hF hlen hbest hnd hq hne hrank
  rw [h]
  exact ⟨rfl, rfl, rfl, rfl, rfl, rfl, strain_symm _, rotation_antisymm _, strain_add_rotation _⟩

/-- ... so `Strain` of a system compared with itself gives `G = I`, zero strain and zero rotation at every atom with
    full-rank neighbour vectors. -/
theorem strainG_undeformed (mag : V3 K → K) (cosMax big : K) (c : Cell K) (pos : Nat → V3 K) (nbrs : List Nat) (i : Nat)
    (hc : cosMax < 1)
    (hmag : ∀ p ∈ nbrVectors c pos nbrs i, 0 < mag p ∧ mag p * mag p = V3.normSq p)
    (hsep : (nbrVectors c pos nbrs i).Pairwise (fun a b => V3.dot a b < mag a * mag b))
    (hne : nbrs ≠ [])
    (hrank : M3.det (qtqV (nbrVectors c pos nbrs i)) ≠ 0) :
    strainG mag cosMax big c c pos pos nbrs nbrs i = M3.one ∧
    strain (strainG mag cosMax big c c pos pos nbrs nbrs i) = zeroM ∧
    rotation (strainG mag cosMax big c c pos pos nbrs nbrs i) = zeroM := by
  have h : strainG mag cosMax big c c pos pos nbrs nbrs i = M3.one := by
    unfold strainG
    exact solveG_undeformed mag cosMax big _ hc hmag hsep (by simpa [nbrVectors] using hne) hrank
  rw [h]
  exact ⟨rfl, strain_one.1, strain_one.2⟩

theorem invariants_charpoly (s : M3 K) (l : K) :
    M3.det (subM s ⟨⟨l, 0, 0⟩, ⟨0, l, 0⟩, ⟨0, 0, l⟩⟩)
      = -l ^ 3 + invariant1 s * l ^ 2 - invariant2 s * l + invariant3 s := by
  simp only [M3.det, V3.dot, V3.cross, subM, sub_x, sub_y, sub_z, invariant1, invariant2, invariant3]; ring

theorem invariant3_eq_det (s : M3 K) : invariant3 s = M3.det s := by
  simp only [invariant3, M3.det, V3.dot, V3.cross]; ring

theorem invariant1_frame (R s : M3 K) (hR : M3.mul R.transpose R = M3.one) :
    invariant1 (M3.mul (M3.mul R s) R.transpose) = invariant1 s := by
  -- the trace is cyclic
  have cyc : ∀ A B : M3 K, invariant1 (M3.mul A B) = invariant1 (M3.mul B A) := fun A B => by
    simp only [invariant1, M3.mul, M3.vecMul]; ring
  rw [cyc, ← M3.mul_assoc, hR, M3.one_mul]

theorem invariant2_eq (s : M3 K) : invariant2 s = (invariant1 s ^ 2 - invariant1 (M3.mul s s)) / 2 := by
  simp only [invariant1, invariant2, M3.mul, M3.vecMul]; ring

/-- `I₁, I₂, I₃` of `R ε Rᵀ` equal those of `ε` for every isometry `R` (any tensor, not only symmetric). -/
theorem invariants_frame (R s : M3 K) (hR : M3.mul R.transpose R = M3.one) :
    invariant1 (M3.mul (M3.mul R s) R.transpose) = invariant1 s ∧
    invariant2 (M3.mul (M3.mul R s) R.transpose) = invariant2 s ∧
    invariant3 (M3.mul (M3.mul R s) R.transpose) = invariant3 s := by
  refine ⟨invariant1_frame R s hR, ?_, ?_⟩
  · rw [invariant2_eq, invariant2_eq, M3.conj_mul_conj_of_orth hR s s, invariant1_frame R s hR, invariant1_frame R _ hR]
  · rw [invariant3_eq_det, invariant3_eq_det, det_mul3, det_mul3]
    have h : M3.det R.transpose * M3.det R = 1 := by
      rw [← M3.det_mul, hR, M3.det_one]
    rw [M3.det_transpose] at h ⊢
    linear_combination (M3.det s) * h

theorem nyeOf_zero : nyeOf ((zeroM : M3 K), (zeroM : M3 K), (zeroM : M3 K)) = zeroM := by
  ext <;> simp [nyeOf, zeroM, zero3, M3.row, V3.get]

/-- If `G` takes the same value on atom `i` and on all its neighbours (homogeneous deformation), every
    right-hand side `G[j] - G[i]` of the gradient fit vanishes and so does the Nye tensor — whatever the neighbour
    vectors are. -/
theorem nye_zero (c : Cell K) (pos : Nat → V3 K) (G : Nat → M3 K) (nbrs : List Nat) (i : Nat)
    (hG : ∀ j ∈ nbrs, G j = G i) : nye c pos G nbrs i = zeroM := by
  have hz : ∀ (f : M3 K → V3 K), f zeroM = zero3 →
      ∀ e ∈ ((nbrs.map fun j => subM (G j) (G i)).map f).zip (nbrVectors c pos nbrs i), e.1 = zero3 := by
    intro f hf e he
    have := (List.of_mem_zip he).1
    simp only [List.mem_map] at this
    obtain ⟨m, ⟨j, hj, rfl⟩, h2⟩ := this
    rw [← h2, hG j hj, subM_self, hf]
  unfold nye gradG
  rw [solveNormal_zero _ (hz (·.r0) rfl), solveNormal_zero _ (hz (·.r1) rfl), solveNormal_zero _ (hz (·.r2) rfl)]
  exact nyeOf_zero

/-- the Nye tensor does not depend on the order in which an atom's neighbours are listed. -/
theorem nye_perm (c : Cell K) (pos : Nat → V3 K) (G : Nat → M3 K) (l l' : List Nat) (h : l.Perm l') (i : Nat) :
    nye c pos G l i = nye c pos G l' i := by
  have key : ∀ (f : M3 K → V3 K) (m : List Nat),
      ((m.map fun j => subM (G j) (G i)).map f).zip (nbrVectors c pos m i)
        = m.map fun j => (f (subM (G j) (G i)), c.dv (pos i) (pos j)) := by
    intro f m
    induction m with
    | nil => rfl
    | cons a m ih => simp only [List.map_cons, nbrVectors, List.zip_cons_cons] at ih ⊢; rw [ih]
  unfold nye gradG
  rw [key, key, key, key, key, key]
  rw [solveNormal_perm _ _ (h.map _), solveNormal_perm _ _ (h.map _), solveNormal_perm _ _ (h.map _)]

/-- a gradient symmetric in (first index of `G`, direction) has zero Nye tensor. -/
theorem nyeOfGrad_compatible (g : Nat → Nat → Nat → K) (h : ∀ x y z, g x y z = g z y x) : Gen.nyeOfGrad g = zeroM := by
  simp only [Gen.nyeOfGrad, zeroM, zero3]
  ext <;> simp only [] <;> rw [sub_eq_zero] <;> exact h _ _ _

/-- the Nye tensor of the MODEL (`nyeOf`, three fitted gradients) is the Levi-Civita contraction `-ε_ijm ∂_m G_ik`
    written in `nye_tensor.py` (`Gen.nyeEinsum`, regenerated from the `eps` table and the einsum string; that the table is
    the Levi-Civita symbol is `gen_eps_eq_leviCivita`, Proofs/C17_Source.lean). -/
theorem nyeOf_is_leviCivita_contraction (g : M3 K × M3 K × M3 K) :
    nyeOf g = Gen.nyeEinsum (Gen.gradOf fun x => if x = 0 then g.1 else if x = 1 then g.2.1 else g.2.2) := by
  rw [← gen_nyeOf_eq_model, Gen.nyeOf, gen_nye_c_eq_einsum]

/-- A compatible field has no Nye tensor: when the fitted gradient `∂_z G_xy` is symmetric in the
    first index of `G` and the direction of differentiation (`G_xy = ∂_x φ_y` for some field `φ`: second derivatives
    commute) the Nye tensor vanishes — the general reason behind `nye_zero` (constant `G`). -/
theorem nye_compatible (g : M3 K × M3 K × M3 K)
    (h : ∀ x y z, Gen.gradOf (fun x => if x = 0 then g.1 else if x = 1 then g.2.1 else g.2.2) x y z
      = Gen.gradOf (fun x => if x = 0 then g.1 else if x = 1 then g.2.1 else g.2.2) z y x) :
    nyeOf g = zeroM := by
  rw [← gen_nyeOf_eq_model, Gen.nyeOf]
  exact nyeOfGrad_compatible _ h

/-- hypothesis of `nye_zero` / the general case: a constant field gives zero, a varying one does not. -/
example :
    let pos : Nat → V3 ℚ := fun k => if k = 0 then ⟨0, 0, 0⟩ else if k = 1 then ⟨1, 0, 0⟩ else if k = 2 then ⟨0, 1, 0⟩
      else ⟨0, 0, 1⟩
    let c : Cell ℚ := ⟨⟨⟨8, 0, 0⟩, ⟨0, 8, 0⟩, ⟨0, 0, 8⟩⟩, true, true, true⟩
    nye c pos (fun _ => exR) [1, 2, 3] 0 = zeroM ∧
    nye c pos (fun k => if k = 1 then exR else M3.one) [1, 2, 3] 0 ≠ zeroM := by
  decide +kernel

/-- `strain_rotation_unique`, `invariants_frame` (3-4-5 rotation of a non-symmetric tensor), `nyeOfGrad_compatible`
    (a symmetric gradient) and its failure for a non-compatible one. -/
example :
    let R : M3 ℚ := ⟨⟨3/5, -4/5, 0⟩, ⟨4/5, 3/5, 0⟩, ⟨0, 0, 1⟩⟩
    let s : M3 ℚ := ⟨⟨1, 2, 3⟩, ⟨4, 5, 6⟩, ⟨7, 8, 10⟩⟩
    M3.mul R.transpose R = M3.one ∧ M3.mul (M3.mul R s) R.transpose ≠ s ∧
    invariant2 (M3.mul (M3.mul R s) R.transpose) = invariant2 s ∧ invariant2 s = -12 ∧ invariant3 s = -3 ∧
    (let g : Nat → Nat → Nat → ℚ := fun x y z => (((x + 1) * (z + 1) * (y + 2) : Nat) : ℚ)
     (∀ x ∈ [0, 1, 2], ∀ y ∈ [0, 1, 2], ∀ z ∈ [0, 1, 2], g x y z = g z y x) ∧ Gen.nyeOfGrad g = zeroM) ∧
    Gen.nyeOfGrad (fun x y z => ((x + 2 * z + y : Nat) : ℚ)) ≠ zeroM := by
  decide +kernel

end Atomman.C17
