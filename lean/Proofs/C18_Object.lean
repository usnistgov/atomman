/-
  C18 — the `SDVPN` object: the total and its terms, what each setter and `solve(**kwargs)` change, optional arguments of the
  term methods, the stress row, and `decompose` / `recompose` around the minimiser.
-/
import Proofs.C18_Lemmas

namespace Atomman.C18
open Atomman
set_option linter.unusedSectionVars false

variable {K : Type} [Field K] [LinearOrder K] [IsStrictOrderedRing K]

/-- `total_energy` is the sum of the six documented terms. -/
theorem total_is_sum (lg : K → K) (gam : V3 K → K) (s : Settings K) (x : List K) (d : List (V3 K)) :
    totalEnergy lg gam s x d =
      misfitEnergy gam s.T x d + elasticEnergy lg s.pi s.Kt s.cdiffelastic x d
        + longrangeEnergy s.pi s.logL s.Kt s.burgers + stressEnergy s.fullstress s.cdiffstress s.τ1 x d
        + nonlocalEnergy s.αs x d + surfaceEnergy s.cdiffsurface s.β x d := rfl

theorem total_is_sum_of_terms (lg : K → K) (gam : V3 K → K) (s : Settings K) (x : List K) (d : List (V3 K)) :
    totalEnergy lg gam s x d = lsum (termsOf lg gam s x d) := by
  simp only [totalEnergy, termsOf, lsum]; ring

/-- the six terms of an object are a function of its current settings: two objects with the same settings give
    the same terms whatever their histories (a memoised term in the implementation would violate this). -/
theorem energy_state_only (lg : K → K) (gam : V3 K → K) (o₁ o₂ : Obj K) (h : o₁.s = o₂.s) (x : List K) (d : List (V3 K)) :
    o₁.terms lg gam x d = o₂.terms lg gam x d ∧ o₁.total lg gam x d = o₂.total lg gam x d := by
  simp only [Obj.terms, Obj.total, h, and_self]

/-- last write wins: after any history, setting the cut-off (setter, or `solve(cutofflongrange=…)`) makes the
    long-range term `(b·K·b) ln(L_new) / (2π)` with the object's `K`, `b`, `π`, which the edit does not touch. -/
theorem longrange_after_edit (o : Obj K) (ops : List (Op K)) (l : K) (kw : SolveKw K) (res : List K) :
    let o' := o.run ops
    (longrangeEnergy (o'.apply (.setLogL l)).s.pi (o'.apply (.setLogL l)).s.logL (o'.apply (.setLogL l)).s.Kt
        (o'.apply (.setLogL l)).s.burgers = longrangeEnergy o'.s.pi l o'.s.Kt o'.s.burgers) ∧
    (longrangeEnergy (o'.apply (.solve { kw with logL := some l } res)).s.pi
        (o'.apply (.solve { kw with logL := some l } res)).s.logL (o'.apply (.solve { kw with logL := some l } res)).s.Kt
        (o'.apply (.solve { kw with logL := some l } res)).s.burgers = longrangeEnergy o'.s.pi l o'.s.Kt o'.s.burgers) :=
  ⟨rfl, rfl⟩

/-- frame: each setter changes its own field only; `load` replaces the whole state. -/
theorem setters_frame (o o' : Obj K) (t : V3 K) (a : List K) (b : M3 K) (l : K) (f : Bool) :
    (o.apply (.setTau t)).s = { o.s with τ1 := t } ∧ (o.apply (.setAlpha a)).s = { o.s with αs := a } ∧
    (o.apply (.setBeta b)).s = { o.s with β := b } ∧ (o.apply (.setLogL l)).s = { o.s with logL := l } ∧
    (o.apply (.setFull f)).s = { o.s with fullstress := f } ∧ (o.apply (.setCdE f)).s = { o.s with cdiffelastic := f } ∧
    (o.apply (.setCdS f)).s = { o.s with cdiffsurface := f } ∧ (o.apply (.setCdT f)).s = { o.s with cdiffstress := f } ∧
    (o.apply (.setTau t)).x = o.x ∧ (o.apply (.setTau t)).d = o.d ∧ o.apply (.load o') = o' :=
  ⟨rfl, rfl, rfl, rfl, rfl, rfl, rfl, rfl, rfl, rfl, rfl⟩

/-- **optional arguments**: each of the seven methods `misfit/elastic/longrange/stress/nonlocal/surface/total_energy(x=None,
    disregistry=None)` evaluates its formula on the given argument where one is given and on the stored value where
    not — EACH ARGUMENT ON ITS OWN (a one-sided override is not discarded). -/
theorem term_optional_args (lg : K → K) (gam : V3 K → K) (o : Obj K) (t : Term) (x : List K) (d : List (V3 K)) :
    o.call lg gam t none none = termValue lg gam o.s t o.x o.d ∧
    o.call lg gam t (some x) none = termValue lg gam o.s t x o.d ∧
    o.call lg gam t none (some d) = termValue lg gam o.s t o.x d ∧
    o.call lg gam t (some x) (some d) = termValue lg gam o.s t x d := ⟨rfl, rfl, rfl, rfl⟩

/-- for every subset of the optional arguments the total is the sum of the six term calls with the SAME arguments. -/
theorem total_call_is_sum (lg : K → K) (gam : V3 K → K) (o : Obj K) (xo : Option (List K)) (dO : Option (List (V3 K))) :
    o.call lg gam .total xo dO =
      o.call lg gam .misfit xo dO + o.call lg gam .elastic xo dO + o.call lg gam .longrange xo dO
        + o.call lg gam .stress xo dO + o.call lg gam .nonlocal xo dO + o.call lg gam .surface xo dO := rfl

/-- `disldensity(x=None, disregistry=None, cdiff)`: the same fallback; the returned coordinates are `x[1:]`
    (neighbour difference) or `x[1:-1]` (central difference) of the EFFECTIVE grid, one per density row when the grid
    and the profile have the same length. -/
theorem density_optional_args (o : Obj K) (x : List K) (d : List (V3 K)) (cdiff : Bool) :
    o.density none none cdiff = (densityX cdiff o.x, disldensity cdiff o.x o.d) ∧
    o.density (some x) none cdiff = (densityX cdiff x, disldensity cdiff x o.d) ∧
    o.density none (some d) cdiff = (densityX cdiff o.x, disldensity cdiff o.x d) ∧
    o.density (some x) (some d) cdiff = (densityX cdiff x, disldensity cdiff x d) ∧
    (x.length = d.length → (densityX cdiff x).length = (disldensity cdiff x d).length) := by
  refine ⟨rfl, rfl, rfl, rfl, fun hl => ?_⟩
  cases cdiff <;>
    simp only [densityX, disldensity, List.length_zipWith, List.length_drop, List.length_dropLast, hl,
      Bool.false_eq_true, if_false, if_true] <;> omega

/-- the profile setters `obj.x = …`, `obj.disregistry = …` change the stored profile only. -/
theorem profile_setters_frame (o : Obj K) (x : List K) (d : List (V3 K)) :
    (o.apply (.setX x)).s = o.s ∧ (o.apply (.setX x)).x = x ∧ (o.apply (.setX x)).d = o.d ∧
    (o.apply (.setD d)).s = o.s ∧ (o.apply (.setD d)).x = o.x ∧ (o.apply (.setD d)).d = d :=
  ⟨rfl, rfl, rfl, rfl, rfl, rfl⟩

/-- only the second row of the stress array enters the stress term, for both expressions and both difference quotients. -/
theorem stress_second_row_only (full cdiff : Bool) (τ τ' : M3 K) (h : τ.r1 = τ'.r1) (x : List K) (d : List (V3 K)) :
    stressEnergyT full cdiff τ x d = stressEnergyT full cdiff τ' x d := by
  simp only [stressEnergyT, h]

/-- a SYMMETRIC stress array and its transpose give the same stress term.  The hypothesis makes the two arrays equal and nothing
    about `stressEnergyT` is used; the remark it stands for: only non-symmetric arrays tell the second row from the second column
    (the example with `M3.transpose` in `Proofs/C18.lean` shows one that does). -/
theorem stress_symmetric_row_eq_col (full cdiff : Bool) (τ : M3 K) (h : τ.transpose = τ) (x : List K) (d : List (V3 K)) :
    stressEnergyT full cdiff τ.transpose x d = stressEnergyT full cdiff τ x d := by
  rw [h]

theorem recompose_head (res : List K) (first last : V3 K) : (recompose res first last).head? = some first := by
  simp [recompose]

theorem recompose_last (res : List K) (first last : V3 K) : (recompose res first last).getLast? = some last := by
  unfold recompose
  simp only
  exact List.getLast?_concat

theorem recompose_length (res : List K) (first last : V3 K) :
    (recompose res first last).length = res.length / 2 + 2 := by
  have h1 : (res.take (res.length / 2)).length = res.length / 2 := by
    rw [List.length_take]; omega
  have h2 : (res.drop (res.length / 2)).length = res.length - res.length / 2 := List.length_drop
  simp only [recompose, List.length_cons, List.length_append, List.length_zipWith, h1, h2, List.length_nil]
  omega

theorem zipWith_xz_y (l r : List K) : ∀ v ∈ List.zipWith (fun a b => (⟨a, 0, b⟩ : V3 K)) l r, v.y = 0 := by
  intro v hv
  obtain ⟨i, hi, rfl⟩ := List.mem_iff_getElem.mp hv
  simp

theorem recompose_interior_y (res : List K) (first last : V3 K) :
    ∀ v ∈ ((recompose res first last).drop 1).dropLast, v.y = 0 := by
  intro v hv
  simp only [recompose, List.cons_append, List.drop_one, List.tail_cons, List.dropLast_concat] at hv
  exact zipWith_xz_y _ _ v hv

/-- **solve leaves the two end disregistries fixed — for every output of the optimiser** (any list `res`,
    any length): the stored profile starts with the first row and ends with the last row of the guess. -/
theorem solve_ends_fixed (res : List K) (d : List (V3 K)) (hd : d ≠ []) :
    (solveResult res d).head? = d.head? ∧ (solveResult res d).getLast? = d.getLast? := by
  obtain ⟨a, l, rfl⟩ := List.exists_cons_of_ne_nil hd
  simp only [solveResult, recompose_head, recompose_last, List.headD_cons, List.head?_cons, List.getLastD_eq_getLast?,
    List.getLast?_eq_some_getLast (List.cons_ne_nil a l), Option.getD_some, and_self]

/-- the profile `solve` stores has `len(res) / 2 + 2` rows, the interior ones with y = 0 (their x and z are the two halves of the
    optimiser output by the definition of `recompose`; not stated here). -/
theorem solve_interior (res : List K) (d : List (V3 K)) :
    (solveResult res d).length = res.length / 2 + 2 ∧
    ∀ v ∈ ((solveResult res d).drop 1).dropLast, v.y = 0 :=
  ⟨recompose_length _ _ _, recompose_interior_y _ _ _⟩

/-- `recompose ∘ decompose` is the identity on profiles with zero interior y (so the optimiser starts
    exactly from the guess, and only interior x and z components are free). -/
theorem recompose_decompose (first last : V3 K) (inner : List (V3 K)) (hy : ∀ v ∈ inner, v.y = 0) :
    recompose (decompose (first :: inner ++ [last])) first last = first :: inner ++ [last] := by
  have hin : ((first :: inner ++ [last]).drop 1).dropLast = inner := by simp
  have hl : (inner.length + inner.length) / 2 = inner.length := by omega
  simp only [decompose, recompose, hin, List.length_append, List.length_map, hl]
  rw [List.take_left' (List.length_map _), List.drop_left' (List.length_map _), List.zipWith_map, List.zipWith_self,
    map_eq_self (fun a => (⟨a.x, 0, a.z⟩ : V3 K)) inner (fun v hv => V3.ext rfl (hy v hv).symm rfl)]

/-- `solve(**kwargs)` = the given keywords applied as setters (absent ones keep the current value), then the
    optimiser output embedded between the end rows of the (possibly new) guess; the `cdiffstress` keyword leaves `cdiffelastic`
    alone and conversely (the two finite-difference flags are not mixed up). -/
theorem solve_kwargs (o : Obj K) (kw : SolveKw K) (res : List K) :
    (o.apply (.solve kw res)).s = (o.applyKw kw).s ∧
    (o.apply (.solve kw res)).x = kw.x.getD o.x ∧
    (o.apply (.solve kw res)).d = solveResult res (kw.d.getD o.d) ∧
    (kw.d.getD o.d ≠ [] → (o.apply (.solve kw res)).d.head? = (kw.d.getD o.d).head? ∧
        (o.apply (.solve kw res)).d.getLast? = (kw.d.getD o.d).getLast?) ∧
    (o.applyKw { cdiffstress := kw.cdiffstress }).s.cdiffelastic = o.s.cdiffelastic ∧
    (o.applyKw { cdiffelastic := kw.cdiffelastic }).s.cdiffstress = o.s.cdiffstress := by
  refine ⟨rfl, rfl, rfl, fun hd => ?_, rfl, rfl⟩
  exact solve_ends_fixed res (kw.d.getD o.d) hd

/-- **solve never raises the total energy, GIVEN that the minimiser does not end above its start**: for ANY energy
    functional `Etot`, the function handed to the minimiser evaluates, at the start vector, the energy of the guess
    itself (interior y = 0) and, at the returned vector, the energy of the profile that `solve` stores. -/
theorem solve_not_raises_of_descent (Etot : List (V3 K) → K) (first last : V3 K) (inner : List (V3 K))
    (hy : ∀ v ∈ inner, v.y = 0) (res : List K)
    (hdesc : Etot (recompose res first last) ≤ Etot (recompose (decompose (first :: inner ++ [last])) first last)) :
    Etot (solveResult res (first :: inner ++ [last])) ≤ Etot (first :: inner ++ [last]) := by
  rw [recompose_decompose first last inner hy] at hdesc
  have e : solveResult res (first :: inner ++ [last]) = recompose res first last := by
    simp [solveResult, List.getLast?_cons, List.getLast?_append]
  rw [e]; exact hdesc

end Atomman.C18
