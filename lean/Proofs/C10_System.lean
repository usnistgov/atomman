/-
  C10 — helper lemmas for the System round trip:
  (n,3)-row maps, the 3x3 inverse on rows (box-scaled properties), lookups in the `atomic-system` node.
-/
import Proofs.C10_Lemmas
import Proofs.Linear3
namespace Atomman.C10
variable {K : Type}

/-- total version of `mapRows3`. -/
def rowsMap (f : V3 K → V3 K) : List K → List K
  | x :: y :: z :: r => (f ⟨x, y, z⟩).toList ++ rowsMap f r
  | _ => []

theorem rows_induction {P : List K → Prop} (h0 : P []) (h3 : ∀ x y z r, P r → P (x :: y :: z :: r)) :
    ∀ (n : Nat) (l : List K), l.length = 3 * n → P l := by
  intro n
  induction n with
  | zero => intro l h; obtain rfl := List.length_eq_zero_iff.mp (by simpa using h); exact h0
  | succ n ih =>
    intro l h
    match l, h with
    | x :: y :: z :: r, h => exact h3 x y z r (ih r (by simp at h; omega))

theorem mapRows3_eq (f : V3 K → V3 K) : ∀ (n : Nat) (l : List K), l.length = 3 * n →
    mapRows3 f l = some (rowsMap f l) ∧ (rowsMap f l).length = l.length :=
  rows_induction ⟨rfl, rfl⟩ fun x y z r ⟨h1, h2⟩ => by simp [mapRows3, rowsMap, h1, h2, V3.toList]

theorem rowsMap_comp (f g : V3 K → V3 K) : ∀ l : List K, rowsMap g (rowsMap f l) = rowsMap (fun v => g (f v)) l
  | x :: y :: z :: r => by simp [rowsMap, V3.toList, rowsMap_comp f g r]
  | [] | [_] | [_, _] => rfl

theorem rowsMap_pointwise (f : V3 K → V3 K) (g : K → K) (hf : ∀ v, f v = v.map g) : ∀ (n : Nat) (l : List K), l.length = 3 * n →
    rowsMap f l = l.map g :=
  rows_induction rfl fun x y z r ih => by simp [rowsMap, V3.toList, hf, V3.map, ih]

theorem prodNat_last3 : ∀ (s : List Nat), s.getLast? = some 3 → ∃ n, prodNat s = 3 * n := by
  intro s
  induction s with
  | nil => intro h; simp at h
  | cons a s ih =>
    intro h
    cases s with
    | nil => simp at h; subst h; exact ⟨1, rfl⟩
    | cons b s =>
      rw [List.getLast?_cons_cons] at h
      obtain ⟨n, hn⟩ := ih h
      exact ⟨a * n, by rw [prodNat_cons, hn]; ring⟩

section field
variable [Field K]

theorem v3_add_def (a b : V3 K) : a + b = ⟨a.x + b.x, a.y + b.y, a.z + b.z⟩ := rfl
theorem v3_sub_def (a b : V3 K) : a - b = ⟨a.x - b.x, a.y - b.y, a.z - b.z⟩ := rfl

theorem relToCart_scale (b : Box K) (r : K) (s : V3 K) :
    Box.relToCart ⟨mapM3 (· * r) b.vects, b.origin.map (· * r)⟩ s = (b.relToCart s).map (· * r) := by
  simp only [Box.relToCart, M3.vecMul, mapM3, V3.map, v3_add_def, V3.mk.injEq]
  refine ⟨?_, ?_, ?_⟩ <;> ring

/-- the inverse itself is `Box.relToCart_cartToRel` of `Proofs/Linear3`. -/
theorem rel_cart_scaled (b : Box K) (r : K) (hdet : M3.det b.vects ≠ 0) (p : V3 K) :
    Box.relToCart ⟨mapM3 (· * r) b.vects, b.origin.map (· * r)⟩ (b.cartToRel p) = p.map (· * r) :=
  (relToCart_scale b r _).trans (congrArg _ (Box.relToCart_cartToRel b hdet p))

theorem scaleFn_eq_mul (fac1 fac2 : String → K) (units : Option String) :
    ∃ r : K, scaleFn fac1 fac2 units = (· * r) := by
  cases units with
  | none => exact ⟨1, by funext x; simp [scaleFn]⟩
  | some u => exact ⟨factor fac2 u / factor fac1 u, by funext x; simp [scaleFn]; ring⟩
end field

theorem lookup_appendAll_ne (k k' : String) (l : List (DM K)) (h : k' ≠ k) : (appendAll k l).lookup k' = none := by
  have : (k' == k) = false := by simpa using h
  rcases l with _ | ⟨v, _ | ⟨w, vs⟩⟩ <;> simp [appendAll, List.lookup, this]

/-- the node is a list (`aslist` returns a list as it is and wraps anything else). -/
def DM.isList : DM K → Bool
  | .list _ => true
  | _ => false

theorem aslist_of_lookup (kv : List (String × DM K)) (k : String) (l : List (DM K))
    (h : kv.lookup k = (appendAll k l).lookup k) (hl : ∀ x ∈ l, x.isList = false) :
    (DM.node kv).aslist k = l := by
  simp only [DM.aslist, DM.get?, h]
  rcases l with _ | ⟨v, _ | ⟨w, vs⟩⟩
  · simp [appendAll]
  · have := hl v (by simp)
    cases v <;> simp_all [appendAll, DM.isList]
  · simp [appendAll]

section field
variable [Field K]

theorem fltD_length (d : Data K) (h : ∀ l, d ≠ .str l) : d.fltD.length = d.length := by
  cases d with
  | flt l => rfl
  | int l => simp [Data.fltD, Data.toFlt, Data.length]
  | str l => exact absurd rfl (h l)

theorem rescale_scaled (fac1 fac2 : String → K) (d : Data K) (h : ∀ l, d ≠ .str l) :
    d.rescale fac1 fac2 (some "scaled") = .flt d.fltD := by
  cases d with
  | flt l => simp [Data.rescale, Data.fltD, Data.toFlt, scaleFn_some, factor]
  | int l => simp [Data.rescale, Data.fltD, Data.toFlt, scaleFn_some, factor]
  | str l => exact absurd rfl (h l)

theorem mapPositions_flt (f : V3 K → V3 K) (sh : List Nat) (L : List K) (h3 : sh.getLast? = some 3)
    (hlen : L.length = prodNat sh) :
    mapPositions f ⟨sh, .flt L⟩ = some ⟨sh, .flt (rowsMap f L)⟩ ∧ (rowsMap f L).length = prodNat sh := by
  obtain ⟨n, hn⟩ := prodNat_last3 sh h3
  obtain ⟨h1, h2⟩ := mapRows3_eq f n L (by rw [hlen, hn])
  exact ⟨by simp [mapPositions, h3, Data.toFlt, h1], by rw [h2, hlen]⟩

theorem scaled_prop (a : AtomsM K) (hw : a.Wf) (un : String → Option String) (hu : SysUnitsOk a un)
    (p : String × Arr K) (hp : p ∈ a.props) (hsc : effUnit p.1 (un p.1) = some "scaled") :
    (∀ l, p.2.data ≠ .str l) ∧ p.2.shape.getLast? = some 3 ∧ p.2.data.fltD.length = prodNat p.2.shape ∧
      ∃ n, p.2.data.fltD.length = 3 * n := by
  have hns : ∀ l, p.2.data ≠ .str l := by
    intro l hl
    have := hu.1.2 p hp l hl
    rw [hsc] at this; cases this
  have hL : p.2.data.fltD.length = prodNat p.2.shape := by rw [fltD_length _ hns, (hw.ok p hp).2.1]
  obtain ⟨n, hn⟩ := prodNat_last3 p.2.shape (hu.2 p hp hsc)
  exact ⟨hns, hu.2 p hp hsc, hL, n, hL.trans hn⟩

/-- what `System.model` stores for property `p` as the reader's `Atoms(model=…)` sees it: box-relative
    coordinates for `'scaled'`, the converted value otherwise. -/
def sysPropRel (fac1 fac2 : String → K) (un : String → Option String) (box : Box K) (p : String × Arr K) :
    String × Arr K :=
  if effUnit p.1 (un p.1) = some "scaled" then (p.1, ⟨p.2.shape, .flt (rowsMap box.cartToRel p.2.data.fltD)⟩)
  else propTwo fac1 fac2 un p

end field

theorem getStr_isList (t : DM K) (k s : String) (h : t.getStr? k = some s) : t.isList = false := by
  cases t with
  | list l => cases h
  | _ => rfl

theorem propRead_isList [Mul K] [One K] [IntCast K] (fac : String → K) (t : DM K) (p : String × Arr K)
    (h : propRead fac t = some p) : t.isList = false := by
  cases t with
  | list l => cases h
  | _ => rfl

theorem forall2_right_mem {α β : Type} (R : α → β → Prop) (l : List α) (ys : List β) (h : List.Forall₂ R l ys)
    (y : β) (hy : y ∈ ys) : ∃ x ∈ l, R x y := by
  induction h with
  | nil => simp at hy
  | cons h1 _ ih =>
    rcases List.mem_cons.mp hy with rfl | hy'
    · exact ⟨_, by simp, h1⟩
    · obtain ⟨x, hx, hr⟩ := ih hy'
      exact ⟨x, by simp [hx], hr⟩

theorem scaledNames_of (n : DM K) (ps : List (DM K)) (props : List (String × Arr K)) (eff : String × Arr K → Option String)
    (hfa : List.Forall₂ (fun p t => t.getStr? "name" = some p.1 ∧ ∃ d, t.get? "data" = some d ∧ d.getStr? "unit" = eff p) props ps) :
    scaledNames (DM.node (("natoms", n) :: appendAll "property" ps)) =
      props.filterMap (fun p => if eff p = some "scaled" then some p.1 else none) := by
  have hl : (DM.node (("natoms", n) :: appendAll "property" ps)).aslist "property" = ps := by
    apply aslist_of_lookup
    · simp [List.lookup]
    · intro x hx
      obtain ⟨p, _, hp⟩ := forall2_right_mem _ _ _ hfa x hx
      exact getStr_isList x _ _ hp.1
  simp only [scaledNames, hl]
  clear hl
  induction hfa with
  | nil => rfl
  | cons h _ ih =>
    obtain ⟨h1, d, h2, h3⟩ := h
    simp only [List.filterMap_cons, h1, h2, h3, ih]


theorem mapOpt_pbc (l : List Bool) : mapOpt (pbcOf? (K := K)) (l.map (fun b => DM.leaf (Sc.bool b))) = some l :=
  mapOpt_map_inv pbcOf? _ (fun _ => rfl) l

theorem mapOpt_sym (l : List (Option String)) : mapOpt (symOf? (K := K)) (l.map symLeaf) = some l :=
  mapOpt_map_inv symOf? symLeaf (fun o => by cases o <;> rfl) l

theorem mapOpt_mass [IntCast K] (l : List (Option K)) : mapOpt (massOf? (K := K)) (l.map massLeaf) = some l :=
  mapOpt_map_inv massOf? massLeaf (fun o => by cases o <;> rfl) l

theorem all_none_of_any {α : Type} (l : List (Option α)) (h : l.any Option.isSome = false) :
    l = List.replicate l.length none := by
  induction l with
  | nil => rfl
  | cons a l ih =>
    simp only [List.any_cons, Bool.or_eq_false_iff] at h
    cases a with
    | some x => simp at h
    | none => simp only [List.length_cons, List.replicate_succ]; rw [← ih h.2]

theorem symLeaf_isList (o : Option String) : (symLeaf o : DM K).isList = false := by cases o <;> rfl
theorem massLeaf_isList (o : Option K) : (massLeaf o : DM K).isList = false := by cases o <;> rfl

theorem sysnode_lookups (bm pl : DM K) (A B : List (DM K)) (am : DM K) :
    let M := [("box", bm), ("periodic-boundary-condition", pl)] ++ appendAll "atom-type-symbol" A
      ++ appendAll "atom-type-mass" B ++ [("atoms", am)]
    M.lookup "box" = some bm ∧ M.lookup "periodic-boundary-condition" = some pl ∧
    M.lookup "atom-type-symbol" = (appendAll "atom-type-symbol" A).lookup "atom-type-symbol" ∧
    M.lookup "atom-type-mass" = (appendAll "atom-type-mass" B).lookup "atom-type-mass" ∧
    M.lookup "atoms" = some am := by
  intro M
  have e1 : (appendAll "atom-type-symbol" A).lookup "atom-type-mass" = none := lookup_appendAll_ne _ _ _ (by decide)
  have e2 : (appendAll "atom-type-symbol" A).lookup "atoms" = none := lookup_appendAll_ne _ _ _ (by decide)
  have e3 : (appendAll "atom-type-mass" B).lookup "atom-type-symbol" = none := lookup_appendAll_ne _ _ _ (by decide)
  have e4 : (appendAll "atom-type-mass" B).lookup "atoms" = none := lookup_appendAll_ne _ _ _ (by decide)
  refine ⟨?_, ?_, ?_, ?_, ?_⟩ <;> simp [M, List.lookup_append, List.lookup, e1, e2, e3, e4]


section field
variable [Field K]

/-- property `p` of the system that `System(model=…)` builds: a `'scaled'` property goes through
    `box.cartToRel` (writer's box) and `box'.relToCart` (reader's box). -/
def sysPropFinal (fac1 fac2 : String → K) (un : String → Option String) (box box' : Box K) (p : String × Arr K) :
    String × Arr K :=
  if effUnit p.1 (un p.1) = some "scaled" then
    (p.1, ⟨p.2.shape, .flt (rowsMap (fun v => box'.relToCart (box.cartToRel v)) p.2.data.fltD)⟩)
  else propTwo fac1 fac2 un p

theorem sysPropRel_fst (fac1 fac2 : String → K) (un : String → Option String) (box : Box K) (p : String × Arr K) :
    (sysPropRel fac1 fac2 un box p).1 = p.1 := by
  unfold sysPropRel; split <;> rfl

theorem sys_final_props (fac1 fac2 : String → K) (un : String → Option String) (box box' : Box K) (a : AtomsM K)
    (hw : a.Wf) (hu : SysUnitsOk a un) :
    mapOpt (fun e : String × Arr K =>
        if (a.props.filterMap (fun p => if effUnit p.1 (un p.1) = some "scaled" then some p.1 else none)).contains e.1
        then (mapPositions box'.relToCart e.2).map (fun x => (e.1, x)) else some e)
      (a.props.map (sysPropRel fac1 fac2 un box)) = some (a.props.map (sysPropFinal fac1 fac2 un box box')) := by
  rw [mapOpt_map]
  apply mapOpt_map_some
  intro p hp
  by_cases hsc : effUnit p.1 (un p.1) = some "scaled"
  · have hmem : (a.props.filterMap (fun p => if effUnit p.1 (un p.1) = some "scaled" then some p.1 else none)).contains p.1 = true := by
      rw [List.contains_iff_mem, List.mem_filterMap]
      exact ⟨p, hp, by simp [hsc]⟩
    obtain ⟨-, h3, hL, n, hn⟩ := scaled_prop a hw un hu p hp hsc
    obtain ⟨_, hm2⟩ := mapPositions_flt box.cartToRel p.2.shape p.2.data.fltD h3 hL
    obtain ⟨hm3, _⟩ := mapPositions_flt box'.relToCart p.2.shape (rowsMap box.cartToRel p.2.data.fltD) h3 hm2
    simp only [sysPropRel, sysPropFinal, hsc, if_true, hmem, hm3, Option.map_some,
      rowsMap_comp box.cartToRel box'.relToCart]
  · simp [sysPropRel, sysPropFinal, hsc, propTwo]

end field

end Atomman.C10
