/-
  C20 — what needs analysis on the real numbers: the one-step errors of the generated integrators against the exact
  flow `exp (h a) y` (orders 2 and 5), and that `Real.sqrt` meets the hypotheses made on the parameter `sqrt`.  A module
  of its own so that no other module of the property imports analysis.
-/
import Proofs.C20_Integrators
import Mathlib.Analysis.Complex.Exponential

namespace Atomman.C20
open Atomman.Gen

/-- one-step error of Euler against the exact flow `exp (h a) y`: order 2.  Real scalar case only; the matrix case is
    covered by the exact Taylor-polynomial identities `euler_matrix` / `rk4_matrix`, a norm bound for matrices is not proved. -/
theorem euler_one_step_error_scalar (a y h : ℝ) (hx : |h * a| ≤ 1) :
    |Real.exp (h * a) * y - euler (fun v => a * v) y h| ≤ |h * a| ^ 2 * |y| := by
  have e : Real.exp (h * a) * y - euler (fun v => a * v) y h = (Real.exp (h * a) - 1 - h * a) * y := by
    simp only [euler, smul_eq_mul]; ring
  rw [e, abs_mul, sq_abs]
  exact mul_le_mul_of_nonneg_right (Real.abs_exp_sub_one_sub_id_le hx) (abs_nonneg y)

/-- one-step error of Runge–Kutta against `exp (h a) y` (real scalar case): order 5. -/
theorem rk4_one_step_error_scalar (a y h : ℝ) (hx : |h * a| ≤ 1) :
    |Real.exp (h * a) * y - rungekutta (fun v => a * v) y h| ≤ |h * a| ^ 5 * (1 / 100) * |y| := by
  have hb := Real.exp_bound hx (n := 5) (by norm_num)
  norm_num [Finset.sum_range_succ, Nat.factorial, -abs_mul] at hb
  rw [rk4_taylor4_scalar, ← sub_mul, abs_mul]
  exact mul_le_mul_of_nonneg_right hb (abs_nonneg y)

-- the hypotheses on `sqrt` of `unitTangent_unit`, `arccoord_mono` and of the theorems on units of length and on the
-- stopping test (one hypothesis, `hsq` in the former and `hscale` in the latter) hold for the real square root
example : ∀ x : ℝ, 0 ≤ x → Real.sqrt x * Real.sqrt x = x := fun _ hx => Real.mul_self_sqrt hx
example : ∀ x : ℝ, 0 ≤ Real.sqrt x := Real.sqrt_nonneg
example : ∀ (c x : ℝ), 0 < c → Real.sqrt (c * c * x) = c * Real.sqrt x := fun c x hc => by
  rw [Real.sqrt_mul (mul_self_nonneg c), Real.sqrt_mul_self hc.le]
example : ∀ (k x : ℝ), 0 < k → Real.sqrt (k * k * x) = k * Real.sqrt x := fun k x hk => by
  rw [show k * k * x = k ^ 2 * x by ring, Real.sqrt_mul (sq_nonneg k), Real.sqrt_sq hk.le]

end Atomman.C20
