/-
  C20 — construction: which arguments `create_path` / `BasePath.__init__` refuse, in which order the
  checks are made, and what the accepted arguments select.
-/
import Atomman.C20
import Batteries.Lean.Except

namespace Atomman.C20

/-- `lookup` one cell at a time with `=` in place of `==`, so that the name tables unfold into the
    `if s = … ∨ …` chains of `resolve*_name`. -/
theorem lookup_cons_eq_ite {α β : Type} [BEq α] [LawfulBEq α] [DecidableEq α] (a k : α) (b : β) (es : List (α × β)) :
    ((k, b) :: es).lookup a = if a = k then some b else es.lookup a := by
  rw [List.lookup_cons]
  by_cases h : a = k
  · rw [if_pos h, beq_iff_eq.mpr h]
  · rw [if_neg h, beq_false_of_ne h]

/-! closed forms of the two name tables: the `lookup` of the model as the `if … ∨ …` chain the setters write; used by
`C20_Source` -/

theorem resolveGradientfxn_name (s : String) :
    resolveGradientfxn (.name s)
      = if s = "central_difference" ∨ s = "cdiff" then .ok .centralDifference else .error .value := by
  simp only [resolveGradientfxn, gradientNames, lookup_cons_eq_ite, List.lookup_nil]
  by_cases h1 : s = "central_difference"
  · rw [if_pos h1, if_pos (Or.inl h1)]
  · by_cases h2 : s = "cdiff"
    · rw [if_neg h1, if_pos h2, if_pos (Or.inr h2)]
    · rw [if_neg h1, if_neg h2, if_neg (not_or.mpr ⟨h1, h2⟩)]

theorem resolveIntegratorfxn_name (s : String) :
    resolveIntegratorfxn (.name s)
      = if s = "rungekutta" ∨ s = "rk" then .ok .rungekutta else if s = "euler" then .ok .euler else .error .value := by
  simp only [resolveIntegratorfxn, integratorNames, lookup_cons_eq_ite, List.lookup_nil]
  by_cases h1 : s = "rungekutta"
  · rw [if_pos h1, if_pos (Or.inl h1)]
  · by_cases h2 : s = "rk"
    · rw [if_neg h1, if_pos h2, if_pos (Or.inr h2)]
    · rw [if_neg h1, if_neg h2, if_neg (not_or.mpr ⟨h1, h2⟩)]
      by_cases h3 : s = "euler"
      · rw [if_pos h3, if_pos h3]
      · rw [if_neg h3, if_neg h3]

theorem resolveGradientfxn_ok_iff (a : FxnArg) :
    (∃ g, resolveGradientfxn a = .ok g) ↔ a = .callable ∨ a = .name "central_difference" ∨ a = .name "cdiff" := by
  cases a with
  | name s =>
    simp only [resolveGradientfxn_name, FxnArg.name.injEq, reduceCtorEq, false_or]
    split
    · next h => exact iff_of_true ⟨_, rfl⟩ h
    · next h => exact iff_of_false (fun ⟨_, hg⟩ => nomatch hg) h
  | callable => exact iff_of_true ⟨_, rfl⟩ (Or.inl rfl)
  | other => exact iff_of_false (fun ⟨_, hg⟩ => nomatch hg) (by simp only [reduceCtorEq, or_self, not_false_eq_true])

theorem resolveIntegratorfxn_ok_iff (a : FxnArg) :
    (∃ g, resolveIntegratorfxn a = .ok g) ↔
      a = .callable ∨ a = .name "rungekutta" ∨ a = .name "rk" ∨ a = .name "euler" := by
  cases a with
  | name s =>
    simp only [resolveIntegratorfxn_name, FxnArg.name.injEq, reduceCtorEq, false_or]
    split
    · next h => exact iff_of_true ⟨_, rfl⟩ (or_assoc.mp (Or.inl h))
    · next h1 =>
      split
      · next h2 => exact iff_of_true ⟨_, rfl⟩ (Or.inr (Or.inr h2))
      · next h2 => exact iff_of_false (fun ⟨_, hg⟩ => nomatch hg) (fun h => (or_assoc.mpr h).elim h1 h2)
  | callable => exact iff_of_true ⟨_, rfl⟩ (Or.inl rfl)
  | other => exact iff_of_false (fun ⟨_, hg⟩ => nomatch hg) (by simp only [reduceCtorEq, or_self, not_false_eq_true])

/-- a name is refused with `ValueError`, something that is neither a name nor callable with `TypeError`. -/
theorem resolve_error_class (a : FxnArg) :
    (resolveGradientfxn a = .error .type ↔ a = .other) ∧ (resolveIntegratorfxn a = .error .type ↔ a = .other) := by
  cases a with
  | name s =>
    refine ⟨iff_of_false ?_ FxnArg.noConfusion, iff_of_false ?_ FxnArg.noConfusion⟩
    · rw [resolveGradientfxn_name]; split <;> exact fun h => nomatch h
    · rw [resolveIntegratorfxn_name]; repeat' split
      all_goals exact fun h => nomatch h
  | callable => exact ⟨iff_of_false (fun h => nomatch h) FxnArg.noConfusion, iff_of_false (fun h => nomatch h) FxnArg.noConfusion⟩
  | other => exact ⟨iff_of_true rfl rfl, iff_of_true rfl rfl⟩

theorem createPath_of_style (a : CtorArgs) (h : a.style.getD defaultStyle ∈ styleNames) : createPath a = initPath a :=
  if_pos (List.contains_iff_mem.mpr h)

/-- an unknown style is refused before anything else is looked at. -/
theorem createPath_style_first (a : CtorArgs) (h : a.style.getD defaultStyle ∉ styleNames) :
    createPath a = .error .value :=
  if_neg (mt List.contains_iff_mem.mp h)

/-- with a known style the first failing check of `__init__` decides: a non-callable energy function gives `TypeError`
    whatever the other arguments are. -/
theorem createPath_energy_first (a : CtorArgs) (hs : a.style.getD defaultStyle ∈ styleNames) (he : a.energyCallable = false) :
    createPath a = .error .type := by
  rw [createPath_of_style a hs, initPath, he]
  rfl

/-- **`create_path` accepts exactly** a known style, a callable energy function, a known name or a callable for the
    gradient function and the integrator, and `None` or a dictionary as settings. -/
theorem createPath_ok_iff (a : CtorArgs) :
    (∃ r, createPath a = .ok r) ↔
      (a.style.getD defaultStyle ∈ styleNames) ∧ a.energyCallable = true ∧
      (∃ g, resolveGradientfxn (a.gradientfxn.getD defaultGradientfxn) = .ok g) ∧
      (∃ i, resolveIntegratorfxn (a.integratorfxn.getD defaultIntegratorfxn) = .ok i) ∧
      a.gradientkwargs.getD defaultGradientkwargs ≠ .other := by
  have no : ∀ {e : PyErr}, ¬ ∃ r : GradChoice × IntegChoice × Bool, Except.error e = .ok r := fun ⟨_, h⟩ => nomatch h
  by_cases hs : a.style.getD defaultStyle ∈ styleNames
  · -- the checks of `__init__` in the order in which they are made: the first that fails makes both sides false
    rw [createPath_of_style a hs, initPath]
    cases a.energyCallable with
    | false => exact iff_of_false no (fun h => Bool.noConfusion h.2.1)
    | true =>
    cases resolveGradientfxn (a.gradientfxn.getD defaultGradientfxn) with
    | error e => exact iff_of_false no (fun ⟨_, _, ⟨_, h⟩, _⟩ => nomatch h)
    | ok g =>
    cases resolveIntegratorfxn (a.integratorfxn.getD defaultIntegratorfxn) with
    | error e => exact iff_of_false no (fun ⟨_, _, _, ⟨_, h⟩, _⟩ => nomatch h)
    | ok i =>
    cases a.gradientkwargs.getD defaultGradientkwargs with
    | other => exact iff_of_false no (fun h => h.2.2.2.2 rfl)
    | none | dict => exact iff_of_true ⟨_, rfl⟩ ⟨hs, rfl, ⟨g, rfl⟩, ⟨i, rfl⟩, KwArg.noConfusion⟩
  · rw [createPath_style_first a hs]
    exact iff_of_false no (fun h => hs h.1)

/-- left at their defaults the options select the central difference, Runge–Kutta and a settings dictionary of the
    path's own. -/
theorem createPath_defaults : createPath { energyCallable := true } = .ok (.centralDifference, .rungekutta, true) := by
  decide

example : createPath { energyCallable := true, integratorfxn := some (FxnArg.name "verlet") } = .error .value := by decide
example : createPath { energyCallable := false, gradientfxn := some (FxnArg.name "nonsense") } = .error .type := by decide
example : createPath { energyCallable := false, style := some "NEB" } = .error .value := by decide
example : createPath ⟨true, none, some FxnArg.callable, some KwArg.dict, some (FxnArg.name "euler")⟩
    = .ok (.user, .euler, false) := by decide

end Atomman.C20
