/-
  C08 — source tie: Atomman/Generated/LoadSource.lean (regenerated from the four `atomman/load/*/load.py` on every run by
  harness/props/c08.py `translate_source`) against the hand model.  `gen_…_eq_model`: a generated definition equals what
  the model computes, for all inputs (`gen_firstpassCheck_eq_model`: the generated checks imply what `fpFinish` raises;
  `gen_poscarLayout_eq_model`, `gen_tableKeys_eq_model`: pins of the literals the model has inline); `…_eq_gen`: a step of the model is the action of the branch the GENERATED decision
  selects; `gen_…_pinned`: the normalised statements of code that cannot be a Lean definition (pandas calls, branch bodies).
-/
import Atomman.C08
import Proofs.Lists
import Atomman.Generated.LoadSource
import Mathlib.Tactic.Tauto
namespace Atomman.C08
open Atomman Atomman.C07
set_option linter.unusedSimpArgs false
set_option linter.unusedTactic false

/-- the branch of the chain of `firstpass` the model takes, read off `classify` and the two state variables the
    chain looks at. -/
def fpBranch (terms : Line) (firstAtoms : Bool) (massesToRead : Nat) : Nat :=
  match classify terms with
  | .natoms _ => 0
  | .natypes _ => 1
  | .xb _ _ => 2
  | .yb _ _ => 3
  | .zb _ _ => 4
  | .tilt _ _ _ => 5
  | .atoms => 6
  | k =>
    if firstAtoms then 7 else if k = .masses then 8 else if 0 < massesToRead then 9
    else if k = .velocities then 10 else 11

/-- for every line and state, the branch the regenerated chain selects (keywords,
    term counts and the ORDER of the `elif`s as they stand in the source) is the branch the model takes. -/
theorem gen_firstpassBranch_eq_model (terms : Line) (fa : Bool) (nm : Nat) :
    Gen.LoadSource.firstpassBranch terms fa nm = fpBranch terms fa nm := by
  unfold Gen.LoadSource.firstpassBranch Gen.LoadSource.termIs fpBranch
  rcases terms with _ | ⟨a, _ | ⟨b, _ | ⟨c, _ | ⟨d, _ | ⟨e, _ | ⟨f, _ | ⟨g, r⟩⟩⟩⟩⟩⟩⟩
  all_goals
    simp only [classify, List.length_cons, List.length_nil, List.getElem?_cons_zero, List.getElem?_cons_succ,
      List.getElem?_nil]
  · simp
  · by_cases h1 : a = cs!"Atoms"
    · simp [h1]
    by_cases h2 : a = cs!"Masses"
    · simp [h2]
    by_cases h3 : a = cs!"Velocities"
    · simp [h3]
    · simp [h1, h2, h3]
  · by_cases h1 : b = cs!"atoms" <;> simp [h1]
  · by_cases h1 : b = cs!"atom" ∧ c = cs!"types" <;> simp [h1]
  · by_cases h1 : c = cs!"xlo" ∧ d = cs!"xhi"
    · simp [h1]
    by_cases h2 : c = cs!"ylo" ∧ d = cs!"yhi"
    · simp [h2]
    by_cases h3 : c = cs!"zlo" ∧ d = cs!"zhi"
    · simp [h3]
    · simp [h1, h2, h3]
  · simp
  · by_cases h1 : d = cs!"xy" ∧ e = cs!"xz" ∧ f = cs!"yz"
    · simp [h1]
    · simp [h1]
      intro hd he hf
      exact absurd ⟨hd, he, hf⟩ h1
  · simp

/-- the action of branch `k` of the chain on the variables of `firstpass`. -/
def fpAct (lf : Option Rat) (i : Nat) (terms : Line) (hint : Option (List Char)) (s : FP) : Nat → Res FP
  | 0 => do let v ← pyInt (terms.getD 0 []); pure { s with natoms := some v }
  | 1 => do let v ← pyInt (terms.getD 0 []); pure { s with natypes := some v }
  | 2 => do
    let a ← pyFloat (terms.getD 0 []); let b ← pyFloat (terms.getD 1 []); pure { s with x := some (mulBy lf a, mulBy lf b) }
  | 3 => do
    let a ← pyFloat (terms.getD 0 []); let b ← pyFloat (terms.getD 1 []); pure { s with y := some (mulBy lf a, mulBy lf b) }
  | 4 => do
    let a ← pyFloat (terms.getD 0 []); let b ← pyFloat (terms.getD 1 []); pure { s with z := some (mulBy lf a, mulBy lf b) }
  | 5 => do
    let a ← pyFloat (terms.getD 0 []); let b ← pyFloat (terms.getD 1 []); let c ← pyFloat (terms.getD 2 [])
    pure { s with xy := mulBy lf a, xz := mulBy lf b, yz := mulBy lf c }
  | 6 => pure { s with atomsStart := some (i + 1), firstAtoms := true, hint := hint }
  | 7 => pure { s with atomsColumns := terms.length, firstAtoms := false }
  | 8 =>
    match s.natypes with
    | none => throw "format"
    | some nt => pure { s with masses := some (List.replicate nt.toNat none), massesToRead := nt.toNat }
  | 9 =>
    match s.masses with
    | some m => do let m' ← readMass terms m; pure { s with masses := some m', massesToRead := s.massesToRead - 1 }
    | none => throw "format"
  | 10 => pure { s with velStart := some (i + 1) }
  | _ => pure s

def LineKind.args : LineKind → Line
  | .natoms n | .natypes n => [n]
  | .xb a b | .yb a b | .zb a b => [a, b]
  | .tilt a b c => [a, b, c]
  | _ => []

/-- the tokens a line kind carries are the leading terms of the line, which is where `fpAct` reads them. -/
theorem classify_args (t : Line) : ∃ r, t = (classify t).args ++ r := by
  unfold classify
  split <;> (repeat' split) <;> exact ⟨_, rfl⟩

theorem fpStepT_eq_act (lf : Option Rat) (i : Nat) (terms : Line) (hint : Option (List Char)) (s : FP) :
    fpStepT lf i terms hint s =
      if terms.isEmpty then pure s else fpAct lf i terms hint s (fpBranch terms s.firstAtoms s.massesToRead) := by
  unfold fpStepT fpBranch
  split
  · rfl
  obtain ⟨r, hr⟩ := classify_args terms
  cases hk : classify terms <;> rw [hk] at hr <;> subst hr
  -- the three kinds without tokens go on through the same `if` chain on both sides
  case masses | velocities | other => simp only [apply_ite (fpAct lf i _ hint s)]; rfl
  all_goals rfl

theorem fpBranch_kind (t : Line) (fa : Bool) (nm : Nat) :
    (fpBranch t fa nm = 6 ↔ classify t = .atoms) ∧
    (fpBranch t fa nm = 10 ↔ (decide (classify t = .velocities) && !fa && decide (nm = 0)) = true) ∧
    (fpBranch t fa nm = 0 → ∃ n, classify t = .natoms n) ∧
    (fpBranch t fa nm = 2 → ∃ a b, classify t = .xb a b) ∧
    (fpBranch t fa nm = 3 → ∃ a b, classify t = .yb a b) ∧
    (fpBranch t fa nm = 4 → ∃ a b, classify t = .zb a b) := by
  unfold fpBranch
  cases classify t <;> simp
  all_goals cases fa <;> simp <;> split <;> decide

theorem fpAct_hint (lf : Option Rat) (i : Nat) (t : Line) (h : Option (List Char)) (s : FP) (k : Nat) (hk : k ≠ 6) :
    fpAct lf i t h s k = fpAct lf i t none s k := by
  unfold fpAct
  split <;> first | rfl | exact absurd rfl hk

theorem fpAct_fields (lf : Option Rat) (i : Nat) (t : Line) (h : Option (List Char)) (s s' : FP) (k : Nat)
    (hs : fpAct lf i t h s k = .ok s') :
    s'.atomsStart = (if k = 6 then some (i + 1) else s.atomsStart) ∧
    s'.velStart = (if k = 10 then some (i + 1) else s.velStart) ∧
    (k ≠ 0 → s'.natoms = s.natoms) ∧ (k ≠ 2 → s'.x = s.x) ∧ (k ≠ 3 → s'.y = s.y) ∧ (k ≠ 4 → s'.z = s.z) := by
  unfold fpAct at hs
  -- branch by branch: the body of branch `k` assigns only the fields it names
  split at hs <;> simp only [bind, Except.bind, pure, Except.pure] at hs <;> (repeat' split at hs) <;> cases hs <;>
    simp_all

/-- one iteration of the model's first pass IS the action of the branch that the regenerated
    decision chain of the source selects. -/
theorem fpStepT_eq_gen (lf : Option Rat) (i : Nat) (terms : Line) (hint : Option (List Char)) (s : FP) :
    fpStepT lf i terms hint s =
      if terms.isEmpty then pure s
      else fpAct lf i terms hint s (Gen.LoadSource.firstpassBranch terms s.firstAtoms s.massesToRead) := by
  rw [gen_firstpassBranch_eq_model]
  exact fpStepT_eq_act lf i terms hint s

/-- the checks after the loop, in the order the source has them: whenever the
    regenerated check sequence names an error, `fpFinish` raises exactly that class (a file name that does not exist
    BEFORE the format errors; every missing item the format error); when it names none, `fpFinish` raises neither of
    the two (what is left is the `Box` assertion and a negative atom count).  The source tests `xlo` and `xhi` (`ylo` …)
    one by one; the model sets them together as one pair, hence `s.x.isNone` twice. -/
theorem gen_firstpassCheck_eq_model (s : FP) (short : Bool) :
    (∀ e, Gen.LoadSource.firstpassCheck short s.natoms.isNone s.x.isNone s.x.isNone s.y.isNone s.y.isNone s.z.isNone
        s.z.isNone s.atomsStart.isNone = some e → fpFinish s short = .error e) ∧
    (Gen.LoadSource.firstpassCheck short s.natoms.isNone s.x.isNone s.x.isNone s.y.isNone s.y.isNone s.z.isNone
        s.z.isNone s.atomsStart.isNone = none →
      fpFinish s short ≠ .error "format" ∧ fpFinish s short ≠ .error "notfound") := by
  unfold Gen.LoadSource.firstpassCheck fpFinish
  -- both run through the same checks in the same order: stop at the first item that is missing
  cases short
  case true => simp [bind, Except.bind, throw, throwThe, MonadExceptOf.throw]
  cases s.natoms
  · simp [bind, Except.bind, throw, throwThe, MonadExceptOf.throw]
  cases s.x
  · simp [bind, Except.bind, pure, Except.pure, throw, throwThe, MonadExceptOf.throw]
  cases s.y
  · simp [bind, Except.bind, pure, Except.pure, throw, throwThe, MonadExceptOf.throw]
  cases s.z
  · simp [bind, Except.bind, pure, Except.pure, throw, throwThe, MonadExceptOf.throw]
  cases s.atomsStart
  · simp [bind, Except.bind, pure, Except.pure, throw, throwThe, MonadExceptOf.throw]
  simp [bind, Except.bind, pure, Except.pure, throw, throwThe, MonadExceptOf.throw]
  (repeat' split) <;> simp

/-- argument / `Atoms` comment / default `atomic`, refusal when both are given and
    differ. -/
theorem gen_chooseStyle_eq_model (arg : Option String) (hint : Option (List Char)) :
    Gen.LoadSource.chooseStyle arg (hint.map String.ofList) = chooseStyle arg hint := by
  cases arg <;> cases hint <;> simp [Gen.LoadSource.chooseStyle, chooseStyle, exceptSimp]

/-- `read_atoms` of the model takes the branch the regenerated column-count decision selects:
    image flags exactly when the first atom line has three columns more than the style, the format error for any other
    count that differs. -/
theorem readAtoms_eq_gen (rows : List Line) (atomsColumns : Nat) (s : Loaded) (style : String) (u : Units) :
    readAtoms rows atomsColumns s style u =
      (lookupCols Gen.LoadStyles.atomStyles style u).bind fun cols =>
        (tableLoad s rows cols true).bind fun s1 =>
          match Gen.LoadSource.readAtomsCase atomsColumns (colsWidth cols) with
          | 0 => applyFlags s1 rows (colsWidth cols)
          | 1 => .error Gen.LoadSource.readAtomsError
          | _ => .ok s1 := by
  unfold readAtoms
  simp only [bind]
  congr 1
  funext cols
  congr 1
  funext s1
  simp only [Gen.LoadSource.readAtomsCase, Gen.LoadSource.readAtomsError]
  by_cases h1 : atomsColumns = colsWidth cols + 3
  · simp [h1]
  · by_cases h2 : colsWidth cols = atomsColumns
    · simp [h1, h2, exceptSimp]
    · simp [h1, h2, exceptSimp]

/-- the branch of the header chain the model takes. -/
def dsBranch (terms : Line) (readNatoms readTimestep : Bool) (bcount : Nat) : Nat :=
  if readNatoms then 0 else if readTimestep then 1 else if bcount = 0 then 2 else if bcount = 1 then 3
  else if bcount = 2 then 4
  else if terms.head? = some (cs!"ITEM:") then
    match terms[1]? with
    | some t1 =>
      if t1 = cs!"TIMESTEP" then 5 else if t1 = cs!"NUMBER" then 6 else if t1 = cs!"BOX" then 7
      else if t1 = cs!"ATOMS" then 8 else 9
    | none => 9
  else 10

/-- pending reads first, then the three box lines by `bcount`, then `ITEM:` lines by their
    second term — keywords and order as they stand in the source. -/
theorem gen_dumpBranch_eq_model (terms : Line) (rn rt : Bool) (bc : Nat) :
    Gen.LoadSource.dumpBranch terms rn rt bc = dsBranch terms rn rt bc := by
  unfold Gen.LoadSource.dumpBranch dsBranch Gen.LoadSource.termIs
  simp only [beq_iff_eq, List.head?_eq_getElem?]
  -- the same chain on both sides, except that the source compares `terms[1]` where the model matches on it
  cases terms[1]? <;> simp

/-- the action of branch `k` of the header chain. -/
def dsAct (lf : Option Rat) (terms : Line) (s : DSC) : Nat → Res (DSC × Bool)
  | 0 => do
    let n ← pyInt (← term terms 0)
    pure ({ s with natoms := some n, readNatoms := false }, false)
  | 1 => pure ({ s with readTimestep := false }, false)
  | 2 => do
    let (a, b, t) ← boundsLine lf terms
    pure ({ s with xlo := some a, xhi := some b, xy := t.getD s.xy, bcount := 1 }, false)
  | 3 => do
    let (a, b, t) ← boundsLine lf terms
    pure ({ s with ylo := some a, yhi := some b, xz := t.getD s.xz, bcount := 2 }, false)
  | 4 => do
    let (a, b, t) ← boundsLine lf terms
    match t with
    | none => pure ({ s with zlo := some a, zhi := some b, bcount := 3 }, false)
    | some yz =>
      match s.xlo, s.xhi, s.ylo, s.yhi with
      | some xlo, some xhi, some ylo, some yhi =>
        let r := Gen.LoadSource.bboxInvert xlo xhi ylo yhi s.xy s.xz yz
        pure ({ s with zlo := some a, zhi := some b, yz := yz, bcount := 3,
                       xlo := some r.1, xhi := some r.2.1, ylo := some r.2.2.1, yhi := some r.2.2.2 }, false)
      | _, _, _, _ => throw "name"
  | 5 => do let _ ← term terms 1; pure ({ s with readTimestep := true }, false)
  | 6 => do let _ ← term terms 1; pure ({ s with readNatoms := true }, false)
  | 7 => do
    let _ ← term terms 1
    pure ({ s with pbc := some ⟨Gen.LoadSource.ppFlag terms 0, Gen.LoadSource.ppFlag terms 1, Gen.LoadSource.ppFlag terms 2⟩,
                   bcount := 0 }, false)
  | 8 => do let _ ← term terms 1; pure ({ s with names := some (terms.drop 2) }, true)
  | 9 => do let _ ← term terms 1; pure (s, false)
  | _ => pure (s, false)

/-- "convert from max, min to hi, lo" as the source computes it is the inversion of
    the model (`minR` / `maxR` chains over `0, xy, xz, xy + xz` and `0, yz`). -/
theorem gen_bboxInvert_eq_model (xlo xhi ylo yhi xy xz yz : Rat) :
    Gen.LoadSource.bboxInvert xlo xhi ylo yhi xy xz yz =
      (xlo - minR (minR (minR 0 xy) xz) (xy + xz), xhi - maxR (maxR (maxR 0 xy) xz) (xy + xz),
       ylo - minR 0 yz, yhi - maxR 0 yz) := by
  simp only [Gen.LoadSource.bboxInvert, Gen.LoadSource.minL, Gen.LoadSource.maxL, List.foldl_cons, List.foldl_nil, minR,
    maxR]
  rfl

/-- the boundary flag of direction `k` is read at Python index `k + len(terms) - 3`. -/
theorem gen_ppFlag_eq_model (terms : Line) (k : Int) :
    Gen.LoadSource.ppFlag terms k = decide (pyIndex terms (k + (terms.length : Int) - 3) = some (cs!"pp")) := by
  unfold Gen.LoadSource.ppFlag Gen.LoadSource.pyGet pyIndex
  rw [Bool.eq_iff_iff]
  simp only [beq_iff_eq, decide_eq_true_eq]

/-- one iteration of the model's header loop IS the action of the branch that the regenerated
    decision chain selects, with the regenerated bounding-box inversion and boundary-flag index inside the actions. -/
theorem dsCore_eq_gen (lf : Option Rat) (terms : Line) (s : DSC) :
    dsCore lf terms s =
      if terms.isEmpty then pure (s, false)
      else dsAct lf terms s (Gen.LoadSource.dumpBranch terms s.readNatoms s.readTimestep s.bcount) := by
  rw [gen_dumpBranch_eq_model]
  unfold dsCore dsBranch
  -- both sides run through the same chain of conditions: one condition at a time, the branch bodies agree by `rfl`
  by_cases he : terms.isEmpty = true
  · rw [if_pos he, if_pos he]
  rw [if_neg he, if_neg he]
  by_cases h1 : s.readNatoms = true
  · rw [if_pos h1, if_pos h1]; rfl
  rw [if_neg h1, if_neg h1]
  by_cases h2 : s.readTimestep = true
  · rw [if_pos h2, if_pos h2]; rfl
  rw [if_neg h2, if_neg h2]
  by_cases h3 : s.bcount = 0
  · rw [if_pos h3, if_pos h3]; rfl
  rw [if_neg h3, if_neg h3]
  by_cases h4 : s.bcount = 1
  · rw [if_pos h4, if_pos h4]; rfl
  rw [if_neg h4, if_neg h4]
  by_cases h5 : s.bcount = 2
  · rw [if_pos h5, if_pos h5]
    simp only [dsAct, gen_bboxInvert_eq_model]; rfl
  rw [if_neg h5, if_neg h5]
  by_cases h6 : terms.head? = some (cs!"ITEM:")
  · rw [if_pos h6, if_pos h6]
    cases h1t : terms[1]? with
    | none => simp only [dsAct, term, h1t]; rfl
    | some t1 =>
      simp only [apply_ite (dsAct lf terms s)]
      simp only [dsAct, term, h1t, gen_ppFlag_eq_model]
      rfl
  · rw [if_neg h6, if_neg h6]; rfl

/-- the property names the dump-file reader stores as `pos` are the position variants of the
    writer model (`C07.isPosLike`). -/
theorem gen_posLike_eq_model (p : String) : isPosLike p = Gen.LoadSource.posLike.contains p := by
  unfold isPosLike Gen.LoadSource.posLike
  rw [Bool.eq_iff_iff]
  simp only [List.contains_cons, List.contains_nil, Bool.or_eq_true, decide_eq_true_eq, beq_iff_eq, Bool.or_false]
  tauto

/-- the coordinate-style test on the first character of the raw line. -/
theorem gen_poscarIsCartesian_eq_model (l : RawLine) : isCartesianLine l = Gen.LoadSource.poscarIsCartesian l := by
  cases l with
  | nil => rfl
  | cons c r =>
    simp only [isCartesianLine, Gen.LoadSource.poscarIsCartesian, List.contains_cons, List.contains_nil, Bool.or_false]
    rw [Bool.eq_iff_iff]
    simp only [Bool.or_eq_true, decide_eq_true_eq, beq_iff_eq]
    tauto

/-- the line numbers `loadPoscarLines` reads (scale; cell vectors; counts / style / first coordinate line without a
    symbols line; symbols / counts / style / first coordinate line with one; terms of a coordinate line). -/
def poscarLayoutModel : Nat × List Nat × (Nat × Nat × Nat) × (Nat × Nat × Nat × Nat) × Nat :=
  (1, [2, 3, 4], (5, 6, 7), (5, 6, 7, 8), 3)

theorem gen_poscarLayout_eq_model :
    (Gen.LoadSource.poscarScaleLine, Gen.LoadSource.poscarLatticeLines, Gen.LoadSource.poscarNoSymbols,
      Gen.LoadSource.poscarWithSymbols, Gen.LoadSource.poscarCoordTerms) = poscarLayoutModel := rfl

/-- the table reader sorts by the column named `id` when there is one (`idIndex`), skips the
    property `a_id` (`assignCols`), and converts by `None` / `"scaled"` / a unit (`LUnit`, `convertCells`). -/
theorem gen_tableKeys_eq_model :
    Gen.LoadSource.tableSortKey = "id" ∧ Gen.LoadSource.tableSkippedProp = "a_id" ∧
    Gen.LoadSource.tableConv none = 0 ∧ Gen.LoadSource.tableConv (some "scaled") = 1 ∧
    (∀ w, w ≠ "scaled" → Gen.LoadSource.tableConv (some w) = 2) := by
  refine ⟨rfl, rfl, rfl, by decide, ?_⟩
  intro w hw
  simp [Gen.LoadSource.tableConv, hw]

theorem idIndex_eq_gen (cols : List PCol) :
    idIndex cols =
      (let names := (cols.map (·.names)).flatten
       let i := names.findIdx (· = Gen.LoadSource.tableSortKey)
       if i < names.length then some i else none) := rfl

/-- what a line of the data file is cut into: decoded, cut at the first `#`, `split()` — `termsC`. -/
theorem gen_firstpassSplit_pinned : Gen.LoadSource.firstpassSplit =
  ["try:\n    fullline = fullline.decode('UTF-8')\nexcept:\n    pass",
   "try:\n    comment_index = fullline.index('#')\nexcept:\n    line = fullline\nelse:\n    line = fullline[:comment_index]",
   "terms = line.split()"] := rfl

/-- the bodies of the eleven branches of `firstpass` — `fpAct 0 … 10` (`int` / `float` of which term, the length unit, `i + 1`, the atom_style comment stripped, `natypes` needed before `Masses`). -/
theorem gen_firstpassBodies_pinned : Gen.LoadSource.firstpassBodies =
  [["natoms = int(terms[0])"],
   ["natypes = int(terms[0])"],
   ["xlo = uc.set_in_units(float(terms[0]), units_dict['length'])",
   "xhi = uc.set_in_units(float(terms[1]), units_dict['length'])"],
   ["ylo = uc.set_in_units(float(terms[0]), units_dict['length'])",
   "yhi = uc.set_in_units(float(terms[1]), units_dict['length'])"],
   ["zlo = uc.set_in_units(float(terms[0]), units_dict['length'])",
   "zhi = uc.set_in_units(float(terms[1]), units_dict['length'])"],
   ["xy = uc.set_in_units(float(terms[0]), units_dict['length'])",
   "xz = uc.set_in_units(float(terms[1]), units_dict['length'])",
   "yz = uc.set_in_units(float(terms[2]), units_dict['length'])"],
   ["atomsstart = i + 1",
   "firstatoms = True",
   "try:\n    comment_index = fullline.index('#')\nexcept:\n    atom_style = None\nelse:\n    atom_style = fullline[comment_index + 1:].strip()"],
   ["atomscolumns = len(terms)",
   "firstatoms = False"],
   ["if natypes is None:\n    raise FileFormatError('# atom types must appear before Masses list')",
   "masses = [None for i in range(natypes)]",
   "num_masses_to_read = natypes"],
   ["read_mass(terms, masses)",
   "num_masses_to_read -= 1"],
   ["velocitiesstart = i + 1"]] := rfl

/-- the box, the atoms, the system and the returned offsets — `fpFinish`, `Loaded.init`. -/
theorem gen_firstpassTail_pinned : Gen.LoadSource.firstpassTail =
  ["box = Box(xlo=xlo, xhi=xhi, ylo=ylo, yhi=yhi, zlo=zlo, zhi=zhi, xy=xy, xz=xz, yz=yz)",
   "atoms = Atoms(natoms=natoms)",
   "system = System(box=box, atoms=atoms, pbc=pbc, symbols=symbols, masses=masses)",
   "params = {}",
   "params['atomsstart'] = atomsstart",
   "params['velocitiesstart'] = velocitiesstart",
   "params['atomscolumns'] = atomscolumns",
   "params['atom_style'] = atom_style",
   "return (system, params)"] := rfl

/-- the initial values — `({} : FP)`. -/
theorem gen_firstpassInit_pinned : Gen.LoadSource.firstpassInit =
  ["units_dict = style.unit(units)",
   "atomsstart = None",
   "velocitiesstart = None",
   "natoms = None",
   "natypes = None",
   "firstatoms = False",
   "atomscolumns = 0",
   "masses = None",
   "num_masses_to_read = 0",
   "xlo = xhi = ylo = yhi = zlo = zhi = None",
   "xy = 0.0",
   "xz = 0.0",
   "yz = 0.0",
   "i = 0"] := rfl

/-- stream read first, first pass, comments removed, `read_atoms`, `read_velocities` — `loadDataLines`. -/
theorem gen_dataLoadCalls_pinned : Gen.LoadSource.dataLoadCalls =
  ["if hasattr(data, 'read'):\n    data = data.read()",
   "system, params = firstpass(data, pbc, symbols, units)",
   "data = remove_comments(data)",
   "system = read_atoms(data, system, atom_style, units, params['atomsstart'], params['atomscolumns'])",
   "system = read_velocities(data, system, atom_style, units, params['velocitiesstart'])",
   "return system"] := rfl

/-- the table read of `read_atoms` (`skiprows`, `nrows`, `comment`, `usecols=range(ncols)`) — `tableLoad … true`. -/
theorem gen_readAtomsTable_pinned : Gen.LoadSource.readAtomsTable =
  ["prop_info = atoms_prop_info(atom_style, units)",
   "ncols = countreadcolumns(prop_info)",
   "system = amload('table', data, box=system.box, system=system, prop_info=prop_info, skiprows=atomsstart, nrows=system.natoms, comment='#', header=None, usecols=range(ncols))"] := rfl

/-- the image-flag read (`usecols=[0] + range(ncols, atomscolumns)`, `int64`), sort by id, shift by `box.vects` — `applyFlags`. -/
theorem gen_readAtomsFlags_pinned : Gen.LoadSource.readAtomsFlags =
  ["with uber_open_rmode(data) as f:\n    imageflags = pd.read_csv(f, sep='\\\\s+', names=['id', 'bx', 'by', 'bz'], skiprows=atomsstart, nrows=system.natoms, comment='#', header=None, usecols=[0] + list(range(ncols, atomscolumns)), dtype='int64')",
   "imageflags = imageflags.sort_values('id')[['bx', 'by', 'bz']]",
   "shift = imageflags.values.dot(system.box.vects)",
   "system.atoms.pos[:] += shift"] := rfl

/-- `read_mass` — `readMass`. -/
theorem gen_readMass_pinned : Gen.LoadSource.readMass =
  ["try:\n    assert len(terms) == 2\n    atype = int(terms[0])\n    assert atype > 0 and atype <= len(masses)\n    mass = float(terms[1])\n    assert mass > 0\nexcept:\n    raise FileFormatError('Invalid mass term')",
   "if masses[atype - 1] is None:\n    masses[atype - 1] = mass\nelse:\n    raise FileFormatError(f'Multiple masses listed for atom type {atype}')"] := rfl

/-- `remove_comments` — `rowsOf true`. -/
theorem gen_removeComments_pinned : Gen.LoadSource.removeComments =
  ["with uber_open_rmode(data) as fp:\n    return b''.join([line.split(b'#')[0].rstrip() + b'\\n' for line in fp])"] := rfl

/-- `countreadcolumns` — `colsWidth`. -/
theorem gen_countReadColumns_pinned : Gen.LoadSource.countReadColumns =
  ["count = 0",
   "for prop in prop_info:\n    if isinstance(prop['table_name'], str):\n        count += 1\n    else:\n        count += len(prop['table_name'])",
   "return count"] := rfl

/-- `read_velocities` — `readVelocities`. -/
theorem gen_readVelocities_pinned : Gen.LoadSource.readVelocities =
  ["if velocitiesstart is not None:\n    prop_info = velocities_prop_info(atom_style, units)\n    system = amload('table', data, box=system.box, system=system, prop_info=prop_info, skiprows=velocitiesstart, nrows=system.natoms, comment='#', header=None)",
   "return system"] := rfl

/-- the bodies of the pending-read and box-line branches — `dsAct 0 … 4` (which tilt goes with which box line). -/
theorem gen_dumpBodies_pinned : Gen.LoadSource.dumpBodies =
  [["natoms = int(terms[0])", "readnatoms = False"],
   ["readtimestep = False"],
   ["xlo = uc.set_in_units(float(terms[0]), lammps_unit['length'])", "xhi = uc.set_in_units(float(terms[1]), lammps_unit['length'])", "if len(terms) == 3:\n    xy = uc.set_in_units(float(terms[2]), lammps_unit['length'])", "bcount += 1"],
   ["ylo = uc.set_in_units(float(terms[0]), lammps_unit['length'])", "yhi = uc.set_in_units(float(terms[1]), lammps_unit['length'])", "if len(terms) == 3:\n    xz = uc.set_in_units(float(terms[2]), lammps_unit['length'])", "bcount += 1"],
   ["zlo = uc.set_in_units(float(terms[0]), lammps_unit['length'])", "zhi = uc.set_in_units(float(terms[1]), lammps_unit['length'])", "if len(terms) == 3: yz = uc.set_in_units(float(terms[2]), lammps_unit['length'])", "bcount += 1"]] := rfl

/-- the bodies of the `ITEM:` branches, `dsAct 5 … 8` (`terms[2:]` is `terms.drop 2`; for `atomsstart = i + 1` branch 8
    returns the flag `true`, which `dsStepT` turns into the line number). -/
theorem gen_dumpItemBodies_pinned : Gen.LoadSource.dumpItemBodies =
  [["readtimestep = True"],
   ["readnatoms = True"],
   ["pbc = [True, True, True]",
   "for i in range(3):\n    if terms[i + len(terms) - 3] != 'pp':\n        pbc[i] = False",
   "bcount = 0"],
   ["name_list = terms[2:]",
   "if prop_info is None and prop_name is None:\n    assert table_name is None, 'table_name cannot be given without prop_name'\n    prop_name, table_name = matchprops(name_list)",
   "atomsstart = i + 1"]] := rfl

/-- `ITEM: BOX`: all periodic unless a flag says otherwise, `bcount = 0`. -/
theorem gen_dumpBoxBody_pinned : Gen.LoadSource.dumpBoxBody =
  ["pbc = [True, True, True]",
   "bcount = 0"] := rfl

/-- the initial values — `({} : DSC)` (`bcount = 3`). -/
theorem gen_dumpInit_pinned : Gen.LoadSource.dumpInit =
  ["lammps_unit = style.unit(lammps_units)",
   "pbc = None",
   "box = None",
   "natoms = None",
   "atomsstart = None",
   "xy = 0.0",
   "xz = 0.0",
   "yz = 0.0",
   "readnatoms = False",
   "readtimestep = False",
   "bcount = 3"] := rfl

/-- a line of the dump file: decoded, `split()` — `termsN`. -/
theorem gen_dumpSplit_pinned : Gen.LoadSource.dumpSplit =
  ["terms = line.decode('UTF-8').split()"] := rfl

/-- after the header loop: box, atoms, system, `process_prop_info`, every position variant stored as `pos` (the flag is never cleared), the table read — `loadDumpCore`. -/
theorem gen_dumpTail_pinned : Gen.LoadSource.dumpTail =
  ["box = Box(xlo=xlo, xhi=xhi, ylo=ylo, yhi=yhi, zlo=zlo, zhi=zhi, xy=xy, xz=xz, yz=yz)",
   "atoms = Atoms(natoms=natoms)",
   "system = System(box=box, atoms=atoms, pbc=pbc)",
   "prop_info = process_prop_info(prop_name=prop_name, table_name=table_name, shape=shape, unit=unit, dtype=dtype, prop_info=prop_info, lammps_units=lammps_units)",
   "firstpos = True",
   "short_prop_info = []",
   "for pinfo in prop_info:\n    if pinfo['prop_name'] in ['pos', 'spos', 'upos', 'supos']:\n        if firstpos:\n            pinfo['prop_name'] = 'pos'\n        else:\n            continue\n    short_prop_info.append(pinfo)",
   "system = amload('table', data, box=system.box, symbols=symbols, system=system, prop_info=short_prop_info, skiprows=atomsstart, nrows=natoms)",
   "if return_prop_info:\n    return (system, short_prop_info)\nelse:\n    return system"] := rfl

/-- `matchprops` — `matchProps`. -/
theorem gen_matchprops_pinned : Gen.LoadSource.matchprops =
  ["prop2table = OrderedDict()",
   "for item in items:\n    for sinfo in standard_conversions():\n        match = False\n        table_names = sinfo['table_name']\n        if not isinstance(table_names, list):\n            table_names = [table_names]\n        if item in table_names:\n            match = True\n            break\n    if match is True:\n        name = sinfo['prop_name']\n    else:\n        name = item\n    if name not in prop2table:\n        if match is True:\n            for table_name in table_names:\n                assert table_name in items, 'Incomplete propery ' + str(name)\n        prop2table[name] = []\n    prop2table[name].append(item)",
   "prop_name = list(prop2table.keys())",
   "table_name = list(prop2table.values())",
   "for i in range(len(table_name)):\n    if len(table_name[i]) == 1:\n        table_name[i] = table_name[i][0]",
   "return (prop_name, table_name)"] := rfl

/-- atom types `1, 2, …` repeated by the counts — `atypeOfCounts`. -/
theorem gen_poscarAtype_pinned : Gen.LoadSource.poscarAtype =
  ["atype = np.array([], dtype='int64')",
   "for i in range(len(typenums)):\n    atype = np.hstack((atype, np.full(typenums[i], i + 1, dtype='int64')))"] := rfl

/-- the loop over the coordinate lines — `coordLine`. -/
theorem gen_poscarCoordLoop_pinned : Gen.LoadSource.poscarCoordLoop =
  ["for i in range(natoms):\n    terms = lines[i + start_i].split()\n    if len(terms) > 0:\n        pos[count, :] = np.array(terms[:3], dtype='float64')\n    count += 1"] := rfl

/-- the symbols argument wins over the symbols line — `symbols.getD elements`. -/
theorem gen_poscarSymbols_pinned : Gen.LoadSource.poscarSymbols =
  ["if symbols is None:\n    symbols = elements"] := rfl

/-- cell, atom count, atoms, system (`scale=` Direct coordinates) — `loadPoscarLines`. -/
theorem gen_poscarSystem_pinned : Gen.LoadSource.poscarSystem =
  ["box = Box(avect=avect, bvect=bvect, cvect=cvect)",
   "natoms = np.sum(typenums)",
   "atoms = Atoms(prop=prop)",
   "system = System(atoms=atoms, box=box, scale=scale, symbols=symbols)"] := rfl

/-- the table reader: `process_prop_info`, the pandas call, sort by `id`, the system, the loop over the properties (reshape to `(natoms,) + shape`, conversion, dtype, assignment), symbols — `tableLoad`, `propOfColumn`, `assignProp`. -/
theorem gen_tableBody_pinned : Gen.LoadSource.tableBody =
  ["prop_info = process_prop_info(prop_name=prop_name, table_name=table_name, shape=shape, unit=unit, dtype=dtype, prop_info=prop_info)",
   "table_name = []",
   "for prop in prop_info:\n    table_name += prop['table_name']",
   "with uber_open_rmode(table) as f:\n    df = pd.read_csv(f, sep='\\\\s+', names=table_name, skiprows=skiprows, nrows=nrows, comment=comment, header=header, usecols=usecols)",
   "if 'id' in df:\n    df = df.sort_values('id')",
   "natoms = len(df)",
   "if system is None:\n    system = System(atoms=Atoms(natoms=natoms), box=box)",
   "for prop in prop_info:\n    pname = prop['prop_name']\n    if pname == 'a_id':\n        continue\n    value = df[prop['table_name']].values.reshape((natoms,) + prop['shape'])\n    if prop['unit'] is not None:\n        if prop['unit'] == 'scaled':\n            value = system.box.position_relative_to_cartesian(value)\n        else:\n            value = uc.set_in_units(value, prop['unit'])\n    value = np.asarray(value, dtype=prop['dtype'])\n    system.atoms.view[pname] = value",
   "if symbols is not None:\n    system.symbols = symbols",
   "return system"] := rfl

end Atomman.C08
