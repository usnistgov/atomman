/-
  C19 — `Log.read` on a caller-owned open stream (`readLogSW f`, `f` = which `log_info.seek(0)`
  statements exist) in terms of `readLog` on the stream's content, for every sound arrangement of the seeks
  (`SeekFlags.sound`: the single pass and every pandas read start at the beginning of the stream).
-/
import Atomman.C19
import Proofs.Lists
import Mathlib.Data.List.Basic
set_option linter.unusedSimpArgs false
namespace Atomman.C19
open List

/-- the position `seek(0)` leaves. -/
def Stream.AtStart (s : Stream) : Prop := s.k = 0 ∧ s.c = 0

theorem Stream.seek0_atStart (s : Stream) : s.seek0.AtStart := ⟨rfl, rfl⟩

theorem Stream.seek0_lines (s : Stream) : s.seek0.lines = s.lines := rfl

theorem Stream.exhaust_lines (s : Stream) : s.exhaust.lines = s.lines := rfl

theorem Stream.seekIf_lines (b : Bool) (s : Stream) : (s.seekIf b).lines = s.lines := by
  cases b <;> rfl

theorem Stream.seekIf_exhaust (b : Bool) (s : Stream) : (s.seekIf b).exhaust = s.exhaust := by
  cases b <;> rfl

theorem Stream.exhaust_exhaust (s : Stream) : s.exhaust.exhaust = s.exhaust := rfl

theorem Stream.seekIf_true_atStart (s : Stream) : (s.seekIf true).AtStart := ⟨rfl, rfl⟩

theorem Stream.rest_of_atStart (s : Stream) (h : s.AtStart) : s.rest = s.lines := by
  unfold Stream.rest
  rw [h.1, h.2]
  cases s.lines <;> simp

/-- a read that seeks first iff `before` starts at the beginning of `s`: the stream stands there, or the read seeks. -/
def Stream.Ready (before : Bool) (s : Stream) : Prop := s.AtStart ∨ before = true

theorem Stream.seekIf_rest (b : Bool) (s : Stream) (h : s.Ready b) : (s.seekIf b).rest = s.lines := by
  cases b with
  | true => exact Stream.rest_of_atStart _ (Stream.seekIf_true_atStart s)
  | false =>
    rcases h with h | h
    · exact Stream.rest_of_atStart s h
    · cases h

/-- where a table read leaves the stream. -/
def Stream.after (a : Bool) (s : Stream) : Stream := s.exhaust.seekIf a

theorem Stream.after_lines (a : Bool) (s : Stream) : (s.after a).lines = s.lines := by
  cases a <;> rfl

theorem Stream.after_after (a : Bool) (s : Stream) : (s.after a).after a = s.after a := by
  cases a <;> rfl

/-- after a read the next one is ready if it seeks itself or the first one seeked when it was done. -/
theorem Stream.after_ready (a b : Bool) (s : Stream) (h : b = true ∨ a = true) : (s.after a).Ready b := by
  rcases h with h | h
  · exact Or.inr h
  · subst h; exact Or.inl ⟨rfl, rfl⟩

theorem readThermoS_spec (f : SeekFlags) (s : Stream) (hd ft : Int) (h : s.Ready f.thermoBefore) :
    readThermoS f s hd ft = (readThermo (nonBlank s.lines) hd ft).map (fun t => (t, s.after f.thermoAfter)) := by
  unfold readThermoS
  simp only [Stream.seekIf_rest _ s h, Stream.seekIf_exhaust, Stream.after]
  cases readThermo (nonBlank s.lines) hd ft <;> rfl

theorem readBlocksS_spec (f : SeekFlags) (s : Stream) (hds fts : List Int)
    (h : s.Ready f.thermoBefore) (h1 : f.thermoBefore = true ∨ f.thermoAfter = true) :
    readBlocksS f s hds fts = (readBlocks (nonBlank s.lines) hds fts).map
      (fun ts => (ts, if hds = [] ∨ fts = [] then s else s.after f.thermoAfter)) := by
  induction hds generalizing fts s with
  | nil => simp [readBlocksS, readBlocks, exceptSimp]
  | cons hd hds ih =>
    cases fts with
    | nil => simp [readBlocksS, readBlocks, exceptSimp]
    | cons ft fts =>
      simp only [readBlocksS, readBlocks, readThermoS_spec f s hd ft h]
      cases readThermo (nonBlank s.lines) hd ft with
      | error e => simp [exceptSimp]
      | ok t =>
        simp only [exceptSimp, ih (s.after f.thermoAfter) fts (Stream.after_ready _ _ s h1), Stream.after_lines,
          Stream.after_after]
        cases readBlocks (nonBlank s.lines) hds fts <;> simp [exceptSimp]

theorem readPerfS_spec (f : SeekFlags) (s : Stream) (isOld : Bool) (hd ft : Int)
    (h : s.Ready f.perfBefore) :
    readPerfS f s isOld hd ft =
      (if isOld then readPerfOld (nonBlank s.lines) hd ft else readPerfNew (nonBlank s.lines) hd ft).map
        (fun p => (p, s.after f.perfAfter)) := by
  unfold readPerfS
  simp only [Stream.seekIf_rest _ s h, Stream.seekIf_exhaust, Stream.after]
  cases (if isOld then readPerfOld (nonBlank s.lines) hd ft else readPerfNew (nonBlank s.lines) hd ft) <;> rfl

theorem assignPerfS_spec (f : SeekFlags) (s : Stream) (isOld : Bool) (j : Nat) (hds ks fts : List Int)
    (sims : List Sim) (h : s.Ready f.perfBefore) (h1 : f.perfBefore = true ∨ f.perfAfter = true) :
    ∃ s', s'.lines = s.lines ∧ assignPerfS f s isOld j hds ks fts sims =
      (assignPerf (nonBlank s.lines) isOld j hds ks fts sims).map (fun x => (x, s')) := by
  induction fts generalizing hds ks sims s with
  | nil => exact ⟨s, rfl, by cases hds <;> cases ks <;> simp [assignPerfS, assignPerf, exceptSimp]⟩
  | cons ft fts ih =>
    cases hds with
    | nil => exact ⟨s, rfl, by simp [assignPerfS, assignPerf, exceptSimp]⟩
    | cons hd hds =>
      cases ks with
      | nil => exact ⟨s, rfl, by simp [assignPerfS, assignPerf, exceptSimp]⟩
      | cons k ks =>
        simp only [assignPerfS, assignPerf, readPerfS_spec f s isOld hd ft h]
        cases (if isOld then readPerfOld (nonBlank s.lines) hd ft else readPerfNew (nonBlank s.lines) hd ft) with
        | error e => exact ⟨s, rfl, by simp [exceptSimp]⟩
        | ok p =>
          simp only [exceptSimp]
          cases pyIndex? sims.length (k + j) with
          | none => exact ⟨s, rfl, by simp [exceptSimp]⟩
          | some idx =>
            obtain ⟨s', hl, he⟩ := ih (s.after f.perfAfter) hds ks
              (sims.modify idx (fun x => { x with perf := some p })) (Stream.after_ready _ _ s h1)
            rw [Stream.after_lines] at hl he
            exact ⟨s', hl, he⟩

theorem SeekFlags.sound_iff (f : SeekFlags) : f.sound = true ↔
    f.beforeScan = true ∧ (f.thermoBefore = true ∨ (f.afterScan = true ∧ f.thermoAfter = true)) ∧
      (f.perfBefore = true ∨ (f.afterScan = true ∧ f.thermoAfter = true ∧ f.perfAfter = true)) := by
  cases f with
  | mk a b c d e g => cases a <;> cases b <;> cases c <;> cases d <;> cases e <;> cases g <;> simp [SeekFlags.sound]

/-- for EVERY sound arrangement of the seeks, wherever the stream stands when it is handed over, `read` gives what it gives
    on the stream's whole content, and the stream keeps its content (`read_stream` is the arrangement of the source). -/
theorem readLogSW_eq (f : SeekFlags) (hf : f.sound = true) (st : LogState) (app : Bool) (s : Stream) :
    ∃ s', s'.lines = s.lines ∧
      readLogSW f st app s = (readLog st app s.lines).map (fun st' => (st', s')) := by
  obtain ⟨hb, ht, hp⟩ := (SeekFlags.sound_iff f).1 hf
  -- second clause of `sound`: the table loop seeks itself, or the pass seeked when it was done
  have ht0 : ((s.seekIf f.beforeScan).exhaust.seekIf f.afterScan).Ready f.thermoBefore := by
    rcases ht with ht | ⟨ha, _⟩
    · exact Or.inr ht
    · rw [ha]; exact Or.inl (Stream.seekIf_true_atStart _)
  have ht1 : f.thermoBefore = true ∨ f.thermoAfter = true := ht.imp_right And.right
  have hp1 : f.perfBefore = true ∨ f.perfAfter = true := hp.imp_right (·.2.2)
  unfold readLogSW readLog thermoTables
  simp only [Stream.seekIf_rest _ s (Or.inr hb), readBlocksS_spec f _ _ _ ht0 ht1, Stream.seekIf_lines,
    Stream.exhaust_lines]
  generalize (if app = true then st else st.reset) = st0
  generalize scan { haveVersion := st0.version.isSome } s.lines = sc
  -- where the table loop leaves the stream: untouched if it read no table
  generalize hs1 : (if sc.thermoHeaders = [] ∨
      sc.thermoFooters ++ [(sc.i : Int) + Gen.Log.thermoFinalFooterOffset] = [] then
      (s.seekIf f.beforeScan).exhaust.seekIf f.afterScan
    else ((s.seekIf f.beforeScan).exhaust.seekIf f.afterScan).after f.thermoAfter) = s1
  have hl1 : s1.lines = s.lines := by
    rw [← hs1]
    split <;> simp [Stream.after_lines, Stream.seekIf_lines, Stream.exhaust_lines]
  -- third clause of `sound`: the timing loop seeks itself, or whoever read last (the pass or a table read) seeked after it
  have hp0 : s1.Ready f.perfBefore := by
    rcases hp with hp | ⟨ha, hta, _⟩
    · exact Or.inr hp
    · left
      rw [← hs1, ha, hta]
      split
      · exact Stream.seekIf_true_atStart _
      · exact Stream.seekIf_true_atStart _
  -- a banner whose date does not parse fails both reads; otherwise both go on in the same way
  rcases sc.versionLine with _ | l <;> simp only
  on_goal 2 => rcases dateOf (extractVersion l) with e | d <;> simp only
  on_goal 2 => exact ⟨s, rfl, by simp [exceptSimp]⟩
  all_goals
    cases readBlocks (nonBlank s.lines) sc.thermoHeaders
        (sc.thermoFooters ++ [(sc.i : Int) + Gen.Log.thermoFinalFooterOffset]) with
    | error e => exact ⟨s, rfl, by simp [exceptSimp]⟩
    | ok tables =>
      simp only [exceptSimp]
      obtain ⟨s', hl, he⟩ := assignPerfS_spec f s1 sc.isOld st0.sims.length sc.perfHeaders sc.perfSims sc.perfFooters
        (st0.sims ++ tables.map (fun t => ({ thermo := t } : Sim))) hp0 hp1
      refine ⟨s', hl.trans hl1, ?_⟩
      rw [he, hl1]
      cases assignPerf (nonBlank s.lines) sc.isOld st0.sims.length sc.perfHeaders sc.perfSims sc.perfFooters
          (st0.sims ++ tables.map (fun t => ({ thermo := t } : Sim))) <;> simp [exceptSimp]

/-- **seeks_sound**: the `log_info.seek(0)` statements found in the source (`Log.read`, `__read_thermo`,
    `__read_performance`; regenerated on every run) make the single pass and every pandas read start at the
    beginning of the stream. -/
theorem seeks_sound : seekFlags.sound = true := rfl

/-- **read_stream**: a log given as an open binary stream is read exactly like its content given as text — wherever
    the stream stands when it is handed over (start, mid-line, end; fresh, or as an earlier read left it) — and the
    stream keeps its content. -/
theorem read_stream (st : LogState) (app : Bool) (s : Stream) :
    ∃ s', s'.lines = s.lines ∧ readLogS st app s = (readLog st app s.lines).map (fun st' => (st', s')) :=
  readLogSW_eq seekFlags seeks_sound st app s

/-- a stream read that returns is the read of the stream's content (`read_stream`, `.ok` case) … -/
theorem readLogS_ok {st st' : LogState} {app : Bool} {s s' : Stream} (h : readLogS st app s = .ok (st', s')) :
    readLog st app s.lines = .ok st' ∧ s'.lines = s.lines := by
  obtain ⟨s₀, hl, e⟩ := read_stream st app s
  rw [e] at h
  cases hr : readLog st app s.lines with
  | error e => rw [hr] at h; cases h
  | ok st₀ =>
    rw [hr] at h
    cases h
    exact ⟨rfl, hl⟩

/-- … and conversely. -/
theorem readLogS_of {st st' : LogState} {app : Bool} (s : Stream) (h : readLog st app s.lines = .ok st') :
    ∃ s', s'.lines = s.lines ∧ readLogS st app s = .ok (st', s') := by
  obtain ⟨s', hl, e⟩ := read_stream st app s
  exact ⟨s', hl, by rw [e, h]; rfl⟩

end Atomman.C19
