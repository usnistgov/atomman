/-
  C18 — the analytic arctangent profile (its fixed ends) and the continuum half-width for an abstract logarithm.
-/
import Proofs.C18_Lemmas
import Mathlib.Tactic.Linarith

namespace Atomman.C18
open Atomman
set_option linter.unusedSectionVars false

variable {K : Type} [Field K] [LinearOrder K] [IsStrictOrderedRing K]

/-- the normalised arctangent profile (`normalize=True, shift=True`) starts EXACTLY at zero disregistry, on every grid, for every
    Burgers vector, centre and half-width and whatever `arctan` returns: the end disregistry the half-width clause holds fixed. -/
theorem arctan_normalized_starts_at_zero (atan : K → K) (pi : K) (x : List K) (hx : x ≠ []) (b : V3 K) (center hw normB normLast : K) :
    (pnArctanDisregistry atan pi x b center hw true true normB normLast).headD v3zero = v3zero := by
  cases x with
  | nil => exact absurd rfl hx
  | cons a l =>
    simp only [pnArctanDisregistry, if_true, List.map_cons, List.headD_cons]
    ext <;> simp only [V3.map, v3zero, sub_x, sub_y, sub_z, sub_self, zero_mul, zero_div]

/-- the normalised arctangent profile ends at a vector of length `|burgers|`: if `normLast` is the length of the raw end-to-end difference (`normLast² = |δ[-1] − δ[0]|²`,
    non-zero), the last row of the normalised profile has squared length `normB²`. -/
theorem arctan_normalized_end_length (atan : K → K) (pi : K) (x : List K) (b : V3 K) (center hw normB normLast : K) (hn : normLast ≠ 0)
    (raw : List (V3 K)) (hraw : raw = x.map (fun xi => V3.smul (atan ((xi - center) / hw)) (b.map (· / pi)) + b.map (· / two)))
    (hx : raw ≠ [])
    (hlen : V3.normSq (raw.getLastD v3zero - raw.headD v3zero) = normLast * normLast) :
    V3.normSq ((pnArctanDisregistry atan pi x b center hw true true normB normLast).getLastD v3zero) = normB * normB := by
  have hk : ∀ w : V3 K, V3.normSq (w.map (fun t => t * normB / normLast)) = V3.normSq w * (normB * normB) / (normLast * normLast) := by
    intro w; simp only [V3.normSq, V3.dot, V3.map]; ring
  simp only [pnArctanDisregistry, if_true, ← hraw]
  rw [getLastD_map _ _ (by simpa using hx) v3zero, getLastD_map _ _ hx v3zero, hk, hlen, mul_div_cancel_left₀ _ (mul_ne_zero hn hn)]

/-- `w ↦ a w − b lg w` is lowest at `w = b / a`: with `w = (b / a) t`, `b lg t ≤ b (t − 1) = a w − a (b / a)`. -/
theorem linear_sub_log_min (lg : K → K) (hmul : ∀ x y : K, 0 < x → 0 < y → lg (x * y) = lg x + lg y)
    (hle : ∀ t : K, 0 < t → lg t ≤ t - 1) (a b : K) (ha : 0 < a) (hb : 0 < b) (w : K) (hw : 0 < w) :
    a * (b / a) - b * lg (b / a) ≤ a * w - b * lg w := by
  have hz : 0 < b / a := div_pos hb ha
  have ht : 0 < w / (b / a) := div_pos hw hz
  have hw' : b / a * (w / (b / a)) = w := mul_div_cancel₀ w hz.ne'
  have hab : a * (b / a) = b := mul_div_cancel₀ b ha.ne'
  have h2 : b * lg (w / (b / a)) ≤ b * (w / (b / a) - 1) := mul_le_mul_of_nonneg_left (hle _ ht) hb.le
  -- with `t = w / (b / a)`: `a w = b t` and `lg w = lg (b / a) + lg t`
  rw [← hw', hmul _ _ hz ht, ← mul_assoc, hab]
  linarith

/-- **classical half-width, continuum functional**: for a sinusoidal misfit law the energy of an arctangent profile of
    half-width `w` is `π g₀ w - (K b²/4π) ln w + const` (misfit integral `g₀ π w`, elastic term `-(K b²/4π) ln w`); for ANY
    function `lg` with `lg (x y) = lg x + lg y` and `lg t ≤ t - 1` on the positive numbers it is lowest at
    `ζ = K b² / (4 π² g₀)`.  (The identification of the discrete sums with this functional is numerical: see PARTIAL in docs/C18.md.) -/
theorem halfwidth_continuum_partial (lg : K → K) (hmul : ∀ x y : K, 0 < x → 0 < y → lg (x * y) = lg x + lg y)
    (hle : ∀ t : K, 0 < t → lg t ≤ t - 1) (pi g0 Kb2 c : K) (hpi : 0 < pi) (hg : 0 < g0) (hK : 0 < Kb2)
    (w : K) (hw : 0 < w) :
    pi * g0 * (Kb2 / (4 * pi * pi * g0)) - Kb2 / (4 * pi) * lg (Kb2 / (4 * pi * pi * g0)) + c
      ≤ pi * g0 * w - Kb2 / (4 * pi) * lg w + c := by
  have h := linear_sub_log_min lg hmul hle (pi * g0) (Kb2 / (4 * pi)) (mul_pos hpi hg) (div_pos hK (mul_pos four_pos hpi)) w hw
  rw [div_div, ← mul_assoc] at h
  exact add_le_add_left h c

end Atomman.C18
