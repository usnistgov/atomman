/-
  C10 — the vocabulary of the property statements: what a buffer becomes when it is written under one working-unit
  configuration and read under another (`castU`, `scaleFn`, `rescale`, `fltD`, `mapM3`, `inUnit`, `inWorking`, `propTwo`), the
  object invariants the theorems assume (`PropOk`, `AtomsM.Wf`, `SystemM.Wf`) and the admissible unit assignments (`UnitsOk`, `SysUnitsOk`), the XML
  exception (`xmlShape`, `Squeezes`), selections (`SystemM.select`, `selUnit`, `selTwo`), a record in the old elastic format.
-/
import Atomman.C10
import Mathlib.Algebra.Field.Defs

namespace Atomman.C10
variable {K : Type}

/-- dtype class after a write/read with a unit: `get_in_units` is a true division, integers become floats. -/
def Data.castU [IntCast K] (units : Option String) : Data K → Data K
  | .int l => match units with
    | none => .int l
    | some _ => .flt (l.map (fun (i : Int) => (i : K)))
  | d => d

/-- value written under `fac1` with `units` and read under `fac2`: `x / f₁ * f₂`. -/
def scaleFn [Div K] [Mul K] [One K] (fac1 fac2 : String → K) : Option String → K → K
  | none, x => x
  | some u, x => x / factor fac1 u * factor fac2 u

/-- the buffer after writing under `fac1` and reading under `fac2`: floats go through `scaleFn`; integers stay
    integers without a unit and are cast to `K` first with one; strings are untouched. -/
def Data.rescale [Div K] [Mul K] [One K] [IntCast K] (fac1 fac2 : String → K) (units : Option String) : Data K → Data K
  | .flt l => .flt (l.map (scaleFn fac1 fac2 units))
  | .int l => match units with
    | none => .int l
    | some u => .flt (l.map (fun (i : Int) => scaleFn fac1 fac2 (some u) (i : K)))
  | .str l => .str l

/-- the buffer as floats, integers cast (what `box.position_…` works on); `[]` for strings. -/
def Data.fltD [IntCast K] (d : Data K) : List K := (d.toFlt).getD []

/-- the cell with every entry through `g` (a change of length unit). -/
def mapM3 (g : K → K) (m : M3 K) : M3 K := ⟨m.r0.map g, m.r1.map g, m.r2.map g⟩

/-- the shape `uc.value_unit` sees after the XML text codec: a length-1 vector has become a scalar. -/
def xmlShape (sh : List Nat) : List Nat := if sh = [1] then [] else sh

/-- `q` is property `p` as `uc.value_unit` returns it from XML text: same name and buffer, and the same shape
    except that a length-1 vector has become a scalar. -/
def Squeezes (q p : String × Arr K) : Prop :=
  q.1 = p.1 ∧ q.2.data = p.2.data ∧ (q.2.shape = p.2.shape ∨ (p.2.shape = [1] ∧ q.2.shape = []))

/-- a per-atom array: `natoms` rows, a buffer of the size its shape says, and not empty. -/
def PropOk (natoms : Nat) (a : Arr K) : Prop :=
  (∃ t, a.shape = natoms :: t) ∧ a.data.length = prodNat a.shape ∧ prodNat a.shape ≠ 0

/-- invariants of an `Atoms` object: `atype` (integers ≥ 1) and `pos` ((natoms,3) floats) first,
    distinct property names, every property has `natoms` rows. -/
structure AtomsM.Wf (a : AtomsM K) : Prop where
  head : ∃ (la : List Int) (lp : List K) (rest : List (String × Arr K)),
    a.props = ("atype", ⟨[a.natoms], .int la⟩) :: ("pos", ⟨[a.natoms, 3], .flt lp⟩) :: rest ∧ ∀ i ∈ la, 1 ≤ i
  nodup : (a.props.map Prod.fst).Nodup
  ok : ∀ p ∈ a.props, PropOk a.natoms p.2

/-- a unit assignment is admissible: `atype` carries no unit, string data carry no unit. -/
def UnitsOk (a : AtomsM K) (un : String → Option String) : Prop :=
  un "atype" = none ∧ ∀ p ∈ a.props, ∀ l, p.2.data = .str l → effUnit p.1 (un p.1) = none

/-- unit assignment of a `System.model` call: as for `Atoms.model`, and box-scaled storage is asked only
    for `(..., 3)` arrays. -/
def SysUnitsOk (a : AtomsM K) (un : String → Option String) : Prop :=
  UnitsOk a un ∧ ∀ p ∈ a.props, effUnit p.1 (un p.1) = some "scaled" → p.2.shape.getLast? = some 3

/-- invariants of a `System`: those of its `Atoms`, three periodic flags, one symbol and one mass slot per atom
    type, at least `atoms.natypes` of them (`symbols` / `masses` setters pad with `None`). -/
structure SystemM.Wf (s : SystemM K) : Prop where
  atoms : s.atoms.Wf
  pbc : s.pbc.length = 3
  ntypes : ∃ nat, s.atoms.natypes = some nat ∧ nat ≤ s.symbols.length
  masses : s.masses.length = s.symbols.length

/-- the `System` that holds only the selected properties, in the selected order (what
    `System.model(prop_unit=pu)` looks at). -/
def SystemM.select (s : SystemM K) (pu : List (String × Option String)) : SystemM K :=
  { s with atoms := ⟨s.atoms.natoms,
      pu.filterMap (fun e => (s.atoms.props.lookup e.1).map (fun arr => (e.1, arr)))⟩ }

/-- the unit the selection asks for the property `name` (`none` also when it is not selected). -/
def selUnit (pu : List (String × Option String)) (name : String) : Option String := (pu.lookup name).join

/-- a record in the old format: one `{stiffness: {value, unit}, ij}` entry per constant. -/
def legacyRecord (u : Option String) (es : List (String × K)) : DM K :=
  .node [("elastic-constants", .node [("C", .list (es.map (fun e =>
    .node [("stiffness", .node (("value", .leaf (.flt e.2)) :: unitEntry u)), ("ij", .leaf (.str e.1))])))])]

section field
variable [Field K]

/-- `uc.get_in_units(x, u)` under the configuration `fac` (the number itself without a unit). -/
def inUnit (fac : String → K) : Option String → K → K
  | none, x => x
  | some u, x => x / factor fac u

/-- `uc.set_in_units(x, u)`. -/
def inWorking (fac : String → K) : Option String → K → K
  | none, x => x
  | some u, x => x * factor fac u

/-- the value of property `p` after writing under `fac1` and reading under `fac2`. -/
def propTwo (fac1 fac2 : String → K) (un : String → Option String) (p : String × Arr K) : String × Arr K :=
  (p.1, ⟨p.2.shape, p.2.data.rescale fac1 fac2 (effUnit p.1 (un p.1))⟩)

/-- the selected property `e = (name, unit)` after writing under `fac1` and reading under `fac2`. -/
def selTwo (fac1 fac2 : String → K) (a : AtomsM K) (e : String × Option String) : String × Arr K :=
  match a.props.lookup e.1 with
  | some arr => (e.1, ⟨arr.shape, arr.data.rescale fac1 fac2 (effUnit e.1 e.2)⟩)
  | none => (e.1, ⟨[], .flt []⟩)

end field

end Atomman.C10
