/-
  C12 — Volterra dislocation fields (atomman/defect/{VolterraDislocation,Stroh,IsotropicVolterraDislocation,
  solve_volterra_dislocation,dislocation_system_transform}.py, ElasticConstants.Cijkl / transform).

  Core Lean only.  Every numerical definition is polymorphic over a scalar type `F` and uses core
  arithmetic classes only, so that the same definition is
    * executed by the driver at `F := Cx Rat` (complex numbers as pairs of exact rationals), and
    * reasoned about for every field in `Proofs/C12_*.lean` (`Cx K` is shown to be a field in `Proofs/C12_Lemmas.lean`).

  External numerical routines are *parameters*:
    * `numpy.linalg.eig`      → the six modes `(pₐ, Aₐ, Lₐ)` are inputs (`Mode`), the eigen equation
                                 `N v = p v` is a hypothesis / a residual recomputed by the driver;
    * `numpy.linalg.inv(nn)`  → `nnInv` is an input with hypothesis `nn·nnInv = 1`
                                 (the driver uses the exact adjugate inverse);
    * `k**.5`                 → `sqrtk` input with residual `sqrtk² - k`;
    * `np.log`, `np.arctan`   → the values `ln ηₐ`, `arctan(y/x)` are inputs (never computed in Lean);
    * `π`                     → an input scalar `pi`;  `1j` → an input scalar `I` (`⟨0,1⟩` in the driver).
  The field formulas are kept as the **coefficients** of `ln ηₐ` (displacement) resp. `1/ηₐ` (strain,
  stress), `ηₐ = x·m + pₐ x·n`, with the alternating ± pattern `updn = [1,-1,1,-1,1,-1]` exactly as coded.
-/
import Atomman.Prelude
import Atomman.Generated.IsoVolterra

namespace Atomman.C12

/-! ### complex numbers as pairs over `K` -/

structure Cx (K : Type) where
  re : K
  im : K
deriving Repr, BEq, DecidableEq

namespace Cx
variable {K : Type}

@[inline] def add [Add K] (a b : Cx K) : Cx K := ⟨a.re + b.re, a.im + b.im⟩
@[inline] def sub [Sub K] (a b : Cx K) : Cx K := ⟨a.re - b.re, a.im - b.im⟩
@[inline] def neg [Neg K] (a : Cx K) : Cx K := ⟨-a.re, -a.im⟩
@[inline] def mul [Add K] [Sub K] [Mul K] (a b : Cx K) : Cx K :=
  ⟨a.re * b.re - a.im * b.im, a.re * b.im + a.im * b.re⟩
/-- `conj a / |a|²`; meaningful only for `a ≠ 0` (`x / 0` is whatever `K` says it is). -/
@[inline] def inv [Add K] [Mul K] [Neg K] [Div K] (a : Cx K) : Cx K :=
  ⟨a.re / (a.re * a.re + a.im * a.im), (-a.im) / (a.re * a.re + a.im * a.im)⟩
@[inline] def div [Add K] [Sub K] [Mul K] [Neg K] [Div K] (a b : Cx K) : Cx K := mul a (inv b)
@[inline] def conj [Neg K] (a : Cx K) : Cx K := ⟨a.re, -a.im⟩
@[inline] def ofReal [Zero K] (r : K) : Cx K := ⟨r, 0⟩
/-- the imaginary unit (numpy `1j`). -/
@[inline] def I [Zero K] [One K] : Cx K := ⟨0, 1⟩

instance [Add K] : Add (Cx K) := ⟨add⟩
instance [Sub K] : Sub (Cx K) := ⟨sub⟩
instance [Neg K] : Neg (Cx K) := ⟨neg⟩
instance [Add K] [Sub K] [Mul K] : Mul (Cx K) := ⟨mul⟩
instance [Add K] [Mul K] [Neg K] [Div K] : Inv (Cx K) := ⟨inv⟩
instance [Add K] [Sub K] [Mul K] [Neg K] [Div K] : Div (Cx K) := ⟨div⟩
instance [Zero K] : Zero (Cx K) := ⟨⟨0, 0⟩⟩
instance [Zero K] [One K] : One (Cx K) := ⟨⟨1, 0⟩⟩
instance [Zero K] [NatCast K] : NatCast (Cx K) := ⟨fun n => ⟨(n : K), 0⟩⟩
instance [Zero K] [IntCast K] : IntCast (Cx K) := ⟨fun n => ⟨(n : K), 0⟩⟩
end Cx

/-! ### index sums, vectors, tensors -/

variable {F : Type}

abbrev Vec (F : Type) := Fin 3 → F
abbrev Mat (F : Type) := Fin 3 → Fin 3 → F
abbrev Ten4 (F : Type) := Fin 3 → Fin 3 → Fin 3 → Fin 3 → F

@[inline] def sum3 [Add F] (f : Fin 3 → F) : F := f 0 + f 1 + f 2
@[inline] def sum6 [Add F] (f : Fin 6 → F) : F := f 0 + f 1 + f 2 + f 3 + f 4 + f 5

def dot [Add F] [Mul F] (a b : Vec F) : F := sum3 fun i => a i * b i
def cross [Sub F] [Mul F] (a b : Vec F) : Vec F := fun i =>
  a (i + 1) * b (i + 2) - a (i + 2) * b (i + 1)
def matVec [Add F] [Mul F] (M : Mat F) (v : Vec F) : Vec F := fun i => sum3 fun j => M i j * v j
def matMul [Add F] [Mul F] (M N : Mat F) : Mat F := fun i k => sum3 fun j => M i j * N j k
def kron [Zero F] [One F] (i j : Fin 3) : F := if i = j then 1 else 0
def kron6 [Zero F] [One F] (i j : Fin 6) : F := if i = j then 1 else 0

/-- Voigt index of a symmetric pair: 00→0, 11→1, 22→2, 12→3, 02→4, 01→5. -/
def voigt (i j : Fin 3) : Fin 6 :=
  if i = j then ⟨i.val, by omega⟩ else ⟨(6 - i.val - j.val) % 6, Nat.mod_lt _ (by decide)⟩

/-- `ElasticConstants.Cijkl` getter: `C[i,j,k,l] = c[voigt i j, voigt k l]`. -/
def cijkl (c : Fin 6 → Fin 6 → F) : Ten4 F := fun i j k l => c (voigt i j) (voigt k l)

/-- representative index pair of a Voigt index as used by the `Cijkl` *setter*
    (`[0,0],[1,1],[2,2],[1,2],[0,2],[0,1]`). -/
def unvoigt (a : Fin 6) : Fin 3 × Fin 3 :=
  match a.val with
  | 0 => (0, 0) | 1 => (1, 1) | 2 => (2, 2) | 3 => (1, 2) | 4 => (0, 2) | _ => (0, 1)

/-- `ElasticConstants.Cijkl` setter: the 6x6 array read off the representatives. -/
def toVoigt (C : Ten4 F) : Fin 6 → Fin 6 → F := fun a b =>
  C (unvoigt a).1 (unvoigt a).2 (unvoigt b).1 (unvoigt b).2

/-- `ElasticConstants.transform`: `Q = einsum('km,ln->mnkl',T,T)`,
    `C' = einsum('ghij,ghmn,mnkl->ijkl', Q, C, Q)`, i.e. `C'_ijkl = Σ T_ig T_jh T_km T_ln C_ghmn`. -/
def rotC [Add F] [Mul F] (T : Mat F) (C : Ten4 F) : Ten4 F := fun i j k l =>
  sum3 fun g => T i g * sum3 fun h => T j h * sum3 fun m => T k m * sum3 fun n => T l n * C g h m n

/-- `einsum('i,ijkl,l', a, C, b)`: the 3x3 matrix `(ab)_jk = Σ_i Σ_l a_i C_ijkl b_l`. -/
def contract [Add F] [Mul F] (a : Vec F) (C : Ten4 F) (b : Vec F) : Mat F := fun j k =>
  sum3 fun i => sum3 fun l => a i * C i j k l * b l

/-! ### orientation handling (VolterraDislocation.solve, __mn_check, __find_transform) -/

/-- the unit-norm and perpendicularity guard of `__mn_check` for array-valued axes:
    `|‖axis‖ - 1| ≤ tol` (written without the square root: `(1-tol)² ≤ ‖axis‖² ≤ (1+tol)²`,
    equivalent for `0 ≤ tol ≤ 1`) for BOTH axes, and `|m·n| ≤ tol`. -/
def unitOk [Add F] [Sub F] [Mul F] [One F] [LE F] [DecidableLE F] (tol : F) (a : Vec F) : Bool :=
  decide ((1 - tol) * (1 - tol) ≤ dot a a) && decide (dot a a ≤ (1 + tol) * (1 + tol))

def mnAccept [Add F] [Sub F] [Mul F] [Neg F] [One F] [LE F] [DecidableLE F] (tol : F) (m n : Vec F) : Bool :=
  unitOk tol m && unitOk tol n && decide (-tol ≤ dot m n) && decide (dot m n ≤ tol)

/-- `cart_axes=True`: exactly one component within `tol` of 1. -/
def cartAligned [Add F] [Sub F] [One F] [Neg F] [LE F] [DecidableLE F] (tol : F) (a : Vec F) : Bool :=
  let near (v : F) : Nat := if decide (-tol ≤ v - 1) && decide (v - 1 ≤ tol) then 1 else 0
  near (a 0) + near (a 1) + near (a 2) == 1

/-- `__find_transform` / `dislocation_system_transform`: rows `[m_axis, n_axis, ξ_axis]`
    (`m_axis = n_axis × ξ_axis`) multiplied from the left by `T = [m, n, m×n]ᵀ`:
    `transform[i][c] = m_i·m_axis_c + n_i·n_axis_c + (m×n)_i·ξ_axis_c`. -/
def findTransform [Add F] [Sub F] [Mul F] (m n nAxis ξAxis : Vec F) : Mat F := fun i c =>
  m i * (cross nAxis ξAxis) c + n i * nAxis c + (cross m n) i * ξAxis c

/-- `Box.vector_crystal_to_cartesian` of a Miller line `[uvw]` in the cell with rows `a, b, c`: `u a + v b + w c`. -/
def millerLine [Add F] [Mul F] (V : Mat F) (u : Vec F) : Vec F := fun c => sum3 fun i => u i * V i c

/-- the normal of the Miller plane `(hkl)` as the reciprocal-lattice vector times the cell volume,
    `h (b×c) + k (c×a) + l (a×b)`: for a right-handed cell a POSITIVE multiple of the unit vector that
    `plane_crystal_to_cartesian` returns (whatever pair of in-plane lattice vectors the code picks for the zero pattern
    and the signs of `h, k, l`). -/
def millerNormal [Add F] [Sub F] [Mul F] (V : Mat F) (h : Vec F) : Vec F := fun c =>
  h 0 * cross (V 1) (V 2) c + h 1 * cross (V 2) (V 0) c + h 2 * cross (V 0) (V 1) c

/-- `a[isclose(a / big, 0, atol=tol)] = 0` -/
def chop [Zero F] [Neg F] [Div F] [LE F] [DecidableLE F] (tol big v : F) : F :=
  if decide (-tol ≤ v / big) && decide (v / big ≤ tol) then 0 else v

/-! ### the Stroh sextic formalism (Stroh.solve) -/

/-- one eigen-mode as returned by the eigen-solver: eigenvalue `p`, eigenvector split `(A, L)`. -/
structure Mode (F : Type) where
  p : F
  A : Vec F
  L : Vec F

/-- the frame and medium after orientation handling. -/
structure Setup (F : Type) where
  C : Ten4 F
  m : Vec F
  n : Vec F
  b : Vec F

section stroh
variable [Add F] [Sub F] [Mul F] [Div F] [Neg F] [NatCast F]

def Setup.mm (s : Setup F) : Mat F := contract s.m s.C s.m
def Setup.mn (s : Setup F) : Mat F := contract s.m s.C s.n
def Setup.nm (s : Setup F) : Mat F := contract s.n s.C s.m
def Setup.nn (s : Setup F) : Mat F := contract s.n s.C s.n

/-- quadrants of `N` (`nnInv` = `np.linalg.inv(nn)`): `NB = -nn⁻¹`, `NA = NB·nm`, `NC = mn·NA + mm`, `ND = mn·NB`. -/
def NB (nnInv : Mat F) : Mat F := fun i j => -(nnInv i j)
def NA (s : Setup F) (nnInv : Mat F) : Mat F := matMul (NB nnInv) s.nm
def NC (s : Setup F) (nnInv : Mat F) : Mat F := fun i j => matMul s.mn (NA s nnInv) i j + s.mm i j
def ND (s : Setup F) (nnInv : Mat F) : Mat F := matMul s.mn (NB nnInv)

/-- `N v - p v` for `v = (A, L)`: upper and lower halves. -/
def eigResTop (s : Setup F) (nnInv : Mat F) (μ : Mode F) : Vec F := fun i =>
  matVec (NA s nnInv) μ.A i + matVec (NB nnInv) μ.L i - μ.p * μ.A i
def eigResBot (s : Setup F) (nnInv : Mat F) (μ : Mode F) : Vec F := fun i =>
  matVec (NC s nnInv) μ.A i + matVec (ND s nnInv) μ.L i - μ.p * μ.L i

/-- the sextic matrix `mm + p (mn + nm) + p² nn`. -/
def sextic (s : Setup F) (p : F) : Mat F := fun i j =>
  s.mm i j + p * (s.mn i j + s.nm i j) + p * p * s.nn i j

/-- `k = 1 / (2 Σ_i A_i L_i)` -/
def kOf (μ : Mode F) : F := ((1 : Nat) : F) / (((2 : Nat) : F) * dot μ.A μ.L)

/-- `updn = [1, -1, 1, -1, 1, -1]` -/
def updn (a : Fin 6) : F := if a.val % 2 = 0 then ((1 : Nat) : F) else -((1 : Nat) : F)

/-- the first three self-checks: `Σ k A⊗L` (must be 1), `Σ k A⊗A`, `Σ k L⊗L` (must be 0). -/
def chkAL (μ : Fin 6 → Mode F) (k : Fin 6 → F) : Mat F := fun i j => sum6 fun a => k a * (μ a).A i * (μ a).L j
def chkAA (μ : Fin 6 → Mode F) (k : Fin 6 → F) : Mat F := fun i j => sum6 fun a => k a * (μ a).A i * (μ a).A j
def chkLL (μ : Fin 6 → Mode F) (k : Fin 6 → F) : Mat F := fun i j => sum6 fun a => k a * (μ a).L i * (μ a).L j
/-- fourth self-check (must be the 6x6 identity): `√k_s √k_t (A_s·L_t + A_t·L_s)`. -/
def chkST (μ : Fin 6 → Mode F) (sk : Fin 6 → F) (s t : Fin 6) : F :=
  sk s * sk t * dot (μ s).A (μ t).L + sk s * sk t * dot (μ t).A (μ s).L

/-- `K_tensor = 1j · einsum('s,s,si,sj->ij', updn, k, L, L)` (before the round-off clean-up). -/
def kTensor (I : F) (μ : Fin 6 → Mode F) (k : Fin 6 → F) : Mat F := fun i j =>
  I * sum6 fun a => updn a * k a * (μ a).L i * (μ a).L j

/-- `kLb = k * updn * (L·b)` -/
def kLb (s : Setup F) (μ : Fin 6 → Mode F) (k : Fin 6 → F) (a : Fin 6) : F :=
  k a * updn a * dot (μ a).L s.b

/-- `mpn = m + outer(p, n)` -/
def mpn (s : Setup F) (μ : Mode F) : Vec F := fun i => s.m i + μ.p * s.n i

/-- `η_a = x·m + p_a x·n` -/
def eta (s : Setup F) (μ : Mode F) (x : Vec F) : F := dot x s.m + μ.p * dot x s.n

/-- coefficient of `ln η_a` in `displacement`: `1/(2π·1j) · kLb_a · A_ai`. -/
def dispCoef (pi I : F) (s : Setup F) (μ : Fin 6 → Mode F) (k : Fin 6 → F) (a : Fin 6) : Vec F := fun i =>
  ((1 : Nat) : F) / (((2 : Nat) : F) * pi * I) * (kLb s μ k a * (μ a).A i)

/-- coefficient of `1/η_a` in `strain`: `1/(4π·1j) · kLb_a · (mpn_ai A_aj + mpn_aj A_ai)`. -/
def strainCoef (pi I : F) (s : Setup F) (μ : Fin 6 → Mode F) (k : Fin 6 → F) (a : Fin 6) : Mat F := fun i j =>
  ((1 : Nat) : F) / (((4 : Nat) : F) * pi * I)
    * (kLb s μ k a * (mpn s (μ a) i * (μ a).A j + mpn s (μ a) j * (μ a).A i))

/-- coefficient of `1/η_a` in `stress`: `1/(2π·1j) · kLb_a · Σ_kl C_ijkl mpn_al A_ak`
    (`einsum('a, ijkl, alk, ...a -> ...ij', kLb, C, Ampn, 1/eta)`, `Ampn_aij = mpn_ai A_aj`). -/
def stressCoef (pi I : F) (s : Setup F) (μ : Fin 6 → Mode F) (k : Fin 6 → F) (a : Fin 6) : Mat F := fun i j =>
  ((1 : Nat) : F) / (((2 : Nat) : F) * pi * I)
    * (kLb s μ k a * sum3 fun k' => sum3 fun l => s.C i j k' l * (mpn s (μ a) l * (μ a).A k'))

/-- displacement at a point, given the values `lnη a` of `np.log(eta)` there. -/
def dispAt (pi I : F) (s : Setup F) (μ : Fin 6 → Mode F) (k : Fin 6 → F) (lnη : Fin 6 → F) : Vec F := fun i =>
  sum6 fun a => dispCoef pi I s μ k a i * lnη a

def strainAt (pi I : F) (s : Setup F) (μ : Fin 6 → Mode F) (k : Fin 6 → F) (x : Vec F) : Mat F := fun i j =>
  sum6 fun a => strainCoef pi I s μ k a i j * (((1 : Nat) : F) / eta s (μ a) x)

def stressAt (pi I : F) (s : Setup F) (μ : Fin 6 → Mode F) (k : Fin 6 → F) (x : Vec F) : Mat F := fun i j =>
  sum6 fun a => stressCoef pi I s μ k a i j * (((1 : Nat) : F) / eta s (μ a) x)

/-- jump of the displacement when every `ln η_a` jumps by `updn_a · 2π·1j`
    (`+2πi` for the modes listed first in each conjugate pair, `-2πi` for their conjugates). -/
def dispJump (pi I : F) (s : Setup F) (μ : Fin 6 → Mode F) (k : Fin 6 → F) : Vec F :=
  dispAt pi I s μ k (fun a => updn a * (((2 : Nat) : F) * pi * I))

/-- `K_coeff = b·K·b / b·b`, `preln = b·K·b / 4π` -/
def kCoeff (K : Mat F) (b : Vec F) : F := dot b (matVec K b) / dot b b
def preln (pi : F) (K : Mat F) (b : Vec F) : F := dot b (matVec K b) / (((4 : Nat) : F) * pi)

end stroh

/-! ### rotating a whole problem (covariance) -/
section rot
variable [Add F] [Mul F]
def rotVec (R : Mat F) (v : Vec F) : Vec F := matVec R v
def rotMat (R : Mat F) (M : Mat F) : Mat F := fun i j => sum3 fun g => R i g * sum3 fun h => R j h * M g h
def rotMode (R : Mat F) (μ : Mode F) : Mode F := ⟨μ.p, rotVec R μ.A, rotVec R μ.L⟩
def rotSetup (R : Mat F) (s : Setup F) : Setup F := ⟨rotC R s.C, rotVec R s.m, rotVec R s.n, rotVec R s.b⟩
end rot

/-! ### isotropic closed form (IsotropicVolterraDislocation) — formulas are generated, the plumbing is here -/
section iso
variable {K : Type}

/-- `theta()`: `arctan(y/x)` mapped to `(-π, π]`... as coded: `x = 0` special cases, `+π` for `x < 0`,
    then `-2π` where the value is `≥ π` (so the negative x axis itself gets `-π`).
    `atn` is the value of `np.arctan(y / x)` (ignored when `x = 0` and `y ≠ 0`). -/
def thetaOf [Add K] [Sub K] [Mul K] [Div K] [Neg K] [NatCast K] [LT K] [DecidableLT K] [DecidableEq K]
    (pi x y atn : K) : K :=
  let zero : K := ((0 : Nat) : K)
  let t0 := if x = zero ∧ zero < y then pi / ((2 : Nat) : K)
            else if x = zero ∧ y < zero then -pi / ((2 : Nat) : K) else atn
  let t1 := if x < zero then t0 + pi else t0
  if t1 < pi then t1 else t1 - ((2 : Nat) : K) * pi

variable [Add K] [Sub K] [Mul K] [Div K] [Neg K] [NatCast K]

/-- local → lab: `einsum('mi, nj, ...ij -> ...mn', T, T, local)` with `T = [m, n, ξ]ᵀ`, `T_mi = frame_i[m]`. -/
def toLab (m n ξ : Vec K) (loc : Mat K) : Mat K :=
  let fr : Fin 3 → Vec K := fun i => if i.val = 0 then m else if i.val = 1 then n else ξ
  fun a b => sum3 fun i => sum3 fun j => fr i a * fr j b * loc i j

/-- `disp = outer(disp_ξ, ξ) + outer(disp_m, m) + outer(disp_n, n)` -/
def isoDispLab (m n ξ : Vec K) (dm dn dξ : K) : Vec K := fun c => dξ * ξ c + dm * m c + dn * n c

structure IsoSetup (K : Type) where
  m : Vec K
  n : Vec K
  b : Vec K
  mu : K
  nu : K

def IsoSetup.ξ (s : IsoSetup K) : Vec K := cross s.m s.n
def IsoSetup.x (s : IsoSetup K) (pos : Vec K) : K := dot pos s.m
def IsoSetup.y (s : IsoSetup K) (pos : Vec K) : K := dot pos s.n
def IsoSetup.bs (s : IsoSetup K) : K := dot s.b s.ξ
def IsoSetup.be (s : IsoSetup K) : K := dot s.b s.m

def isoStrainLab (pi : K) (s : IsoSetup K) (pos : Vec K) : Mat K :=
  toLab s.m s.n s.ξ (Gen.isoStrain (s.x pos) (s.y pos) s.nu s.be s.bs pi)
def isoStressLab (pi : K) (s : IsoSetup K) (pos : Vec K) : Mat K :=
  toLab s.m s.n s.ξ (Gen.isoStress (s.x pos) (s.y pos) s.nu s.mu s.be s.bs pi)
def isoDisplacement (log : K → K) (pi theta : K) (s : IsoSetup K) (pos : Vec K) : Vec K :=
  let x := s.x pos; let y := s.y pos
  isoDispLab s.m s.n s.ξ (Gen.isoDisp_m log x y s.nu s.be s.bs pi theta)
    (Gen.isoDisp_n log x y s.nu s.be s.bs pi theta) (Gen.isoDisp_ξ log x y s.nu s.be s.bs pi theta)
/-- `K = transᵀ · diag(K_e, K_e, K_s) · trans`, `trans = [m, n, ξ]` -/
def isoKTensor (s : IsoSetup K) : Mat K :=
  let ke := Gen.isoKe s.mu s.nu; let ks := Gen.isoKs s.mu s.nu
  fun a b => ke * s.m a * s.m b + ke * s.n a * s.n b + ks * s.ξ a * s.ξ b

end iso

/-! ### orientation handling, continued: axes_check, crystal → Cartesian, round-off clean-up -/
section orient
variable [Add F] [Sub F] [Mul F] [Div F] [Neg F] [LE F] [DecidableLE F] [LT F] [DecidableLT F]

def absF [Zero F] (v : F) : F := if v < 0 then -v else v

/-- `numpy.allclose(a, b, atol, rtol)` for one entry: `|a - b| ≤ atol + rtol·|b|`. -/
def closeTo [Zero F] (atol rtol a b : F) : Bool := decide (absF (a - b) ≤ atol + rtol * absF b)

/-- `uaxes = (axes.T / norm(axes, axis=1)).T`; `norms` are the three row norms (`numpy.linalg.norm`, a parameter
    with residual `normsᵢ² = Σⱼ axesᵢⱼ²`). -/
def unitAxes (axes : Mat F) (norms : Vec F) : Mat F := fun i j => axes i j / norms i

/-- `axes_check`: `allclose(u uᵀ, 1, atol=tol)` and `allclose(u₀ × u₁, u₂, atol=tol)` (numpy's default
    `rtol = 1e-5` is the parameter `rtol`). -/
def axesOrthOk [Zero F] [One F] (tol rtol : F) (u : Mat F) : Bool :=
  fin3All fun i => fin3All fun j => closeTo tol rtol (dot (u i) (u j)) (kron i j)
where fin3All (p : Fin 3 → Bool) : Bool := p 0 && p 1 && p 2

def axesRightOk [Zero F] (tol rtol : F) (u : Mat F) : Bool :=
  let c := cross (u 0) (u 1)
  closeTo tol rtol (c 0) (u 2 0) && closeTo tol rtol (c 1) (u 2 1) && closeTo tol rtol (c 2) (u 2 2)

/-- `miller.vector_crystal_to_cartesian(u, box)`: `u · vects` (rows of `vects` are the cell vectors). -/
def crystalToCart (vects : Mat F) (u : Vec F) : Vec F := fun c => sum3 fun i => u i * vects i c

/-- `C[abs(C / C.max()) < tol] = 0` of `ElasticConstants.transform` (strict, unlike `chop`). -/
def chopLt [Zero F] (tol big v : F) : F := if absF (v / big) < tol then 0 else v

def listMax (d : F) (l : List F) : F := l.foldl (fun a b => if a < b then b else a) d

/-- all 81 entries of a 4-tensor / 9 of a matrix / 3 of a vector, in numpy `ravel` order. -/
def ten4ToList (C : Ten4 F) : List F :=
  [0, 1, 2].flatMap fun (i : Fin 3) => [0, 1, 2].flatMap fun (j : Fin 3) => [0, 1, 2].flatMap fun (k : Fin 3) =>
    [0, 1, 2].map fun (l : Fin 3) => C i j k l

/-- `ElasticConstants.transform(T)` followed by the `Cijkl` setter: the rotated, cleaned 6x6 array. -/
def orientC [Zero F] (tol : F) (T : Mat F) (c : Fin 6 → Fin 6 → F) : Fin 6 → Fin 6 → F :=
  let C' := rotC T (cijkl c)
  let l := ten4ToList C'
  let big := listMax (l.headD 0) l
  toVoigt fun i j k l => chopLt tol big (C' i j k l)

/-- `burgers = T · (burgers · vects)`, then entries with `|b/max|b|| ≤ tol` zeroed. -/
def orientB [Zero F] (tol : F) (T vects : Mat F) (b : Vec F) : Vec F :=
  let b' := matVec T (crystalToCart vects b)
  let big := listMax (absF (b' 0)) [absF (b' 1), absF (b' 2)]
  fun i => chop tol big (b' i)

/-- `np.abs(b).max()` -/
def maxAbs3 [Zero F] (b : Vec F) : F := listMax (absF (b 0)) [absF (b 1), absF (b 2)]

/-- `IsotropicVolterraDislocation.solve` (repo fix 9765d33): the closed form carries only `b·m` and `b·ξ`, so a
    Burgers vector with `|b·n| > tol · max|bᵢ|` is refused (`ValueError`). -/
def isoInPlaneOk [Zero F] (tol : F) (b n : Vec F) : Bool :=
  !(decide (tol * maxAbs3 b < absF (dot b n)))

end orient

/-! ### the entry point `solve_volterra_dislocation` -/

inductive Solver where
  | stroh
  | iso
deriving Repr, DecidableEq

/-- `IsotropicVolterraDislocation` accepts (does not raise `ValueError`): `isoNormal` is the value of
    `C.is_normal('isotropic', atol=0.0, rtol=1e-4)` (property C11, a parameter here), `inPlane` the in-plane test. -/
def isoAccept (isoNormal inPlane : Bool) : Bool := isoNormal && inPlane

/-- `solve_volterra_dislocation`: `try: return Stroh(...)  except ValueError: return IsotropicVolterraDislocation(...)`.
    `strohOk` = `Stroh.solve` does not raise (`strohAccept` on the eigen-solver's output); `none` = the `ValueError`
    of the isotropic solver propagates. -/
def dispatch (strohOk isoNormal inPlane : Bool) : Option Solver :=
  if strohOk then some .stroh else if isoAccept isoNormal inPlane then some .iso else none

/-! ### acceptance tests of `Stroh.solve` (the four `allclose` self-checks and the real-`K_tensor` test) -/
section accept
variable {K : Type} [Add K] [Sub K] [Mul K] [Div K] [Neg K] [Zero K] [One K] [NatCast K]
  [LE K] [DecidableLE K] [LT K] [DecidableLT K]

def Cx.normSq (z : Cx K) : K := z.re * z.re + z.im * z.im

/-- `|z - w| ≤ atol + rtol·w` for a complex `z` and a real `w ≥ 0`, written without the square root. -/
def closeToReal (atol rtol : K) (z : Cx K) (w : K) : Bool :=
  decide (Cx.normSq (z - ⟨w, 0⟩) ≤ (atol + rtol * w) * (atol + rtol * w))

def all3 (p : Fin 3 → Bool) : Bool := p 0 && p 1 && p 2
def all6 (p : Fin 6 → Bool) : Bool := p 0 && p 1 && p 2 && p 3 && p 4 && p 5

/-- a complex number times / over a real one (numpy: complex array `* Cmax`, `/ Cmax`). -/
def Cx.rmul (r : K) (z : Cx K) : Cx K := ⟨z.re * r, z.im * r⟩
def Cx.rdiv (z : Cx K) (r : K) : Cx K := ⟨z.re / r, z.im / r⟩

/-- `Cmax = np.abs(Cijkl).max()` -/
def maxAbsTen4 (C : Ten4 K) : K := listMax 0 ((ten4ToList C).map absF)

/-- the four assertions of `Stroh.solve` (`np.allclose(..., atol=tol)`, default `rtol` a parameter);
    `sk` is `k**.5` (a parameter with residual `sk² = k`).  `Σ k A⊗A` carries the unit of `1/C` and `Σ k L⊗L` the
    unit of `C`: the code multiplies resp. divides them by `cmax = np.abs(Cijkl).max()` before comparing with the
    unitless `tol` (repo fix: before, stiffnesses above 3e7 or below 3e-8 — e.g. in Pa — were always refused). -/
def strohChecksOk (tol rtol cmax : K) (μ : Fin 6 → Mode (Cx K)) (k sk : Fin 6 → Cx K) : Bool :=
  (all3 fun i => all3 fun j => closeToReal tol rtol (chkAL μ k i j) (kron i j))
  && (all3 fun i => all3 fun j => closeToReal tol rtol (Cx.rmul cmax (chkAA μ k i j)) 0)
  && (all3 fun i => all3 fun j => closeToReal tol rtol (Cx.rdiv (chkLL μ k i j) cmax) 0)
  && (all6 fun s => all6 fun t => closeToReal tol rtol (chkST μ sk s t) (kron6 s t))

/-- `np.real_if_close(K, tol)` returns a real array iff every `|Im| < tol`. -/
def kIsReal (tol : K) (Kt : Mat (Cx K)) : Bool :=
  all3 fun i => all3 fun j => decide (-tol < (Kt i j).im) && decide ((Kt i j).im < tol)

/-- `Stroh.solve` accepts the eigen-solver output (does not raise `ValueError`). -/
def strohAccept (tol rtol cmax : K) (μ : Fin 6 → Mode (Cx K)) (k sk : Fin 6 → Cx K) : Bool :=
  strohChecksOk tol rtol cmax μ k sk && kIsReal tol (kTensor Cx.I μ k)

/-- `K = real_if_close(K); K[isclose(K / K.max(), 0, atol=tol)] = 0` on the real parts. -/
def kClean (tol : K) (Kt : Mat (Cx K)) : Mat K :=
  let l := [0, 1, 2].flatMap fun (i : Fin 3) => [0, 1, 2].map fun (j : Fin 3) => (Kt i j).re
  let big := listMax (l.headD 0) l
  fun i j => chop tol big (Kt i j).re

end accept

/-! ### object-level semantics: what a solved object holds, what the caller may edit, what a method call reads -/
section obj
variable {F : Type}

/-- the caller's argument objects (contents at some moment): the medium (an `ElasticConstants` object), the orientation
    array, the axes and the Burgers vector.  The caller may edit every one of them in place at any time. -/
structure Args (F : Type) where
  C : Ten4 F
  T : Mat F
  m : Vec F
  n : Vec F
  b : Vec F

/-- a solved `Stroh` object: private COPIES of what `solve()` computed from the arguments as they were then (medium and
    Burgers vector rotated into the solver frame, the axes) and of the eigen-solution. -/
structure SObj (F : Type) where
  s : Setup F
  μ : Fin 6 → Mode F
  k : Fin 6 → F

/-- `VolterraDislocation.solve` without the round-off clean-ups: `C.transform(T)`, `T·b`, `m`, `n`. -/
def Args.setup [Add F] [Mul F] (a : Args F) : Setup F := ⟨rotC a.T a.C, a.m, a.n, matVec a.T a.b⟩

/-- the world of one session: the caller's argument objects, ONE coordinate array that is handed to every call, the
    solved object. -/
structure World (F : Type) where
  args : Args F
  pos : List (Vec F)
  obj : SObj F

/-- in-place edits by the caller, between method calls. -/
inductive Edit (F : Type) where
  | argC (C : Ten4 F)
  | argT (T : Mat F)
  | argM (v : Vec F)
  | argN (v : Vec F)
  | argB (v : Vec F)
  | posSet (i : Nat) (x : Vec F)         -- `pos[i] = x`
  | posScale (t : F)                      -- `pos *= t`
  | posShift (d : Vec F)                  -- `pos += d`
  | posCol (j : Fin 3) (h : F)            -- `pos[:, j] += h`
  | posAll (l : List (Vec F))             -- `pos[...] = l` / `np.copyto(pos, l)`

def editPos [Add F] [Mul F] : List (Vec F) → Edit F → List (Vec F)
  | l, .posSet i x => l.set i x
  | l, .posScale t => l.map fun x c => t * x c
  | l, .posShift d => l.map fun x c => x c + d c
  | l, .posCol j h => l.map fun x c => if c = j then x c + h else x c
  | _, .posAll l' => l'
  | l, _ => l

def editArgs : Args F → Edit F → Args F
  | a, .argC C => { a with C := C }
  | a, .argT T => { a with T := T }
  | a, .argM v => { a with m := v }
  | a, .argN v => { a with n := v }
  | a, .argB v => { a with b := v }
  | a, _ => a

/-- an edit changes the caller's objects and NEVER the solved object. -/
def World.edit [Add F] [Mul F] (w : World F) (e : Edit F) : World F :=
  { w with args := editArgs w.args e, pos := editPos w.pos e }

variable [Add F] [Sub F] [Mul F] [Div F] [Neg F] [NatCast F]

/-- `obj.eta(pos)`, `obj.strain(pos)`, `obj.stress(pos)`, `obj.displacement(pos)` (with the values of `np.log(eta)` as
    inputs): functions of the solved object and of the CURRENT contents of the array, returning new values. -/
def World.etas (w : World F) : List (Fin 6 → F) := w.pos.map fun x a => eta w.obj.s (w.obj.μ a) x
def World.strains (pi I : F) (w : World F) : List (Mat F) := w.pos.map (strainAt pi I w.obj.s w.obj.μ w.obj.k)
def World.stresses (pi I : F) (w : World F) : List (Mat F) := w.pos.map (stressAt pi I w.obj.s w.obj.μ w.obj.k)
def World.disps (pi I : F) (w : World F) (logs : List (Fin 6 → F)) : List (Vec F) :=
  logs.map (dispAt pi I w.obj.s w.obj.μ w.obj.k)

end obj

/-! ### API level: signature, option handling and order of `VolterraDislocation.solve` (round 5)

    The generated `Atomman/Generated/StrohSource.lean` re-derives every definition of this section (and the Stroh /
    orientation formulas above) from the CURRENT source with `ast`; `Proofs/C12_Source.lean` proves generated = model. -/

/-- parameters (after `self`) of `VolterraDislocation.__init__` / `.solve`, `Stroh.solve`, `IsotropicVolterraDislocation.solve`
    and `solve_volterra_dislocation`, with their defaults as source text (`""` = no default). -/
def solveSig : List (String × String) :=
  [("C", ""), ("burgers", ""), ("ξ_uvw", "None"), ("slip_hkl", "None"), ("transform", "None"), ("axes", "None"),
   ("box", "None"), ("m", "'x'"), ("n", "'y'"), ("cart_axes", "False"), ("tol", "1e-08")]

/-- how every layer hands the arguments on: `C`, `burgers` by position, every other parameter by keyword under its own
    name (`name=name`). -/
def forwardOf (sig : List (String × String)) : List String × List (String × String) :=
  ((sig.take 2).map Prod.fst, (sig.drop 2).map fun p => (p.1, p.1))

/-- the value bound to the local `transform` of `VolterraDislocation.solve` as it moves through the option handling. -/
inductive TVal (M : Type) where
  | raw (x : M)        -- the caller's array (from `transform=` or `axes=`), not yet checked
  | checked (x : M)    -- after `axes_check` (rows normalised, orthogonality / handedness tested)
  | miller             -- built by `__find_transform(ξ_uvw, slip_hkl, m, n, box)`
  | eye                -- `np.eye(3)`
deriving Repr, DecidableEq

def TVal.check {M : Type} : TVal M → TVal M
  | .raw x => .checked x
  | t => t

/-- option handling of `VolterraDislocation.solve`: `ξ`, `hkl` = "`ξ_uvw` / `slip_hkl` is not None"; Miller indices need
    both and exclude `transform` / `axes`; `axes` is an alias of `transform` (both given: refused); nothing given: the
    identity.  Every refusal is an `AssertionError`. -/
def routeOf {M : Type} (ξ hkl : Bool) (transform axes : Option M) : Except String (TVal M) :=
  match ξ, hkl, transform, axes with
  | true, true, none, none => .ok .miller
  | false, false, none, none => .ok .eye
  | false, false, some t, none => .ok (.checked t)
  | false, false, none, some a => .ok (.checked a)
  | _, _, _, _ => .error "assert"

/-- `axis_value`: the strings `'x' 'y' 'z'` stand for the Cartesian axes (and skip every check). -/
def axisOfStr [NatCast F] (s : String) : Option (Vec F) :=
  let one : F := ((1 : Nat) : F)
  let zero : F := ((0 : Nat) : F)
  if s = "x" then some fun i => if i.val = 0 then one else zero
  else if s = "y" then some fun i => if i.val = 1 then one else zero
  else if s = "z" then some fun i => if i.val = 2 then one else zero
  else none

section base
variable [Add F] [Sub F] [Mul F] [Div F] [Neg F] [Zero F] [One F] [LE F] [DecidableLE F] [LT F] [DecidableLT F]

/-- what `axis_value` asserts for one axis: nothing for a string, unit norm (and Cartesian alignment under `cart_axes`)
    for an array. -/
def axisOk (tol : F) (cart isStr : Bool) (a : Vec F) : Bool :=
  isStr || (unitOk tol a && (!cart || cartAligned tol a))

/-- `axes_check(axes)` as a partial function: the normalised rows, or `ValueError`. -/
def axesCheck (tol rtol : F) (ax : Mat F) (norms : Vec F) : Except String (Mat F) :=
  let u := unitAxes ax norms
  if !(axesOrthOk tol rtol u) then .error "value" else if !(axesRightOk tol rtol u) then .error "value" else .ok u

/-- everything `VolterraDislocation.solve` is handed (numpy's `norm` of rows and the Miller → Cartesian conversions of
    property C16 are parameters). -/
structure BaseIn (F : Type) where
  tol : F                     -- the solver's `tol`
  tolAx : F                   -- default `tol` of `axes_check` and of `ElasticConstants.transform` (both called without one)
  rtol : F                    -- numpy's default `rtol` of `allclose`
  cart : Bool
  mStr : Bool
  nStr : Bool
  m : Vec F
  n : Vec F
  ξ : Bool
  hkl : Bool
  transform : Option (Mat F)
  axes : Option (Mat F)
  norms : Vec F               -- row norms of the array given as `transform=` / `axes=`
  norms2 : Vec F              -- row norms of the final transform (`ElasticConstants.transform` normalises again)
  nAxis : Vec F
  ξAxis : Vec F
  vects : Mat F
  c : Fin 6 → Fin 6 → F
  b : Vec F

structure BaseOut (F : Type) where
  T : Mat F
  c : Fin 6 → Fin 6 → F
  b : Vec F

/-- the orientation matrix the route leads to. -/
def baseTransform (a : BaseIn F) : Except String (Mat F) :=
  match routeOf a.ξ a.hkl a.transform a.axes with
  | .error e => .error e
  | .ok (.checked x) => axesCheck a.tolAx a.rtol x a.norms
  | .ok .miller => .ok (findTransform a.m a.n a.nAxis a.ξAxis)
  | .ok .eye => .ok fun i j => kron i j
  | .ok (.raw _) => .error "unreachable"

/-- `VolterraDislocation.solve` in the order of the source: axis checks (`AssertionError`), option handling
    (`AssertionError`), `axes_check` (`ValueError`), Burgers vector to the solver frame with its clean-up, then
    `C.transform` (which runs `axes_check` once more: `ValueError` for a Miller line outside the Miller plane). -/
def baseSolve (a : BaseIn F) : Except String (BaseOut F) :=
  if !(axisOk a.tol a.cart a.mStr a.m) then .error "assert" else
  if !(axisOk a.tol a.cart a.nStr a.n) then .error "assert" else
  if !(decide (-a.tol ≤ dot a.m a.n) && decide (dot a.m a.n ≤ a.tol)) then .error "assert" else
  match baseTransform a with
  | .error e => .error e
  | .ok T =>
    match axesCheck a.tolAx a.rtol T a.norms2 with
    | .error e => .error e
    | .ok T2 => .ok ⟨T, orientC a.tolAx T2 a.c, orientB a.tol T a.vects a.b⟩

end base

/-! ### helpers for the driver -/

def vecOfList [Zero F] (l : List F) : Vec F := fun i => l.getD i.val 0
def matOfList [Zero F] (l : List F) : Mat F := fun i j => l.getD (3 * i.val + j.val) 0
def mat6OfList [Zero F] (l : List F) : Fin 6 → Fin 6 → F := fun i j => l.getD (6 * i.val + j.val) 0
def fin3 : List (Fin 3) := [0, 1, 2]
def fin6 : List (Fin 6) := [0, 1, 2, 3, 4, 5]
def vecToList (v : Vec F) : List F := fin3.map v
def matToList (M : Mat F) : List F := fin3.flatMap fun i => fin3.map fun j => M i j
/-- exact adjugate inverse of a 3x3 matrix (driver stand-in for `np.linalg.inv`; meaningful for `det ≠ 0`). -/
def det3 [Add F] [Sub F] [Mul F] (M : Mat F) : F := dot (M 0) (cross (M 1) (M 2))
def inv3 [Add F] [Sub F] [Mul F] [Div F] (M : Mat F) : Mat F :=
  let d := det3 M
  fun i j => (cross (M (j + 1)) (M (j + 2))) i / d

end Atomman.C12
