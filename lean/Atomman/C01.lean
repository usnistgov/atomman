/-
  C01 — model of `atomman.Box` beyond the shared geometry of `Atomman/Box.lean` (core Lean only).

  Source: atomman/core/Box.py, atomman/region/Plane.py, atomman/region/Shape.py.

  * `cleanVects`   the clean-up of the `vects` setter (`|x| / max|v| <= 1e-9 -> 0`, threshold a parameter)
  * `setVects …`   the five parameter sets, each followed by the setter clean-up (as in the code)
  * `ofAbc?`       the body of `set_abc`; the three cosines and the two square roots are parameters
  * getters in squared / dot-product form, LAMMPS getters guarded by `isLammpsNorm` like the asserts
  * `planes`, `below`, `inside`, `outside`: six half-space tests, each normal divided by a parameter
    `λᵢ` (the `np.linalg.norm` taken by `Plane.normal`)
  * `Box.recip` is recomputed from the current vectors; the object with its reciprocal *cache* is `CBox` below (what the driver runs).
-/
import Atomman.Prelude
import Atomman.Box

namespace Atomman.C01
open Atomman

variable {K : Type}

/-! ### small scalar helpers -/

@[inline] def absK [Zero K] [Neg K] [LT K] [DecidableLT K] (x : K) : K := if x < 0 then -x else x
@[inline] def maxK [LT K] [DecidableLT K] (a b : K) : K := if a < b then b else a
@[inline] def minK [LT K] [DecidableLT K] (a b : K) : K := if b < a then b else a

/-! ### the `vects` setter clean-up -/

/-- `abs(vects).max()`. -/
def maxAbs [Zero K] [Neg K] [LT K] [DecidableLT K] (m : M3 K) : K :=
  maxK (maxK (maxK (absK m.r0.x) (absK m.r0.y)) (absK m.r0.z))
    (maxK (maxK (maxK (absK m.r1.x) (absK m.r1.y)) (absK m.r1.z))
      (maxK (maxK (absK m.r2.x) (absK m.r2.y)) (absK m.r2.z)))

/-- one entry of the clean-up: `np.isclose(x / M, 0, atol=thr)` → `0`; written without the division
    (`|x| ≤ thr * M`; for `M = 0` the code computes `nan` and keeps the entry, which is `0` anyway). -/
@[inline] def cleanEntry [Zero K] [Neg K] [Mul K] [LT K] [LE K] [DecidableLT K] [DecidableLE K]
    (thr M x : K) : K := if absK x ≤ thr * M then 0 else x

def cleanV [Zero K] [Neg K] [Mul K] [LT K] [LE K] [DecidableLT K] [DecidableLE K]
    (thr M : K) (v : V3 K) : V3 K := ⟨cleanEntry thr M v.x, cleanEntry thr M v.y, cleanEntry thr M v.z⟩

/-- `self.__vects[np.isclose(self.__vects/abs(self.__vects).max(), 0.0, atol=1e-9)] = 0.0`. -/
def cleanVects [Zero K] [Neg K] [Mul K] [LT K] [LE K] [DecidableLT K] [DecidableLE K]
    (thr : K) (m : M3 K) : M3 K :=
  let M := maxAbs m
  ⟨cleanV thr M m.r0, cleanV thr M m.r1, cleanV thr M m.r2⟩

/-- a box as the setter leaves it. -/
def IsClean [Zero K] [Neg K] [Mul K] [LT K] [LE K] [DecidableLT K] [DecidableLE K]
    (thr : K) (b : Box K) : Prop := cleanVects thr b.vects = b.vects

/-! ### parameter sets -/

/-- LAMMPS lengths and tilts. -/
structure Lengths (K : Type) where
  lx : K
  ly : K
  lz : K
  xy : K
  xz : K
  yz : K
deriving Repr, BEq, DecidableEq

/-- LAMMPS lo/hi bounds and tilts. -/
structure HiLos (K : Type) where
  xlo : K
  xhi : K
  ylo : K
  yhi : K
  zlo : K
  zhi : K
  xy : K
  xz : K
  yz : K
deriving Repr, BEq, DecidableEq

/-- `Box(vects=…, origin=…)` / `set_vectors` without the clean-up. -/
@[inline] def ofVects (v : M3 K) (o : V3 K) : Box K := ⟨v, o⟩
@[inline] def ofVectors (a b c o : V3 K) : Box K := ⟨⟨a, b, c⟩, o⟩

def ofLengthsP? [Zero K] [LT K] [DecidableLT K] (p : Lengths K) (o : V3 K) : Option (Box K) :=
  Box.ofLengths? p.lx p.ly p.lz p.xy p.xz p.yz o

def ofHiLosP? [Zero K] [Sub K] [LT K] [DecidableLT K] (p : HiLos K) : Option (Box K) :=
  Box.ofHiLos? p.xlo p.xhi p.ylo p.yhi p.zlo p.zhi p.xy p.xz p.yz

/-- the LAMMPS parameters computed by `set_abc` from `a b c`, the cosines `ca cb cg` of
    `alpha beta gamma` and the two square roots `ly = (b²-xy²)^½`, `lz = (c²-xz²-yz²)^½`. -/
def abcLengths [Sub K] [Mul K] [Div K] (a b c ca cb cg ly lz : K) : Lengths K :=
  let xy := b * cg
  let xz := c * cb
  { lx := a, ly := ly, lz := lz, xy := xy, xz := xz, yz := (b * c * ca - xy * xz) / ly }

/-- the value under the second square root of `set_abc` (needs `ly`). -/
def abcLzSq [Sub K] [Mul K] [Div K] (b c ca cb cg ly : K) : K :=
  let xy := b * cg
  let xz := c * cb
  let yz := (b * c * ca - xy * xz) / ly
  c * c - xz * xz - yz * yz

/-- the value under the first square root of `set_abc`. -/
def abcLySq [Sub K] [Mul K] (b cg : K) : K := b * b - (b * cg) * (b * cg)

def ofAbc? [Zero K] [Sub K] [Mul K] [Div K] [LT K] [DecidableLT K]
    (a b c ca cb cg ly lz : K) (o : V3 K) : Option (Box K) :=
  ofLengthsP? (abcLengths a b c ca cb cg ly lz) o

/-- the angle guard of `set_abc` (degrees): `true` = accepted. -/
def anglesOk [Zero K] [OfNat K 180] [LT K] [DecidableLT K] (alpha beta gamma : K) : Bool :=
  decide (0 < alpha) && decide (alpha < 180) && decide (0 < beta) && decide (beta < 180) &&
  decide (0 < gamma) && decide (gamma < 180)

/-! ### what the setters leave behind (parameter set followed by the clean-up) -/

section setters
variable [Zero K] [Neg K] [Sub K] [Mul K] [Div K] [LT K] [LE K] [DecidableLT K] [DecidableLE K]

/-- the `vects` attribute setter: origin untouched. -/
def setVectsAttr (thr : K) (b : Box K) (v : M3 K) : Box K := ⟨cleanVects thr v, b.origin⟩
/-- the `origin` attribute setter. -/
def setOriginAttr (b : Box K) (o : V3 K) : Box K := ⟨b.vects, o⟩
def setVects (thr : K) (v : M3 K) (o : V3 K) : Box K := ⟨cleanVects thr v, o⟩
def setLengths? (thr : K) (p : Lengths K) (o : V3 K) : Option (Box K) :=
  (ofLengthsP? p o).map (fun b => ⟨cleanVects thr b.vects, b.origin⟩)
def setHiLos? (thr : K) (p : HiLos K) : Option (Box K) :=
  (ofHiLosP? p).map (fun b => ⟨cleanVects thr b.vects, b.origin⟩)
def setAbc? (thr : K) (a b c ca cb cg ly lz : K) (o : V3 K) : Option (Box K) :=
  (ofAbc? a b c ca cb cg ly lz o).map (fun b => ⟨cleanVects thr b.vects, b.origin⟩)
end setters

/-! ### getters -/

/-- `a**2`, `b**2`, `c**2`. -/
@[inline] def a2 [Add K] [Mul K] (b : Box K) : K := V3.normSq b.vects.r0
@[inline] def b2 [Add K] [Mul K] (b : Box K) : K := V3.normSq b.vects.r1
@[inline] def c2 [Add K] [Mul K] (b : Box K) : K := V3.normSq b.vects.r2
/-- numerators of the cosines of `alpha` (b,c), `beta` (a,c), `gamma` (a,b). -/
@[inline] def dotBC [Add K] [Mul K] (b : Box K) : K := V3.dot b.vects.r1 b.vects.r2
@[inline] def dotAC [Add K] [Mul K] (b : Box K) : K := V3.dot b.vects.r0 b.vects.r2
@[inline] def dotAB [Add K] [Mul K] (b : Box K) : K := V3.dot b.vects.r0 b.vects.r1

/-- `lx ly lz xy xz yz`, each guarded by `assert self.is_lammps_norm()`. -/
def lengths? [Zero K] [LT K] [DecidableEq K] [DecidableLT K] (b : Box K) : Option (Lengths K) :=
  if b.isLammpsNorm then
    some { lx := b.vects.r0.x, ly := b.vects.r1.y, lz := b.vects.r2.z,
           xy := b.vects.r1.x, xz := b.vects.r2.x, yz := b.vects.r2.y }
  else none

/-- `xlo xhi ylo yhi zlo zhi` (+ tilts), guarded likewise. -/
def hilos? [Zero K] [Add K] [LT K] [DecidableEq K] [DecidableLT K] (b : Box K) : Option (HiLos K) :=
  if b.isLammpsNorm then
    some { xlo := b.origin.x, xhi := b.origin.x + b.vects.r0.x,
           ylo := b.origin.y, yhi := b.origin.y + b.vects.r1.y,
           zlo := b.origin.z, zhi := b.origin.z + b.vects.r2.z,
           xy := b.vects.r1.x, xz := b.vects.r2.x, yz := b.vects.r2.y }
  else none

/-- `volume = |avect · (bvect × cvect)|`. -/
def volume [Zero K] [Add K] [Sub K] [Mul K] [Neg K] [LT K] [DecidableLT K] (b : Box K) : K :=
  absK (V3.dot b.vects.r0 (V3.cross b.vects.r1 b.vects.r2))

/-- Gram matrix `V Vᵀ` (all lengths and angles of the cell). -/
def gram [Add K] [Mul K] (v : M3 K) : M3 K := M3.mul v v.transpose

/-! ### planes, inside, outside -/

/-- `Plane(normal, point)` before normalisation. -/
structure RawPlane (K : Type) where
  normal : V3 K
  point : V3 K
deriving Repr, BEq, DecidableEq

/-- `Box.planes`, in the order of the source. -/
def planes [Add K] [Sub K] [Mul K] (b : Box K) : List (RawPlane K) :=
  let a := b.vects.r0; let bv := b.vects.r1; let c := b.vects.r2; let o := b.origin
  [⟨V3.cross c bv, o⟩, ⟨V3.cross a c, o⟩, ⟨V3.cross bv a, o⟩,
   ⟨V3.cross bv c, o + a⟩, ⟨V3.cross c a, o + bv⟩, ⟨V3.cross a bv, o + c⟩]

@[inline] def vdiv [Div K] (v : V3 K) (l : K) : V3 K := ⟨v.x / l, v.y / l, v.z / l⟩

/-- `Plane.below`: the stored normal is `normal / λ` with `λ = np.linalg.norm(normal)`. -/
def below [Add K] [Mul K] [Div K] [LT K] [LE K] [DecidableLT K] [DecidableLE K]
    (pl : RawPlane K) (lam : K) (p : V3 K) (inclusive : Bool) : Bool :=
  let u := vdiv pl.normal lam
  let normpoint := V3.dot u pl.point
  let normpos := V3.dot u p
  if inclusive then decide (normpos ≤ normpoint) else decide (normpos < normpoint)

/-- the six norms. -/
structure Lams (K : Type) where
  l0 : K
  l1 : K
  l2 : K
  l3 : K
  l4 : K
  l5 : K

def Lams.ones [One K] : Lams K := ⟨1, 1, 1, 1, 1, 1⟩
def Lams.toList (l : Lams K) : List K := [l.l0, l.l1, l.l2, l.l3, l.l4, l.l5]

/-- `Box.inside`. -/
def inside [Add K] [Sub K] [Mul K] [Div K] [LT K] [LE K] [DecidableLT K] [DecidableLE K]
    (b : Box K) (lam : Lams K) (p : V3 K) (inclusive : Bool) : Bool :=
  let a := b.vects.r0; let bv := b.vects.r1; let c := b.vects.r2; let o := b.origin
  below ⟨V3.cross c bv, o⟩ lam.l0 p inclusive &&
  below ⟨V3.cross a c, o⟩ lam.l1 p inclusive &&
  below ⟨V3.cross bv a, o⟩ lam.l2 p inclusive &&
  below ⟨V3.cross bv c, o + a⟩ lam.l3 p inclusive &&
  below ⟨V3.cross c a, o + bv⟩ lam.l4 p inclusive &&
  below ⟨V3.cross a bv, o + c⟩ lam.l5 p inclusive

/-- `Shape.outside`: `~self.inside(pos, inclusive=not inclusive)`. -/
def outside [Add K] [Sub K] [Mul K] [Div K] [LT K] [LE K] [DecidableLT K] [DecidableLE K]
    (b : Box K) (lam : Lams K) (p : V3 K) (inclusive : Bool) : Bool :=
  !(inside b lam p (!inclusive))

/-- relative coordinates in `[0,1]` (closed) resp. `(0,1)` (open). -/
def RelIn [Zero K] [One K] [LE K] (s : V3 K) : Prop :=
  0 ≤ s.x ∧ s.x ≤ 1 ∧ 0 ≤ s.y ∧ s.y ≤ 1 ∧ 0 ≤ s.z ∧ s.z ≤ 1
def RelInStrict [Zero K] [One K] [LT K] (s : V3 K) : Prop :=
  0 < s.x ∧ s.x < 1 ∧ 0 < s.y ∧ s.y < 1 ∧ 0 < s.z ∧ s.z < 1

/-- distance (in relative coordinates) of `s` to the nearest face: the model's margin for the
    "closer than the bound to a face" exemption. -/
def faceMargin [Zero K] [One K] [Sub K] [Neg K] [LT K] [DecidableLT K] (s : V3 K) : K :=
  minK (minK (minK (absK s.x) (absK (1 - s.x))) (minK (absK s.y) (absK (1 - s.y))))
    (minK (absK s.z) (absK (1 - s.z)))

/-- `tools.vect_angle` for one pair of vectors: the cosine handed to `np.arccos` — each vector divided by (what
    `np.linalg.norm` returns for) its length `n1`, `n2`, then the inner product. -/
def angleCos [Add K] [Mul K] [Div K] (u v : V3 K) (n1 n2 : K) : K := V3.dot (vdiv u n1) (vdiv v n2)

/-! ### the same cell in another unit of length (every vector and the origin times `s`) -/

section units
variable [Mul K]
def scaleV (s : K) (v : V3 K) : V3 K := ⟨s * v.x, s * v.y, s * v.z⟩
def scaleM (s : K) (m : M3 K) : M3 K := ⟨scaleV s m.r0, scaleV s m.r1, scaleV s m.r2⟩
def scaleBox (s : K) (b : Box K) : Box K := ⟨scaleM s b.vects, scaleV s b.origin⟩
/-- the cell with Cartesian axes reversed (`sx sy sz = ±1`): columns of `vects` times the signs. -/
def flipAxes (sx sy sz : K) (b : Box K) : Box K :=
  ⟨⟨⟨sx * b.vects.r0.x, sy * b.vects.r0.y, sz * b.vects.r0.z⟩, ⟨sx * b.vects.r1.x, sy * b.vects.r1.y, sz * b.vects.r1.z⟩,
    ⟨sx * b.vects.r2.x, sy * b.vects.r2.y, sz * b.vects.r2.z⟩⟩, ⟨sx * b.origin.x, sy * b.origin.y, sz * b.origin.z⟩⟩
end units

/-! ### the Box *object*: current cell + lazily computed reciprocal vectors

`atomman.Box` keeps `__reciprocal_vects` (`None` until `reciprocal_vects` is first read; filled with
`inv(vects).T`; set back to `None` by the `vects` setter, through which every cell-defining setter
goes).  `CBox` is that object, `SetOp`/`ReadOp` the calls of the public interface that C01 talks
about, `CBox.set`/`CBox.read` what they do to the object *with* the cache, `SetOp.apply?`/`ReadOp.eval`
what they mean for the bare cell.  `Proofs/C01_Object.lean` shows the two agree for every call sequence
(`obj_run_refines`).  The driver runs `CBox`. -/

structure CBox (K : Type) where
  box : Box K
  cache : Option (M3 K)
deriving Repr, BEq, DecidableEq

/-- a new `Box()` (before any keyword is applied): unit cell, nothing cached. -/
def CBox.fresh [Zero K] [One K] : CBox K := ⟨⟨M3.one, ⟨0, 0, 0⟩⟩, none⟩

/-- the cell-changing calls. -/
inductive SetOp (K : Type) where
  /-- `set()` without arguments -/
  | reset
  /-- `Box(vects=v, origin=o)`, `set(vects=…)`, `set_vectors(…)` -/
  | vects (v : M3 K) (o : V3 K)
  /-- `box.vects = v` -/
  | attrVects (v : M3 K)
  /-- `box.origin = o`, `set(origin=o)` -/
  | attrOrigin (o : V3 K)
  /-- `set_lengths` -/
  | lengths (p : Lengths K) (o : V3 K)
  /-- `set_hi_los` -/
  | hilos (p : HiLos K)
  /-- `set_abc`: angles in degrees (for the guard), then `a b c`, the three cosines, the two roots -/
  | abc (alpha beta gamma a b c ca cb cg ly lz : K) (o : V3 K)

/-- the reads that involve the vectors' inverse or the faces. -/
inductive ReadOp (K : Type) where
  | recip
  | c2r (p : V3 K)
  | r2c (s : V3 K)
  | inside (lam : Lams K) (p : V3 K) (inclusive : Bool)
  | outside (lam : Lams K) (p : V3 K) (inclusive : Bool)

/-- what a call reports. -/
inductive Obs (K : Type) where
  | ok
  | rejected
  | mat (m : M3 K)
  | vec (v : V3 K)
  | flag (b : Bool)
deriving Repr, BEq, DecidableEq

section object
variable [Zero K] [One K] [OfNat K 180] [Neg K] [Add K] [Sub K] [Mul K] [Div K] [LT K] [LE K]
  [DecidableLT K] [DecidableLE K] [DecidableEq K]

/-- the cell a setter leaves behind; `none` = refused before anything is written (assert / ValueError). -/
def SetOp.apply? (thr : K) (b : Box K) : SetOp K → Option (Box K)
  | .reset => some (setVects thr M3.one ⟨0, 0, 0⟩)
  | .vects v o => some (setVects thr v o)
  | .attrVects v => some (setVectsAttr thr b v)
  | .attrOrigin o => some (setOriginAttr b o)
  | .lengths p o => setLengths? thr p o
  | .hilos p => setHiLos? thr p
  | .abc al be ga a b' c ca cb cg ly lz o =>
    if anglesOk al be ga then setAbc? thr a b' c ca cb cg ly lz o else none

/-- does the call assign to `vects` (whose setter drops the cached reciprocal vectors)?
    Only the `origin` setter does not. -/
def SetOp.writesVects : SetOp K → Bool
  | .attrOrigin _ => false
  | _ => true

/-- meaning of a read for the bare cell (`np.linalg.inv` raises for a singular matrix). -/
def ReadOp.eval (b : Box K) : ReadOp K → Obs K
  | .recip => if b.vects.det = 0 then .rejected else .mat b.recip
  | .c2r p => if b.vects.det = 0 then .rejected else .vec (b.cartToRel p)
  | .r2c s => .vec (b.relToCart s)
  | .inside lam p incl => .flag (C01.inside b lam p incl)
  | .outside lam p incl => .flag (C01.outside b lam p incl)

/-- the `reciprocal_vects` property: the cached matrix if there is one, else computed and cached. -/
def CBox.recip? (c : CBox K) : Option (M3 K × CBox K) :=
  match c.cache with
  | some r => some (r, c)
  | none => if c.box.vects.det = 0 then none else some (c.box.recip, ⟨c.box, some c.box.recip⟩)

/-- a setter call on the object. -/
def CBox.set (thr : K) (c : CBox K) (s : SetOp K) : CBox K × Obs K :=
  match s.apply? thr c.box with
  | none => (c, .rejected)
  | some b' => (⟨b', if s.writesVects then none else c.cache⟩, .ok)

/-- a read call on the object (`position_cartesian_to_relative` is
    `np.inner(pos - origin, self.reciprocal_vects)`). -/
def CBox.read (c : CBox K) : ReadOp K → CBox K × Obs K
  | .recip =>
    match c.recip? with
    | some (r, c') => (c', .mat r)
    | none => (c, .rejected)
  | .c2r p =>
    match c.recip? with
    | some (r, c') => (c', .vec (M3.mulVec r (p - c.box.origin)))
    | none => (c, .rejected)
  | .r2c s => (c, .vec (c.box.relToCart s))
  | .inside lam p incl => (c, .flag (C01.inside c.box lam p incl))
  | .outside lam p incl => (c, .flag (C01.outside c.box lam p incl))

/-- any call. -/
inductive Op (K : Type) where
  | set (s : SetOp K)
  | read (r : ReadOp K)

def CBox.step (thr : K) (c : CBox K) : Op K → CBox K × Obs K
  | .set s => c.set thr s
  | .read r => c.read r

/-- the same call on the bare cell. -/
def stepPlain (thr : K) (b : Box K) : Op K → Box K × Obs K
  | .set s =>
    match s.apply? thr b with
    | none => (b, .rejected)
    | some b' => (b', .ok)
  | .read r => (b, r.eval b)

/-- observations of a call sequence on the object / on the bare cell. -/
def CBox.run (thr : K) : CBox K → List (Op K) → List (Obs K)
  | _, [] => []
  | c, op :: ops => (c.step thr op).2 :: CBox.run thr (c.step thr op).1 ops

def runPlain (thr : K) : Box K → List (Op K) → List (Obs K)
  | _, [] => []
  | b, op :: ops => (stepPlain thr b op).2 :: runPlain thr (stepPlain thr b op).1 ops

/-- the state after a call sequence. -/
def CBox.after (thr : K) : CBox K → List (Op K) → CBox K
  | c, [] => c
  | c, op :: ops => CBox.after thr (c.step thr op).1 ops

/-- what is cached is the inverse-transpose of the *current* vectors (and those are invertible). -/
def CBox.Coherent (c : CBox K) : Prop :=
  ∀ r, c.cache = some r → c.box.vects.det ≠ 0 ∧ r = c.box.recip

end object

/-! ### keyword dispatch of `Box.set(**kwargs)` / `Box(**kwargs)` and the signatures of the `set_*` methods

`Box.set` picks the parameter set by the first keyword of an `if / elif` chain that is present and hands
*all* keywords to that branch: `vects` and `origin` handle theirs inline and `assert` that nothing is left,
the others call `self.set_…(**kwargs)`, where Python itself raises `TypeError` for a keyword that is not a
parameter or a missing parameter without default.  `setOutcome` is that decision for a set of keyword
names; the signatures (parameter order = what a positional call means) are tied to the source by the
translator (`src_set_dispatch`). -/

/-- parameters of a method after `self`: (name, has a default?) in signature order. -/
abbrev Sig := List (String × Bool)

def sigVectors : Sig := [("avect", false), ("bvect", false), ("cvect", false), ("origin", true)]
def sigAbc : Sig :=
  [("a", false), ("b", false), ("c", false), ("alpha", true), ("beta", true), ("gamma", true), ("origin", true)]
def sigLengths : Sig :=
  [("lx", false), ("ly", false), ("lz", false), ("xy", true), ("xz", true), ("yz", true), ("origin", true)]
def sigHiLos : Sig :=
  [("xlo", false), ("xhi", false), ("ylo", false), ("yhi", false), ("zlo", false), ("zhi", false),
   ("xy", true), ("xz", true), ("yz", true)]

/-- the parameter sets of `Box.set`. -/
inductive SetFamily where
  | unit | vects | vectors | lengths | hilos | abc | origin
deriving Repr, BEq, DecidableEq

/-- what `Box.set(**kwargs)` does with a set of keyword names. -/
inductive SetOutcome where
  | ok (f : SetFamily)
  | errAssert
  | errType
deriving Repr, BEq, DecidableEq

/-- the signature a family's keywords are checked against (`vects` / `origin` are handled inline). -/
def SetFamily.sig : SetFamily → Sig
  | .unit => []
  | .vects => [("vects", false), ("origin", true)]
  | .vectors => sigVectors
  | .lengths => sigLengths
  | .hilos => sigHiLos
  | .abc => sigAbc
  | .origin => [("origin", false)]

def Sig.names (s : Sig) : List String := s.map (·.1)
def Sig.required (s : Sig) : List String := (s.filter (fun p => !p.2)).map (·.1)

/-- a Python call `f(**kws)`: every keyword is a parameter, every parameter without default is given. -/
def sigAccepts (sig : Sig) (kws : List String) : Bool :=
  kws.all (fun k => sig.names.contains k) && sig.required.all (fun r => kws.contains r)

/-- the `if / elif` chain of `Box.set` after the "no keywords" case: (keyword tested, parameter set). -/
def setChain : List (String × SetFamily) :=
  [("vects", .vects), ("avect", .vectors), ("lx", .lengths), ("xlo", .hilos), ("a", .abc), ("origin", .origin)]

/-- `Box.set(**kwargs)` for keyword names `kws` (a dict: no duplicates). -/
def setOutcome (kws : List String) : SetOutcome :=
  if kws.isEmpty then .ok .unit else
  match setChain.find? (fun p => kws.contains p.1) with
  | none => .errType
  | some (_, f) =>
    if sigAccepts f.sig kws then .ok f
    else match f with
      | .vects => .errAssert      -- `assert len(kwargs) == 0, 'Invalid arguments'`
      | .origin => .errAssert
      | _ => .errType             -- raised by Python when `self.set_…(**kwargs)` is called

/-- what a positional call `set_…(x₀, x₁, …)` with `n` arguments binds: the first `n` parameter names. -/
def Sig.positional (s : Sig) (n : Nat) : List String := (s.take n).map (·.1)

/-! ### fourth extension round: the degree-level API (float library routines as a parameter record), the four
parameter sets as one type, arrays of points and their shapes, the tolerance literal of the setter clean-up -/

/-- the float library routines the class calls: `(x)**0.5` / `np.linalg.norm`, `np.cos`, `np.arccos`, `np.pi`. -/
structure Trig (K : Type) where
  sqrt : K → K
  cos : K → K
  acos : K → K
  pi : K

/-- the clamp of `tools.vect_angle` before `np.arccos` (`if cosine < -1: cosine = -1 elif cosine > 1: cosine = 1`). -/
def clampCos [One K] [Neg K] [LT K] [DecidableLT K] (c : K) : K :=
  if c < -1 then -1 else if 1 < c then 1 else c

/-- the double nearest to the literal `atol=1e-9` of the setter clean-up, exactly (numerator, denominator). -/
def atolNum : Nat := 4835703278458517
def atolDen : Nat := 4835703278458516698824704

/-- the cell a cell-defining setter stores: the clean-up of the `vects` setter applied. -/
def cleanBox [Zero K] [Neg K] [Mul K] [LT K] [LE K] [DecidableLT K] [DecidableLE K] (thr : K) (b : Box K) : Box K :=
  ⟨cleanVects thr b.vects, b.origin⟩

section degrees
variable [Zero K] [One K] [OfNat K 180] [Neg K] [Add K] [Sub K] [Mul K] [Div K] [LT K] [LE K]
  [DecidableLT K] [DecidableLE K] [DecidableEq K]

/-- the getters `a`, `b`, `c`: `(x² + y² + z²)**0.5`. -/
def lenOf (T : Trig K) (v : V3 K) : K := T.sqrt (V3.normSq v)

/-- the getters `alpha`, `beta`, `gamma` = `vect_angle(u, v)`: unit vectors by their own norm, inner product, clamp,
    `180 * arccos / pi`. -/
def angleDeg (T : Trig K) (u v : V3 K) : K :=
  180 * T.acos (clampCos (angleCos u v (lenOf T u) (lenOf T v))) / T.pi

/-- `np.cos(angle * np.pi / 180)` of `set_abc`. -/
def cosDeg (T : Trig K) (ang : K) : K := T.cos (ang * T.pi / 180)

/-- the whole straight-line part of `set_abc` (angles in degrees): what goes to `set_lengths`. -/
def abcOfDeg (T : Trig K) (a b c alpha beta gamma : K) : Lengths K :=
  let ca := cosDeg T alpha
  let cb := cosDeg T beta
  let cg := cosDeg T gamma
  let ly := T.sqrt (abcLySq b cg)
  let lz := T.sqrt (abcLzSq b c ca cb cg ly)
  abcLengths a b c ca cb cg ly lz

/-- `set_abc(a, b, c, alpha, beta, gamma, origin)`: angle guard (ValueError), arithmetic, `set_lengths` (assert), clean-up. -/
def setAbcDeg? (T : Trig K) (thr : K) (a b c alpha beta gamma : K) (o : V3 K) : Option (Box K) :=
  if anglesOk alpha beta gamma then (ofLengthsP? (abcOfDeg T a b c alpha beta gamma) o).map (cleanBox thr) else none

/-- the four parameter sets of the property text. -/
inductive Family where
  | vectors | abc | lengths | hilos
deriving Repr, BEq, DecidableEq

/-- a cell definition through one of them (angles in degrees, as the API takes them). -/
inductive Params (K : Type) where
  | vectors (a b c o : V3 K)
  | abc (a b c alpha beta gamma : K) (o : V3 K)
  | lengths (p : Lengths K) (o : V3 K)
  | hilos (p : HiLos K)

def Params.family : Params K → Family
  | .vectors .. => .vectors
  | .abc .. => .abc
  | .lengths .. => .lengths
  | .hilos .. => .hilos

/-- `Box(**definition)` / `set_*(…)`: the cell stored, `none` = refused (AssertionError / ValueError). -/
def define? (T : Trig K) (thr : K) : Params K → Option (Box K)
  | .vectors a b c o => some (setVects thr ⟨a, b, c⟩ o)
  | .abc a b c al be ga o => setAbcDeg? T thr a b c al be ga o
  | .lengths p o => setLengths? thr p o
  | .hilos p => setHiLos? thr p

/-- the cell before the clean-up of the `vects` setter. -/
def defineRaw? (T : Trig K) : Params K → Option (Box K)
  | .vectors a b c o => some ⟨⟨a, b, c⟩, o⟩
  | .abc a b c al be ga o => if anglesOk al be ga then ofLengthsP? (abcOfDeg T a b c al be ga) o else none
  | .lengths p o => ofLengthsP? p o
  | .hilos p => ofHiLosP? p

/-- reading an existing cell back through a parameter set: the getters of that set (+ `origin` where the set has one);
    `none` = the LAMMPS getters refuse (AssertionError). -/
def readAs? (T : Trig K) : Family → Box K → Option (Params K)
  | .vectors, b => some (.vectors b.vects.r0 b.vects.r1 b.vects.r2 b.origin)
  | .abc, b => some (.abc (lenOf T b.vects.r0) (lenOf T b.vects.r1) (lenOf T b.vects.r2)
      (angleDeg T b.vects.r1 b.vects.r2) (angleDeg T b.vects.r0 b.vects.r2) (angleDeg T b.vects.r0 b.vects.r1) b.origin)
  | .lengths, b => (lengths? b).map (fun p => .lengths p b.origin)
  | .hilos, b => (hilos? b).map .hilos

end degrees

/-! #### arrays of points: shapes and row-wise evaluation -/

/-- what a call does with an array of the given (full numpy) shape. -/
inductive ShapeOutcome where
  | ok (shape : List Nat)
  | errValue
  | errIndex
deriving Repr, BEq, DecidableEq

/-- both conversions: `x = np.asarray(x, dtype=float); if x.shape[-1] != 3: raise ValueError`; the result has the shape of the
    input (`shape[-1]` of a 0-d array is an IndexError). -/
def convShape (sh : List Nat) : ShapeOutcome :=
  match sh.getLast? with
  | none => .errIndex
  | some d => if d = 3 then .ok sh else .errValue

/-- `inside` / `outside`: no check of their own; `np.inner(pos, normal)` of `Plane.below` needs a trailing dimension 3 (ValueError
    otherwise) and gives the leading shape; a 0-d `pos` is multiplied into the normal (shape `(3,)`). -/
def insideShape (sh : List Nat) : ShapeOutcome :=
  match sh.getLast? with
  | none => .ok [3]
  | some d => if d = 3 then .ok sh.dropLast else .errValue

/-- number of points in an array of that shape. -/
def rowsOf (sh : List Nat) : Nat := sh.dropLast.foldl (· * ·) 1

section arrays
variable [Add K] [Sub K] [Mul K] [Div K] [Neg K] [LT K] [LE K] [DecidableLT K] [DecidableLE K]
def r2cAll (b : Box K) (pts : List (V3 K)) : List (V3 K) := pts.map b.relToCart
def c2rAll (b : Box K) (pts : List (V3 K)) : List (V3 K) := pts.map b.cartToRel
def insideAll (b : Box K) (lam : Lams K) (pts : List (V3 K)) (incl : Bool) : List Bool :=
  pts.map (fun p => inside b lam p incl)
def outsideAll (b : Box K) (lam : Lams K) (pts : List (V3 K)) (incl : Bool) : List Bool :=
  pts.map (fun p => outside b lam p incl)
end arrays

/-! #### the crystal-family constructors (`Box.cubic` … `Box.triclinic`): their own refusals, then `cls(a=…, …, gamma=…)` -/

/-- a call of one of the seven classmethods. -/
inductive Ctor (K : Type) where
  | cubic (a : K)
  | hexagonal (a c : K)
  | tetragonal (a c : K)
  | trigonal (a alpha : K)
  | orthorhombic (a b c : K)
  | monoclinic (a b c beta : K)
  | triclinic (a b c alpha beta gamma : K)

/-- the definition a constructor hands to `Box(**kwargs)` (origin left to the default `(0,0,0)`); `none` = its own `ValueError`. -/
def Ctor.params? [Zero K] [OfNat K 90] [OfNat K 120] [LT K] [LE K] [DecidableEq K] [DecidableLE K] :
    Ctor K → Option (Params K)
  | .cubic a => some (.abc a a a 90 90 90 ⟨0, 0, 0⟩)
  | .hexagonal a c => if a = c then none else some (.abc a a c 90 90 120 ⟨0, 0, 0⟩)
  | .tetragonal a c => if a = c then none else some (.abc a a c 90 90 90 ⟨0, 0, 0⟩)
  | .trigonal a al => if 120 ≤ al then none else some (.abc a a a al al al ⟨0, 0, 0⟩)
  | .orthorhombic a b c => if a = b ∨ a = c then none else some (.abc a b c 90 90 90 ⟨0, 0, 0⟩)
  | .monoclinic a b c be =>
    if a = b ∨ a = c then none else if be ≤ 90 then none else some (.abc a b c 90 be 90 ⟨0, 0, 0⟩)
  | .triclinic a b c al be ga =>
    if a = b ∨ a = c then none else if al = be ∨ al = ga then none else some (.abc a b c al be ga ⟨0, 0, 0⟩)

end Atomman.C01
