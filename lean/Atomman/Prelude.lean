/-
  Atomman.Prelude — shared definitions of the model (core Lean only, no Mathlib).

  Numerical definitions are polymorphic over a scalar type `K` and use only core
  arithmetic classes, so that the same definition is
    * executed at `K := Rat` by the drivers (`Drivers/Cxx.lean`), and
    * reasoned about for every (linearly ordered) field in `Proofs/*.lean`.
-/
namespace Atomman

/-! ### wire format -/

/-- parse `p/q` or `p` (decimal integers, `p` possibly negative). -/
def parseRat? (s : String) : Option Rat :=
  match s.splitOn "/" with
  | [p] => p.toInt?.map (fun i => (i : Rat))
  | [p, q] =>
    match p.toInt?, q.toNat? with
    | some p, some q => if q = 0 then none else some (mkRat p q)
    | _, _ => none
  | _ => none

def showRat (r : Rat) : String :=
  if r.den = 1 then toString r.num else toString r.num ++ "/" ++ toString r.den

def showRats (l : List Rat) : String := " ".intercalate (l.map showRat)
def showInts (l : List Int) : String := " ".intercalate (l.map toString)

def parseRats? (l : List String) : Option (List Rat) := l.mapM parseRat?
def parseInts? (l : List String) : Option (List Int) := l.mapM String.toInt?
def parseNats? (l : List String) : Option (List Nat) := l.mapM String.toNat?

def tokens (line : String) : List String :=
  (line.trimAscii.toString.splitOn " ").filter (· ≠ "")

def showBool (b : Bool) : String := if b then "1" else "0"
def parseBool? (s : String) : Option Bool :=
  if s = "1" then some true else if s = "0" then some false else none

/-! ### 3-vectors and 3x3 matrices (rows) over any scalar type -/

@[ext] structure V3 (K : Type) where
  x : K
  y : K
  z : K
deriving Repr, BEq, DecidableEq

namespace V3
variable {K : Type}

@[inline] def add [Add K] (a b : V3 K) : V3 K := ⟨a.x + b.x, a.y + b.y, a.z + b.z⟩
@[inline] def sub [Sub K] (a b : V3 K) : V3 K := ⟨a.x - b.x, a.y - b.y, a.z - b.z⟩
@[inline] def neg [Neg K] (a : V3 K) : V3 K := ⟨-a.x, -a.y, -a.z⟩
@[inline] def smul [Mul K] (c : K) (a : V3 K) : V3 K := ⟨c * a.x, c * a.y, c * a.z⟩
@[inline] def dot [Add K] [Mul K] (a b : V3 K) : K := a.x * b.x + a.y * b.y + a.z * b.z
@[inline] def cross [Sub K] [Mul K] (a b : V3 K) : V3 K :=
  ⟨a.y * b.z - a.z * b.y, a.z * b.x - a.x * b.z, a.x * b.y - a.y * b.x⟩
@[inline] def normSq [Add K] [Mul K] (a : V3 K) : K := dot a a
@[inline] def get (a : V3 K) (i : Nat) : K := if i = 0 then a.x else if i = 1 then a.y else a.z
@[inline] def map {L : Type} (f : K → L) (a : V3 K) : V3 L := ⟨f a.x, f a.y, f a.z⟩
def toList (a : V3 K) : List K := [a.x, a.y, a.z]
def ofList? : List K → Option (V3 K)
  | [a, b, c] => some ⟨a, b, c⟩
  | _ => none

instance [Add K] : Add (V3 K) := ⟨add⟩
instance [Sub K] : Sub (V3 K) := ⟨sub⟩
instance [Neg K] : Neg (V3 K) := ⟨neg⟩
end V3

/-- 3x3 matrix stored as three **rows** (atomman: `vects[i]` is cell vector `i`). -/
@[ext] structure M3 (K : Type) where
  r0 : V3 K
  r1 : V3 K
  r2 : V3 K
deriving Repr, BEq, DecidableEq

namespace M3
variable {K : Type}

@[inline] def row (m : M3 K) (i : Nat) : V3 K := if i = 0 then m.r0 else if i = 1 then m.r1 else m.r2
@[inline] def col (m : M3 K) (j : Nat) : V3 K := ⟨m.r0.get j, m.r1.get j, m.r2.get j⟩
@[inline] def transpose (m : M3 K) : M3 K :=
  ⟨⟨m.r0.x, m.r1.x, m.r2.x⟩, ⟨m.r0.y, m.r1.y, m.r2.y⟩, ⟨m.r0.z, m.r1.z, m.r2.z⟩⟩
/-- row vector times matrix: `s.x * r0 + s.y * r1 + s.z * r2` (numpy `s.dot(vects)`). -/
@[inline] def vecMul [Add K] [Mul K] (s : V3 K) (m : M3 K) : V3 K :=
  ⟨s.x * m.r0.x + s.y * m.r1.x + s.z * m.r2.x,
   s.x * m.r0.y + s.y * m.r1.y + s.z * m.r2.y,
   s.x * m.r0.z + s.y * m.r1.z + s.z * m.r2.z⟩
/-- matrix times column vector (numpy `m.dot(v)`). -/
@[inline] def mulVec [Add K] [Mul K] (m : M3 K) (v : V3 K) : V3 K :=
  ⟨V3.dot m.r0 v, V3.dot m.r1 v, V3.dot m.r2 v⟩
@[inline] def mul [Add K] [Mul K] (a b : M3 K) : M3 K :=
  ⟨vecMul a.r0 b, vecMul a.r1 b, vecMul a.r2 b⟩
@[inline] def det [Add K] [Sub K] [Mul K] (m : M3 K) : K := V3.dot m.r0 (V3.cross m.r1 m.r2)
/-- adjugate-over-determinant inverse; the result is meaningful only for `det ≠ 0`. -/
@[inline] def inv [Add K] [Sub K] [Mul K] [Div K] (m : M3 K) : M3 K :=
  let d := det m
  let c0 := V3.cross m.r1 m.r2
  let c1 := V3.cross m.r2 m.r0
  let c2 := V3.cross m.r0 m.r1
  ⟨⟨c0.x / d, c1.x / d, c2.x / d⟩, ⟨c0.y / d, c1.y / d, c2.y / d⟩, ⟨c0.z / d, c1.z / d, c2.z / d⟩⟩
def one [Zero K] [One K] : M3 K := ⟨⟨1, 0, 0⟩, ⟨0, 1, 0⟩, ⟨0, 0, 1⟩⟩
def toList (m : M3 K) : List K := m.r0.toList ++ m.r1.toList ++ m.r2.toList
def ofList? : List K → Option (M3 K)
  | [a, b, c, d, e, f, g, h, i] => some ⟨⟨a, b, c⟩, ⟨d, e, f⟩, ⟨g, h, i⟩⟩
  | _ => none
end M3

/-! ### small helpers used by several models -/

def ratAbs (r : Rat) : Rat := if r < 0 then -r else r

def sumList {K : Type} [Add K] [Zero K] (l : List K) : K := l.foldl (· + ·) 0

/-- all integers `lo, lo+1, …, hi-1`. -/
def intRange (lo hi : Int) : List Int :=
  (List.range (hi - lo).toNat).map (fun (k : Nat) => lo + Int.ofNat k)

def err (kind : String) : String := "err:" ++ kind

/-! ### line-protocol driver loop (one reply line per request line) -/

partial def driverLoopS {σ : Type} (h : IO.FS.Stream) (out : IO.FS.Stream)
    (step : σ → List String → σ × String) (s : σ) : IO Unit := do
  let line ← h.getLine
  if line.isEmpty then return ()
  let (s', r) := step s (tokens line)
  out.putStrLn r
  out.flush
  driverLoopS h out step s'

def runDriverS {σ : Type} (step : σ → List String → σ × String) (init : σ) : IO Unit := do
  driverLoopS (← IO.getStdin) (← IO.getStdout) step init

def runDriver (handle : List String → String) : IO Unit :=
  runDriverS (fun (_ : Unit) toks => ((), handle toks)) ()

end Atomman
