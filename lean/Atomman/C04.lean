/-
  C04 — supercells and re-oriented cells (core Lean only).
  Source: atomman/core/System.py `supersize` (lines ~892-1026) and `rotate` (~1028-1151).

  * `supersize`: replica-major ordering exactly as the numpy broadcasting code produces it:
    new index `k = (((r2*m1 + r1)*m0 + r0) * natoms + i`, relative position
    `s/m + r/m` in the box `origin + lo·vects`, `vects[i]*m[i]`; every other per-atom value copied.
  * `rotate` (before `normalize`, which is C05): integer `U`, new vectors `U·vects` at the *same
    origin*, bounding supercell from the 8 corners ∓1, keep atoms with `0 ≤ s < 1`.
    The float tolerance ladder (`isclose(s,0)`, `isclose(s,1)`) is modelled below (`roundFaces`, `ladderKeep`, `ladderLoop`,
    `rotateLadder`): a rung at tolerance `atol` decides `s` as the exact test decides `s + atol`; at tolerance 0 it is the exact test.
-/
import Atomman.Prelude
import Atomman.Box

namespace Atomman.C04
open Atomman

/-- one atom: type, Cartesian position, any further per-atom values (opaque payload). -/
structure Atom (K : Type) where
  atype : Int
  pos : V3 K
  extra : List K
deriving Repr, BEq, DecidableEq

/-- multiplier tuple `(lo, hi)` with `lo ≤ 0 ≤ hi`; `m = hi - lo`. -/
structure Size where
  lo : Int
  hi : Int
deriving Repr, BEq, DecidableEq

def Size.mult (s : Size) : Int := s.hi - s.lo

/-- the int / tuple rules of `supersize` (an int `n>0` is `(0,n)`, `n<0` is `(n,0)`; `0` is refused;
    a tuple must satisfy `lo ≤ 0 ≤ hi` and `hi - lo ≠ 0`). -/
def Size.ofInt? (n : Int) : Option Size :=
  if 0 < n then some ⟨0, n⟩ else if n < 0 then some ⟨n, 0⟩ else none

def Size.ofPair? (lo hi : Int) : Option Size :=
  if lo ≤ 0 ∧ 0 ≤ hi ∧ hi - lo ≠ 0 then some ⟨lo, hi⟩ else none

section
variable {K : Type} [Add K] [Sub K] [Mul K] [Div K] [IntCast K]

/-- new box of `supersize`. -/
def superBox (b : Box K) (sa sb sc : Size) : Box K :=
  { origin := b.origin + (V3.smul (sa.lo : K) b.vects.r0 + V3.smul (sb.lo : K) b.vects.r1
                + V3.smul (sc.lo : K) b.vects.r2),
    vects := ⟨V3.smul (sa.mult : K) b.vects.r0, V3.smul (sb.mult : K) b.vects.r1,
              V3.smul (sc.mult : K) b.vects.r2⟩ }

/-- position of replica `(r0,r1,r2)` of an atom as the code computes it: scaled position divided
    by the multipliers plus `r/m`, turned Cartesian in the new box. -/
def replicaPos (b : Box K) (sa sb sc : Size) (p : V3 K) (r0 r1 r2 : Nat) : V3 K :=
  let s := b.cartToRel p
  let s' : V3 K := ⟨s.x / (sa.mult : K) + ((r0 : Int) : K) * (((1 : Int) : K) / (sa.mult : K)),
                    s.y / (sb.mult : K) + ((r1 : Int) : K) * (((1 : Int) : K) / (sb.mult : K)),
                    s.z / (sc.mult : K) + ((r2 : Int) : K) * (((1 : Int) : K) / (sc.mult : K))⟩
  (superBox b sa sb sc).relToCart s'

/-- all replicas in the order of the implementation (replica-major, `r0` fastest). -/
def supersizeAtoms (b : Box K) (sa sb sc : Size) (atoms : List (Atom K)) : List (Atom K) :=
  (List.range sc.mult.toNat).flatMap fun r2 =>
  (List.range sb.mult.toNat).flatMap fun r1 =>
  (List.range sa.mult.toNat).flatMap fun r0 =>
    atoms.map fun a => { a with pos := replicaPos b sa sb sc a.pos r0 r1 r2 }

def supersize (b : Box K) (sa sb sc : Size) (atoms : List (Atom K)) : Box K × List (Atom K) :=
  (superBox b sa sb sc, supersizeAtoms b sa sb sc atoms)

end

/-! ### rotate -/

/-- integer 3x3 times cell: `miller.vector_crystal_to_cartesian(uvws, box)`. -/
def newVects {K : Type} [Add K] [Mul K] [IntCast K] (U : M3 Int) (vects : M3 K) : M3 K :=
  let c : Int → K := fun i => (i : K)
  M3.mul (⟨U.r0.map c, U.r1.map c, U.r2.map c⟩ : M3 K) vects

def minOf (l : List Int) : Int := l.foldl min (l.headD 0)
def maxOf (l : List Int) : Int := l.foldl max (l.headD 0)

/-- the 8 corners of the new cell in index space. -/
def corners (U : M3 Int) : List (V3 Int) :=
  [⟨0, 0, 0⟩, U.r0, U.r1, U.r2, U.r0 + U.r1, U.r0 + U.r2, U.r1 + U.r2, U.r0 + U.r1 + U.r2]

/-- multipliers `(min-1, max+1)` per axis. -/
def rotateSizes (U : M3 Int) : Size × Size × Size :=
  let cs := corners U
  (⟨minOf (cs.map (·.x)) - 1, maxOf (cs.map (·.x)) + 1⟩,
   ⟨minOf (cs.map (·.y)) - 1, maxOf (cs.map (·.y)) + 1⟩,
   ⟨minOf (cs.map (·.z)) - 1, maxOf (cs.map (·.z)) + 1⟩)

section
variable {K : Type} [Add K] [Sub K] [Mul K] [Div K] [IntCast K] [Zero K] [One K] [LT K] [LE K]
  [DecidableLT K] [DecidableLE K]

def inHalfOpen (s : V3 K) : Bool :=
  decide (0 ≤ s.x) && decide (s.x < 1) && decide (0 ≤ s.y) && decide (s.y < 1) &&
  decide (0 ≤ s.z) && decide (s.z < 1)

/-- `np.rint`: the nearest integer `⌊x + 1/2⌋`, an exact half going to the even neighbour. -/
def rintK (fl : K → Int) (x : K) : Int :=
  let h := x + 1 / ((2 : Int) : K)
  let n := fl h
  if decide ((n : K) ≤ h) && decide (h ≤ (n : K)) && decide (n % 2 ≠ 0) then n - 1 else n

/-- `rotate` up to (not including) `normalize`: the new box and the atoms kept.
    The bounding supercell is translated by the whole lattice vector `-rint(origin·V⁻¹)·V` (the nearest one,
    `rintK` = `np.rint`) so that it
    surrounds the Cartesian origin; the new cell `U·vects` is cut out at the Cartesian origin
    (`box_set(vects=…)` resets the origin to zero).  `fl` is the floor function (`Rat.floor` when run).
    `none` = the refusal "vectors are parallel or planar" (`det U = 0`). -/
def rotateRaw (fl : K → Int) (b : Box K) (U : M3 Int) (atoms : List (Atom K)) :
    Option (Box K × List (Atom K)) :=
  if M3.det U = 0 then none else
  let (sa, sb, sc) := rotateSizes U
  let orel := b.cartToRel ⟨0, 0, 0⟩          -- = -(origin · V⁻¹)
  let nsh : V3 K := ⟨((rintK fl (0 - orel.x) : Int) : K), ((rintK fl (0 - orel.y) : Int) : K),
                     ((rintK fl (0 - orel.z) : Int) : K)⟩
  let shift := M3.vecMul nsh b.vects
  let sup := (supersizeAtoms b sa sb sc atoms).map fun a => { a with pos := a.pos - shift }
  let nb : Box K := ⟨newVects U b.vects, ⟨0, 0, 0⟩⟩
  some (nb, sup.filter fun a => inHalfOpen (nb.cartToRel a.pos))

/-- `rotate` (before `normalize`) with the code's own expected-count test
    `newnatoms = round(newvolume / volume) · natoms = |det U| · natoms`: a different number of kept atoms is
    the error "Filtering failed" (`filter`); `value` = parallel or planar vectors. -/
def rotateChecked (fl : K → Int) (b : Box K) (U : M3 Int) (atoms : List (Atom K)) :
    Except String (Box K × List (Atom K)) :=
  match rotateRaw fl b U atoms with
  | none => .error "value"
  | some (nb, kept) =>
    if kept.length = (M3.det U).natAbs * atoms.length then .ok (nb, kept) else .error "filter"

/-- one atom moved by whole cell vectors into the cell `vects` at the Cartesian origin. -/
def wrapAtom (fl : K → Int) (b : Box K) (a : Atom K) : Atom K :=
  let s := (⟨b.vects, ⟨0, 0, 0⟩⟩ : Box K).cartToRel a.pos
  { a with pos := a.pos - M3.vecMul ⟨((fl s.x : Int) : K), ((fl s.y : Int) : K), ((fl s.z : Int) : K)⟩ b.vects }

/-- the "no rotation" shortcut (`uvws` = identity): the system itself, its cell re-expressed around the Cartesian
    origin with the atoms' Cartesian positions kept; `normalize` then wraps every atom into the cell. -/
def rotateIdentity (fl : K → Int) (b : Box K) (atoms : List (Atom K)) : Box K × List (Atom K) :=
  (⟨b.vects, ⟨0, 0, 0⟩⟩, atoms.map (wrapAtom fl b))

/-- `System.rotate` up to `normalize`: identity shortcut, otherwise bounding supercell + filter + count test. -/
def rotate (fl : K → Int) (b : Box K) (U : M3 Int) (atoms : List (Atom K)) :
    Except String (Box K × List (Atom K)) :=
  if U = M3.one then .ok (rotateIdentity fl b atoms) else rotateChecked fl b U atoms

/-! ### the index acceptance test of `rotate` (float / hexagonal 4-index `uvws`)

`int_uvws = rint(uvws); if np.allclose(uvws, int_uvws): uvws = int_uvws else: raise ValueError`.
`np.allclose(a, b)` is `|a - b| ≤ atol + rtol·|b|` entry by entry (`rtol = 1e-5`, `atol = 1e-8`). -/

/-- absolute value of an integer as a scalar. -/
def absIntK (n : Int) : K := if n < 0 then ((-n : Int) : K) else (n : K)

/-- one index: the nearest integer `n = ⌊x + 1/2⌋` (what `rint` returns away from exact halves, which no
    tolerance below 1/2 accepts) if `|x - n| ≤ atol + rtol·|n|`, otherwise refused. -/
def acceptIndex? (fl : K → Int) (rtol atol x : K) : Option Int :=
  let n := fl (x + 1 / ((2 : Int) : K))
  let d := if x < (n : K) then (n : K) - x else x - (n : K)
  if d ≤ atol + rtol * absIntK n then some n else none

def acceptRow? (fl : K → Int) (rtol atol : K) (r : V3 K) : Option (V3 Int) :=
  match acceptIndex? fl rtol atol r.x, acceptIndex? fl rtol atol r.y, acceptIndex? fl rtol atol r.z with
  | some a, some b, some c => some ⟨a, b, c⟩
  | _, _, _ => none

/-- all nine entries must pass (`allclose` is a conjunction). -/
def acceptUvws? (fl : K → Int) (rtol atol : K) (u : M3 K) : Option (M3 Int) :=
  match acceptRow? fl rtol atol u.r0, acceptRow? fl rtol atol u.r1, acceptRow? fl rtol atol u.r2 with
  | some a, some b, some c => some ⟨a, b, c⟩
  | _, _, _ => none

/-- `miller.vector4to3` on one row `[u v t w]`: refused unless `|u + v + t| ≤ atol` (`allclose(sum, 0)`),
    else `[2u + v, 2v + u, w]`. -/
def hex4to3? (atol u v t w : K) : Option (V3 K) :=
  let s := u + v + t
  let d := if s < 0 then 0 - s else s
  if d ≤ atol then some ⟨((2 : Int) : K) * u + v, ((2 : Int) : K) * v + u, w⟩ else none

/-- `System.rotate` (up to `normalize`) as called: rational `uvws` first pass the integer test. -/
def rotateF (fl : K → Int) (rtol atol : K) (b : Box K) (u : M3 K) (atoms : List (Atom K)) :
    Except String (Box K × List (Atom K)) :=
  match acceptUvws? fl rtol atol u with
  | none => .error "value"
  | some U => rotate fl b U atoms

/-! ### the lattice-site test of `conventional_to_primitive` (`check_setting_basis` without the family test)

For every lattice site of the setting there must be exactly one atom *modulo whole cell vectors*
(`index_of_pos` uses the periodic `System.dmag`), all of one type.  The float test `dmag ≈ 0` is
"equal modulo the lattice" in exact arithmetic. -/

def isIntK (fl : K → Int) (x : K) : Bool := decide (x ≤ ((fl x : Int) : K)) && decide (((fl x : Int) : K) ≤ x)

/-- the atom sits on the site with relative coordinates `site`, up to whole cell vectors. -/
def onSite (fl : K → Int) (b : Box K) (site : V3 K) (a : Atom K) : Bool :=
  let s := b.cartToRel a.pos - site
  isIntK fl s.x && isIntK fl s.y && isIntK fl s.z

/-- the loop over the sites: `some false` at the first site without an atom or with an atom of another type
    than the first site's, `none` = "Multiple overlapping atoms found". -/
def checkSites (fl : K → Int) (b : Box K) (atoms : List (Atom K)) : List (V3 K) → Option Int → Option Bool
  | [], _ => some true
  | site :: rest, ty =>
    match (atoms.filter (onSite fl b site)).map (·.atype) with
    | [] => some false
    | [t] =>
      match ty with
      | none => checkSites fl b atoms rest (some t)
      | some t0 => if t = t0 then checkSites fl b atoms rest ty else some false
    | _ => none

/-- relative coordinates of the lattice sites per setting (numerators over `den`). -/
def settingSitesInt : String → Option (Int × List (V3 Int))
  | "p" => some (1, [⟨0, 0, 0⟩])
  | "i" => some (2, [⟨0, 0, 0⟩, ⟨1, 1, 1⟩])
  | "f" => some (2, [⟨0, 0, 0⟩, ⟨1, 1, 0⟩, ⟨1, 0, 1⟩, ⟨0, 1, 1⟩])
  | "a" => some (2, [⟨0, 0, 0⟩, ⟨0, 1, 1⟩])
  | "b" => some (2, [⟨0, 0, 0⟩, ⟨1, 0, 1⟩])
  | "c" => some (2, [⟨0, 0, 0⟩, ⟨1, 1, 0⟩])
  | "t1" => some (3, [⟨0, 0, 0⟩, ⟨2, 1, 1⟩, ⟨1, 2, 2⟩])
  | "t2" => some (3, [⟨0, 0, 0⟩, ⟨1, 2, 1⟩, ⟨2, 1, 2⟩])
  | _ => none

def settingSites (setting : String) : Option (List (V3 K)) :=
  (settingSitesInt setting).map fun (den, l) =>
    l.map fun v => ⟨(v.x : K) / (den : K), (v.y : K) / (den : K), (v.z : K) / (den : K)⟩

/-- `check_setting_basis(ucell, setting, check_family=False)`; outer `none` = unknown setting. -/
def checkBasis (fl : K → Int) (b : Box K) (setting : String) (atoms : List (Atom K)) : Option (Option Bool) :=
  (settingSites (K := K) setting).map fun sites => checkSites fl b atoms sites none

end

/-! ### round 3: names of the per-atom properties, periodicity flags, the object behind the call -/

/-- names of the per-atom properties of the system `supersize` returns, in order: a fresh `Atoms(natoms=…)` holds
    `atype` and `pos`; the copy loop `for key in self.atoms_prop(): if key == 'pos': continue; …` then writes every key
    of the input other than `pos` (over the existing column for `atype`, appended in the input's order otherwise);
    `pos` is written last, over the existing column.  `rotate` slices that system (`Atoms.__getitem__` keeps the keys
    in order); its identity shortcut deep-copies the input (`atype`, `pos`, then the others in order). -/
def copiedKeys (keys : List String) : List String :=
  (keys.filter (fun k => k != "pos")).foldl (fun acc k => if acc.contains k then acc else acc ++ [k]) ["atype", "pos"]

/-- periodicity flags. -/
structure Pbc where
  a : Bool
  b : Bool
  c : Bool
deriving Repr, BEq, DecidableEq

/-- flags of the system `rotate` returns: the general path builds a new `System` (default: fully periodic); the
    identity shortcut copies the input with its flags and then declares the copy fully periodic (repo fix b34107f) -
    `normalize` must wrap the atoms into the cell, not stretch the cell around them. -/
def rotatePbc (U : M3 Int) (pbc : Pbc) : Pbc :=
  if U = M3.one then { pbc with a := true, b := true, c := true } else ⟨true, true, true⟩

/-- a `Box` object: the visible cell and the cached reciprocal vectors (`None` until first asked for; the `vects`
    setter drops the cache). -/
structure BoxObj (K : Type) where
  vects : M3 K
  origin : V3 K
  cache : Option (M3 K)

/-- a `System` object as far as `supersize` / `rotate` read it. -/
structure SysObj (K : Type) where
  box : BoxObj K
  atoms : List (Atom K)
  pbc : Pbc

section
variable {K : Type} [Add K] [Sub K] [Mul K] [Div K] [IntCast K]

def BoxObj.visible (o : BoxObj K) : Box K := ⟨o.vects, o.origin⟩

/-- `Box.reciprocal_vects`: the cached value if there is one, else computed from the cell and stored. -/
def BoxObj.recipC (o : BoxObj K) : M3 K × BoxObj K :=
  match o.cache with
  | some r => (r, o)
  | none => let r := o.visible.recip; (r, { o with cache := some r })

/-- `position_cartesian_to_relative` on the object (reads through the cache, may fill it). -/
def BoxObj.cartToRelC (o : BoxObj K) (p : V3 K) : V3 K × BoxObj K :=
  let (r, o') := o.recipC
  (M3.mulVec r (p - o.origin), o')

/-- the `vects` setter: new cell, cache dropped.  (`origin` setter: no cache involved.) -/
def BoxObj.setVects (o : BoxObj K) (v : M3 K) : BoxObj K := { o with vects := v, cache := none }
def BoxObj.setOrigin (o : BoxObj K) (p : V3 K) : BoxObj K := { o with origin := p }

/-- what the generated histories do to the one object before `supersize` / `rotate` is called on it. -/
inductive HOp (K : Type) where
  | read                                 -- atoms_prop('pos', scale=True) / box.reciprocal_vects: fills the cache
  | setBox (v : M3 K) (o : V3 K) (scale : Bool)   -- box_set(vects=, origin=, scale=): relative (true) / Cartesian positions held
  | setVects (v : M3 K)                  -- box.vects = v (Cartesian positions held)
  | setOrigin (o : V3 K)                 -- box.origin = o
  | rewrite                              -- scaled positions read and written back
  | setPbc (p : Pbc)

/-- scaled positions of all atoms, read through the cache. -/
def SysObj.sposC (s : SysObj K) : List (V3 K) × SysObj K :=
  let (r, b') := s.box.recipC
  (s.atoms.map fun a => M3.mulVec r (a.pos - s.box.origin), { s with box := b' })

/-- positions set from scaled ones: `pos = s·vects + origin`. -/
def SysObj.setSpos (s : SysObj K) (sp : List (V3 K)) : SysObj K :=
  { s with atoms := List.zipWith (fun a q => { a with pos := s.box.visible.relToCart q }) s.atoms sp }

def SysObj.step (s : SysObj K) : HOp K → SysObj K
  | .read => s.sposC.2
  | .setBox v o true =>
    let (sp, s1) := s.sposC
    ({ s1 with box := (s1.box.setVects v).setOrigin o }).setSpos sp
  | .setBox v o false => { s with box := (s.box.setVects v).setOrigin o }
  | .setVects v => { s with box := s.box.setVects v }
  | .setOrigin o => { s with box := s.box.setOrigin o }
  | .rewrite => let (sp, s1) := s.sposC; s1.setSpos sp
  | .setPbc p => { s with pbc := p }

def SysObj.run (s : SysObj K) (ops : List (HOp K)) : SysObj K := ops.foldl SysObj.step s

/-- scaled position of replica `(r0,r1,r2)` in the multiplied cell from the scaled position `q` in the original one. -/
def replicaRel (sa sb sc : Size) (q : V3 K) (r0 r1 r2 : Nat) : V3 K :=
  ⟨q.x / (sa.mult : K) + ((r0 : Int) : K) * (((1 : Int) : K) / (sa.mult : K)),
   q.y / (sb.mult : K) + ((r1 : Int) : K) * (((1 : Int) : K) / (sb.mult : K)),
   q.z / (sc.mult : K) + ((r2 : Int) : K) * (((1 : Int) : K) / (sc.mult : K))⟩

/-- `supersize` on the object: the scaled positions are read through the cache, everything else from the visible
    state.  (Replica `r` of atom `a` sits at `(spos a / m + r / m)` of the multiplied cell.) -/
def SysObj.supersizeC (s : SysObj K) (sa sb sc : Size) : Box K × List (Atom K) :=
  let (sp, s1) := s.sposC
  let nb := superBox s1.box.visible sa sb sc
  (nb,
   (List.range sc.mult.toNat).flatMap fun r2 =>
   (List.range sb.mult.toNat).flatMap fun r1 =>
   (List.range sa.mult.toNat).flatMap fun r0 =>
     List.zipWith (fun a q => { a with pos := nb.relToCart (replicaRel sa sb sc q r0 r1 r2) }) s1.atoms sp)

/-- the cache, if filled, holds the reciprocal vectors of the cell the object shows. -/
def BoxObj.Coherent (o : BoxObj K) : Prop := ∀ r, o.cache = some r → r = o.visible.recip

end

section
variable {K : Type} [Add K] [Sub K] [Mul K] [Div K] [IntCast K] [Zero K] [One K] [LT K] [LE K]
  [DecidableLT K] [DecidableLE K]

/-- `rotate` on the object, general path: the bounding supercell comes from `supersize` on the object (scaled
    positions through the cache); the lattice translation uses `np.linalg.solve` on the visible cell. -/
def SysObj.rotateRawC (fl : K → Int) (s : SysObj K) (U : M3 Int) : Option (Box K × List (Atom K)) :=
  if M3.det U = 0 then none else
  let (sa, sb, sc) := rotateSizes U
  let b := s.box.visible
  let orel := b.cartToRel ⟨0, 0, 0⟩
  let nsh : V3 K := ⟨((rintK fl (0 - orel.x) : Int) : K), ((rintK fl (0 - orel.y) : Int) : K),
                     ((rintK fl (0 - orel.z) : Int) : K)⟩
  let shift := M3.vecMul nsh b.vects
  let sup := ((s.supersizeC sa sb sc).2).map fun a => { a with pos := a.pos - shift }
  let nb : Box K := ⟨newVects U b.vects, ⟨0, 0, 0⟩⟩
  some (nb, sup.filter fun a => inHalfOpen (nb.cartToRel a.pos))

/-- `System.rotate` (up to `normalize`) on the object; the result is fully periodic (`rotatePbc`). -/
def SysObj.rotateC (fl : K → Int) (s : SysObj K) (U : M3 Int) : Except String (Box K × List (Atom K)) × Pbc :=
  (if U = M3.one then .ok (rotateIdentity fl s.box.visible s.atoms) else
    match s.rotateRawC fl U with
    | none => .error "value"
    | some (nb, kept) =>
      if kept.length = (M3.det U).natAbs * s.atoms.length then .ok (nb, kept) else .error "filter",
   rotatePbc U s.pbc)

end


/-! ### round 4: crystal family of a cell, the family test and the tolerances of `conventional_to_primitive`

`Box.identifyfamily(rtol, atol)` is a chain of the predicates `iscubic … istriclinic`, each a conjunction of
`np.isclose` tests between the six lattice parameters `a b c alpha beta gamma` (square roots / arc cosines of the cell
vectors: handed over as numbers) and the constants 90 and 120.  `check_setting_basis(check_family=True)` returns False
unless that family is in the setting's list; then the lattice-site test looks for an atom within `atol` of every site.
`conventional_to_primitive(setting='t')` runs the test for `t1` and for `t2`, each with the caller's tolerances. -/

/-- the six lattice parameters of a cell as `Box.a … Box.gamma` return them (angles in degrees). -/
structure Cell6 (K : Type) where
  a : K
  b : K
  c : K
  al : K
  be : K
  ga : K

inductive Family where
  | cubic | hexagonal | tetragonal | rhombohedral | orthorhombic | monoclinic | triclinic
deriving Repr, BEq, DecidableEq

def Family.name : Family → String
  | .cubic => "cubic" | .hexagonal => "hexagonal" | .tetragonal => "tetragonal" | .rhombohedral => "rhombohedral"
  | .orthorhombic => "orthorhombic" | .monoclinic => "monoclinic" | .triclinic => "triclinic"

section
variable {K : Type} [Add K] [Sub K] [Mul K] [Zero K] [LT K] [LE K] [DecidableLT K] [DecidableLE K]

def absK (x : K) : K := if x < 0 then 0 - x else x

/-- `np.isclose(x, y, rtol=rtol, atol=atol)`: `|x - y| ≤ atol + rtol·|y|` (not symmetric in `x`, `y`). -/
def closeK (rtol atol x y : K) : Bool := decide (absK (x - y) ≤ atol + rtol * absK y)

end

section
variable {K : Type}

/-! the predicates take the closeness test `cl` (`closeK rtol atol` when run) and the constants `n90`, `n120`. -/
def isCubic (cl : K → K → Bool) (n90 : K) (p : Cell6 K) : Bool :=
  cl p.a p.b && cl p.a p.c && cl p.al n90 && cl p.be n90 && cl p.ga n90
def isHexagonal (cl : K → K → Bool) (n90 n120 : K) (p : Cell6 K) : Bool :=
  cl p.a p.b && cl p.al n90 && cl p.be n90 && cl p.ga n120
def isTetragonal (cl : K → K → Bool) (n90 : K) (p : Cell6 K) : Bool :=
  cl p.a p.b && !cl p.a p.c && cl p.al n90 && cl p.be n90 && cl p.ga n90
def isRhombohedral (cl : K → K → Bool) (n90 : K) (p : Cell6 K) : Bool :=
  cl p.a p.b && cl p.a p.c && cl p.al p.be && cl p.al p.ga && !cl p.al n90
/-- `a ≠ b` and `a ≠ c`: nothing is asked of `b` against `c` (an orthorhombic cell may have `b = c`). -/
def isOrthorhombic (cl : K → K → Bool) (n90 : K) (p : Cell6 K) : Bool :=
  !cl p.a p.b && !cl p.a p.c && cl p.al n90 && cl p.be n90 && cl p.ga n90
def isMonoclinic (cl : K → K → Bool) (n90 : K) (p : Cell6 K) : Bool :=
  !cl p.a p.b && !cl p.a p.c && cl p.al n90 && !cl p.be n90 && cl p.ga n90
def isTriclinic (cl : K → K → Bool) (p : Cell6 K) : Bool :=
  !cl p.a p.b && !cl p.a p.c && !cl p.al p.be && !cl p.al p.ga

/-- `Box.identifyfamily`: the first predicate of the chain that holds, `none` if none does. -/
def identifyFamily (cl : K → K → Bool) (n90 n120 : K) (p : Cell6 K) : Option Family :=
  if isCubic cl n90 p then some .cubic
  else if isHexagonal cl n90 n120 p then some .hexagonal
  else if isTetragonal cl n90 p then some .tetragonal
  else if isRhombohedral cl n90 p then some .rhombohedral
  else if isOrthorhombic cl n90 p then some .orthorhombic
  else if isMonoclinic cl n90 p then some .monoclinic
  else if isTriclinic cl p then some .triclinic
  else none

end

/-- crystal families for which a Bravais lattice with the setting exists (`check_setting_basis`). -/
def settingFamilies : String → Option (List Family)
  | "p" => some [.cubic, .hexagonal, .tetragonal, .rhombohedral, .orthorhombic, .monoclinic, .triclinic]
  | "i" => some [.orthorhombic, .tetragonal, .cubic]
  | "f" => some [.orthorhombic, .cubic]
  | "a" => some [.monoclinic, .orthorhombic]
  | "b" => some [.monoclinic, .orthorhombic]
  | "c" => some [.monoclinic, .orthorhombic]
  | "t1" => some [.hexagonal]
  | "t2" => some [.hexagonal]
  | _ => none

/-- `family not in families` (an unidentified family is in no list). -/
def familyAllowed (setting : String) (fam : Option Family) : Bool :=
  match settingFamilies setting, fam with
  | some l, some f => l.contains f
  | _, _ => false

section
variable {K : Type} [Add K] [Sub K] [Mul K] [Div K] [IntCast K] [Zero K] [One K] [LT K] [LE K]
  [DecidableLT K] [DecidableLE K]

/-- the site loop of `check_setting_basis` over any per-site test `hit site atom` (`checkSites` is the instance
    `hit = onSite fl b`). -/
def checkSitesBy (hit : V3 K → Atom K → Bool) (atoms : List (Atom K)) : List (V3 K) → Option Int → Option Bool
  | [], _ => some true
  | site :: rest, ty =>
    match (atoms.filter (hit site)).map (·.atype) with
    | [] => some false
    | [t] =>
      match ty with
      | none => checkSitesBy hit atoms rest (some t)
      | some t0 => if t = t0 then checkSitesBy hit atoms rest ty else some false
    | _ => none

/-- the nearest integer `⌊x + 1/2⌋`. -/
def nearK (fl : K → Int) (x : K) : Int := fl (x + 1 / ((2 : Int) : K))

/-- `index_of_pos` with the caller's tolerance: the atom is within `atol` (Cartesian; `atol2 = atol²`) of the nearest
    periodic image of the site - `np.isclose(dmag, 0.0, rtol, atol)` is `dmag ≤ atol`, `rtol` multiplies `|0.0|`.
    (The nearest image is the one `nearK` picks as long as `atol` is small against the cell, `atol·‖V⁻¹‖ < 1/2`.) -/
def onSiteTol (fl : K → Int) (b : Box K) (atol2 : K) (site : V3 K) (a : Atom K) : Bool :=
  let s := b.cartToRel a.pos - site
  let d : V3 K := ⟨s.x - ((nearK fl s.x : Int) : K), s.y - ((nearK fl s.y : Int) : K), s.z - ((nearK fl s.z : Int) : K)⟩
  decide (V3.normSq (M3.vecMul d b.vects) ≤ atol2)

/-- `check_setting_basis(ucell, setting, rtol, atol, check_family)`: outer `none` = unknown setting, inner `none` =
    "Multiple overlapping atoms found"; `fam` = `ucell.box.identifyfamily(rtol, atol)`. -/
def checkSettingBasis (fl : K → Int) (fam : Option Family) (b : Box K) (atol2 : K) (checkFamily : Bool)
    (setting : String) (atoms : List (Atom K)) : Option (Option Bool) :=
  match settingSites (K := K) setting with
  | none => none
  | some sites =>
    if checkFamily && !familyAllowed setting fam then some (some false)
    else some (checkSitesBy (onSiteTol fl b atol2) atoms sites none)

end

/-- the setting `conventional_to_primitive` works with: `check_basis=False` takes the caller's word; an explicit
    setting must pass the test; `'t'` is tested as `t1` AND as `t2` (both calls are made, with the same tolerances),
    `t1` wins, then `t2`.  Every refusal is a `ValueError`. `chk` = `checkSettingBasis` with the caller's arguments. -/
def resolveSetting (chk : String → Option (Option Bool)) (checkBasis : Bool) (setting : String) : Option String :=
  if !checkBasis then some setting
  else if setting != "t" then
    match chk setting with
    | some (some true) => some setting
    | _ => none
  else
    match chk "t1", chk "t2" with
    | some (some t1), some (some t2) => if t1 then some "t1" else if t2 then some "t2" else none
    | _, _ => none

/-! ### round 6: the call as the user writes it (multiplier arguments), the face-rounding ladder of `rotate`, the integer
matrices the conversions hand to `rotate`.  The definitions below are tied to the CURRENT source by
`Atomman/Generated/SupercellSource.lean` (regenerated on every check) and `Proofs/C04_Source.lean` (`gen_…_eq_model`). -/

/-- a multiplier argument of `supersize` as the caller writes it: an integer, a 2-tuple of integers, anything else
    (float, list, tuple of another length or with non-integer entries). -/
inductive SizeArg where
  | int (n : Int)
  | pair (lo hi : Int)
  | other
deriving Repr, DecidableEq

/-- the argument check of one axis: `value` = `ValueError('Cannot multiply system dimension by zero')`, `type` =
    `TypeError('Invalid system multipliers')`. -/
def SizeArg.resolve : SizeArg → Except String Size
  | .int n => match Size.ofInt? n with
    | some s => .ok s
    | none => .error "value"
  | .pair lo hi =>
    if lo ≤ 0 ∧ 0 ≤ hi then (if hi - lo = 0 then .error "value" else .ok ⟨lo, hi⟩) else .error "type"
  | .other => .error "type"

/-- the loop over the three axes: the first axis that is refused decides the error. -/
def resolveSizes (a0 a1 a2 : SizeArg) : Except String (Size × Size × Size) :=
  match a0.resolve with
  | .error e => .error e
  | .ok sa =>
    match a1.resolve with
    | .error e => .error e
    | .ok sb =>
      match a2.resolve with
      | .error e => .error e
      | .ok sc => .ok (sa, sb, sc)

/-- `System.supersize(a_size, b_size, c_size)` as called. -/
def supersizeApi {K : Type} [Add K] [Sub K] [Mul K] [Div K] [IntCast K]
    (b : Box K) (a0 a1 a2 : SizeArg) (atoms : List (Atom K)) : Except String (Box K × List (Atom K)) :=
  match resolveSizes a0 a1 a2 with
  | .error e => .error e
  | .ok (sa, sb, sc) => .ok (supersize b sa sb sc atoms)

section
variable {K : Type} [Add K] [Sub K] [Mul K] [Div K] [IntCast K] [Zero K] [One K] [LT K] [LE K]
  [DecidableLT K] [DecidableLE K]

/-- one relative coordinate through one rung of the ladder, the two statements in the order of the code:
    `spos[isclose(spos, 0.0, rtol=0.0, atol=atol)] = 0.0` then `spos[isclose(spos, 1.0, rtol=0.0, atol=atol)] = 1.0`. -/
def roundFaces (atol s : K) : K :=
  let s1 := if closeK 0 atol s 0 then 0 else s
  if closeK 0 atol s1 1 then 1 else s1

/-- the atom is kept at this rung: rounded, then `0 ≤ s < 1` on the three coordinates. -/
def ladderKeep (atol : K) (s : V3 K) : Bool :=
  inHalfOpen ⟨roundFaces atol s.x, roundFaces atol s.y, roundFaces atol s.z⟩

/-- the new cell and the translated bounding supercell of `rotate` (what the filter runs over). -/
def rotateSup (fl : K → Int) (b : Box K) (U : M3 Int) (atoms : List (Atom K)) : Box K × List (Atom K) :=
  let (sa, sb, sc) := rotateSizes U
  let orel := b.cartToRel ⟨0, 0, 0⟩
  let nsh : V3 K := ⟨((rintK fl (0 - orel.x) : Int) : K), ((rintK fl (0 - orel.y) : Int) : K),
                     ((rintK fl (0 - orel.z) : Int) : K)⟩
  let shift := M3.vecMul nsh b.vects
  (⟨newVects U b.vects, ⟨0, 0, 0⟩⟩, (supersizeAtoms b sa sb sc atoms).map fun a => { a with pos := a.pos - shift })

/-- the atoms one rung keeps. -/
def ladderFilter (atol : K) (nb : Box K) (sup : List (Atom K)) : List (Atom K) :=
  sup.filter fun a => ladderKeep atol (nb.cartToRel a.pos)

/-- the loop `for atol in tol:` — the first rung whose selection has the expected number of atoms. -/
def ladderLoop (want : Nat) (nb : Box K) (sup : List (Atom K)) : List K → Option (List (Atom K))
  | [] => none
  | t :: ts => if (ladderFilter t nb sup).length = want then some (ladderFilter t nb sup) else ladderLoop want nb sup ts

/-- `System.rotate` up to `normalize` WITH the tolerance ladder (`tols` = the `tol` argument as a list):
    `value` = parallel / planar vectors, `filter` = "Filtering failed" after the last rung. -/
def rotateLadder (fl : K → Int) (tols : List K) (b : Box K) (U : M3 Int) (atoms : List (Atom K)) :
    Except String (Box K × List (Atom K)) :=
  if U = M3.one then .ok (rotateIdentity fl b atoms) else
  if M3.det U = 0 then .error "value" else
  let r := rotateSup fl b U atoms
  match ladderLoop ((M3.det U).natAbs * atoms.length) r.1 r.2 tols with
  | some kept => .ok (r.1, kept)
  | none => .error "filter"

end

/-- `multip`: the primitive supercell `conventional_to_primitive` builds is 3x3x3 for the trigonal settings, 2x2x2 otherwise. -/
def multip (setting : String) : Nat := if ["t1", "t2", "t"].contains setting then 3 else 2

/-- `lattice_vectors` of `miller.vector_primitive_to_conventional` as (denominator, numerators): rows = the primitive
    cell vectors in conventional coordinates. -/
def p2cTable : String → Option (Int × M3 Int)
  | "p" => some (1, ⟨⟨1, 0, 0⟩, ⟨0, 1, 0⟩, ⟨0, 0, 1⟩⟩)
  | "a" => some (2, ⟨⟨2, 0, 0⟩, ⟨0, 1, 1⟩, ⟨0, -1, 1⟩⟩)
  | "b" => some (2, ⟨⟨1, 0, 1⟩, ⟨0, 2, 0⟩, ⟨-1, 0, 1⟩⟩)
  | "c" => some (2, ⟨⟨1, 1, 0⟩, ⟨-1, 1, 0⟩, ⟨0, 0, 2⟩⟩)
  | "i" => some (2, ⟨⟨1, 1, 1⟩, ⟨-1, 1, -1⟩, ⟨-1, -1, 1⟩⟩)
  | "f" => some (2, ⟨⟨1, 1, 0⟩, ⟨0, 1, 1⟩, ⟨1, 0, 1⟩⟩)
  | "t1" => some (3, ⟨⟨2, 1, 1⟩, ⟨-1, 1, 1⟩, ⟨-1, -2, 1⟩⟩)
  | "t2" => some (3, ⟨⟨-2, -1, 1⟩, ⟨1, -1, 1⟩, ⟨1, 2, 1⟩⟩)
  | _ => none

/-- `lattice_vectors` of `miller.vector_conventional_to_primitive`: rows = the conventional cell vectors in primitive
    coordinates (integers). -/
def c2pTable : String → Option (M3 Int)
  | "p" => some ⟨⟨1, 0, 0⟩, ⟨0, 1, 0⟩, ⟨0, 0, 1⟩⟩
  | "a" => some ⟨⟨1, 0, 0⟩, ⟨0, 1, -1⟩, ⟨0, 1, 1⟩⟩
  | "b" => some ⟨⟨1, 0, -1⟩, ⟨0, 1, 0⟩, ⟨1, 0, 1⟩⟩
  | "c" => some ⟨⟨1, -1, 0⟩, ⟨1, 1, 0⟩, ⟨0, 0, 1⟩⟩
  | "i" => some ⟨⟨0, -1, -1⟩, ⟨1, 1, 0⟩, ⟨1, 0, 1⟩⟩
  | "f" => some ⟨⟨1, -1, 1⟩, ⟨1, 1, -1⟩, ⟨-1, 1, 1⟩⟩
  | "t1" => some ⟨⟨1, -1, 0⟩, ⟨0, 1, -1⟩, ⟨1, 1, 1⟩⟩
  | "t2" => some ⟨⟨-1, 1, 0⟩, ⟨0, -1, 1⟩, ⟨1, 1, 1⟩⟩
  | _ => none

def V3.idiv? (m d : Int) (v : V3 Int) : Option (V3 Int) :=
  if (m * v.x) % d = 0 ∧ (m * v.y) % d = 0 ∧ (m * v.z) % d = 0 then some ⟨m * v.x / d, m * v.y / d, m * v.z / d⟩ else none

/-- `(m · N) / d` when every entry divides exactly. -/
def scaleDiv? (m d : Int) (N : M3 Int) : Option (M3 Int) :=
  match V3.idiv? m d N.r0, V3.idiv? m d N.r1, V3.idiv? m d N.r2 with
  | some a, some b, some c => some ⟨a, b, c⟩
  | _, _, _ => none

/-- the vectors `conventional_to_primitive` hands to `rotate`:
    `vector_primitive_to_conventional(multip * identity(3), setting)` = `multip · table[setting]`; `none` = unknown setting
    (`'t'` itself has no table) or a non-integer matrix (which `rotate` would refuse). -/
def c2pUvws (setting : String) : Option (M3 Int) :=
  match p2cTable setting with
  | some (d, N) => scaleDiv? (multip setting) d N
  | none => none

/-- the vectors `primitive_to_conventional` hands to `rotate`: `vector_conventional_to_primitive(identity(3), setting)`. -/
def p2cUvws (setting : String) : Option (M3 Int) := c2pTable setting

/-- keyword defaults of `conventional_to_primitive` (`rtol`, `atol` as num/den; `smallshift` component; flags). -/
structure C2PDefaults where
  setting : String
  rtol : Nat × Nat
  atol : Nat × Nat
  smallshift : Nat × Nat
  checkBasis : Bool
  checkFamily : Bool
  returnTransform : Bool
deriving Repr, DecidableEq

def c2pDefaults : C2PDefaults := ⟨"p", (1, 100000), (1, 100000000), (1, 1000), true, true, false⟩

/-! ### round 6: the numpy bookkeeping of `supersize` — which offset goes with which row

`test = np.empty(m * n); test.shape = (n, m); test[:] = np.arange(m); x = test.T.flatten()` is `colMajorRange n m`
(`j` repeated `n` times for `j = 0 … m-1`); `test.shape = (k, len(v)); test[:] = v; v = test.flatten()` is `tileList k v`;
`new = np.empty((M,) + old.shape); new[:] = old; new.reshape((M * N, …))` takes row `i mod N` of `old`: `tileList M (range N)`. -/

def colMajorRange (rows m : Nat) : List Nat := (List.range m).flatMap fun j => List.replicate rows j
def tileList {α : Type} (k : Nat) (l : List α) : List α := (List.range k).flatMap fun _ => l

/-- the replica counters `x`, `y`, `z` of `supersize` (one entry per row of the result) and the row of the input each
    row of the result is copied from, as the broadcasting statements build them. -/
def offsetsX (N m0 m1 m2 : Nat) : List Nat := tileList m2 (tileList m1 (colMajorRange N m0))
def offsetsY (N m0 m1 m2 : Nat) : List Nat := tileList m2 (colMajorRange (m0 * N) m1)
def offsetsZ (N m0 m1 m2 : Nat) : List Nat := colMajorRange (m1 * (m0 * N)) m2
def copyIndex (N m0 m1 m2 : Nat) : List Nat := tileList (m0 * m1 * m2) (List.range N)

/-- the order of the model (`supersizeAtoms`): replica-major, `r0` fastest, then the atom index. -/
def replicaOrder (N m0 m1 m2 : Nat) : List (Nat × Nat × Nat × Nat) :=
  (List.range m2).flatMap fun r2 => (List.range m1).flatMap fun r1 => (List.range m0).flatMap fun r0 =>
    (List.range N).map fun i => (i, r0, r1, r2)

/-- outcome of one pass of the site loop of `check_setting_basis`: `return b`, the `ValueError`, or on to the next site. -/
inductive SiteStep where
  | ret (b : Bool)
  | raise
  | next (ty : Option Int)
deriving Repr, DecidableEq

/-- one pass of the site loop, given the number of atoms found at the site (`np.sum(index)`), the type of the first of
    them (`ucell.atoms.atype[index][0]`) and the type remembered so far (`atype`, `None` at the first site). -/
def siteStep (count : Nat) (t : Int) (ty : Option Int) : SiteStep :=
  if count = 0 then .ret false else if 1 < count then .raise else
  match ty with
  | none => .next (some t)
  | some atype => if atype ≠ t then .ret false else .next (some atype)

end Atomman.C04
