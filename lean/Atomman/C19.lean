/-
  C19 — model of `atomman.lammps.Log` (atomman/lammps/Log.py).  Core Lean only.

  Strings are Python `str`s, i.e. sequences of code points: `Str := List Char`.  A log is a
  `List Str` (its lines, without terminators).  The driver converts `String ↔ List Char`.

  * `Scan.step` / `scan`   : the single pass of `Log.read` exactly as coded (blank lines skipped and
                             not counted; trigger strings, offsets and the version-prefix test come
                             from `Atomman/Generated/LogTriggers.lean`, regenerated from Log.py)
  * `readThermo`           : `pd.read_csv(header=h, nrows=f-h, sep=r'\s+', skip_blank_lines=True)`
                             — ASSUMED pandas behaviour: row `h` of the non-blank lines is the header,
                             the following `f-h` non-blank lines are the rows, each split on whitespace
  * `readLog`              : `Log.read(log, append)` on the state `(simulations, version, date)`
  * `flattenFirst/Last/All`: `Log.flatten(style)` on rows carrying an integer `Step`
  * `renderLog`            : generator of well-formed logs of the documented layout
-/
import Atomman.Prelude
import Atomman.Generated.LogTriggers

namespace Atomman.C19
open Atomman

abbrev Str := List Char

/-! ### Python string primitives used by Log.py -/

/-- ASCII whitespace (`str.split()`, `str.strip()`; pandas `sep=r'\s+'`). -/
def isWs (c : Char) : Bool :=
  c == ' ' || c == '\t' || c == '\n' || c == '\r' || c == '\x0b' || c == '\x0c'

/-- `len(line.split()) == 0` -/
def isBlank (l : Str) : Bool := l.all isWs

/-- `cur` is the current token, reversed. -/
def splitWsAux : Str → Str → List Str
  | cur, [] => if cur.isEmpty then [] else [cur.reverse]
  | cur, c :: cs =>
    if isWs c then (if cur.isEmpty then splitWsAux [] cs else cur.reverse :: splitWsAux [] cs)
    else splitWsAux (c :: cur) cs

/-- `line.split()` -/
def splitWs (l : Str) : List Str := splitWsAux [] l

/-- `line.strip()` -/
def strip (l : Str) : Str := ((l.dropWhile isWs).reverse.dropWhile isWs).reverse

/-- `t in l` -/
def containsStr (t : Str) : Str → Bool
  | [] => t.isEmpty
  | c :: cs => t.isPrefixOf (c :: cs) || containsStr t cs

/-- `any([trigger in line for trigger in triggers])` -/
def hasAny (ts : List Str) (l : Str) : Bool := ts.any (fun t => containsStr t l)

/-- `s.split(d)` for a single-character separator. -/
def splitOnChar (d : Char) : Str → List Str
  | [] => [[]]
  | c :: cs =>
    match splitOnChar d cs with
    | [] => [[c]]   -- unreachable
    | t :: ts => if c == d then [] :: t :: ts else (c :: t) :: ts

def thermoStart : List Str := Gen.Log.thermoStartTrigger.map String.toList
def thermoEnd : List Str := Gen.Log.thermoEndTrigger.map String.toList
def perfStart : List Str := Gen.Log.performanceStartTrigger.map String.toList
def perfStartOld : List Str := Gen.Log.performanceStartTriggerOld.map String.toList
def perfEnd : List Str := Gen.Log.performanceEndTrigger.map String.toList
def versionPrefix : Str := Gen.Log.versionPrefix.toList

/-- `line[:8] == 'LAMMPS ('` -/
def isVersionLine (l : Str) : Bool := l.take Gen.Log.versionPrefixLen == versionPrefix

/-! ### the single pass -/

structure Scan where
  i : Nat := 0
  /-- `self.lammps_version is None` is false -/
  haveVersion : Bool := false
  /-- the line handed to `__read_lammps_version` -/
  versionLine : Option Str := none
  thermoHeaders : List Int := []
  thermoFooters : List Int := []
  perfHeaders : List Int := []
  /-- index (within this read) of the run a timing breakdown belongs to -/
  perfSims : List Int := []
  perfFooters : List Int := []
  isOld : Bool := false
deriving Repr

/-- the body of `for line in log_info:` -/
def Scan.step (s : Scan) (line : Str) : Scan :=
  if isBlank line then s else
  let s := if isVersionLine line && (!s.haveVersion || !Gen.Log.versionOnlyIfUnset) then
      { s with versionLine := some line, haveVersion := true } else s
  let s :=
    if hasAny thermoStart line then
      { s with thermoHeaders := s.thermoHeaders ++ [(s.i : Int) + Gen.Log.thermoHeaderOffset] }
    else if hasAny thermoEnd line then
      { s with thermoFooters := s.thermoFooters ++ [(s.i : Int) + Gen.Log.thermoFooterOffset] }
    else s
  let s :=
    if hasAny perfStart line then
      { s with perfHeaders := s.perfHeaders ++ [(s.i : Int) + Gen.Log.perfHeaderOffset],
               perfSims := s.perfSims ++ [(s.thermoHeaders.length : Int) - 1] }
    else s
  let s :=
    if hasAny perfStartOld line then
      { s with perfHeaders := s.perfHeaders ++ [(s.i : Int) + Gen.Log.perfHeaderOldOffset],
               perfSims := s.perfSims ++ [(s.thermoHeaders.length : Int) - 1],
               isOld := true }
    else if hasAny perfEnd line && decide (s.perfFooters.length < s.perfHeaders.length) then
      { s with perfFooters := s.perfFooters ++ [(s.i : Int) + Gen.Log.perfFooterOffset] }
    else s
  { s with i := s.i + 1 }

def scan (init : Scan) (lines : List Str) : Scan := lines.foldl Scan.step init

/-! ### tables -/

inductive Err | value | index | key | parser | assert | attr | type
deriving DecidableEq, Repr

def Err.name : Err → String
  | .value => "value" | .index => "index" | .key => "key" | .parser => "parser"
  | .assert => "assert" | .attr => "attr" | .type => "type"

structure Table where
  cols : List Str
  rows : List (List Str)
deriving DecidableEq, Repr

/-- lines that both the counter and (assumed) pandas keep. -/
def nonBlank (lines : List Str) : List Str := lines.filter (fun l => !isBlank l)

/-- `pd.read_csv(log, header=header, nrows=footer-header, sep=r'\s+', skip_blank_lines=True)` on the
    non-blank lines `nb` (assumed pandas behaviour, see ASSUMPTIONS). -/
def readThermo (nb : List Str) (header footer : Int) : Except Err Table :=
  if footer - header < 0 then .error .value
  else if header < 0 then .error .value
  else match nb[header.toNat]? with
    | none => .error .parser
    | some h =>
      let cols := splitWs h
      let rows := ((nb.drop (header.toNat + 1)).take (footer - header).toNat).map splitWs
      if rows.any (fun r => decide (cols.length < r.length)) then .error .parser
      else .ok ⟨cols, rows⟩

/-- `for header, footer in zip(thermo_headers, thermo_footers): self.__read_thermo(...)` -/
def readBlocks (nb : List Str) : List Int → List Int → Except Err (List Table)
  | h :: hs, f :: fs =>
    match readThermo nb h f with
    | .error e => .error e
    | .ok t =>
      match readBlocks nb hs fs with
      | .error e => .error e
      | .ok ts => .ok (t :: ts)
  | _, _ => .ok []

/-! ### version and date -/

structure Date where
  year : Nat
  month : Nat
  day : Nat
deriving DecidableEq, Repr

/-- `line.strip()[8:-1]` -/
def dropEnd (l : Str) (n : Nat) : Str := l.take (l.length - n)

def extractVersion (line : Str) : Str :=
  dropEnd ((strip line).drop Gen.Log.versionSliceStart) Gen.Log.versionSliceDropEnd

def digitVal? (c : Char) : Option Nat :=
  if '0' ≤ c ∧ c ≤ '9' then some (c.toNat - '0'.toNat) else none

/-- `int(s)` for plain decimal digit strings (anything else: `ValueError`). -/
def parseNat? (s : Str) : Option Nat :=
  if s.isEmpty then none else
  s.foldl (fun acc c => match acc, digitVal? c with
    | some a, some d => some (10 * a + d)
    | _, _ => none) (some 0)

def monthLookup (m : Str) : Option Nat :=
  (Gen.Log.monthTable.find? (fun p => p.1.toList == m)).map (·.2)

def isLeap (y : Nat) : Bool := y % 4 == 0 && (y % 100 != 0 || y % 400 == 0)

def daysInMonth (y m : Nat) : Nat :=
  if m == 2 then (if isLeap y then 29 else 28)
  else if m == 4 || m == 6 || m == 9 || m == 11 then 30 else 31

/-- `d = version.split('-')[0].split(); datetime.date(int(d[2]), month[d[1]], int(d[0]))` -/
def dateOf (version : Str) : Except Err Date :=
  let d := splitWs (version.takeWhile (· != '-'))
  match d with
  | dd :: mm :: yy :: _ =>
    match parseNat? yy with
    | none => .error .value
    | some y =>
      match monthLookup mm with
      | none => .error .key
      | some m =>
        match parseNat? dd with
        | none => .error .value
        | some day =>
          if 1 ≤ y ∧ y ≤ 9999 ∧ 1 ≤ m ∧ m ≤ 12 ∧ 1 ≤ day ∧ day ≤ daysInMonth y m then .ok ⟨y, m, day⟩
          else .error .value
  | _ => .error .index

/-! ### performance tables (timing breakdown); that reading them does not raise is proved (`read_breakdown`,
    `read_breakdown_old`), their content is compared in the correspondence only -/

structure Perf where
  cols : List Str
  rows : List (Str × List Str)
deriving DecidableEq, Repr

/-- new layout: `sep='|'`, first row (dashes) dropped, columns stripped, index `Section`,
    blank cells become `0.0`. -/
def readPerfNew (nb : List Str) (header footer : Int) : Except Err Perf :=
  if footer - header < 0 then .error .value
  else if header < 0 then .error .value
  else match nb[header.toNat]? with
    | none => .error .parser
    | some h =>
      let cols := (splitOnChar '|' h).map strip
      let raw := ((nb.drop (header.toNat + 1)).take (footer - header).toNat).map (splitOnChar '|')
      if raw.any (fun r => decide (cols.length < r.length)) then .error .parser
      else match raw with
        | [] => .error .key
        | _ :: rest =>
          if cols.head? != some "Section".toList then .error .key
          else .ok ⟨cols.drop 1, rest.map (fun r =>
            (strip (r.headD []),
             (List.range (cols.length - 1)).map (fun k =>
               match r[k + 1]? with
               | none => "nan".toList
               | some c => if isBlank c then "0.0".toList else strip c)))⟩

/-- old layout: `sep='='`, the header line is the first row; `name = time (percent)`. -/
def readPerfOld (nb : List Str) (header footer : Int) : Except Err Perf :=
  if footer - header < 0 then .error .value
  else if header < 0 then .error .value
  else match nb[header.toNat]? with
    | none => .error .parser
    | some _ =>
      let raw := ((nb.drop header.toNat).take ((footer - header).toNat + 1)).map (splitOnChar '=')
      if raw.any (fun r => r.length != 2) then .error .parser
      else .ok ⟨["avg. Time".toList, "%".toList], raw.map (fun r =>
        let v := r.getD 1 []
        (strip (r.headD []),
         [strip (v.takeWhile (· != '(')),
          strip (((v.dropWhile (· != '(')).drop 1).takeWhile (· != ')'))]))⟩

structure Sim where
  thermo : Table
  perf : Option Perf := none
deriving DecidableEq, Repr

/-- Python list indexing with negative wrap-around. -/
def pyIndex? (len : Nat) (k : Int) : Option Nat :=
  if 0 ≤ k then (if k.toNat < len then some k.toNat else none)
  else if 0 ≤ k + len then some (k + len).toNat else none

/-- `for i in range(len(performance_footers)): …; self.simulations[sim[i]+j].performance = …` -/
def assignPerf (nb : List Str) (isOld : Bool) (j : Nat) :
    List Int → List Int → List Int → List Sim → Except Err (List Sim)
  | _, _, [], sims => .ok sims
  | h :: hs, k :: ks, f :: fs, sims =>
    match (if isOld then readPerfOld nb h f else readPerfNew nb h f) with
    | .error e => .error e
    | .ok p =>
      match pyIndex? sims.length (k + j) with
      | none => .error .index
      | some idx =>
        assignPerf nb isOld j hs ks fs (sims.modify idx (fun s => { s with perf := some p }))
  | _, _, _ :: _, _ => .error .index

/-! ### Log.read -/

structure LogState where
  sims : List Sim := []
  version : Option Str := none
  date : Option Date := none
deriving DecidableEq, Repr

def LogState.empty : LogState := {}

/-- `if append is False:` — what is reset comes from the source. -/
def LogState.reset (st : LogState) : LogState where
  sims := if Gen.Log.resetSimulations then [] else st.sims
  version := if Gen.Log.resetVersion then none else st.version
  date := if Gen.Log.resetDate then none else st.date

/-- the thermo tables found in `lines` (independent of the state). -/
def thermoTables (sc : Scan) (lines : List Str) : Except Err (List Table) :=
  readBlocks (nonBlank lines) sc.thermoHeaders
    (sc.thermoFooters ++ [(sc.i : Int) + Gen.Log.thermoFinalFooterOffset])

/-- `Log.read(lines, append)` -/
def readLog (st : LogState) (append : Bool) (lines : List Str) : Except Err LogState :=
  let st := if append then st else st.reset
  let sc := scan { haveVersion := st.version.isSome } lines
  let vd : Except Err (Option Str × Option Date) :=
    match sc.versionLine with
    | none => .ok (st.version, st.date)
    | some l =>
      let v := extractVersion l
      match dateOf v with
      | .error e => .error e
      | .ok d => .ok (some v, some d)
  match vd with
  | .error e => .error e
  | .ok (version, date) =>
    match thermoTables sc lines with
    | .error e => .error e
    | .ok tables =>
      let sims := st.sims ++ tables.map (fun t => ({ thermo := t } : Sim))
      match assignPerf (nonBlank lines) sc.isOld st.sims.length sc.perfHeaders sc.perfSims sc.perfFooters sims with
      | .error e => .error e
      | .ok sims => .ok { sims := sims, version := version, date := date }

/-! ### from the text of a log to its lines

`for line in log_info` on the binary stream ends a line at `\n` and nowhere else (and so does LAMMPS, and the C parser
of pandas for text that holds no lone `\r`).  The `\r` of a `\r\n` ending stays at the end of the line, where it is
white space for `split()` / `strip()`.  The characters at which `str.splitlines()` would also break — `\x0b \x0c \x1c
\x1d \x1e U+0085 U+2028 U+2029` — are ordinary characters of the line they stand in. -/

/-- the lines of a text, terminators removed (a final `\n` leaves an empty last line: blank, skipped by everyone). -/
def splitLines (t : Str) : List Str := splitOnChar '\n' t

/-- lines → text, `\n` between them. -/
def joinLines : List Str → Str
  | [] => []
  | [l] => l
  | l :: ls => l ++ '\n' :: joinLines ls

/-- `Log.read(text, append)` on the text itself. -/
def readText (st : LogState) (append : Bool) (t : Str) : Except Err LogState := readLog st append (splitLines t)

/-! ### Log.read on a caller-owned open stream

`uber_open_rmode` passes an open binary stream through: the single pass iterates over it from wherever it stands,
pandas reads from wherever it stands and consumes it, and the `log_info.seek(0)` statements of `Log.read`,
`__read_thermo` and `__read_performance` (which of them exist, and on which side of the read, comes from the source:
`Gen.Log.seek*`) move it back.  The stream object outlives the call, so its position is part of the history. -/

/-- an open binary stream: its content and its position (`k` whole lines consumed, then `c` characters of the next). -/
structure Stream where
  lines : List Str
  k : Nat := 0
  c : Nat := 0
deriving DecidableEq, Repr

/-- what a reader starting at the current position sees. -/
def Stream.rest (s : Stream) : List Str :=
  match s.lines.drop s.k with
  | [] => []
  | l :: ls => l.drop s.c :: ls

/-- `stream.seek(0)` -/
def Stream.seek0 (s : Stream) : Stream := { s with k := 0, c := 0 }

/-- `stream.seek(0)` if the source has the statement. -/
def Stream.seekIf (b : Bool) (s : Stream) : Stream := if b then s.seek0 else s

/-- position after a reader consumed the stream (`for line in stream`; pandas on a log below its chunk size). -/
def Stream.exhaust (s : Stream) : Stream := { s with k := s.lines.length, c := 0 }

/-- is there a `log_info.seek(0)` statement before / after the single pass, before / after the pandas read of
    `__read_thermo`, before / after the pandas read of `__read_performance`. -/
structure SeekFlags where
  beforeScan : Bool
  afterScan : Bool
  thermoBefore : Bool
  thermoAfter : Bool
  perfBefore : Bool
  perfAfter : Bool
deriving DecidableEq, Repr

/-- the seeks of the source. -/
def seekFlags : SeekFlags :=
  ⟨Gen.Log.seekBeforeScan, Gen.Log.seekAfterScan, Gen.Log.thermoSeekBefore, Gen.Log.thermoSeekAfter,
   Gen.Log.perfSeekBefore, Gen.Log.perfSeekAfter⟩

/-- the single pass and every pandas read start at the beginning of the stream: the pass is preceded by a seek; a
    table read either seeks itself or follows a seek (after the pass / after the previous table read). -/
def SeekFlags.sound (f : SeekFlags) : Bool :=
  f.beforeScan && (f.thermoBefore || (f.afterScan && f.thermoAfter)) &&
    (f.perfBefore || (f.afterScan && f.thermoAfter && f.perfAfter))

/-- `__read_thermo(log_info, header, footer)` on the stream as it stands. -/
def readThermoS (f : SeekFlags) (s : Stream) (header footer : Int) : Except Err (Table × Stream) :=
  let s := s.seekIf f.thermoBefore
  match readThermo (nonBlank s.rest) header footer with
  | .error e => .error e
  | .ok t => .ok (t, s.exhaust.seekIf f.thermoAfter)

def readBlocksS (f : SeekFlags) (s : Stream) : List Int → List Int → Except Err (List Table × Stream)
  | h :: hs, ft :: fs =>
    match readThermoS f s h ft with
    | .error e => .error e
    | .ok (t, s) =>
      match readBlocksS f s hs fs with
      | .error e => .error e
      | .ok (ts, s) => .ok (t :: ts, s)
  | _, _ => .ok ([], s)

/-- `__read_performance(log_info, header, footer, is_old_version)` on the stream as it stands. -/
def readPerfS (f : SeekFlags) (s : Stream) (isOld : Bool) (header footer : Int) : Except Err (Perf × Stream) :=
  let s := s.seekIf f.perfBefore
  match (if isOld then readPerfOld (nonBlank s.rest) header footer else readPerfNew (nonBlank s.rest) header footer) with
  | .error e => .error e
  | .ok p => .ok (p, s.exhaust.seekIf f.perfAfter)

def assignPerfS (f : SeekFlags) (s : Stream) (isOld : Bool) (j : Nat) :
    List Int → List Int → List Int → List Sim → Except Err (List Sim × Stream)
  | _, _, [], sims => .ok (sims, s)
  | h :: hs, k :: ks, ft :: fs, sims =>
    match readPerfS f s isOld h ft with
    | .error e => .error e
    | .ok (p, s) =>
      match pyIndex? sims.length (k + j) with
      | none => .error .index
      | some idx =>
        assignPerfS f s isOld j hs ks fs (sims.modify idx (fun x => { x with perf := some p }))
  | _, _, _ :: _, _ => .error .index

/-- `Log.read(stream, append)` with the seeks `f`: the new state of the `Log` and of the stream. -/
def readLogSW (f : SeekFlags) (st : LogState) (append : Bool) (s : Stream) : Except Err (LogState × Stream) :=
  let st := if append then st else st.reset
  let s := s.seekIf f.beforeScan
  let sc := scan { haveVersion := st.version.isSome } s.rest
  let s := s.exhaust.seekIf f.afterScan
  let vd : Except Err (Option Str × Option Date) :=
    match sc.versionLine with
    | none => .ok (st.version, st.date)
    | some l =>
      let v := extractVersion l
      match dateOf v with
      | .error e => .error e
      | .ok d => .ok (some v, some d)
  match vd with
  | .error e => .error e
  | .ok (version, date) =>
    match readBlocksS f s sc.thermoHeaders (sc.thermoFooters ++ [(sc.i : Int) + Gen.Log.thermoFinalFooterOffset]) with
    | .error e => .error e
    | .ok (tables, s) =>
      let sims := st.sims ++ tables.map (fun t => ({ thermo := t } : Sim))
      match assignPerfS f s sc.isOld st.sims.length sc.perfHeaders sc.perfSims sc.perfFooters sims with
      | .error e => .error e
      | .ok (sims, s) => .ok ({ sims := sims, version := version, date := date }, s)

/-- `Log.read(stream, append)` as the source has it. -/
def readLogS (st : LogState) (append : Bool) (s : Stream) : Except Err (LogState × Stream) :=
  readLogSW seekFlags st append s

/-! ### Log.flatten -/

section Flatten
variable {α : Type} (step : α → Int)

/-- `df.Step.max()`; `none` is pandas' NaN of an empty column. -/
def maxStep? : List α → Option Int
  | [] => none
  | r :: rs => some (match maxStep? rs with | none => step r | some m => max (step r) m)

/-- `df.Step.min()` -/
def minStep? : List α → Option Int
  | [] => none
  | r :: rs => some (match minStep? rs with | none => step r | some m => min (step r) m)

/-- `pd.concat([merged, thermo[thermo.Step > merged.Step.max()]])` (comparison with NaN is False; the comparison
    itself is `Gen.Log.firstKeep`, regenerated from the source) -/
def mergeFirst (merged thermo : List α) : List α :=
  merged ++ thermo.filter (fun r => match maxStep? step merged with
    | some m => Gen.Log.firstKeep (step r) m | none => false)

/-- `pd.concat([merged[merged.Step < thermo.Step.min()], thermo])` -/
def mergeLast (merged thermo : List α) : List α :=
  merged.filter (fun r => match minStep? step thermo with
    | some m => Gen.Log.lastKeep (step r) m | none => false) ++ thermo

/-- `pd.concat([merged, thermo])` -/
def mergeAll (merged thermo : List α) : List α := merged ++ thermo

/-- `merged = sims[0]; for sim in sims[1:]: merged = merge merged sim`; `none` is the IndexError of
    `simulations[0]` on an empty list. -/
def flattenWith (merge : List α → List α → List α) : List (List α) → Option (List α)
  | [] => none
  | t :: ts => some (ts.foldl merge t)

def flattenFirst := flattenWith (mergeFirst step)
def flattenLast := flattenWith (mergeLast step)
def flattenAll : List (List α) → Option (List α) := flattenWith mergeAll
end Flatten

/-- a thermo row with its `Step` value and its cells by column name. -/
structure Row where
  step : Int
  cells : List (Str × Str)
deriving Repr

def parseInt? (s : Str) : Option Int :=
  match s with
  | '-' :: ds => (parseNat? ds).map (fun n => -(n : Int))
  | '+' :: ds => (parseNat? ds).map (fun n => (n : Int))
  | ds => (parseNat? ds).map (fun n => (n : Int))

def stepName : Str := "Step".toList

/-- rows with their `Step`; when `needStep` is false (style `all`, which never looks at `Step`) a missing
    or non-integer `Step` is tolerated.  A row too short to reach the `Step` column (pandas pads it with NaN) is
    a non-integer `Step` like any other junk cell: `.type` = comparison not modelled (the caller has already
    answered `.attr` for tables without a `Step` column). -/
def tableRows (needStep : Bool) (t : Table) : Except Err (List Row) :=
  t.rows.mapM (fun r =>
    let cells := t.cols.zip r
    match (cells.find? (fun c => c.1 == stepName)) with
    | none => if needStep then .error .type else .ok ⟨0, cells⟩
    | some c => match parseInt? c.2 with
      | none => if needStep then .error .type else .ok ⟨0, cells⟩
      | some s => .ok ⟨s, cells⟩)

/-- Python slice `l[a:b]` with `None`/negative bounds. -/
def pySlice {β : Type} (l : List β) (a b : Option Int) : List β :=
  let n : Int := l.length
  let norm (x : Option Int) (dflt : Int) : Int :=
    match x with
    | none => dflt
    | some v => if v < 0 then max (v + n) 0 else min v n
  let lo := norm a 0
  let hi := norm b n
  (l.drop lo.toNat).take (hi - lo).toNat

def unionCols (tabs : List Table) : List Str :=
  tabs.foldl (fun acc t => acc ++ t.cols.filter (fun c => !acc.contains c)) []

/-- `Log.flatten(style, firstindex, lastindex).thermo` -/
def flattenTables (style : Str) (tabs : List Table) : Except Err Table :=
  -- the Step assertion
  if tabs.any (fun t => !t.rows.isEmpty && !t.cols.contains stepName) then .error .assert else
  match tabs with
  | [] => .error .index
  | [t] => .ok t
  | t :: ts =>
    let isFirst := style == "first".toList
    let isLast := style == "last".toList
    let isAll := style == "all".toList
    if !(isFirst || isLast || isAll) then .error .value
    -- `merged_df.Step` / `thermo.Step` attribute access on a table without that column
    else if !isAll && (t :: ts).any (fun t => !t.cols.contains stepName) then .error .attr
    else
      match (t :: ts).mapM (tableRows (!isAll)) with
      | .error e => .error e
      | .ok rows =>
        let merged :=
          if isFirst then flattenFirst Row.step rows
          else if isLast then flattenLast Row.step rows
          else flattenAll rows
        match merged with
        | none => .error .index
        | some rs =>
          let cols := unionCols (t :: ts)
          .ok ⟨cols, rs.map (fun r => cols.map (fun c =>
            match r.cells.find? (fun x => x.1 == c) with
            | some x => x.2
            | none => "nan".toList))⟩

/-! ### the log generator (documented layout) -/

/-- one run/minimize block as lines. -/
structure Run where
  /-- the memory-usage line -/
  banner : Str
  /-- blank lines between banner and header -/
  gap : List Str := []
  /-- the line of thermo keywords -/
  header : Str
  /-- the printed thermo lines (blank lines may be interleaved) -/
  body : List Str
  /-- `some (loop, post)`: the run completed: the `Loop time of …` line and everything up to the
      next run (timing breakdown, histograms, echoed commands, warnings);
      `none`: the log stops after `body` (crash) -/
  tail : Option (Str × List Str)

def Run.lines (r : Run) : List Str :=
  [r.banner] ++ r.gap ++ [r.header] ++ r.body ++
    (match r.tail with | none => [] | some (loop, post) => loop :: post)

/-- a whole log: preamble lines then runs. -/
structure Layout where
  head : List Str
  runs : List Run

def Layout.lines (L : Layout) : List Str := L.head ++ L.runs.flatMap Run.lines

/-- the table a run is expected to be read back as. -/
def Run.table (r : Run) : Table := ⟨splitWs r.header, (nonBlank r.body).map splitWs⟩

/-- neither kind of thermo trigger occurs (or the line is blank and never looked at). -/
def Quiet (l : Str) : Prop := isBlank l = true ∨ (hasAny thermoStart l = false ∧ hasAny thermoEnd l = false)

instance (l : Str) : Decidable (Quiet l) := by unfold Quiet; infer_instance

/-- well-formedness of a run; `last` says whether it is the final run of the log. -/
structure Run.WF (r : Run) (last : Bool) : Prop where
  banner_nb : isBlank r.banner = false
  banner_start : hasAny thermoStart r.banner = true
  gap_blank : ∀ l ∈ r.gap, isBlank l = true
  header_nb : isBlank r.header = false
  header_quiet : hasAny thermoStart r.header = false ∧ hasAny thermoEnd r.header = false
  body_quiet : ∀ l ∈ r.body, Quiet l
  body_width : ∀ l ∈ r.body, (splitWs l).length ≤ (splitWs r.header).length
  tail_ok : match r.tail with
    | none => last = true
    | some (loop, post) =>
      isBlank loop = false ∧ hasAny thermoStart loop = false ∧ hasAny thermoEnd loop = true ∧
      ∀ l ∈ post, Quiet l

def runsWF : List Run → Prop
  | [] => True
  | [r] => r.WF true
  | r :: r' :: rs => r.WF false ∧ runsWF (r' :: rs)

structure Layout.WF (L : Layout) : Prop where
  head_quiet : ∀ l ∈ L.head, Quiet l
  runs_ok : runsWF L.runs

/-- the first line handed to `__read_lammps_version`. -/
def firstVersionLine (lines : List Str) : Option Str := (nonBlank lines).find? isVersionLine

/-! #### token-level generator -/

/-- a printed cell: padding (whitespace) then the token. -/
structure Cell where
  pad : Str
  tok : Str

def renderCells (cells : List Cell) (trail : Str) : Str :=
  cells.flatMap (fun c => c.pad ++ c.tok) ++ trail

/-- pads are whitespace, non-empty between tokens; tokens are non-empty and free of whitespace. -/
def cellsOk : Bool → List Cell → Bool
  | _, [] => true
  | first, c :: cs =>
    c.pad.all isWs && (first || !c.pad.isEmpty) && !c.tok.isEmpty && c.tok.all (fun x => !isWs x)
      && cellsOk false cs

inductive Banner
  /-- `Memory usage per processor = <x> Mbytes` -/
  | old (mem : Str)
  /-- `Per MPI rank memory allocation (min/avg/max) = <a> | <b> | <c> Mbytes` -/
  | new (a b c : Str)

def Banner.line : Banner → Str
  | .old m => "Memory usage per processor = ".toList ++ m ++ " Mbytes".toList
  | .new a b c => "Per MPI rank memory allocation (min/avg/max) = ".toList ++ a ++ " | ".toList ++ b
      ++ " | ".toList ++ c ++ " Mbytes".toList

/-- `Loop time of <t> on <p> procs for <s> steps with <a> atoms` -/
def loopLine (t p s a : Str) : Str :=
  "Loop time of ".toList ++ t ++ " on ".toList ++ p ++ " procs for ".toList ++ s
    ++ " steps with ".toList ++ a ++ " atoms".toList

structure RunSpec where
  banner : Banner
  gap : Nat := 0
  header : List Cell
  headerTrail : Str := []
  rows : List (List Cell × Str)
  /-- `some ((t,p,s,a), post)` = completed run; `none` = truncated -/
  tail : Option ((Str × Str × Str × Str) × List Str)

def RunSpec.toRun (r : RunSpec) : Run where
  banner := r.banner.line
  gap := List.replicate r.gap []
  header := renderCells r.header r.headerTrail
  body := r.rows.map (fun x => renderCells x.1 x.2)
  tail := r.tail.map (fun x => (loopLine x.1.1 x.1.2.1 x.1.2.2.1 x.1.2.2.2, x.2))

/-- `LAMMPS (<version>)` then the preamble, then the runs. -/
structure LogSpec where
  version : Str
  head : List Str
  runs : List RunSpec

def versionLineOf (v : Str) : Str := "LAMMPS (".toList ++ v ++ ")".toList

def LogSpec.toLayout (S : LogSpec) : Layout where
  head := versionLineOf S.version :: S.head
  runs := S.runs.map RunSpec.toRun

def renderLog (S : LogSpec) : List Str := S.toLayout.lines

/-- the table of tokens a run spec is expected to be read back as. -/
def RunSpec.table (r : RunSpec) : Table :=
  ⟨r.header.map Cell.tok, r.rows.map (fun x => x.1.map Cell.tok)⟩

/-! ### the `Simulation` object (round 6: `Generated/LogSource.lean` regenerates the setters / `__init__` / `__getitem__`
    from the source and `Proofs/C19_Source.lean` proves them equal to these) -/

/-- a `Simulation` as the object it is: the two tables, and the attribute keys that were set, in the order they were
    set (`keys()`, `__iter__`). -/
structure SimObj where
  thermo : Option Table := none
  perf : Option Perf := none
  keys : List String := []
deriving DecidableEq, Repr

/-- `sim.thermo = value` -/
def SimObj.setThermo (s : SimObj) (v : Table) : SimObj :=
  { s with thermo := some v, keys := if s.keys.contains "thermo" then s.keys else s.keys ++ ["thermo"] }

/-- `sim.performance = value` -/
def SimObj.setPerf (s : SimObj) (v : Perf) : SimObj :=
  { s with perf := some v, keys := if s.keys.contains "performance" then s.keys else s.keys ++ ["performance"] }

/-- `Simulation(thermo=…, performance=…)` -/
def SimObj.init (thermo : Option Table) (perf : Option Perf) : SimObj :=
  let s : SimObj := {}
  let s := match thermo with | some v => s.setThermo v | none => s
  match perf with | some v => s.setPerf v | none => s

/-- `sim[key]`: does it refuse (`KeyError`) -/
def SimObj.getItemRefuses (s : SimObj) (key : String) : Bool := !s.keys.contains key

/-- the object behind a record of the log: `__read_thermo` builds `Simulation(thermo=thermo)`; the timing table, if
    any, is assigned afterwards. -/
def Sim.obj (s : Sim) : SimObj :=
  let o := SimObj.init (some s.thermo) none
  match s.perf with | some p => o.setPerf p | none => o

/-- `list(sim.keys())` of a record of the log -/
def Sim.keys (s : Sim) : List String := s.obj.keys

/-- the object `flatten` returns: `Simulation(thermo=merged_df)` -/
def flattenObj (t : Table) : SimObj := SimObj.init (some t) none

/-! ### the merge loop of `flatten` with the style dispatch inside (as coded: the style is looked at once per merged
    run, so an unsupported style over one record is not refused) -/

section FlattenStyle
variable {α : Type} (step : α → Int)

/-- the `if style == 'first' … elif 'last' … elif 'all' … else raise ValueError` body of the loop -/
def mergeStyle (style : Str) (merged thermo : List α) : Except Err (List α) :=
  if style == "first".toList then .ok (mergeFirst step merged thermo)
  else if style == "last".toList then .ok (mergeLast step merged thermo)
  else if style == "all".toList then .ok (mergeAll merged thermo)
  else .error .value

/-- `for sim in simulations[1:]: merged = …` -/
def mergeLoop (style : Str) (merged : List α) : List (List α) → Except Err (List α)
  | [] => .ok merged
  | t :: ts =>
    match mergeStyle step style merged t with
    | .error e => .error e
    | .ok m => mergeLoop style m ts

/-- `merged_df = simulations[0].thermo` (IndexError on an empty selection), then the loop -/
def flattenStyle (style : Str) : List (List α) → Except Err (List α)
  | [] => .error .index
  | t :: ts => mergeLoop step style t ts
end FlattenStyle

/-! ### call forms: arguments left out take the defaults of the signatures (regenerated from the source) -/

/-- `log.read(x)` / `log.read(x, append)` -/
def readCall (st : LogState) (append : Option Bool) (lines : List Str) : Except Err LogState :=
  readLog st (append.getD Gen.Log.readAppendDefault) lines

/-- `Log()` / `Log(x)`: a new object, read into when something is given -/
def ctorCall (log : Option (List Str)) : Except Err LogState :=
  match log with
  | none => .ok LogState.empty
  | some lines => if Gen.Log.ctorReads then readCall LogState.empty none lines else .ok LogState.empty

/-- `log.flatten()` / `log.flatten(style, firstindex, lastindex)` -/
def flattenCall (st : LogState) (style : Option Str) (a b : Option Int) : Except Err Table :=
  flattenTables (style.getD Gen.Log.flattenStyleDefault.toList) (pySlice (st.sims.map (·.thermo)) a b)

/-! ### the input forms (what `uber_open_rmode` makes of them is an ASSUMPTION: text / bytes / the name of a file -> a
    fresh binary stream over the content; an open binary stream is passed through as it stands; a stream opened in text
    mode is refused with ValueError) -/

/-- how the log is handed over -/
inductive Input
  | text (t : Str)
  | file (content : Str)
  | stream (s : Stream)
  | textStream

/-- `log.read(x, append)` for each input form; the stream (if any) as the call leaves it -/
def readInput (st : LogState) (append : Option Bool) : Input → Except Err (LogState × Option Stream)
  | .text t => (readCall st append (splitLines t)).map (fun st' => (st', none))
  | .file t => (readCall st append (splitLines t)).map (fun st' => (st', none))
  | .stream s => (readLogS st (append.getD Gen.Log.readAppendDefault) s).map (fun r => (r.1, some r.2))
  | .textStream => .error .value

end Atomman.C19
