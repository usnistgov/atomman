/-
  C18 — model of `atomman.defect.GammaSurface` (fit window, periodic wrap, edge blending,
  coordinate conversions, data-model record) and of `atomman.defect.SDVPN` (dislocation density,
  the six energy terms, total, the embedding of the optimiser output between the fixed end rows)
  and of `pn_arctan_disregistry` / `pn_arctan_disldensity`.

  CORE LEAN ONLY.  Everything is polymorphic over a scalar type `K` with core classes, so the same
  definitions run at `K := Rat` in `Drivers/C18.lean` and are reasoned about for every linearly
  ordered field in `Proofs/C18.lean`.

  External numerical routines are PARAMETERS: the radial-basis interpolant `f : K → K → K`
  (scipy `Rbf`), `lg` (numpy `log`), `atan` (numpy `arctan`), `pi`, vector norms (`sqrt`), `fl`
  (`floor`, as in `wrap_cushion`: `a -= np.floor(a + cushion)`), scipy's minimiser (its output is an
  arbitrary list `res`).

  Source: atomman/defect/GammaSurface.py, SDVPN.py, pn_arctan_disregistry.py, pn_arctan_disldensity.py
-/
import Atomman.Prelude

namespace Atomman.C18
open Atomman

variable {K : Type}

/-! ### small numeric helpers -/

section helpers
variable [Add K] [Sub K] [Mul K] [Div K] [Neg K] [Zero K] [One K] [NatCast K] [IntCast K]
  [LT K] [DecidableLT K] [LE K] [DecidableLE K]

/-- `Σ_{i<n} f i`. -/
def sumTo : Nat → (Nat → K) → K
  | 0, _ => 0
  | n + 1, f => sumTo n f + f n

/-- sum of a list (right fold: `a₀ + (a₁ + … + 0)`). -/
def lsum : List K → K
  | [] => 0
  | a :: l => a + lsum l

def absK (a : K) : K := if a < 0 then -a else a

/-- numpy.isclose defaults: `atol = 1e-8`, `rtol = 1e-5`. -/
def tolA : K := (1 : K) / ((100000000 : Nat) : K)
def tolR : K := (1 : K) / ((100000 : Nat) : K)
/-- `atol = 1e-6` of the `assert np.allclose(a123[..., 2], 0.0, atol=1e-6)` in `pos_to_a12`. -/
def tolPlane : K := (1 : K) / ((1000000 : Nat) : K)

/-- `np.isclose(a, b)`. -/
def isclose (a b : K) : Bool := decide (absK (a - b) ≤ tolA + tolR * absK b)

def minOf : List K → Option K
  | [] => none
  | a :: l => match minOf l with
    | none => some a
    | some m => some (if a < m then a else m)

def maxOf : List K → Option K
  | [] => none
  | a :: l => match maxOf l with
    | none => some a
    | some m => some (if m < a then a else m)

def two : K := ((2 : Nat) : K)
def v3zero : V3 K := ⟨0, 0, 0⟩

/-! numpy array primitives used by the definitions generated from the source (`Generated/PNEnergy.lean`) -/

/-- `(A.T / s).T`: row `i` of an (n, 3) array divided by `s[i]`. -/
def npRowDiv (a : List (V3 K)) (s : List K) : List (V3 K) := List.zipWith (fun (v : V3 K) (t : K) => v.map (· / t)) a s
/-- `np.vstack([a, b, c]).T`: the (n, 3) array with columns `a, b, c`. -/
def npVstack3T : List K → List K → List K → List (V3 K)
  | a :: as, b :: bs, c :: cs => ⟨a, b, c⟩ :: npVstack3T as bs cs
  | _, _, _ => []
/-- elementwise product of two rows. -/
def npMulV (a b : V3 K) : V3 K := ⟨a.x * b.x, a.y * b.y, a.z * b.z⟩
/-- `np.sum` of an (n, 3) array. -/
def npSumV (a : List (V3 K)) : K := lsum (a.map (fun v => v.x + v.y + v.z))
/-- `-τ` of a 3 x 3 array. -/
def negM (m : M3 K) : M3 K := ⟨-m.r0, -m.r1, -m.r2⟩

end helpers

/-! ### GammaSurface.fit: 3x3 tiling and the selection window -/

structure Node (K : Type) where
  a1 : K
  a2 : K
  e : K
deriving Repr, BEq, DecidableEq

section fit
variable [Add K] [Sub K] [Mul K] [Div K] [Neg K] [Zero K] [One K] [NatCast K] [IntCast K]
  [LT K] [DecidableLT K] [LE K] [DecidableLE K]

/-- `shortdata`: rows with `a1` or `a2` close to 1 (the duplicated edge) are ignored. -/
def shortData (D : List (Node K)) : List (Node K) :=
  D.filter (fun n => !(isclose n.a1 1 || isclose n.a2 1))

/-- offsets in the order of the two `np.concatenate` calls of `fit`. -/
def tileOffsets : List (Int × Int) :=
  [(-1, -1), (-1, 0), (-1, 1), (0, -1), (0, 0), (0, 1), (1, -1), (1, 0), (1, 1)]

def shiftNode (o : Int × Int) (n : Node K) : Node K := ⟨n.a1 + ((o.1 : Int) : K), n.a2 + ((o.2 : Int) : K), n.e⟩

/-- the 3x3 supercell of values (the energies are repeated unchanged: `[shortdata.E_gsf] * 9`). -/
def tile (S : List (Node K)) : List (Node K) :=
  tileOffsets.flatMap (fun o => S.map (shiftNode o))

/-- `ua[where(isclose(ua, 0))[0][0] - 1] - 1e-8` on the sorted unique values `ua`: the largest value
    below the smallest value that is close to 0, minus `1e-8`. -/
def lowBound (vals : List K) : Option K :=
  match minOf (vals.filter (fun v => isclose v 0)) with
  | none => none
  | some z0 =>
    match maxOf (vals.filter (fun v => decide (v < z0))) with
    | none => none
    | some p => some (p - tolA)

/-- `ua[where(isclose(ua, 1))[0][-1] + 1] + 1e-8`: the smallest value above the largest value that is
    close to 1, plus `1e-8`. -/
def highBound (vals : List K) : Option K :=
  match maxOf (vals.filter (fun v => isclose v 1)) with
  | none => none
  | some o1 =>
    match minOf (vals.filter (fun v => decide (o1 < v))) with
    | none => none
    | some s => some (s + tolA)

structure Window (K : Type) where
  lo1 : K
  hi1 : K
  lo2 : K
  hi2 : K

def Window.mem (w : Window K) (n : Node K) : Bool :=
  decide (w.lo1 ≤ n.a1) && decide (n.a1 ≤ w.hi1) && decide (w.lo2 ≤ n.a2) && decide (n.a2 ≤ w.hi2)

def window? (T : List (Node K)) : Option (Window K) :=
  let v1 := T.map (·.a1)
  let v2 := T.map (·.a2)
  match lowBound v1, highBound v1, lowBound v2, highBound v2 with
  | some l1, some h1, some l2, some h2 => some ⟨l1, h1, l2, h2⟩
  | _, _, _, _ => none

/-- the nodes handed to `Rbf` / `NearestNDInterpolator` (`a1[ix], a2[ix], E_gsf[ix]`), in order. -/
def fitNodes? (D : List (Node K)) : Option (List (Node K)) :=
  let T := tile (shortData D)
  match window? T with
  | none => none
  | some w => some (T.filter w.mem)

/-- `cushion = (1 - data.a.max()) / 2` (maximum over ALL rows, the duplicated edge included). -/
def cushion? (vals : List K) : Option K :=
  match maxOf vals with
  | none => none
  | some m => some ((1 - m) / two)

end fit

/-! ### GammaSurface.E_gsf / delta: wrap, blend weights, evaluation -/

section eval
variable [Add K] [Sub K] [Mul K] [Div K] [Neg K] [Zero K] [One K] [NatCast K] [IntCast K]
  [LT K] [DecidableLT K] [LE K] [DecidableLE K]

/-- `wrap_cushion`: `a -= np.floor(a + cushion)` (its two masked corrections for a rounded-off floor never fire in exact
    arithmetic): the representative of `a` modulo 1 in `[-c, 1-c)`; `fl` is `floor`. -/
def wrap (fl : K → Int) (c a : K) : K := a - ((fl (a + c) : Int) : K)

/-- blend weight: `zone1` below the cushion, 1 above. -/
def wgt (c a : K) : K := if a < c then (a + c) / (two * c) else 1

/-- the blended sum on already wrapped coordinates. -/
def evalE (f : K → K → K) (c1 c2 a1 a2 : K) : K :=
  let x := wgt c1 a1
  let y := wgt c2 a2
  x * y * f a1 a2 + x * (1 - y) * f a1 (a2 + 1) + (1 - x) * y * f (a1 + 1) a2
    + (1 - x) * (1 - y) * f (a1 + 1) (a2 + 1)

/-- `E_gsf(a1=, a2=, smooth=True)` with the interpolant `f` a parameter. -/
def E (fl : K → Int) (f : K → K → K) (c1 c2 a1 a2 : K) : K :=
  evalE f c1 c2 (wrap fl c1 a1) (wrap fl c2 a2)

/-- `E_gsf(a1=, a2=)` asked for MANY points in one call (numpy broadcasting over the query arrays): the list of the
    single-point answers, in the order of the query -- whatever the number of points. -/
def EMany (fl : K → Int) (f : K → K → K) (c1 c2 : K) (qs : List (K × K)) : List K :=
  qs.map (fun q => E fl f c1 c2 q.1 q.2)

/-- `wrap_unit`, the wrap of `delta` and of the `smooth=False` branch: `a[a > 1] -= ceil(a) - 1; a[a < 0] -= floor(a)`
    (`cl` is `ceil`): values in `[0, 1]` stay, others land in `(0, 1]` from above, `[0, 1)` from below. -/
def wrapN (fl cl : K → Int) (a : K) : K :=
  if 1 < a then a - (((cl a - 1 : Int)) : K) else if a < 0 then a - ((fl a : Int) : K) else a

/-- `delta(a1=, a2=, smooth=True)`: no blending. -/
def deltaEval (fl cl : K → Int) (f : K → K → K) (a1 a2 : K) : K := f (wrapN fl cl a1) (wrapN fl cl a2)

end eval

/-! ### coordinate conversions -/

section conv
variable [Add K] [Sub K] [Mul K] [Div K] [Neg K] [Zero K] [One K] [NatCast K] [IntCast K]
  [LT K] [DecidableLT K] [LE K] [DecidableLE K]

/-- `np.dot(a1vect, box.vects)`. -/
def cartOf (v : V3 K) (B : M3 K) : V3 K := M3.vecMul v B

/-- `a12_to_pos`: `outer(a1, A1) + outer(a2, A2)` (`A1`, `A2` Cartesian). -/
def a12ToPos (A1 A2 : V3 K) (a : K × K) : V3 K := V3.smul a.1 A1 + V3.smul a.2 A2

/-- the linear solve of `pos_to_a12`: `[A1 A2 A1×A2]ᵀ-columns · a123 = pos`. -/
def posToA123 (A1 A2 : V3 K) (p : V3 K) : V3 K := M3.vecMul p (M3.inv ⟨A1, A2, V3.cross A1 A2⟩)

def maxK (a b : K) : K := if a < b then b else a

/-- the out-of-plane test of `pos_to_a12`, free of the unit of length.  The code solves in the basis
    `[A1, A2, c / |c|^(1/2)]`, `c = A1 × A2`, and asserts `|a3'| ≤ 1e-6 · max(1, |a1|, |a2|)` per position.  With `a3` the
    coefficient of `c` itself (`posToA123`), `a3' = a3 · |c|^(1/2)`, so the test reads `a3² |c| ≤ tol² M²`; both sides are
    non-negative, hence (squared once more, no roots) `a3⁴ (c·c) ≤ tol⁴ M⁴`. -/
def inPlaneOk (A1 A2 : V3 K) (a : V3 K) : Bool :=
  let c := V3.cross A1 A2
  let M := maxK 1 (maxK (absK a.x) (absK a.y))
  decide (((a.z * a.z) * (a.z * a.z)) * V3.dot c c ≤ ((tolPlane * tolPlane) * (tolPlane * tolPlane)) * ((M * M) * (M * M)))

/-- `pos_to_a12` with its out-of-plane assertion. -/
def posToA12? (A1 A2 : V3 K) (p : V3 K) : Option (K × K) :=
  let a := posToA123 A1 A2 p
  if inPlaneOk A1 A2 a then some (a.x, a.y) else none

def posToA12 (A1 A2 : V3 K) (p : V3 K) : K × K :=
  let a := posToA123 A1 A2 p
  (a.x, a.y)

/-- `planenormal = cross(A1, A2) / norm`; `nn` stands for the norm. -/
def planeNormal (A1 A2 : V3 K) (nn : K) : V3 K := (V3.cross A1 A2).map (· / nn)

/-- rows `xvect, planenormal × xvect, planenormal`, each divided by its norm (`nx ny nz`). -/
def xyTransform (X Nh : V3 K) (nx ny nz : K) : M3 K :=
  ⟨X.map (· / nx), (V3.cross Nh X).map (· / ny), Nh.map (· / nz)⟩

/-- the guard `isclose(dot(xvect, planenormal) / norm(xvect), 0)`: `|X·N̂| ≤ 1e-8 |X|`, written without the root as
    `(X·N̂)² ≤ (1e-8)² (X·X)`; a zero `xvect` (0/0 in the code) is refused. -/
def xvectOk (X Nh : V3 K) : Bool :=
  decide (V3.dot X Nh * V3.dot X Nh ≤ (tolA * tolA) * V3.dot X X) && decide (0 < V3.dot X X)

def posToXY (T : M3 K) (p : V3 K) : K × K := (V3.dot T.r0 p, V3.dot T.r1 p)

def xyToPos (T : M3 K) (q : K × K) : V3 K := M3.mulVec (M3.inv T) ⟨q.1, q.2, 0⟩

/-! API level: the default plotting axis and the `pos=` / `x=, y=` entry points of `E_gsf` / `delta` -/

/-- `xvect=None` → `np.dot(a1vect, box.vects)`, i.e. the Cartesian `A1` (in BOTH directions). -/
def xyDefaultX (A1 : V3 K) (xvect : Option (V3 K)) : V3 K := xvect.getD A1

/-- `pos_to_xy(pos, xvect)`: `none` is the `ValueError` of the in-plane guard. -/
def posToXYApi (A1 A2 : V3 K) (nn nx ny nz : K) (xvect : Option (V3 K)) (p : V3 K) : Option (K × K) :=
  let X := xyDefaultX A1 xvect
  let Nh := planeNormal A1 A2 nn
  if xvectOk X Nh then some (posToXY (xyTransform X Nh nx ny nz) p) else none

/-- `xy_to_pos(x, y, xvect)`. -/
def xyToPosApi (A1 A2 : V3 K) (nn nx ny nz : K) (xvect : Option (V3 K)) (q : K × K) : Option (V3 K) :=
  let X := xyDefaultX A1 xvect
  let Nh := planeNormal A1 A2 nn
  if xvectOk X Nh then some (xyToPos (xyTransform X Nh nx ny nz) q) else none

/-- a query of `E_gsf` / `delta`: fractional (`a1=, a2=`), Cartesian (`pos=`) or plotting (`x=, y=, xvect=`). -/
inductive Query (K : Type) where
  | a12 (a : K × K)
  | pos (p : V3 K)
  | xy (q : K × K) (xvect : Option (V3 K))

/-- the fractional coordinates a query is reduced to (`xy_to_a12`, `pos_to_a12`); `none` = refused. -/
def Query.toA12? (A1 A2 : V3 K) (nn nx ny nz : K) : Query K → Option (K × K)
  | .a12 a => some a
  | .pos p => posToA12? A1 A2 p
  | .xy q xv => (xyToPosApi A1 A2 nn nx ny nz xv q).bind (posToA12? A1 A2)

/-- `E_gsf(**kwargs)` for any of the three kinds of query (`gam` is `E` on fractional coordinates). -/
def EofQuery (gam : K → K → K) (A1 A2 : V3 K) (nn nx ny nz : K) (q : Query K) : Option K :=
  (q.toA12? A1 A2 nn nx ny nz).map (fun a => gam a.1 a.2)

/-- `E_gsf(a1=, a2=, a1vect=, a2vect=)`: fractional coordinates given relative to OTHER shift vectors `B1`, `B2`
    (Cartesian) are converted to a position and back to the surface's own fractional coordinates. -/
def otherBasisToA12? (A1 A2 B1 B2 : V3 K) (a : K × K) : Option (K × K) :=
  posToA12? A1 A2 (a12ToPos B1 B2 a)

/-- queries given TOGETHER WITH the `a1vect=` / `a2vect=` keywords (Cartesian `B1`, `B2`): fractional coordinates are
    relative to `B1, B2`; a Cartesian position is absolute (the keywords do not matter); plotting coordinates take
    `B1` as their default x axis.  All three are reduced with the surface's OWN shift vectors. -/
def Query.toA12Other? (A1 A2 B1 B2 : V3 K) (nn nx ny nz : K) : Query K → Option (K × K)
  | .a12 a => otherBasisToA12? A1 A2 B1 B2 a
  | .pos p => posToA12? A1 A2 p
  | .xy q xv => (xyToPosApi A1 A2 nn nx ny nz (some (xv.getD B1)) q).bind (posToA12? A1 A2)

/-! data-model record: energies are written divided by the unit factor `u` and read back times it -/

structure GsfRecord (K : Type) where
  box : M3 K
  a1vect : V3 K
  a2vect : V3 K
  a1 : List K
  a2 : List K
  e : List K
  delta : Option (List K)

def toModel (ue ul : K) (g : GsfRecord K) : GsfRecord K :=
  { g with e := g.e.map (· / ue), delta := g.delta.map (fun d => d.map (· / ul)) }

def ofModel (ue ul : K) (g : GsfRecord K) : GsfRecord K :=
  { g with e := g.e.map (· * ue), delta := g.delta.map (fun d => d.map (· * ul)) }

/-- `miller.vector4to3` as used by `GammaSurface.set` for 4-index (Miller-Bravais) shift vectors `[u v t w]`:
    refused unless `u + v + t` is (all)close to 0. -/
def vec4to3? (u v t w : K) : Option (V3 K) :=
  if absK (u + v + t) ≤ tolA then some ⟨two * u + v, two * v + u, w⟩ else none

/-! #### the GammaSurface OBJECT: `set()` / `model(model=…)` replace the whole state; every query reads the
    CURRENT state (shift vectors, box, data) — nothing is remembered from earlier data -/

structure GObj (K : Type) where
  r : GsfRecord K

inductive GOp (K : Type) where
  | set (r : GsfRecord K)
  | loadModel (ue ul : K) (m : GsfRecord K)

def GObj.apply (_o : GObj K) : GOp K → GObj K
  | .set r => ⟨r⟩
  | .loadModel ue ul m => ⟨ofModel ue ul m⟩

def GObj.run (o : GObj K) (ops : List (GOp K)) : GObj K := ops.foldl GObj.apply o

/-- Cartesian shift vectors of the CURRENT state: `np.dot(self.a1vect, self.box.vects)`. -/
def GObj.A1 (o : GObj K) : V3 K := cartOf o.r.a1vect o.r.box
def GObj.A2 (o : GObj K) : V3 K := cartOf o.r.a2vect o.r.box

def zipNodes (a1 a2 e : List K) : List (Node K) :=
  (a1.zip (a2.zip e)).map (fun t => ⟨t.1, t.2.1, t.2.2⟩)

def GObj.nodesE (o : GObj K) : List (Node K) := zipNodes o.r.a1 o.r.a2 o.r.e
def GObj.nodesD (o : GObj K) : Option (List (Node K)) := o.r.delta.map (zipNodes o.r.a1 o.r.a2)

/-- nodes of the energy fit / of the plane-separation fit (`none` second level: no delta data). -/
def GObj.fitE? (o : GObj K) : Option (List (Node K)) := fitNodes? o.nodesE
def GObj.fitD? (o : GObj K) : Option (List (Node K)) := o.nodesD.bind fitNodes?
def GObj.cushions? (o : GObj K) : Option (K × K) :=
  match cushion? o.r.a1, cushion? o.r.a2 with
  | some c1, some c2 => some (c1, c2)
  | _, _ => none

def GObj.a12ToPos (o : GObj K) (a : K × K) : V3 K := C18.a12ToPos o.A1 o.A2 a
def GObj.posToA12? (o : GObj K) (p : V3 K) : Option (K × K) := C18.posToA12? o.A1 o.A2 p
def GObj.toA12? (o : GObj K) (nn nx ny nz : K) (q : Query K) : Option (K × K) := q.toA12? o.A1 o.A2 nn nx ny nz
def GObj.posToXY (o : GObj K) (nn nx ny nz : K) (xv : Option (V3 K)) (p : V3 K) : Option (K × K) :=
  posToXYApi o.A1 o.A2 nn nx ny nz xv p
def GObj.xyToPos (o : GObj K) (nn nx ny nz : K) (xv : Option (V3 K)) (q : K × K) : Option (V3 K) :=
  xyToPosApi o.A1 o.A2 nn nx ny nz xv q
/-- `obj.model(length_unit=, energyperarea_unit=)`. -/
def GObj.model (ue ul : K) (o : GObj K) : GsfRecord K := toModel ue ul o.r

end conv

/-! ### SDVPN -/

section sdvpn
variable [Add K] [Sub K] [Mul K] [Div K] [Neg K] [Zero K] [One K] [NatCast K] [IntCast K]
  [LT K] [DecidableLT K] [LE K] [DecidableLE K]

/-- `x[1] - x[0]`. -/
def gridStep (x : List K) : K := x.getD 1 0 - x.getD 0 0

/-- `disldensity`: `(δ[k:] - δ[:-k]) / (x[k:] - x[:-k])`, `k = 2` for central difference else 1. -/
def disldensity (cdiff : Bool) (x : List K) (d : List (V3 K)) : List (V3 K) :=
  let k := if cdiff then 2 else 1
  List.zipWith (fun (dd : V3 K) (dx : K) => dd.map (· / dx))
    (List.zipWith (· - ·) (d.drop k) d) (List.zipWith (· - ·) (x.drop k) x)

/-- `misfit_energy`: `Δx Σ γ(pos)`, `pos = (δx, 0, δz) · transform`; `gam` is the gamma surface. -/
def misfitEnergy (gam : V3 K → K) (T : M3 K) (x : List K) (d : List (V3 K)) : K :=
  gridStep x * lsum (d.map (fun δ => gam (M3.vecMul ⟨δ.x, 0, δ.z⟩ T)))

/-- `ψ(i,j,Δx) = ½ (i-j)² Δx² ln(|i-j| Δx)`, NaN (at `i = j`) replaced by 0; `dd = i - j`. -/
def psi (lg : K → K) (dx : K) (dd : Int) : K :=
  if dd = 0 then 0
  else (1 : K) / two * (((dd : Int) : K) * ((dd : Int) : K)) * (dx * dx) * lg (((dd.natAbs : Nat) : K) * dx)

/-- `χ(i,j,Δx) = 3/2 Δx² + ψ(i-1,j-1) + ψ(i,j) - ψ(i,j-1) - ψ(j,i-1)`. -/
def chi (lg : K → K) (dx : K) (i j : Int) : K :=
  ((3 : Nat) : K) / two * (dx * dx)
    + (psi lg dx ((i - 1) - (j - 1)) + psi lg dx (i - j) - psi lg dx (i - (j - 1)) - psi lg dx (j - (i - 1)))

/-- `np.inner(ρ[i].dot(K), ρ[j])`. -/
def kform (Kt : M3 K) (a b : V3 K) : K := V3.dot (M3.vecMul a Kt) b

/-- bilinear form behind the elastic term on densities given as index functions. -/
def elasticB (lg : K → K) (pi dx : K) (Kt : M3 K) (n : Nat) (ρ σ : Nat → V3 K) : K :=
  sumTo n (fun i =>
    sumTo n (fun j => chi lg dx (i : Int) (j : Int) * kform Kt (ρ i) (σ j)) / (((4 : Nat) : K) * pi))

/-- the elastic term as a function of the density (loop over `i`, vectorised over `j`). -/
def elasticOfDensity (lg : K → K) (pi dx : K) (Kt : M3 K) (ρ : List (V3 K)) : K :=
  elasticB lg pi dx Kt ρ.length (fun i => ρ.getD i v3zero) (fun i => ρ.getD i v3zero)

/-- `elastic_energy`. -/
def elasticEnergy (lg : K → K) (pi : K) (Kt : M3 K) (cdiff : Bool) (x : List K) (d : List (V3 K)) : K :=
  elasticOfDensity lg pi (gridStep x) Kt (disldensity cdiff x d)

/-- `longrange_energy = (b·K·b) ln(L) / (2π)`; `logL` stands for `ln(cutofflongrange)`. -/
def longrangeEnergy (pi logL : K) (Kt : M3 K) (b : V3 K) : K :=
  kform Kt b b * logL / (two * pi)

/-- `stress_energy`; `τ1 = tau[1, :]`. -/
def stressEnergy (full cdiff : Bool) (τ1 : V3 K) (x : List K) (d : List (V3 K)) : K :=
  let mh : K := -((1 : K) / two)
  if full then
    let ρ := disldensity cdiff x d
    let w := List.zipWith (fun (a b : K) => a * a - b * b) (x.drop 1) x
    mh * lsum (List.zipWith (fun (wi : K) (r : V3 K) => wi * V3.dot r τ1) w ρ)
  else
    let dx := gridStep x
    mh * lsum (List.zipWith (fun (a b : V3 K) => V3.dot (-τ1) (V3.smul dx (a + b))) d (d.drop 1))

/-- `stress_energy` from the full 3 x 3 stress array `tau`: the documented `τ_2l` is the SECOND ROW `tau[1, :]`. -/
def stressEnergyT (full cdiff : Bool) (τ : M3 K) (x : List K) (d : List (V3 K)) : K :=
  stressEnergy full cdiff τ.r1 x d

/-- `surface_energy = Σ dot(ρ² Δx, β) / 4 = Σ_j β_lj / 4 Σ_i ρ_l[i]² Δx`: the squared density component `l`
    is contracted with the FIRST index of `β` (row `l`), all columns `j` summed. -/
def surfaceEnergy (cdiff : Bool) (β : M3 K) (x : List K) (d : List (V3 K)) : K :=
  let dx := gridStep x
  lsum ((disldensity cdiff x d).map (fun r =>
    let q : V3 K := ⟨r.x * r.x * dx, r.y * r.y * dx, r.z * r.z * dx⟩
    let w := M3.vecMul q β
    w.x + w.y + w.z)) / ((4 : Nat) : K)

/-- one `α_m` contribution of `nonlocal_energy`: `Σ_i δ[i]·(δ[i] - ½(δ[i+m] + δ[i-m])) Δx`. -/
def nonlocalTerm (dx : K) (m : Nat) (d : List (V3 K)) : K :=
  lsum (List.zipWith (fun (c : V3 K) (pq : V3 K × V3 K) =>
      let dd := c - V3.smul ((1 : K) / two) (pq.1 + pq.2)
      (c.x * dd.x * dx + c.y * dd.y * dx + c.z * dd.z * dx))
    (d.drop m) (List.zip (d.drop (2 * m)) d))

/-- `nonlocal_energy = Σ_m α_m …`, `m = 1, 2, …`. -/
def nonlocalFrom (dx : K) (d : List (V3 K)) : Nat → List K → K
  | _, [] => 0
  | m, α :: αs => α * nonlocalTerm dx m d + nonlocalFrom dx d (m + 1) αs

def nonlocalEnergy (αs : List K) (x : List K) (d : List (V3 K)) : K := nonlocalFrom (gridStep x) d 1 αs

/-! constructor: the Volterra solution expressed in its `[m, n, ξ]` frame (`M` has rows `m, n, ξ`) -/

/-- `mnξ.dot(K_tensor.dot(mnξ.T))`. -/
def frameK (M Kv : M3 K) : M3 K := M3.mul M (M3.mul Kv M.transpose)
/-- `mnξ.dot(burgers)`. -/
def frameB (M : M3 K) (b : V3 K) : V3 K := M3.mulVec M b
/-- `np.matmul(mnξ, transform)`. -/
def frameT (M T : M3 K) : M3 K := M3.mul M T

/-- all settings of an SDVPN object that enter the energy. -/
structure Settings (K : Type) where
  Kt : M3 K
  burgers : V3 K
  T : M3 K
  τ1 : V3 K
  αs : List K
  β : M3 K
  logL : K
  pi : K
  fullstress : Bool
  cdiffelastic : Bool
  cdiffsurface : Bool
  cdiffstress : Bool

/-- `total_energy`, in the order of the source. -/
def totalEnergy (lg : K → K) (gam : V3 K → K) (s : Settings K) (x : List K) (d : List (V3 K)) : K :=
  misfitEnergy gam s.T x d
    + elasticEnergy lg s.pi s.Kt s.cdiffelastic x d
    + longrangeEnergy s.pi s.logL s.Kt s.burgers
    + stressEnergy s.fullstress s.cdiffstress s.τ1 x d
    + nonlocalEnergy s.αs x d
    + surfaceEnergy s.cdiffsurface s.β x d

/-- the six terms, by name, of an object with settings `s` (what `*_energy(x, disregistry)` return). -/
def termsOf (lg : K → K) (gam : V3 K → K) (s : Settings K) (x : List K) (d : List (V3 K)) : List K :=
  [misfitEnergy gam s.T x d, elasticEnergy lg s.pi s.Kt s.cdiffelastic x d,
   longrangeEnergy s.pi s.logL s.Kt s.burgers, stressEnergy s.fullstress s.cdiffstress s.τ1 x d,
   nonlocalEnergy s.αs x d, surfaceEnergy s.cdiffsurface s.β x d]

/-! `solve`: the minimiser works on the interior x and z components only -/

/-- `decompose`: `concatenate([d[1:-1, 0], d[1:-1, 2]])`. -/
def decompose (d : List (V3 K)) : List K :=
  let inner := (d.drop 1).dropLast
  inner.map (·.x) ++ inner.map (·.z)

/-- `recompose`: zero array of `half + 2` rows, first and last rows restored, interior x and z
    columns from the two halves of the vector (interior y stays 0). -/
def recompose (d13 : List K) (first last : V3 K) : List (V3 K) :=
  let half := d13.length / 2
  first :: (List.zipWith (fun (a b : K) => (⟨a, 0, b⟩ : V3 K)) (d13.take half) (d13.drop half)) ++ [last]

/-- the disregistry stored by `solve` for an optimiser result `res` started from `d`. -/
def solveResult (res : List K) (d : List (V3 K)) : List (V3 K) :=
  recompose res (d.headD v3zero) (d.getLastD v3zero)

/-! ### the SDVPN object: state, setters, `solve(**kwargs)`, `load` — the energies read the CURRENT state -/

/-- state of an SDVPN object that the energy methods read. -/
structure Obj (K : Type) where
  s : Settings K
  x : List K
  d : List (V3 K)

/-- keyword arguments of `solve` (`none` = not given = keep the current value); `res` is the optimiser
    output (arbitrary). -/
structure SolveKw (K : Type) where
  x : Option (List K) := none
  d : Option (List (V3 K)) := none
  τ1 : Option (V3 K) := none
  αs : Option (List K) := none
  β : Option (M3 K) := none
  logL : Option K := none
  fullstress : Option Bool := none
  cdiffelastic : Option Bool := none
  cdiffsurface : Option Bool := none
  cdiffstress : Option Bool := none

inductive Op (K : Type) where
  | setTau (τ1 : V3 K)
  | setAlpha (αs : List K)
  | setBeta (β : M3 K)
  | setLogL (l : K)
  | setFull (b : Bool)
  | setCdE (b : Bool)
  | setCdS (b : Bool)
  | setCdT (b : Bool)
  | setX (x : List K)
  | setD (d : List (V3 K))
  | solve (kw : SolveKw K) (res : List K)
  | load (o : Obj K)

/-- defaults of `fullstress, cdiffelastic, cdiffsurface, cdiffstress` of the constructor. -/
def initFlags : Bool × Bool × Bool × Bool := (true, false, true, false)

/-- a fresh object `SDVPN(volterra=, gamma=)` with the flags left at their defaults. -/
def Settings.withInitFlags (s : Settings K) : Settings K :=
  { s with fullstress := initFlags.1, cdiffelastic := initFlags.2.1, cdiffsurface := initFlags.2.2.1, cdiffstress := initFlags.2.2.2 }

/-- python names of the fields of `SolveKw`, in the order of `solve`'s signature (the keywords that enter the energy). -/
def solveKeywords : List String :=
  ["x", "disregistry", "tau", "alpha", "beta", "cutofflongrange", "fullstress", "cdiffelastic", "cdiffsurface", "cdiffstress"]

/-- the "change attribute values if given" block of `solve`. -/
def Obj.applyKw (o : Obj K) (kw : SolveKw K) : Obj K :=
  { s := { o.s with
      τ1 := kw.τ1.getD o.s.τ1, αs := kw.αs.getD o.s.αs, β := kw.β.getD o.s.β, logL := kw.logL.getD o.s.logL,
      fullstress := kw.fullstress.getD o.s.fullstress, cdiffelastic := kw.cdiffelastic.getD o.s.cdiffelastic,
      cdiffsurface := kw.cdiffsurface.getD o.s.cdiffsurface, cdiffstress := kw.cdiffstress.getD o.s.cdiffstress },
    x := kw.x.getD o.x, d := kw.d.getD o.d }

def Obj.apply (o : Obj K) : Op K → Obj K
  | .setTau t => { o with s := { o.s with τ1 := t } }
  | .setAlpha a => { o with s := { o.s with αs := a } }
  | .setBeta b => { o with s := { o.s with β := b } }
  | .setLogL l => { o with s := { o.s with logL := l } }
  | .setFull b => { o with s := { o.s with fullstress := b } }
  | .setCdE b => { o with s := { o.s with cdiffelastic := b } }
  | .setCdS b => { o with s := { o.s with cdiffsurface := b } }
  | .setCdT b => { o with s := { o.s with cdiffstress := b } }
  | .setX x => { o with x := x }
  | .setD d => { o with d := d }
  | .solve kw res => let o' := o.applyKw kw; { o' with d := solveResult res o'.d }
  | .load o' => o'

def Obj.run (o : Obj K) (ops : List (Op K)) : Obj K := ops.foldl Obj.apply o

/-- what the six `*_energy(x, d)` methods and `total_energy(x, d)` of the object return now. -/
def Obj.terms (lg : K → K) (gam : V3 K → K) (o : Obj K) (x : List K) (d : List (V3 K)) : List K :=
  termsOf lg gam o.s x d

def Obj.total (lg : K → K) (gam : V3 K → K) (o : Obj K) (x : List K) (d : List (V3 K)) : K :=
  totalEnergy lg gam o.s x d

/-! ### optional arguments of the energy methods

Every public term method has the signature `(x=None, disregistry=None)` and starts with the block
`if x is None: x = self.x` / `if disregistry is None: disregistry = self.disregistry`: EACH argument falls back to
the stored value ON ITS OWN (a one-sided call `elastic_energy(disregistry=d2)` evaluates `d2` on the stored grid). -/

inductive Term where
  | misfit | elastic | longrange | stress | nonlocal | surface | total
deriving Repr, DecidableEq

/-- the "Default values are class properties" block. -/
def Obj.args (o : Obj K) (xo : Option (List K)) (dO : Option (List (V3 K))) : List K × List (V3 K) :=
  (xo.getD o.x, dO.getD o.d)

/-- one named term for settings `s` on an explicit profile. -/
def termValue (lg : K → K) (gam : V3 K → K) (s : Settings K) (t : Term) (x : List K) (d : List (V3 K)) : K :=
  match t with
  | .misfit => misfitEnergy gam s.T x d
  | .elastic => elasticEnergy lg s.pi s.Kt s.cdiffelastic x d
  | .longrange => longrangeEnergy s.pi s.logL s.Kt s.burgers
  | .stress => stressEnergy s.fullstress s.cdiffstress s.τ1 x d
  | .nonlocal => nonlocalEnergy s.αs x d
  | .surface => surfaceEnergy s.cdiffsurface s.β x d
  | .total => totalEnergy lg gam s x d

/-- `obj.<term>_energy(x=xo, disregistry=dO)` — what the method call returns for ANY subset of the optional arguments. -/
def Obj.call (lg : K → K) (gam : V3 K → K) (o : Obj K) (t : Term) (xo : Option (List K)) (dO : Option (List (V3 K))) : K :=
  termValue lg gam o.s t (o.args xo dO).1 (o.args xo dO).2

/-- the x coordinates returned next to the density: `x[1:]` (neighbour difference) or `x[1:-1]` (central). -/
def densityX (cdiff : Bool) (x : List K) : List K := if cdiff then (x.drop 1).dropLast else x.drop 1

/-- `obj.disldensity(x=xo, disregistry=dO, cdiff=)` → `(newx, ρ)`. -/
def Obj.density (o : Obj K) (xo : Option (List K)) (dO : Option (List (V3 K))) (cdiff : Bool) : List K × List (V3 K) :=
  (densityX cdiff (o.args xo dO).1, disldensity cdiff (o.args xo dO).1 (o.args xo dO).2)

/-! ### refusals of the profile setters and of `solve` (which inputs raise, at which statement, what is stored then) -/

section refusals

/-- what the implementation raises: `AssertionError` of the `x` setter (uneven or not increasing), `IndexError` of `diff[0]`
    (fewer than two points), `AssertionError` of the `disregistry` setter (out-of-plane component), `ValueError` of `.max()` of an
    empty array, `ValueError('x and disregistry are not of the same length')` of `solve`. -/
inductive Refusal where
  | xAssert | xIndex | dAssert | dValue | lengths
deriving Repr, DecidableEq

/-- `diff = value[1:] - value[:-1]`. -/
def xDiffs (x : List K) : List K := List.zipWith (· - ·) (x.drop 1) x

/-- the `x` setter: `assert np.allclose(diff, diff[0], atol=0.0)` (`|diff_i − diff_0| ≤ 1e-5 |diff_0|`), then
    `assert diff[0] > 0`; `none` = accepted. -/
def xSetter? (x : List K) : Option Refusal :=
  match xDiffs x with
  | [] => some .xIndex
  | d0 :: ds =>
    if (d0 :: ds).all (fun t => decide (absK (t - d0) ≤ tolR * absK d0)) && decide (0 < d0) then none else some .xAssert

def maxAbs3 (v : V3 K) : K := maxK (absK v.x) (maxK (absK v.y) (absK v.z))

/-- the `disregistry` setter: `assert np.allclose(value[:,1], 0.0, atol=1e-8 * np.abs(value).max())`. -/
def dSetter? (d : List (V3 K)) : Option Refusal :=
  match maxOf (d.map maxAbs3) with
  | none => some .dValue
  | some m => if d.all (fun v => decide (absK v.y ≤ tolA * m)) then none else some .dAssert

/-- `obj.x = value` / `obj.disregistry = value`: on a refusal nothing is stored. -/
def Obj.setX? (o : Obj K) (x : List K) : Obj K × Option Refusal :=
  match xSetter? x with
  | none => ({ o with x := x }, none)
  | some r => (o, some r)

def Obj.setD? (o : Obj K) (d : List (V3 K)) : Obj K × Option Refusal :=
  match dSetter? d with
  | none => ({ o with d := d }, none)
  | some r => (o, some r)

/-- `solve(**kwargs)` with its refusals, in the order of the source: the `x` keyword goes through its setter first (refused:
    nothing changed), then `disregistry` (refused: the new `x` IS already stored, no other keyword is), then the other keywords,
    then the length check (refused: every keyword is stored), then the minimiser, then the result goes through the `disregistry`
    setter once more (refused: the guess stays). -/
def Obj.solve? (o : Obj K) (kw : SolveKw K) (res : List K) : Obj K × Option Refusal :=
  match kw.x.bind xSetter? with
  | some r => (o, some r)
  | none =>
    let o1 : Obj K := { o with x := kw.x.getD o.x }
    match kw.d.bind dSetter? with
    | some r => (o1, some r)
    | none =>
      let o2 := o.applyKw kw
      if o2.x.length ≠ o2.d.length then (o2, some .lengths)
      else
        match dSetter? (solveResult res o2.d) with
        | some r => (o2, some r)
        | none => ({ o2 with d := solveResult res o2.d }, none)

end refusals

/-! ### analytic arctangent profile -/

/-- `pn_arctan_disregistry`; `normB = |burgers|`, `normLast = |δ[-1] - δ[0]|` of the raw profile. -/
def pnArctanDisregistry (atan : K → K) (pi : K) (x : List K) (b : V3 K) (center hw : K)
    (normalize shift : Bool) (normB normLast : K) : List (V3 K) :=
  let bp : V3 K := b.map (· / pi)
  let bh : V3 K := b.map (· / two)
  let raw := x.map (fun xi => V3.smul (atan ((xi - center) / hw)) bp + bh)
  let r0 := raw.headD v3zero
  let d1 := if normalize then (raw.map (· - r0)).map (fun v => v.map (fun t => t * normB / normLast)) else raw
  if shift then d1 else d1.map (· - bh)

/-- `pn_arctan_disldensity`; `normInt = |δ_raw[-1] - δ_raw[0]|`. -/
def pnArctanDisldensity (pi : K) (x : List K) (b : V3 K) (center hw : K)
    (normalize : Bool) (normB normInt : K) : List (V3 K) :=
  let bp : V3 K := b.map (· / pi)
  let raw := x.map (fun xi => V3.smul (hw / ((xi - center) * (xi - center) + hw * hw)) bp)
  if normalize then raw.map (fun v => v.map (fun t => t * normB / normInt)) else raw

end sdvpn

end Atomman.C18
