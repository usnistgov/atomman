/-
  C20 — hand-written part of the model of `atomman.mep`: the control flow of `relax`, the path object with its reads,
  one step and its re-spacing, `relax` as a whole, construction, `central_difference` on arrays of points; and rational
  vectors for executing the generated integrators (`Atomman/Generated/Integrators.lean`) in the driver.
-/
import Atomman.Prelude
import Atomman.Generated.Integrators

namespace Atomman.C20

/-- rational n-vector (dimension = list length). -/
structure Vec where
  d : List Rat
deriving Repr, BEq

instance : Add Vec := ⟨fun a b => ⟨List.zipWith (· + ·) a.d b.d⟩⟩
instance : Sub Vec := ⟨fun a b => ⟨List.zipWith (· - ·) a.d b.d⟩⟩
instance : Neg Vec := ⟨fun a => ⟨a.d.map (- ·)⟩⟩
instance : SMul Rat Vec := ⟨fun c a => ⟨a.d.map (c * ·)⟩⟩

def Vec.dot (a b : Vec) : Rat := (List.zipWith (· * ·) a.d b.d).foldl (· + ·) 0

/-- rows of an n×n matrix acting on a vector. -/
def matVec (rows : List (List Rat)) (v : Vec) : Vec := ⟨rows.map (fun r => Vec.dot ⟨r⟩ v)⟩

def chunks (n : Nat) : Nat → List Rat → List (List Rat)
  | 0, _ => []
  | k + 1, l => l.take n :: chunks n k (l.drop n)

/-- test function for the gradient: separable cubic plus a bilinear cross term
    `f v = Σ_k (a_k v_k + b_k v_k² + c_k v_k³) + m · v_0 · v_last`. -/
def testFxn (a b c : List Rat) (m : Rat) (v : Vec) : Rat :=
  let terms := List.zipWith (fun (abc : Rat × Rat × Rat) x => abc.1 * x + abc.2.1 * x * x + abc.2.2 * x * x * x)
    (List.zip a (List.zip b c)) v.d
  terms.foldl (· + ·) 0 + m * v.d.headD 0 * v.d.getLastD 0

def unitVec (n i : Nat) (s : Rat) : Vec := ⟨(List.range n).map (fun k => if k = i then s else 0)⟩

/-- Control flow of one phase (relaxation or climbing) of `ISMPath.relax`:
    `for i in range(maxsteps): step; d = …; if d < tolerance: break`.
    Given the displacement measures `d` of the successive steps, the number of steps performed.
    Each phase has its own loop: the climbing phase does not look at the relaxation phase's last `d`. -/
def phaseSteps {K : Type} [LT K] [DecidableLT K] (tol : K) : Nat → List K → Nat
  | 0, _ => 0
  | _ + 1, [] => 0
  | n + 1, d :: ds => if d < tol then 1 else 1 + phaseSteps tol n ds

/-- `(relax steps, climb steps)` performed by `relax(relaxsteps, climbsteps, tolerance)`. -/
def relaxCounts {K : Type} [LT K] [DecidableLT K] (tol : K) (relaxsteps climbsteps : Nat)
    (dsRelax dsClimb : List K) : Nat × Nat :=
  (phaseSteps tol relaxsteps dsRelax, phaseSteps tol climbsteps dsClimb)

/-- `maxmap` of `ISMPath.relax`: the indices of the images whose energy is strictly above the previous image's and
    not below the next image's (`hstack([False, (E[1:-1] > E[:-2]) & (E[1:-1] >= E[2:]), False])`), in path order;
    `i` is the index of the first energy of the list.  End images never qualify; of a flat top (the two central
    images of a mirror-symmetric string) the first image qualifies. -/
def localMaxima {K : Type} [LT K] [DecidableLT K] : Nat → List K → List Nat
  | i, a :: b :: c :: t =>
    if a < b ∧ ¬ b < c then (i + 1) :: localMaxima (i + 1) (b :: c :: t) else localMaxima (i + 1) (b :: c :: t)
  | _, _ => []

/-- Python's index normalisation on a sequence of `n` items: `i` for `0 ≤ i < n`, `n + i` for `-n ≤ i < 0`,
    refused (`IndexError`) otherwise. -/
def pyIndex? (n : Nat) (i : Int) : Option Nat :=
  if 0 ≤ i then (if i < (n : Int) then some i.toNat else none)
  else (if 0 ≤ (n : Int) + i then some ((n : Int) + i).toNat else none)

/-- the images named by `climbindex` (integers counted from either end) on a string of `n` images. -/
def climbImages? (n : Nat) : List Int → Option (List Nat)
  | [] => some []
  | c :: cs =>
    match pyIndex? n c, climbImages? n cs with
    | some a, some t => some (a :: t)
    | _, _ => none

/-- the climbing images chosen by `relax(climbpoints=cp)`: the first `cp` interior local maxima. -/
def climbIndices {K : Type} [LT K] [DecidableLT K] (cp : Nat) (E : List K) : List Nat :=
  (localMaxima 0 E).take cp

/-! ### the path object (`BasePath` / `ISMPath`): observable state and its reads

The object holds exactly five things: the coordinate array (rows = images), the energy function, the
gradient function, the keyword settings handed to the gradient function and the integrator.  Every
read (`energy`, `grad_energy`, `force`, `arccoord`, `unittangent`, `step`) is a function of the
*current* values of these fields: there is no other state.  Arrays of points are lists of rows; the
energy/gradient/integrator functions of `atomman.mep` act row by row (last axis = coordinates).
`dot` is the Euclidean contraction and `sqrt` the square root (external: a parameter). -/

section PathModel
variable {V K : Type}

structure Path (V K : Type) where
  coord : List V
  energyfxn : V → K
  /-- `gradientfxn(energyfxn, coord, **gradientkwargs)` for one row; the keyword settings are
      modelled as one optional number (`shift` of `central_difference`, or the setting of a callable). -/
  gradientfxn : (V → K) → V → Option K → V
  gradientkwargs : Option K
  /-- `integratorfxn(ratefxn, coord, timestep)` for one row. -/
  integratorfxn : (V → V) → V → K → V

/-- what can be done to a path object between reads (`energyfxn` and `gradientkwargs` have no
    setter; the settings dictionary is changed in place). -/
inductive Op (V K : Type) where
  | setCoord (c : List V)
  | setRow (i : Nat) (v : V)
  | setGradientfxn (g : (V → K) → V → Option K → V)
  | setKwargs (k : Option K)
  | setIntegratorfxn (f : (V → V) → V → K → V)

namespace Path

def apply (p : Path V K) : Op V K → Path V K
  | .setCoord c => { p with coord := c }
  | .setRow i v => { p with coord := p.coord.set i v }
  | .setGradientfxn g => { p with gradientfxn := g }
  | .setKwargs k => { p with gradientkwargs := k }
  | .setIntegratorfxn f => { p with integratorfxn := f }

def run (p : Path V K) (ops : List (Op V K)) : Path V K := ops.foldl apply p

/-- `energy(coord)`; `energy()` is `energyAt p p.coord`. -/
def energyAt (p : Path V K) (c : List V) : List K := c.map p.energyfxn
def energy (p : Path V K) : List K := p.energyAt p.coord

/-- the gradient of the energy at one point with the object's current settings. -/
def gradPoint (p : Path V K) (x : V) : V := p.gradientfxn p.energyfxn x p.gradientkwargs
def gradAt (p : Path V K) (c : List V) : List V := c.map p.gradPoint
def gradEnergy (p : Path V K) : List V := p.gradAt p.coord

section geometry
variable [Add V] [Sub V] [SMul K V] [Add K] [Div K] [NatCast K]
variable (dot : V → V → K) (sqrt : K → K)

/-- `v / |v|`. -/
def unitOf (v : V) : V := (((1 : Nat) : K) / sqrt (dot v v)) • v

/-- `coord[1:] - coord[:-1]`. -/
def diffs : List V → List V
  | a :: b :: t => (b - a) :: diffs (b :: t)
  | _ => []

def tangentGo (prev : V) : List V → List V
  | [] => [prev]
  | u :: t => (prev + u) :: tangentGo u t

/-- `τ[0] = u[0]`, `τ[-1] = u[-1]`, `τ[i] = u[i-1] + u[i]` from the unit differences `u`. -/
def rawTangent : List V → List V
  | [] => []
  | u0 :: us => u0 :: tangentGo u0 us

/-- `ISMPath.unittangent` (defined for at least two images). -/
def unitTangentOf (c : List V) : List V :=
  (rawTangent ((diffs c).map (unitOf dot sqrt))).map (unitOf dot sqrt)

def cumsum (acc : K) : List K → List K
  | [] => [acc]
  | x :: t => acc :: cumsum (acc + x) t

/-- `BasePath.arccoord` (at least one image). -/
def arccoordOf (c : List V) : List K :=
  cumsum (((0 : Nat) : K)) ((diffs c).map (fun v => sqrt (dot v v)))

def unitTangent (p : Path V K) : List V := unitTangentOf dot sqrt p.coord
def arccoord (p : Path V K) : List K := arccoordOf dot sqrt p.coord
/-- `einsum('ij,ij->i', grad_energy(), unittangent)`. -/
def force (p : Path V K) : List K := List.zipWith dot p.gradEnergy (p.unitTangent dot sqrt)

end geometry

section stepping
variable [Add V] [Sub V] [Neg V] [SMul K V] [Add K] [Sub K] [Mul K] [Div K] [Neg K] [NatCast K]

/-- one ordinary image moved by `integratorfxn(rate, ·, timestep)`. -/
def stepRow (p : Path V K) (h : K) (x : V) : V :=
  p.integratorfxn (Gen.rate p.gradPoint) x h

/-- one climbing image moved by `integratorfxn(climbrate, ·, timestep, τ=τ)`. -/
def climbRow (p : Path V K) (dot : V → V → K) (h : K) (x τ : V) : V :=
  p.integratorfxn (fun y => Gen.climbrate p.gradPoint dot y τ) x h

/-- the integrated coordinates `icoord` of `ISMPath.step` (before re-spacing): every row by the
    rate, the climbing rows by the climbing rate with the tangent of the *initial* path. -/
def icoord (p : Path V K) (dot : V → V → K) (sqrt : K → K) (h : K) (climb : List Nat) : List V :=
  let τ := p.unitTangent dot sqrt
  (List.zip (List.range p.coord.length) (List.zip p.coord τ)).map
    (fun (i, x, t) => if climb.contains i then p.climbRow dot h x t else p.stepRow h x)

/-- ordinary step of all rows (no climbing: the tangents are not needed). -/
def icoordPlain (p : Path V K) (h : K) : List V := p.coord.map (p.stepRow h)

/-- the path returned by `step` carries the same functions and settings. The re-spacing along the
    cubic spline leaves the first, the last and the climbing rows where the integrator put them
    (they are knots whose arc coordinate is kept); for a two-image path that is the whole path. -/
def withCoord (p : Path V K) (c : List V) : Path V K := { p with coord := c }

/-- `n` ordinary steps of a two-image path / of the end images of any path. -/
def iterateRows (p : Path V K) (h : K) : Nat → List V → List V
  | 0, c => c
  | n + 1, c => iterateRows p h n (c.map (p.stepRow h))

/-- `np.linalg.norm(new - old, axis=-1).max() / timestep`: the convergence measure of `relax`. -/
def displacement [LT K] [DecidableLT K] (dot : V → V → K) (sqrt : K → K) (h : K) (old new : List V) : K :=
  let ns := List.zipWith (fun a b => sqrt (dot (b - a) (b - a))) old new
  (ns.foldl (fun m x => if m < x then x else m) (((0 : Nat) : K))) / h

/-- one phase (relaxation, or climbing without climbing images) of `relax` on a path all of whose images are
    kept by the re-spacing (two images): the final rows and the displacement measures of the steps performed. -/
def relaxPhase [LT K] [DecidableLT K] (p : Path V K) (dot : V → V → K) (sqrt : K → K) (h tol : K) :
    Nat → List V → List V × List K
  | 0, c => (c, [])
  | n + 1, c =>
    let c' := c.map (p.stepRow h)
    let d := displacement dot sqrt h c c'
    if d < tol then (c', [d]) else
      let r := relaxPhase p dot sqrt h tol n c'
      (r.1, d :: r.2)

/-- one whole step of the string (`ISMPath.step`): integrate every image (climbing images with the climbing
    rate and the tangent of the initial string), then re-space; `respace climb rows` stands for the cubic-spline
    re-spacing between the pinned images (first, last, climbing), which is scipy code outside the model. -/
def stringStep (p : Path V K) (dot : V → V → K) (sqrt : K → K) (respace : List Nat → List V → List V)
    (h : K) (climb : List Nat) : Path V K :=
  p.withCoord (respace climb (p.icoord dot sqrt h climb))

end stepping

/-- `default_timestep = 0.05 * min(0.2, 1/N)`, `default_tolerance = max(N^-4, 1e-10)`. -/
def defaultTimestep [Mul K] [Div K] [NatCast K] [LT K] [DecidableLT K] (n : Nat) : K :=
  let a : K := ((1 : Nat) : K) / ((5 : Nat) : K)
  let b : K := ((1 : Nat) : K) / ((n : Nat) : K)
  (((1 : Nat) : K) / ((20 : Nat) : K)) * (if b < a then b else a)

def defaultTolerance [Mul K] [Div K] [NatCast K] [LT K] [DecidableLT K] (n : Nat) : K :=
  let a : K := ((1 : Nat) : K) / (((n * n * n * n : Nat) : K))
  let b : K := ((1 : Nat) : K) / ((10000000000 : Nat) : K)
  if a < b then b else a

end Path
end PathModel

/-! ### the re-spacing of `ISMPath.step`: where the new images are placed -/
namespace Path
section respace
variable {K : Type} [Add K] [Sub K] [Mul K] [Div K] [NatCast K]

/-- `np.linspace(a, b, n)` in exact arithmetic: `a + i·(b − a)/(n − 1)`, `i = 0 … n−1` (`[a]` for `n = 1`). -/
def linspace (a b : K) (n : Nat) : List K :=
  (List.range n).map (fun i => a + ((i : Nat) : K) * ((b - a) / (((n - 1 : Nat)) : K)))

/-- the arc coordinates at which `ISMPath.step` places the new images: between consecutive pinned images
    (`start`, then the climbing images in increasing order, then the last image) equally spaced from the arc coordinate of
    the one to that of the other.  `respaceGo α n s climb` lists the targets of the images `s … n−1`; a segment `[s, c]`
    contributes its first `c − s` targets, the target of `c` itself comes from the next segment (the implementation writes
    it twice, with the same value). -/
def respaceGo (α : List K) (n : Nat) : Nat → List Nat → List K
  | s, [] => linspace (α.getD s (((0 : Nat)) : K)) (α.getD (n - 1) (((0 : Nat)) : K)) (n - s)
  | s, c :: cs => (linspace (α.getD s (((0 : Nat)) : K)) (α.getD c (((0 : Nat)) : K)) (c + 1 - s)).take (c - s) ++ respaceGo α n c cs

/-- `newα` of `ISMPath.step` for the arc coordinates `α` of the integrated images and the climbing images `climb`
    (increasing, interior). -/
def respaceTargets (climb : List Nat) (α : List K) : List K := respaceGo α α.length 0 climb

end respace

section splinerespace
variable {V K : Type} [Add V] [Sub V] [SMul K V] [Add K] [Sub K] [Mul K] [Div K] [NatCast K]
/-- the re-spacing of `ISMPath.step`: arc coordinates `α` of the integrated images, targets `respaceTargets climb α`, new
    images = the interpolant through `(α, rows)` evaluated at the targets. `interp α rows` stands for scipy's
    `CubicSpline(α, rows)` (outside the model). -/
def splineRespace (dot : V → V → K) (sqrt : K → K) (interp : List K → List V → K → V) (climb : List Nat) (rows : List V) : List V :=
  (respaceTargets climb (arccoordOf dot sqrt rows)).map (interp (arccoordOf dot sqrt rows) rows)
end splinerespace
end Path

/-! ### the loops of `ISMPath.relax` over whole paths, `relax` with its options, list forms of the array programs

`relaxLoop` is one `for i in range(n): new = step(cur); d = measure(cur, new); cur = new; if d < tol: break` over any
kind of state; `Path.relax` is the whole method: defaults of `timestep` / `tolerance` from the string it is called on,
relaxation loop without climbing images, choice of the climbing images from the energies of the string reached,
climbing loop.  The re-spacing is a parameter as in `stringStep`.  `Generated/PathSource.lean` is regenerated from
`ISMPath.py` / `BasePath.py` / `__init__.py`; `Proofs/C20_Source.lean` proves the generated definitions equal to these. -/

def relaxLoop {P K : Type} [LT K] [DecidableLT K] (step : P → P) (measure : P → P → K) (tol : K) : Nat → P → P × List K
  | 0, p => (p, [])
  | n + 1, p =>
    let q := step p
    let d := measure p q
    if d < tol then (q, [d]) else
      let r := relaxLoop step measure tol n q
      (r.1, d :: r.2)

/-- the arguments of `relax` (`verbose` only prints). -/
structure RelaxArgs (K : Type) where
  relaxsteps : Nat := 0
  climbsteps : Nat := 0
  timestep : Option K := none
  tolerance : Option K := none
  climbpoints : Nat := 1

/-- what `relax` computes: the string returned, the measures of the relaxation steps, the climbing images chosen,
    the measures of the climbing steps. -/
structure RelaxResult (V K : Type) where
  path : Path V K
  relaxMeasures : List K
  climb : List Nat
  climbMeasures : List K

namespace Path
section relaxmodel
variable {V K : Type} [Add V] [Sub V] [Neg V] [SMul K V] [Add K] [Sub K] [Mul K] [Div K] [Neg K] [NatCast K]
  [LT K] [DecidableLT K]

/-- the convergence measure between two strings. -/
def measure (dot : V → V → K) (sqrt : K → K) (h : K) (old new : Path V K) : K :=
  displacement dot sqrt h old.coord new.coord

def relax (p : Path V K) (dot : V → V → K) (sqrt : K → K) (respace : List Nat → List V → List V)
    (a : RelaxArgs K) : RelaxResult V K :=
  let h := a.timestep.getD (defaultTimestep p.coord.length)
  let tol := a.tolerance.getD (defaultTolerance p.coord.length)
  let r1 := relaxLoop (fun q => q.stringStep dot sqrt respace h []) (measure dot sqrt h) tol a.relaxsteps p
  let climb := climbIndices a.climbpoints r1.1.energy
  let r2 := relaxLoop (fun q => q.stringStep dot sqrt respace h climb) (measure dot sqrt h) tol a.climbsteps r1.1
  ⟨r2.1, r1.2, climb, r2.2⟩

end relaxmodel
end Path

/-! list forms of numpy's slices / row operations used by the generated definitions -/
namespace Np
variable {V K : Type}
/-- `x[1:] - x[:-1]` and friends: element-wise binary operation of two equally long slices. -/
def ew {α β γ : Type} (f : α → β → γ) (a : List α) (b : List β) : List γ := List.zipWith f a b
/-- `np.linalg.norm(x, axis=-1)`. -/
def rowNorms (dot : V → V → K) (sqrt : K → K) (x : List V) : List K := x.map (fun v => sqrt (dot v v))
/-- `(x.T / np.linalg.norm(x, axis=-1)).T`. -/
def rowUnit [Add V] [Sub V] [SMul K V] [Add K] [Div K] [NatCast K] (dot : V → V → K) (sqrt : K → K) (x : List V) : List V :=
  x.map (Path.unitOf dot sqrt)
/-- `.max()` of an array of norms (non-negative numbers). -/
def maxOf [NatCast K] [LT K] [DecidableLT K] (x : List K) : K := x.foldl (fun m y => if m < y then y else m) (((0 : Nat) : K))
/-- `.sum()` of an array of numbers. -/
def sumOf [NatCast K] [Add K] (x : List K) : K := x.foldl (fun a b => a + b) (((0 : Nat) : K))
/-- `np.any(x < c) | np.any(x > d)` style tests: some entry satisfies the predicate. -/
def anyOf (x : List K) (p : K → Bool) : Bool := x.any p
/-- `np.arange(len(mask))[mask]`. -/
def whereTrue (mask : List Bool) : List Nat := (List.range mask.length).filter (fun i => mask.getD i false)
/-- `mask.sum()`. -/
def countTrue (mask : List Bool) : Nat := mask.count true
end Np

/-- `interpolate_path` refuses (`ValueError`) arc coordinates below 0 or beyond the arc coordinate of the last image. -/
def interpRefuses {K : Type} [NatCast K] [LT K] [DecidableLT K] (α targets : List K) : Bool :=
  targets.any (fun a => decide (a < ((0 : Nat) : K))) || targets.any (fun a => decide (α.getLastD ((0 : Nat) : K) < a))

/-! ### construction: `create_path` / `BasePath.__init__` and the setters of `gradientfxn` / `integratorfxn` -/

/-- what is handed in as `gradientfxn` / `integratorfxn`: a string, a callable, or something else. -/
inductive FxnArg where
  | name (s : String)
  | callable
  | other
deriving Repr, DecidableEq

/-- what is handed in as `gradientkwargs`. -/
inductive KwArg where
  | none
  | dict
  | other
deriving Repr, DecidableEq

inductive PyErr where
  | value
  | type
deriving Repr, DecidableEq

inductive GradChoice where
  | centralDifference
  | user
deriving Repr, DecidableEq

inductive IntegChoice where
  | rungekutta
  | euler
  | user
deriving Repr, DecidableEq

/-- the names the `gradientfxn` setter knows. -/
def gradientNames : List (String × GradChoice) :=
  [("central_difference", .centralDifference), ("cdiff", .centralDifference)]
/-- the names the `integratorfxn` setter knows. -/
def integratorNames : List (String × IntegChoice) :=
  [("rungekutta", .rungekutta), ("rk", .rungekutta), ("euler", .euler)]
/-- the styles `create_path` knows (all ISMPath). -/
def styleNames : List String := ["ISM", "improved_string_method"]

def resolveGradientfxn : FxnArg → Except PyErr GradChoice
  | .name s => match gradientNames.lookup s with
    | some g => .ok g
    | none => .error .value
  | .callable => .ok .user
  | .other => .error .type

def resolveIntegratorfxn : FxnArg → Except PyErr IntegChoice
  | .name s => match integratorNames.lookup s with
    | some g => .ok g
    | none => .error .value
  | .callable => .ok .user
  | .other => .error .type

/-- arguments of `create_path` (an argument left out = `none` = the default of the signature). -/
structure CtorArgs where
  energyCallable : Bool
  style : Option String := none
  gradientfxn : Option FxnArg := none
  gradientkwargs : Option KwArg := none
  integratorfxn : Option FxnArg := none
deriving Repr

def defaultStyle : String := "ISM"
def defaultGradientfxn : FxnArg := .name "cdiff"
def defaultIntegratorfxn : FxnArg := .name "rk"
def defaultGradientkwargs : KwArg := .none

/-- `BasePath.__init__` after the coordinates were stored: the checks in the order of the source (the first one that
    fails decides the exception).  Result: the gradient function, the integrator, and whether the path owns a new empty
    settings dictionary (`gradientkwargs=None`) or holds the caller's. -/
def initPath (a : CtorArgs) : Except PyErr (GradChoice × IntegChoice × Bool) := do
  if ¬ a.energyCallable then throw .type
  let g ← resolveGradientfxn (a.gradientfxn.getD defaultGradientfxn)
  let i ← resolveIntegratorfxn (a.integratorfxn.getD defaultIntegratorfxn)
  let fresh ← (match a.gradientkwargs.getD defaultGradientkwargs with
    | .none => (pure true : Except PyErr Bool)
    | .dict => pure false
    | .other => throw .type)
  pure (g, i, fresh)

/-- `create_path`: the style is looked at first. -/
def createPath (a : CtorArgs) : Except PyErr (GradChoice × IntegChoice × Bool) :=
  if styleNames.contains (a.style.getD defaultStyle) then initPath a else .error .value

/-- signatures (name, default as written in the source) of the public entry points. -/
def sigCreatePath : List (String × String) :=
  [("coord", ""), ("energyfxn", ""), ("style", "'ISM'"), ("gradientfxn", "'cdiff'"), ("gradientkwargs", "None"),
   ("integratorfxn", "'rk'")]
def sigInit : List (String × String) :=
  [("self", ""), ("coord", ""), ("energyfxn", ""), ("gradientfxn", "'cdiff'"), ("gradientkwargs", "None"),
   ("integratorfxn", "'rk'")]
def sigStep : List (String × String) := [("self", ""), ("timestep", "None"), ("climbindex", "None")]
def sigRelax : List (String × String) :=
  [("self", ""), ("relaxsteps", "0"), ("climbsteps", "0"), ("timestep", "None"), ("tolerance", "None"),
   ("climbpoints", "1"), ("verbose", "True")]
/-- the order in which `__init__` stores / checks its arguments. -/
def initOrder : List String := ["coord", "energyfxn", "gradientfxn", "integratorfxn", "gradientkwargs"]
/-- the arguments with which `step` / `interpolate_path` build the path they return (positional then keyword):
    every function and setting of the path is handed on. -/
def carriedFields : List String := ["energyfxn", "gradientfxn", "gradientkwargs", "integratorfxn"]
/-- statement pins of the segment loop of `step` (not expressed as a definition: `respaceTargets` is tied by
    observing `newα` on the implementation). -/
def stepSegmentPins : List String :=
  ["startindices = [0] + aslist(climbindex)",
   "endindices = aslist(np.asarray(climbindex) + 1) + [None]",
   "α = intpath.arccoord",
   "newα = np.empty_like(α)",
   "for (s, e) in zip(startindices, endindices):",
   "subα = α[s:e]",
   "newα[s:e] = np.linspace(subα[0], subα[-1], len(subα))",
   "newpath = intpath.interpolate_path(newα)",
   "return newpath"]

/-! ### `central_difference` on arrays of points of any leading shape

A coordinate array of shape `(…, d)` is the list of its points in row-major order together with the
leading shape; the gradient array has the same shape and its point `k` is the gradient at point `k`:
component `i` is `Gen.cdComponent` with `δ = shift·eᵢ`. -/

def cdPoint {V K : Type} [Add V] [Sub V] [Neg V] [SMul K V] [Add K] [Sub K] [Mul K] [Div K] [Neg K] [NatCast K]
    (mk : List K → V) (delta : Nat → K → V) (dim : Nat) (fxn : V → K) (x : V) (s : K) : V :=
  mk ((List.range dim).map (fun i => Gen.cdComponent fxn x (delta i s) s))

def cdArray {V K : Type} [Add V] [Sub V] [Neg V] [SMul K V] [Add K] [Sub K] [Mul K] [Div K] [Neg K] [NatCast K]
    (mk : List K → V) (delta : Nat → K → V) (dim : Nat) (fxn : V → K) (pts : List V) (s : K) : List V :=
  pts.map (fun x => cdPoint mk delta dim fxn x s)

/-! ### executable instance over `Rat` (driver) -/

/-- square root of a non-negative rational to a relative accuracy of `2^-64` (driver only). -/
def ratSqrt (x : Rat) : Rat :=
  if x ≤ 0 then 0 else
  mkRat (Nat.sqrt (x.num.toNat * x.den * 2 ^ 128)) (x.den * 2 ^ 64)

/-- analytic gradient of `testFxn`. -/
def testGrad (a b c : List Rat) (m : Rat) (v : Vec) : Vec :=
  let n := v.d.length
  let x0 := v.d.headD 0
  let xl := v.d.getLastD 0
  ⟨(List.zip (List.range n) (List.zip (List.zip a (List.zip b c)) v.d)).map
    (fun (i, abc, x) => abc.1 + 2 * abc.2.1 * x + 3 * abc.2.2 * x * x
      + (if i = 0 then m * xl else 0) + (if i + 1 = n then m * x0 else 0))⟩

end Atomman.C20
